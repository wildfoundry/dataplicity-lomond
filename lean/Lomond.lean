-- Root of the `Lomond` library: model, proofs and property theorems.
import Lomond.Model.Basic
import Lomond.Model.Utf8
import Lomond.Model.Frame
import Lomond.Model.Http
import Lomond.Model.Core
import Lomond.Model.Persist
import Lomond.Model.Reconnect
import Lomond.Model.PyOps
import Lomond.Generated.Code
import Lomond.Model.Threads
import Lomond.Model.Inflate
import Lomond.Model.Deflate
import Lomond.Model.Connect
import Lomond.Model.Sha1
import Lomond.Model.Handshake
import Lomond.Model.Attempt
import Lomond.Model.Proxy
import Lomond.Model.Transport
import Lomond.Model.Driver
import Lomond.Proofs.StrLit
import Lomond.Proofs.Utf8
import Lomond.Proofs.Core
import Lomond.Proofs.Logic
import Lomond.Proofs.SpecGen
import Lomond.Proofs.Step
import Lomond.Proofs.TextMsg
import Lomond.Proofs.Segmentation
import Lomond.Proofs.Closing
import Lomond.Proofs.SendOnly
import Lomond.Proofs.EndToEnd
import Lomond.Proofs.EndToEndText
import Lomond.Proofs.EndToEndTextCut
import Lomond.Proofs.GenTie
import Lomond.Proofs.Threads
import Lomond.Proofs.ThreadsZ
import Lomond.Proofs.ThreadsC
import Lomond.Proofs.ThreadsP
import Lomond.Proofs.EnvInd
import Lomond.Proofs.Calls
import Lomond.Proofs.SegmentationLoop
import Lomond.Proofs.SegmentationRun
import Lomond.Proofs.Deflate
import Lomond.Proofs.DeflateCore
import Lomond.Proofs.Quiet
import Lomond.Proofs.NoRsv1
import Lomond.Proofs.DeflateTie
import Lomond.Proofs.RunL
import Lomond.Proofs.Raises
import Lomond.Proofs.EnvIrrel
import Lomond.Proofs.RelSpec
import Lomond.Proofs.Monitor
import Lomond.Proofs.Graceful
import Lomond.Proofs.MonitorRun
import Lomond.Proofs.MonitorList
import Lomond.Proofs.Terminate
import Lomond.Proofs.RunAllEq
import Lomond.Proofs.RunAll
import Lomond.Proofs.SelFail
import Lomond.Proofs.Connect
import Lomond.Proofs.Lift
import Lomond.Proofs.ApiCalls
import Lomond.Proofs.Turns
import Lomond.Proofs.ClosingInv
import Lomond.Proofs.Pong
import Lomond.Proofs.Timers
import Lomond.Proofs.TimerInv
import Lomond.Proofs.PingGrid
import Lomond.Proofs.Violation
import Lomond.Proofs.FrameCodec
import Lomond.Proofs.Wire
import Lomond.Proofs.FindSep
import Lomond.Proofs.Http
import Lomond.Proofs.Upgrade
import Lomond.Proofs.UpgradeSamples
import Lomond.Proofs.HandshakeCore
import Lomond.Proofs.Sha1
import Lomond.Proofs.DeliveryParse
import Lomond.Proofs.DeliveryWire
import Lomond.Proofs.DeliveryKeep
import Lomond.Proofs.DeliveryCalm
import Lomond.Proofs.Consumer
import Lomond.Proofs.Delivery
import Lomond.Proofs.Release
import Lomond.Proofs.Persist
import Lomond.Proofs.Reconnect
import Lomond.Proofs.Fresh
import Lomond.Proofs.Proxy
import Lomond.Proofs.Transport
import Lomond.Proofs.TransportLive
import Lomond.Properties.C01
import Lomond.Properties.C02
import Lomond.Properties.C03
import Lomond.Properties.C04
import Lomond.Properties.C05
import Lomond.Properties.C06
import Lomond.Properties.C07
import Lomond.Properties.C08
import Lomond.Properties.C09
import Lomond.Properties.C10
import Lomond.Properties.C11
import Lomond.Properties.C12
import Lomond.Properties.C13
import Lomond.Properties.C14
import Lomond.Properties.C15
import Lomond.Properties.C16
import Lomond.Properties.C17
import Lomond.Properties.C18
import Lomond.Properties.C19
import Lomond.Properties.C04_Src
import Lomond.Properties.C08_Src
import Lomond.Properties.C14_Src
import Lomond.Properties.C03_Gen
import Lomond.Properties.C04_Gen
import Lomond.Properties.C06_Gen
import Lomond.Properties.C10_Gen
import Lomond.Properties.C10_Digest
import Lomond.Properties.C15_Gen
import Lomond.Properties.C16_Gen
import Lomond.Properties.C19_Gen
import Lomond.Properties.C01_E2E
import Lomond.Properties.C04_E2E
import Lomond.Properties.C05_E2E
import Lomond.Properties.C01_Gen
import Lomond.Properties.C05_Gen
import Lomond.Properties.C08_Gen
import Lomond.Properties.C12_Gen
import Lomond.Proofs.PongTrace
import Lomond.Proofs.PongRun
import Lomond.Proofs.SameTick
import Lomond.Proofs.PongE2E
import Lomond.Properties.C14_Run
import Lomond.Properties.C14_E2E
import Lomond.Properties.C18_Core
import Lomond.Proofs.ClosingRun
import Lomond.Properties.C08_E2E
import Lomond.Proofs.LiftX
import Lomond.Proofs.TimerClose
import Lomond.Proofs.TimerPing
import Lomond.Proofs.TimerRun
import Lomond.Properties.C15_Run
import Lomond.Properties.C11_Src
import Lomond.Model.ConnectLink
import Lomond.Model.PersistLink
import Lomond.Proofs.ConnectLink
import Lomond.Proofs.PersistLink
import Lomond.Properties.C09_Connect
import Lomond.Properties.C19_Core
import Lomond.Properties.C16_Core
import Lomond.Model.ZFrame
import Lomond.Proofs.KeySched
import Lomond.Proofs.ZFrame
import Lomond.Proofs.ZNest
import Lomond.Properties.C03_Z
import Lomond.Properties.C06_Send
import Lomond.Model.DeflEnc
import Lomond.Proofs.InflateBits
import Lomond.Proofs.InflateHuff
import Lomond.Proofs.InflateCanon
import Lomond.Proofs.InflateSym
import Lomond.Proofs.InflateStored
import Lomond.Proofs.InflateDyn
import Lomond.Proofs.InflateCorrect
import Lomond.Properties.C06_Inflate
import Lomond.Proofs.DeliveryGenParse
import Lomond.Proofs.DeliveryGen
import Lomond.Proofs.DeliveryTimed
import Lomond.Proofs.DeliveryTimedRun
import Lomond.Proofs.DeliveryZ
import Lomond.Proofs.TimeIrrel
import Lomond.Proofs.TimeIrrelTimed
import Lomond.Properties.C01_E2E2
import Lomond.Properties.C02_Time
import Lomond.Proofs.MonitorLoop
import Lomond.Proofs.MonitorGen
import Lomond.Properties.C07_Run
import Lomond.Proofs.Once
import Lomond.Proofs.WithBlock
import Lomond.Properties.C13_Once
import Lomond.Proofs.Report
import Lomond.Proofs.AnyApp
import Lomond.Proofs.PrefixRun
import Lomond.Proofs.ZMsg
import Lomond.Properties.C04_E2E2
import Lomond.Properties.C05_E2E2
import Lomond.Proofs.HttpDup
import Lomond.Properties.C10_Wire2
import Lomond.Proofs.HandshakeRun
import Lomond.Proofs.HandshakeRunG
import Lomond.Properties.C10_Run
import Lomond.Model.ThreadsN
import Lomond.Proofs.ThreadsR
import Lomond.Proofs.ThreadsN
import Lomond.Proofs.ThreadsNW
import Lomond.Proofs.ThreadsNC
import Lomond.Proofs.ThreadsNK
import Lomond.Proofs.ThreadsNB
import Lomond.Proofs.ThreadsNZ
import Lomond.Properties.C11_Recv
import Lomond.Properties.C11_N
import Lomond.Properties.C12_Fail
import Lomond.Model.CloseSocket
import Lomond.Properties.C13_Close
import Lomond.Properties.C19_Src
import Lomond.Properties.C06_Src
import Lomond.Model.KeyChain
import Lomond.Properties.C17_Keys
import Lomond.Proofs.ThreadsPre
import Lomond.Properties.C12_Pre
import Lomond.Properties.C13_Threads
import Lomond.Proofs.InflateRleItems
import Lomond.Proofs.InflateRle
import Lomond.Properties.C06_InflateRle
import Lomond.Proofs.ConnectTimeout
import Lomond.Properties.C19_Timeout
import Lomond.Proofs.ThreadsDead
import Lomond.Properties.C11_Dead
import Lomond.Properties.C18_Src
import Lomond.Proofs.ThreadsDead2
import Lomond.Properties.C11_Dead2
import Lomond.Proofs.ThreadsTerm
import Lomond.Properties.C13_Term
import Lomond.Proofs.PongTokens
import Lomond.Properties.C14_Tokens
import Lomond.Proofs.ThreadsFair
import Lomond.Properties.C13_Fair
import Lomond.Model.Mask
import Lomond.Proofs.Mask
import Lomond.Properties.C03_Mask
import Lomond.Properties.C05_ZAny
import Lomond.Proofs.GenTie2
import Lomond.Properties.C01_Gen2
import Lomond.Properties.C06_Gen2
import Lomond.Properties.C08_Gen2
import Lomond.Properties.C15_Gen2
import Lomond.Properties.C18_Gen
import Lomond.Properties.C19_Gen2
