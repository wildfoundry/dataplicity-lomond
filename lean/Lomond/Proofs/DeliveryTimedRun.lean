/-
  C01 / C02, whole connections with the clock running (`run_timed`): `run()` up to the loop, the
  handshake reply arriving in timed reads (with or without permessage-deflate negotiated), then
  `DG.timed_frames` and `DG.tail_loop`, then the end of `run()`.  `gstream` / `gexpected` / `terminal`:
  the bytes of a conforming server after its reply, the events and the last event they stand for.
-/
import Lomond.Proofs.DeliveryTimed
namespace Lomond.Core.DG
open Lomond Lomond.Core Lomond.Core.E2E

example (s : Sys) (dt : Nat) : delivered (tick s dt).trace = delivered s.trace := by
  rw [delivered_of_hist, hist_tick, ← delivered_of_hist]

structure AtLoopD (cfg : Cfg) (react : React) (env : List EnvStep) (proxy : Bool) (s : Sys) : Prop where
  a : AtLoop cfg react env proxy s
  ih : s.inflHist = []
  io : s.inflOut = 0
  sct : s.sentCloseTime = none

theorem AtLoopD.tick {cfg : Cfg} {react : React} {env : List EnvStep} {proxy : Bool} {s : Sys}
    (h : AtLoopD cfg react env proxy s) (dt : Nat) : AtLoopD cfg react env proxy (tick s dt) := by
  exact ⟨⟨⟨h.a.i.app, h.a.i.poll, h.a.i.sock, h.a.i.nr, fun hr => by
      have : s.ready = true := hr
      rw [h.a.ready] at this; cases this⟩,
    h.a.cfg, h.a.react, h.a.env, h.a.ready, h.a.closed, h.a.closing, h.a.sock, h.a.sel, h.a.p, h.a.frames,
    by rw [hist_tick]; exact h.a.hist⟩, h.ih, h.io, h.sct⟩

/-- an upgrade reply that `on_response` accepts, with the extension configuration `dc` it grants
    (`none`: no permessage-deflate) -/
structure GoodReplyD (cfg : Cfg) (reply : Bytes) (proto : Option Http.Str) (dc : Option Http.DeflateCfg) : Prop where
  sep : ∃ i, findSep Gen.headerSep reply = some i ∧ i + 4 = reply.length
  len : reply.length ≤ Gen.headerMax
  ok : Http.onResponse cfg.v.strictAccept cfg.challenge (Http.parseResponse reply)
        = .ok { protocol := proto, deflate := dc }

theorem GoodReply.toD {cfg : Cfg} {reply : Bytes} {proto : Option Http.Str} (h : GoodReply cfg reply proto) :
    GoodReplyD cfg reply proto none := ⟨h.sep, h.len, h.ok⟩

structure AtReadyD (cfg : Cfg) (react : React) (proxy : Bool) (proto : Option Http.Str)
    (dc : Option Http.DeflateCfg) (s : Sys) : Prop where
  i : I s
  cfg : s.cfg = cfg
  react : s.react = react
  ready : s.ready = true
  closed : s.closed = false
  closing : s.closing = false
  sock : s.sockOpen = true
  sel : s.selOpen = true
  frames : s.frames = []
  between : Between s.p
  comp : s.compression = dc
  dec : s.decompress = dc.isSome
  pcomp : s.p.compression = dc.isSome
  ih : s.inflHist = []
  io : s.inflOut = 0
  sct : s.sentCloseTime = none
  hist : hist s.trace = [.poll, .ready proto dc.isSome, .connected proxy, .connecting]

theorem _root_.Lomond.Core.E2E.AtReadyG.toD {cfg : Cfg} {react : React} {proxy : Bool} {proto : Option Http.Str}
    {dz : Option Http.DeflateCfg} {s : Sys}
    (h : AtReadyG cfg react proxy proto dz s) (hsct : s.sentCloseTime = none) : AtReadyD cfg react proxy proto dz s :=
  ⟨h.i, h.cfg, h.react, h.ready, h.closed, h.closing, h.sock, h.sel, h.frames, h.between, h.zcfg, h.zdec, h.comp,
    h.zhist, h.zout, hsct, h.hist⟩

theorem GoodReplyD.toG {cfg : Cfg} {reply : Bytes} {proto : Option Http.Str} {dz : Option Http.DeflateCfg}
    (h : GoodReplyD cfg reply proto dz) : GoodReplyG cfg reply proto dz := ⟨h.sep, h.len, h.ok⟩

/-- the parser in the header phase with `pre` buffered -/
def hdrBuf (pre : Bytes) : PState := { buf := pre }

def setBuf (pre : Bytes) (s : Sys) : Sys := { s with p := hdrBuf pre }

theorem setBuf_nil {s : Sys} (h : s.p = {}) : setBuf [] s = s := by
  cases s
  simp only at h
  subst h
  rfl

theorem append_split {α : Type} {a b c d : List α} (h : a ++ b = c ++ d) (hl : a.length ≤ c.length) :
    ∃ w, c = a ++ w ∧ b = w ++ d := by
  rcases List.append_eq_append_iff.mp h with ⟨w, h1, h2⟩ | ⟨w, h1, h2⟩
  · exact ⟨w, h1, h2⟩
  · have : w = [] := List.eq_nil_of_length_eq_zero (by have := congrArg List.length h1; simp at this; omega)
    subst this
    exact ⟨[], by simpa using h1.symm, by simpa using h2.symm⟩

theorem prefix_no_sep {reply : Bytes} {i : Nat} (hsep : findSep Gen.headerSep reply = some i)
    (hil : i + 4 = reply.length) {x w : Bytes} (hx : reply = x ++ w) (hw : w ≠ []) :
    findSep Gen.headerSep x = none := by
  cases h : findSep Gen.headerSep x with
  | none => rfl
  | some j =>
    exfalso
    have hb := findSep_bound Gen.headerSep x j h
    have ha := findSep_append Gen.headerSep x w j h
    rw [← hx, hsep] at ha
    cases ha
    have hlen : reply.length = x.length + w.length := by rw [hx]; simp
    have hwl : w.length ≠ 0 := fun e => hw (List.eq_nil_of_length_eq_zero e)
    have h4 : Gen.headerSep.length = 4 := rfl
    omega

theorem wsFeed_buf (pre c : Bytes) (sT : Sys) (hcl : sT.closed = false)
    (hnone : findSep Gen.headerSep (pre ++ c) = none) (hlen : (pre ++ c).length ≤ Gen.headerMax) :
    wsFeed c (setBuf pre sT) = .ok () (setBuf (pre ++ c) sT) := by
  apply wsFeed_of_feedBody_ok c (setBuf pre sT) _ hcl
  rw [feedBody_unterminated_short (setBuf pre sT) c rfl hnone hlen]
  rfl

/-- the header phase with the clock running: the reads of a timed script are buffered until the
    reply is complete (time passing in between changes nothing: `_regular()` is not run before
    Ready); the read that completes it yields Ready and the first Poll, and its remaining bytes
    `w` go to the frame parser at once, which is put as a further read with `wait 0`. -/
theorem hdr_loop {cfg : Cfg} {react : React} {env : List EnvStep} {proxy : Bool} {reply : Bytes}
    {proto : Option Http.Str} {dc : Option Http.DeflateCfg} (hg : GoodReplyD cfg reply proto dc)
    (l : List TStep) (hne : TNonEmpty l) (hend : EndsRead l) (pre stream : Bytes)
    (hpre : pre.length < reply.length) (hb : pre ++ tbytes l = reply ++ stream)
    (sT : Sys) (hA : AtLoopD cfg react env proxy sT) (rest : List EnvStep) :
    ∃ l2 s4, tbytes l2 = stream ∧ TNonEmpty l2 ∧ EndsRead l2 ∧ AtReadyD cfg react proxy proto dc s4 ∧
      loop (tscript l ++ rest) (setBuf pre sT) = loop (tscript l2 ++ rest) s4 := by
  obtain ⟨i, hsep, hil⟩ := hg.sep
  induction l generalizing pre sT with
  | nil =>
    exfalso
    have : pre.length = reply.length + stream.length := by
      have := congrArg List.length hb
      simpa [tbytes] using this
    omega
  | cons x l' ih =>
    obtain ⟨dt, o⟩ := x
    have hcl : (setBuf pre sT).closed = false := hA.a.closed
    cases o with
    | none =>
      have hr : regular (tick (setBuf pre sT) dt) = .ok () (tick (setBuf pre sT) dt) :=
        regular_not_ready _ hA.a.ready
      obtain ⟨l2, s4, h1, h2, h3, h4, h5⟩ := ih hne.tail hend.tail pre hpre hb (tick sT dt) (hA.tick dt)
      refine ⟨l2, s4, h1, h2, h3, h4, ?_⟩
      show loop (.wait dt none :: (tscript l' ++ rest)) (setBuf pre sT) = _
      rw [SegLoop.loop_wait dt none _ _ hcl, hr]
      exact h5
    | some c =>
      have hc : c ≠ [] := hne dt c List.mem_cons_self
      have hA' := hA.tick dt
      have hr : regular (tick (setBuf pre sT) dt) = .ok () (setBuf pre (tick sT dt)) :=
        regular_not_ready _ hA.a.ready
      have hso : (setBuf pre (tick sT dt)).sockOpen = true := hA.a.sock
      have hstep : loop (tscript ((dt, some c) :: l') ++ rest) (setBuf pre sT) =
          match wsFeed c (setBuf pre (tick sT dt)) with
          | .ok _ s3 => loop (tscript l' ++ rest) s3
          | .err x s3 => .err x s3 :=
        E2E.loop_wait_data dt c (tscript l' ++ rest) (setBuf pre sT) _ hcl hr hso hc
      have hb' : (pre ++ c) ++ tbytes l' = reply ++ stream := by
        rw [List.append_assoc]; exact hb
      by_cases hlt : (pre ++ c).length < reply.length
      · obtain ⟨w, hw1, hw2⟩ := append_split hb' (by omega)
        have hwne : w ≠ [] := by
          intro e; subst e
          have := congrArg List.length hw1
          simp at this; simp at hlt; omega
        have hnone := prefix_no_sep hsep hil hw1 hwne
        have hlen : (pre ++ c).length ≤ Gen.headerMax := by have := hg.len; omega
        have hws := wsFeed_buf pre c (tick sT dt) hA'.a.closed hnone hlen
        obtain ⟨l2, s4, h1, h2, h3, h4, h5⟩ := ih hne.tail hend.tail (pre ++ c) hlt hb' (tick sT dt) hA'
        refine ⟨l2, s4, h1, h2, h3, h4, ?_⟩
        rw [hstep, hws]
        exact h5
      · obtain ⟨w, hw1, hw2⟩ := append_split hb'.symm (by omega)
        obtain ⟨a, ha1, ha2⟩ := append_split hw1 (by omega)
        have hane : a ≠ [] := by
          intro e; subst e
          have := congrArg List.length ha1
          simp at this; omega
        have hnone : findSep Gen.headerSep ([] ++ pre) = none := prefix_no_sep hsep hil ha1 hane
        have hlen : ([] ++ pre).length ≤ Gen.headerMax := by have := hg.len; simp; omega
        have hpre' := wsFeed_buf [] pre (tick sT dt) hA'.a.closed hnone hlen
        rw [setBuf_nil hA'.a.p] at hpre'
        have happ := wsFeed_cut pre c (tick sT dt)
        rw [hpre'] at happ
        simp only [List.nil_append] at happ
        obtain ⟨s4, hG, _, hs4, hfeed⟩ := handshake_read hA'.a hg.toG
        have h4 : AtReadyD cfg react proxy proto dc s4 := (hG hA'.ih hA'.io).toD (hs4.trans hA'.sct)
        have hfc : wsFeed c (setBuf pre (tick sT dt)) = wsFeed w s4 := by
          rw [← happ, hw1]; exact hfeed w
        have hnh4 : s4.p.cont ≠ .header := h4.between.b.notHeader
        have hi4 : HdrInv s4 := fun hh => (hnh4 hh).elim
        by_cases hwe : w = []
        · subst hwe
          refine ⟨l', s4, by simpa using hw2.symm, hne.tail, hend.tail, h4, ?_⟩
          rw [hstep, hfc, wsFeed_nil s4 hi4]
        · refine ⟨(0, some w) :: l', s4, hw2.symm, ?_, ?_, h4, ?_⟩
          · intro dt' c' hm
            rcases List.mem_cons.mp hm with e | e
            · cases e; exact hwe
            · exact hne.tail dt' c' e
          · cases l' with
            | nil => trivial
            | cons y r => exact hend
          · rw [hstep, hfc]
            exact (E2E.loop_wait_data 0 w (tscript l' ++ rest) s4 s4 h4.closed
              (by rw [tick_zero]; exact regular_id h4.i) h4.sock hwe).symm

def closeBytes : Option CloseF → Bytes
  | none => []
  | some c => c.wire.bytes

/-- the byte stream of a conforming server after its handshake reply: the items back to back
    (compressed messages with RSV1 on their first frame), then possibly a Close -/
def gstream (items : List GItem) (cl : Option CloseF) : Bytes := items.flatMap GItem.bytes ++ closeBytes cl

/-- the events the application must see for them, in completion order -/
def gexpected (items : List GItem) (cl : Option CloseF) : List Event :=
  items.flatMap GItem.events ++ closeEvents cl

def terminal (cl : Option CloseF) : Event :=
  match cl with
  | none => .disconnected "connection-lost" false
  | some _ => .disconnected "closed" true

theorem parses_close (v : Variant) (cl : Option CloseF) (hcl : ∀ c, cl = some c → c.Ok) (p : PState) (hp : Between p) :
    ∃ p', ParsesB v p (closeBytes cl) (closeFrames cl) p' ∧ Between p' := by
  cases cl with
  | none => exact ⟨p, parsesB_nil v p, hp⟩
  | some c =>
    obtain ⟨p', h, hb⟩ := parses_one v c.wire p hp (CloseF.wire_ok (hcl c rfl)) (by simp [CloseF.wire])
    refine ⟨p', ?_, hb⟩
    simpa [ParsesTo, wireBytes, closeBytes, closeFrames] using h

/-- only the bytes of a timed script matter -/
theorem timed_gstream (z : ZP) (s : Sys) (m : Mid z s) (hfr : s.frames = []) (hb : Between s.p)
    (hpc : s.p.compression = z.dc.isSome)
    (items : List GItem) (ic' : ICtx) (hit : ItemsAt z ⟨s.inflHist, s.inflOut⟩ items ic')
    (hzz : ∀ g, GItem.msg g ∈ items → g.zf = true → z.dc.isSome = true)
    (cl : Option CloseF) (hcl : ∀ c, cl = some c → c.Ok) :
    ∃ p2, ∀ l, TNonEmpty l → EndsRead l → tbytes l = gstream items cl → ∀ rest, ∃ sE,
      loop (tscript l ++ rest) s = loop rest sE ∧
      Fin z cl (items.flatMap GItem.events).reverse ⟨[], ic'⟩ s sE ∧ sE.p = p2 := by
  obtain ⟨p1, hp1, hb1, _⟩ := parses_gitems s.cfg.v z.dc.isSome items s.p hb hpc (hit.wireOk hzz)
  obtain ⟨p2, hp2, hb2⟩ := parses_close s.cfg.v cl hcl p1 hb1
  have hpar : ParsesB s.cfg.v s.p (gstream items cl) (items.flatMap GItem.frames ++ closeFrames cl) p2 :=
    parsesB_append hp1 hp2
  obtain ⟨hpe, hpo, hpp⟩ := hpar.run
  have he := tg_eat_items z items ⟨s.inflHist, s.inflOut⟩ ic' hit
  refine ⟨p2, fun l hne hend hbl rest => ?_⟩
  rw [← hbl] at hpe hpo hpp
  obtain ⟨sE, h, f, q⟩ := timed_frames z l hne hend s m _ _ _ (by unfold view; rw [hfr]; exact he) cl hcl hpe hpo
    (by rw [hpp]; exact hb2.b) rest
  exact ⟨sE, h, f, q.trans hpp⟩

/-- A whole connection delivers exactly what the server sent, for every segmentation, every
    timing, with or without permessage-deflate (helper form; see `Properties/C01_E2E2.lean`). -/
theorem run_timed (cfg : Cfg) (react : React) (proxy : Bool) (proto : Option Http.Str) (dc : Option Http.DeflateCfg)
    (hs : Setup cfg react proxy) (hpt : cfg.pingTimeout = 0)
    (reply : Bytes) (hg : GoodReplyD cfg reply proto dc)
    (items : List GItem) (icE : ICtx) (hit : ItemsAt ⟨cfg.inflate, dc⟩ ⟨[], 0⟩ items icE)
    (hz : ∀ g, GItem.msg g ∈ items → g.zf = true → dc.isSome = true)
    (cl : Option CloseF) (hcl : ∀ c, cl = some c → c.Ok)
    (l : List TStep) (hne : TNonEmpty l) (hend : EndsRead l) (hb : tbytes l = reply ++ gstream items cl)
    (ws : List Nat) (dtE : Nat) (hct : cfg.closeTimeout = 0 ∨ cl = none ∨ ws.sum + dtE < cfg.closeTimeout) :
    (delivered (runAll cfg react (tscript l ++ (idles ws ++ [.wait dtE (some .eof)]))).trace).reverse =
      [.connecting, .connected proxy, .ready proto dc.isSome] ++ gexpected items cl ++ [terminal cl] := by
  let z : ZP := ⟨cfg.inflate, dc⟩
  let rest : List EnvStep := idles ws ++ [.wait dtE (some .eof)]
  obtain ⟨sA, hA0, _, hrun, hs1, hs2, hs3⟩ := HRun.run_start' cfg react (tscript l ++ rest) proxy hs.conn hs.req hs.poll hs.app
  have hA : AtLoopD cfg react (tscript l ++ rest) proxy sA := ⟨hA0, hs2, hs3, hs1⟩
  obtain ⟨i, hsep, hil⟩ := hg.sep
  obtain ⟨l2, s4, hl2, hne2, hend2, h4, hloop1⟩ := hdr_loop hg l hne hend [] (gstream items cl)
    (by show 0 < reply.length; omega) (by simpa using hb) sA hA rest
  rw [setBuf_nil hA.a.p] at hloop1
  have g4 : TG s4 := ⟨by rw [h4.react]; exact hs.app, by rw [h4.cfg]; exact hpt, Or.inr h4.sct, h4.sock, h4.closed⟩
  have z4 : ZOk z s4 := ⟨by rw [h4.cfg], h4.comp, h4.dec⟩
  have hnh4 : s4.p.cont ≠ .header := h4.between.b.notHeader
  have m4 : Mid z s4 := ⟨g4, z4, h4.closing, hnh4⟩
  obtain ⟨_, run⟩ := timed_gstream z s4 m4 h4.frames h4.between h4.pcomp items icE (by rw [h4.ih, h4.io]; exact hit) hz
    cl hcl
  obtain ⟨sE, hloop2, hfin, _⟩ := run l2 hne2 hend2 hl2 rest
  have hd4 : delivered s4.trace = [.ready proto dc.isSome, .connected proxy, .connecting] := by
    rw [delivered_of_hist, h4.hist]; rfl
  have htail : ∃ s6, loop rest sE =
        (if ¬ s6.closing ∧ ¬ s6.closed then .err (.socketFail "connection-lost") s6 else .ok () s6) ∧
      s6.closing = cl.isSome ∧ s6.closed = false ∧ SendOnly s6.react ∧
      delivered s6.trace = (gexpected items cl).reverse ++ delivered s4.trace := by
    cases cl with
    | none =>
      obtain ⟨mE, _, stE⟩ := hfin
      have tE : TailOK (ws.sum + dtE) sE := ⟨mE.g.app, mE.g.pt, mE.g.closed, by
        rcases mE.g.ct with h | h
        · exact Or.inl h
        · exact Or.inr (Or.inl h)⟩
      obtain ⟨s6, hl6, st6, cg6, cl6, a6⟩ := tail_loop ws dtE _ (Nat.le_refl _) sE tE
      refine ⟨s6, hl6, by rw [cg6, mE.ncg]; rfl, cl6, a6, ?_⟩
      rw [st6.evs, stE.evs]
      simp [gexpected, closeEvents]
    | some c =>
      have hcfgE : sE.cfg = cfg := hfin.st.cfg.trans h4.cfg
      have tE : TailOK (ws.sum + dtE) sE := ⟨hfin.app, hfin.pt, hfin.closed, by
        rw [hcfgE]
        rcases hct with h | h | h
        · exact Or.inl h
        · cases h
        · exact Or.inr (Or.inr ⟨sessionTime sE, hfin.sct, by omega⟩)⟩
      obtain ⟨s6, hl6, st6, cg6, cl6, a6⟩ := tail_loop ws dtE _ (Nat.le_refl _) sE tE
      refine ⟨s6, hl6, by rw [cg6, hfin.closing]; rfl, cl6, a6, ?_⟩
      rw [st6.evs, hfin.st.evs]
      simp [gexpected, closeEvents]
  obtain ⟨s6, hl6, hcg6, hcl6, ha6, hd6⟩ := htail
  have hloopA : loop (tscript l ++ rest) sA =
      (if ¬ s6.closing ∧ ¬ s6.closed then .err (.socketFail "connection-lost") s6 else .ok () s6) := by
    rw [hloop1, hloop2, hl6]
  obtain ⟨sF, post, hF, tF, hhF⟩ := finish_eof hcl6 ha6 hloopA
  have hhF : hist post = [terminal cl] := by rw [hhF, hcg6]; cases cl <;> rfl
  have hterm : terminal cl ≠ .poll := by cases cl <;> simp [terminal]
  rw [Monitor.runAll_ok (hrun.trans hF), tF, delivered_append, delivered_of_hist post, hhF, hd6, hd4]
  simp [hterm]

end Lomond.Core.DG
