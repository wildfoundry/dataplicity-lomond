/-
  Frames of Model/Frame.lean (property C03): XOR masking, `Frame.build` by one equation on the
  shortest length form, the round trip `Spec.decodeClientFrame ∘ Frame.build`; and what `write`,
  `sendFrame`, `sendData` and `wsClose` of the core model add to the trace, in any state and in a
  state that accepts the write.
-/
import Lomond.Model.Frame
import Lomond.Proofs.BeBytes
import Lomond.Proofs.Calls
import Lomond.Model.ZFrame
namespace Lomond

theorem Bytes.WF.append {a b : Bytes} (ha : Bytes.WF a) (hb : Bytes.WF b) : Bytes.WF (a ++ b) := by
  intro x hx
  rcases List.mem_append.mp hx with h | h
  · exact ha x h
  · exact hb x h

theorem Bytes.WF.cons {x : Nat} {a : Bytes} (hx : x < 256) (ha : Bytes.WF a) : Bytes.WF (x :: a) := by
  intro y hy
  rcases List.mem_cons.mp hy with h | h
  · omega
  · exact ha y h

theorem xor_cancel (b k : Nat) : (b ^^^ k) ^^^ k = b := by
  rw [Nat.xor_assoc, Nat.xor_self, Nat.xor_zero]

theorem xor_lt_256 {b k : Nat} (hb : b < 256) (hk : k < 256) : b ^^^ k < 256 :=
  Nat.xor_lt_two_pow (n := 8) hb hk

theorem maskFrom_length (key : Bytes) (i : Nat) (d : Bytes) : (maskFrom key i d).length = d.length := by
  induction d generalizing i with
  | nil => rfl
  | cons b r ih => simp [maskFrom, ih]

theorem maskFrom_involutive (key : Bytes) (i : Nat) (d : Bytes) :
    maskFrom key i (maskFrom key i d) = d := by
  induction d generalizing i with
  | nil => rfl
  | cons b r ih => simp [maskFrom, ih, xor_cancel]

theorem maskFrom_append (key : Bytes) (i : Nat) (a b : Bytes) :
    maskFrom key i (a ++ b) = maskFrom key i a ++ maskFrom key (i + a.length) b := by
  induction a generalizing i with
  | nil => simp [maskFrom]
  | cons x r ih =>
    simp only [List.cons_append, maskFrom, ih, List.length_cons]
    congr 3; omega

theorem maskFrom_getElem? (key : Bytes) (i : Nat) (d : Bytes) (j : Nat) :
    (maskFrom key i d)[j]? = d[j]?.map (fun b => b ^^^ key.getD ((i + j) % 4) 0) := by
  induction d generalizing i j with
  | nil => simp [maskFrom]
  | cons b r ih =>
    cases j with
    | zero => simp [maskFrom]
    | succ j =>
      simp only [maskFrom, List.getElem?_cons_succ, ih]
      congr 2; funext x; congr 3; omega

theorem getD_lt_256 (key : Bytes) (hk : Bytes.WF key) (i : Nat) : key.getD i 0 < 256 := by
  rw [List.getD_eq_getElem?_getD]
  cases h : key[i]? with
  | none => simp
  | some x => simp; exact hk x (List.mem_of_getElem? h)

theorem maskFrom_wf (key : Bytes) (i : Nat) (d : Bytes) (hk : Bytes.WF key) (hd : Bytes.WF d) :
    Bytes.WF (maskFrom key i d) := by
  induction d generalizing i with
  | nil => intro b hb; cases hb
  | cons b r ih =>
    simp only [maskFrom]
    apply Bytes.WF.cons
    · exact xor_lt_256 (hd b (by simp)) (getD_lt_256 key hk _)
    · exact ih _ (fun x hx => hd x (by simp [hx]))

/-- the 7-bit length field and the extended length bytes of the shortest form of `len`
    (RFC 6455 §5.2: 7 bits, or 126 and 16 bits, or 127 and 64 bits) -/
def lenMark (len : Nat) : Nat := if len < 126 then len else if len < 65536 then 126 else 127
def lenExt (len : Nat) : Bytes := if len < 126 then [] else if len < 65536 then beBytes 2 len else beBytes 8 len

theorem lenMark_lt (len : Nat) : lenMark len < 128 := by
  unfold lenMark; split <;> (try split) <;> omega

theorem lenExt_length (len : Nat) :
    (lenExt len).length = if len < 126 then 0 else if len < 65536 then 2 else 8 := by
  unfold lenExt; split <;> (try split) <;> simp [beBytes_length]

theorem lenExt_wf (len : Nat) : Bytes.WF (lenExt len) := by
  unfold lenExt; split <;> (try split) <;> first | exact beBytes_wf _ _ | exact nofun

theorem buildHeader_eq (b0 m len : Nat) :
    buildHeader b0 m len = if len < 2 ^ 63 then some (b0 :: (m + lenMark len) :: lenExt len) else none := by
  unfold buildHeader lenMark lenExt
  by_cases c1 : len < 126
  · have c3 : len < 2 ^ 63 := Nat.lt_trans c1 (by decide)
    simp only [if_pos c1, if_pos c3]
  · by_cases c2 : len < 65536
    · have c3 : len < 2 ^ 63 := Nat.lt_trans c2 (by decide)
      simp only [if_neg c1, if_pos c2, if_pos c3]; rfl
    · simp only [if_neg c1, if_neg c2]; split <;> rfl

theorem build_eq (op : Nat) (payload key : Bytes) (fin r1 r2 r3 : Nat) :
    Frame.build op payload key fin r1 r2 r3 =
      if payload.length < 2 ^ 63 then
        some (byte0 fin r1 r2 r3 op :: (128 + lenMark payload.length) ::
          (lenExt payload.length ++ (key ++ maskPayload key payload)))
      else none := by
  unfold Frame.build
  rw [buildHeader_eq]
  split <;> simp

theorem build_inv {op : Nat} {payload key bytes : Bytes} {fin r1 r2 r3 : Nat}
    (hb : Frame.build op payload key fin r1 r2 r3 = some bytes) :
    payload.length < 2 ^ 63 ∧
    bytes = byte0 fin r1 r2 r3 op :: (128 + lenMark payload.length) ::
      (lenExt payload.length ++ (key ++ maskPayload key payload)) := by
  rw [build_eq] at hb
  split at hb
  · exact ⟨‹_›, (Option.some.inj hb).symm⟩
  · cases hb

theorem build_none (op : Nat) (payload key : Bytes) (fin r1 r2 r3 : Nat) :
    Frame.build op payload key fin r1 r2 r3 = none ↔ 2 ^ 63 ≤ payload.length := by
  rw [build_eq]
  split <;> simp <;> omega

def hdrOf (b0 : Nat) (key payload : Bytes) : Spec.Decoded :=
  { fin := b0 / 128, rsv1 := b0 / 64 % 2, rsv2 := b0 / 32 % 2, rsv3 := b0 / 16 % 2,
    opcode := b0 % 16, key := key, payload := payload }

theorem decode_tail (b0 len : Nat) (key body rest : Bytes) (hk : key.length = 4) (hb : body.length = len) :
    (if (key ++ (body ++ rest)).length < 4 + len then (none : Option (Spec.Decoded × Bytes))
     else some ({ fin := b0 / 128, rsv1 := b0 / 64 % 2, rsv2 := b0 / 32 % 2, rsv3 := b0 / 16 % 2,
                  opcode := b0 % 16, key := (key ++ (body ++ rest)).take 4,
                  payload := Spec.unmask ((key ++ (body ++ rest)).take 4) (((key ++ (body ++ rest)).drop 4).take len) },
                ((key ++ (body ++ rest)).drop 4).drop len))
    = some (hdrOf b0 key (Spec.unmask key body), rest) := by
  have h1 : ¬ (key ++ (body ++ rest)).length < 4 + len := by
    simp only [List.length_append]; omega
  rw [if_neg h1, List.take_left' hk, List.drop_left' hk,
      List.take_left' hb, List.drop_left' hb]
  rfl

theorem decode_small (b0 len : Nat) (key body rest : Bytes) (hl : len < 126)
    (hk : key.length = 4) (hb : body.length = len) :
    Spec.decodeClientFrame (b0 :: (128 + len) :: (key ++ (body ++ rest)))
      = some (hdrOf b0 key (Spec.unmask key body), rest) := by
  have a : ¬ 128 + len < 128 := by omega
  have b : 128 + len - 128 = len := by omega
  simp only [Spec.decodeClientFrame, a, b, hl, if_true, if_false]
  exact decode_tail b0 len key body rest hk hb

theorem decode_medium (b0 len : Nat) (key body rest : Bytes) (h1 : 126 ≤ len) (h2 : len < 65536)
    (hk : key.length = 4) (hb : body.length = len) :
    Spec.decodeClientFrame (b0 :: 254 :: (beBytes 2 len ++ (key ++ (body ++ rest))))
      = some (hdrOf b0 key (Spec.unmask key body), rest) := by
  have hv : beVal (beBytes 2 len) = len := beVal_beBytes 2 len (by omega)
  have hlen : ¬ (beBytes 2 len ++ (key ++ (body ++ rest))).length < 2 := by
    simp only [List.length_append, beBytes_length]; omega
  have hmin : ¬ len < 126 := by omega
  simp only [Spec.decodeClientFrame, show ¬ (254 < 128) by omega, show 254 - 128 = 126 from rfl,
    show ¬ (126 < 126) by omega, if_true, if_false, hlen,
    List.take_left' (beBytes_length 2 len), List.drop_left' (beBytes_length 2 len), hv, hmin]
  exact decode_tail b0 len key body rest hk hb

theorem decode_large (b0 len : Nat) (key body rest : Bytes) (h1 : 65536 ≤ len) (h2 : len < 2 ^ 63)
    (hk : key.length = 4) (hb : body.length = len) :
    Spec.decodeClientFrame (b0 :: 255 :: (beBytes 8 len ++ (key ++ (body ++ rest))))
      = some (hdrOf b0 key (Spec.unmask key body), rest) := by
  have hv : beVal (beBytes 8 len) = len := beVal_beBytes 8 len (by omega)
  have hlen : ¬ (beBytes 8 len ++ (key ++ (body ++ rest))).length < 8 := by
    simp only [List.length_append, beBytes_length]; omega
  have hmin : ¬ (len < 65536 ∨ len ≥ 2 ^ 63) := by omega
  simp only [Spec.decodeClientFrame, show ¬ (255 < 128) by omega, show 255 - 128 = 127 from rfl,
    show ¬ (127 < 126) by omega, show ¬ (127 = 126) by omega, if_false, hlen,
    List.take_left' (beBytes_length 8 len), List.drop_left' (beBytes_length 8 len), hv, hmin]
  exact decode_tail b0 len key body rest hk hb

theorem decode_form (b0 len : Nat) (key body rest : Bytes) (hl : len < 2 ^ 63)
    (hk : key.length = 4) (hb : body.length = len) :
    Spec.decodeClientFrame (b0 :: (128 + lenMark len) :: (lenExt len ++ (key ++ (body ++ rest))))
      = some (hdrOf b0 key (Spec.unmask key body), rest) := by
  unfold lenMark lenExt
  by_cases c1 : len < 126
  · rw [if_pos c1, if_pos c1]; exact decode_small b0 len key body rest c1 hk hb
  · by_cases c2 : len < 65536
    · rw [if_neg c1, if_neg c1, if_pos c2, if_pos c2]; exact decode_medium b0 len key body rest (by omega) c2 hk hb
    · rw [if_neg c1, if_neg c1, if_neg c2, if_neg c2]; exact decode_large b0 len key body rest (by omega) hl hk hb

/-- the five fields of the first header byte are read back from it: all 256 byte values -/
theorem byte0_bits : ∀ fin r1 r2 r3 : Fin 2, ∀ op : Fin 16,
    byte0 fin r1 r2 r3 op / 128 = fin ∧ byte0 fin r1 r2 r3 op / 64 % 2 = r1 ∧
    byte0 fin r1 r2 r3 op / 32 % 2 = r2 ∧ byte0 fin r1 r2 r3 op / 16 % 2 = r3 ∧
    byte0 fin r1 r2 r3 op % 16 = op := by decide +kernel

theorem byte0_fields (fin r1 r2 r3 op : Nat) (hf : fin < 2) (h1 : r1 < 2) (h2 : r2 < 2) (h3 : r3 < 2)
    (ho : op < 16) (key payload : Bytes) :
    hdrOf (byte0 fin r1 r2 r3 op) key payload =
      { fin := fin, rsv1 := r1, rsv2 := r2, rsv3 := r3, opcode := op, key := key, payload := payload } := by
  obtain ⟨a, b, c, d, e⟩ := byte0_bits ⟨fin, hf⟩ ⟨r1, h1⟩ ⟨r2, h2⟩ ⟨r3, h3⟩ ⟨op, ho⟩
  rw [hdrOf, a, b, c, d, e]

theorem decode_build (op fin r1 r2 r3 : Nat) (payload key rest bytes : Bytes)
    (ho : op < 16) (hf : fin < 2) (h1 : r1 < 2) (h2 : r2 < 2) (h3 : r3 < 2)
    (hk : key.length = 4)
    (hb : Frame.build op payload key fin r1 r2 r3 = some bytes) :
    Spec.decodeClientFrame (bytes ++ rest) =
      some ({ fin := fin, rsv1 := r1, rsv2 := r2, rsv3 := r3, opcode := op, key := key, payload := payload },
            rest) := by
  obtain ⟨hlen, rfl⟩ := build_inv hb
  have := decode_form (byte0 fin r1 r2 r3 op) _ key (maskPayload key payload) rest hlen hk (maskFrom_length _ _ _)
  rw [show Spec.unmask key (maskPayload key payload) = payload from maskFrom_involutive _ _ _,
    byte0_fields fin r1 r2 r3 op hf h1 h2 h3 ho] at this
  simpa only [List.cons_append, List.append_assoc] using this

end Lomond

namespace Lomond.Core
open Lomond

/-- the connection accepts a write: socket present, websocket neither closed nor closing, and the
    environment lets this `sendall` succeed -/
structure Accepting (s : Sys) : Prop where
  sock : s.sockOpen = true
  notClosed : s.closed = false
  notClosing : s.closing = false
  writeOk : s.cfg.writeFails s.writeCtr = false

def resState (s : Sys) (r : ActRes) : Sys := { s with trace := .res r :: s.trace }

theorem write_accept (data : Bytes) (z : Option (Nat × Bytes)) (s : Sys) (h : Accepting s) :
    write data z s = .ok .ok { s with writeCtr := s.writeCtr + 1, trace := wrObs data z :: s.trace } := by
  refine write_elim (P := fun q => q = _) data z s (fun r hr => ?_) (fun _ _ _ r o ho => ?_)
  · rcases hr with ⟨-, e⟩ | ⟨-, e⟩ | ⟨-, e⟩
    · rw [h.sock] at e; cases e
    · rw [h.notClosed] at e; cases e
    · rw [h.notClosing] at e; cases e
  · rcases ho with ⟨-, -, e⟩ | ⟨rfl, rfl, -⟩
    · rw [h.writeOk] at e; cases e
    · rfl

theorem sendFrame_plain (op : Nat) (payload bytes : Bytes) (s : Sys) (h : Accepting s)
    (hb : Frame.build op payload (s.cfg.maskKey s.keyCtr) = some bytes) :
    sendFrame op payload none s = .ok .ok (sentState s (.wr bytes)) := by
  unfold sendFrame
  simp only [hb]
  rw [write_accept bytes none { s with keyCtr := s.keyCtr + 1 } ⟨h.sock, h.notClosed, h.notClosing, h.writeOk⟩]
  rfl

theorem sendFrame_compressed (op : Nat) (payload plain : Bytes) (s : Sys) (h : Accepting s) :
    sendFrame op payload (some plain) s = .ok .ok (sentState s (.wrz op plain)) := by
  unfold sendFrame
  simp only
  rw [write_accept [] (some (op, plain)) { s with keyCtr := s.keyCtr + 1 } ⟨h.sock, h.notClosed, h.notClosing, h.writeOk⟩]
  rfl

theorem logRes_ok_wire {m : M ActRes} {s s' : Sys} {r : ActRes} (h : m s = .ok r s') :
    logRes m s = .ok () (resState s' r) :=
  logRes_ok h

theorem build_some (op : Nat) (payload key : Bytes) (h : payload.length < 2 ^ 63) :
    ∃ bytes, Frame.build op payload key = some bytes := by
  cases hb : Frame.build op payload key with
  | some b => exact ⟨b, rfl⟩
  | none => have := (build_none op payload key 1 0 0 0).mp hb; omega

namespace KS
open Lomond.ZFrame

/-- the connection accepts a write as far as `_check_writable` is concerned -/
def Live (s : Sys) : Prop := s.sockOpen = true ∧ s.closed = false ∧ s.closing = false

/-- what `sendFrame` can log for its write -/
def SentObs (s : Sys) (op : Nat) (pl : Bytes) : Option Bytes → Obs → ActRes → Prop
  | none, o, r => ∃ bytes, Frame.build op pl (s.cfg.maskKey s.keyCtr) = some bytes ∧
      ((o = .wr bytes ∧ r = .ok) ∨ (o = .wrFail bytes ∧ r = .transportFail))
  | some plain, o, r => (o = .wrz op plain ∧ r = .ok) ∨ (o = .wrFail [] ∧ r = .transportFail)

/-- `session.write` in any state: refused by `_check_writable` (nothing logged), or `sendall` is
    reached from a writable state and its outcome logged -/
theorem write_out (d : Bytes) (z : Option (Nat × Bytes)) (s : Sys) :
    ∃ r s', write d z s = .ok r s' ∧ s'.cfg = s.cfg ∧ s'.react = s.react ∧
      s'.sockOpen = s.sockOpen ∧ s'.closed = s.closed ∧ s'.closing = s.closing ∧
      s'.keyCtr = s.keyCtr ∧
      ((s'.trace = s.trace ∧ ¬ Live s ∧ isRefusal (.res r) = true) ∨
       (Live s ∧ isRefusal (.res r) = false ∧
         ((s'.trace = wrObs d z :: s.trace ∧ r = .ok) ∨
          (s'.trace = .wrFail d :: s.trace ∧ r = .transportFail)))) := by
  refine write_elim (P := fun q => ∃ r s', q = .ok r s' ∧ s'.cfg = s.cfg ∧ s'.react = s.react ∧
      s'.sockOpen = s.sockOpen ∧ s'.closed = s.closed ∧ s'.closing = s.closing ∧ s'.keyCtr = s.keyCtr ∧
      ((s'.trace = s.trace ∧ ¬ Live s ∧ isRefusal (.res r) = true) ∨
       (Live s ∧ isRefusal (.res r) = false ∧
         ((s'.trace = wrObs d z :: s.trace ∧ r = .ok) ∨ (s'.trace = .wrFail d :: s.trace ∧ r = .transportFail)))))
    d z s (fun r hr => ?_) (fun h1 h2 h3 r o ho => ?_)
  · refine ⟨r, s, rfl, rfl, rfl, rfl, rfl, rfl, rfl, .inl ⟨rfl, fun hl => ?_, ?_⟩⟩
    · rcases hr with ⟨-, e⟩ | ⟨-, e⟩ | ⟨-, e⟩
      · rw [hl.1] at e; cases e
      · rw [hl.2.1] at e; cases e
      · rw [hl.2.2] at e; cases e
    · rcases hr with ⟨rfl, -⟩ | ⟨rfl, -⟩ | ⟨rfl, -⟩ <;> rfl
  · refine ⟨r, _, rfl, rfl, rfl, rfl, rfl, rfl, rfl, .inr ⟨⟨h1, h2, h3⟩, ?_⟩⟩
    rcases ho with ⟨rfl, rfl, -⟩ | ⟨rfl, rfl, -⟩
    · exact ⟨rfl, .inr ⟨rfl, rfl⟩⟩
    · exact ⟨rfl, .inl ⟨rfl, rfl⟩⟩

/-- `session.send` / `send_compressed` in any state: it never raises in the model, always draws
    one key, leaves the flags alone, and either is refused by `_check_writable` (nothing logged),
    or fails to build the frame (payload ≥ 2^63), or reaches `sendall` from a writable state -/
theorem sendFrame_out (op : Nat) (pl : Bytes) (c : Option Bytes) (s : Sys) :
    ∃ r s', sendFrame op pl c s = .ok r s' ∧ s'.cfg = s.cfg ∧ s'.react = s.react ∧
      s'.sockOpen = s.sockOpen ∧ s'.closed = s.closed ∧ s'.closing = s.closing ∧
      s'.keyCtr = s.keyCtr + 1 ∧
      ((s'.trace = s.trace ∧ ¬ Live s ∧ isRefusal (.res r) = true) ∨
       (s'.trace = s.trace ∧ c = none ∧ 2 ^ 63 ≤ pl.length ∧ r = .valueError) ∨
       (Live s ∧ isRefusal (.res r) = false ∧ ∃ o, s'.trace = o :: s.trace ∧ SentObs s op pl c o r)) := by
  refine sendFrame_elim (P := fun q => ∃ r s', q = .ok r s' ∧ s'.cfg = s.cfg ∧ s'.react = s.react ∧
      s'.sockOpen = s.sockOpen ∧ s'.closed = s.closed ∧ s'.closing = s.closing ∧ s'.keyCtr = s.keyCtr + 1 ∧
      ((s'.trace = s.trace ∧ ¬ Live s ∧ isRefusal (.res r) = true) ∨
       (s'.trace = s.trace ∧ c = none ∧ 2 ^ 63 ≤ pl.length ∧ r = .valueError) ∨
       (Live s ∧ isRefusal (.res r) = false ∧ ∃ o, s'.trace = o :: s.trace ∧ SentObs s op pl c o r)))
    op pl c s (fun hc hb => ?_) (fun d z hf => ?_)
  · exact ⟨_, _, rfl, rfl, rfl, rfl, rfl, rfl, rfl,
      .inr (.inl ⟨rfl, hc, (build_none op pl _ 1 0 0 0).mp hb, rfl⟩)⟩
  · obtain ⟨r, s', hw, a1, a2, a3, a4, a5, a6, hcase⟩ := write_out d z (keyDrawn s)
    refine ⟨r, s', hw, a1, a2, a3, a4, a5, a6, ?_⟩
    rcases hcase with h | ⟨hl, hr, ht⟩
    · exact .inl h
    · refine .inr (.inr ⟨hl, hr, ?_⟩)
      rcases hf with ⟨hb⟩ | ⟨plain⟩
      · rcases ht with ⟨ht, hr'⟩ | ⟨ht, hr'⟩
        · exact ⟨_, ht, d, hb, .inl ⟨rfl, hr'⟩⟩
        · exact ⟨_, ht, d, hb, .inr ⟨rfl, hr'⟩⟩
      · rcases ht with ⟨ht, hr'⟩ | ⟨ht, hr'⟩
        · exact ⟨_, ht, .inl ⟨rfl, hr'⟩⟩
        · exact ⟨_, ht, .inr ⟨rfl, hr'⟩⟩

end KS

theorem sendFrame_trace (op : Nat) (payload : Bytes) (cz : Option Bytes) (s : Sys) :
    ∃ r s' l, sendFrame op payload cz s = .ok r s' ∧ s'.trace = l ++ s.trace ∧ l.length ≤ 1 ∧
      (∀ bytes, Obs.wr bytes ∈ l → cz = none ∧ Frame.build op payload (s.cfg.maskKey s.keyCtr) = some bytes) ∧
      (∀ op' plain, Obs.wrz op' plain ∈ l → op' = op ∧ cz = some plain) := by
  obtain ⟨r, s', h, -, -, -, -, -, -, hcase⟩ := KS.sendFrame_out op payload cz s
  rcases hcase with ⟨ht, -⟩ | ⟨ht, -⟩ | ⟨-, -, o, ht, ho⟩
  · exact ⟨r, s', [], h, ht, Nat.zero_le _, nofun, nofun⟩
  · exact ⟨r, s', [], h, ht, Nat.zero_le _, nofun, nofun⟩
  · refine ⟨r, s', [o], h, ht, Nat.le_refl _, fun bytes hm => ?_, fun op' plain hm => ?_⟩
    · cases List.mem_singleton.1 hm
      cases cz with
      | none => obtain ⟨b, hb, ⟨e, -⟩ | ⟨e, -⟩⟩ := ho <;> cases e; exact ⟨rfl, hb⟩
      | some p => rcases ho with ⟨e, -⟩ | ⟨e, -⟩ <;> cases e
    · cases List.mem_singleton.1 hm
      cases cz with
      | none => obtain ⟨b, -, ⟨e, -⟩ | ⟨e, -⟩⟩ := ho <;> cases e
      | some p => rcases ho with ⟨e, -⟩ | ⟨e, -⟩ <;> cases e; exact ⟨rfl, rfl⟩

theorem sendData_plain (op : Nat) (payload bytes : Bytes) (c : Bool) (s : Sys) (h : Accepting s)
    (hnc : ¬ (c = true ∧ s.compression.isSome = true))
    (hb : Frame.build op payload (s.cfg.maskKey s.keyCtr) = some bytes) :
    sendData op payload c s = .ok .ok (sentState s (.wr bytes)) := by
  unfold sendData
  rw [if_neg hnc]
  exact sendFrame_plain op payload bytes s h hb

theorem sendData_compressed (op : Nat) (payload : Bytes) (c : Bool) (s : Sys) (h : Accepting s)
    (hc : c = true ∧ s.compression.isSome = true) :
    sendData op payload c s = .ok .ok (sentState s (.wrz op payload)) := by
  unfold sendData
  rw [if_pos hc]
  exact sendFrame_compressed op [] payload s h

/-- `close()` in any state: it returns a value that is no refusal and leaves the state alone
    (already closed or closing, or the arguments are turned down), or it hands one Close frame
    to `session.send` and, whatever came of that, marks the websocket closing -/
theorem wsClose_by_cases (code : Option Nat) (reason : Arg) (s : Sys) :
    (∃ r, wsClose code reason s = .ok r s ∧
      (r = .ok ∨ r = .valueError ∨ r = .typeError ∨ r = .structError)) ∨
    (∃ rb r s', s.closed = false ∧ s.closing = false ∧ argBytes reason = some rb ∧
      (∀ c, code = some c → c < 65536) ∧
      (s.cfg.v.closeArgs = true → (buildClosePayload code rb).length ≤ 125) ∧
      sendFrame Gen.opClose (buildClosePayload code rb) none s = .ok r s' ∧
      wsClose code reason s =
        .ok .ok { s' with closing := true, sentCloseTime := some (sessionTime s') }) := by
  refine wsClose_elim (P := fun q =>
      (∃ r, q = .ok r s ∧ (r = .ok ∨ r = .valueError ∨ r = .typeError ∨ r = .structError)) ∨
      (∃ rb r s', s.closed = false ∧ s.closing = false ∧ argBytes reason = some rb ∧
        (∀ c, code = some c → c < 65536) ∧
        (s.cfg.v.closeArgs = true → (buildClosePayload code rb).length ≤ 125) ∧
        sendFrame Gen.opClose (buildClosePayload code rb) none s = .ok r s' ∧
        q = .ok .ok { s' with closing := true, sentCloseTime := some (sessionTime s') })) code reason s
    (fun _ => .inl ⟨_, rfl, .inl rfl⟩) (fun _ _ res hr => .inl ⟨res, rfl, .inr hr⟩)
    (fun h1 h2 rb hrb hc hl r s' hsf => .inr ⟨rb, r, s', h1, h2, hrb, hc, hl, hsf, rfl⟩)

theorem wsClose_accept (code : Option Nat) (reason : Arg) (rb bytes : Bytes) (s : Sys) (h : Accepting s)
    (hr : argBytes reason = some rb)
    (hc : ∀ c, code = some c → c < 65536)
    (hl : (buildClosePayload code rb).length ≤ 125)
    (hb : Frame.build Gen.opClose (buildClosePayload code rb) (s.cfg.maskKey s.keyCtr) = some bytes) :
    wsClose code reason s =
      .ok .ok { sentState s (.wr bytes) with closing := true, sentCloseTime := some (sessionTime s) } := by
  have hc := codeTooBig_false.2 hc
  rw [wsClose_live code reason s h.notClosed h.notClosing, hr]
  show (if _ then _ else if _ then _ else _) = _
  rw [hc, if_neg (fun hx => hx.2.elim nofun (Nat.not_lt.2 hl)), if_neg nofun, sendFrame_plain _ _ _ s h hb]
  rfl

/-- the repaired `close()`: arguments that cannot form a valid Close frame are refused and the
    state is untouched -/
theorem wsClose_reject (code : Option Nat) (reason : Arg) (s : Sys) (hv : s.cfg.v.closeArgs = true)
    (h1 : s.closed = false) (h2 : s.closing = false)
    (hbad : ∀ rb, argBytes reason = some rb →
      (∃ c, code = some c ∧ 65536 ≤ c) ∨ 125 < (buildClosePayload code rb).length) :
    ∃ r, (r = .typeError ∨ r = .valueError) ∧ (argBytes reason ≠ none → r = .valueError) ∧
      wsClose code reason s = .ok r s := by
  rw [wsClose_live code reason s h1 h2]
  cases hrb : argBytes reason with
  | none =>
    by_cases hx : s.cfg.v.closeArgs = true ∧ codeTooBig code = true
    · exact ⟨.valueError, .inr rfl, nofun, if_pos hx⟩
    · exact ⟨.typeError, .inl rfl, nofun, if_neg hx⟩
  | some rb =>
    refine ⟨.valueError, .inr rfl, fun _ => rfl, if_pos ⟨hv, ?_⟩⟩
    rcases hbad rb hrb with ⟨c, rfl, hc⟩ | hx
    · exact .inl (decide_eq_true hc)
    · exact .inr hx

theorem wsClose_trace (code : Option Nat) (reason : Arg) (s : Sys) (hv : s.cfg.v.closeArgs = true) :
    ∃ r s' l, wsClose code reason s = .ok r s' ∧ s'.trace = l ++ s.trace ∧ l.length ≤ 1 ∧
      (∀ bytes, Obs.wr bytes ∈ l → ∃ rb, argBytes reason = some rb ∧
        (∀ c, code = some c → c < 65536) ∧ (buildClosePayload code rb).length ≤ 125 ∧
        Frame.build Gen.opClose (buildClosePayload code rb) (s.cfg.maskKey s.keyCtr) = some bytes) ∧
      (∀ op plain, Obs.wrz op plain ∉ l) := by
  rcases wsClose_by_cases code reason s with ⟨r, e, -⟩ | ⟨rb, r, s', -, -, hrb, hc, hl, hsf, e⟩
  · exact ⟨r, s, [], e, rfl, by simp, by simp, by simp⟩
  · obtain ⟨r', s'', l, hsf', ht, hlen, hwr, hwz⟩ :=
      sendFrame_trace Gen.opClose (buildClosePayload code rb) none s
    cases hsf.symm.trans hsf'
    exact ⟨_, _, l, e, ht, hlen, fun bytes hm => ⟨rb, hrb, hc, hl hv, (hwr bytes hm).2⟩,
      fun op plain hm => nomatch (hwz op plain hm).2⟩

def isWriteObs : Obs → Bool
  | .wr _ | .wrz _ _ | .wrFail _ => true
  | _ => false

theorem logRes_trace {m : M ActRes} {s s' : Sys} {r : ActRes} {l : List Obs}
    (h : m s = .ok r s') (ht : s'.trace = l ++ s.trace) :
    (logRes m s).state.trace = (.res r :: l) ++ s.trace := by
  rw [logRes_ok_wire h]; simp [resState, ht]

theorem sendData_trace (op : Nat) (payload : Bytes) (c : Bool) (s : Sys) :
    ∃ r s' l, sendData op payload c s = .ok r s' ∧ s'.trace = l ++ s.trace ∧ l.length ≤ 1 ∧
      (∀ bytes, Obs.wr bytes ∈ l → Frame.build op payload (s.cfg.maskKey s.keyCtr) = some bytes) ∧
      (∀ op' plain, Obs.wrz op' plain ∈ l →
        op' = op ∧ plain = payload ∧ c = true ∧ s.compression.isSome = true) := by
  unfold sendData
  by_cases hc : c = true ∧ s.compression.isSome = true
  · rw [if_pos hc]
    obtain ⟨r, s', l, h, ht, hl, hwr, hwz⟩ := sendFrame_trace op [] (some payload) s
    refine ⟨r, s', l, h, ht, hl, ?_, ?_⟩
    · intro bytes hm; have := (hwr bytes hm).1; cases this
    · intro op' plain hm
      obtain ⟨h1, h2⟩ := hwz op' plain hm
      cases h2
      exact ⟨h1, rfl, hc.1, hc.2⟩
  · rw [if_neg hc]
    obtain ⟨r, s', l, h, ht, hl, hwr, hwz⟩ := sendFrame_trace op payload none s
    refine ⟨r, s', l, h, ht, hl, fun bytes hm => (hwr bytes hm).2, ?_⟩
    intro op' plain hm
    have := (hwz op' plain hm).2; cases this

end Lomond.Core
