/-
  The invariants of the interleaving semantics behind C11 / C12, each proved for an entry of the general socket
  (`Proofs/ThreadsStep.lean`) and so for the two-chunk socket as well: one lock holder (`LockInv`), which calls are on the
  wire (`MsgInv`), what is on the wire belongs to a call and a send either writes or fails (`CallInv`); with the position
  invariant they form `BaseN`.  The two-chunk shape of the wire (`WireInv`) is a statement about `step` only.
-/
import Lomond.Proofs.ThreadsPos

namespace Lomond.Threads
open Lomond

/-- the write lock (`session._lock`) has one holder: the thread whose program stands inside a `with self._lock:` block -/
structure LockInv (v : Variant) (cfg : Cfg) (s : State) : Prop where
  disc : ∀ t, disc (view v cfg (s.th t)) = true
  holder : ∀ t, holds (view v cfg (s.th t)) = true ↔ s.sh.lock = some t

theorem holder_unique {v : Variant} {cfg : Cfg} {s : State} (L : LockInv v cfg s) {t u : Tid}
    (ht : holds (view v cfg (s.th t)) = true) (hu : holds (view v cfg (s.th u)) = true) : u = t := by
  have h1 := (L.holder t).mp ht
  have h2 := (L.holder u).mp hu
  rw [h1] at h2; exact (Option.some.inj h2).symm

/-- while `t` holds the lock, no other thread stands where only the holder can stand -/
theorem LockInv.alone {v : Variant} {cfg : Cfg} {s : State} (L : LockInv v cfg s) {t u : Tid}
    (ht : holds (view v cfg (s.th t)) = true) (hu : u ≠ t) (P : List Step → Bool)
    (hP : P (view v cfg (s.th u)) = true → holds (view v cfg (s.th u)) = true) :
    P (view v cfg (s.th u)) = false :=
  Bool.eq_false_iff.mpr fun h => hu (holder_unique L ht (hP h))

theorem lockInv_fresh (v : Variant) (cfg : Cfg) {s : State} (F : Fresh s) : LockInv v cfg s := by
  refine ⟨fun t => F.at v cfg disc (compile_disc v cfg) t, fun t => ?_⟩
  rw [F.at v cfg holds (compile_holds v cfg) t, F.lock]
  simp [holds]

theorem lockInv_stepN (env : Env) (v : Variant) (cfg : Cfg) (s : State) (t : Tid) (inv : LockInv v cfg s) :
    LockInv v cfg (stepN env v cfg s t) := by
  rcases stepN_entry env v cfg s t with e | ⟨c, st, r, hc, hr, hb, hh, hv, e⟩
  · rw [e]; exact inv
  · rw [e]
    have d : disc (st :: r) = true := hv ▸ inv.disc t
    have m := execN_moves env v t st r s.sh c
    have hl : (execN env v t st r s.sh c).1.lock = _ :=
      (congrArg Shared.lock (execN_frame env v t st r s.sh c).1).trans (exec_lock v t st r s.sh c)
    generalize execN env v t st r s.sh c = p at m hl
    have hnew : holds (view v cfg (settle (s.th t) p.2)) = holdsAfter st r := by
      rw [view_settle_eq v cfg holds (compile_holds v cfg) _ _ hh]; exact movesN_holds m d
    have hold := inv.holder t
    rw [hv] at hold
    refine ⟨disc_after v cfg disc rfl (compile_disc v cfg) s t p hh inv.disc (movesN_disc m d), fun u => ?_⟩
    rw [setTh_sh, hl]
    by_cases hu : u = t
    · subst hu
      rw [setTh_same, hnew]
      cases st <;> first | (simp [holdsAfter]; done) | simpa [holdsAfter, holds] using hold
    · rw [setTh_other _ _ _ _ _ hu]
      have hou := inv.holder u
      cases st <;> try exact hou
      · -- acquire: the lock was free, so `u` did not hold it; now `t` has it
        have : s.sh.lock = none := by simpa [blockedOn, hr] using hb
        rw [this] at hou
        simp only [hou]
        exact ⟨fun h => (by cases h), fun h => absurd (Option.some.inj h).symm hu⟩
      · -- release: `t` held the lock, so `u` did not
        rw [hold.mp rfl] at hou
        simp only [hou]
        exact ⟨fun h => absurd (Option.some.inj h).symm hu, fun h => (by cases h)⟩

theorem lockInv_step (v : Variant) (cfg : Cfg) (s : State) (t : Tid) (inv : LockInv v cfg s) :
    LockInv v cfg (step v cfg s t) :=
  stepN_default v cfg s t ▸ lockInv_stepN Env.two v cfg s t inv

theorem lockInv_run (v : Variant) (cfg : Cfg) (s : State) (sched : List Tid) (inv : LockInv v cfg s) :
    LockInv v cfg (run v cfg s sched) :=
  run_keeps (lockInv_step v cfg) s sched inv

theorem descOf_congr (f : FrameSrc) (c c' : Cur) (h : c'.zout = c.zout) : descOf f c' = descOf f c := by
  simp [descOf, h]

theorem pairs_append (a b : List Chunk) : pairs (a ++ b) = pairs a ++ pairs b := by
  induction a with
  | nil => rfl
  | cons c r ih => simp [pairs, ih]

theorem frames_append (a b : List Chunk) : frames (a ++ b) = frames a ++ frames b := by
  simp [frames]

theorem headW2_of_rest {v : Variant} {cfg : Cfg} {th : Thread} {c : Cur} {f : FrameSrc} {r : List Step}
    (h : th.current v cfg = some c) (hr : c.rest = .write2 f :: r) : headW2 (view v cfg th) = true := by
  rw [view_of_current h, hr]; rfl

theorem headW2_holds {r : List Step} (d : disc r = true) (h : headW2 r = true) : holds r = true := by
  cases r with
  | nil => cases h
  | cons st r =>
    cases st <;> simp only [headW2] at h <;> try cases h
    simp only [disc, Bool.and_eq_true] at d
    simpa [holds] using d.1.2.1

/-- two-chunk socket: the wire is whole frames, plus the first half of the frame the lock holder is in the middle of -/
structure WireInv (v : Variant) (cfg : Cfg) (s : State) : Prop where
  mid : ∀ t c f r, (s.th t).current v cfg = some c → c.rest = .write2 f :: r →
    s.sh.wire = pairs (frames s.sh.wire) ++ [⟨t, c.idx, false, descOf f c⟩]
  whole : (∀ t, headW2 (view v cfg (s.th t)) = false) → s.sh.wire = pairs (frames s.sh.wire)
  /-- the socket is shut under the write lock: nobody is in the middle of a frame when (and after) it happens -/
  shut : s.sh.sockShut = true → ∀ t, headW2 (view v cfg (s.th t)) = false

theorem wireInv_fresh (v : Variant) (cfg : Cfg) {s : State} (F : Fresh s) : WireInv v cfg s := by
  refine ⟨?_, fun _ => by rw [F.wire]; rfl, fun _ t => F.at v cfg headW2 (compile_headW2 v cfg) t⟩
  intro t c f r hc hr
  have := headW2_of_rest hc hr
  rw [F.at v cfg headW2 (compile_headW2 v cfg) t] at this; cases this

theorem disc_sockClose {r : List Step} (d : disc (.sockClose :: r) = true) : holds (Step.sockClose :: r) = true := by
  simp only [disc, Bool.and_eq_true] at d
  simpa [holds] using d.1.2

theorem wireInv_step (v : Variant) (cfg : Cfg) (s : State) (t : Tid) (L : LockInv v cfg s)
    (W : WireInv v cfg s) : WireInv v cfg (step v cfg s t) := by
  rcases step_cases v cfg s t with e | ⟨c, st, r, hc, hr, _, hh, hv, e⟩
  · rw [e]; exact W
  · rw [e]
    have d : disc (st :: r) = true := hv ▸ L.disc t
    have m := exec_moves v t st r s.sh c
    have hw := exec_wire v t st r s.sh c
    have hi := exec_idx v t st r s.sh c
    have hz := exec_zout v t st r s.sh c
    have hsh := exec_shut v t st r s.sh c
    have hrs : isWrite st = true → s.sh.sockShut = true → (exec v t st r s.sh c).2.rest = toRelease r :=
      fun a b => by rw [exec_write_shut v t st r s.sh c a b]
    have hrn : ∀ f, st = .write1 f → s.sh.sockShut = false → (exec v t st r s.sh c).2.rest = r := by
      intro f hf hs; subst hf; simp [exec, hs]
    generalize exec v t st r s.sh c = p at m hw hi hz hsh hrs hrn
    have hview : headW2 (view v cfg (settle (s.th t) p.2)) = headW2 p.2.rest :=
      view_settle_eq v cfg headW2 (compile_headW2 v cfg) _ _ hh
    -- other threads: unchanged, and none of them stands before a write2 when `t` holds the lock
    have other : ∀ u, u ≠ t → holds (st :: r) = true → headW2 (view v cfg (s.th u)) = false :=
      fun u hu hl => L.alone (hv ▸ hl) hu headW2 (headW2_holds (L.disc u))
    by_cases h1 : (∃ f, st = .write1 f) ∧ s.sh.sockShut = false
    · obtain ⟨⟨f, rfl⟩, hns⟩ := h1
      have hl : holds (Step.write1 f :: r) = true := by
        simp only [disc, Bool.and_eq_true] at d; simpa [holds] using d.1.2.1
      have hr2 : ∃ r2, r = .write2 f :: r2 := by
        simp only [disc, Bool.and_eq_true] at d
        have := d.1.2.2
        cases r with
        | nil => simp at this
        | cons a r2 => cases a <;> simp at this; subst this; exact ⟨r2, rfl⟩
      obtain ⟨r2, rfl⟩ := hr2
      have hrest : p.2.rest = .write2 f :: r2 := hrn f rfl hns
      have hbefore : s.sh.wire = pairs (frames s.sh.wire) := by
        apply W.whole
        intro u
        by_cases hu : u = t
        · subst hu; rw [hv]; rfl
        · exact other u hu hl
      simp only [hns, Bool.false_eq_true, if_false] at hw
      refine ⟨?_, ?_, ?_⟩
      · intro u cu g ru hcu hru
        by_cases hu : u = t
        · subst hu
          rw [setTh_same] at hcu
          rw [current_settle v cfg _ _ hh (by rw [hrest]; simp)] at hcu
          cases hcu
          rw [hrest] at hru
          cases hru
          rw [setTh_sh, hw, frames_append, hi, descOf_congr f c p.2 (hz (by simp))]
          have : frames [(⟨u, c.idx, false, descOf f c⟩ : Chunk)] = [] := rfl
          rw [this, List.append_nil, ← hbefore]
        · rw [setTh_other _ _ _ _ _ hu] at hcu
          have := other u hu hl
          rw [headW2_of_rest hcu hru] at this; cases this
      · intro hall
        have := hall t
        rw [setTh_same, hview, hrest] at this
        cases this
      · intro hs
        rw [setTh_sh, hsh, hns] at hs
        simp at hs
    · by_cases h2 : (∃ f, st = .write2 f) ∧ s.sh.sockShut = false
      · obtain ⟨⟨f, rfl⟩, hns⟩ := h2
        have hl : holds (Step.write2 f :: r) = true := by
          simp only [disc, Bool.and_eq_true] at d; simpa [holds] using d.1.2.1
        have hmid := W.mid t c f r hc hr
        have hnot : headW2 p.2.rest = false := by
          cases hw2 : headW2 p.2.rest with
          | false => rfl
          | true =>
            obtain ⟨g, hg, _⟩ := moves_headW2 m d hw2
            cases hg
        simp only [hns, Bool.false_eq_true, if_false] at hw
        have hnew : p.1.wire = pairs (frames p.1.wire) := by
          rw [hw, frames_append]
          have : frames [(⟨t, c.idx, true, descOf f c⟩ : Chunk)] = [⟨t, c.idx, true, descOf f c⟩] := rfl
          rw [this, pairs_append]
          conv => lhs; rw [hmid]
          simp [pairs]
        refine ⟨?_, fun _ => hnew, ?_⟩
        · intro u cu g ru hcu hru
          by_cases hu : u = t
          · subst hu
            rw [setTh_same] at hcu
            have := headW2_of_rest hcu hru
            rw [hview, hnot] at this; cases this
          · rw [setTh_other _ _ _ _ _ hu] at hcu
            have := other u hu hl
            rw [headW2_of_rest hcu hru] at this; cases this
        · intro hs
          rw [setTh_sh, hsh, hns] at hs
          simp at hs
      · -- any other step (a write on a shut socket included) leaves the wire alone, and `t` is not before a
        -- write2 afterwards
        have hshut_of_write : isWrite st = true → s.sh.sockShut = true := by
          intro hwst
          cases hsx : s.sh.sockShut with
          | true => rfl
          | false =>
            cases st <;> simp only [isWrite] at hwst <;> try cases hwst
            · exact absurd ⟨⟨_, rfl⟩, hsx⟩ h1
            · exact absurd ⟨⟨_, rfl⟩, hsx⟩ h2
        have hw' : p.1.wire = s.sh.wire := by
          rw [hw]
          cases st <;> first
            | rfl
            | (have := hshut_of_write rfl; simp [this])
        have hnot : headW2 p.2.rest = false := by
          cases hw2 : headW2 p.2.rest with
          | false => rfl
          | true =>
            obtain ⟨g, hg, _⟩ := moves_headW2 m d hw2
            subst hg
            rw [hrs rfl (hshut_of_write rfl), headW2_toRelease] at hw2; cases hw2
        have hbefore : headW2 (view v cfg (s.th t)) = false := by
          cases hx : headW2 (view v cfg (s.th t)) with
          | false => rfl
          | true =>
            have hwst : isWrite st = true := by
              rw [hv] at hx; cases st <;> first | rfl | cases hx
            rw [W.shut (hshut_of_write hwst) t] at hx; cases hx
        refine ⟨?_, ?_, ?_⟩
        · intro u cu g ru hcu hru
          by_cases hu : u = t
          · subst hu
            rw [setTh_same] at hcu
            have := headW2_of_rest hcu hru
            rw [hview, hnot] at this; cases this
          · rw [setTh_other _ _ _ _ _ hu] at hcu
            rw [setTh_sh, hw']
            exact W.mid u cu g ru hcu hru
        · intro hall
          rw [setTh_sh, hw']
          apply W.whole
          intro u
          by_cases hu : u = t
          · subst hu; exact hbefore
          · have := hall u
            rwa [setTh_other _ _ _ _ _ hu] at this
        · intro hs u
          rw [setTh_sh, hsh] at hs
          by_cases hu : u = t
          · subst hu; rw [setTh_same, hview]; exact hnot
          · rw [setTh_other _ _ _ _ _ hu]
            cases hsx : s.sh.sockShut with
            | true => exact W.shut hsx u
            | false =>
              rw [hsx] at hs
              have : st = .sockClose := by simpa using hs
              subst this
              exact other u hu (disc_sockClose d)

theorem inv_run (v : Variant) (cfg : Cfg) (s : State) (sched : List Tid)
    (L : LockInv v cfg s) (W : WireInv v cfg s) :
    LockInv v cfg (run v cfg s sched) ∧ WireInv v cfg (run v cfg s sched) :=
  run_keeps (I := fun s => LockInv v cfg s ∧ WireInv v cfg s)
    (fun s t h => ⟨lockInv_step v cfg s t h.1, wireInv_step v cfg s t h.1 h.2⟩) s sched ⟨L, W⟩

/-- call indices of the frames of thread `t` on the wire, in wire order -/
def idxs (w : List Chunk) (t : Tid) : List Nat := ((frames w).filter (fun c => c.tid = t)).map (·.idx)

/-- call `i` of the thread has written its frame -/
def wroteAt (th : Thread) (i : Nat) : Prop :=
  (∃ r, th.results[i]? = some r ∧ r.wrote = true) ∨ (∃ c, th.cur = some c ∧ c.idx = i ∧ c.wrote = true)

/-- the same, for a thread whose call in progress is `c` -/
def wroteNow (th : Thread) (c : Cur) (i : Nat) : Prop :=
  (∃ r, th.results[i]? = some r ∧ r.wrote = true) ∨ (c.idx = i ∧ c.wrote = true)

theorem exec_wrote (v : Variant) (t : Tid) (st : Step) (r : List Step) (sh : Shared) (c : Cur) :
    (exec v t st r sh c).2.wrote = ((isW2 st && !sh.sockShut) || c.wrote) := by
  cases st <;> simp only [exec, failWrite] <;> (repeat' split) <;> simp_all [isW2]

/-- the complete frames on the wire are those of the calls that have written, one per call, each thread's in call order -/
structure MsgInv (v : Variant) (cfg : Cfg) (s : State) : Prop where
  len : ∀ t, (s.th t).results.length = (s.th t).pc
  cur : ∀ t c, (s.th t).cur = some c → c.idx = (s.th t).pc ∧ (c.wrote = true → noWrite c.rest = true)
  sorted : ∀ t, (idxs s.sh.wire t).Pairwise (· < ·)
  mem : ∀ t i, i ∈ idxs s.sh.wire t ↔ wroteAt (s.th t) i

theorem msgInv_fresh (v : Variant) (cfg : Cfg) {s : State} (F : Fresh s) : MsgInv v cfg s := by
  refine ⟨fun t => (by rw [F.results, F.pc]; rfl), fun t c h => (by rw [F.cur] at h; cases h), fun t => ?_, fun t i => ?_⟩
  · rw [F.wire]; simp [idxs, frames]
  · rw [F.wire]; simp [idxs, frames, wroteAt, F.results, F.cur]

theorem settle_results_iff (th : Thread) (c' : Cur) (i : Nat) (x : Result) :
    (settle th c').results[i]? = some x ↔
      th.results[i]? = some x ∨ (c'.rest = [] ∧ i = th.results.length ∧ x = ⟨c'.wrote, c'.err, c'.halt⟩) := by
  unfold settle
  by_cases h : c'.rest = []
  · simp only [h, if_true, true_and]
    rcases Nat.lt_trichotomy i th.results.length with hlt | heq | hgt
    · rw [List.getElem?_append_left hlt]
      exact ⟨Or.inl, fun h => h.elim id fun h => by omega⟩
    · subst heq
      rw [List.getElem?_append_right (Nat.le_refl _), Nat.sub_self, List.getElem?_eq_none (Nat.le_refl _)]
      simp [eq_comm]
    · rw [List.getElem?_append_right (Nat.le_of_lt hgt), List.getElem?_eq_none (Nat.le_of_lt hgt)]
      have : i - th.results.length ≠ 0 := by omega
      cases hk : i - th.results.length with
      | zero => exact absurd hk this
      | succ k => simp; omega
  · simp [h]

theorem wroteAt_settle (th : Thread) (c' : Cur) (hl : th.results.length = th.pc) (hi : c'.idx = th.pc) (i : Nat) :
    wroteAt (settle th c') i ↔ wroteNow th c' i := by
  unfold wroteAt wroteNow
  simp only [settle_results_iff]
  by_cases h : c'.rest = []
  · have hcur : (settle th c').cur = none := by simp [settle, h]
    simp only [hcur, h, true_and]
    constructor
    · rintro (⟨r, hr | ⟨hr, rfl⟩, hw⟩ | ⟨c, hc, _⟩)
      · exact Or.inl ⟨r, hr, hw⟩
      · exact Or.inr ⟨by omega, hw⟩
      · cases hc
    · rintro (⟨r, hr, hw⟩ | ⟨hidx, hw⟩)
      · exact Or.inl ⟨r, Or.inl hr, hw⟩
      · exact Or.inl ⟨_, Or.inr ⟨by omega, rfl⟩, hw⟩
  · have hcur : (settle th c').cur = some c' := by simp [settle, h]
    simp only [hcur, h, false_and, or_false, Option.some.injEq]
    constructor
    · rintro (h1 | ⟨c, rfl, h1, h2⟩)
      · exact Or.inl h1
      · exact Or.inr ⟨h1, h2⟩
    · rintro (h1 | ⟨h1, h2⟩)
      · exact Or.inl h1
      · exact Or.inr ⟨c', rfl, h1, h2⟩

theorem wroteAt_current {v : Variant} {cfg : Cfg} {th : Thread} {c : Cur} (h : th.current v cfg = some c) (i : Nat) :
    wroteAt th i ↔ wroteNow th c i := by
  unfold wroteAt wroteNow
  rcases current_cases h with hc | ⟨hc, call, _, rfl⟩
  · constructor
    · rintro (h1 | ⟨c2, hc2, h1, h2⟩)
      · exact Or.inl h1
      · rw [hc] at hc2; cases hc2; exact Or.inr ⟨h1, h2⟩
    · rintro (h1 | ⟨h1, h2⟩)
      · exact Or.inl h1
      · exact Or.inr ⟨c, hc, h1, h2⟩
  · constructor
    · rintro (h1 | ⟨c2, hc2, _⟩)
      · exact Or.inl h1
      · rw [hc] at hc2; cases hc2
    · rintro (h1 | ⟨_, h2⟩)
      · exact Or.inl h1
      · cases h2

theorem idxs_append_other (w : List Chunk) (x : Chunk) (u : Tid) (h : x.tid ≠ u ∨ x.second = false) :
    idxs (w ++ [x]) u = idxs w u := by
  unfold idxs
  rw [frames_append]
  rcases h with h | h
  · simp [frames, List.filter_append, h]
  · simp [frames, h]

theorem idxs_append_same (w : List Chunk) (x : Chunk) (h : x.second = true) :
    idxs (w ++ [x]) x.tid = idxs w x.tid ++ [x.idx] := by
  unfold idxs
  rw [frames_append]
  simp [frames, h, List.filter_append]

theorem cur_facts {v : Variant} {cfg : Cfg} {s : State} {t : Tid} {c : Cur} (M : MsgInv v cfg s)
    (hc : (s.th t).current v cfg = some c) :
    c.idx = (s.th t).pc ∧ (c.wrote = true → noWrite c.rest = true) := by
  rcases current_cases hc with h | ⟨_, call, _, rfl⟩
  · exact M.cur t c h
  · exact ⟨rfl, fun h => by cases h⟩

theorem len_after (v : Variant) (cfg : Cfg) (s : State) (t : Tid) (M : MsgInv v cfg s) (p : Shared × Cur) (u : Tid) :
    ((setTh s t (settle (s.th t) p.2) p.1).th u).results.length = ((setTh s t (settle (s.th t) p.2) p.1).th u).pc := by
  by_cases hu : u = t
  · subst hu
    rw [setTh_same]
    unfold settle
    split
    · simp [M.len u]
    · exact M.len u
  · rw [setTh_other _ _ _ _ _ hu]; exact M.len u

theorem msgInv_cur_after (v : Variant) (cfg : Cfg) (s : State) (t : Tid) (p : Shared × Cur) (M : MsgInv v cfg s)
    (hh : (s.th t).halted = false) (hpi : p.2.idx = (s.th t).pc) (hnw : p.2.wrote = true → noWrite p.2.rest = true)
    (u : Tid) (cu : Cur) (hcu : ((setTh s t (settle (s.th t) p.2) p.1).th u).cur = some cu) :
    cu.idx = ((setTh s t (settle (s.th t) p.2) p.1).th u).pc ∧ (cu.wrote = true → noWrite cu.rest = true) := by
  by_cases hu : u = t
  · subst hu
    rw [setTh_same] at hcu ⊢
    rcases settle_cases v cfg (s.th u) p.2 hh with ⟨hne, _, hs⟩ | ⟨_, hs⟩
    · rw [hs] at hcu; cases hcu
      have hpc : (settle (s.th u) p.2).pc = (s.th u).pc := by simp [settle, hne]
      exact ⟨by rw [hpc]; exact hpi, hnw⟩
    · rw [hs] at hcu; cases hcu
  · rw [setTh_other _ _ _ _ _ hu] at hcu ⊢; exact M.cur u cu hcu

theorem MsgInv.mem_now {v : Variant} {cfg : Cfg} {s : State} {t : Tid} {c : Cur} (M : MsgInv v cfg s)
    (hc : (s.th t).current v cfg = some c) (i : Nat) : i ∈ idxs s.sh.wire t ↔ wroteNow (s.th t) c i :=
  (M.mem t i).trans (wroteAt_current hc i)

theorem msgInv_same (v : Variant) (cfg : Cfg) (s : State) (t : Tid) (c : Cur) (p : Shared × Cur)
    (M : MsgInv v cfg s) (hc : (s.th t).current v cfg = some c)
    (hidx : ∀ u, idxs p.1.wire u = idxs s.sh.wire u) (hwr : p.2.wrote = c.wrote) (hi : p.2.idx = c.idx)
    (hnw : p.2.wrote = true → noWrite p.2.rest = true) :
    MsgInv v cfg (setTh s t (settle (s.th t) p.2) p.1) := by
  have hh := current_not_halted hc
  have hpi : p.2.idx = (s.th t).pc := hi.trans (cur_facts M hc).1
  refine ⟨len_after v cfg s t M p, ?_, ?_, ?_⟩
  · exact msgInv_cur_after v cfg s t p M hh hpi hnw
  · intro u
    rw [setTh_sh, hidx u]; exact M.sorted u
  · intro u i
    rw [setTh_sh, hidx u]
    by_cases hu : u = t
    · subst hu
      rw [setTh_same, wroteAt_settle _ _ (M.len u) hpi, M.mem_now hc i]
      unfold wroteNow
      rw [hi, hwr]
    · rw [setTh_other _ _ _ _ _ hu]; exact M.mem u i

theorem msgInv_fin (v : Variant) (cfg : Cfg) (s : State) (t : Tid) (c : Cur) (p : Shared × Cur) (d : FrameDesc)
    (M : MsgInv v cfg s) (hc : (s.th t).current v cfg = some c) (hnotyet : c.wrote = false)
    (hw : p.1.wire = s.sh.wire ++ [⟨t, c.idx, true, d⟩]) (hwr : p.2.wrote = true) (hi : p.2.idx = c.idx)
    (hnw : noWrite p.2.rest = true) :
    MsgInv v cfg (setTh s t (settle (s.th t) p.2) p.1) := by
  have hh := current_not_halted hc
  have hpi : p.2.idx = (s.th t).pc := hi.trans (cur_facts M hc).1
  have hidx_t : idxs p.1.wire t = idxs s.sh.wire t ++ [c.idx] := by
    rw [hw]; exact idxs_append_same _ ⟨t, c.idx, true, _⟩ rfl
  have hidx_u : ∀ u, u ≠ t → idxs p.1.wire u = idxs s.sh.wire u := by
    intro u hu; rw [hw]; exact idxs_append_other _ _ _ (Or.inl (Ne.symm hu))
  refine ⟨len_after v cfg s t M p, ?_, ?_, ?_⟩
  · exact msgInv_cur_after v cfg s t p M hh hpi fun _ => hnw
  · intro u
    rw [setTh_sh]
    by_cases hu : u = t
    · subst hu
      rw [hidx_t, List.pairwise_append]
      refine ⟨M.sorted u, by simp, ?_⟩
      intro j hj k hk
      simp only [List.mem_singleton] at hk; subst hk
      rcases (M.mem_now hc j).mp hj with ⟨rr, hrr, _⟩ | ⟨_, hwt⟩
      · have : j < (s.th u).results.length := by
          rcases Nat.lt_or_ge j (s.th u).results.length with h1 | h1
          · exact h1
          · rw [List.getElem?_eq_none h1] at hrr; cases hrr
        -- an earlier call: `j < results.length = pc = c.idx`
        have := M.len u
        have := (cur_facts M hc).1
        omega
      · rw [hnotyet] at hwt; cases hwt
    · rw [hidx_u u hu]; exact M.sorted u
  · intro u i
    rw [setTh_sh]
    by_cases hu : u = t
    · subst hu
      rw [setTh_same, wroteAt_settle _ _ (M.len u) hpi, hidx_t]
      unfold wroteNow
      rw [hi, hwr]
      simp only [List.mem_append, List.mem_singleton, M.mem_now hc i]
      unfold wroteNow
      constructor
      · rintro ((h | ⟨h, _⟩) | h)
        · exact Or.inl h
        · exact Or.inr ⟨h, trivial⟩
        · exact Or.inr ⟨h.symm, trivial⟩
      · rintro (h | ⟨h, _⟩)
        · exact Or.inl (Or.inl h)
        · exact Or.inr h.symm
    · rw [setTh_other _ _ _ _ _ hu, hidx_u u hu]; exact M.mem u i

theorem msgInv_stepN (env : Env) (v : Variant) (cfg : Cfg) (s : State) (t : Tid) (L : LockInv v cfg s)
    (M : MsgInv v cfg s) : MsgInv v cfg (stepN env v cfg s t) := by
  rcases stepN_entry env v cfg s t with e | ⟨c, st, r, hc, hr, _, _, hv, e⟩
  · rw [e]; exact M
  · rw [e]
    have d : disc (st :: r) = true := hv ▸ L.disc t
    have m := execN_moves env v t st r s.sh c
    have hi := (execN_frame env v t st r s.sh c).2
    have w := execN_writes env v t st r s.sh c
    have hwrote := (cur_facts M hc).2
    rw [hr] at hwrote
    generalize execN env v t st r s.sh c = p at m hi w
    generalize hpw : p.1.wire = pw at w
    generalize hpf : p.2.wrote = pf at w
    cases w with
    | none =>
      exact msgInv_same v cfg s t c p M hc (fun u => by rw [hpw]) hpf hi
        fun h => movesN_noWrite m (hwrote (hpf ▸ h))
    | part f hs =>
      exact msgInv_same v cfg s t c p M hc (fun u => by rw [hpw]; exact idxs_append_other _ _ u (Or.inr rfl)) hpf hi
        fun h => movesN_noWrite m (hwrote (hpf ▸ h))
    | last f hs =>
      -- the last chunk: the call has not written before, and nothing is written after it
      have hnot : c.wrote = false := by
        cases hcw : c.wrote with
        | false => rfl
        | true => simpa [noWrite, isWrite] using hwrote hcw
      have hnw : noWrite r = true := by
        simp only [disc, Bool.and_eq_true] at d; exact d.1.2.2
      cases m with
      | move m => exact msgInv_fin v cfg s t c p (descOf f c) M hc hnot hpw hpf hi (moves_noWrite m hnw)

/-- a frame description fits a call: its opcode, and its message when it is not compressed -/
def descFor (cfg : Cfg) (call : Call) (d : FrameDesc) : Prop :=
  d.op = call.op ∧
    match d.pay with
    | .plain b => b = call.msg
    | .deflated _ _ => call.src cfg = .zreg

theorem descFor_descOf (cfg : Cfg) (call : Call) (c : Cur) : descFor cfg call (descOf (call.frame cfg) c) := by
  unfold descOf Call.frame
  cases hs : call.src cfg with
  | lit b => exact ⟨rfl, src_lit cfg call b hs⟩
  | zreg =>
    simp only
    split <;> exact ⟨rfl, hs⟩

/-- per-thread facts about the call in progress: a send that has neither failed nor written has its write ahead; a
    call that has failed has not written and writes no more -/
def CurOk (th : Thread) (c : Cur) : Prop :=
  ∃ call, th.prog[c.idx]? = some call ∧
    (call.isSend = true → c.err = none → c.wrote = false → hasW2 c.rest = true) ∧
    (c.err ≠ none → c.wrote = false ∧ noWrite c.rest = true)

/-- every chunk on the wire belongs to the call it is tagged with; a finished send wrote its frame unless it raised -/
structure CallInv (v : Variant) (cfg : Cfg) (s : State) : Prop where
  cur : ∀ t c, (s.th t).current v cfg = some c → CurOk (s.th t) c
  wire : ∀ ch ∈ s.sh.wire, ∃ call, (s.th ch.tid).prog[ch.idx]? = some call ∧ descFor cfg call ch.desc
  res : ∀ (t : Tid) (i : Nat) (r : Result), (s.th t).results[i]? = some r → ∃ call : Call, (s.th t).prog[i]? = some call ∧
    (r.err ≠ none → r.wrote = false) ∧ (call.isSend = true → r.err = none → r.wrote = true)

theorem curOk_fresh (v : Variant) (cfg : Cfg) (th : Thread) (c : Cur) (call : Call)
    (hp : th.prog[th.pc]? = some call) (hc : c = { idx := th.pc, rest := compile v cfg call }) :
    CurOk th c := by
  subst hc
  exact ⟨call, hp, fun hs _ _ => (compile_send v cfg call hs).2, fun h => absurd rfl h⟩

theorem callInv_fresh (v : Variant) (cfg : Cfg) {s : State} (F : Fresh s) : CallInv v cfg s := by
  refine ⟨fun t c hc => ?_, fun ch h => (by rw [F.wire] at h; cases h), fun t i r h => (by rw [F.results] at h; simp at h)⟩
  rcases current_cases hc with h | ⟨_, call, hp, hcc⟩
  · rw [F.cur] at h; cases h
  · exact curOk_fresh v cfg _ c call hp hcc

theorem callInv_after (v : Variant) (cfg : Cfg) (s : State) (t : Tid) (p : Shared × Cur) (M : MsgInv v cfg s)
    (C : CallInv v cfg s) (hh : (s.th t).halted = false) (hcur : CurOk (s.th t) p.2)
    (hpi : p.2.rest = [] → p.2.idx = (s.th t).pc)
    (hwire : ∀ ch ∈ p.1.wire, ch ∈ s.sh.wire ∨ ∃ call, (s.th ch.tid).prog[ch.idx]? = some call ∧ descFor cfg call ch.desc) :
    CallInv v cfg (setTh s t (settle (s.th t) p.2) p.1) := by
  constructor
  · intro u cu hcu
    by_cases hu : u = t
    · subst hu
      rw [setTh_same] at hcu ⊢
      rcases settle_cases v cfg (s.th u) p.2 hh with ⟨hne, _, hs⟩ | ⟨_, hs⟩
      · rw [current_settle v cfg _ _ hh hne] at hcu
        cases hcu
        obtain ⟨call2, h1, h2⟩ := hcur
        exact ⟨call2, by rw [settle_prog]; exact h1, h2⟩
      · rcases current_cases hcu with h | ⟨_, call2, hp, hcc⟩
        · rw [hs] at h; cases h
        · exact curOk_fresh v cfg _ cu call2 hp hcc
    · rw [setTh_other _ _ _ _ _ hu] at hcu ⊢; exact C.cur u cu hcu
  · intro ch hch
    rw [setTh_sh] at hch
    rw [prog_after]
    rcases hwire ch hch with h | h
    · exact C.wire ch h
    · exact h
  · intro u i rr hrr
    by_cases hu : u = t
    · subst hu
      rw [setTh_same] at hrr ⊢
      rw [settle_prog]
      rcases (settle_results_iff _ _ _ _).mp hrr with h | ⟨hfin, hi, rfl⟩
      · exact C.res u i rr h
      · have hieq : i = p.2.idx := by
          have := M.len u
          have := hpi hfin
          omega
        obtain ⟨call2, h1, h3, h4⟩ := hcur
        refine ⟨call2, by rw [hieq]; exact h1, fun hne => (h4 hne).1, fun hs he => ?_⟩
        cases hcw : p.2.wrote with
        | true => rfl
        | false =>
          have := h3 hs he hcw
          rw [hfin] at this; cases this
    · rw [setTh_other _ _ _ _ _ hu] at hrr ⊢; exact C.res u i rr hrr

theorem callInv_stepN (env : Env) (v : Variant) (cfg : Cfg) (s : State) (t : Tid) (L : LockInv v cfg s)
    (P : PosInv v cfg s) (M : MsgInv v cfg s) (C : CallInv v cfg s) : CallInv v cfg (stepN env v cfg s t) := by
  rcases stepN_entry env v cfg s t with e | ⟨c, st, r, hc, hr, _, hh, hv, e⟩
  · rw [e]; exact C
  · rw [e]
    have d : disc (st :: r) = true := hv ▸ L.disc t
    have m := execN_moves env v t st r s.sh c
    have hi := (execN_frame env v t st r s.sh c).2
    have w := execN_writes env v t st r s.sh c
    have herr := execN_err env v t st r s.sh c
    have hcidx := cur_facts M hc
    obtain ⟨call, hcall, hsend, herrc⟩ := C.cur t c hc
    have hsrc : srcOk (call.frame cfg) call.msg (st :: r) = true := hr ▸ (P.current hc).src hcall
    rw [hr] at hsend herrc
    generalize execN env v t st r s.sh c = p at m hi w herr
    have hpi : p.2.idx = (s.th t).pc := by rw [hi]; exact hcidx.1
    have hcur' : CurOk (s.th t) p.2 := by
      refine ⟨call, by rw [hi]; exact hcall, fun hs h1 h2 => ?_, fun hne => ?_⟩
      · -- a send does not jump: it goes on or stays, and its `write2` is still ahead unless this was it
        have hnj : noJump (st :: r) = true := hr ▸ (P.current hc).noJump_send hcall hs
        simp only [noJump, List.all_cons, Bool.and_eq_true] at hnj
        have hnotjump : isJump st = false := by simpa using hnj.1
        rcases herr with ⟨he, hrest, hwr⟩ | ⟨he, _, _, _⟩
        · rw [he] at h1
          rw [hwr, Bool.or_eq_false_iff] at h2
          have := hsend hs h1 h2.2
          simp only [hasW2, List.any_cons, h2.1, Bool.false_or] at this
          rcases hrest with h | h | h
          · rw [h]; exact this
          · rw [hnotjump] at h; cases h
          · rw [h]; simp only [hasW2, List.any_cons, h2.1, Bool.false_or]; exact this
        · exact absurd h1 he
      · rcases herr with ⟨he, _, hwr⟩ | ⟨_, hin, hrest, hwr, _⟩
        · rw [he] at hne
          obtain ⟨h1, h2⟩ := herrc hne
          have hnw2 : isW2 st = false := by
            simp only [noWrite, List.all_cons, Bool.and_eq_true] at h2
            cases st <;> first | rfl | simp [isWrite] at h2
          exact ⟨by rw [hwr, hnw2, h1]; rfl, movesN_noWrite m h2⟩
        · have hcw : c.wrote = false := by
            cases hcw : c.wrote with
            | false => rfl
            | true =>
              have := hcidx.2 hcw
              rw [hr] at this
              simp only [noWrite, List.all_cons, Bool.and_eq_true] at this
              rcases hin with hin | hin
              · rw [show r.all (fun s => !isWrite s) = noWrite r from rfl, inOnly_not_noWrite d hin] at this
                cases this.2
              · rw [hin] at this; cases this.1
          exact ⟨by rw [hwr, hcw], by rw [hrest]; exact noWrite_toRelease r (disc_tail d)⟩
    refine callInv_after v cfg s t p M C hh hcur' (fun _ => hpi) fun ch hch => ?_
    have hnew : ∀ f, (st = .write1 f ∨ st = .write2 f) → descFor cfg call (descOf f c) := by
      intro f hf
      have : f = call.frame cfg := by
        simp only [srcOk, List.all_cons, Bool.and_eq_true] at hsrc
        rcases hf with h | h <;> subst h <;> simpa using hsrc.1
      exact this ▸ descFor_descOf cfg call c
    generalize hpw : p.1.wire = pw at w hch
    generalize p.2.wrote = pf at w
    cases w with
    | none => exact Or.inl hch
    | part f _ =>
      rcases List.mem_append.mp hch with h | h
      · exact Or.inl h
      · rw [List.mem_singleton.mp h]; exact Or.inr ⟨call, hcall, hnew f (Or.inl rfl)⟩
    | last f _ =>
      rcases List.mem_append.mp hch with h | h
      · exact Or.inl h
      · rw [List.mem_singleton.mp h]; exact Or.inr ⟨call, hcall, hnew f (Or.inr rfl)⟩

/-- the invariants that hold on every socket -/
structure BaseN (v : Variant) (cfg : Cfg) (s : State) : Prop where
  L : LockInv v cfg s
  P : PosInv v cfg s
  M : MsgInv v cfg s
  C : CallInv v cfg s

theorem baseN_fresh (v : Variant) (cfg : Cfg) {s : State} (F : Fresh s) : BaseN v cfg s :=
  ⟨lockInv_fresh v cfg F, posInv_fresh v cfg F, msgInv_fresh v cfg F, callInv_fresh v cfg F⟩

theorem baseN_step (env : Env) (v : Variant) (cfg : Cfg) (s : State) (t : Tid) (B : BaseN v cfg s) :
    BaseN v cfg (stepN env v cfg s t) :=
  ⟨lockInv_stepN env v cfg s t B.L, posInv_stepN env v cfg s t B.P, msgInv_stepN env v cfg s t B.L B.M,
   callInv_stepN env v cfg s t B.L B.P B.M B.C⟩

theorem baseN_run (env : Env) (v : Variant) (cfg : Cfg) (s : State) (sched : List Tid) (B : BaseN v cfg s) :
    BaseN v cfg (runN env v cfg s sched) :=
  runN_keeps (baseN_step env v cfg) s sched B

theorem BaseN.results_sound {v : Variant} {cfg : Cfg} {s : State} (B : BaseN v cfg s) {progs : Tid → List Call}
    (hp : ∀ t, (s.th t).prog = progs t) (t : Tid) (i : Nat) (r : Result) (hr : (s.th t).results[i]? = some r) :
    ∃ call, (progs t)[i]? = some call ∧ (r.err ≠ none → r.wrote = false) ∧
      (call.isSend = true → (r.wrote = true ↔ r.err = none)) := by
  obtain ⟨call, h1, h2, h3⟩ := B.C.res t i r hr
  refine ⟨call, hp t ▸ h1, h2, fun hs => ⟨fun hw => ?_, h3 hs⟩⟩
  cases he : r.err with
  | none => rfl
  | some e => rw [h2 (by rw [he]; simp)] at hw; cases hw

/-- what `C11.exact_messages` and `C11N.exact_messages` say, of any state with the base invariants -/
theorem BaseN.exact_messages {v : Variant} {cfg : Cfg} {s : State} (B : BaseN v cfg s) {progs : Tid → List Call}
    (hp : ∀ t, (s.th t).prog = progs t) :
    (∀ t i, i ∈ idxs s.sh.wire t ↔ wroteAt (s.th t) i) ∧
    (∀ t, (idxs s.sh.wire t).Nodup) ∧
    (∀ ch ∈ s.sh.wire, ∃ call, (progs ch.tid)[ch.idx]? = some call ∧ descFor cfg call ch.desc) ∧
    (∀ (t : Tid) (i : Nat) (r : Result), (s.th t).results[i]? = some r →
      ∃ call, (progs t)[i]? = some call ∧ (r.err ≠ none → r.wrote = false) ∧
        (call.isSend = true → (r.wrote = true ↔ r.err = none))) :=
  ⟨B.M.mem, fun t => (B.M.sorted t).imp (fun h => Nat.ne_of_lt h),
   fun ch hch => hp ch.tid ▸ B.C.wire ch hch, B.results_sound hp⟩

theorem exists_at {P : Tid → Bool} (h : ¬ ∀ t, P t = false) : ∃ t, P t = true :=
  Classical.byContradiction fun hn => h fun t => Bool.eq_false_iff.mpr fun hx => hn ⟨t, hx⟩

/-- `BaseN` and the shape of the two-chunk wire (`WireInv`) -/
structure Base (v : Variant) (cfg : Cfg) (s : State) : Prop extends BaseN v cfg s where
  W : WireInv v cfg s

theorem base_fresh (v : Variant) (cfg : Cfg) {s : State} (F : Fresh s) : Base v cfg s :=
  ⟨baseN_fresh v cfg F, wireInv_fresh v cfg F⟩

theorem base_step (v : Variant) (cfg : Cfg) (s : State) (t : Tid) (B : Base v cfg s) : Base v cfg (step v cfg s t) :=
  ⟨stepN_default v cfg s t ▸ baseN_step Env.two v cfg s t B.toBaseN, wireInv_step v cfg s t B.L B.W⟩

theorem base_run (v : Variant) (cfg : Cfg) (s : State) (sched : List Tid) (B : Base v cfg s) :
    Base v cfg (run v cfg s sched) :=
  run_keeps (base_step v cfg) s sched B

theorem base_final (v : Variant) (cfg : Cfg) (progs : Tid → List Call) (sched : List Tid) :
    Base v cfg (run v cfg (init progs) sched) :=
  base_run v cfg _ sched (base_fresh v cfg (fresh_init progs))

/-- the two chunks of a frame concatenate to the frame handed to `sendall`, so a wire made of
    `pairs` is byte-for-byte the concatenation of whole frames -/
theorem pairs_bytes (cfg : Cfg) (fs : List Chunk) (h : ∀ c ∈ fs, c.second = true) :
    wireBytes cfg (pairs fs) = (fs.map (frameBytes cfg)).flatten := by
  induction fs with
  | nil => rfl
  | cons c r ih =>
    have hc := h c (List.mem_cons_self ..)
    have ih' := ih (fun x hx => h x (List.mem_cons_of_mem _ hx))
    simp only [wireBytes] at ih' ⊢
    simp only [pairs, List.map_cons, List.flatten_cons, ih']
    rw [← List.append_assoc]
    congr 1
    simp [chunkBytes, hc, frameBytes]

theorem peerDecode_tags (nt : Bool) (ctx : Bytes) (fs : List Chunk) (ms : List (Tid × Nat × Bytes))
    (h : peerDecode nt ctx fs = some ms) :
    ms.map (fun x => (x.1, x.2.1)) = fs.map (fun c => (c.tid, c.idx)) := by
  induction fs generalizing ctx ms with
  | nil => simp [peerDecode] at h; subst h; rfl
  | cons f r ih =>
    simp only [peerDecode] at h
    split at h
    · cases h2 : peerDecode nt ctx r with
      | none => rw [h2] at h; cases h
      | some ms2 =>
        rw [h2] at h; simp only [Option.map_some] at h; cases h
        simp [ih _ _ h2]
    · split at h
      · cases h2 : peerDecode nt (if nt = true then [] else ctx ++ _) r with
        | none => rw [h2] at h; cases h
        | some ms2 =>
          rw [h2] at h; simp only [Option.map_some] at h; cases h
          simp [ih _ _ h2]
      · cases h

end Lomond.Threads
