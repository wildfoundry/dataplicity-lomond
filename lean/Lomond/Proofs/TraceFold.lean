/-
  Two notions that statements about a trace (newest entry first) are made of.  `Ignores f q`: the
  summary `f` (a function or a predicate of the trace) does not see an entry of kind `q` in front, hence
  not a block of them (`Ignores.append`).  `Hist φ tr`: `φ o t` holds at every position `tr = l ++ o :: t`
  (`t` is what happened before the entry `o`); a predicate defined by that recursion is an `IsHist`
  (`hist_of_rec`), and `.at`, `.suffix`, `.ignores` say what is known of it at a position, on a suffix and
  under entries it says nothing about.  Instances: `PollGaps` (TimerInv), `CtoOK`, `TickU` (TimerRun), the
  monitor's rules (Monitor, MonitorRun).
-/
import Lomond.Model.Core
namespace Lomond.Core
open Lomond

def Ignores {α : Sort _} (f : List Obs → α) (q : Obs → Prop) : Prop := ∀ o t, q o → f (o :: t) = f t

section
variable {α : Sort _} {f : List Obs → α} {q : Obs → Prop} {P : List Obs → Prop}

theorem Ignores.append (h : Ignores f q) (l t : List Obs) (hl : ∀ o ∈ l, q o) : f (l ++ t) = f t := by
  induction l with
  | nil => rfl
  | cons o r ih =>
    rw [List.cons_append, h o _ (hl o List.mem_cons_self)]
    exact ih (fun o ho => hl o (List.mem_cons_of_mem _ ho))

theorem Ignores.of_iff (h : ∀ o t, q o → (P (o :: t) ↔ P t)) : Ignores P q := fun o t ho => propext (h o t ho)

theorem Ignores.append_iff (h : Ignores P q) (l t : List Obs) (hl : ∀ o ∈ l, q o) : P (l ++ t) ↔ P t :=
  iff_of_eq (h.append l t hl)

theorem any_ignores (p : Obs → Bool) : Ignores (fun tr => tr.any p) (fun o => p o = false) :=
  fun o t h => by simp only [List.any_cons, h, Bool.false_or]

theorem drop_prefix (h : ∀ o t, q o → P (o :: t) → P t) (l t : List Obs) (hl : ∀ o ∈ l, q o)
    (hp : P (l ++ t)) : P t := by
  induction l with
  | nil => exact hp
  | cons o r ih => exact ih (fun o ho => hl o (List.mem_cons_of_mem _ ho)) (h o _ (hl o List.mem_cons_self) hp)

end

def Hist (φ : Obs → List Obs → Prop) : List Obs → Prop
  | [] => True
  | o :: t => φ o t ∧ Hist φ t

section
variable {φ ψ : Obs → List Obs → Prop}

theorem Hist.suffix : ∀ (l : List Obs) {t : List Obs}, Hist φ (l ++ t) → Hist φ t
  | [], _, h => h
  | _ :: l, _, h => Hist.suffix l h.2

theorem Hist.at {l t : List Obs} {o : Obs} (h : Hist φ (l ++ o :: t)) : φ o t := (Hist.suffix l h).1

theorem Hist.mono (hm : ∀ o t, φ o t → ψ o t) : ∀ {tr : List Obs}, Hist φ tr → Hist ψ tr
  | [], _ => trivial
  | _ :: _, h => ⟨hm _ _ h.1, Hist.mono hm h.2⟩

theorem hist_of_rec {P : List Obs → Prop} (h0 : P []) (hc : ∀ o t, P (o :: t) ↔ φ o t ∧ P t) :
    ∀ tr, P tr ↔ Hist φ tr
  | [] => iff_of_true h0 trivial
  | o :: t => (hc o t).trans (and_congr_right' (hist_of_rec h0 hc t))

end

def IsHist (P : List Obs → Prop) (φ : Obs → List Obs → Prop) : Prop := ∀ tr, P tr ↔ Hist φ tr

section
variable {P : List Obs → Prop} {φ : Obs → List Obs → Prop}

theorem IsHist.cons (H : IsHist P φ) (o : Obs) (t : List Obs) : P (o :: t) ↔ φ o t ∧ P t :=
  (H (o :: t)).trans (and_congr_right' (H t).symm)

theorem IsHist.at (H : IsHist P φ) {l t : List Obs} {o : Obs} (h : P (l ++ o :: t)) : φ o t := ((H _).mp h).at

theorem IsHist.suffix (H : IsHist P φ) (l : List Obs) {t : List Obs} (h : P (l ++ t)) : P t :=
  (H t).mpr (((H _).mp h).suffix l)

theorem IsHist.ignores (H : IsHist P φ) {q : Obs → Prop} (h : ∀ o t, q o → φ o t) : Ignores P q :=
  Ignores.of_iff (fun o t ho => (H.cons o t).trans ⟨fun x => x.2, fun x => ⟨h o t ho, x⟩⟩)

end

end Lomond.Core
