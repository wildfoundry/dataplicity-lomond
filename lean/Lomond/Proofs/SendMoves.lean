/-
  What a connection can do, as its write side sees it.  `Move` lists the kinds of step: a
  bookkeeping step, a Ping or Pong of the library's own, `close()` as far as the Close frame, a
  sending call of the application together with its recorded result, a recorded result without a
  frame.  Every turn of a connection (Proofs/Turn.lean) is one or two such steps (`Turn.moves`), so
  a whole connection is made of them around at most one `Connect`, the library sending nothing of
  its own before it (`conn_runAll`).  A property of the writes of a connection (every frame well
  built: Proofs/Wire; the masking-key schedule: Proofs/KeySched; compressed frames inside their
  calls: Proofs/ZNest) is then a state invariant kept by each kind of step (`Conn.keeps`).
-/
import Lomond.Proofs.Turn
namespace Lomond.Core
open Lomond Lomond.ZFrame Lomond.Core.KS

/-- trace entries that are neither a `sendall` nor the result of an application call -/
def Obs.idle : Obs → Bool
  | .wr _ | .wrz _ _ | .wrFail _ | .res _ => false
  | _ => true

/-- a bookkeeping step: configuration, application and key counter untouched, no socket gained,
    the websocket not brought back from closed or closing, only idle entries logged -/
structure Idle (s s' : Sys) : Prop where
  cfg : s'.cfg = s.cfg
  react : s'.react = s.react
  keyCtr : s'.keyCtr = s.keyCtr
  sock : s'.sockOpen = true → s.sockOpen = true
  flags : s'.closed = false → s'.closing = false → s.closed = false ∧ s.closing = false
  ext : ∃ l, s'.trace = l ++ s.trace ∧ ∀ o ∈ l, o.idle = true

theorem Idle.same {s s' : Sys} (hc : s'.cfg = s.cfg) (hr : s'.react = s.react) (hk : s'.keyCtr = s.keyCtr)
    (hs : s'.sockOpen = true → s.sockOpen = true)
    (hf : s'.closed = false → s'.closing = false → s.closed = false ∧ s.closing = false)
    (ht : s'.trace = s.trace) : Idle s s' :=
  ⟨hc, hr, hk, hs, hf, [], ht, nofun⟩

theorem Idle.entry {s s' : Sys} (o : Obs) (ho : o.idle = true) (hc : s'.cfg = s.cfg) (hr : s'.react = s.react)
    (hk : s'.keyCtr = s.keyCtr) (hs : s'.sockOpen = true → s.sockOpen = true)
    (hf : s'.closed = false → s'.closing = false → s.closed = false ∧ s.closing = false)
    (ht : s'.trace = o :: s.trace) : Idle s s' :=
  ⟨hc, hr, hk, hs, hf, [o], ht, fun x hx => by rw [List.mem_singleton.1 hx]; exact ho⟩

theorem idle_tick (s : Sys) (dt : Nat) : Idle s (tick s dt) := by
  by_cases h : dt ≠ 0
  · exact .entry (.tick (s.now + dt)) rfl rfl rfl rfl id And.intro (if_pos h)
  · exact .same rfl rfl rfl id And.intro (if_neg h)

/-- one step of a connection, as far as its writes, its key counter and the results it records
    go; `L`: the library may send Pings and Pongs of its own -/
inductive Move (L : Prop) : Sys → Sys → Prop
  | idle {s s' : Sys} : Idle s s' → Move L s s'
  /-- an automatic Ping, or the Pong that answers a Ping.  No result is recorded, so one made
      without a socket would draw a key that no entry accounts for: hence `L` -/
  | lib {s s' : Sys} {op : Nat} {pl : Bytes} {r : ActRes} : L → sendFrame op pl none s = .ok r s' →
      op = Gen.opPing ∨ op = Gen.opPong → pl.length ≤ 125 → Move L s s'
  /-- `WebSocket.close` that gets as far as `session.send`: the Close frame, then closing -/
  | close {s s' : Sys} {pl : Bytes} {r : ActRes} {t : Nat} : sendFrame Gen.opClose pl none s = .ok r s' →
      (s.cfg.v.closeArgs = true → pl.length ≤ 125) →
      Move L s { s' with closing := true, sentCloseTime := some t }
  /-- `send_text` / `send_binary` / `send_ping` / `send_pong` as a whole: the frame (a data frame
      compressed or not) and the recorded result.  Frame and result are one step: between them the
      key counter is ahead of the refusals recorded, and a compressed write is not yet followed
      by its result. -/
  | call {s s' : Sys} {op : Nat} {pl : Bytes} {c : Option Bytes} {r : ActRes} : sendFrame op pl c s = .ok r s' →
      op = 1 ∨ op = 2 ∨ ((op = 9 ∨ op = 10) ∧ c = none ∧ pl.length ≤ 125) →
      (Small s.react → c = none → pl.length < 2 ^ 63) → Move L s (resState s' r)
  /-- the result of an application call that sent nothing, or of `close()`, is recorded -/
  | res {s : Sys} (r : ActRes) : isRefusal (.res r) = false → Move L s (resState s r)

inductive Moves (L : Prop) : Sys → Sys → Prop
  | refl (s : Sys) : Moves L s s
  | tail {s s1 s2 : Sys} : Moves L s s1 → Move L s1 s2 → Moves L s s2

variable {L : Prop}

theorem Move.one {s s' : Sys} (h : Move L s s') : Moves L s s' := .tail (.refl s) h

theorem Idle.moves {s s' : Sys} (h : Idle s s') : Moves L s s' := (Move.idle h).one

theorem Moves.trans {a b c : Sys} (h1 : Moves L a b) (h2 : Moves L b c) : Moves L a c := by
  induction h2 with
  | refl => exact h1
  | tail _ m ih => exact .tail ih m

theorem Moves.keeps {I : Sys → Prop} (step : ∀ {s s'}, I s → Move L s s' → I s') {s s' : Sys} (h : Moves L s s')
    (h0 : I s) : I s' := by
  induction h with
  | refl => exact h0
  | tail _ m ih => exact step ih m

theorem idle_sockClosed (s : Sys) : Idle s (sockClosed s) := by
  unfold sockClosed
  split
  · exact .entry .sockClose rfl rfl rfl rfl nofun And.intro rfl
  · exact .same rfl rfl rfl id And.intro rfl

theorem Called.moves {s s' : Sys} (h : Called s s') : Moves L s s' := by
  cases h with
  | res r hr => exact (Move.res r hr).one
  | send h hop hs _ => exact (Move.call h hop hs).one
  | close _ _ h hl => exact .tail (Move.close h hl).one (.res .ok rfl)
  | sessionClose => exact .tail (idle_sockClosed s).moves (.res .ok rfl)

theorem Turn.moves {s s' : Sys} (h : Turn L s s') : Moves L s s' := by
  cases h with
  | silent h =>
    exact Idle.moves (.same h.cfg h.react h.keyCtr (fun hs => h.sockOpen ▸ hs) (fun c1 c2 => ⟨h.closed ▸ c1, h.closing ▸ c2⟩) h.trace)
  | tick dt => exact (idle_tick s dt).moves
  | polled => exact Idle.moves (.same rfl rfl rfl id And.intro rfl)
  | pinged _ _ => exact Idle.moves (.same rfl rfl rfl id And.intro rfl)
  | ev e _ => exact Idle.moves (.entry (.ev e) rfl rfl rfl rfl id And.intro rfl)
  | ready p d => exact Idle.moves (.entry (.ev _) rfl rfl rfl rfl id And.intro rfl)
  | pong d => exact Idle.moves (.entry (.ev _) rfl rfl rfl rfl id And.intro rfl)
  | autoPong d hL _ hl h =>
    exact .tail (Move.lib hL h (.inr rfl) hl).one
      (.idle (.entry (.ev (.ping d)) rfl rfl rfl rfl id And.intro rfl))
  | autoPing hL h => exact (Move.lib hL h (.inl rfl) (Nat.zero_le _)).one
  | called h => exact h.moves
  | abandon w => exact Idle.moves (.same rfl rfl rfl id And.intro rfl)
  | libClose _ _ _ h hl => exact (Move.close h hl).one
  | sockClosed _ => exact (idle_sockClosed s).moves
  | closedSet _ => exact Idle.moves (.same rfl rfl rfl id (fun c _ => by simp at c) rfl)
  | closeAcked _ => exact Idle.moves (.same rfl rfl rfl id (fun _ c => by simp at c) rfl)
  | selClosed _ => exact Idle.moves (.entry .selClose rfl rfl rfl rfl id And.intro rfl)
  | incomplete => exact Idle.moves (.entry .incomplete rfl rfl rfl rfl id And.intro rfl)

theorem Reach.moves {s s' : Sys} (h : Reach L s s') : Moves L s s' := by
  induction h with
  | refl => exact .refl _
  | tail _ m ih => exact ih.trans m.moves

/-- steps of the application alone; or those, `Connect`, then steps of application and library -/
def Conn (s s' : Sys) : Prop :=
  Moves False s s' ∨ ∃ s1 s2, Moves False s s1 ∧ Connect s1 s2 ∧ Moves True s2 s'

theorem conn_runAll (cfg : Cfg) (react : React) (env : List EnvStep) :
    Conn { cfg := cfg, react := react, env := env } (runAll cfg react env) :=
  (runAll_turns cfg react env).elim (fun h => .inl h.moves)
    (fun ⟨s1, s2, h1, c, h2⟩ => .inr ⟨s1, s2, h1.moves, c, h2.moves⟩)

theorem Conn.keeps {I J : Sys → Prop} (hI : ∀ {s s'}, I s → Move False s s' → I s')
    (hJ : ∀ {s s'}, J s → Move True s s' → J s') (hc : ∀ {s s'}, I s → Connect s s' → J s') {s s' : Sys}
    (h : Conn s s') (h0 : I s) : I s' ∨ J s' := by
  rcases h with h | ⟨s1, s2, h1, c, h2⟩
  · exact .inl (h.keeps hI h0)
  · exact .inr (h2.keeps hJ (hc (h1.keeps hI h0) c))

end Lomond.Core
