/-
  The automatic-Ping grid (C15): the session times of the library's own Ping frames, read off the trace
  (`pingStamps`), never fall twice into one period `((k-1)·r, k·r]` (`Grid`, `GInv`).  That `GInv` holds at
  the end of every connection is read off the automatic-Ping invariant of `Proofs/TimerRun.lean`, which
  carries the rule along: stamps and `_next_ping` change at `_check_auto_ping` and at Ready only.
  Attribution: a Ping frame on the trace belongs to the application iff the result token `.res _` of the
  call directly follows it (that is how `doAct` logs every call); the library's own are the others.
-/
import Lomond.Proofs.TimerInv
import Lomond.Proofs.GenTie
namespace Lomond.Core.Timers
open Lomond Lomond.Core Lomond.Core.Lift Lomond.Core.Pong

theorem ceilDiv_mul_ge (t r k : Nat) (hr : 0 < r) (h : (k - 1) * r < t) : k * r ≤ ceilDiv t r * r := by
  have h1 := le_ceilDiv_mul t r hr
  have h2 : (k - 1) * r < ceilDiv t r * r := Nat.lt_of_lt_of_le h h1
  have h3 : k - 1 < ceilDiv t r := Nat.lt_of_mul_lt_mul_right h2
  exact Nat.mul_le_mul_right r (by omega)

def _root_.Lomond.Core.Obs.tmIsRes : Obs → Bool
  | .res _ => true
  | _ => false

def isPingFrame (b : Bytes) : Bool := b.head? == some (128 + Gen.opPing)

def _root_.Lomond.Core.Obs.tmPingWr : Obs → Bool
  | .wr b => isPingFrame b
  | _ => false

/-- scanning from the newest entry; `fl`: the next-newer entry is a result token -/
def stampsAux : Bool → List Obs → List Nat
  | _, [] => []
  | fl, o :: t =>
    if o.tmIsReady then []
    else (if !fl && o.tmPingWr && (readyAt t).isSome then [sessOf t] else []) ++ stampsAux o.tmIsRes t

/-- session times (newest first) of the Ping frames written since the newest Ready that are not
    followed by the result token of an application call: the library's automatic Pings -/
def pingStamps (tr : List Obs) : List Nat := stampsAux false tr

/-- **the grid rule**: for stamps `q₁ (newest), q₂, …`: `ping_rate ≠ 0`, `⌈q₁/r⌉·r < B`, and
    `⌈qᵢ₊₁/r⌉·r < qᵢ` — each Ping lies strictly after the end of the period of the previous one -/
def Grid (r : Nat) : Nat → List Nat → Prop
  | _, [] => True
  | B, q :: rest => r ≠ 0 ∧ ceilDiv q r * r < B ∧ Grid r q rest

theorem grid_mono {r B B' : Nat} {l : List Nat} (hB : B ≤ B') (h : Grid r B l) : Grid r B' l := by
  cases l with
  | nil => trivial
  | cons q rest => exact ⟨h.1, Nat.lt_of_lt_of_le h.2.1 hB, h.2.2⟩

theorem stampsAux_ready (fl : Bool) {o : Obs} (t : List Obs) (h : o.tmIsReady = true) :
    stampsAux fl (o :: t) = [] := by
  simp [stampsAux, h]

theorem stampsAux_true_cons {o : Obs} (t : List Obs) (h : o.tmIsReady = false) :
    stampsAux true (o :: t) = stampsAux o.tmIsRes t := by
  simp [stampsAux, h]

theorem stampsAux_false_cons {o : Obs} (t : List Obs) (h : o.tmIsReady = false) :
    stampsAux false (o :: t) =
      (if (o.tmPingWr && (readyAt t).isSome) = true then [sessOf t] else []) ++ stampsAux o.tmIsRes t := by
  simp [stampsAux, h]

theorem stamps_cons_plain {o : Obs} (t : List Obs) (h1 : o.tmIsReady = false) (h2 : o.tmIsRes = false)
    (h3 : o.tmPingWr = false) : pingStamps (o :: t) = pingStamps t := by
  unfold pingStamps
  rw [stampsAux_false_cons t h1, h2, h3]
  simp

theorem stamps_ready (a : Option Http.Str) (b : Bool) (t : List Obs) :
    pingStamps (.ev (.ready a b) :: t) = [] := rfl

theorem stamps_ping (b : Bytes) (t : List Obs) (hb : isPingFrame b = true) :
    pingStamps (.wr b :: t) =
      if (readyAt t).isSome then sessOf t :: pingStamps t else pingStamps t := by
  unfold pingStamps
  rw [stampsAux_false_cons t rfl]
  have e1 : (Obs.wr b).tmPingWr = true := hb
  have e2 : (Obs.wr b).tmIsRes = false := rfl
  rw [e1, e2]
  cases (readyAt t).isSome <;> simp

theorem stamps_res_cons (r : ActRes) (t : List Obs) : pingStamps (.res r :: t) = stampsAux true t := rfl

theorem stamps_res_write (r : ActRes) {o : Obs} (t : List Obs) (h1 : o.tmIsReady = false)
    (h2 : o.tmIsRes = false) : pingStamps (.res r :: o :: t) = pingStamps t := by
  rw [stamps_res_cons, stampsAux_true_cons t h1, h2]; rfl

/-- clock and Ready time are what the trace says; the library's Ping stamps obey `Grid` below `_next_ping` -/
structure GInv (s : Sys) : Prop where
  now : s.now = clockOf s.trace
  start : s.startTime = readyAt s.trace
  grid : Grid s.cfg.pingRate (s.nextPing + 1) (pingStamps s.trace)
  /-- `_next_ping` is always a multiple of the rate (0 at Ready, `⌈t/r⌉·r` afterwards) -/
  mult : ∃ k, s.nextPing = k * s.cfg.pingRate

def _root_.Lomond.Core.Obs.tmGneutral (o : Obs) : Bool := o.tmTickVal.isNone && !o.tmIsReady && !o.tmIsRes && !o.tmPingWr

theorem gneutral_iff (o : Obs) :
    o.tmGneutral = true ↔ o.tmTickVal = none ∧ o.tmIsReady = false ∧ o.tmIsRes = false ∧ o.tmPingWr = false := by
  unfold Obs.tmGneutral
  simp only [Bool.and_eq_true, Bool.not_eq_eq_eq_not, Bool.not_true, Option.isNone_iff_eq_none, and_assoc]

theorem ginv_cons_gneutral {o : Obs} (t : List Obs) (ho : o.tmGneutral = true) :
    clockOf (o :: t) = clockOf t ∧ readyAt (o :: t) = readyAt t ∧ pingStamps (o :: t) = pingStamps t := by
  obtain ⟨h1, h2, h3, h4⟩ := (gneutral_iff o).mp ho
  exact ⟨clockOf_cons_of t h1, readyAt_cons_of t h2, stamps_cons_plain t h2 h3 h4⟩

theorem append_gneutral (l t : List Obs) (h : ∀ o ∈ l, Obs.tmGneutral o = true) :
    clockOf (l ++ t) = clockOf t ∧ readyAt (l ++ t) = readyAt t ∧ pingStamps (l ++ t) = pingStamps t :=
  ⟨Ignores.append (fun _ t ho => (ginv_cons_gneutral t ho).1) l t h,
   Ignores.append (fun _ t ho => (ginv_cons_gneutral t ho).2.1) l t h,
   Ignores.append (fun _ t ho => (ginv_cons_gneutral t ho).2.2) l t h⟩

theorem not_pingFrame_of_head {b : Bytes} {op : Nat} (h : b.head? = some (128 + op)) (hop : op ≠ Gen.opPing) :
    isPingFrame b = false := by
  unfold isPingFrame
  rw [h]
  simp only [beq_eq_false_iff_ne, ne_eq, Option.some.injEq]
  omega

theorem autoPing_step (s : Sys) (hd : pingDue s) :
    (¬ Open s ∧ checkAutoPing s = .ok () (keyDrawn (pingMark s))) ∨
    (Open s ∧ ∃ o b, checkAutoPing s = .ok () (sentState (pingMark s) o) ∧ (o = .wr b ∨ o = .wrFail b) ∧
      isPingFrame b = true) := by
  rw [checkAutoPing_fires s hd]
  rcases sendFrame_obs Gen.opPing [] none (pingMark s) with ⟨r, e, hn⟩ | ⟨ho, r, o, d, z, e, hf, hsa⟩
  · exact .inl ⟨fun ho => absurd ((build_none _ _ _ _ _ _ _).mp (hn ho)) (by decide), by rw [bind_ok e]; rfl⟩
  · cases hf with
    | frame hb =>
      refine .inr ⟨ho, o, d, by rw [bind_ok e]; rfl, ?_, ?_⟩
      · cases hsa with
        | fail _ _ => exact .inr rfl
        | wr _ => exact .inl rfl
      · have := build_head _ _ _ _ hb
        unfold isPingFrame; rw [this]; rfl

theorem ginv_checkAutoPing (s : Sys) (h : GInv s) : GInv (checkAutoPing s).state := by
  by_cases hd : pingDue s
  · have hrpos : 0 < s.cfg.pingRate := Nat.pos_of_ne_zero hd.1
    have hs := sessionTime_of h.start h.now
    have hle := le_ceilDiv_mul (sessionTime s) s.cfg.pingRate hrpos
    have ht := hd.2
    -- the old stamps fit under the new bound
    have hold : Grid s.cfg.pingRate (sessionTime s) (pingStamps s.trace) := grid_mono (by omega) h.grid
    have hnew : Grid s.cfg.pingRate ((pingMark s).nextPing + 1) (pingStamps s.trace) :=
      grid_mono (by show sessionTime s ≤ ceilDiv _ _ * _ + 1; omega) hold
    rcases autoPing_step s hd with ⟨_, e⟩ | ⟨_, o, b, e, ho, hb⟩ <;> rw [e]
    · exact ⟨h.now, h.start, hnew, ⟨_, rfl⟩⟩
    · have o1 : o.tmTickVal = none ∧ o.tmIsReady = false := by rcases ho with rfl | rfl <;> exact ⟨rfl, rfl⟩
      refine ⟨(clockOf_cons_of _ o1.1).symm ▸ h.now, (readyAt_cons_of _ o1.2).symm ▸ h.start, ?_, ⟨_, rfl⟩⟩
      show Grid s.cfg.pingRate ((pingMark s).nextPing + 1) (pingStamps (o :: s.trace))
      rcases ho with rfl | rfl
      · rw [stamps_ping b s.trace hb]
        split
        · exact ⟨hd.1, by show _ * _ < _ * _ + 1; rw [← hs]; omega, by rw [← hs]; exact hold⟩
        · exact hnew
      · rw [stamps_cons_plain _ rfl rfl rfl]; exact hnew
  · rw [checkAutoPing_quiet s hd]; exact h

theorem ginv_tick (s : Sys) (dt : Nat) (h : GInv s) : GInv (tick s dt) := by
  by_cases h0 : dt = 0
  · subst h0; exact h
  · rw [tick_pos s dt h0]
    exact ⟨rfl, h.start, by
      show Grid s.cfg.pingRate (s.nextPing + 1) (pingStamps (.tick (s.now + dt) :: s.trace))
      rw [stamps_cons_plain _ rfl rfl rfl]; exact h.grid, h.mult⟩

/-- before any Ready there are no stamps (whatever the upgrade request's bytes look like) -/
theorem stampsAux_notReady : ∀ (fl : Bool) (tr : List Obs), readyAt tr = none → stampsAux fl tr = []
  | _, [], _ => rfl
  | fl, o :: t, h => by
    have hr : o.tmIsReady = false := by
      cases hx : o.tmIsReady with
      | false => rfl
      | true => simp [readyAt, hx] at h
    have ht : readyAt t = none := by rw [readyAt_cons_of t hr] at h; exact h
    simp [stampsAux, hr, ht, stampsAux_notReady _ t ht]

theorem grid_all_lt {r B : Nat} {l : List Nat} (h : Grid r B l) : ∀ q ∈ l, ceilDiv q r * r < B := by
  induction l generalizing B with
  | nil => intro q hq; cases hq
  | cons q0 rest ih =>
    intro q hq
    rcases List.mem_cons.mp hq with e | hm
    · subst e; exact h.2.1
    · have h1 := ih h.2.2 q hm
      have hr : 0 < r := Nat.pos_of_ne_zero h.1
      have := le_ceilDiv_mul q0 r hr
      have := h.2.1
      omega

theorem grid_suffix {r B : Nat} (l1 : List Nat) {l2 : List Nat} (h : Grid r B (l1 ++ l2)) :
    ∃ B', Grid r B' l2 := by
  induction l1 generalizing B with
  | nil => exact ⟨B, h⟩
  | cons q rest ih => exact ih h.2.2

theorem grid_pairwise {r B : Nat} {l1 l2 : List Nat} {qn qo : Nat}
    (h : Grid r B (l1 ++ qn :: l2)) (ho : qo ∈ l2) : r ≠ 0 ∧ ceilDiv qo r * r < qn := by
  obtain ⟨B', h'⟩ := grid_suffix l1 h
  exact ⟨h'.1, grid_all_lt h'.2.2 qo ho⟩

theorem grid_not_same_period {r B : Nat} {l1 l2 : List Nat} {qn qo : Nat}
    (h : Grid r B (l1 ++ qn :: l2)) (ho : qo ∈ l2) (k : Nat) :
    ¬ ((k - 1) * r < qo ∧ qn ≤ k * r) := by
  intro ⟨h1, h2⟩
  obtain ⟨hr, hlt⟩ := grid_pairwise h ho
  have := ceilDiv_mul_ge qo r k (Nat.pos_of_ne_zero hr) h1
  omega

theorem grid_nil_of_zero {B : Nat} {l : List Nat} (h : Grid 0 B l) : l = [] := by
  cases l with
  | nil => rfl
  | cons q rest => exact absurd rfl h.1

end Lomond.Core.Timers
