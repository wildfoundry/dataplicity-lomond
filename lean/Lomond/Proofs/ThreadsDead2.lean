/-
  The dead socket, part 2: a call caught at its write by the shut.

    * From the position invariant `PosInv`: a call that took its alternative continuation (`halt`) has no write ahead, and
      in the program of every call other than `.connect` no early return / branch follows a write (`wnj`).  So a call of
      the application standing at a write has `halt = false` and runs straight to its end.
    * `Doomed`: a call that stands at its first write step on a shut socket fails there with `TransportFail`, keeps that error,
      writes nothing, and returns with exactly `⟨false, some .transport, false⟩`.
-/
import Lomond.Proofs.ThreadsN
import Lomond.Proofs.ThreadsDead

namespace Lomond.Threads
open Lomond

/-- behind every write step of the program there is no early return and no branch -/
def wnj : List Step → Bool
  | [] => true
  | st :: r => wnj r && (!isWrite st || noJump r)

theorem wnj_tail {st : Step} {r : List Step} (h : wnj (st :: r) = true) : wnj r = true := by
  simp only [wnj, Bool.and_eq_true] at h; exact h.1

theorem wnj_noWrite (r : List Step) (h : noWrite r = true) : wnj r = true := by
  induction r with
  | nil => rfl
  | cons st r ih =>
    simp only [noWrite, List.all_cons, Bool.and_eq_true] at h
    simp only [wnj, Bool.and_eq_true, Bool.or_eq_true]
    exact ⟨ih h.2, Or.inl h.1⟩

theorem wnj_at_write {st : Step} {r : List Step} (h : wnj (st :: r) = true) (hw : isWrite st = true) :
    noJump r = true := by
  simp only [wnj, Bool.and_eq_true, Bool.or_eq_true, hw] at h
  rcases h.2 with h2 | h2
  · cases h2
  · exact h2

theorem compile_wnj (v : Variant) (cfg : Cfg) (call : Call) (h : call ≠ .connect) : wnj (compile v cfg call) = true := by
  cases call <;> first | exact absurd rfl h | skip
  all_goals
    simp only [compile, sendData, closeBody, writeProg, checks]
    (repeat' split) <;> rfl

theorem exec_halt_nj (v : Variant) (t : Tid) (st : Step) (r : List Step) (sh : Shared) (c : Cur)
    (h : isJump st = false) : (exec v t st r sh c).2.halt = c.halt := by
  rcases exec_shape v t st r sh c with ⟨h1, _⟩ | ⟨_, hj, _⟩
  · exact h1
  · rw [h] at hj; cases hj

theorem PosInv.wnj {v : Variant} {cfg : Cfg} {s : State} (P : PosInv v cfg s) {t : Tid} {c : Cur} {call : Call}
    (hc : (s.th t).current v cfg = some c) (hcall : (s.th t).prog[c.idx]? = some call) (hne : call ≠ .connect) :
    wnj c.rest = true := by
  refine (P.current hc).obeys ⟨rfl, fun _ _ => wnj_tail⟩ (fun call' h' => compile_wnj v cfg call' ?_)
    (fun a => wnj_noWrite _ (alt_noWrite v a))
  rw [hcall] at h'; cases h'; exact hne

theorem PosInv.halt_at_write {v : Variant} {cfg : Cfg} {s : State} (P : PosInv v cfg s) {t : Tid} {c : Cur}
    (hc : (s.th t).current v cfg = some c) (hw : atW c.rest = true) : c.halt = false := by
  cases hx : c.halt with
  | false => rfl
  | true =>
    have := atW_noWrite ((P.current hc).halt_noWrite hx)
    rw [hw] at this; cases this

theorem stepN_form (env : Env) (v : Variant) (cfg : Cfg) (s : State) (u : Tid) :
    stepN env v cfg s u = s ∨ ∃ p : Shared × Cur, stepN env v cfg s u = setTh s u (settle (s.th u) p.2) p.1 := by
  rcases stepN_entry env v cfg s u with e | ⟨c, st, r, _, _, _, _, _, e⟩
  · exact Or.inl e
  · exact Or.inr ⟨_, e⟩

theorem stepN_other (env : Env) (v : Variant) (cfg : Cfg) (s : State) (u t : Tid) (h : t ≠ u) :
    (stepN env v cfg s u).th t = s.th t := by
  rcases stepN_form env v cfg s u with e | ⟨p, e⟩ <;> rw [e]
  exact setTh_other _ _ _ _ _ h

theorem stepN_results (env : Env) (v : Variant) (cfg : Cfg) (s : State) (t : Tid) (i : Nat) (x : Result)
    (h : (s.th t).results[i]? = some x) : ((stepN env v cfg s t).th t).results[i]? = some x := by
  rcases stepN_form env v cfg s t with e | ⟨p, e⟩ <;> rw [e]
  · exact h
  · rw [setTh_same]; exact (settle_results_iff _ _ _ _).mpr (Or.inl h)

/-- where call `i` of thread `t` stands: at its first write step; failed (the error register holds `transport`, nothing
    written, no alternative continuation taken, a straight program without writes ahead); returned with exactly that -/
inductive Doomed (v : Variant) (cfg : Cfg) (s : State) (t : Tid) (i : Nat) : Prop
  | atWrite (c : Cur) (f : FrameSrc) (r : List Step) : (s.th t).current v cfg = some c → c.idx = i →
      c.rest = .write1 f :: r → Doomed v cfg s t i
  | failed (c : Cur) : (s.th t).current v cfg = some c → c.idx = i → c.err = some .transport → c.wrote = false →
      c.halt = false → noWrite c.rest = true → noJump c.rest = true → Doomed v cfg s t i
  | returned : (s.th t).results[i]? = some ⟨false, some .transport, false⟩ → Doomed v cfg s t i

theorem doomed_stepN (env : Env) (v : Variant) (cfg : Cfg) (s : State) (t u : Tid) (i : Nat) (call : Call)
    (B : BaseN v cfg s) (hs : s.sh.sockShut = true)
    (hcall : (s.th t).prog[i]? = some call) (hne : call ≠ .connect) (D : Doomed v cfg s t i) :
    Doomed v cfg (stepN env v cfg s u) t i := by
  by_cases hu : t = u
  · subst hu
    cases D with
    | returned h => exact .returned (stepN_results env v cfg s t i _ h)
    | atWrite c f r hc hi hr =>
      have hh := current_not_halted hc
      have hv : view v cfg (s.th t) = .write1 f :: r := by rw [view_of_current hc, hr]
      have d : disc (.write1 f :: r) = true := hv ▸ B.L.disc t
      have hne' : toRelease r ≠ [] := holds_ne_nil (holds_toRelease _ (disc_w1 d).1)
      have hatw : atW c.rest = true := by rw [hr]; rfl
      rw [stepN_dead_write env v cfg s t c _ r hc hr rfl hs]
      have hcw : c.wrote = false := not_wrote_at_write B.M hc hatw
      have hch : c.halt = false := B.P.halt_at_write hc hatw
      refine .failed { c with rest := toRelease r, err := some .transport } ?_ hi rfl hcw hch
        (noWrite_toRelease r (disc_tail d)) ?_
      · rw [setTh_same]; exact current_settle v cfg _ _ hh hne'
      · have hw := B.P.wnj hc (by rw [hi]; exact hcall) hne
        rw [hr] at hw
        exact all_suffix (toRelease_suffix r) (wnj_at_write hw rfl)
    | failed c hc hi he hw hhalt hnw hnj =>
      have hat : atW (view v cfg (s.th t)) = false := by rw [view_of_current hc]; exact atW_noWrite hnw
      rw [stepN_eq_step env v cfg s t hat]
      rcases step_cases v cfg s t with e | ⟨c2, st, r, hc2, hr, hb, _, _, e⟩
      · rw [e]; exact .failed c hc hi he hw hhalt hnw hnj
      · rw [hc] at hc2; cases hc2
        rw [e]
        have hh := current_not_halted hc
        have hv : view v cfg (s.th t) = st :: r := by rw [view_of_current hc, hr]
        have d : disc (st :: r) = true := hv ▸ B.L.disc t
        rw [hr] at hnw hnj
        simp only [noWrite, List.all_cons, Bool.and_eq_true] at hnw
        simp only [noJump, List.all_cons, Bool.and_eq_true] at hnj
        have hnwst : isWrite st = false := by simpa using hnw.1
        have hnjst : isJump st = false := by simpa using hnj.1
        have hw2 : isW2 st = false := by cases st <;> first | rfl | cases hnwst
        have m := exec_moves v t st r s.sh c
        have herr := exec_err v t st r s.sh c
        have hhl := exec_halt_nj v t st r s.sh c hnjst
        have hidx := exec_idx v t st r s.sh c
        generalize exec v t st r s.sh c = p at m herr hhl hidx
        rcases herr with ⟨h1, h2, h3⟩ | ⟨_, h2, _, _⟩
        · have hrest : p.2.rest = r := by
            rcases h2 with h | h
            · exact h
            · rw [hnjst] at h; cases h
          have hwr : p.2.wrote = false := by rw [h3, hw2, hw]; rfl
          by_cases hfin : p.2.rest = []
          · refine .returned ?_
            rw [setTh_same]
            have hlen : (s.th t).results.length = i := by
              rw [B.M.len t, ← (cur_facts B.M hc).1, hi]
            refine (settle_results_iff _ _ _ _).mpr (Or.inr ⟨hfin, hlen.symm, ?_⟩)
            rw [hwr, h1, he, hhl, hhalt]
          · refine .failed p.2 ?_ (by rw [hidx]; exact hi) (by rw [h1]; exact he) hwr (by rw [hhl]; exact hhalt)
              (by rw [hrest]; exact hnw.2) (by rw [hrest]; exact hnj.2)
            rw [setTh_same]; exact current_settle v cfg _ _ hh hfin
        · rcases h2 with h | h
          · exact (Bool.eq_false_iff.mp (inOnly_not_noWrite d h) hnw.2).elim
          · rw [hnwst] at h; cases h
  · have e := stepN_other env v cfg s u t hu
    cases D with
    | returned h => exact .returned (by rw [e]; exact h)
    | atWrite c f r hc hi hr => exact .atWrite c f r (by rw [e]; exact hc) hi hr
    | failed c hc hi he hw hhalt hnw hnj => exact .failed c (by rw [e]; exact hc) hi he hw hhalt hnw hnj

theorem doomed_runN (env : Env) (v : Variant) (cfg : Cfg) (s : State) (sched : List Tid) (t : Tid) (i : Nat)
    (call : Call) (B : BaseN v cfg s) (hs : s.sh.sockShut = true)
    (hcall : (s.th t).prog[i]? = some call) (hne : call ≠ .connect) (D : Doomed v cfg s t i) :
    Doomed v cfg (runN env v cfg s sched) t i :=
  (runN_keeps (I := fun s' => BaseN v cfg s' ∧ s'.sh.sockShut = true ∧ (s'.th t).prog[i]? = some call ∧ Doomed v cfg s' t i)
    (fun s' u h => ⟨baseN_step env v cfg s' u h.1, (stepN_shut env v cfg s' u h.2.1).2, by rw [stepN_prog]; exact h.2.2.1,
      doomed_stepN env v cfg s' t u i call h.1 h.2.1 h.2.2.1 hne h.2.2.2⟩) s sched ⟨B, hs, hcall, D⟩).2.2.2

theorem doomed_result {v : Variant} {cfg : Cfg} {s : State} {t : Tid} {i : Nat} (M : MsgInv v cfg s)
    (D : Doomed v cfg s t i) (res : Result) (hr : (s.th t).results[i]? = some res) :
    res = ⟨false, some .transport, false⟩ := by
  have hlt : i < (s.th t).pc := by
    obtain ⟨h, _⟩ := List.getElem?_eq_some_iff.mp hr
    rw [M.len t] at h; exact h
  cases D with
  | returned h => rw [h] at hr; exact (Option.some.inj hr).symm
  | atWrite c f r hc hi _ => have := (cur_facts M hc).1; omega
  | failed c hc hi _ _ _ _ _ => have := (cur_facts M hc).1; omega

end Lomond.Threads
