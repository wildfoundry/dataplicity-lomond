/-
  C11, variant `compressUnderLock`; the steps of the two-chunk socket (every socket: `Proofs/ThreadsNZ.lean`).  The peer's
  inflater context after the frames on the wire (`peerCtx`); where a thread stands with respect to the compression
  object (`zpos`) and the discipline of the repaired send (`zdisc`, `compile_zdisc`).  `ZLive` ties the compression
  object, the thread-local payload and the wire together (`ZAt` per position) and is kept by every entry but the chunks
  before the last (`zLive_stepLC`); `ZInv`: the peer can inflate what is on the wire, also after the socket has been
  shut.  Without negotiated compression: `peerDecode_plain`.
-/
import Lomond.Proofs.ThreadsN

namespace Lomond.Threads
open Lomond

/-- the peer's inflater context after these frames -/
def peerCtx (nt : Bool) : Bytes → List Chunk → Bytes
  | ctx, [] => ctx
  | ctx, f :: r =>
    match f.desc.pay with
    | .plain _ => peerCtx nt ctx r
    | .deflated _ out => peerCtx nt (if nt then [] else ctx ++ out) r

theorem peerCtx_append (nt : Bool) (ctx : Bytes) (a : List Chunk) (f : Chunk) :
    peerCtx nt ctx (a ++ [f]) =
      match f.desc.pay with
      | .plain _ => peerCtx nt ctx a
      | .deflated _ out => if nt then [] else peerCtx nt ctx a ++ out := by
  induction a generalizing ctx with
  | nil => cases h : f.desc.pay <;> simp [peerCtx, h]
  | cons g a ih =>
    simp only [List.cons_append, peerCtx]
    split <;> exact ih _

theorem peerDecode_append_plain (nt : Bool) (ctx : Bytes) (a : List Chunk) (f : Chunk) (b : Bytes)
    (hf : f.desc.pay = .plain b) :
    peerDecode nt ctx (a ++ [f]) = (peerDecode nt ctx a).map (fun ms => ms ++ [(f.tid, f.idx, b)]) := by
  induction a generalizing ctx with
  | nil => simp [peerDecode, hf]
  | cons g a ih =>
    cases hg : g.desc.pay with
    | plain b2 =>
      simp only [List.cons_append, peerDecode, hg, ih]
      cases peerDecode nt ctx a <;> simp
    | deflated c2 out2 =>
      simp only [List.cons_append, peerDecode, hg]
      split
      · rw [ih]
        cases peerDecode nt (if nt = true then [] else ctx ++ out2) a <;> simp
      · rfl

theorem peerDecode_append_defl (nt : Bool) (ctx : Bytes) (a : List Chunk) (f : Chunk) (c out : Bytes)
    (hf : f.desc.pay = .deflated c out) :
    peerDecode nt ctx (a ++ [f]) =
      (peerDecode nt ctx a).bind (fun ms => if c = peerCtx nt ctx a then some (ms ++ [(f.tid, f.idx, out)]) else none) := by
  induction a generalizing ctx with
  | nil =>
    simp only [List.nil_append, peerDecode, peerCtx, hf]
    split <;> simp_all
  | cons g a ih =>
    cases hg : g.desc.pay with
    | plain b2 =>
      simp only [List.cons_append, peerDecode, peerCtx, hg, ih]
      cases peerDecode nt ctx a with
      | none => simp
      | some ms => simp only [Option.bind_some, Option.map_some]; split <;> simp
    | deflated c2 out2 =>
      simp only [List.cons_append, peerDecode, peerCtx, hg]
      split
      · rw [ih]
        cases peerDecode nt (if nt = true then [] else ctx ++ out2) a with
        | none => simp
        | some ms => simp only [Option.bind_some, Option.map_some]; split <;> simp
      · simp

/-- where a thread stands with respect to the compression object:
    1 = fed, not flushed; 2 = flushed, reset pending; 3 = compressed payload in hand, frame not written -/
def zpos : List Step → Nat
  | .flush :: _ => 1
  | .zreset :: _ => 2
  | .write1 f :: _ => if f.src = .zreg then 3 else 0
  | .write2 f :: _ => if f.src = .zreg then 3 else 0
  | _ => 0

/-- what must follow a step that uses the compression object -/
def zNext (nt : Bool) (st : Step) (r : List Step) : Bool :=
  match st with
  | .compress _ => holds r && (match r with | .flush :: _ => true | _ => false)
  | .flush => holds r && (match r with
      | .zreset :: _ => nt
      | .write1 f :: _ => !nt && decide (f.src = .zreg)
      | _ => false)
  | .zreset => holds r && nt && (match r with | .write1 f :: _ => decide (f.src = .zreg) | _ => false)
  | _ => true

/-- what may precede a position at which the compression object is in use -/
def zPrev (st : Step) (r : List Step) : Bool :=
  match r with
  | .flush :: _ => (match st with | .compress _ => true | _ => false)
  | .zreset :: _ => (match st with | .flush => true | _ => false)
  | .write1 f :: _ =>
    if f.src = .zreg then (match st with | .flush => true | .zreset => true | _ => false) else true
  | _ => true

/-- discipline of the repaired send: `compress; flush; [reset]; write` are consecutive steps inside
    the lock, and a compressed payload is only ever written right after it was produced -/
def zdisc (nt : Bool) : List Step → Bool
  | [] => true
  | st :: r => zdisc nt r && zNext nt st r && zPrev st r

theorem zdisc_tail {nt : Bool} {st : Step} {r : List Step} (h : zdisc nt (st :: r) = true) : zdisc nt r = true := by
  simp only [zdisc, Bool.and_eq_true] at h; exact h.1.1

theorem compile_zdisc (v : Variant) (cfg : Cfg) (call : Call) (hv : v.compressUnderLock = true) :
    zdisc cfg.noTakeover (compile v cfg call) = true := by
  cases hnt : cfg.noTakeover <;> cases call <;>
    simp only [compile, sendData, closeBody, writeProg, checks, hv, hnt, ↓reduceIte, Bool.false_eq_true] <;>
    (repeat' split) <;> rfl

theorem alt_zdisc (v : Variant) (a : Alt) (nt : Bool) : zdisc nt (altSteps v a) = true := by
  cases a <;> simp only [altSteps, closeSocketProg] <;> (try split) <;> simp [zdisc, zNext, zPrev]

theorem compile_zpos (v : Variant) (cfg : Cfg) (call : Call) : zpos (compile v cfg call) = 0 :=
  compile_start (P := fun r => zpos r = 0) v cfg call fun st _ h => by cases st <;> first | rfl | cases h

theorem alt_zpos (v : Variant) (a : Alt) : zpos (altSteps v a) = 0 := by
  cases a <;> simp only [altSteps, closeSocketProg] <;> (try split) <;> simp [zpos]

/-- steps that touch neither the compression object nor the wire -/
def quiet : Step → Bool
  | .compress _ => false
  | .flush => false
  | .zreset => false
  | .write1 _ => false
  | .write2 _ => false
  | _ => true

theorem zpos_holds {nt : Bool} {r : List Step} (d : disc r = true) (z : zdisc nt r = true) (h : zpos r ≠ 0) :
    holds r = true := by
  cases r with
  | nil => simp [zpos] at h
  | cons st r =>
    cases st <;> simp only [zpos] at h <;> try exact absurd rfl h
    · simp only [zdisc, zNext, Bool.and_eq_true] at z; simpa [holds] using z.1.2.1
    · simp only [zdisc, zNext, Bool.and_eq_true] at z; simpa [holds] using z.1.2.1.1
    · simp only [disc, Bool.and_eq_true] at d; simpa [holds] using d.1.2.1
    · simp only [disc, Bool.and_eq_true] at d; simpa [holds] using d.1.2.1

theorem zpos_toRelease (r : List Step) : zpos (toRelease r) = 0 := by
  rcases toRelease_cases r with e | ⟨_, e⟩ <;> rw [e] <;> rfl

theorem zpos_next {nt : Bool} {st : Step} {r : List Step} (d : disc (st :: r) = true) (z : zdisc nt (st :: r) = true)
    (hs : quiet st = true ∨ ∃ f, st = .write2 f) : zpos r = 0 := by
  simp only [disc, Bool.and_eq_true] at d
  simp only [zdisc, Bool.and_eq_true] at z
  have h1 := d.2
  have h2 := z.2
  clear d z
  cases r with
  | nil => rfl
  | cons a r =>
    cases a <;> first
      | rfl
      | (cases st <;> simp_all [zpos, zPrev, headW2, quiet])

theorem zpos_afterClose {nt : Bool} (r : List Step) (d : disc r = true) (z : zdisc nt r = true) :
    zpos (afterClose r) = 0 := by
  induction r with
  | nil => rfl
  | cons s r ih =>
    cases s <;> first
      | exact ih (disc_tail d) (zdisc_tail z)
      | exact zpos_next d z (Or.inl rfl)

theorem zpos_quiet {v : Variant} {nt : Bool} {st : Step} {r r' : List Step} (q : quiet st = true)
    (d : disc (st :: r) = true) (z : zdisc nt (st :: r) = true) (m : Moves v st r r') : zpos r' = 0 := by
  rcases moves_eq m with h | ⟨_, h⟩ | ⟨_, h⟩ | ⟨a, _, h⟩ <;> subst h
  · exact zpos_next d z (Or.inl q)
  · exact zpos_afterClose r (disc_tail d) (zdisc_tail z)
  · exact zpos_toRelease r
  · exact alt_zpos v a

theorem exec_quiet (v : Variant) (t : Tid) (st : Step) (r : List Step) (sh : Shared) (c : Cur)
    (q : quiet st = true) :
    (exec v t st r sh c).1.zpend = sh.zpend ∧ (exec v t st r sh c).1.zctx = sh.zctx ∧
    (exec v t st r sh c).1.wire = sh.wire ∧ (exec v t st r sh c).2.zout = c.zout := by
  refine ⟨?_, ?_, ?_, exec_zout v t st r sh c (by rintro rfl; cases q)⟩ <;>
    rw [exec_sh] <;> cases st <;> first | rfl | cases q

/-- the relation between the compression object, the thread-local payload and the wire at each
    position of the repaired send (`q` = the peer's context after the frames on the wire) -/
def ZAt (nt : Bool) (sh : Shared) (q : Bytes) (c : Cur) (msg : Bytes) : Nat → Prop
  | 1 => sh.zpend = msg ∧ sh.zctx = q
  | 2 => sh.zpend = [] ∧ sh.zctx = q ++ msg ∧ c.zout = some (q, msg)
  | 3 => sh.zpend = [] ∧ c.zout = some (q, msg) ∧ sh.zctx = (if nt then [] else q ++ msg)
  | _ => True

/-- the invariant while the socket is open (not shut) -/
structure ZLive (v : Variant) (cfg : Cfg) (s : State) : Prop where
  dec : ∃ ms, peerDecode cfg.noTakeover [] (frames s.sh.wire) = some ms ∧
    ∀ x ∈ ms, ∃ call, (s.th x.1).prog[x.2.1]? = some call ∧ x.2.2 = call.msg
  at_ : ∀ t c call, (s.th t).current v cfg = some c → (s.th t).prog[c.idx]? = some call →
    ZAt cfg.noTakeover s.sh (peerCtx cfg.noTakeover [] (frames s.sh.wire)) c call.msg (zpos c.rest)
  idle : (∀ t, zpos (view v cfg (s.th t)) = 0) →
    s.sh.zpend = [] ∧ s.sh.zctx = peerCtx cfg.noTakeover [] (frames s.sh.wire)

theorem zLive_init (v : Variant) (cfg : Cfg) (progs : Tid → List Call) : ZLive v cfg (init progs) := by
  constructor
  · exact ⟨[], rfl, fun x hx => by cases hx⟩
  · intro t c call hc _
    have : zpos c.rest = 0 := by
      rw [← view_of_current hc]; exact fresh_eq v cfg zpos (compile_zpos v cfg) _ rfl
    rw [this]; trivial
  · intro _; exact ⟨rfl, rfl⟩

theorem peerCtx_nt (fs : List Chunk) : peerCtx true [] fs = [] := by
  induction fs with
  | nil => rfl
  | cons f r ih => simp only [peerCtx]; split <;> simpa using ih

theorem PosInv.zdisc {v : Variant} {cfg : Cfg} {s : State} (P : PosInv v cfg s) (hv : v.compressUnderLock = true)
    (t : Tid) : zdisc cfg.noTakeover (view v cfg (s.th t)) = true :=
  P.obeys ⟨rfl, fun _ _ => zdisc_tail⟩ (fun call => compile_zdisc v cfg call hv) (fun a => alt_zdisc v a _) t

theorem ZAt_congr {nt : Bool} {sh sh' : Shared} {q : Bytes} {c c' : Cur} {msg : Bytes} {k : Nat}
    (h1 : sh'.zpend = sh.zpend) (h2 : sh'.zctx = sh.zctx) (h3 : c'.zout = c.zout)
    (h : ZAt nt sh q c msg k) : ZAt nt sh' q c' msg k := by
  unfold ZAt at h ⊢
  split <;> simp_all

theorem zpos_quiet_head (st : Step) (r : List Step) (q : quiet st = true) : zpos (st :: r) = 0 := by
  cases st <;> first | rfl | exact absurd q (by simp [quiet])

theorem frames_w2 (w : List Chunk) (x : Chunk) (h : x.second = true) : frames (w ++ [x]) = frames w ++ [x] := by
  simp [frames, h]

theorem frames_w1 (w : List Chunk) (x : Chunk) (h : x.second = false) : frames (w ++ [x]) = frames w := by
  simp [frames, h]

/-- every entry but the chunks before the last one (`write1`), which are the general socket's
    (`Proofs/ThreadsNZ.lean`); needs only the lock, call and position invariants -/
theorem zLive_stepLC (v : Variant) (cfg : Cfg) (s : State) (t : Tid) (hvz : v.compressUnderLock = true)
    (L : LockInv v cfg s) (C : CallInv v cfg s) (P : PosInv v cfg s) (Z : ZLive v cfg s) (hns : s.sh.sockShut = false)
    (hw1 : ∀ f r, view v cfg (s.th t) ≠ .write1 f :: r) : ZLive v cfg (step v cfg s t) := by
  rcases step_cases v cfg s t with e | ⟨c, st, r, hc, hr, _, hh, hv, e⟩
  · rw [e]; exact Z
  · rw [e]
    have d : disc (st :: r) = true := hv ▸ L.disc t
    have z : zdisc cfg.noTakeover (st :: r) = true := hv ▸ P.zdisc hvz t
    have m := exec_moves v t st r s.sh c
    have hi := exec_idx v t st r s.sh c
    obtain ⟨call, hcall, _, _⟩ := C.cur t c hc
    have hsrc : srcOk (call.frame cfg) call.msg (st :: r) = true := hr ▸ (P.current hc).src hcall
    -- when `t` holds the lock no other thread is using the compression object
    have others : holds (st :: r) = true → ∀ u, u ≠ t → zpos (view v cfg (s.th u)) = 0 := by
      intro hl u hu
      cases hz : zpos (view v cfg (s.th u)) with
      | zero => rfl
      | succ k => exact absurd (holder_unique L (hv ▸ hl) (zpos_holds (L.disc u) (P.zdisc hvz u) (by rw [hz]; simp))) hu
    have others_at : holds (st :: r) = true → ∀ u c2, u ≠ t → (s.th u).current v cfg = some c2 → zpos c2.rest = 0 := by
      intro hl u c2 hu hc2
      rw [← view_of_current hc2]; exact others hl u hu
    -- a step that adds no frame leaves what the peer decodes as it is
    have hdec : ∀ p : Shared × Cur, frames p.1.wire = frames s.sh.wire →
        ∃ ms, peerDecode cfg.noTakeover [] (frames (setTh s t (settle (s.th t) p.2) p.1).sh.wire) = some ms ∧
          ∀ x ∈ ms, ∃ call, ((setTh s t (settle (s.th t) p.2) p.1).th x.1).prog[x.2.1]? = some call ∧
            x.2.2 = call.msg := by
      intro p hp
      obtain ⟨ms, h1, h2⟩ := Z.dec
      refine ⟨ms, by rw [setTh_sh, hp]; exact h1, fun x hx => ?_⟩
      rw [prog_after]; exact h2 x hx
    have hsame : ∀ call2, (s.th t).prog[(exec v t st r s.sh c).2.idx]? = some call2 → call2 = call := by
      intro call2 h
      rw [hi, hcall] at h; exact (Option.some.inj h).symm
    -- a step of the lock holder after which it stands where the compression object is in use: no other thread uses
    -- it, so the two clauses are the relation `ZAt` at `t` alone
    have stays : holds (st :: r) = true → frames (exec v t st r s.sh c).1.wire = frames s.sh.wire →
        zpos (exec v t st r s.sh c).2.rest ≠ 0 →
        ZAt cfg.noTakeover (exec v t st r s.sh c).1
          (peerCtx cfg.noTakeover [] (frames (exec v t st r s.sh c).1.wire)) (exec v t st r s.sh c).2 call.msg
          (zpos (exec v t st r s.sh c).2.rest) →
        ZLive v cfg (setTh s t (settle (s.th t) (exec v t st r s.sh c).2) (exec v t st r s.sh c).1) := by
      intro hlock hfr hnz hat
      refine ⟨hdec _ hfr, fun u c2 call2 hc2 hcall2 => ?_, fun hall => ?_⟩
      · rw [prog_after] at hcall2
        rcases current_after hh hc2 with ⟨hu, hcu⟩ | ⟨hu, _, rfl⟩ | ⟨_, he, _⟩
        · rw [others_at hlock u c2 hu hcu]; trivial
        · subst hu
          obtain rfl := hsame call2 hcall2
          exact hat
        · rw [he] at hnz; exact absurd rfl hnz
      · have := hall t
        rw [setTh_same, view_settle_eq v cfg zpos (compile_zpos v cfg) _ _ hh] at this
        exact absurd this hnz
    cases hq : quiet st with
    | true =>
      obtain ⟨q1, q2, q3, q4⟩ := exec_quiet v t st r s.sh c hq
      generalize exec v t st r s.sh c = p at m hi q1 q2 q3 q4
      have hz0 : zpos p.2.rest = 0 := zpos_quiet hq d z m
      refine ⟨hdec p (by rw [q3]), ?_, ?_⟩
      · intro u c2 call2 hc2 hcall2
        rw [prog_after] at hcall2
        rw [setTh_sh, q3]
        rcases current_after hh hc2 with ⟨_, hcu⟩ | ⟨_, _, rfl⟩ | ⟨_, _, call3, rfl⟩
        · exact ZAt_congr q1 q2 rfl (Z.at_ u c2 call2 hcu hcall2)
        · rw [hz0]; trivial
        · rw [compile_zpos]; trivial
      · intro hall
        rw [setTh_sh, q1, q2, q3]
        apply Z.idle
        intro u
        by_cases hu : u = t
        · subst hu; rw [hv]; exact zpos_quiet_head st r hq
        · have := hall u
          rwa [setTh_other _ _ _ _ _ hu] at this
    | false =>
      cases st with
      | compress dd =>
        -- the message is handed to the compression object
        have hzn : holds r = true ∧ ∃ r2, r = .flush :: r2 := by
          simp only [zdisc, zNext, Bool.and_eq_true] at z
          refine ⟨z.1.2.1, ?_⟩
          have := z.1.2.2
          cases r with
          | nil => simp at this
          | cons a r2 => cases a <;> simp at this; exact ⟨r2, rfl⟩
        obtain ⟨hl, r2, rfl⟩ := hzn
        have hlock : holds (Step.compress dd :: Step.flush :: r2) = true := by simpa [holds] using hl
        have hdd : dd = call.msg := by
          simp only [srcOk, List.all_cons, Bool.and_eq_true] at hsrc; simpa using hsrc.1
        have hidle := Z.idle (by
          intro u
          by_cases hu : u = t
          · subst hu; rw [hv]; rfl
          · exact others hlock u hu)
        refine stays hlock rfl (by simp [exec, zpos]) ?_
        show ZAt _ _ _ _ _ 1
        exact ⟨by simp [exec, hidle.1, hdd], hidle.2⟩
      | flush =>
        have hlock : holds (Step.flush :: r) = true := by
          simp only [zdisc, zNext, Bool.and_eq_true] at z; simpa [holds] using z.1.2.1
        have hbefore := Z.at_ t c call hc hcall
        rw [hr] at hbefore
        obtain ⟨hb1, hb2⟩ : s.sh.zpend = call.msg ∧ s.sh.zctx = peerCtx cfg.noTakeover [] (frames s.sh.wire) := hbefore
        have hnext : (∃ r2, r = .zreset :: r2 ∧ cfg.noTakeover = true) ∨
            (∃ f r2, r = .write1 f :: r2 ∧ cfg.noTakeover = false ∧ f.src = .zreg) := by
          simp only [zdisc, zNext, Bool.and_eq_true] at z
          have := z.1.2.2
          cases r with
          | nil => simp at this
          | cons a r2 =>
            cases a <;> simp at this
            · exact Or.inl ⟨r2, rfl, this⟩
            · exact Or.inr ⟨_, r2, rfl, this.1, this.2⟩
        rcases hnext with ⟨r2, rfl, _⟩ | ⟨f, r2, rfl, hnt, hf⟩
        · refine stays hlock rfl (by simp [exec, zpos]) ?_
          show ZAt _ _ _ _ _ 2
          exact ⟨rfl, by simp [exec, hb1, hb2], by simp [exec, hb1, hb2]⟩
        · have h3 : zpos (exec v t Step.flush (Step.write1 f :: r2) s.sh c).2.rest = 3 := by
            simp [exec, zpos, hf]
          refine stays hlock rfl (by rw [h3]; simp) ?_
          rw [h3]
          exact ⟨rfl, by simp [exec, hb1, hb2], by simp [exec, hb1, hb2, hnt]⟩
      | zreset =>
        have hzn : holds r = true ∧ cfg.noTakeover = true ∧ ∃ f r2, r = .write1 f :: r2 ∧ f.src = .zreg := by
          simp only [zdisc, zNext, Bool.and_eq_true] at z
          refine ⟨z.1.2.1.1, z.1.2.1.2, ?_⟩
          have := z.1.2.2
          cases r with
          | nil => simp at this
          | cons a r2 => cases a <;> simp at this; exact ⟨_, r2, rfl, this⟩
        obtain ⟨hl, hnt, f, r2, rfl, hf⟩ := hzn
        have hlock : holds (Step.zreset :: Step.write1 f :: r2) = true := by simpa [holds] using hl
        have hbefore := Z.at_ t c call hc hcall
        rw [hr] at hbefore
        obtain ⟨_, hb2, hb3⟩ : s.sh.zpend = [] ∧
            s.sh.zctx = peerCtx cfg.noTakeover [] (frames s.sh.wire) ++ call.msg ∧
            c.zout = some (peerCtx cfg.noTakeover [] (frames s.sh.wire), call.msg) := hbefore
        have h3 : zpos (exec v t Step.zreset (Step.write1 f :: r2) s.sh c).2.rest = 3 := by
          simp [exec, zpos, hf]
        refine stays hlock rfl (by rw [h3]; simp) ?_
        rw [h3]
        exact ⟨rfl, by simpa [exec] using hb3, by simp [exec, hnt]⟩
      | write1 f => exact absurd hv (hw1 f r)
      | write2 f =>
        have hl : holds (Step.write2 f :: r) = true := atW_holds d rfl
        have hf : f = call.frame cfg := by
          simp only [srcOk, List.all_cons, Bool.and_eq_true] at hsrc; simpa using hsrc.1
        have hex : exec v t (Step.write2 f) r s.sh c =
            ({ s.sh with wire := s.sh.wire ++ [⟨t, c.idx, true, descOf f c⟩] }, { c with rest := r, wrote := true }) := by
          simp [exec, hns]
        have hp2 : (exec v t (Step.write2 f) r s.sh c).2.rest = r := by rw [hex]
        have hz0 : zpos r = 0 := zpos_next d z (Or.inr ⟨f, rfl⟩)
        have hfr : frames (exec v t (Step.write2 f) r s.sh c).1.wire =
            frames s.sh.wire ++ [⟨t, c.idx, true, descOf f c⟩] := by rw [hex]; exact frames_w2 _ _ rfl
        have hall0 : ∀ u, zpos (view v cfg ((setTh s t (settle (s.th t) (exec v t (Step.write2 f) r s.sh c).2)
            (exec v t (Step.write2 f) r s.sh c).1).th u)) = 0 := by
          intro u
          by_cases hu : u = t
          · subst hu; rw [setTh_same, view_settle_eq v cfg zpos (compile_zpos v cfg) _ _ hh, hp2]; exact hz0
          · rw [setTh_other _ _ _ _ _ hu]; exact others hl u hu
        have hat0 : ∀ u c2, ((setTh s t (settle (s.th t) (exec v t (Step.write2 f) r s.sh c).2)
            (exec v t (Step.write2 f) r s.sh c).1).th u).current v cfg = some c2 → zpos c2.rest = 0 := by
          intro u c2 hc2
          rw [← view_of_current hc2]; exact hall0 u
        obtain ⟨ms, hd1, hd2⟩ := Z.dec
        cases hsrc2 : f.src with
        | lit b =>
          -- an uncompressed frame: the peer's context does not move
          have hdesc : descOf f c = ⟨f.op, .plain b⟩ := by simp [descOf, hsrc2]
          have hbmsg : b = call.msg := src_lit cfg call b (by rw [hf] at hsrc2; exact hsrc2)
          have hidle := Z.idle (by
            intro u
            by_cases hu : u = t
            · subst hu; rw [hv]; simp [zpos, hsrc2]
            · exact others hl u hu)
          have hq : peerCtx cfg.noTakeover [] (frames s.sh.wire ++ [⟨t, c.idx, true, descOf f c⟩]) =
              peerCtx cfg.noTakeover [] (frames s.sh.wire) := by
            rw [peerCtx_append, hdesc]
          refine ⟨?_, ?_, ?_⟩
          · refine ⟨ms ++ [(t, c.idx, b)], ?_, ?_⟩
            · rw [setTh_sh, hfr, peerDecode_append_plain _ _ _ _ b (by rw [hdesc]), hd1]; rfl
            · intro x hx
              rw [prog_after]
              simp only [List.mem_append, List.mem_singleton] at hx
              rcases hx with hx | hx
              · exact hd2 x hx
              · subst hx; exact ⟨call, hcall, hbmsg⟩
          · intro u c2 call2 hc2 _
            rw [hat0 u c2 hc2]; trivial
          · intro _
            rw [setTh_sh, hfr, hq]
            rw [hex]; exact hidle
        | zreg =>
          -- the compressed frame reaches the wire: the peer's context becomes the compressor's
          have hbefore := Z.at_ t c call hc hcall
          rw [hr] at hbefore
          have : zpos (Step.write2 f :: r) = 3 := by simp [zpos, hsrc2]
          rw [this] at hbefore
          obtain ⟨hb1, hb2, hb3⟩ : s.sh.zpend = [] ∧
              c.zout = some (peerCtx cfg.noTakeover [] (frames s.sh.wire), call.msg) ∧
              s.sh.zctx = (if cfg.noTakeover = true then [] else peerCtx cfg.noTakeover [] (frames s.sh.wire) ++ call.msg) := hbefore
          have hdesc : descOf f c = ⟨f.op, .deflated (peerCtx cfg.noTakeover [] (frames s.sh.wire)) call.msg⟩ := by
            simp [descOf, hsrc2, hb2]
          have hq : peerCtx cfg.noTakeover [] (frames s.sh.wire ++ [⟨t, c.idx, true, descOf f c⟩]) =
              (if cfg.noTakeover = true then [] else peerCtx cfg.noTakeover [] (frames s.sh.wire) ++ call.msg) := by
            rw [peerCtx_append, hdesc]
          refine ⟨?_, ?_, ?_⟩
          · refine ⟨ms ++ [(t, c.idx, call.msg)], ?_, ?_⟩
            · rw [setTh_sh, hfr, peerDecode_append_defl _ _ _ _ _ _ (by rw [hdesc]), hd1]
              simp
            · intro x hx
              rw [prog_after]
              simp only [List.mem_append, List.mem_singleton] at hx
              rcases hx with hx | hx
              · exact hd2 x hx
              · subst hx; exact ⟨call, hcall, rfl⟩
          · intro u c2 call2 hc2 _
            rw [hat0 u c2 hc2]; trivial
          · intro _
            rw [setTh_sh, hfr, hq]
            rw [hex]; exact ⟨hb1, hb3⟩
      | _ => exact absurd hq (by simp [quiet])

/-- **The invariant of every run** (`zInv_reach`, `Proofs/ThreadsNZ.lean`): the peer can inflate what is on the wire —
    always; the tie between the compression object and the wire (`ZLive`) as long as the socket has not been shut.  (A
    compressed send that finds the socket shut has advanced the compressor's context, and its frame never reaches the
    peer: from then on the two contexts differ — and nothing is written any more.) -/
structure ZInv (v : Variant) (cfg : Cfg) (s : State) : Prop where
  dec : ∃ ms, peerDecode cfg.noTakeover [] (frames s.sh.wire) = some ms ∧
    ∀ x ∈ ms, ∃ call, (s.th x.1).prog[x.2.1]? = some call ∧ x.2.2 = call.msg
  live : s.sh.sockShut = false → ZLive v cfg s

theorem ZLive.inv {v : Variant} {cfg : Cfg} {s : State} (Z : ZLive v cfg s) : ZInv v cfg s :=
  ⟨Z.dec, fun _ => Z⟩

theorem zInv_init (v : Variant) (cfg : Cfg) (progs : Tid → List Call) : ZInv v cfg (init progs) :=
  (zLive_init v cfg progs).inv

theorem src_zreg_deflate (cfg : Cfg) (call : Call) (h : call.src cfg = .zreg) : cfg.deflate = true := by
  cases call <;> simp only [Call.src] at h <;> (try split at h) <;> first | (rename_i hc; exact hc.2) | cases h

theorem peerDecode_plain (nt : Bool) (ctx : Bytes) (fs : List Chunk) (msg : Chunk → Bytes)
    (h : ∀ f ∈ fs, f.desc.pay = .plain (msg f)) :
    peerDecode nt ctx fs = some (fs.map (fun f => (f.tid, f.idx, msg f))) := by
  induction fs with
  | nil => rfl
  | cons f r ih =>
    have hf := h f (List.mem_cons_self ..)
    have ih' := ih (fun g hg => h g (List.mem_cons_of_mem _ hg))
    simp only [peerDecode, hf, ih', Option.map_some, List.map_cons]

end Lomond.Threads
