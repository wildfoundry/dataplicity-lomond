/-
  Helper lemmas about the core model (Model/Core.lean): the parser's bite can be split at any
  point (`biteBytes_split`) and therefore the lazy feed loop is independent of how the data is
  cut (`feedLoop_append`); the loop by its equations (`feedLoop_nil`, `feedLoop_step`) and its
  induction principle (`feedLoop_induct`); what one step of the frame parser can answer, stage by
  stage (`frameDone_res` … `biteBytes_res`; `Boundary`: the parser between two frames).
-/
import Lomond.Model.Core
import Lomond.Proofs.Utf8
namespace Lomond.Core
open Lomond

/-- result of the awaitable's `validate(chunk)`: new DFA state, `none` = ParseError -/
def vres (utf8 : Bool) (dfa : Nat) (chunk : Bytes) : Option Nat :=
  if utf8 then Utf8.validate dfa chunk else some dfa

theorem vres_append (u : Bool) (d : Nat) (a c : Bytes) :
    vres u d (a ++ c) = (vres u d a).bind (fun d' => vres u d' c) := by
  cases u <;> simp [vres, Utf8.validate_append]

def partialState (p : PState) (a : Bytes) (d : Nat) : PState :=
  { p with remPred := p.remPred - a.length, buf := p.buf ++ a, dfa := d }

theorem biteBytes_eq (v : Variant) (p : PState) (chunk : Bytes) :
    biteBytes v p chunk =
      match vres p.utf8 p.dfa chunk with
      | none => .error (.parse "invalid utf8")
      | some d =>
        if chunk.length < p.remPred + 1 then .ok (partialState p chunk d, none)
        else resume v { p with dfa := d } (p.buf ++ chunk) := by
  unfold biteBytes vres partialState
  cases hu : p.utf8
  · simp
  · simp only [if_true]
    cases Utf8.validate p.dfa chunk <;> simp

theorem resume_partial (v : Variant) (p : PState) (a : Bytes) (d d' : Nat) (bytes : Bytes) :
    resume v { partialState p a d with dfa := d' } bytes = resume v { p with dfa := d' } bytes := by
  simp [resume, partialState]

theorem biteBytes_split (v : Variant) (p : PState) (a c : Bytes)
    (hlen : a.length < p.remPred + 1) (hc : a.length + c.length ≤ p.remPred + 1) :
    biteBytes v p (a ++ c) =
      match biteBytes v p a with
      | .error x => .error x
      | .ok (p1, _) => biteBytes v p1 c := by
  rw [biteBytes_eq v p a, biteBytes_eq v p (a ++ c), vres_append]
  cases h1 : vres p.utf8 p.dfa a with
  | none => simp
  | some d =>
    simp only [Option.bind_some, hlen, if_true]
    rw [biteBytes_eq]
    have e1 : (partialState p a d).utf8 = p.utf8 := rfl
    have e2 : (partialState p a d).dfa = d := rfl
    have e3 : (partialState p a d).remPred = p.remPred - a.length := rfl
    have e4 : (partialState p a d).buf = p.buf ++ a := rfl
    rw [e1, e2, e3, e4]
    cases h2 : vres p.utf8 d c with
    | none => simp
    | some d' =>
      simp only [List.length_append, List.append_assoc]
      by_cases hl : a.length + c.length < p.remPred + 1
      · have : c.length < p.remPred - a.length + 1 := by omega
        simp only [hl, this, if_true]
        simp [partialState]; omega
      · have : ¬ c.length < p.remPred - a.length + 1 := by omega
        simp only [hl, this, if_false]
        exact (resume_partial v p a d d' _).symm


def contLoop (r : Res Bool) (b : Bytes) : Res Bool :=
  match r with
  | .ok true s' => feedLoop b s'
  | .ok false s' => .ok false s'
  | .err x s' => .err x s'

theorem feedLoop_nil (s : Sys) : feedLoop [] s = .ok true s := by
  rw [feedLoop]; simp

theorem feedLoop_step {data : Bytes} (s : Sys) (hd : data ≠ []) :
    feedLoop data s =
      match biteBytes s.cfg.v s.p (data.take (s.p.remPred + 1)) with
      | .error x => .err x { s with p := deadParser s.p }
      | .ok (p', none) => feedLoop (data.drop (s.p.remPred + 1)) { s with p := p' }
      | .ok (p', some o) => contLoop (onOut o { s with p := p' }) (data.drop (s.p.remPred + 1)) := by
  rw [feedLoop]
  simp only [hd, dite_false]
  cases biteBytes s.cfg.v s.p (data.take (s.p.remPred + 1)) with
  | error x => rfl
  | ok r =>
    obtain ⟨p', out⟩ := r
    cases out with
    | none => rfl
    | some o =>
      simp only [contLoop]
      cases onOut o { s with p := p' } with
      | err x s2 => rfl
      | ok b s2 => cases b <;> rfl

theorem feedLoop_append (a b : Bytes) (s : Sys) :
    feedLoop (a ++ b) s = contLoop (feedLoop a s) b := by
  induction h : a.length using Nat.strongRecOn generalizing a s with
  | _ n ih =>
    by_cases ha : a = []
    · subst ha; simp [feedLoop_nil, contLoop]
    · by_cases hb : b = []
      · subst hb
        simp only [List.append_nil]
        cases hr : feedLoop a s with
        | ok go s' => cases go <;> simp [contLoop, feedLoop_nil]
        | err x s' => simp [contLoop]
      · have hab : a ++ b ≠ [] := by simp [ha]
        by_cases hn : s.p.remPred + 1 ≤ a.length
        · -- the bite lies within `a`
          rw [feedLoop_step s hab, feedLoop_step s ha, List.take_append_of_le_length hn, List.drop_append_of_le_length hn]
          have hlt : (a.drop (s.p.remPred + 1)).length < n := by
            simp only [List.length_drop]; omega
          cases hbite : biteBytes s.cfg.v s.p (a.take (s.p.remPred + 1)) with
          | error x => simp [contLoop]
          | ok r =>
            obtain ⟨p', out⟩ := r
            cases out with
            | none => simp only; exact ih _ hlt _ _ rfl
            | some o =>
              simp only
              cases ho : onOut o { s with p := p' } with
              | err x s2 => rfl
              | ok go s2 =>
                cases go with
                | true => exact ih _ hlt _ _ rfl
                | false => rfl
        · -- the bite extends beyond `a`
          have hlt : a.length < s.p.remPred + 1 := by omega
          have e1 : (a ++ b).take (s.p.remPred + 1) = a ++ b.take (s.p.remPred + 1 - a.length) := by
            rw [List.take_append]; rw [List.take_of_length_le (by omega)]
          have e2 : (a ++ b).drop (s.p.remPred + 1) = b.drop (s.p.remPred + 1 - a.length) := by
            rw [List.drop_append]; rw [List.drop_of_length_le (by omega)]; simp
          have e3 : a.take (s.p.remPred + 1) = a := List.take_of_length_le (by omega)
          have e4 : a.drop (s.p.remPred + 1) = [] := List.drop_of_length_le (by omega)
          rw [feedLoop, feedLoop.eq_1 a]
          simp only [hab, ha, dite_false]
          rw [e1, e2, e3, e4]
          rw [biteBytes_split s.cfg.v s.p a _ hlt (by simp only [List.length_take]; omega)]
          rw [biteBytes_eq s.cfg.v s.p a]
          cases h1 : vres s.p.utf8 s.p.dfa a with
          | none => simp [contLoop, deadParser]
          | some d =>
            simp only [hlt, if_true, feedLoop_nil, contLoop]
            rw [feedLoop.eq_1 b]
            simp only [hb, dite_false]
            have e5 : (partialState s.p a d).remPred + 1 = s.p.remPred + 1 - a.length := by
              simp only [partialState]; omega
            simp only [e5]
            cases biteBytes s.cfg.v (partialState s.p a d) (List.take (s.p.remPred + 1 - a.length) b) with
            | error x => simp [deadParser, partialState]
            | ok r => rfl

/-- Induction along the iterations of `feedLoop`: the data is exhausted; the bite fails; the bite
    completes nothing; the bite completes an output, which the consumer rejects with an exception,
    answers with `break`, or accepts.  `P data s r` is to be read with `r = feedLoop data s`. -/
theorem feedLoop_induct {P : Bytes → Sys → Res Bool → Prop}
    (nil : ∀ s, P [] s (.ok true s))
    (bad : ∀ data s x, data ≠ [] → biteBytes s.cfg.v s.p (data.take (s.p.remPred + 1)) = .error x →
      P data s (.err x { s with p := deadParser s.p }))
    (more : ∀ data s p', data ≠ [] → biteBytes s.cfg.v s.p (data.take (s.p.remPred + 1)) = .ok (p', none) →
      P (data.drop (s.p.remPred + 1)) { s with p := p' } (feedLoop (data.drop (s.p.remPred + 1)) { s with p := p' }) →
      P data s (feedLoop (data.drop (s.p.remPred + 1)) { s with p := p' }))
    (raised : ∀ data s p' o x s2, data ≠ [] →
      biteBytes s.cfg.v s.p (data.take (s.p.remPred + 1)) = .ok (p', some o) →
      onOut o { s with p := p' } = .err x s2 → P data s (.err x s2))
    (stop : ∀ data s p' o s2, data ≠ [] →
      biteBytes s.cfg.v s.p (data.take (s.p.remPred + 1)) = .ok (p', some o) →
      onOut o { s with p := p' } = .ok false s2 → P data s (.ok false s2))
    (go : ∀ data s p' o s2, data ≠ [] →
      biteBytes s.cfg.v s.p (data.take (s.p.remPred + 1)) = .ok (p', some o) →
      onOut o { s with p := p' } = .ok true s2 →
      P (data.drop (s.p.remPred + 1)) s2 (feedLoop (data.drop (s.p.remPred + 1)) s2) →
      P data s (feedLoop (data.drop (s.p.remPred + 1)) s2))
    (data : Bytes) (s : Sys) : P data s (feedLoop data s) := by
  induction h : data.length using Nat.strongRecOn generalizing data s with
  | _ n ih =>
    by_cases hd : data = []
    · subst hd; rw [feedLoop_nil]; exact nil s
    · have hlt : (data.drop (s.p.remPred + 1)).length < n := by
        have : data.length ≠ 0 := fun hl => hd (List.eq_nil_of_length_eq_zero hl)
        simp only [List.length_drop]; omega
      rw [feedLoop_step s hd]
      cases hb : biteBytes s.cfg.v s.p (data.take (s.p.remPred + 1)) with
      | error x => exact bad data s x hd hb
      | ok r =>
        obtain ⟨p', out⟩ := r
        cases out with
        | none => exact more data s p' hd hb (ih _ hlt _ _ rfl)
        | some o =>
          simp only []
          cases ho : onOut o { s with p := p' } with
          | err x s2 => exact raised data s p' o x s2 hd hb ho
          | ok b s2 =>
            cases b with
            | false => exact stop data s p' o s2 hd hb ho
            | true => exact go data s p' o s2 hd hb ho (ih _ hlt _ _ rfl)

/-- the parser sits between two frames: it awaits the two header bytes -/
structure Boundary (p : PState) : Prop where
  cont : p.cont = .hdr2
  rem : p.remPred = 1
  utf8 : p.utf8 = false
  buf : p.buf = []

theorem Boundary.notHeader {p : PState} (h : Boundary p) : p.cont ≠ .header := by rw [h.cont]; simp

/-! what one step of the frame parser can answer: `compression` stays; a silent answer does not end
    a frame; past the header every output is a frame and the parser never returns to the header -/

theorem frameDone_res {v : Variant} {p : PState} {f : Frame} {r : PState × Option Out}
    (h : frameDone v p f = .ok r) :
    r.1.compression = p.compression ∧ (∃ g, r.2 = some (.frame g)) ∧ r.1.cont ≠ .header := by
  unfold frameDone at h
  split at h
  · cases h
  · cases h; exact ⟨rfl, ⟨_, rfl⟩, nofun⟩

theorem gotMask_res {v : Variant} {p : PState} {b0 len : Nat} {key : Option Bytes} {r : PState × Option Out}
    (h : gotMask v p b0 len key = .ok r) :
    r.1.compression = p.compression ∧ (r.2 = none → r.1.cont ≠ .hdr2) ∧
      (∀ o, r.2 = some o → ∃ g, o = .frame g) ∧ r.1.cont ≠ .header := by
  unfold gotMask at h
  simp only [] at h
  split at h
  · cases h
  · split at h
    · cases h
      exact ⟨by dsimp only; split <;> rfl, fun _ => nofun, nofun, nofun⟩
    · obtain ⟨c, ⟨g, e⟩, n⟩ := frameDone_res h
      exact ⟨by rw [c]; split <;> rfl, fun hn => (nomatch e.symm.trans hn),
        fun o ho => ⟨g, Option.some.inj (ho.symm.trans e)⟩, n⟩

theorem gotLength_res {v : Variant} {p : PState} {b0 : Nat} {m : Bool} {len : Nat} {r : PState × Option Out}
    (h : gotLength v p b0 m len = .ok r) :
    r.1.compression = p.compression ∧ (r.2 = none → r.1.cont ≠ .hdr2) ∧
      (∀ o, r.2 = some o → ∃ g, o = .frame g) ∧ r.1.cont ≠ .header := by
  unfold gotLength at h
  split at h
  · cases h
  · split at h
    · cases h; exact ⟨rfl, fun _ => nofun, nofun, nofun⟩
    · exact gotMask_res h

theorem resume_res {v : Variant} {p : PState} {bytes : Bytes} {r : PState × Option Out}
    (h : resume v p bytes = .ok r) :
    r.1.compression = p.compression ∧ (r.2 = none → r.1.cont ≠ .hdr2) ∧
      (p.cont ≠ .header → ∀ o, r.2 = some o → ∃ g, o = .frame g) ∧ r.1.cont ≠ .header := by
  unfold resume at h
  simp only [] at h
  split at h
  · rename_i hc; cases h; exact ⟨rfl, nofun, fun hp => (hp hc).elim, nofun⟩
  · split at h
    · cases h; exact ⟨rfl, fun _ => nofun, fun _ => nofun, nofun⟩
    · split at h
      · cases h; exact ⟨rfl, fun _ => nofun, fun _ => nofun, nofun⟩
      · exact (gotLength_res h).imp_right (.imp_right (.imp_left fun ho _ => ho))
  · exact (gotLength_res h).imp_right (.imp_right (.imp_left fun ho _ => ho))
  · exact (gotLength_res h).imp_right (.imp_right (.imp_left fun ho _ => ho))
  · exact (gotMask_res h).imp_right (.imp_right (.imp_left fun ho _ => ho))
  · obtain ⟨c, ⟨g, e⟩, n⟩ := frameDone_res h
    exact ⟨c, fun hn => (nomatch e.symm.trans hn), fun _ o ho => ⟨g, Option.some.inj (ho.symm.trans e)⟩, n⟩

theorem biteBytes_res {v : Variant} {p : PState} {chunk : Bytes} {r : PState × Option Out}
    (h : biteBytes v p chunk = .ok r) :
    r.1.compression = p.compression ∧ (r.2 = none → chunk ≠ [] → ¬ Boundary r.1) ∧
      (p.cont ≠ .header → ∀ o, r.2 = some o → ∃ g, o = .frame g) ∧
      (p.cont ≠ .header → r.1.cont ≠ .header) := by
  rw [biteBytes_eq] at h
  split at h
  · cases h
  · split at h
    · cases h
      exact ⟨rfl, fun _ hne hb => hne (List.append_eq_nil_iff.mp (show p.buf ++ chunk = [] from hb.buf)).2,
        fun _ => nofun, id⟩
    · obtain ⟨c, s, o, n⟩ := resume_res h
      exact ⟨c, fun hn _ hb => s hn hb.cont, o, fun _ => n⟩

end Lomond.Core
