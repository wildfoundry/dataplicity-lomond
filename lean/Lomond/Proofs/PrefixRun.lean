/-
  A frames phase end to end, send-only application at a frozen clock: from what the bridge of
  Proofs/EndToEnd.lean gives to the trace of the whole run (`run_violation_from`: a violation in the
  read after the handshake, with the structure of what follows; `run_ok_eof_from`: the read is
  consumed, then the stream ends); `Prefix`: bytes that every post-handshake state consumes
  normally into an idle state, with the events they yield (`Prefix.items`, `Prefix.append`); the
  frames phase `pre ++ stream`: `run_prefix_violation`, `run_prefix_critical` (`run_ready_critical`: no
  prefix, the text of the error known only through a predicate), `run_prefix_eof`.
-/
import Lomond.Proofs.AnyApp

namespace Lomond.Core.E2E
open Lomond Lomond.Core Lomond.Core.AnyApp

theorem pingOK_of_I {s : Sys} (h : I s) : PingOK s := by
  intro _ hd
  unfold Timers.pingDue at hd
  rw [h.time0] at hd
  omega

theorem tailV_of_tailObs {k : String} {o : Obs} (h : TailObs (.disconnected k false) o) : TailV o := by
  rcases h with rfl | rfl | rfl | h
  · exact ⟨trivial, rfl⟩
  · exact ⟨trivial, rfl⟩
  · exact ⟨trivial, rfl⟩
  · cases o <;> first | exact ⟨trivial, rfl⟩ | cases h

theorem feedHandler_send2 (x : Exn) (msg : String) (crit : Bool) (hx : violationOf x = some (msg, crit))
    (s1 : Sys) (hi : I s1) :
    ∃ y s2 l cw, feedHandler x s1 = .err y s2 ∧
      s2.trace = cw ++ l ++ .ev (.protocolError msg crit) :: s1.trace ∧
      (∀ o ∈ l, Obs.isEv o = false) ∧ ReactSeg l ∧ CloseWrite msg crit cw ∧
      (y = .forceDisconnect "forced" ∨ (crit = false ∧ y = .other "error")) ∧ s2.react = s1.react := by
  obtain ⟨s', hfy, kk⟩ := feedYield_pe_send msg crit s1 hi
  obtain ⟨l, hl, nl, _⟩ := kk.trace
  have hl' : s'.trace = l ++ .ev (.protocolError msg crit) :: s1.trace := hl
  have hseg : ReactSeg l := by
    have hak := feedYield_pe_seg msg crit s1 (pingOK_of_I hi)
    rw [hfy] at hak
    obtain ⟨l2, hl2, r2, _⟩ := hak.trace
    have : l2 = l := List.append_cancel_right (hl2.symm.trans hl)
    rw [← this]; exact r2
  obtain ⟨y, s3, cw, e, ht, hcw, hy, hs3⟩ := (feedHandler_after x msg crit hx s1).2 s' hfy
  refine ⟨y, s3, l, cw, e, by rw [ht, hl', List.append_assoc], nl, hseg, hcw, hy, ?_⟩
  rcases hs3 with rfl | ⟨res, hw⟩
  · exact kk.react
  · exact ((step_wsClose _ _).ok hw).react.trans kk.react

theorem wsFeed_violation_send2 (data : Bytes) (s s1 : Sys) (x : Exn) (msg : String) (crit : Bool)
    (hc : s.closed = false) (hp : s.p.cont ≠ .header) (hfl : feedLoop data s = .err x s1)
    (hx : violationOf x = some (msg, crit)) (hi : I s1) :
    ∃ y s2 l cw, wsFeed data s = .err y s2 ∧
      s2.trace = cw ++ l ++ .ev (.protocolError msg crit) :: s1.trace ∧
      (∀ o ∈ l, Obs.isEv o = false) ∧ ReactSeg l ∧ CloseWrite msg crit cw ∧
      (y = .forceDisconnect "forced" ∨ (crit = false ∧ y = .other "error")) ∧ s2.react = s1.react := by
  obtain ⟨y, s2, l, cw, hh, ht, nl, hseg, hcw, hy, hre⟩ := feedHandler_send2 x msg crit hx s1 hi
  refine ⟨y, s2, l, cw, ?_, ht, nl, hseg, hcw, hy, hre⟩
  have hb := feedBody_err hp hfl
  rw [wsFeed_of_feedBody_err data s s1 x hc hb, tryC_err hh]
  rcases hy with rfl | ⟨_, rfl⟩ <;> rfl

/-- **a violation in the first read after the handshake**, from what the bridge lemmas give (`run()` up
    to the loop in `sA`, the loop reduced to one `WebSocket.feed` of `stream` from `s4`): the trace of
    the whole run is that of `s1` (where the violation was raised), the ProtocolError event, the
    application's reaction `l`, at most one Close of the library's `cw`, and a tail `post` that only
    holds the `Disconnected` event -/
theorem run_violation_from {cfg : Cfg} {react : React} {E rest : List EnvStep} {stream : Bytes} {sA s4 s1 : Sys}
    {x : Exn} {msg : String} {crit : Bool}
    (hrun : run { cfg := cfg, react := react, env := E } = tryC (do runBody E; selClose) runFinally sA)
    (hloop : loop E sA = match wsFeed stream s4 with
      | .ok _ s' => loop rest s'
      | .err y s' => .err y s')
    (hcl : s4.closed = false) (hb : Between s4.p)
    (hfl : feedLoop stream s4 = .err x s1) (hx : violationOf x = some (msg, crit)) (i1 : I s1) :
    ∃ k cw l post,
      (runAll cfg react E).trace = post ++ cw ++ l ++ .ev (.protocolError msg crit) :: s1.trace ∧
      ((∀ o ∈ l, Obs.isEv o = false) ∧ ReactSeg l) ∧ CloseWrite msg crit cw ∧
      hist post = [.disconnected k false] ∧ (∀ o ∈ post, TailObs (.disconnected k false) o) ∧
      (k = "forced" ∨ (crit = false ∧ k = "error")) ∧
      Monitor.events (runAll cfg react E).trace =
        (hist s1.trace).reverse ++ [.protocolError msg crit, .disconnected k false] := by
  have hnh : s4.p.cont ≠ .header := hb.b.notHeader
  obtain ⟨y, s2, l, cw, hws, ht2, nl, hseg, hcw, hy, hre2⟩ :=
    wsFeed_violation_send2 stream s4 s1 x msg crit hcl hnh hfl hx i1
  rw [hws] at hloop
  simp only [] at hloop
  have hk : ∃ k, (y = .forceDisconnect k ∨ y = .socketFail k ∨ y = .other k) ∧
      (k = "forced" ∨ (crit = false ∧ k = "error")) := by
    rcases hy with rfl | ⟨hc, rfl⟩
    · exact ⟨"forced", Or.inl rfl, Or.inl rfl⟩
    · exact ⟨"error", Or.inr (Or.inr rfl), Or.inr ⟨hc, rfl⟩⟩
  obtain ⟨k, hyk, hkk⟩ := hk
  obtain ⟨sF, post, hF, tF, hhF, nF, _⟩ := finish_err _ sA s2 y k hloop hyk (by rw [hre2]; exact i1.app)
  have hall : (runAll cfg react E).trace = post ++ cw ++ l ++ .ev (.protocolError msg crit) :: s1.trace := by
    rw [Monitor.runAll_ok (hrun.trans hF), tF, ht2]; simp
  refine ⟨k, cw, l, post, hall, ⟨nl, hseg⟩, hcw, hhF, nF, hkk, ?_⟩
  rw [events_eq_hist, hall, hist_append, hist_append, hist_append, hhF, closeWrite_hist hcw, hist_nonEv l nl,
    hist_cons_ev]
  simp

/-- **the first read after the handshake is consumed normally, then the stream ends**, from what
    the bridge lemmas give: the events of the whole run are those up to `s5` (where the read
    ended), a Poll if one is due after `dt`, and `Disconnected('connection-lost')` -/
theorem run_ok_eof_from {cfg : Cfg} {react : React} {E : List EnvStep} {stream : Bytes} {sA s4 s5 : Sys} {dt : Nat}
    (happ : SendOnly react)
    (hpt : cfg.pingTimeout = 0 ∨ dt ≤ cfg.pingTimeout) (hct : cfg.closeTimeout = 0 ∨ dt < cfg.closeTimeout)
    (hrun : run { cfg := cfg, react := react, env := E } = tryC (do runBody E; selClose) runFinally sA)
    (hloop : loop E sA = match wsFeed stream s4 with
      | .ok _ s' => loop [.wait dt (some .eof)] s'
      | .err y s' => .err y s')
    (i4 : I s4) (hr4 : s4.ready = true) (hcfg : s4.cfg = cfg) (hre : s4.react = react)
    (hcl : s4.closed = false) (hb : Between s4.p)
    (hfl : feedLoop stream s4 = .ok true s5) (hcl5 : s5.closed = false) (hcg5 : s5.closing = false) :
    Monitor.events (runAll cfg react E).trace =
      (hist s5.trace).reverse ++ (if cfg.poll ≤ dt then [.poll] else []) ++ [.disconnected "connection-lost" false] := by
  obtain ⟨s6, sF, post, _, _, _, _, hh6, hF, tF, hhF⟩ :=
    stream_eof_from happ i4 hr4 hcfg hre hcl hb hrun hloop hfl hcl5 hpt hct
  rw [hcg5] at hhF
  rw [hF, events_eq_hist, tF, hist_append, hhF, hh6]
  by_cases hd : cfg.poll ≤ dt <;> simp [hd]

/-- every post-handshake state consumes the bytes `pre` normally: the application has then seen the
    events `X`, the websocket is idle again (`IdleG`), and `Q` holds of the state reached -/
def Prefix (cfg : Cfg) (react : React) (proxy : Bool) (proto : Option Http.Str) (dz : Option Http.DeflateCfg)
    (pre : Bytes) (X : List Event) (Q : Sys → Prop) : Prop :=
  ∀ s4, AtReadyG cfg react proxy proto dz s4 → s4.sentCloseTime = none →
    ∃ sp, feedLoop pre s4 = .ok true sp ∧ IdleG cfg react dz.isSome sp ∧
      hist sp.trace = X.reverse ++ hist s4.trace ∧ Q sp

theorem Prefix.items (cfg : Cfg) (react : React) (proxy : Bool) (proto : Option Http.Str) (dz : Option Http.DeflateCfg)
    (items : List Item) (hok : ∀ it ∈ items, it.Ok) :
    Prefix cfg react proxy proto dz (wireBytes (items.flatMap Item.wire)) (items.flatMap Item.events) (fun _ => True) :=
  fun s4 h4 _ => by
    obtain ⟨sp, hfl, a⟩ := feed_items_G h4.idle items hok
    exact ⟨sp, hfl, a.idle, a.hist, trivial⟩

theorem Prefix.append {cfg : Cfg} {react : React} {proxy : Bool} {proto : Option Http.Str} {dz : Option Http.DeflateCfg}
    {pre more : Bytes} {X Y : List Event} {Q Q' : Sys → Prop}
    (h : Prefix cfg react proxy proto dz pre X Q)
    (h2 : ∀ sp, IdleG cfg react dz.isSome sp → Q sp → ∃ sq, feedLoop more sp = .ok true sq ∧
      IdleG cfg react dz.isSome sq ∧ hist sq.trace = Y.reverse ++ hist sp.trace ∧ Q' sq) :
    Prefix cfg react proxy proto dz (pre ++ more) (X ++ Y) Q' := fun s4 h4 hs4 => by
  obtain ⟨sp, e1, i1, hh1, q1⟩ := h s4 h4 hs4
  obtain ⟨sq, e2, i2, hh2, q2⟩ := h2 sp i1 q1
  exact ⟨sq, by rw [feedLoop_append, e1]; exact e2, i2, by rw [hh2, hh1]; simp, q2⟩

/-- **a violation after a prefix, end to end.**  The frames phase is `pre ++ stream`; from the idle
    state after `pre` the parser run over `stream` ends with a violation exception in an `I` state
    that has seen `Y` since.  Then the whole trace is

        post ++ cw ++ l ++ ProtocolError(msg, crit) :: t

    where `t` carries exactly the events Connecting, Connected, Ready, Poll, `X`, `Y`; `l` is the
    application's own reaction (no event), `cw` at most one Close of the library's, `post` the
    socket being closed, `Disconnected(k, graceful=False)` and nothing written.  `rest` is never
    consulted. -/
theorem run_prefix_violation {cfg : Cfg} {react : React} {proxy : Bool} (hs : Setup cfg react proxy)
    {reply : Bytes} {proto : Option Http.Str} {dz : Option Http.DeflateCfg} (hg : GoodReplyG cfg reply proto dz)
    (chunks : List Bytes) (pre stream : Bytes) (rest : List EnvStep)
    (hne : ∀ c ∈ chunks, c ≠ []) (hflat : chunks.flatten = reply ++ (pre ++ stream))
    {X : List Event} {Q : Sys → Prop} (hpre : Prefix cfg react proxy proto dz pre X Q)
    (Y : List Event) (P : String → Bool → Prop)
    (hv : ∀ sp, IdleG cfg react dz.isSome sp → Q sp → ∃ x s1 msg crit,
        feedLoop stream sp = .err x s1 ∧ violationOf x = some (msg, crit) ∧ I s1 ∧
        hist s1.trace = Y.reverse ++ hist sp.trace ∧ P msg crit) :
    ∃ msg crit k cw l post t, P msg crit ∧
      (runAll cfg react (reads chunks ++ rest)).trace = post ++ cw ++ l ++ .ev (.protocolError msg crit) :: t ∧
      hist t = (X ++ Y).reverse ++ [.poll, .ready proto dz.isSome, .connected proxy, .connecting] ∧
      ((∀ o ∈ l, Obs.isEv o = false) ∧ ReactSeg l) ∧ CloseWrite msg crit cw ∧
      hist post = [.disconnected k false] ∧
      ((∀ o ∈ post, TailObs (.disconnected k false) o) ∧ ∀ o ∈ post, TailV o) ∧
      (k = "forced" ∨ (crit = false ∧ k = "error")) ∧
      Monitor.events (runAll cfg react (reads chunks ++ rest)).trace =
        [.connecting, .connected proxy, .ready proto dz.isSome, .poll] ++ (X ++ Y) ++
          [.protocolError msg crit, .disconnected k false] := by
  obtain ⟨sA, s4, h4, hs4, hrun, hloop⟩ := bridge_one hs hg chunks (pre ++ stream) rest hne hflat
  obtain ⟨sp, e1, ip, hh1, qp⟩ := hpre s4 h4 hs4
  obtain ⟨x, s1, msg, crit, hfl, hx, i1, hh2, hP⟩ := hv sp ip qp
  have hfl' : feedLoop (pre ++ stream) s4 = .err x s1 := by rw [feedLoop_append, e1]; exact hfl
  obtain ⟨k, cw, l, post, hall, hl, hcw, hhF, nF, hkk, hev⟩ :=
    run_violation_from hrun hloop h4.closed h4.between hfl' hx i1
  have ht : hist s1.trace = (X ++ Y).reverse ++ [.poll, .ready proto dz.isSome, .connected proxy, .connecting] := by
    rw [hh2, hh1, h4.hist]; simp
  refine ⟨msg, crit, k, cw, l, post, s1.trace, hP, hall, ht, hl, hcw, hhF,
    ⟨nF, fun o ho => tailV_of_tailObs (nF o ho)⟩, hkk, ?_⟩
  rw [hev, ht]
  simp

theorem run_prefix_critical {cfg : Cfg} {react : React} {proxy : Bool} (hs : Setup cfg react proxy)
    {reply : Bytes} {proto : Option Http.Str} {dz : Option Http.DeflateCfg} (hg : GoodReplyG cfg reply proto dz)
    (chunks : List Bytes) (pre stream : Bytes) (rest : List EnvStep)
    (hne : ∀ c ∈ chunks, c ≠ []) (hflat : chunks.flatten = reply ++ (pre ++ stream))
    {X : List Event} {Q : Sys → Prop} (hpre : Prefix cfg react proxy proto dz pre X Q)
    (Y : List Event) (msg : String)
    (hv : ∀ sp, IdleG cfg react dz.isSome sp → Q sp → ∃ x s1,
        feedLoop stream sp = .err x s1 ∧ violationOf x = some (msg, true) ∧ I s1 ∧
        hist s1.trace = Y.reverse ++ hist sp.trace) :
    Monitor.events (runAll cfg react (reads chunks ++ rest)).trace =
      [.connecting, .connected proxy, .ready proto dz.isSome, .poll] ++ (X ++ Y) ++
        [.protocolError msg true, .disconnected "forced" false] := by
  obtain ⟨m, crit, k, _, _, _, _, ⟨rfl, rfl⟩, _, _, _, _, _, _, hk, hev⟩ :=
    run_prefix_violation hs hg chunks pre stream rest hne hflat hpre Y (fun m c => m = msg ∧ c = true)
      (fun sp ip qp => by
        obtain ⟨x, s1, h1, h2, h3, h4⟩ := hv sp ip qp
        exact ⟨x, s1, msg, true, h1, h2, h3, h4, rfl, rfl⟩)
  obtain rfl := hk.resolve_right (fun h => nomatch h.1)
  exact hev

/-- a critical error in the first bytes after the handshake, its text known only through `P` -/
theorem run_ready_critical {cfg : Cfg} {react : React} {proxy : Bool} (hs : Setup cfg react proxy)
    {reply : Bytes} {proto : Option Http.Str} {dz : Option Http.DeflateCfg} (hg : GoodReplyG cfg reply proto dz)
    (chunks : List Bytes) (stream : Bytes) (rest : List EnvStep)
    (hne : ∀ c ∈ chunks, c ≠ []) (hflat : chunks.flatten = reply ++ stream) (X : List Event) (P : String → Prop)
    (hv : ∀ s4, AtReadyG cfg react proxy proto dz s4 → ∃ x s1 msg,
        feedLoop stream s4 = .err x s1 ∧ violationOf x = some (msg, true) ∧ I s1 ∧
        hist s1.trace = X.reverse ++ hist s4.trace ∧ P msg) :
    ∃ msg, P msg ∧ Monitor.events (runAll cfg react (reads chunks ++ rest)).trace =
      [.connecting, .connected proxy, .ready proto dz.isSome, .poll] ++ X ++
        [.protocolError msg true, .disconnected "forced" false] := by
  have hpre : Prefix cfg react proxy proto dz [] [] (AtReadyG cfg react proxy proto dz) :=
    fun s4 h4 _ => ⟨s4, feedLoop_nil s4, h4.idle, rfl, h4⟩
  obtain ⟨msg, crit, k, _, _, _, _, ⟨hP, hc⟩, _, _, _, _, _, _, hk, hev⟩ :=
    run_prefix_violation hs hg chunks [] stream rest hne hflat hpre X (fun msg crit => P msg ∧ crit = true)
      (fun sp _ q => by
        obtain ⟨x, s1, msg, h1, h2, h3, h4', h5⟩ := hv sp q
        exact ⟨x, s1, msg, true, h1, h2, h3, h4', h5, rfl⟩)
  subst hc
  obtain rfl := hk.resolve_right (fun h => nomatch h.1)
  exact ⟨msg, hP, hev⟩

/-- **the frames phase is a prefix and nothing else, then the server's end of stream**: the events
    are the handshake, those of the prefix, a Poll iff the last wait reaches the poll interval, and
    `Disconnected('connection-lost')` -/
theorem run_prefix_eof {cfg : Cfg} {react : React} {proxy : Bool} (hs : Setup cfg react proxy)
    {reply : Bytes} {proto : Option Http.Str} {dz : Option Http.DeflateCfg} (hg : GoodReplyG cfg reply proto dz)
    (chunks : List Bytes) (pre : Bytes) (hne : ∀ c ∈ chunks, c ≠ []) (hflat : chunks.flatten = reply ++ pre)
    (dt : Nat) (hpt : cfg.pingTimeout = 0 ∨ dt ≤ cfg.pingTimeout) (hct : cfg.closeTimeout = 0 ∨ dt < cfg.closeTimeout)
    {X : List Event} {Q : Sys → Prop} (hpre : Prefix cfg react proxy proto dz pre X Q) :
    Monitor.events (runAll cfg react (reads chunks ++ [.wait dt (some .eof)])).trace =
      [.connecting, .connected proxy, .ready proto dz.isSome, .poll] ++ X ++
        (if cfg.poll ≤ dt then [.poll] else []) ++ [.disconnected "connection-lost" false] := by
  obtain ⟨sA, s4, h4, hs4, hrun, hloop⟩ := bridge_one hs hg chunks pre [.wait dt (some .eof)] hne hflat
  obtain ⟨sp, e1, ip, hh1, _⟩ := hpre s4 h4 hs4
  rw [run_ok_eof_from hs.app hpt hct hrun hloop h4.i h4.ready h4.cfg h4.react h4.closed h4.between e1 ip.closed
    ip.closing, hh1, h4.hist]
  by_cases hd : cfg.poll ≤ dt <;> simp [hd]

end Lomond.Core.E2E
