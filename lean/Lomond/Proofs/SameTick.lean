/-
  C18 on the core model: the clock does not move while a `recv` is being processed.
  `NT s s'`: the virtual clock (`now`) is unchanged and no `.tick` entry was added to the trace.
  The clock only advances in `loop`, inside `selector.wait` (`Core.tick`): none of the primitive
  updates below the loop touches it (`nt_timerLeaves`), hence no function below the loop does
  (Proofs/SpecGen.lean, and Proofs/Lift.lean for the receive pipeline).
-/
import Lomond.Proofs.Lift
import Lomond.Proofs.Pong
import Lomond.Proofs.DeliveryCalm
namespace Lomond.Core.SameTick
open Lomond Lomond.Core Lomond.Core.Lift Lomond.Core.Pong

def noTick : Obs → Bool
  | .tick _ => false
  | _ => true

structure NT (s s' : Sys) : Prop where
  now : s'.now = s.now
  ext : ∃ l, s'.trace = l ++ s.trace ∧ ∀ o ∈ l, noTick o = true

theorem nt_po : PO NT where
  refl _ := ⟨rfl, [], rfl, by simp⟩
  trans h1 h2 := ⟨h2.now.trans h1.now, ext_trans h1.ext h2.ext⟩

theorem nt_same {s s' : Sys} (hn : s'.now = s.now) (ht : s'.trace = s.trace) : NT s s' :=
  ⟨hn, [], ht, by simp⟩

theorem nt_one {s s' : Sys} (o : Obs) (hn : s'.now = s.now) (ht : s'.trace = o :: s.trace)
    (ho : noTick o = true) : NT s s' :=
  ⟨hn, [o], ht, by simpa using ho⟩

theorem nt_timerLeaves : TimerLeaves NT :=
  { nt_po with
    sockClose := fun s _ => nt_one .sockClose rfl rfl rfl
    key := fun s => nt_same rfl rfl
    wr := fun s d o _ _ _ ho => nt_one o rfl rfl (by rcases ho with rfl | rfl <;> rfl)
    wrz := fun s op pl o _ _ _ _ ho => nt_one o rfl rfl (by rcases ho with rfl | rfl <;> rfl)
    closeSent := fun s => nt_same rfl rfl
    res := fun s r => nt_one (.res r) rfl rfl rfl
    abandon := fun s w => nt_same rfl rfl
    ev := fun s e => nt_one (.ev e) rfl rfl rfl
    polled := fun s => nt_same rfl rfl
    pinged := fun s _ _ => nt_same rfl rfl
    becameReady := fun s => nt_same rfl rfl
    gotPong := fun s => nt_same rfl rfl
    disconnected := fun s => nt_same rfl rfl }

theorem nt_leaves : Leaves NT where
  po := nt_po
  inert := fun _ _ h => nt_same h.now h.trace
  closeSocket := nt_timerLeaves.closeSocket
  wsClose := nt_timerLeaves.wsClose
  feedYield := fun b e _ => nt_timerLeaves.feedYield b e

theorem nt_wsFeed (data : Bytes) : Spec NT (wsFeed data) := lift_wsFeed nt_leaves data

theorem nt_recvStep (o : RecvOutcome) : Spec NT (recvStep o) := lift_recvStep nt_leaves o

theorem mem_of_delivered {e : Event} {tr : List Obs} (h : e ∈ delivered tr) : Obs.ev e ∈ tr := by
  unfold delivered at h
  rw [List.mem_filterMap] at h
  obtain ⟨o, ho, hm⟩ := h
  cases o with
  | ev e' =>
    simp only [] at hm
    split at hm
    · cases hm
    · cases hm; exact ho
  | _ => cases hm

end Lomond.Core.SameTick
