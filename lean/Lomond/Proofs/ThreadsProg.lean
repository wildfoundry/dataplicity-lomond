/-
  The compiled programs (`Model/Threads.lean`: `compile`, `altSteps`) and the jumps inside them (`afterClose`,
  `toRelease`): where a thread stands (`view`), whether it holds the lock there (`holds`), and the disciplines every
  compiled program obeys — the lock discipline `disc`, every write is the call's frame (`srcOk`), a send neither returns
  early nor branches.
-/
import Lomond.Model.ThreadsN

namespace Lomond.Threads
open Lomond

/-- the remaining sync steps of the call a thread is in (or is about to start) -/
def view (v : Variant) (cfg : Cfg) (th : Thread) : List Step :=
  match th.current v cfg with
  | some c => c.rest
  | none => []

/-- does a thread standing at this point of its program hold the write lock?
    (the next lock operation ahead of it is a release) -/
def holds : List Step → Bool
  | [] => false
  | .acquire :: _ => false
  | .release :: _ => true
  | _ :: r => holds r

def isWrite : Step → Bool
  | .write1 _ => true
  | .write2 _ => true
  | _ => false

def noWrite (r : List Step) : Bool := r.all (fun s => !isWrite s)

def headW2 : List Step → Bool
  | .write2 _ :: _ => true
  | _ => false

/-- steps that may only stand outside a `with self._lock:` block -/
def outOnly : Step → Bool
  | .retIfClosed => true
  | .retIfClosing => true
  | .brIfClosing _ => true
  | .brIfErr _ => true
  | .setCloseTime => true
  | _ => false

/-- steps that may only stand inside a `with self._lock:` block -/
def inOnly : Step → Bool
  | .chkSock => true
  | .chkClosed => true
  | .chkClosing => true
  | .ldClosing => true
  | .chkBoth => true
  | _ => false

/-- the lock discipline of a program (every suffix of a disciplined program is disciplined):
    an acquire is followed by its release before any other lock operation, the two halves of a
    write are adjacent, carry the same frame and sit inside the lock, there is at most one write
    per call (nothing is written after a release), the state checks of `session.write` sit inside
    the lock before the write, early returns / branches / the end of `close()` are outside the lock,
    the socket is shut (`sockClose`) inside the lock. -/
def disc : List Step → Bool
  | [] => true
  | st :: r =>
    disc r &&
    (match st with
     | .acquire => holds r
     | .release => !holds r && noWrite r
     | .write1 f => holds r && (match r with | .write2 g :: _ => f = g | _ => false)
     | .write2 _ => holds r && noWrite r
     | .sockClose => holds r
     | _ => if outOnly st then !holds r else if inOnly st then holds r && !noWrite r else true) &&
    (match st with
     | .write1 _ => true
     | _ => !headW2 r)

theorem disc_tail {st : Step} {r : List Step} (h : disc (st :: r) = true) : disc r = true := by
  simp only [disc, Bool.and_eq_true] at h; exact h.1.1

theorem afterClose_suffix (r : List Step) : afterClose r <:+ r := by
  induction r with
  | nil => simp [afterClose]
  | cons s r ih =>
    cases s <;> simp only [afterClose] <;>
      first | exact List.suffix_cons _ _ | exact ih.trans (List.suffix_cons _ _)

theorem toRelease_suffix (r : List Step) : toRelease r <:+ r := by
  induction r with
  | nil => simp [toRelease]
  | cons s r ih =>
    cases s <;> simp only [toRelease] <;>
      first | exact List.suffix_refl _ | exact ih.trans (List.suffix_cons _ _)

/-- a discipline: a property of programs that every suffix of a program inherits; `disc`, `srcOk`, `noJump` and the
    disciplines of the close and compression protocols are of this kind -/
structure Discipline (D : List Step → Bool) : Prop where
  nil : D [] = true
  tail : ∀ st r, D (st :: r) = true → D r = true

theorem Discipline.suffix {D : List Step → Bool} (hD : Discipline D) {r r' : List Step} (h : r' <:+ r)
    (d : D r = true) : D r' = true := by
  induction r with
  | nil => simp at h; subst h; exact d
  | cons s r ih =>
    rcases List.suffix_cons_iff.mp h with h | h
    · subst h; exact d
    · exact ih h (hD.tail _ _ d)

theorem disc_suffix {r r' : List Step} (h : r' <:+ r) (d : disc r = true) : disc r' = true :=
  Discipline.suffix ⟨rfl, fun _ _ => disc_tail⟩ h d

theorem holds_afterClose (r : List Step) (d : disc r = true) : holds (afterClose r) = false := by
  induction r with
  | nil => rfl
  | cons s r ih =>
    have dt := disc_tail d
    cases s <;> simp only [afterClose] <;> try exact ih dt
    -- setCloseTime: the rest is outside the lock
    simp only [disc, outOnly, Bool.and_eq_true] at d
    simpa using d.1.2

theorem holds_toRelease (r : List Step) (h : holds r = true) : holds (toRelease r) = true := by
  induction r with
  | nil => simp [holds] at h
  | cons s r ih =>
    cases s <;> simp only [toRelease, holds] at h ⊢ <;> first | exact ih h | rfl | cases h

theorem headW2_afterClose (r : List Step) (d : disc r = true) : headW2 (afterClose r) = false := by
  induction r with
  | nil => rfl
  | cons s r ih =>
    have dt := disc_tail d
    cases s <;> simp only [afterClose] <;> try exact ih dt
    simp only [disc, Bool.and_eq_true] at d
    simpa using d.2

/-- an exception inside the lock lands on the release (or at the end of the program) -/
theorem toRelease_cases (r : List Step) : toRelease r = [] ∨ ∃ r', toRelease r = .release :: r' := by
  induction r with
  | nil => exact Or.inl rfl
  | cons s r ih => cases s <;> first | exact ih | exact Or.inr ⟨_, rfl⟩

theorem headW2_toRelease (r : List Step) : headW2 (toRelease r) = false := by
  rcases toRelease_cases r with e | ⟨_, e⟩ <;> rw [e] <;> rfl

theorem compile_disc (v : Variant) (cfg : Cfg) (call : Call) : disc (compile v cfg call) = true := by
  cases call <;>
    simp only [compile, sendData, closeBody, writeProg, checks] <;>
    (repeat' split) <;> first | rfl | (simp only [List.cons_append, List.nil_append, disc, decide_true]; rfl)

theorem compile_holds (v : Variant) (cfg : Cfg) (call : Call) : holds (compile v cfg call) = false := by
  cases call <;>
    simp only [compile, sendData, closeBody, writeProg, checks] <;>
    (repeat' split) <;> rfl

def isStart : Step → Bool
  | .rdSock | .acquire | .compress _ | .retIfClosed | .setSock => true
  | _ => false

theorem compile_start {P : List Step → Prop} (v : Variant) (cfg : Cfg) (call : Call)
    (h : ∀ st r, isStart st = true → P (st :: r)) : P (compile v cfg call) := by
  cases call <;> simp only [compile, sendData, closeBody, writeProg] <;> (repeat' split) <;> exact h _ _ rfl

theorem compile_headW2 (v : Variant) (cfg : Cfg) (call : Call) : headW2 (compile v cfg call) = false :=
  compile_start (P := fun r => headW2 r = false) v cfg call fun st _ h => by cases st <;> first | rfl | cases h

theorem alt_disc (v : Variant) (a : Alt) : disc (altSteps v a) = true := by
  cases a <;> simp only [altSteps, closeSocketProg] <;> (try split) <;> simp [disc, holds, noWrite, isWrite, headW2, outOnly, inOnly]

theorem alt_holds (v : Variant) (a : Alt) : holds (altSteps v a) = false := by
  cases a <;> simp only [altSteps, closeSocketProg] <;> (try split) <;> simp [holds]

theorem alt_headW2 (v : Variant) (a : Alt) : headW2 (altSteps v a) = false := by
  cases a <;> simp only [altSteps, closeSocketProg] <;> (try split) <;> simp [headW2]

theorem alt_noWrite (v : Variant) (a : Alt) : noWrite (altSteps v a) = true := by
  cases a <;> simp only [altSteps, closeSocketProg] <;> (try split) <;> simp [noWrite, isWrite]

theorem all_suffix {p : Step → Bool} {r r' : List Step} (h : r' <:+ r) (n : r.all p = true) : r'.all p = true := by
  obtain ⟨q, rfl⟩ := h
  simp only [List.all_append, Bool.and_eq_true] at n
  exact n.2

def isW2 : Step → Bool
  | .write2 _ => true
  | _ => false

/-- where the payload of a call's frame comes from -/
def Call.src (cfg : Cfg) : Call → PaySrc
  | .sendText p c => if c = true ∧ cfg.deflate = true then .zreg else .lit p
  | .sendBinary p c => if c = true ∧ cfg.deflate = true then .zreg else .lit p
  | .sendPing d => .lit d
  | .sendPong d => .lit d
  | .close code r => .lit (buildClosePayload code r)
  | .onPing d => .lit d
  | .onClose code r => .lit (buildClosePayload code r)
  | .autoPing => .lit []
  | .onData _ => .lit []
  | .onData2 _ _ => .lit []
  | .connect => .lit []
  | .abandon => .lit []

def Call.frame (cfg : Cfg) (call : Call) : FrameSrc := ⟨call.op, call.src cfg⟩

/-- the application's send methods (a WebSocketError reaches the caller) -/
def Call.isSend : Call → Bool
  | .sendText _ _ => true
  | .sendBinary _ _ => true
  | .sendPing _ => true
  | .sendPong _ => true
  | _ => false

/-- every write of the program is the call's frame, every `compress()` gets the call's message -/
def srcOk (f0 : FrameSrc) (m : Bytes) (r : List Step) : Bool :=
  r.all fun st =>
    match st with
    | .write1 f => f = f0
    | .write2 f => f = f0
    | .compress d => d = m
    | _ => true

def isJump : Step → Bool
  | .retIfClosed => true
  | .retIfClosing => true
  | .brIfClosing _ => true
  | .brIfErr _ => true
  | _ => false

def noJump (r : List Step) : Bool := r.all (fun s => !isJump s)

def hasW2 (r : List Step) : Bool := r.any isW2

theorem src_lit (cfg : Cfg) (call : Call) (b : Bytes) (h : call.src cfg = .lit b) : b = call.msg := by
  cases call <;> simp only [Call.src, Call.msg] at h ⊢ <;> (try split at h) <;> first | cases h; rfl | cases h

theorem compile_srcOk (v : Variant) (cfg : Cfg) (call : Call) :
    srcOk (call.frame cfg) call.msg (compile v cfg call) = true := by
  cases call <;>
    simp only [compile, sendData, closeBody, writeProg, checks, Call.frame, Call.src, Call.op, Call.msg] <;>
    (repeat' split) <;> simp only [srcOk, List.all_append, List.all_cons, List.all_nil, decide_true, Bool.and_self]

theorem compile_send (v : Variant) (cfg : Cfg) (call : Call) (h : call.isSend = true) :
    noJump (compile v cfg call) = true ∧ hasW2 (compile v cfg call) = true := by
  cases call <;> simp only [Call.isSend] at h <;> try cases h
  all_goals
    simp only [compile, sendData, writeProg, checks]
    (repeat' split) <;> exact ⟨rfl, rfl⟩

theorem alt_srcOk (v : Variant) (a : Alt) (f0 : FrameSrc) (m : Bytes) : srcOk f0 m (altSteps v a) = true := by
  cases a <;> simp only [altSteps, closeSocketProg] <;> (try split) <;> simp [srcOk]

theorem alt_noJump (v : Variant) (a : Alt) : noJump (altSteps v a) = true := by
  cases a <;> simp only [altSteps, closeSocketProg] <;> (try split) <;> rfl

theorem noWrite_toRelease (r : List Step) (d : disc r = true) : noWrite (toRelease r) = true := by
  induction r with
  | nil => rfl
  | cons s r ih =>
    have dt := disc_tail d
    cases s <;> simp only [toRelease] <;> try exact ih dt
    simp only [disc, Bool.and_eq_true] at d
    simp [noWrite, isWrite] at d ⊢
    exact d.1.2.2

theorem inOnly_not_noWrite {st : Step} {r : List Step} (d : disc (st :: r) = true) (hin : inOnly st = true) :
    noWrite r = false := by
  cases st <;> simp only [inOnly] at hin <;> try cases hin
  all_goals
    simp only [disc, outOnly, inOnly, Bool.and_eq_true] at d
    have := d.1.2
    simp at this
    exact this.2

end Lomond.Threads
