/-
  The tie between the two levels of the C06 model: the core model's `inflateMessage` (bytes, the
  `inflate` function a parameter) computes `wholeGen I` — the token-level `wholeOutputs` and
  `wholeOutputsSafe` are its two cases — on every history on which `inflate` agrees with the
  meaning `I` of block histories under some encoding of block lists into bytes (`feedMsgs_gen`).
-/
import Lomond.Proofs.Deflate
import Lomond.Proofs.DeflateCore
namespace Lomond.Core
open Lomond Lomond.Deflate

def TAIL : Bytes := [0, 0, 0xff, 0xff]

/-- the bytes lomond hands to zlib for a history of messages: each payload followed by the tail -/
def encHist (enc : List Blk → Bytes) (ms : List (List Blk)) : Bytes := ms.flatMap (fun m => enc m ++ TAIL)

/-- what the token model says comes out of that history -/
def tokenOut (wsize : Nat) (ms : List (List Blk)) : Option Bytes :=
  (inflBlocks wsize [] (ms.flatMap unstrip)).map (fun r => r.2.1.reverse)

/-- `inflate` (with window `2^wbits`) reads the byte history `encHist enc ms` as the blocks `ms` -/
def Agrees (inflate : Nat → Bytes → Option Bytes) (wbits : Nat) (enc : List Blk → Bytes) (ms : List (List Blk)) : Prop :=
  inflate wbits (encHist enc ms) = tokenOut (2 ^ wbits) ms

/-- the joined payloads of successive compressed messages through `Core.inflateMessage` -/
def feedMsgs : List Bytes → Sys → Option (List Bytes)
  | [], _ => some []
  | j :: rest, s =>
    match inflateMessage j s with
    | .ok out s' =>
      match feedMsgs rest s' with
      | none => none
      | some outs => some (out :: outs)
    | .err _ _ => none

theorem encHist_snoc (enc : List Blk → Bytes) (prev : List (List Blk)) (m : List Blk) :
    encHist enc (prev ++ [m]) = encHist enc prev ++ enc m ++ TAIL := by
  simp [encHist, List.flatMap_append, List.append_assoc]

/-- what the token model says comes out of that history when BFINAL=1 does not end it -/
def tokenOutSafe (wsize : Nat) (ms : List (List Blk)) : Option Bytes :=
  (inflBlocksAll wsize [] (ms.flatMap unstrip)).map (fun r => r.2.reverse)

/-- `inflate` reads the byte history as the blocks `ms`, going on after BFINAL=1 blocks -/
def AgreesSafe (inflate : Nat → Bytes → Option Bytes) (wbits : Nat) (enc : List Blk → Bytes) (ms : List (List Blk)) : Prop :=
  inflate wbits (encHist enc ms) = tokenOutSafe (2 ^ wbits) ms

/-- what a block history means (oldest byte first) to an inflater that goes on after a BFINAL=1
    block (`cont`) or stops there; `tokenOutSafe` and `tokenOut` are the two cases -/
def tokenMean (cont : Bool) (wsize : Nat) (bs : List Blk) : Option Bytes :=
  if cont then (inflBlocksAll wsize [] bs).map (fun r => r.2.reverse)
  else (inflBlocks wsize [] bs).map (fun r => r.2.1.reverse)

/-- "inflate the whole compressed history, deliver what is new" for a meaning `I` of block
    histories; `wholeOutputs` and `wholeOutputsSafe` are the cases `I = tokenMean cont wsize` -/
def wholeGen (I : List Blk → Option Bytes) (reset : Bool) : List Blk → Nat → List (List Blk) → Option (List Bytes)
  | _, _, [] => some []
  | hist, done, m :: rest =>
    match I (hist ++ unstrip m) with
    | none => none
    | some out =>
      match (if reset then wholeGen I reset [] 0 rest
             else wholeGen I reset (hist ++ unstrip m) out.length rest) with
      | none => none
      | some outs => some (out.drop done :: outs)

theorem wholeOutputs_eq_gen (w : Nat) (reset : Bool) (hist : List Blk) (done : Nat) (msgs : List (List Blk)) :
    wholeOutputs w reset hist done msgs = wholeGen (tokenMean false w) reset hist done msgs := by
  induction msgs generalizing hist done with
  | nil => rfl
  | cons m ms ih =>
    simp only [wholeOutputs, wholeGen, tokenMean, Bool.false_eq_true, if_false]
    cases inflBlocks w [] (hist ++ unstrip m) with
    | none => rfl
    | some r => simp only [Option.map_some, ih, List.length_reverse]; rfl

theorem wholeOutputsSafe_eq_gen (w : Nat) (reset : Bool) (hist : List Blk) (done : Nat) (msgs : List (List Blk)) :
    wholeOutputsSafe w reset hist done msgs = wholeGen (tokenMean true w) reset hist done msgs := by
  induction msgs generalizing hist done with
  | nil => rfl
  | cons m ms ih =>
    simp only [wholeOutputsSafe, wholeGen, tokenMean, if_true]
    cases inflBlocksAll w [] (hist ++ unstrip m) with
    | none => rfl
    | some r => simp only [Option.map_some, ih, List.length_reverse]; rfl

/-- `inflate` reads the byte history `encHist enc ms` as `I` says; `Agrees` and `AgreesSafe` are,
    by definition, the cases `I = tokenMean false (2 ^ wbits)` and `tokenMean true (2 ^ wbits)` -/
def AgreesG (inflate : Nat → Bytes → Option Bytes) (wbits : Nat) (enc : List Blk → Bytes)
    (I : List Blk → Option Bytes) (ms : List (List Blk)) : Prop :=
  inflate wbits (encHist enc ms) = I (ms.flatMap unstrip)

/-- **the core model's `inflateMessage` computes `wholeGen I`** on every history on which `inflate`
    agrees with `I`: every prefix of the message history under context takeover, every single
    message without -/
theorem feedMsgs_gen (I : List Blk → Option Bytes) (enc : List Blk → Bytes) (d : Http.DeflateCfg)
    (msgs : List (List Blk)) (s : Sys) (prev : List (List Blk)) (hd : s.compression = some d)
    (hh : s.inflHist = encHist enc prev)
    (hr : d.resetDecompress = true → prev = [])
    (hA : ∀ pre m post, msgs = pre ++ m :: post →
      AgreesG s.cfg.inflate d.decompressWbits enc I (if d.resetDecompress then [m] else prev ++ pre ++ [m])) :
    feedMsgs (msgs.map enc) s = wholeGen I d.resetDecompress (prev.flatMap unstrip) s.inflOut msgs := by
  induction msgs generalizing s prev with
  | nil => rfl
  | cons m ms ih =>
    have hI : s.cfg.inflate d.decompressWbits (s.inflHist ++ enc m ++ [0, 0, 0xff, 0xff]) =
        I (prev.flatMap unstrip ++ unstrip m) := by
      have h1 := hA [] m ms rfl
      cases hrr : d.resetDecompress with
      | true =>
        obtain rfl := hr hrr
        rw [hrr] at h1
        simpa [AgreesG, encHist, TAIL, hh] using h1
      | false =>
        rw [hrr] at h1
        simpa [AgreesG, encHist_snoc, TAIL, hh] using h1
    simp only [List.map_cons, feedMsgs, wholeGen]
    unfold inflateMessage
    simp only [hd, Option.map_some, Option.getD_some]
    rw [hI]
    cases I (prev.flatMap unstrip ++ unstrip m) with
    | none => rfl
    | some out =>
      cases hrr : d.resetDecompress with
      | true =>
        have := ih { s with inflHist := [], inflOut := 0 } [] hd rfl (fun _ => rfl)
          (fun pre m' post e => by
            have := hA (m :: pre) m' post (by rw [e]; rfl)
            simpa [hrr] using this)
        simp only [hd, hrr] at this
        simp only [if_true, this]
        rfl
      | false =>
        have := ih { s with inflHist := s.inflHist ++ enc m ++ [0, 0, 0xff, 0xff], inflOut := out.length }
          (prev ++ [m]) hd (by rw [encHist_snoc, hh]; rfl) (fun h => by rw [hrr] at h; cases h)
          (fun pre m' post e => by
            have := hA (m :: pre) m' post (by rw [e]; rfl)
            simpa [hrr, List.append_assoc] using this)
        simp only [hd, hrr, List.flatMap_append, List.flatMap_singleton] at this
        simp only [Bool.false_eq_true, if_false, this]

theorem agreesG_split {inflate : Nat → Bytes → Option Bytes} {wbits : Nat} {enc : List Blk → Bytes}
    {I : List Blk → Option Bytes} {reset : Bool} {msgs : List (List Blk)}
    (hA : if reset then ∀ m ∈ msgs, AgreesG inflate wbits enc I [m]
          else ∀ k, k ≤ msgs.length → AgreesG inflate wbits enc I (msgs.take k))
    (pre : List (List Blk)) (m : List Blk) (post : List (List Blk)) (e : msgs = pre ++ m :: post) :
    AgreesG inflate wbits enc I (if reset then [m] else [] ++ pre ++ [m]) := by
  subst e
  cases reset with
  | true => exact hA m (by simp)
  | false =>
    have := hA (pre.length + 1) (by simp)
    rw [show pre ++ m :: post = (pre ++ [m]) ++ post by simp,
      List.take_append_of_le_length (by simp), List.take_of_length_le (by simp)] at this
    simpa using this

end Lomond.Core
