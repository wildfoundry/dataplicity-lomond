/-
  `persist()` over the core model (Model/PersistLink.lean), in the words of Proofs/Persist.lean: an attempt that ends
  is a round (`attemptEvents_eq`, `ended_iff`, `hasReady_roundOf`; `live_map`, `streak_map` carry `live` and `streak`
  over).  If every attempt ends, `persistCore` is `Persist.persist` on the rounds (`persistCore_all_ended`); at the
  first attempt that does not end it adds that attempt's `connect` and events and nothing more
  (`persistCore_unfinished`).  An event sequence the monitor accepts holds at most one `Ready` (`ready_at_most_once`).
-/
import Lomond.Model.PersistLink
import Lomond.Proofs.Persist
import Lomond.Proofs.RunAll
namespace Lomond.PersistLink
open Lomond Lomond.Core Lomond.Core.Monitor Lomond.Persist

theorem eventsOfTrace_eq (tr : List Obs) : eventsOfTrace tr = events tr := by
  unfold eventsOfTrace events
  congr 1

theorem attemptEvents_eq (c : Persist.Cfg Nat) (a : Attempt) :
    attemptEvents c a = events (runAll (attemptCfg c a) a.react a.env).trace := eventsOfTrace_eq _

theorem ended_iff (c : Persist.Cfg Nat) (a : Attempt) :
    ended c a = true ↔ ∃ s, run (initSys (attemptCfg c a) a.react a.env) = .ok () s := by
  unfold ended
  show (match run (initSys (attemptCfg c a) a.react a.env) with | .ok _ _ => true | .err _ _ => false) = true ↔ _
  cases h : run (initSys (attemptCfg c a) a.react a.env) with
  | ok u s => exact ⟨fun _ => ⟨s, rfl⟩, fun _ => rfl⟩
  | err x s => exact ⟨fun h' => (by cases h'), fun ⟨s', h'⟩ => (by cases h')⟩

theorem live_map (c : Persist.Cfg Nat) (as : List Attempt) :
    live (as.map (roundOf c)) = (liveA as).map (roundOf c) := by
  induction as with
  | nil => rfl
  | cons a r ih =>
    simp only [List.map_cons, live, liveA]
    show (if a.exit = true then _ else _) = _
    split
    · rfl
    · rw [ih]; rfl

theorem hasReady_roundOf (c : Persist.Cfg Nat) (a : Attempt) :
    hasReady isReadyEv (roundOf c a) = !noReady c a := by
  unfold hasReady noReady roundOf
  simp

theorem streak_map (c : Persist.Cfg Nat) (as : List Attempt) :
    streak isReadyEv (as.map (roundOf c)) = failStreak c as := by
  unfold streak failStreak
  rw [← List.map_reverse]
  generalize as.reverse = l
  induction l with
  | nil => rfl
  | cons a r ih =>
    simp only [List.map_cons, List.takeWhile_cons, hasReady_roundOf, Bool.not_not]
    cases noReady c a
    · rfl
    · simp only [List.length_cons, ↓reduceIte]; rw [ih]

theorem liveA_prefix (as : List Attempt) : liveA as <+: as := by
  induction as with
  | nil => exact List.prefix_refl _
  | cons a r ih =>
    unfold liveA
    split
    · exact ⟨r, rfl⟩
    · exact (List.prefix_cons_inj a).mpr ih

def liftStatus : Persist.Status → Status
  | .exited => .exited
  | .running => .running

theorem persistCore_all_ended (c : Persist.Cfg Nat) (as : List Attempt) (h : ∀ a ∈ as, ended c a = true) :
    persistCore c as = ((persist isReadyEv c (as.map (roundOf c))).1,
      liftStatus (persist isReadyEv c (as.map (roundOf c))).2) := by
  unfold persistCore
  simp only []
  have ht : as.takeWhile (ended c) = as := by simpa using List.takeWhile_append_of_pos (l₂ := []) h
  have hd : as.dropWhile (ended c) = [] := by simpa using List.dropWhile_append_of_pos (l₂ := []) h
  rw [ht, hd]
  cases (persist isReadyEv c (as.map (roundOf c))).2 <;> rfl

/-- at the first attempt that does not end: if persist gets to it, its `connect` and its events follow
    what the attempts before it gave, and nothing else -/
theorem persistCore_unfinished (c : Persist.Cfg Nat) (good : List Attempt) (a : Attempt) (rest : List Attempt)
    (hg : ∀ b ∈ good, ended c b = true) (ha : ended c a = false) :
    persistCore c (good ++ a :: rest) =
      if (persistCore c good).2 = .exited then persistCore c good
      else ((persistCore c good).1 ++ Persist.Obs.connect c.poll c.pingRate c.pingTimeout ::
        (attemptEvents c a).map (fun e => Persist.Obs.yield (Persist.Out.ev e)), .inAttempt) := by
  rw [persistCore_all_ended c good hg]
  unfold persistCore
  simp only [List.takeWhile_append_of_pos hg, List.dropWhile_append_of_pos hg, List.takeWhile_cons,
    List.dropWhile_cons, ha, Bool.false_eq_true, ↓reduceIte, List.append_nil]
  cases (persist isReadyEv c (good.map (roundOf c))).2 <;> simp [liftStatus]

theorem no_ready_late : ∀ (l : List Event) (ph q : Phase), 3 ≤ ph.rank → Mon.run ph l = some q →
    ∀ e ∈ l, isReadyEv e = false
  | [], _, _, _, _, e, he => by cases he
  | x :: r, ph, q, h3, h, e, he => by
    simp only [Mon.run] at h
    cases hs : Mon.step ph x with
    | none => rw [hs] at h; cases h
    | some p =>
      rw [hs] at h
      simp only [Option.bind_some] at h
      have hm := Mon.step_mono hs
      rcases List.mem_cons.mp he with rfl | hr
      · -- only `Ready` is in question, and no phase of rank ≥ 3 accepts it
        cases e with
        | ready p d => cases ph <;> simp [Mon.step, Phase.rank] at hs h3
        | _ => rfl
      · exact no_ready_late r p q (Nat.le_trans h3 hm) h e hr

theorem ready_at_most_once : ∀ (l : List Event) (ph q : Phase), Mon.run ph l = some q →
    (l.filter isReadyEv).length ≤ 1
  | [], _, _, _ => by simp
  | x :: r, ph, q, h => by
    simp only [Mon.run] at h
    cases hs : Mon.step ph x with
    | none => rw [hs] at h; cases h
    | some p =>
      rw [hs] at h
      simp only [Option.bind_some] at h
      rw [List.filter_cons]
      cases hx : isReadyEv x with
      | false => simpa using ready_at_most_once r p q h
      | true =>
        have hp : 3 ≤ p.rank := by
          cases x with
          | ready p d => cases ph <;> simp [Mon.step] at hs <;> subst hs <;> decide
          | _ => cases hx
        have := no_ready_late r p q hp h
        have hnil : r.filter isReadyEv = [] := List.filter_eq_nil_iff.mpr (fun e he => by rw [this e he]; exact Bool.false_ne_true)
        simp [hnil]

end Lomond.PersistLink
