/-
  C01, parser side continued: conforming server frames (`WFrame`) and what each class of frame
  does to the parser's message-level state (`_is_text`, validator state); `ParsesB`: bytes that the
  eager parser turns into given frames, whatever follows.
-/
import Lomond.Proofs.DeliveryParse
namespace Lomond.Core
open Lomond

/-- a frame as a conforming server writes it (unmasked, reserved bits clear) -/
structure WFrame where
  fin : Bool
  opcode : Nat
  payload : Bytes
  form : LenForm
  deriving Repr, DecidableEq

def WFrame.b0 (w : WFrame) : Nat := (if w.fin then 128 else 0) + w.opcode
def WFrame.bytes (w : WFrame) : Bytes := serialise w.b0 w.form w.payload
/-- the frame object the client is expected to build -/
def WFrame.frame (w : WFrame) : Frame := { opcode := w.opcode, payload := w.payload, fin := if w.fin then 1 else 0 }
def WFrame.hdr (w : WFrame) : Frame := { opcode := w.opcode, fin := if w.fin then 1 else 0 }

/-- legal: the length form can spell the length; data opcodes, or an unfragmented control frame of
    at most 125 bytes -/
def WFrame.Ok (w : WFrame) : Prop :=
  w.form.ok w.payload.length ∧
  ((w.opcode = 0 ∨ w.opcode = 1 ∨ w.opcode = 2) ∨
   ((w.opcode = 8 ∨ w.opcode = 9 ∨ w.opcode = 10) ∧ w.fin = true ∧ w.payload.length ≤ 125))

instance (w : WFrame) : Decidable w.Ok := by unfold WFrame.Ok; exact inferInstance

theorem WFrame.Ok.lt16 {w : WFrame} (h : w.Ok) : w.opcode < 16 := by
  rcases h.2 with h | h <;> omega

theorem hdrFrame_b0 (w : WFrame) (h : w.opcode < 16) : hdrFrame w.b0 = w.hdr := by
  unfold hdrFrame WFrame.b0 WFrame.hdr
  cases w.fin
  · simp only [Bool.false_eq_true, if_false, Frame.mk.injEq, and_true, true_and]
    refine ⟨?_, ?_, ?_, ?_, ?_⟩ <;> omega
  · simp only [if_true, Frame.mk.injEq, and_true, true_and]
    refine ⟨?_, ?_, ?_, ?_, ?_⟩ <;> omega

theorem validate_ok (v : Variant) (c : Bool) (w : WFrame) (h : w.Ok) :
    validateFrame v c w.hdr w.payload.length = .ok () := by
  obtain ⟨_, h⟩ := h
  unfold validateFrame WFrame.hdr
  rcases h with h | ⟨h, hf, hl⟩
  · rcases h with h | h | h <;>
      simp [h, isReservedOp, Gen.reservedOpcodes, Frame.isControl]
  · have : ¬ w.payload.length > 125 := by omega
    rcases h with h | h | h <;>
      simp [h, hf, this, isReservedOp, Gen.reservedOpcodes, Frame.isControl]


def PRun.pushAll (l : List (PState × Out)) (r : PRun) : PRun := { r with outs := l ++ r.outs }

theorem PRun.pushAll_nil (r : PRun) : PRun.pushAll [] r = r := rfl
theorem PRun.pushAll_append (a b : List (PState × Out)) (r : PRun) :
    PRun.pushAll (a ++ b) r = PRun.pushAll a (PRun.pushAll b r) := by
  simp [PRun.pushAll]

/-- from state `p`, the bytes `data` (followed by anything) make the eager parser output exactly the
    frames `fs` and leave it in state `p'` in front of the rest -/
def ParsesB (v : Variant) (p : PState) (data : Bytes) (fs : List Frame) (p' : PState) : Prop :=
  ∀ tail : Bytes, ∃ pouts : List (PState × Out),
    pRun v p (data ++ tail) = PRun.pushAll pouts (pRun v p' tail) ∧ pouts.map (·.2) = fs.map Out.frame

theorem parsesB_nil (v : Variant) (p : PState) : ParsesB v p [] [] p := fun _ => ⟨[], rfl, rfl⟩

theorem parsesB_append {v : Variant} {p p1 p2 : PState} {a b : Bytes} {fa fb : List Frame}
    (h1 : ParsesB v p a fa p1) (h2 : ParsesB v p1 b fb p2) : ParsesB v p (a ++ b) (fa ++ fb) p2 := by
  intro tail
  obtain ⟨o1, e1, m1⟩ := h1 (b ++ tail)
  obtain ⟨o2, e2, m2⟩ := h2 tail
  refine ⟨o1 ++ o2, ?_, by simp [m1, m2]⟩
  rw [List.append_assoc, e1, e2, PRun.pushAll_append]

theorem ParsesB.run {v : Variant} {p p' : PState} {data : Bytes} {fs : List Frame} (h : ParsesB v p data fs p') :
    (pRun v p data).err = none ∧ (pRun v p data).outs.map (·.2) = fs.map Out.frame ∧ (pRun v p data).p = p' := by
  obtain ⟨o, e, m⟩ := h []
  rw [List.append_nil, pRun_nil] at e
  rw [e]
  exact ⟨rfl, by simpa [PRun.pushAll] using m, rfl⟩

/-- is this frame's payload validated incrementally, from parser state `p` -/
def WFrame.flag (v : Variant) (p : PState) (w : WFrame) : Bool :=
  w.payload ≠ [] ∧ valFlag v (afterHdr p.resumed w.hdr) w.hdr

/-- parser state after the frame, `d` being the validator state after its payload -/
def WFrame.next (v : Variant) (p : PState) (w : WFrame) (d : Nat) : PState :=
  doneState v { afterHdr p.resumed w.hdr with dfa := d } w.frame

theorem pRun_wire_ok (v : Variant) (p : PState) (hb : Boundary p) (w : WFrame) (hw : w.Ok) (d : Nat)
    (hd : vres (w.flag v p) p.dfa w.payload = some d) (tail : Bytes) :
    pRun v p (w.bytes ++ tail) = PRun.pushAll [(w.next v p d, .frame w.frame)] (pRun v (w.next v p d) tail) := by
  obtain ⟨q, h⟩ := pRun_frame v p hb w.b0 w.form w.payload hw.1 tail
  have hv := validate_ok v p.compression w hw
  rw [← hdrFrame_b0 w hw.lt16] at hv
  rw [frameStep_eq v p w.b0 w.payload hv, hdrFrame_b0 w hw.lt16] at h
  unfold WFrame.flag at hd
  rw [hd] at h
  exact h

theorem pRun_wire_bad (v : Variant) (p : PState) (hb : Boundary p) (w : WFrame) (hw : w.Ok)
    (hd : vres (w.flag v p) p.dfa w.payload = none) (tail : Bytes) :
    ∃ q, pRun v p (w.bytes ++ tail) = { p := q, err := some (.parse "invalid utf8") } := by
  obtain ⟨q, h⟩ := pRun_frame v p hb w.b0 w.form w.payload hw.1 tail
  have hv := validate_ok v p.compression w hw
  rw [← hdrFrame_b0 w hw.lt16] at hv
  rw [frameStep_eq v p w.b0 w.payload hv, hdrFrame_b0 w hw.lt16] at h
  unfold WFrame.flag at hd
  rw [hd] at h
  exact ⟨_, h⟩

/-- between two messages, or inside a binary one: no text state is live -/
structure Between (p : PState) : Prop where
  b : Boundary p
  isText : p.isText = false
  dfa : p.dfa = 0

/-- at a frame boundary inside a message of which `done` has been received: if it is a text message
    that is validated, the validator state is that of `done` -/
structure InText (v : Variant) (p : PState) (done : Bytes) : Prop where
  b : Boundary p
  nv : noValidate v p → p.dfa = 0
  val : ¬ noValidate v p → p.isText = true → Utf8.validate 0 done = some p.dfa

theorem next_boundary {v : Variant} {p : PState} {w : WFrame} {d : Nat} : Boundary (w.next v p d) :=
  ⟨rfl, rfl, rfl, rfl⟩

theorem afterHdr_nontext (p : PState) (f : Frame) (h : f.opcode ≠ 1) : afterHdr p f = p := by
  unfold afterHdr Frame.isText
  simp [h, Gen.opText]

theorem between_step (v : Variant) (p : PState) (w : WFrame) (hp : Between p) (h : w.opcode ≠ 1) :
    vres (w.flag v p) p.dfa w.payload = some 0 ∧ Between (w.next v p 0) := by
  have h1 : afterHdr p.resumed w.hdr = p.resumed := afterHdr_nontext _ _ h
  have : p.resumed.isText = false := hp.isText
  have hf : w.flag v p = false := by
    unfold WFrame.flag valFlag
    rw [h1]
    simp [Frame.isText, WFrame.hdr, h, Gen.opText, this]
  refine ⟨by rw [hf, hp.dfa]; rfl, next_boundary, ?_, ?_⟩
  · unfold WFrame.next doneState
    rw [h1]
    simp [this]
  · unfold WFrame.next doneState
    simp

theorem noValidate_resumed (v : Variant) (p : PState) : noValidate v p.resumed ↔ noValidate v p := Iff.rfl

theorem intext_ctrl (v : Variant) (p : PState) (w : WFrame) (done : Bytes) (hp : InText v p done)
    (h : w.opcode ≥ 8) :
    vres (w.flag v p) p.dfa w.payload = some p.dfa ∧ InText v (w.next v p p.dfa) done := by
  have h0 : ¬ w.opcode = 0 := by omega
  have h01 : ¬ w.opcode = 1 := by omega
  have h1 : afterHdr p.resumed w.hdr = p.resumed := afterHdr_nontext _ _ h01
  have hf : w.flag v p = false := by
    unfold WFrame.flag valFlag
    rw [h1]
    simp [Frame.isText, Frame.isContinuation, WFrame.hdr, h0, h01, Gen.opText, Gen.opContinuation]
  refine ⟨by rw [hf]; rfl, next_boundary, ?_, ?_⟩
  · intro hnv
    have hnv' : noValidate v p := by
      unfold WFrame.next doneState at hnv
      rw [h1] at hnv
      exact hnv
    have := hp.nv hnv'
    unfold WFrame.next doneState
    simp [this]
  · intro hnv ht
    have hnv' : ¬ noValidate v p := by
      intro hc; apply hnv
      unfold WFrame.next doneState
      rw [h1]
      exact hc
    have ht' : p.isText = true := by
      unfold WFrame.next doneState at ht
      rw [h1] at ht
      simp only [] at ht
      split at ht
      · cases ht
      · exact ht
    have := hp.val hnv' ht'
    rw [this]
    unfold WFrame.next doneState
    simp [Frame.isText, Frame.isContinuation, WFrame.frame, h0, h01, Gen.opText, Gen.opContinuation]


theorem afterHdr_text (p : PState) (w : WFrame) (h : w.opcode = 1) :
    afterHdr p w.hdr = { p with isText := true, isCompressed := false } := by
  unfold afterHdr Frame.isText WFrame.hdr
  simp [h, Gen.opText]

/-- the first frame of a text message, its payload read to validator state `d`, ends the message
    on FIN and else leaves the parser inside it -/
theorem text_next (v : Variant) (p : PState) (w : WFrame) (h : w.opcode = 1) (d : Nat)
    (hd : vres (w.flag v p) 0 w.payload = some d) :
    if w.fin then Between (w.next v p d) else InText v (w.next v p d) w.payload := by
  have h1 := afterHdr_text p.resumed w h
  -- `flag` decides `d`
  have hd' : if noValidate v ({ p.resumed with isText := true, isCompressed := false } : PState) then d = 0
      else Utf8.validate 0 w.payload = some d := by
    unfold WFrame.flag valFlag at hd
    rw [h1] at hd
    split
    · next hnv => simpa [vres, hnv] using hd.symm
    · next hnv =>
      by_cases hpl : w.payload = []
      · simpa [vres, hpl, Utf8.validate] using hd
      · simpa [vres, hpl, hnv, Frame.isText, WFrame.hdr, h, Gen.opText] using hd
  unfold WFrame.next doneState
  rw [h1]
  cases hfin : w.fin
  · simp [Frame.isText, Frame.isContinuation, Frame.isControl, WFrame.frame, h, hfin, Gen.opText]
    exact ⟨⟨rfl, rfl, rfl, rfl⟩, fun hnv => (if_pos hnv).mp hd', fun hnv _ => (if_neg hnv).mp hd'⟩
  · simp [Frame.isText, Frame.isContinuation, Frame.isControl, WFrame.frame, h, hfin, Gen.opText]
    refine ⟨⟨rfl, rfl, rfl, rfl⟩, rfl, ?_⟩
    dsimp only
    split
    · next hnv => exact (if_pos hnv).mp hd'
    · rfl

theorem between_text (v : Variant) (p : PState) (w : WFrame) (hp : Between p) (h : w.opcode = 1)
    (d0 : Nat) (hval : Utf8.validate 0 w.payload = some d0) :
    ∃ d, vres (w.flag v p) p.dfa w.payload = some d ∧
      (if w.fin then Between (w.next v p d) else InText v (w.next v p d) w.payload) := by
  rw [hp.dfa]
  have ⟨d, hd⟩ : ∃ d, vres (w.flag v p) 0 w.payload = some d := by
    unfold vres
    split
    · exact ⟨d0, hval⟩
    · exact ⟨0, rfl⟩
  exact ⟨d, hd, text_next v p w h d hd⟩

theorem intext_cont (v : Variant) (p : PState) (w : WFrame) (done : Bytes) (hp : InText v p done)
    (h : w.opcode = 0) (d0 : Nat) (hval : Utf8.validate 0 (done ++ w.payload) = some d0) :
    ∃ d, vres (w.flag v p) p.dfa w.payload = some d ∧
      (if w.fin then Between (w.next v p d) else InText v (w.next v p d) (done ++ w.payload)) := by
  have h1 : afterHdr p.resumed w.hdr = p.resumed := afterHdr_nontext _ _ (by show w.opcode ≠ 1; omega)
  have hT : w.hdr.isText = false := by simp [Frame.isText, WFrame.hdr, h, Gen.opText]
  have hK : w.hdr.isContinuation = true := by simp [Frame.isContinuation, WFrame.hdr, h, Gen.opContinuation]
  have hK' : w.frame.isContinuation = true := by simp [Frame.isContinuation, WFrame.frame, h, Gen.opContinuation]
  have hC : w.frame.isControl = false := by simp [Frame.isControl, WFrame.frame, h]
  have hFin : ∀ b, w.fin = b → w.frame.fin = if b then 1 else 0 := by
    intro b hb; simp [WFrame.frame, hb]
  have fin_between : ∀ d, w.fin = true → (noValidate v p → d = 0) → Between (w.next v p d) := by
    intro d hfin hd
    have hF1 := hFin true hfin
    refine ⟨next_boundary, ?_, ?_⟩
    · unfold WFrame.next doneState; rw [h1]
      simp [hC, hF1]
    · unfold WFrame.next doneState; rw [h1]
      by_cases hnv : noValidate v p
      · have : noValidate v ({ p.resumed with dfa := d } : PState) := hnv
        simp [hd hnv]
      · have : ¬ noValidate v ({ p.resumed with dfa := d } : PState) := hnv
        simp [this, hF1, hK']
  have nofin_state : ∀ d, w.fin = false →
      (w.next v p d).dfa = d ∧ (w.next v p d).isText = p.isText ∧
      (noValidate v (w.next v p d) ↔ noValidate v p) := by
    intro d hfin
    have hF0 := hFin false hfin
    refine ⟨?_, ?_, ?_⟩
    · unfold WFrame.next doneState; rw [h1]; simp [hF0]
    · unfold WFrame.next doneState; rw [h1]; simp [hF0, PState.resumed]
    · unfold WFrame.next doneState; rw [h1]; exact Iff.rfl
  by_cases hnv : noValidate v p
  · have hf : w.flag v p = false := by
      unfold WFrame.flag valFlag
      rw [h1]
      have : noValidate v p.resumed := hnv
      simp [this]
    refine ⟨p.dfa, by rw [hf]; rfl, ?_⟩
    cases hfin : w.fin
    · simp only [Bool.false_eq_true, if_false]
      obtain ⟨b, c, e⟩ := nofin_state p.dfa hfin
      exact ⟨next_boundary, fun _ => by rw [b]; exact hp.nv hnv, fun hc => (hc (e.mpr hnv)).elim⟩
    · simp only [if_true]
      exact fin_between _ hfin (fun _ => hp.nv hnv)
  · by_cases ht : p.isText = true
    · have hdone := hp.val hnv ht
      by_cases hpl : w.payload = []
      · have hf : w.flag v p = false := by
          unfold WFrame.flag
          simp [hpl]
        refine ⟨p.dfa, by rw [hf]; rfl, ?_⟩
        cases hfin : w.fin
        · simp only [Bool.false_eq_true, if_false]
          obtain ⟨b, c, e⟩ := nofin_state p.dfa hfin
          refine ⟨next_boundary, fun hc => (hnv (e.mp hc)).elim, fun _ _ => ?_⟩
          rw [b, hpl, List.append_nil]; exact hdone
        · simp only [if_true]
          exact fin_between _ hfin (fun hc => (hnv hc).elim)
      · have hf : w.flag v p = true := by
          unfold WFrame.flag valFlag
          rw [h1]
          have h2 : ¬ noValidate v p.resumed := hnv
          have h3 : p.resumed.isText = true := ht
          simp [hpl, h2, h3, hK]
        have hv2 : Utf8.validate p.dfa w.payload = some d0 := by
          rw [Utf8.validate_append, hdone] at hval
          exact hval
        refine ⟨d0, by rw [hf]; exact hv2, ?_⟩
        cases hfin : w.fin
        · simp only [Bool.false_eq_true, if_false]
          obtain ⟨b, c, e⟩ := nofin_state d0 hfin
          refine ⟨next_boundary, fun hc => (hnv (e.mp hc)).elim, fun _ _ => ?_⟩
          rw [b]; exact hval
        · simp only [if_true]
          exact fin_between _ hfin (fun hc => (hnv hc).elim)
    · have hf : w.flag v p = false := by
        unfold WFrame.flag valFlag
        rw [h1]
        have h3 : ¬ p.resumed.isText = true := ht
        simp [h3, hT]
      refine ⟨p.dfa, by rw [hf]; rfl, ?_⟩
      cases hfin : w.fin
      · simp only [Bool.false_eq_true, if_false]
        obtain ⟨b, c, e⟩ := nofin_state p.dfa hfin
        refine ⟨next_boundary, fun hc => (hnv (e.mp hc)).elim, fun _ hc => ?_⟩
        rw [c] at hc; exact (ht hc).elim
      · simp only [if_true]
        exact fin_between _ hfin (fun hc => (hnv hc).elim)

end Lomond.Core
