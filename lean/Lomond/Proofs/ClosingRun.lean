/-
  C08 end to end, for Properties/C08_E2E.lean: `client_close_run` and `server_close_run` give the shape
  of the whole trace of a connection in which the application calls `close(code, reason)` in its
  reaction to one event (from `Connected` on) and otherwise only sends (`AppK (some K)`), or never
  closes and the server does (`AppK none`).  One state invariant: `Q` (frozen clock, as `E2E.I`, for
  this class) and `Sh`, the shape of the trace; the lemmas that carry it end in `_J`.  It is established
  by `run()` up to the loop, kept by the handshake read and by every conforming item (the class is an
  `Eater`), and used for the server's Close frame and the end of `run()`; any segmentation of the reads
  is one read by C02.  The trace shapes are those C08_E2E states: `AppSeg` is `PongTokens.Calls` for send
  calls (the item is a write, never `sockClose`); `PhaseA` has the pieces of `PongRun.Good`
  (Proofs/PongTrace.lean) and nothing else.  At the end, what a `PhaseA` trace says entry by entry
  (`RuleA`, `PhaseA.rules`, `PhaseA.entry`; `PhaseA.write_kinds`, `PhaseA.ping_answered`, `PhaseA.no_pong`)
  and `PongsOnly`, the `PhaseA` traces without application calls (`PongsOnly.written`).
-/
import Lomond.Proofs.EndToEndText
import Lomond.Proofs.Closing
import Lomond.Proofs.Pong
import Lomond.Proofs.TraceFold
namespace Lomond.Core.CR
open Lomond Lomond.Core Lomond.Core.E2E Lomond.Core.DG

def SendActs (as : List Act) : Prop := ∀ a ∈ as, isSendAct a = true

def CloseForm (code : Option Nat) (reason : Arg) (as : List Act) : Prop :=
  ∃ pre post, as = pre ++ .close code reason :: post ∧ SendActs pre ∧ SendActs post

/-- the application only sends, except that (`kc = some K`) its reaction to the K-th event — the
    history it is shown has length `K` — contains exactly one `close(code, reason)` -/
structure AppK (kc : Option Nat) (code : Option Nat) (reason : Arg) (r : React) : Prop where
  sends : ∀ h, kc ≠ some h.length → SendActs (r h)
  closes : ∀ h, kc = some h.length → CloseForm code reason (r h)

theorem sendActs_nil : SendActs [] := by intro a ha; cases ha

theorem SendActs.tail {a : Act} {as : List Act} (h : SendActs (a :: as)) : SendActs as :=
  fun b hb => h b (List.mem_cons_of_mem _ hb)

theorem isSend_eq (a : Act) : a.isSend = isSendAct a := by cases a <;> rfl

theorem AppK.noSessionClose {kc : Option Nat} {code : Option Nat} {reason : Arg} {r : React}
    (h : AppK kc code reason r) : SegLoop.NoSessionClose r := by
  intro hi hm
  by_cases hk : kc = some hi.length
  · obtain ⟨pre, post, e, h1, h2⟩ := h.closes hi hk
    rw [e] at hm
    rcases List.mem_append.mp hm with hm | hm
    · have := h1 _ hm; simp [isSendAct] at this
    · rcases List.mem_cons.mp hm with hm | hm
      · cases hm
      · have := h2 _ hm; simp [isSendAct] at this
  · have := h.sends hi hk _ hm; simp [isSendAct] at this

/-- send calls and `close()` touch counters, the trace, `closing` and the time of the Close only -/
structure KC (s s' : Sys) : Prop where
  cfg : s'.cfg = s.cfg
  react : s'.react = s.react
  env : s'.env = s.env
  sockOpen : s'.sockOpen = s.sockOpen
  selOpen : s'.selOpen = s.selOpen
  closed : s'.closed = s.closed
  ready : s'.ready = s.ready
  startTime : s'.startTime = s.startTime
  now : s'.now = s.now
  pollStart : s'.pollStart = s.pollStart
  p : s'.p = s.p
  frames : s'.frames = s.frames
  hist : s'.hist = s.hist
  closing : s.closing = true → s'.closing = true

theorem kc_po : PO KC where
  refl s := ⟨rfl, rfl, rfl, rfl, rfl, rfl, rfl, rfl, rfl, rfl, rfl, rfl, rfl, id⟩
  trans := by
    intro a b c h1 h2
    exact ⟨h2.cfg.trans h1.cfg, h2.react.trans h1.react, h2.env.trans h1.env, h2.sockOpen.trans h1.sockOpen,
      h2.selOpen.trans h1.selOpen, h2.closed.trans h1.closed, h2.ready.trans h1.ready,
      h2.startTime.trans h1.startTime, h2.now.trans h1.now, h2.pollStart.trans h1.pollStart,
      h2.p.trans h1.p, h2.frames.trans h1.frames, h2.hist.trans h1.hist, fun h => h2.closing (h1.closing h)⟩

theorem kc_counters (s : Sys) (k w lp : Nat) (tr : List Obs) :
    KC s { s with keyCtr := k, writeCtr := w, lastPong := lp, trace := tr } :=
  ⟨rfl, rfl, rfl, rfl, rfl, rfl, rfl, rfl, rfl, rfl, rfl, rfl, rfl, id⟩

theorem kc_sendFrame (op : Nat) (pl : Bytes) (c : Option Bytes) : Spec KC (sendFrame op pl c) :=
  spec_sendFrame kc_po op pl c (fun s => kc_counters s _ _ _ _)
    (fun d => spec_write kc_po d _ (fun s _ _ _ _ _ => kc_counters s _ _ _ _))

theorem kc_wsClose (c : Option Nat) (r : Arg) : Spec KC (wsClose c r) :=
  spec_wsClose kc_po c r (fun pl => kc_sendFrame _ pl none)
    (fun _ => ⟨rfl, rfl, rfl, rfl, rfl, rfl, rfl, rfl, rfl, rfl, rfl, rfl, rfl, fun _ => rfl⟩)

theorem kc_doAct_send (a : Act) (ha : isSendAct a = true) : Spec KC (doAct a) :=
  calls_doAct kc_po kc_sendFrame (fun _ _ e => by subst e; cases ha) (fun e => by subst e; cases ha)
    (fun s _ => kc_counters s _ _ _ _) (fun _ e => by subst e; cases ha)

/-- trace (newest first) left by send calls: the result of each call; a frame handed to `sendall`
    sits directly before the result of the call that wrote it -/
inductive AppSeg : List Obs → Prop
  | nil : AppSeg []
  | res (r : ActRes) {t : List Obs} : AppSeg t → AppSeg (.res r :: t)
  | wr (r : ActRes) (o : Obs) {t : List Obs} : o.isWrite = true → AppSeg t → AppSeg (.res r :: o :: t)

theorem AppSeg.append {a b : List Obs} (ha : AppSeg a) (hb : AppSeg b) : AppSeg (a ++ b) := by
  induction ha with
  | nil => exact hb
  | res r _ ih => exact .res r ih
  | wr r o h _ ih => exact .wr r o h ih

theorem AppSeg.noEv {l : List Obs} (h : AppSeg l) : ∀ o ∈ l, Obs.isEv o = false := by
  induction h with
  | nil => intro o ho; cases ho
  | res r _ ih =>
    intro o ho
    rcases List.mem_cons.mp ho with rfl | ho
    · rfl
    · exact ih o ho
  | wr r o' h _ ih =>
    intro o ho
    rcases List.mem_cons.mp ho with rfl | ho
    · rfl
    · rcases List.mem_cons.mp ho with rfl | ho
      · cases o <;> first | rfl | (simp [Obs.isWrite] at h)
      · exact ih o ho

def WShape (m : M ActRes) : Prop := ∀ s, ∃ r s1, m s = .ok r s1 ∧ PongTokens.W1 s s1

def ActShape (m : M Unit) : Prop := ∀ s, ∃ s' l, m s = .ok () s' ∧ s'.trace = l ++ s.trace ∧ AppSeg l

theorem actShape_logRes {m : M ActRes} (hm : WShape m) : ActShape (logRes m) := by
  intro s
  obtain ⟨r, s1, h1, ht⟩ := hm s
  rcases ht with ht | ⟨o, ht, ho⟩
  · exact ⟨{ s1 with trace := .res r :: s1.trace }, [.res r], logRes_ok h1,
      by show _ :: s1.trace = _; rw [ht]; rfl, .res r .nil⟩
  · exact ⟨{ s1 with trace := .res r :: s1.trace }, [.res r, o], logRes_ok h1,
      by show _ :: s1.trace = _; rw [ht]; rfl, .wr r o ho .nil⟩

theorem actShape_doAct_send (a : Act) (ha : isSendAct a = true) : ActShape (doAct a) := by
  rcases doAct_send a ((isSend_eq a).trans ha) with ⟨r, _, e, _⟩ | ⟨op, pl, c, e, _⟩ <;> rw [e]
  · exact actShape_logRes (fun s => ⟨r, s, rfl, Or.inl rfl⟩)
  · exact actShape_logRes (fun s => by unfold sendData; split <;> exact PongTokens.w1_sendFrame _ _ _ s)

def Refused (l : List Obs) : Prop := ∀ o ∈ l, ∃ r, o = .res r ∧ r ≠ .ok

theorem Refused.appSeg {l : List Obs} (h : Refused l) : AppSeg l := by
  induction l with
  | nil => exact .nil
  | cons o t ih =>
    obtain ⟨r, rfl, _⟩ := h o List.mem_cons_self
    exact .res r (ih (fun o' ho' => h o' (List.mem_cons_of_mem _ ho')))

/-- **one send call**: returns normally; only counters and the trace change; the trace gets the
    call's result, preceded by the frame if one was handed to `sendall`; once closing or closed
    nothing is written and the result is an error -/
theorem doAct_send_J (a : Act) (ha : isSendAct a = true) (s : Sys) :
    ∃ s' l, doAct a s = .ok () s' ∧ Keep s s' ∧ s'.hist = s.hist ∧ s'.trace = l ++ s.trace ∧ AppSeg l ∧
      (Shut s → Refused l) := by
  obtain ⟨s', l, h, ht, hl⟩ := actShape_doAct_send a ha s
  have hk := (E2E.keep_doAct a ha).ok h
  have hh := ((kc_doAct_send a ha).ok h).hist
  refine ⟨s', l, h, hk, hh, ht, hl, fun hs => ?_⟩
  obtain ⟨r, k, h2, hr, _⟩ := doAct_send_refused a (by rw [isSend_eq]; exact ha) s hs
  rw [h] at h2
  cases h2
  have : l = [.res r] := (List.append_cancel_right (show [Obs.res r] ++ s.trace = l ++ s.trace from ht)).symm
  rw [this]
  intro o ho
  rcases List.mem_cons.mp ho with rfl | ho
  · exact ⟨r, rfl, hr⟩
  · cases ho

theorem _root_.Lomond.Core.E2E.Keep.shut {s s' : Sys} (k : Keep s s') (h : Shut s) : Shut s' := by
  unfold Shut at *
  rw [k.closing, k.closed]; exact h

theorem _root_.Lomond.Core.E2E.Keep.opn {s s' : Sys} (k : Keep s s') (h : Open s) : Open s' := by
  unfold Open at *
  rw [k.sockOpen, k.closing, k.closed]; exact h

theorem doActs_sends_J (as : List Act) (hs : SendActs as) (s : Sys) :
    ∃ s' l, doActs as s = .ok () s' ∧ Keep s s' ∧ s'.hist = s.hist ∧ s'.trace = l ++ s.trace ∧ AppSeg l ∧
      (Shut s → Refused l) ∧ (as = [] → l = []) := by
  induction as generalizing s with
  | nil => exact ⟨s, [], rfl, E2E.keep_po.refl s, rfl, rfl, .nil, (fun _ o ho => by cases ho), fun _ => rfl⟩
  | cons a r ih =>
    obtain ⟨s1, l1, h1, k1, hh1, t1, a1, r1⟩ := doAct_send_J a (hs a List.mem_cons_self) s
    obtain ⟨s2, l2, h2, k2, hh2, t2, a2, r2, _⟩ := ih hs.tail s1
    refine ⟨s2, l2 ++ l1, ?_, E2E.keep_po.trans k1 k2, hh2.trans hh1, by rw [t2, t1, List.append_assoc],
      a2.append a1, fun hsh => List.forall_mem_append.2 ⟨r2 (k1.shut hsh), r1 hsh⟩, fun e => by cases e⟩
    unfold doActs
    rw [bind_ok h1]
    exact h2

theorem bind_assoc_at {α β γ : Type} (m : M α) (f : α → M β) (g : β → M γ) (s : Sys) :
    ((m >>= f) >>= g) s = (m >>= fun a => f a >>= g) s := by
  show M.bind (M.bind m f) g s = M.bind m (fun a => M.bind (f a) g) s
  unfold M.bind
  cases m s <;> rfl

theorem doActs_append (a b : List Act) (s : Sys) :
    doActs (a ++ b) s = (doActs a >>= fun _ => doActs b) s := by
  induction a generalizing s with
  | nil => rfl
  | cons x r ih =>
    show (doAct x >>= fun _ => doActs (r ++ b)) s = ((doAct x >>= fun _ => doActs r) >>= fun _ => doActs b) s
    rw [bind_assoc_at]
    cases hx : doAct x s with
    | ok u s1 => rw [bind_ok hx, bind_ok hx]; exact ih s1
    | err y s1 => rw [bind_err hx, bind_err hx]

theorem KC.of_keep {s s' : Sys} (k : Keep s s') (h : s'.hist = s.hist) : KC s s' :=
  ⟨k.cfg, k.react, k.env, k.sockOpen, k.selOpen, k.closed, k.ready, k.startTime, k.now, k.pollStart, k.p,
   k.frames, h, fun hc => k.closing.trans hc⟩

theorem _root_.Lomond.Core.E2E.Kept.of_kc {s s' : Sys} (k : KC s s') : Kept s s' :=
  ⟨k.cfg, k.react, k.env, k.closed, k.ready, k.startTime, k.now, k.pollStart, k.p, k.frames⟩

def HeadNotSend (as : List Act) : Prop := ∃ a post, as = a :: post ∧ isSendAct a = false

def NoRes (A : List Obs) : Prop := ∀ r, Obs.res r ∉ A

/-- **the reaction that closes**, on an open websocket, no write fault: the send calls before the
    `close()` are carried out; one Close frame with the given code and reason is written and the
    call returns normally; every send call after it is refused -/
theorem doActs_close_J (code : Option Nat) (reason : Arg) (rb : Bytes) (as : List Act) (s : Sys)
    (hr : reasonBytes reason = some rb) (ha : CloseArgsOk code rb) (hf : CloseForm code reason as)
    (ho : Open s) (hw : ∀ k, s.cfg.writeFails k = false) :
    ∃ s' lpost lpre key, doActs as s = .ok () s' ∧ KC s s' ∧ s'.closing = true ∧
      s'.trace = lpost ++ .res .ok :: .wr (closeFrame (buildClosePayload code rb) key) :: (lpre ++ s.trace) ∧
      AppSeg lpre ∧ Refused lpost ∧ (HeadNotSend as → lpre = []) := by
  obtain ⟨pre, post, rfl, hpre, hpost⟩ := hf
  obtain ⟨s1, l1, h1, k1, hh1, t1, a1, _, n1⟩ := doActs_sends_J pre hpre s
  have ho1 := k1.opn ho
  have hw1 : s1.cfg.writeFails s1.writeCtr = false := by rw [k1.cfg]; exact hw _
  have hc := wsClose_open code reason rb s1 hr ha ho1 hw1
  let s2 : Sys := { s1 with keyCtr := s1.keyCtr + 1, writeCtr := s1.writeCtr + 1,
                            trace := .wr (closeFrame (buildClosePayload code rb) (s1.cfg.maskKey s1.keyCtr)) :: s1.trace,
                            closing := true, sentCloseTime := some (sessionTime s1) }
  let s3 : Sys := { s2 with trace := .res .ok :: s2.trace }
  have h3 : doAct (.close code reason) s1 = .ok () s3 := by
    show logRes (wsClose code reason) s1 = _
    exact logRes_ok hc
  have hs3 : Shut s3 := Or.inl rfl
  obtain ⟨s4, l4, h4, k4, hh4, t4, _, r4, _⟩ := doActs_sends_J post hpost s3
  refine ⟨s4, l4, l1, s1.cfg.maskKey s1.keyCtr, ?_, ?_, ?_, ?_, a1, r4 hs3, ?_⟩
  · rw [doActs_append, bind_ok h1]
    show (doAct (.close code reason) >>= fun _ => doActs post) s1 = _
    rw [bind_ok h3]
    exact h4
  · have k13 : KC s1 s3 := ⟨rfl, rfl, rfl, rfl, rfl, rfl, rfl, rfl, rfl, rfl, rfl, rfl, rfl, fun _ => rfl⟩
    exact kc_po.trans (KC.of_keep k1 hh1) (kc_po.trans k13 (KC.of_keep k4 hh4))
  · rw [k4.closing]
  · rw [t4]
    show l4 ++ (.res .ok :: .wr _ :: s1.trace) = _
    rw [t1]
  · rintro ⟨a, post', e, ha⟩
    cases pre with
    | nil => exact n1 rfl
    | cons x pre' =>
      simp only [List.cons_append, List.cons.injEq] at e
      have := hpre x List.mem_cons_self
      rw [e.1, ha] at this; cases this

/-- configuration hypotheses shared by everything below: no write fault, `poll > 0`, `close()` is
    called with arguments it accepts, and (if at all) not before the `Connected` event -/
structure Par (kc : Option Nat) (code : Option Nat) (reason : Arg) (rb : Bytes) (cfg : Cfg) : Prop where
  nf : ∀ k, cfg.writeFails k = false
  poll : 0 < cfg.poll
  rbs : reasonBytes reason = some rb
  args : CloseArgsOk code rb
  k2 : ∀ K, kc = some K → 2 ≤ K

/-- **the trace (newest first) while the websocket is open**, since the upgrade request:
    events; every Ping event — when automatic pongs are on — directly preceded by the library's
    Pong frame for its payload; results of application calls, a frame handed to `sendall` directly
    before the result of the call that wrote it.  Nothing else: in particular the library writes
    exactly one Pong per Ping and nothing besides. -/
inductive PhaseA (auto : Bool) : List Obs → Prop
  | nil : PhaseA auto []
  | ev (e : Event) {t : List Obs} (h : ∀ d, e = .ping d → auto = false) : PhaseA auto t → PhaseA auto (.ev e :: t)
  | pong (d key : Bytes) {t : List Obs} (h : auto = true) :
      PhaseA auto t → PhaseA auto (.ev (.ping d) :: .wr (Pong.pongBytes d key) :: t)
  | res (r : ActRes) {t : List Obs} : PhaseA auto t → PhaseA auto (.res r :: t)
  | send (r : ActRes) (o : Obs) {t : List Obs} (h : o.isWrite = true) : PhaseA auto t → PhaseA auto (.res r :: o :: t)

theorem PhaseA.app {auto : Bool} {l A : List Obs} (hl : AppSeg l) (hA : PhaseA auto A) : PhaseA auto (l ++ A) := by
  induction hl with
  | nil => exact hA
  | res r _ ih => exact .res r ih
  | wr r o h _ ih => exact .send r o h ih

/-- **the trace after the client's Close**: nothing is handed to `sendall`, no call succeeds -/
def PhaseB (l : List Obs) : Prop := ∀ o ∈ l, o.isWrite = false ∧ o ≠ .res .ok

theorem PhaseB.nil : PhaseB [] := by intro o ho; cases ho

theorem PhaseB.append {a b : List Obs} (ha : PhaseB a) (hb : PhaseB b) : PhaseB (a ++ b) :=
  List.forall_mem_append.2 ⟨ha, hb⟩

theorem PhaseB.cons {o : Obs} {b : List Obs} (h1 : o.isWrite = false) (h2 : o ≠ .res .ok) (hb : PhaseB b) :
    PhaseB (o :: b) := by
  intro o' ho'
  rcases List.mem_cons.mp ho' with rfl | h
  · exact ⟨h1, h2⟩
  · exact hb o' h

theorem Refused.phaseB {l : List Obs} (h : Refused l) : PhaseB l := by
  intro o ho
  obtain ⟨r, rfl, hr⟩ := h o ho
  exact ⟨rfl, fun e => hr (by cases e; rfl)⟩

/-- the trace of a connection up to and including the upgrade request: `Connecting`, the results of
    the calls the application made at that event (no socket yet: none of them writes), the request -/
def Tstart (cfg : Cfg) (l0 : List Obs) : List Obs := .wr cfg.request :: (l0 ++ [.ev .connecting])

section inv
variable (kc : Option Nat) (code : Option Nat) (reason : Arg) (rb : Bytes) (cfg : Cfg) (T0 : List Obs)

/-- frozen clock (as `E2E.I`, for the application class `AppK`): the socket is open unless the
    websocket is closed, the session clock reads 0, `_poll_start` is set (to 0) exactly when ready,
    and the history shown to the application is the list of events on the trace -/
structure Q (s : Sys) : Prop where
  app : AppK kc code reason s.react
  cfg : s.cfg = cfg
  sock : s.sockOpen = true ∨ s.closed = true
  nr : s.ready = false → s.startTime = none ∧ s.pollStart = none
  rd : s.ready = true → s.startTime = some s.now ∧ s.pollStart = some 0
  hi : s.hist = hist s.trace

/-- open: no `close()` yet; `slack = 1` in the state in which an event has just been handed over -/
def ShOpen (slack : Nat) (s : Sys) : Prop :=
  Open s ∧ (∀ K, kc = some K → s.hist.length < K + slack) ∧ ∃ A, s.trace = A ++ T0 ∧ PhaseA cfg.autoPong A ∧
    ((∀ h, h <:+ s.hist → h.length + slack ≤ s.hist.length → s.react h = []) → NoRes A)

/-- the application has closed, in its reaction to the K-th event -/
def ShShut (slack : Nat) (s : Sys) : Prop :=
  Shut s ∧ ∃ K B A key, kc = some K ∧ K + slack ≤ s.hist.length ∧
    s.trace = B ++ .res .ok :: .wr (closeFrame (buildClosePayload code rb) key) :: (A ++ T0) ∧
    PhaseB B ∧ PhaseA cfg.autoPong A ∧ (hist (A ++ T0)).length = K ∧
    ((∀ h, h <:+ s.hist → h.length < K → s.react h = []) →
      (∀ h, h <:+ s.hist → h.length = K → HeadNotSend (s.react h)) → NoRes A)

def Sh (slack : Nat) (s : Sys) : Prop := ShOpen kc cfg T0 slack s ∨ ShShut kc code rb cfg T0 slack s

variable {kc code reason rb cfg T0}

theorem Q.time0 {s : Sys} (h : Q kc code reason cfg s) : sessionTime s = 0 := by
  unfold sessionTime
  cases hr : s.ready with
  | false => rw [(h.nr hr).1]
  | true => rw [(h.rd hr).1]; simp

theorem Q.regular_id (hp : Par kc code reason rb cfg) {s : Sys} (h : Q kc code reason cfg s) :
    regular s = .ok () s := by
  cases hr : s.ready with
  | false => exact regular_not_ready s hr
  | true =>
    rw [Timers.regular_ready s hr]
    have hps := (h.rd hr).2
    have hq : checkPoll s = .ok () s :=
      Timers.checkPoll_quiet s 0 hps (by rw [h.time0, h.cfg]; exact hp.poll)
    rw [bind_ok hq]
    exact timers_quiet s h.time0

theorem Q.of_kc {s s' : Sys} (k : KC s s') (ht : hist s'.trace = hist s.trace) (h : Q kc code reason cfg s) :
    Q kc code reason cfg s' :=
  ⟨by rw [k.react]; exact h.app, k.cfg.trans h.cfg, by rw [k.sockOpen, k.closed]; exact h.sock,
   fun hr => by rw [k.startTime, k.pollStart]; exact h.nr (k.ready ▸ hr),
   fun hr => by rw [k.startTime, k.pollStart, k.now]; exact h.rd (k.ready ▸ hr),
   by rw [k.hist, ht]; exact h.hi⟩

theorem Q.push {s : Sys} (e : Event) (h : Q kc code reason cfg s) : Q kc code reason cfg (pushEv e s) :=
  ⟨h.app, h.cfg, h.sock, h.nr, h.rd, by show e :: s.hist = hist (.ev e :: s.trace); rw [hist_cons_ev, h.hi]⟩

/-- **the application's reaction to the event just handed over** (state `sp`): either it only sends
    (written while open, refused after the Close), or — open, the K-th event — it closes: the
    trace gets `refused ++ .res ok :: .wr (Close frame) :: sends`. -/
theorem acts_J (hp : Par kc code reason rb cfg) (sp : Sys) (happ : AppK kc code reason sp.react)
    (hcfg : sp.cfg = cfg) (hi : sp.hist = hist sp.trace) (hsh : Sh kc code rb cfg T0 1 sp) :
    ∃ s2, doActs (sp.react sp.hist) sp = .ok () s2 ∧ KC sp s2 ∧ hist s2.trace = hist sp.trace ∧
      Sh kc code rb cfg T0 0 s2 ∧ (Shut sp → Shut s2) := by
  rcases hsh with ⟨ho, hlt, A, hA, pA, nA⟩ | ⟨hs, K, B, A, key, hk, hle, hB, pB, pA, hKl, nA⟩
  · by_cases hkc : kc = some sp.hist.length
    · obtain ⟨s2, lpost, lpre, key, h, k, hcg, ht, apre, rpost, hpre0⟩ :=
        doActs_close_J code reason rb _ sp hp.rbs hp.args (happ.closes _ hkc) ho (by rw [hcfg]; exact hp.nf)
      have hh2 : hist s2.trace = hist sp.trace := by
        rw [ht, hist_append, hist_nonEv lpost rpost.appSeg.noEv, hist_cons_nonEv _ _ rfl, hist_cons_nonEv _ _ rfl,
          hist_append, hist_nonEv lpre apre.noEv]
        rfl
      refine ⟨s2, h, k, hh2, Or.inr ⟨Or.inl hcg, sp.hist.length, lpost, lpre ++ A, key, hkc, ?_, ?_,
        rpost.phaseB, PhaseA.app apre pA, ?_, ?_⟩, fun _ => Or.inl hcg⟩
      · rw [k.hist]; exact Nat.le_refl _
      · rw [ht, hA, List.append_assoc]
      · rw [List.append_assoc, hist_append, hist_nonEv lpre apre.noEv, ← hA, ← hi]; rfl
      · intro hsil hhd
        rw [k.react, k.hist] at hsil hhd
        rw [hpre0 (hhd sp.hist List.suffix_rfl rfl), List.nil_append]
        exact nA (fun h hs hh => hsil h hs (by omega))
    · obtain ⟨s2, l, h, k, hh, ht, al, _, nl⟩ := doActs_sends_J _ (happ.sends _ hkc) sp
      refine ⟨s2, h, KC.of_keep k hh, hist_keep k, Or.inl ⟨k.opn ho, ?_, l ++ A, ?_, PhaseA.app al pA, ?_⟩, fun hs => k.shut hs⟩
      · intro K hK
        rw [hh]
        have h1 := hlt K hK
        have h2 : sp.hist.length ≠ K := fun e => hkc (by rw [hK, e])
        omega
      · rw [ht, hA, List.append_assoc]
      · intro hsil
        rw [k.react, hh] at hsil
        rw [nl (hsil sp.hist List.suffix_rfl (Nat.le_refl _)), List.nil_append]
        exact nA (fun h hs hh' => hsil h hs (by omega))
  · have hkc : kc ≠ some sp.hist.length := by
      rw [hk]; intro e
      have : K = sp.hist.length := by cases e; rfl
      omega
    obtain ⟨s2, l, h, k, hh, ht, al, rl, _⟩ := doActs_sends_J _ (happ.sends _ hkc) sp
    have rl' := rl hs
    refine ⟨s2, h, KC.of_keep k hh, hist_keep k, Or.inr ⟨k.shut hs, K, l ++ B, A, key, hk, ?_, ?_,
      rl'.phaseB.append pB, pA, hKl, ?_⟩, fun hs => k.shut hs⟩
    · rw [hh]; omega
    · rw [ht, hB, List.append_assoc]
    · rw [k.react, hh]; exact nA

theorem NoRes.cons {o : Obs} {A : List Obs} (ho : ∀ r, o ≠ .res r) (h : NoRes A) : NoRes (o :: A) := by
  intro r hm
  rcases List.mem_cons.mp hm with e | hm
  · exact ho r e.symm
  · exact h r hm

/-- handing over an event that is not a Ping answered by the library -/
theorem sh_push_plain (e : Event) (s : Sys)
    (hne : Open s → ∀ d, e = .ping d → cfg.autoPong = false) (hsh : Sh kc code rb cfg T0 0 s) :
    Sh kc code rb cfg T0 1 (pushEv e s) := by
  have suf : ∀ {h : List Event}, h <:+ s.hist → h <:+ (pushEv e s).hist :=
    fun hs => hs.trans (List.suffix_cons e s.hist)
  rcases hsh with ⟨ho, hlt, A, hA, pA, nA⟩ | ⟨hs, K, B, A, key, hk, hle, hB, pB, pA, hKl, nA⟩
  · refine Or.inl ⟨ho, ?_, .ev e :: A, ?_, .ev e (hne ho) pA, ?_⟩
    · intro K hK
      show (e :: s.hist).length < K + 1
      have := hlt K hK; simp only [List.length_cons]; omega
    · show .ev e :: s.trace = _
      rw [hA]; rfl
    · intro hsil
      refine NoRes.cons (fun r h => by cases h) (nA (fun h hs hl => hsil h (suf hs) ?_))
      show h.length + 1 ≤ (e :: s.hist).length
      simp only [List.length_cons]; omega
  · refine Or.inr ⟨hs, K, .ev e :: B, A, key, hk, ?_, ?_, PhaseB.cons rfl (by intro h; cases h) pB, pA, hKl, ?_⟩
    · show K + 1 ≤ (e :: s.hist).length
      simp only [List.length_cons]; omega
    · show .ev e :: s.trace = _
      rw [hB]; rfl
    · intro hsil hhd
      exact nA (fun h hs hl => hsil h (suf hs) hl) (fun h hs hl => hhd h (suf hs) hl)

/-- handing over a Ping whose Pong the library has just written -/
theorem sh_push_pong (d key : Bytes) (s : Sys) (hap : cfg.autoPong = true) (ho : Open s)
    (hsh : Sh kc code rb cfg T0 0 s) :
    Sh kc code rb cfg T0 1 (pushEv (.ping d) (Pong.pongSent s (Pong.pongBytes d key))) := by
  rcases hsh with ⟨_, hlt, A, hA, pA, nA⟩ | ⟨hs, _⟩
  · refine Or.inl ⟨ho, ?_, .ev (.ping d) :: .wr (Pong.pongBytes d key) :: A, ?_, .pong d key hap pA, ?_⟩
    · intro K hK
      show (Event.ping d :: s.hist).length < K + 1
      have := hlt K hK; simp only [List.length_cons]; omega
    · show Obs.ev (.ping d) :: .wr (Pong.pongBytes d key) :: s.trace = _
      rw [hA]; rfl
    · intro hsil
      refine NoRes.cons (fun r h => by cases h) (NoRes.cons (fun r h => by cases h) (nA (fun h hs hl => ?_)))
      exact hsil h (hs.trans (List.suffix_cons _ s.hist))
        (by show h.length + 1 ≤ (Event.ping d :: s.hist).length; simp only [List.length_cons]; omega)
  · exact (ho.not_shut hs).elim

theorem onEvent_J (hp : Par kc code reason rb cfg) (e : Event) (hd : Deliverable e) (s : Sys)
    (hq : Q kc code reason cfg s) (hsh : Sh kc code rb cfg T0 0 s) :
    ∃ s1, onEvent e s = .ok () s1 ∧ KC s s1 ∧ hist s1.trace = hist s.trace ∧
      Sh kc code rb cfg T0 1 (pushEv e s1) ∧ (Shut s → Shut s1) := by
  have plain : ∀ (hne : Open s → ∀ d, e = .ping d → cfg.autoPong = false), onEvent e s = .ok () s →
      ∃ s1, onEvent e s = .ok () s1 ∧ KC s s1 ∧ hist s1.trace = hist s.trace ∧
        Sh kc code rb cfg T0 1 (pushEv e s1) ∧ (Shut s → Shut s1) :=
    fun hne h => ⟨s, h, kc_po.refl s, rfl, sh_push_plain e s hne hsh, id⟩
  cases e with
  | ping d =>
    have hlen : d.length ≤ 125 := hd
    by_cases hap : s.cfg.autoPong = true
    · rcases hsh with ho | hs
      · obtain ⟨h1, h2, h3⟩ := ho.1
        have hw : s.cfg.writeFails s.writeCtr = false := by rw [hq.cfg]; exact hp.nf _
        refine ⟨_, Pong.onEvent_ping_sent d s hap hlen h1 h2 h3 hw, ?_, ?_, ?_, fun hs => hs⟩
        · exact kc_counters s _ _ _ _
        · exact hist_cons_nonEv _ _ rfl
        · exact sh_push_pong d _ s (by rw [← hq.cfg]; exact hap) ho.1 (Or.inl ho)
      · have hun : s.sockOpen = false ∨ s.closing = true ∨ s.closed = true := Or.inr hs.1
        refine ⟨_, Pong.onEvent_ping_skipped d s hap hlen hun, ?_, rfl, ?_, fun h => h⟩
        · exact kc_counters s _ _ _ _
        · refine sh_push_plain (.ping d) (Pong.pongSkipped s) ?_ (Or.inr hs)
          exact fun ho => (ho.not_shut hs.1).elim
    · have hap' : s.cfg.autoPong = false := by simpa using hap
      exact plain (fun _ _ _ => by rw [← hq.cfg]; exact hap') (Pong.onEvent_ping_disabled d s hap')
  | pong d =>
    refine ⟨{ s with lastPong := sessionTime s }, rfl, ?_, rfl, ?_, fun h => h⟩
    · exact kc_counters s _ _ _ _
    · exact sh_push_plain (.pong d) _ (fun _ d' h => by cases h) hsh
  | text t => exact plain (fun _ d' h => by cases h) rfl
  | binary t => exact plain (fun _ d' h => by cases h) rfl
  | closing c r => exact plain (fun _ d' h => by cases h) rfl
  | closed c r => exact plain (fun _ d' h => by cases h) rfl
  | _ => exact (hd : False).elim

theorem kc_push {s s1 : Sys} (e : Event) (k : KC s s1) : KC (pushEv e s) (pushEv e s1) :=
  ⟨k.cfg, k.react, k.env, k.sockOpen, k.selOpen, k.closed, k.ready, k.startTime, k.now, k.pollStart, k.p,
   k.frames, by show e :: s1.hist = e :: s.hist; rw [k.hist], k.closing⟩

/-- **a `yield` of a message event inside `WebSocket.feed`** (frozen clock), as a whole:
    `_on_event`, the hand-over, the application's reaction (sends and/or the `close()`),
    `_regular()` (which has nothing to do): returns normally, adds exactly this event, keeps the
    invariant -/
theorem feedYield_msg_J (hp : Par kc code reason rb cfg) (b : Bool) (e : Event) (hd : Deliverable e) (s : Sys)
    (hq : Q kc code reason cfg s) (hsh : Sh kc code rb cfg T0 0 s) :
    ∃ s', feedYield b e s = .ok () s' ∧ KC (pushEv e s) s' ∧ hist s'.trace = e :: hist s.trace ∧
      Q kc code reason cfg s' ∧ Sh kc code rb cfg T0 0 s' ∧ (Shut s → Shut s') := by
  obtain ⟨s1, h1, k1, t1, sh1, m1⟩ := onEvent_J hp e hd s hq hsh
  have q1 : Q kc code reason cfg s1 := hq.of_kc k1 t1
  obtain ⟨s2, h2, k2, t2, sh2, m2⟩ := acts_J hp (pushEv e s1) q1.app q1.cfg (q1.push e).hi sh1
  have q2 : Q kc code reason cfg s2 := (q1.push e).of_kc k2 t2
  have hy : yieldEv e s1 = .ok () s2 := h2
  refine ⟨s2, ?_, kc_po.trans (kc_push e k1) k2, ?_, q2, sh2, fun hs => m2 (m1 hs)⟩
  · unfold feedYield
    apply tryC_ok
    rw [bind_ok h1, bind_ok hy]
    exact q2.regular_id hp
  · rw [t2]
    show hist (.ev e :: s1.trace) = _
    rw [hist_cons_ev, t1]

/-- **Ready**: `_on_ready` starts the session clock, the application sees Ready and reacts, the
    first Poll follows at once, the application reacts to it; nothing else happens -/
theorem feedYield_ready_J (hp : Par kc code reason rb cfg) (b : Bool) (a : Option Http.Str) (c : Bool) (s : Sys)
    (hq : Q kc code reason cfg s) (hsh : Sh kc code rb cfg T0 0 s) (hr : s.ready = false) :
    ∃ s', feedYield b (.ready a c) s = .ok () s' ∧ Q kc code reason cfg s' ∧ Sh kc code rb cfg T0 0 s' ∧
      s'.ready = true ∧ hist s'.trace = .poll :: .ready a c :: hist s.trace ∧
      s'.cfg = s.cfg ∧ s'.react = s.react ∧ s'.sockOpen = s.sockOpen ∧ s'.selOpen = s.selOpen ∧
      s'.closed = s.closed ∧ s'.p = s.p ∧ s'.frames = s.frames ∧ (Shut s → Shut s') := by
  let s1 : Sys := Timers.readyState s
  have hi1 : (pushEv (.ready a c) s1).hist = hist (pushEv (.ready a c) s1).trace := by
    show Event.ready a c :: s.hist = hist (.ev (.ready a c) :: s.trace)
    rw [hist_cons_ev, hq.hi]
  have sh1 : Sh kc code rb cfg T0 1 (pushEv (.ready a c) s1) :=
    sh_push_plain (.ready a c) s1 (fun _ d h => by cases h) hsh
  obtain ⟨s2, h2, k2, t2, sh2, m2⟩ := acts_J hp (pushEv (.ready a c) s1) hq.app hq.cfg hi1 sh1
  have hy : yieldEv (.ready a c) s1 = .ok () s2 := h2
  have hr2 : s2.ready = true := k2.ready
  have hps2 : s2.pollStart = none := k2.pollStart.trans (hq.nr hr).2
  have hst2 : s2.startTime = some s2.now := by rw [k2.startTime, k2.now]; rfl
  have ht2 : sessionTime s2 = 0 := by unfold sessionTime; rw [hst2]; simp
  have hi2 : s2.hist = hist s2.trace := by rw [k2.hist, t2]; exact hi1
  have hi3 : (pushEv .poll (Timers.pollMark s2)).hist = hist (pushEv .poll (Timers.pollMark s2)).trace := by
    show Event.poll :: s2.hist = hist (.ev .poll :: s2.trace)
    rw [hist_cons_ev, hi2]
  have sh3 : Sh kc code rb cfg T0 1 (pushEv .poll (Timers.pollMark s2)) :=
    sh_push_plain .poll (Timers.pollMark s2) (fun _ d h => by cases h) sh2
  have app2 : AppK kc code reason s2.react := by rw [k2.react]; exact hq.app
  have cfg2 : s2.cfg = cfg := k2.cfg.trans hq.cfg
  obtain ⟨s3, h3, k3, t3, sh4, m3⟩ := acts_J hp (pushEv .poll (Timers.pollMark s2)) app2 cfg2 hi3 sh3
  have hy3 : yieldEv .poll (Timers.pollMark s2) = .ok () s3 := h3
  have hr3 : s3.ready = true := k3.ready.trans hr2
  have hst3 : s3.startTime = some s3.now := by rw [k3.startTime, k3.now]; exact hst2
  have ht3 : sessionTime s3 = 0 := by unfold sessionTime; rw [hst3]; simp
  have hps3 : s3.pollStart = some 0 := by
    rw [k3.pollStart]; show some (sessionTime s2) = some 0; rw [ht2]
  have q3 : Q kc code reason cfg s3 := by
    refine ⟨by rw [k3.react]; exact app2, k3.cfg.trans cfg2, ?_, fun h => ?_, fun _ => ⟨hst3, hps3⟩, ?_⟩
    · rw [k3.sockOpen, k3.closed]
      show s2.sockOpen = true ∨ s2.closed = true
      rw [k2.sockOpen, k2.closed]; exact hq.sock
    · rw [hr3] at h; cases h
    · rw [k3.hist, t3]; exact hi3
  refine ⟨s3, ?_, q3, sh4, hr3, ?_, k3.cfg.trans k2.cfg, k3.react.trans k2.react, k3.sockOpen.trans k2.sockOpen,
    k3.selOpen.trans k2.selOpen, k3.closed.trans k2.closed, k3.p.trans k2.p, k3.frames.trans k2.frames,
    fun hs => m3 (m2 hs)⟩
  · exact feedYield_ready_eq b a c s hy hr2 hps2 hy3 ht3
  · rw [t3]
    show hist (.ev .poll :: s2.trace) = _
    rw [hist_cons_ev, t2]
    show _ :: hist (.ev (.ready a c) :: s.trace) = _
    rw [hist_cons_ev]

variable (kc code reason rb cfg T0) in
structure G (s : Sys) : Prop where
  q : Q kc code reason cfg s
  sh : Sh kc code rb cfg T0 0 s
  ready : s.ready = true

variable (kc code reason rb cfg T0) in
/-- what handling one or more frames guarantees: `es` are all the events it yields (newest first) -/
structure RelJ (es : List Event) (s s' : Sys) : Prop where
  cfgE : s'.cfg = s.cfg
  reactE : s'.react = s.react
  closed : s'.closed = s.closed
  g : G kc code reason rb cfg T0 s'
  evs : hist s'.trace = es ++ hist s.trace
  shut : Shut s → Shut s'

theorem RelJ.refl {s : Sys} (g : G kc code reason rb cfg T0 s) : RelJ kc code reason rb cfg T0 [] s s :=
  ⟨rfl, rfl, rfl, g, rfl, id⟩

theorem RelJ.trans {e1 e2 : List Event} {a b c : Sys} (h1 : RelJ kc code reason rb cfg T0 e1 a b)
    (h2 : RelJ kc code reason rb cfg T0 e2 b c) : RelJ kc code reason rb cfg T0 (e2 ++ e1) a c :=
  ⟨h2.cfgE.trans h1.cfgE, h2.reactE.trans h1.reactE, h2.closed.trans h1.closed, h2.g,
   by rw [h2.evs, h1.evs, List.append_assoc], fun h => h2.shut (h1.shut h)⟩

/-- applications that close once as consumers of conforming items (`Eater`, Proofs/Consumer.lean): the
    one fact about the class is `feedYield_msg_J` -/
theorem eater_J (hp : Par kc code reason rb cfg) :
    Eater (fun s => G kc code reason rb cfg T0 s ∧ s.closed = false) (RelJ kc code reason rb cfg T0) where
  refl g := RelJ.refl g.1
  trans := RelJ.trans
  inv g r := ⟨r.g, r.closed.trans g.2⟩
  isOpen g := g.2
  yield e hd s g := by
    obtain ⟨s', h, k, t, q', sh', m⟩ := feedYield_msg_J hp true e hd s g.1.q g.1.sh
    exact ⟨s', h, k.cfg, k.react, k.closed, ⟨q', sh', k.ready.trans g.1.ready⟩, t, m⟩
  setY g _ _ := ⟨⟨⟨g.1.q.app, g.1.q.cfg, g.1.q.sock, g.1.q.nr, g.1.q.rd, g.1.q.hi⟩, g.1.sh, g.1.ready⟩, g.2⟩
  setR r _ _ _ _ := ⟨r.cfgE, r.reactE, r.closed, ⟨⟨r.g.q.app, r.g.q.cfg, r.g.q.sock, r.g.q.nr, r.g.q.rd, r.g.q.hi⟩, r.g.sh, r.g.ready⟩, r.evs, r.shut⟩

/-- **Delivery, items**, for this application class: every message of a conforming prefix is
    delivered once, in order — whether it arrives before, while or after the application closes —
    and the invariant holds afterwards -/
theorem feed_items_J (hp : Par kc code reason rb cfg) (items : List Item) (hok : ∀ it ∈ items, it.Ok) (s : Sys)
    (g : G kc code reason rb cfg T0 s) (hcl : s.closed = false) (hfr : s.frames = []) (hb : Between s.p) :
    ∃ s', feedLoop (wireBytes (items.flatMap Item.wire)) s = .ok true s' ∧
      RelJ kc code reason rb cfg T0 (items.flatMap Item.events).reverse s s' ∧ s'.frames = [] ∧ Between s'.p := by
  exact feed_items (eater_J hp) items hok s ⟨g, hcl⟩ hfr hb

theorem Sh.closed_of_shut {s : Sys} (h : Sh kc code rb cfg T0 0 s) (hs : Shut s) :
    Sh kc code rb cfg T0 0 { s with closing := false, closed := true } := by
  rcases h with ⟨ho, _⟩ | ⟨_, K, B, A, key, hk, hle, hB, pB, pA, hKl, nA⟩
  · exact (ho.not_shut hs).elim
  · exact Or.inr ⟨Or.inr rfl, K, B, A, key, hk, hle, hB, pB, pA, hKl, nA⟩

/-- **the server's Close arrives while the client is closing**: `Closed(code, reason)` is handed
    to the application (its sends are refused), the websocket is closed, `WebSocket.feed` stops -/
theorem feed_close_closing (hp : Par kc code reason rb cfg) (c : CloseF) (hc : c.Ok) (s : Sys)
    (g : G kc code reason rb cfg T0 s) (hcl : s.closed = false) (hcg : s.closing = true) (hb : Between s.p) :
    ∃ s', feedLoop c.wire.bytes s = .ok false s' ∧ s'.closed = true ∧
      hist s'.trace = .closed c.code c.reason :: hist s.trace ∧
      Q kc code reason cfg s' ∧ Sh kc code rb cfg T0 0 s' ∧
      s'.cfg = s.cfg ∧ s'.react = s.react ∧ s'.sockOpen = s.sockOpen ∧ s'.selOpen = s.selOpen := by
  obtain ⟨p1, p', _, e⟩ := feedLoop_close_frame c hc s hb
  have hv : ValidCode c.code := fun k hk => (hc.code k hk).2
  have hpay : closeFromPayload c.wire.frame.payload = .ok (.close c.code c.reason) := closeFromPayload_ok c hc
  obtain ⟨s2, hy, k, t, q2, sh2, m⟩ := feedYield_msg_J hp true (.closed c.code c.reason) trivial { s with p := p1 }
    ⟨g.q.app, g.q.cfg, g.q.sock, g.q.nr, g.q.rd, g.q.hi⟩ g.sh
  have hon : onClose c.code c.reason { s with p := p1 } = .ok () { s2 with closing := false, closed := true } :=
    (onClose_when_closing c.code c.reason { s with p := p1 } hv hcg hcl).2.1 s2 hy
  refine ⟨{ s2 with closing := false, closed := true }, ?_, rfl, t,
    ⟨q2.app, q2.cfg, Or.inr rfl, q2.nr, q2.rd, q2.hi⟩, sh2.closed_of_shut (m (Or.inl hcg)),
    k.cfg, k.react, k.sockOpen, k.selOpen⟩
  rw [e, onOut_close_frame c.wire.frame rfl c.code c.reason hpay _ (Or.inl rfl), bind_ok hon]
  rfl

/-- **the server's Close arrives first** (send-only application): `Closing(code, reason)` is
    handed to the application while the websocket is still open — what it sends now is written —,
    then exactly one Close frame carrying the received payload is written and the websocket is
    closing -/
theorem feed_close_open (hp : Par kc code reason rb cfg) (hkn : kc = none) (c : CloseF) (hc : c.Ok) (s : Sys)
    (g : G kc code reason rb cfg T0 s) (hb : Between s.p) {A0 : List Obs} (hA0 : s.trace = A0 ++ T0) :
    ∃ s' l key, feedLoop c.wire.bytes s = .ok true s' ∧ s'.closing = true ∧ s'.closed = false ∧
      s'.trace = .wr (closeFrame c.payload key) :: (l ++ A0 ++ T0) ∧ PhaseA cfg.autoPong (l ++ A0) ∧
      hist l = [.closing c.code c.reason] ∧ Q kc code reason cfg s' ∧ s'.ready = true ∧
      s'.cfg = s.cfg ∧ s'.react = s.react ∧ s'.sockOpen = s.sockOpen ∧ s'.selOpen = s.selOpen := by
  obtain ⟨p1, p', _, e⟩ := feedLoop_close_frame c hc s hb
  have opn : ∀ {t : Sys}, Sh kc code rb cfg T0 0 t → ShOpen kc cfg T0 0 t := by
    intro t h
    rcases h with h | ⟨_, K, _, _, _, hk, _⟩
    · exact h
    · rw [hkn] at hk; cases hk
  have hv : ValidCode c.code := fun k hk => (hc.code k hk).2
  have hpay : closeFromPayload c.wire.frame.payload = .ok (.close c.code c.reason) := closeFromPayload_ok c hc
  obtain ⟨ho, _⟩ := opn g.sh
  obtain ⟨s1, hy, k, t, q1, sh1, _⟩ := feedYield_msg_J hp true (.closing c.code c.reason) trivial { s with p := p1 }
    ⟨g.q.app, g.q.cfg, g.q.sock, g.q.nr, g.q.rd, g.q.hi⟩ g.sh
  obtain ⟨ho1, _, A, hA, pA, _⟩ := opn sh1
  obtain ⟨l, el⟩ := ((step_feedYield _ _).ok hy).traceExt
  have eA : A = l ++ A0 := List.append_cancel_right (by rw [← hA, el, List.append_assoc]; exact congrArg _ hA0)
  subst eA
  have hl : hist l = [.closing c.code c.reason] := by
    rw [el, hist_append] at t
    exact List.append_cancel_right (t.trans rfl)
  have hw1 : s1.cfg.writeFails s1.writeCtr = false := by rw [q1.cfg]; exact hp.nf _
  have ha : CloseArgsOk c.code (encodeReplace c.reason) :=
    ⟨fun k hk => (hc.code k hk).1, by rw [close_echo_payload c hc]; exact hc.2.1⟩
  let s2 : Sys := { s1 with keyCtr := s1.keyCtr + 1, writeCtr := s1.writeCtr + 1,
                            trace := .wr (closeFrame c.payload (s1.cfg.maskKey s1.keyCtr)) :: s1.trace,
                            closing := true, sentCloseTime := some (sessionTime s1) }
  have hon : onClose c.code c.reason { s with p := p1 } = .ok () s2 := by
    have := onClose_echo c.code c.reason { s with p := p1 } s1 hv ho.2.1 ho.2.2 hy ho1 hw1 ha
    rw [close_echo_payload c hc] at this
    exact this
  refine ⟨{ s2 with p := p' }, l, s1.cfg.maskKey s1.keyCtr, ?_, rfl, ho1.2.2, ?_, pA, hl, ?_, k.ready.trans g.ready,
    k.cfg, k.react, k.sockOpen, k.selOpen⟩
  · rw [e, onOut_close_frame c.wire.frame rfl c.code c.reason hpay _ (Or.inl rfl), bind_ok hon, notClosed_eq]
    show (match Res.ok (!s1.closed) s2 with | .ok true s2 => _ | .ok false s2 => _ | .err x s2 => _) = _
    rw [show (!s1.closed) = true by rw [ho1.2.2]; rfl]
  · show Obs.wr _ :: s1.trace = _
    rw [hA]
  · exact ⟨q1.app, q1.cfg, q1.sock, q1.nr, q1.rd, by
      show s1.hist = hist (Obs.wr _ :: s1.trace)
      rw [hist_cons_nonEv _ _ rfl]; exact q1.hi⟩

/-- **`run()` before the loop**: `Connecting` (the socket does not exist: calls fail), the upgrade
    request, `Connected` — where the application may already call `close()` (`kc = some 2`). -/
theorem run_start_J (hp : Par kc code reason rb cfg) (react : React) (env : List EnvStep) (proxy : Bool)
    (hc : cfg.connect = .ok proxy) (happ : AppK kc code reason react) :
    ∃ sA l0, (∀ o ∈ l0, Obs.isRes o = true) ∧
      run { cfg := cfg, react := react, env := env } = tryC (do runBody env; selClose) runFinally sA ∧
      Q kc code reason cfg sA ∧ Sh kc code rb cfg (Tstart cfg l0) 0 sA ∧
      sA.ready = false ∧ sA.closed = false ∧ sA.sockOpen = true ∧ sA.selOpen = true ∧ sA.p = {} ∧
      sA.frames = [] ∧ sA.env = env ∧ sA.react = react ∧ hist sA.trace = [.connected proxy, .connecting] := by
  let s0 : Sys := { cfg := cfg, react := react, env := env }
  have hk1 : kc ≠ some (pushEv .connecting s0).hist.length := by
    intro e
    have := hp.k2 _ e
    simp [pushEv, s0] at this
  obtain ⟨s1, l0, h1a, k1, hh1, t1, a1, _⟩ := doActs_sends_J _ (happ.sends _ hk1) (pushEv .connecting s0)
  have h1 : yieldEv .connecting s0 = .ok () s1 := h1a
  have hl0 : ∀ o ∈ l0, Obs.isRes o = true := by
    obtain ⟨l, e, _, r⟩ := k1.trace
    have : l = l0 := List.append_cancel_right (e.symm.trans t1)
    subst this
    exact r rfl
  have hcc : s1.cfg.connect = .ok proxy := by rw [k1.cfg]; exact hc
  let s2 : Sys := { s1 with sockOpen := true }
  have hwc : s2.cfg.writeFails s2.writeCtr = false := by
    show s1.cfg.writeFails s1.writeCtr = false
    rw [k1.cfg]; exact hp.nf _
  let s3 : Sys := { s2 with writeCtr := s2.writeCtr + 1, trace := .wr s2.cfg.request :: s2.trace }
  have hreq : s2.cfg.request = cfg.request := by show s1.cfg.request = _; rw [k1.cfg]; rfl
  have htr3 : s3.trace = Tstart cfg l0 := by
    show Obs.wr s2.cfg.request :: s1.trace = _
    rw [hreq, t1]; rfl
  have hh3 : s3.hist = [.connecting] := by show s1.hist = _; rw [hh1]; rfl
  have hist3 : hist s3.trace = [.connecting] := by
    rw [htr3]
    show hist (.wr cfg.request :: (l0 ++ [.ev .connecting])) = _
    rw [hist_cons_nonEv _ _ rfl, hist_append, hist_nonEv l0 a1.noEv]; rfl
  have app3 : AppK kc code reason s3.react := by show AppK kc code reason s1.react; rw [k1.react]; exact happ
  have cfg3 : s3.cfg = cfg := k1.cfg
  have hi4 : (pushEv (.connected proxy) s3).hist = hist (pushEv (.connected proxy) s3).trace := by
    show Event.connected proxy :: s3.hist = hist (.ev (.connected proxy) :: s3.trace)
    rw [hist_cons_ev, hist3, hh3]
  have sh4 : Sh kc code rb cfg (Tstart cfg l0) 1 (pushEv (.connected proxy) s3) := by
    refine Or.inl ⟨⟨rfl, k1.closing, k1.closed⟩, ?_, [.ev (.connected proxy)], ?_, .ev _ (fun d h => by cases h) .nil,
      fun _ => NoRes.cons (fun r h => by cases h) (fun r h => by cases h)⟩
    · intro K hK
      show (Event.connected proxy :: s3.hist).length < K + 1
      rw [hh3]
      have := hp.k2 K hK
      simp only [List.length_cons, List.length_nil]; omega
    · show Obs.ev (.connected proxy) :: s3.trace = _
      rw [htr3]; rfl
  obtain ⟨s4, h4a, k4, t4, sh5, _⟩ := acts_J hp (pushEv (.connected proxy) s3) app3 cfg3 hi4 sh4
  have h4 : yieldEv (.connected proxy) s3 = .ok () s4 := h4a
  let sA : Sys := { s4 with selOpen := true }
  have kA : Kept s0 sA :=
    ((((Kept.pushEv _ s0).trans (.of_keep k1)).trans (HRun.kept_requestSent s1)).trans
      ((Kept.pushEv _ s3).trans (.of_kc k4))).trans (Kept.selOpen true s4)
  have hsk : sA.sockOpen = true := by show s4.sockOpen = true; rw [k4.sockOpen]; rfl
  have hhA : hist sA.trace = [.connected proxy, .connecting] := by
    show hist s4.trace = _
    rw [t4]
    show hist (.ev (.connected proxy) :: s3.trace) = _
    rw [hist_cons_ev, hist3]
  have hiA : sA.hist = hist sA.trace := by
    show s4.hist = hist s4.trace
    rw [k4.hist, t4]; exact hi4
  have qA : Q kc code reason cfg sA :=
    ⟨by rw [kA.react]; exact happ, kA.cfg, Or.inl hsk, fun _ => ⟨kA.startTime, kA.pollStart⟩,
      (fun h => by rw [kA.ready] at h; cases h), hiA⟩
  refine ⟨sA, l0, hl0, ?_, qA, sh5, kA.ready, kA.closed, hsk, rfl,
    kA.p, kA.frames, kA.env, kA.react, hhA⟩
  exact HRun.run_start_eq cfg react env proxy h1 hcc k1.closed k1.closing hwc h4 kA.env

/-- **the handshake read** (as `E2E.handshake_read`, for this application class — the client may
    already be closing): feeding `reply ++ stream` is Ready, Poll, then feeding `stream` from `s4` -/
theorem feed_reply_J (hp : Par kc code reason rb cfg) {sA : Sys} (hq : Q kc code reason cfg sA)
    (hsh : Sh kc code rb cfg T0 0 sA) (hr : sA.ready = false) (hcl : sA.closed = false) (hpA : sA.p = {})
    (hfr : sA.frames = []) {reply : Bytes} {proto : Option Http.Str} (hg : GoodReply cfg reply proto) :
    ∃ s4, G kc code reason rb cfg T0 s4 ∧ s4.closed = false ∧ s4.frames = [] ∧ Between s4.p ∧
      s4.p.compression = false ∧ hist s4.trace = .poll :: .ready proto false :: hist sA.trace ∧
      s4.cfg = sA.cfg ∧ s4.react = sA.react ∧ s4.sockOpen = sA.sockOpen ∧ s4.selOpen = sA.selOpen ∧
      (Shut sA → Shut s4) ∧ ∀ stream, wsFeed (reply ++ stream) sA = wsFeed stream s4 := by
  obtain ⟨i, hsep, hil⟩ := hg.sep
  have hc : sA.p.cont = .header := by rw [hpA]
  have hbuf : sA.p.buf = [] := by rw [hpA]
  let s1 : Sys := { headerDone sA with compression := none, decompress := false }
  have q1 : Q kc code reason cfg s1 := ⟨hq.app, hq.cfg, hq.sock, hq.nr, hq.rd, hq.hi⟩
  obtain ⟨s3, h3, q3, sh3, r3, hh3, c3, re3, so3, se3, cl3, p3, f3, m3⟩ :=
    feedYield_ready_J hp true proto false s1 q1 hsh hr
  let s4 : Sys := { s3 with parsedResponse := true }
  have hok : Http.onResponse sA.cfg.v.strictAccept sA.cfg.challenge (Http.parseResponse reply)
      = .ok { protocol := proto, deflate := none } := by
    rw [hq.cfg]; exact hg.ok
  have hp4 : s4.p = { cont := .hdr2, remPred := 1, utf8 := false, buf := [] } := by
    show s3.p = _
    rw [p3]
    show ({ sA.p with cont := .hdr2, remPred := 1, utf8 := false, buf := [] } : PState) = _
    rw [hpA]
  refine ⟨s4, ⟨⟨q3.app, q3.cfg, q3.sock, q3.nr, q3.rd, q3.hi⟩, sh3, r3⟩,
    cl3.trans hcl, f3.trans hfr, ?_, ?_, hh3, c3, re3, so3, se3, m3, fun stream =>
      wsFeed_accept_reply reply stream sA hc hbuf hcl hsep hil hg.len ⟨proto, none⟩ hok h3 (cl3.trans hcl)
        (by rw [show s3.p = s4.p from rfl, hp4]; simp)⟩
  · rw [hp4]; exact ⟨⟨rfl, rfl, rfl, rfl⟩, rfl, rfl⟩
  · rw [hp4]

/-- **the loop ended normally with the websocket closing or closed** (`else:` clause of `run()`):
    the socket is closed, `Disconnected('closed', graceful=True)` is handed to the application —
    whatever it sends now is refused —, the selector is closed, `run()` returns -/
theorem finish_J (env : List EnvStep) (sA s1 : Sys) (hl : loop env sA = .ok () s1)
    (happ : AppK kc code reason s1.react) (hs : Shut s1) (hk : kc ≠ some (s1.hist.length + 1)) :
    ∃ sF post, tryC (do runBody env; selClose) runFinally sA = .ok () sF ∧
      sF.trace = post ++ s1.trace ∧ hist post = [.disconnected "closed" true] ∧ PhaseB post ∧
      sF.sockOpen = false := by
  obtain ⟨l2, e2, n2⟩ := sockClosed_shape s1
  have hs2 : Shut (pushEv (.disconnected "closed" true) (sockClosed s1)) := by rw [e2]; exact hs
  have hk2 : kc ≠ some (pushEv (.disconnected "closed" true) (sockClosed s1)).hist.length := by rw [e2]; exact hk
  obtain ⟨s3, l3, h3, k3, _, t3, a3, r3, _⟩ :=
    doActs_sends_J _ ((by rw [e2]; exact happ : AppK kc code reason (sockClosed s1).react).sends _ hk2)
      (pushEv (.disconnected "closed" true) (sockClosed s1))
  have r3' := r3 hs2
  obtain ⟨s4, l4, h4, t4, n4⟩ := selClose_trace s3
  have hy : (do closeSocket; yieldEv (.disconnected "closed" true) : M Unit) s1 = .ok () s3 := by
    rw [bind_ok (closeSocket_eq s1)]; exact h3
  refine ⟨s4, l4 ++ l3 ++ .ev (.disconnected "closed" true) :: l2, ?_, ?_, ?_, ?_, ?_⟩
  · apply tryC_ok
    rw [bind_ok (show runBody env sA = .ok () s3 by rw [runBody_of_loop_okV env sA s1 hl]; exact hy)]
    exact h4
  · rw [t4, t3]
    show l4 ++ (l3 ++ .ev _ :: (sockClosed s1).trace) = _
    rw [e2]; simp
  · have e4' : hist l4 = [] := hist_nonEv l4 (fun o ho => by rw [n4 o ho]; rfl)
    have e3' : hist l3 = [] := hist_nonEv l3 a3.noEv
    have e2' : hist l2 = [] := hist_nonEv l2 (fun o ho => by rw [n2 o ho]; rfl)
    rw [hist_append, hist_append, e4', e3', hist_cons_ev, e2']; rfl
  · refine PhaseB.append (PhaseB.append ?_ r3'.phaseB) (PhaseB.cons rfl (by intro h; cases h) ?_)
    · intro o ho; rw [n4 o ho]; exact ⟨rfl, by intro h; cases h⟩
    · intro o ho; rw [n2 o ho]; exact ⟨rfl, by intro h; cases h⟩
  · have h5 := (selClose_state s3).2
    rw [h4] at h5
    simp only [Res.state_ok] at h5
    rw [h5, k3.sockOpen]
    exact sockClosed_sockOpen s1

end inv

theorem goodReply_ne {cfg : Cfg} {reply : Bytes} {proto : Option Http.Str} (hg : GoodReply cfg reply proto) :
    reply ≠ [] := by
  obtain ⟨i, _, hil⟩ := hg.sep
  intro e
  rw [e] at hil
  simp at hil

theorem Q.segInv {kc code : Option Nat} {reason : Arg} {rb : Bytes} {cfg : Cfg} (hp : Par kc code reason rb cfg)
    {s : Sys} (h : Q kc code reason cfg s) : SegLoop.Inv s :=
  ⟨by rw [h.cfg]; exact hp.poll, h.app.noSessionClose, h.sock⟩

/-- **the one read of the whole server stream**: the upgrade reply, then bytes `W` that the loop
    consumes normally from the state after the handshake, then bytes `C`; the session loop goes on
    from the state the frames leave -/
theorem loop_one_read {cfg : Cfg} {reply : Bytes} {proto : Option Http.Str} (hg : GoodReply cfg reply proto)
    {sA s4 sp s6 : Sys} {W C : Bytes} {b : Bool} (rest : List EnvStep)
    (hcl : sA.closed = false) (hr : sA.ready = false) (hso : sA.sockOpen = true)
    (hfeed : ∀ stream, wsFeed (reply ++ stream) sA = wsFeed stream s4) (cl4 : s4.closed = false)
    (bt4 : Between s4.p) (hfl : feedLoop W s4 = .ok true sp) (hf6 : feedLoop C sp = .ok b s6) :
    loop (reads [reply ++ (W ++ C)] ++ rest) sA = loop rest s6 := by
  have hnh : s4.p.cont ≠ .header := bt4.b.notHeader
  have hfl6 : feedLoop (W ++ C) s4 = .ok b s6 := by rw [feedLoop_append, hfl]; exact hf6
  have hws : wsFeed (W ++ C) s4 = .ok () s6 :=
    wsFeed_of_feedBody_ok _ s4 s6 cl4 (by rw [feedBody_frames _ _ hnh, hfl6])
  have hne : reply ++ (W ++ C) ≠ [] := fun e => goodReply_ne hg (List.append_eq_nil_iff.mp e).1
  show loop (.wait 0 (some (.data (reply ++ (W ++ C)))) :: rest) sA = _
  rw [loop_wait_data 0 _ rest sA sA hcl (by rw [tick_zero]; exact regular_not_ready sA hr) hso hne,
    hfeed, hws]

/-- … arriving in any non-empty pieces: C02 at the level of the loop (`SegLoop.loop_reads_flatten`) -/
theorem loop_reads_J {cfg : Cfg} {reply : Bytes} {proto : Option Http.Str} (hg : GoodReply cfg reply proto)
    {sA s4 sp s6 : Sys} {W C : Bytes} {b : Bool} (chunks : List Bytes) (hne : ∀ c ∈ chunks, c ≠ [])
    (hflat : chunks.flatten = reply ++ (W ++ C)) (rest : List EnvStep) (inv : SegLoop.Inv sA)
    (hcl : sA.closed = false) (hr : sA.ready = false) (hso : sA.sockOpen = true)
    (hfeed : ∀ stream, wsFeed (reply ++ stream) sA = wsFeed stream s4) (cl4 : s4.closed = false)
    (bt4 : Between s4.p) (hfl : feedLoop W s4 = .ok true sp) (hf6 : feedLoop C sp = .ok b s6) :
    loop (reads chunks ++ rest) sA = loop rest s6 := by
  cases chunks with
  | nil => exact absurd (List.append_eq_nil_iff.mp hflat.symm).1 (goodReply_ne hg)
  | cons c cs =>
    have := SegLoop.loop_reads_flatten 0 c cs rest sA inv hne
    rw [hflat] at this
    exact this.trans (loop_one_read hg rest hcl hr hso hfeed cl4 bt4 hfl hf6)

/-- **up to the last frame of the burst of reads**: `run()` reaches the session loop (state `sA`); the
    reads carry the upgrade reply, the conforming `items` and further bytes `C`; `sp` is the state
    in front of `C` — invariant `G`, the items' events delivered — and whatever `C` leads to, the
    session loop goes on from there with the rest of the script -/
theorem run_items_J {kc code : Option Nat} {reason : Arg} {rb : Bytes} {cfg : Cfg}
    (hp : Par kc code reason rb cfg) (react : React) (proxy : Bool) {proto : Option Http.Str}
    (hc : cfg.connect = .ok proxy) (happ : AppK kc code reason react) {reply : Bytes}
    (hg : GoodReply cfg reply proto) (items : List Item) (hok : ∀ it ∈ items, it.Ok) (C : Bytes)
    (chunks : List Bytes) (hne : ∀ x ∈ chunks, x ≠ [])
    (hflat : chunks.flatten = reply ++ (wireBytes (items.flatMap Item.wire) ++ C)) (rest : List EnvStep) :
    ∃ sA l0 sp, (∀ o ∈ l0, Obs.isRes o = true) ∧
      run { cfg := cfg, react := react, env := reads chunks ++ rest }
        = tryC (do runBody (reads chunks ++ rest); selClose)
            runFinally sA ∧
      G kc code reason rb cfg (Tstart cfg l0) sp ∧ sp.closed = false ∧ Between sp.p ∧ sp.react = react ∧
      hist sp.trace = (items.flatMap Item.events).reverse ++ [.poll, .ready proto false, .connected proxy, .connecting] ∧
      sp.hist.length = (items.flatMap Item.events).length + 4 ∧
      ∀ b s6, feedLoop C sp = .ok b s6 →
        loop (reads chunks ++ rest) sA = loop rest s6 := by
  obtain ⟨sA, l0, hl0, hrun, qA, shA, hr, hcl, hso, _, hpA, hfA, _, hre, hhA⟩ := run_start_J hp react _ proxy hc happ
  obtain ⟨s4, g4, cl4, fr4, bt4, _, hh4, _, re4, _, _, _, hfeed⟩ := feed_reply_J hp qA shA hr hcl hpA hfA hg
  obtain ⟨sp, hfl, r, _, btp⟩ := feed_items_J hp items hok s4 g4 cl4 fr4 bt4
  have hhp : hist sp.trace =
      (items.flatMap Item.events).reverse ++ [.poll, .ready proto false, .connected proxy, .connecting] := by
    rw [r.evs, hh4, hhA]
  exact ⟨sA, l0, sp, hl0, hrun, r.g, r.closed.trans cl4, btp, r.reactE.trans (re4.trans hre), hhp,
    by rw [r.g.q.hi, hhp]; simp, fun b s6 hf6 => loop_reads_J hg chunks hne hflat rest (qA.segInv hp) hcl hr hso hfeed cl4 bt4 hfl hf6⟩

/-- **The client closes first** — the whole server stream in a burst of reads.  See
    `C08E2E.client_close_end_to_end` for the statement in words. -/
theorem client_close_run (K : Nat) (code : Option Nat) (reason : Arg) (rb : Bytes) (cfg : Cfg)
    (hp : Par (some K) code reason rb cfg) (react : React) (proxy : Bool) (proto : Option Http.Str)
    (hc : cfg.connect = .ok proxy) (happ : AppK (some K) code reason react)
    {reply : Bytes} (hg : GoodReply cfg reply proto)
    (items : List Item) (hok : ∀ it ∈ items, it.Ok) (c : CloseF) (hcf : c.Ok)
    (hK : K ≤ 4 + (items.flatMap Item.events).length) (chunks : List Bytes) (hne : ∀ x ∈ chunks, x ≠ [])
    (hflat : chunks.flatten = reply ++ (wireBytes (items.flatMap Item.wire) ++ c.wire.bytes)) (rest : List EnvStep) :
    ∃ l0 B A key,
      (runAll cfg react (reads chunks ++ rest)).trace
        = B ++ .res .ok :: .wr (closeFrame (buildClosePayload code rb) key) :: (A ++ Tstart cfg l0) ∧
      (∀ o ∈ l0, Obs.isRes o = true) ∧ PhaseA cfg.autoPong A ∧ PhaseB B ∧ (hist (A ++ Tstart cfg l0)).length = K ∧
      ((∀ h, h <:+ (.closed c.code c.reason :: ((items.flatMap Item.events).reverse ++
              [.poll, .ready proto false, .connected proxy, .connecting])) → h.length < K → react h = []) →
        (∀ h, h <:+ (.closed c.code c.reason :: ((items.flatMap Item.events).reverse ++
              [.poll, .ready proto false, .connected proxy, .connecting])) → h.length = K → HeadNotSend (react h)) →
        NoRes A) ∧
      hist (runAll cfg react (reads chunks ++ rest)).trace
        = .disconnected "closed" true :: .closed c.code c.reason :: ((items.flatMap Item.events).reverse ++
            [.poll, .ready proto false, .connected proxy, .connecting]) ∧
      (runAll cfg react (reads chunks ++ rest)).sockOpen
        = false := by
  obtain ⟨sA, l0, sp, hl0, hrun, g, clp, btp, hrep, hhp, hlen, hone⟩ :=
    run_items_J hp react proxy hc happ hg items hok c.wire.bytes chunks hne hflat rest
  have hcg : sp.closing = true := by
    rcases g.sh with ⟨_, hlt, _⟩ | ⟨hs, _⟩
    · have := hlt K rfl; omega
    · rcases hs with h | h
      · exact h
      · rw [clp] at h; cases h
  obtain ⟨s6, hf6, cl6, hh6, q6, sh6, _, re6, _, _⟩ := feed_close_closing hp c hcf sp g clp hcg btp
  have hloop : loop (reads chunks ++ rest) sA = .ok () s6 :=
    (hone _ _ hf6).trans (loop_closed rest s6 cl6)
  have hh6' : s6.hist.length = (items.flatMap Item.events).length + 5 := by
    rw [q6.hi, hh6, hhp]; simp
  obtain ⟨sF, post, hF, tF, hhF, pF, soF⟩ := finish_J _ sA s6 hloop q6.app (Or.inr cl6)
    (by intro e; have : K = s6.hist.length + 1 := by cases e; rfl
        omega)
  rw [Monitor.runAll_ok (hrun.trans hF)]
  have hre6 : s6.react = react := re6.trans hrep
  rcases sh6 with ⟨ho, _⟩ | ⟨_, K', B, A, key, hk, _, hB, pB, pA, hKl, nA⟩
  · exact (ho.not_shut (Or.inr cl6)).elim
  · have : K' = K := by cases hk; rfl
    subst this
    refine ⟨l0, post ++ B, A, key, ?_, hl0, pA, pF.append pB, hKl, ?_, ?_, soF⟩
    · rw [tF, hB, List.append_assoc]
    · rw [hre6, q6.hi, hh6, hhp] at nA; exact nA
    · rw [tF, hist_append, hhF, hh6, hhp]; rfl

/-- **The server closes first** — the whole server stream in a burst of reads, then end of stream.
    See `C08E2E.server_close_end_to_end`. -/
theorem server_close_run (cfg : Cfg) (react : React) (proxy : Bool) (proto : Option Http.Str)
    (hnf : ∀ k, cfg.writeFails k = false) (hpoll : 0 < cfg.poll)
    (hc : cfg.connect = .ok proxy) (happ : SendOnly react)
    {reply : Bytes} (hg : GoodReply cfg reply proto)
    (items : List Item) (hok : ∀ it ∈ items, it.Ok) (c : CloseF) (hcf : c.Ok) (chunks : List Bytes)
    (hne : ∀ x ∈ chunks, x ≠ []) (hflat : chunks.flatten = reply ++ (wireBytes (items.flatMap Item.wire) ++ c.wire.bytes))
    (rest : List EnvStep) :
    ∃ l0 post l A key,
      (runAll cfg react (reads chunks ++ (.wait 0 (some .eof) :: rest))).trace
        = post ++ .wr (closeFrame c.payload key) :: (l ++ (A ++ Tstart cfg l0)) ∧
      (∀ o ∈ l0, Obs.isRes o = true) ∧ PhaseA cfg.autoPong A ∧ PhaseA cfg.autoPong (l ++ A) ∧
      ((∀ h, h <:+ ((items.flatMap Item.events).reverse ++
            [.poll, .ready proto false, .connected proxy, .connecting]) → react h = []) → NoRes A) ∧
      hist l = [.closing c.code c.reason] ∧
      hist (A ++ Tstart cfg l0) = (items.flatMap Item.events).reverse ++
          [.poll, .ready proto false, .connected proxy, .connecting] ∧
      PhaseB post ∧ hist post = [.disconnected "closed" true] ∧
      (runAll cfg react (reads chunks ++ (.wait 0 (some .eof) :: rest))).sockOpen = false := by
  have hp : Par none none (.bytes []) [] cfg :=
    ⟨hnf, hpoll, rfl, ⟨(fun c h => by cases h), (by decide)⟩, (fun K h => by cases h)⟩
  have happK : AppK none none (.bytes []) react :=
    ⟨fun h _ => happ h, fun h e => by cases e⟩
  obtain ⟨sA, l0, sp, hl0, hrun, g, _, btp, hrep, hhp, _, hone⟩ :=
    run_items_J hp react proxy hc happK hg items hok c.wire.bytes chunks hne hflat (.wait 0 (some .eof) :: rest)
  obtain ⟨Ap, hAp, pAp, nAp⟩ : ∃ A, sp.trace = A ++ Tstart cfg l0 ∧ PhaseA cfg.autoPong A ∧
      ((∀ h, h <:+ ((items.flatMap Item.events).reverse ++
            [.poll, .ready proto false, .connected proxy, .connecting]) → react h = []) → NoRes A) := by
    rcases g.sh with ⟨_, _, A, hA, pA, nA⟩ | ⟨_, K, _, _, _, hk, _⟩
    · refine ⟨A, hA, pA, fun hsil => nA (fun h hs _ => ?_)⟩
      rw [hrep]; exact hsil h (by rw [← hhp, ← g.q.hi]; exact hs)
    · cases hk
  obtain ⟨s6, l, key, hf6, cg6, cl6, t6, pA6, hhl, q6, rd6, _, re6, _, _⟩ := feed_close_open hp rfl c hcf sp g btp hAp
  have hloop : loop (reads chunks ++ (.wait 0 (some .eof) :: rest)) sA = .ok () s6 := by
    rw [hone _ _ hf6,
      loop_eof 0 rest s6 s6 cl6 (by rw [tick_zero]; exact q6.regular_id hp)]
    have : ¬ (¬ s6.closing = true ∧ ¬ s6.closed = true) := by rw [cg6]; simp
    rw [if_neg this]
  obtain ⟨sF, post, hF, tF, hhF, pF, soF⟩ := finish_J (kc := none) (code := none) (reason := .bytes []) _ sA s6 hloop
    q6.app (Or.inl cg6) (by intro e; cases e)
  rw [Monitor.runAll_ok (hrun.trans hF)]
  refine ⟨l0, post, l, Ap, key, ?_, hl0, pAp, pA6, nAp, hhl, ?_, pF, hhF, soF⟩
  · rw [tF, t6, List.append_assoc]
  · rw [← hAp]; exact hhp

/-- the rule of `PhaseA` at one position `o :: t` (`t` older): a write below `o` is a call's (then `o`
    is its result) or the library's Pong for the Ping event `o`; a Ping event, with automatic pongs on,
    stands on its Pong -/
def RuleA (auto : Bool) (o : Obs) (t : List Obs) : Prop :=
  (∀ w t', t = w :: t' → w.isWrite = true →
    (∃ r, o = .res r) ∨ (auto = true ∧ ∃ d key, o = .ev (.ping d) ∧ w = .wr (Pong.pongBytes d key))) ∧
  (∀ d, o = .ev (.ping d) → auto = true → ∃ key t', t = .wr (Pong.pongBytes d key) :: t')

theorem PhaseA.head {auto : Bool} {A : List Obs} (h : PhaseA auto A) : ∀ o t, A = o :: t → o.isWrite = false := by
  intro o t e
  cases h <;> cases e <;> rfl

theorem PhaseA.rules {auto : Bool} {A : List Obs} (h : PhaseA auto A) : Hist (RuleA auto) A := by
  induction h with
  | nil => trivial
  | ev e he hA ih =>
    exact ⟨⟨(fun w t' e' hw => by rw [hA.head w t' e'] at hw; cases hw),
      fun d hd ha => by rw [he d (Obs.ev.inj hd)] at ha; cases ha⟩, ih⟩
  | pong d key ha hA ih =>
    exact ⟨⟨(fun w t' e' _ => by cases e'; exact .inr ⟨ha, d, key, rfl, rfl⟩),
        fun d' hd _ => by cases hd; exact ⟨key, _, rfl⟩⟩,
      ⟨(fun w t' e' hw => by rw [hA.head w t' e'] at hw; cases hw), fun d' hd => by cases hd⟩, ih⟩
  | res r hA ih =>
    exact ⟨⟨fun w t' _ _ => .inl ⟨r, rfl⟩, fun d hd => by cases hd⟩, ih⟩
  | send r o ho hA ih =>
    exact ⟨⟨fun w t' _ _ => .inl ⟨r, rfl⟩, fun d hd => by cases hd⟩,
      ⟨(fun w t' e' hw => by rw [hA.head w t' e'] at hw; cases hw),
        fun d hd => by rw [hd] at ho; cases ho⟩, ih⟩

theorem PhaseA.entry {auto : Bool} {A : List Obs} (h : PhaseA auto A) :
    ∀ pre o post, A = pre ++ o :: post →
      (o.isWrite = true →
        (∃ pre' r, pre = pre' ++ [.res r]) ∨
        (auto = true ∧ ∃ pre' d key, pre = pre' ++ [.ev (.ping d)] ∧ o = .wr (Pong.pongBytes d key))) ∧
      (∀ d, o = .ev (.ping d) → auto = true → ∃ key post', post = .wr (Pong.pongBytes d key) :: post') := by
  intro pre o post e
  subst e
  refine ⟨fun hw => ?_, (Hist.at h.rules).2⟩
  rcases List.eq_nil_or_concat pre with rfl | ⟨pre', x, rfl⟩
  · rw [h.head o post rfl] at hw; cases hw
  · have hx : RuleA auto x (o :: post) := Hist.at (l := pre') (by simpa using h.rules)
    rcases hx.1 o post rfl hw with ⟨r, rfl⟩ | ⟨ha, d, key, rfl, rfl⟩
    · exact .inl ⟨pre', r, by simp⟩
    · exact .inr ⟨ha, pre', d, key, by simp, rfl⟩

theorem PhaseA.write_kinds {auto : Bool} {A : List Obs} (h : PhaseA auto A) :
    ∀ pre o post, A = pre ++ o :: post → o.isWrite = true →
      (∃ pre' r, pre = pre' ++ [.res r]) ∨
      (auto = true ∧ ∃ pre' d key, pre = pre' ++ [.ev (.ping d)] ∧ o = .wr (Pong.pongBytes d key)) :=
  fun pre o post e => (h.entry pre o post e).1

theorem PhaseA.ping_answered {A : List Obs} (h : PhaseA true A) :
    ∀ pre d post, A = pre ++ .ev (.ping d) :: post → ∃ key post', post = .wr (Pong.pongBytes d key) :: post' :=
  fun pre d post e => (h.entry pre _ post e).2 d rfl rfl

/-- with automatic pongs off, the library writes nothing in a `PhaseA` trace -/
theorem PhaseA.no_pong {A : List Obs} (h : PhaseA false A) :
    ∀ pre o post, A = pre ++ o :: post → o.isWrite = true → ∃ pre' r, pre = pre' ++ [.res r] := by
  intro pre o post e hw
  rcases h.write_kinds pre o post e hw with h1 | ⟨ha, _⟩
  · exact h1
  · cases ha

/-- **events, and the library's Pong directly before each Ping event — nothing else**: the trace of
    an open websocket on which the application has made no call -/
inductive PongsOnly (auto : Bool) : List Obs → Prop
  | nil : PongsOnly auto []
  | ev (e : Event) {t : List Obs} (h : ∀ d, e = .ping d → auto = false) : PongsOnly auto t → PongsOnly auto (.ev e :: t)
  | pong (d key : Bytes) {t : List Obs} (h : auto = true) :
      PongsOnly auto t → PongsOnly auto (.ev (.ping d) :: .wr (Pong.pongBytes d key) :: t)

theorem PhaseA.pongsOnly {auto : Bool} {A : List Obs} (h : PhaseA auto A) (hn : NoRes A) : PongsOnly auto A := by
  induction h with
  | nil => exact .nil
  | ev e he _ ih => exact .ev e he (ih (fun r hm => hn r (List.mem_cons_of_mem _ hm)))
  | pong d key ha _ ih =>
    exact .pong d key ha (ih (fun r hm => hn r (List.mem_cons_of_mem _ (List.mem_cons_of_mem _ hm))))
  | res r _ _ => exact (hn r List.mem_cons_self).elim
  | send r o _ _ _ => exact (hn r List.mem_cons_self).elim

theorem filterMap_reverse_cons_none {α β : Type} (f : α → Option β) (a : α) (l : List α) (h : f a = none) :
    (a :: l).reverse.filterMap f = l.reverse.filterMap f := by
  rw [List.reverse_cons, List.filterMap_append, List.filterMap_cons, h, List.filterMap_nil, List.append_nil]

/-- the frames written on a `PongsOnly` trace, oldest first, are the Pongs for its Ping events, in
    the order of those events -/
theorem PongsOnly.written {A : List Obs} (h : PongsOnly true A) :
    ∃ keys : List Bytes,
      A.reverse.filterMap (fun o => match o with | .wr b => some b | _ => none) =
        List.zipWith Pong.pongBytes
          ((hist A).reverse.filterMap (fun e => match e with | .ping d => some d | _ => none)) keys ∧
      keys.length = ((hist A).reverse.filterMap (fun e => match e with | .ping d => some d | _ => none)).length := by
  induction h with
  | nil => exact ⟨[], rfl, rfl⟩
  | ev e he _ ih =>
    -- an event that is no Ping (none is, with automatic pongs on) adds neither a frame nor a payload
    rw [hist_cons_ev, filterMap_reverse_cons_none _ (Obs.ev e) _ rfl, filterMap_reverse_cons_none _ e _ ?np]
    exact ih
    case np =>
      cases e with
      | ping d => exact absurd (he d rfl) (by decide)
      | _ => rfl
  | pong d key ha _ ih =>
    obtain ⟨keys, h1, h2⟩ := ih
    refine ⟨keys ++ [key], ?_, ?_⟩
    · rw [hist_cons_ev, hist_cons_nonEv _ _ rfl]
      simp only [List.reverse_cons, List.filterMap_append, List.filterMap_cons, List.filterMap_nil, List.append_nil]
      rw [h1, List.zipWith_append h2.symm]
      rfl
    · rw [hist_cons_ev, hist_cons_nonEv _ _ rfl]
      simp [h2]

end Lomond.Core.CR
