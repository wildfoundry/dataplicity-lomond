/-
  C02 for whole connections: two environment scripts that differ only in how a burst of reads is
  cut give the same `runAll` result (every field of the final state except the script itself,
  which is an input: trace, event history, counters, flags, parser state, …).
-/
import Lomond.Proofs.EnvInd
import Lomond.Proofs.SegmentationLoop
namespace Lomond.Core.SegLoop
open Lomond Lomond.Core Lomond.Core.Monitor

theorem yieldConnected_ok_inv {proxy : Bool} {s s' : Sys} (h : yieldConnected proxy s = .ok () s') :
    yieldEv (.connected proxy) s = .ok () s' := by
  unfold yieldConnected at h
  rw [getS_bind] at h
  split at h
  · exact tryC_ok_inv (fun x => neverOk_bind_right (fun _ => neverOk_throwE _)) h
  · exact h

theorem runLoopL_congr {l1 l2 : M Unit} {s : Sys} (h : l1 s = l2 s) : runLoopL l1 s = runLoopL l2 s :=
  tryC_congr_at (bind_congr_at (bind_congr_at (tryC_congr_at (bind_congr_at h))))

/-- `s'`: where `run()`, started from `s`, can enter its loop -/
def LoopStart (s s' : Sys) : Prop :=
  s'.cfg = s.cfg ∧ s'.react = s.react ∧ s'.sockOpen = true

theorem afterConnectL_congr {l1 l2 : M Unit} (proxy sel : Bool) (s : Sys) (hn : NoSessionClose s.react)
    (h : ∀ s', LoopStart s s' → l1 s' = l2 s') :
    afterConnectL l1 proxy sel s = afterConnectL l2 proxy sel s := by
  unfold afterConnectL
  refine bind_congr_ok (fun _ s2 h2 => ?_)
  have e2 := modS_ok_inv h2
  refine bind_congr_ok (fun g s2' hg => ?_)
  cases hg
  refine bind_congr_ok (fun r s3 h3 => ?_)
  have k3 : K true s2 s3 := (k_write _ _).ok h3
  split
  · rfl
  · refine bind_congr_ok (fun _ s4 h4 => ?_)
    have hn3 : NoSessionClose s3.react := by rw [k3.react, e2]; exact hn
    have k4 : K true s3 s4 := (kr_yieldEv _).ok (yieldConnected_ok_inv h4) hn3
    have k : K true s2 s4 := k_po.trans k3 k4
    refine bind_congr_ok (fun _ s5 h5 => ?_)
    have e5 := modS_ok_inv h5
    subst e5 e2
    exact runLoopL_congr (h _ ⟨k.cfg, k.react, k.sock rfl⟩)

theorem runL_congr {l1 l2 : M Unit} (s : Sys) (hn : NoSessionClose s.react)
    (h : ∀ s', LoopStart s s' → l1 s' = l2 s') : runL l1 s = runL l2 s := by
  unfold runL
  refine bind_congr_ok (fun _ s1 h1 => ?_)
  have k1 : K true s s1 := (kr_yieldEv _).ok h1 hn
  refine bind_congr_ok (fun g s1' hg => ?_)
  cases hg
  cases s1.cfg.connect with
  | ok proxy =>
    exact afterConnectL_congr _ _ s1 (by rw [k1.react]; exact hn) (fun s' ⟨a, b, c⟩ =>
      h s' ⟨a.trans k1.cfg, b.trans k1.react, c⟩)
  | _ => rfl

def finish (r : Res Unit) : Sys :=
  match r with
  | .ok _ s => s
  | .err .genExit s =>
    if s.abandonedWith then
      match closeSocket s with
      | .ok _ s' => s'
      | .err _ s' => s'
    else s
  | .err (.outer .genExit) s =>
    if s.abandonedWith then
      match closeSocket s with
      | .ok _ s' => s'
      | .err _ s' => s'
    else s
  | .err _ s => { s with trace := .incomplete :: s.trace }

theorem runAll_eq (cfg : Cfg) (react : React) (env : List EnvStep) :
    runAll cfg react env = finish (run (envTo { cfg := cfg, react := react, env := [] } env)) := by
  unfold runAll finish
  simp only []
  have e0 : ({ cfg := cfg, react := react, env := env } : Sys) =
      envTo { cfg := cfg, react := react, env := [] } env := rfl
  rw [e0]
  cases run (envTo { cfg := cfg, react := react, env := [] } env) with
  | ok a s => rfl
  | err x s =>
    cases x with
    | outer y => cases y <;> rfl
    | _ => rfl

/-- `f` leaves alone the two flags `finish` reads and commutes with the two trace
    entries it may add -/
theorem finish_mapS (f : Sys → Sys) (ha : ∀ s, (f s).abandonedWith = s.abandonedWith)
    (ho : ∀ s, (f s).sockOpen = s.sockOpen)
    (hc : ∀ s, f { s with sockOpen := false, trace := .sockClose :: s.trace } =
      { f s with sockOpen := false, trace := .sockClose :: (f s).trace })
    (hi : ∀ s, f { s with trace := .incomplete :: s.trace } = { f s with trace := .incomplete :: (f s).trace })
    (r : Res Unit) : finish (Res.mapS f r) = f (finish r) := by
  have key : ∀ s : Sys,
      (if (f s).abandonedWith = true then
        (match closeSocket (f s) with | .ok _ s' => s' | .err _ s' => s') else f s) =
      f (if s.abandonedWith = true then
        (match closeSocket s with | .ok _ s' => s' | .err _ s' => s') else s) := by
    intro s
    unfold closeSocket
    by_cases hb : s.abandonedWith = true
    · rw [if_pos hb, if_pos ((ha s).trans hb)]
      by_cases hs : s.sockOpen = true
      · rw [if_pos hs, if_pos ((ho s).trans hs)]; exact (hc s).symm
      · rw [if_neg hs, if_neg (fun h => hs ((ho s).symm.trans h))]
    · rw [if_neg hb, if_neg (fun h => hb ((ha s).symm.trans h))]
  cases r with
  | ok a s => rfl
  | err x s =>
    cases x with
    | genExit => exact key s
    | outer y =>
      cases y with
      | genExit => exact key s
      | _ => exact (hi s).symm
    | _ => exact (hi s).symm

theorem finish_mapEnv (r : Res Unit) (e : List EnvStep) : finish (r.mapEnv e) = envTo (finish r) e := by
  rw [mapEnv_eq]
  exact finish_mapS (setEnv e) (fun _ => rfl) (fun _ => rfl) (fun _ => rfl) (fun _ => rfl) r

theorem runAll_eq_runL (cfg : Cfg) (react : React) (env : List EnvStep) :
    runAll cfg react env =
      envTo (finish (runL (loop env) { cfg := cfg, react := react, env := [] })) env := by
  rw [runAll_eq, run_eq_runL, envTo_env, EnvInd.of (ei_runL (ei_loop env)), finish_mapEnv]

/-- two connections whose loops agree from every loop start end in the same state up to the stored script -/
theorem runAll_sim (cfg : Cfg) (react : React) (e₁ e₂ : List EnvStep) (hp : 0 < cfg.poll)
    (hn : NoSessionClose react) (h : ∀ s', Inv s' → loop e₁ s' = loop e₂ s') :
    ∃ X, runAll cfg react e₁ = envTo X e₁ ∧ runAll cfg react e₂ = envTo X e₂ := by
  refine ⟨_, runAll_eq_runL cfg react e₁, ?_⟩
  rw [runAll_eq_runL, runL_congr (l1 := loop e₁) (l2 := loop e₂) _ hn (fun s' ⟨a, b, c⟩ =>
    h s' ⟨by rw [a]; exact hp, by rw [b]; exact hn, Or.inl c⟩)]

theorem runAll_segmentation (cfg : Cfg) (react : React) (pre rest : List EnvStep) (dt : Nat)
    (cs₁ cs₂ : List Bytes) (hp : 0 < cfg.poll) (hn : NoSessionClose react)
    (hne₁ : ∀ x ∈ cs₁, x ≠ []) (hne₂ : ∀ x ∈ cs₂, x ≠ []) (h : cs₁.flatten = cs₂.flatten) :
    ∃ X, runAll cfg react (pre ++ (readsAt dt cs₁ ++ rest)) = envTo X (pre ++ (readsAt dt cs₁ ++ rest)) ∧
         runAll cfg react (pre ++ (readsAt dt cs₂ ++ rest)) = envTo X (pre ++ (readsAt dt cs₂ ++ rest)) :=
  runAll_sim cfg react _ _ hp hn (fun s' hI =>
    loop_prefix_congr pre _ _ s' hI (fun s'' hI' => loop_segmentation dt cs₁ cs₂ rest s'' hI' hne₁ hne₂ h))

end Lomond.Core.SegLoop
