/-
  C14 end to end, for Properties/C14_E2E.lean.  `run_start_J`: `run()` up to the loop for a send-only
  application (as `HRun.run_start'`, Proofs/EndToEnd.lean) with the Pong invariant `J` of
  Proofs/PongRun.lean at the start of the loop.  Which Pings had to be answered, read off the history:
  `ansPings_usable`, `ansPings_append_noping`, `noping_of_hist` (`pingP`: the payload of a Ping event).
-/
import Lomond.Proofs.PongRun
import Lomond.Proofs.EndToEnd
namespace Lomond.Core.PongE2E
open Lomond Lomond.Core Lomond.Core.E2E Lomond.Core.PongRun Lomond.Core.Pong

theorem run_start_J (cfg : Cfg) (react : React) (env : List EnvStep) (proxy : Bool)
    (hc : cfg.connect = .ok proxy) (hw : cfg.writeFails 0 = false) (hp : 0 < cfg.poll) (ha : SendOnly react)
    (hv : cfg.v.closeArgs = true) (hreq : ReqPlain cfg) :
    ∃ sA, AtLoop cfg react env proxy sA ∧ J cfg.autoPong sA ∧
      run { cfg := cfg, react := react, env := env } = tryC (do runBody env; selClose) runFinally sA := by
  let s0 : Sys := { cfg := cfg, react := react, env := env }
  obtain ⟨s1, h1, k1⟩ := yieldEv_send .connecting s0 ha
  have hcc : s1.cfg.connect = .ok proxy := by rw [k1.cfg]; exact hc
  let s2 : Sys := { s1 with sockOpen := true }
  have hwc : s2.cfg.writeFails s2.writeCtr = false := by
    show s1.cfg.writeFails s1.writeCtr = false
    rw [k1.cfg, k1.wctr rfl]; exact hw
  let s3 : Sys := { s2 with writeCtr := s2.writeCtr + 1, trace := .wr s2.cfg.request :: s2.trace }
  have ha3 : SendOnly s3.react := by show SendOnly s1.react; rw [k1.react]; exact ha
  obtain ⟨s4, h4, k4⟩ := yieldEv_send (.connected proxy) s3 ha3
  let sA : Sys := { s4 with selOpen := true }
  have kA : Kept s0 sA :=
    ((((Kept.pushEv _ s0).trans (.of_keep k1)).trans (HRun.kept_requestSent s1)).trans
      ((Kept.pushEv _ s3).trans (.of_keep k4))).trans (Kept.selOpen true s4)
  have hJA : J cfg.autoPong sA := by
    have hrp := rp_yieldEv .connecting rfl s0 rfl
    rw [h1] at hrp
    obtain ⟨pre1, hcfg1, l1, el1, hl1⟩ := hrp
    simp only [Res.state_ok] at pre1 hcfg1 el1
    have hc1 : ∀ o ∈ s1.trace, calm o = true := by
      rw [el1]; intro o ho
      rcases List.mem_append.mp ho with h | h
      · exact hl1 o h
      · exact absurd h (by show o ∉ ([] : List Obs); simp)
    have hJ3 : J cfg.autoPong s3 :=
      J.after_request (o := .wr s1.cfg.request) (by rw [hcfg1]; exact hv) hc1 (by rw [hcfg1]) (by rw [hcfg1]; exact hreq)
        ⟨rfl, k1.closing, k1.closed⟩ (.wr hwc)
    have hJ4 : J cfg.autoPong s4 := ((reach_yieldEv (L := True) (.connected proxy) (fun _ => rfl)).ok h4).sub (rj_po cfg.autoPong) Turn.rj hJ3
    exact rj_keep5 (s := s4) (s' := sA) (by constructor <;> rfl) hJ4
  refine ⟨sA, ?_, hJA, ?_⟩
  · have hsk : sA.sockOpen = true := by show s4.sockOpen = true; rw [k4.sockOpen]; rfl
    refine ⟨⟨by rw [kA.react]; exact ha, by rw [kA.cfg]; exact hp, Or.inl hsk, fun _ => ⟨kA.startTime, kA.pollStart⟩,
      fun h => by rw [kA.ready] at h; cases h⟩, kA.cfg, kA.react, kA.env, kA.ready, kA.closed, ?_, hsk, rfl, kA.p,
      kA.frames, ?_⟩
    · show s4.closing = false; rw [k4.closing]; show s1.closing = false; rw [k1.closing]; rfl
    · show hist s4.trace = _
      rw [hist_keep k4]
      show hist (.ev (.connected proxy) :: .wr s2.cfg.request :: s1.trace) = _
      rw [hist_cons_ev, hist_cons_nonEv _ _ rfl, hist_keep k1]
      rfl
  · exact HRun.run_start_eq cfg react env proxy h1 hcc k1.closed k1.closing hwc h4 kA.env

def closeTail : Option CloseF → Bytes
  | none => []
  | some c => c.wire.bytes

def pingP : Event → Option Bytes
  | .ping d => some d
  | _ => none

theorem ansPings_append_noping (auto : Bool) (l t : List Obs) (h : ∀ o ∈ l, o.pingEv = false) :
    ansPings auto (l ++ t) = ansPings auto t :=
  Ignores.append (fun o t ho => ansPings_cons_plain auto o t ho) l t h

/-- while the trace shows a usable connection every Ping event in it had to be answered -/
theorem ansPings_usable (t : List Obs) (h : usable t = true) : ansPings true t = (hist t).filterMap pingP := by
  induction t with
  | nil => rfl
  | cons o t ih =>
    have ht : usable t = true := usable_suffix [o] t h
    cases o with
    | ev e =>
      cases e with
      | ping d =>
        show (if (true && usable t) = true then [d] else []) ++ ansPings true t = _
        rw [ht, ih ht]; rfl
      | _ => rw [ansPings_cons_plain true _ t rfl, ih ht]; rfl
    | _ => rw [ansPings_cons_plain true _ t rfl, ih ht]; rfl

theorem noping_of_hist (l : List Obs) (h : ∀ d, Event.ping d ∉ hist l) : ∀ o ∈ l, o.pingEv = false := by
  intro o ho
  cases o with
  | ev e =>
    cases e with
    | ping d => exact absurd (Monitor.mem_histOf.mpr ho) (h d)
    | _ => rfl
  | _ => rfl

end Lomond.Core.PongE2E
