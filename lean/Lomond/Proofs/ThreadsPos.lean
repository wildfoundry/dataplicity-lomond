/-
  The position invariant of every run, on every socket: a thread stands at a suffix of the compiled program of the call
  it is in, or of an alternative continuation that program branches into (`At`, `PosInv`).  Hence every discipline of
  the compiled programs — a property of programs that passes to suffixes (`Discipline`) — holds where a thread stands.
-/
import Lomond.Proofs.ThreadsStep

namespace Lomond.Threads
open Lomond

theorem execN_halt (env : Env) (v : Variant) (t : Tid) (st : Step) (r : List Step) (sh : Shared) (c : Cur) :
    ((execN env v t st r sh c).2.halt = c.halt ∧ (execN env v t st r sh c).2.rest <:+ st :: r) ∨
    ∃ a, (execN env v t st r sh c).2.rest = altSteps v a := by
  cases hw : isWrite st with
  | false =>
    rw [execN_not_write env v t st r sh c hw]
    rcases exec_shape v t st r sh c with ⟨h1, h2⟩ | ⟨_, _, a, h⟩
    · exact Or.inl ⟨h1, h2.trans (List.suffix_cons _ _)⟩
    · exact Or.inr ⟨a, h⟩
  | true =>
    left
    cases st <;> simp only [isWrite] at hw <;> try cases hw
    all_goals
      simp only [execN, execW1, execW2, failWrite]
      (repeat' split) <;>
        first
        | exact ⟨rfl, List.suffix_refl _⟩
        | exact ⟨rfl, List.suffix_cons _ _⟩
        | exact ⟨rfl, (toRelease_suffix r).trans (List.suffix_cons _ _)⟩

def branches (v : Variant) (cfg : Cfg) (call : Call) (a : Alt) : Prop :=
  .brIfClosing a ∈ compile v cfg call ∨ .brIfErr a ∈ compile v cfg call

/-- the call in progress `c` of thread `th` stands inside the program of its call: at a suffix of the compiled program,
    or of an alternative continuation that program branches into; it has taken one if its `halt` flag says so -/
def At (v : Variant) (cfg : Cfg) (th : Thread) (c : Cur) : Prop :=
  ∃ call, th.prog[c.idx]? = some call ∧
    (c.rest <:+ compile v cfg call ∨ ∃ a, branches v cfg call a ∧ c.rest <:+ altSteps v a) ∧
    (c.halt = true → ∃ a, c.rest <:+ altSteps v a)

/-- every thread stands inside the program of its call: an invariant of every run, on every socket, that needs no other -/
def PosInv (v : Variant) (cfg : Cfg) (s : State) : Prop := ∀ t c, (s.th t).cur = some c → At v cfg (s.th t) c

theorem posInv_fresh (v : Variant) (cfg : Cfg) {s : State} (F : Fresh s) : PosInv v cfg s :=
  fun t c hc => by rw [F.cur t] at hc; cases hc

theorem PosInv.current {v : Variant} {cfg : Cfg} {s : State} (P : PosInv v cfg s) {t : Tid} {c : Cur}
    (hc : (s.th t).current v cfg = some c) : At v cfg (s.th t) c := by
  rcases current_cases hc with h | ⟨_, call, hp, rfl⟩
  · exact P t c h
  · exact ⟨call, hp, Or.inl (List.suffix_refl _), fun h => by cases h⟩

theorem posInv_stepN (env : Env) (v : Variant) (cfg : Cfg) (s : State) (t : Tid) (P : PosInv v cfg s) :
    PosInv v cfg (stepN env v cfg s t) := by
  rcases stepN_entry env v cfg s t with e | ⟨c, st, r, hc, hr, _, _, _, e⟩
  · rw [e]; exact P
  · rw [e]
    intro u c2 hc2
    by_cases hu : u = t
    · subst hu
      rw [setTh_same] at hc2 ⊢
      obtain ⟨_, rfl⟩ := settle_cur _ _ _ hc2
      obtain ⟨call, hp, hw, hh⟩ := P.current hc
      rw [hr] at hw hh
      refine ⟨call, by rw [settle_prog, (execN_frame env v u st r s.sh c).2]; exact hp, ?_, fun h => ?_⟩
      · rcases movesN_to (execN_moves env v u st r s.sh c) with h | ⟨a, hst, h⟩
        · rcases hw with hw | ⟨a, hb, hw⟩
          · exact Or.inl (h.trans hw)
          · exact Or.inr ⟨a, hb, h.trans hw⟩
        · rcases hw with hw | ⟨a', _, hw⟩
          · have hm : st ∈ compile v cfg call := hw.subset (List.mem_cons_self ..)
            refine Or.inr ⟨a, ?_, h ▸ List.suffix_refl _⟩
            rcases hst with rfl | rfl
            · exact Or.inl hm
            · exact Or.inr hm
          · -- the alternative continuations do not branch
            have hj := List.all_eq_true.mp (alt_noJump v a') st (hw.subset (List.mem_cons_self ..))
            rcases hst with rfl | rfl <;> simp [isJump] at hj
      · rcases execN_halt env v u st r s.sh c with ⟨h1, h2⟩ | ⟨a, h2⟩
        · obtain ⟨a, ha⟩ := hh (h1 ▸ h)
          exact ⟨a, h2.trans ha⟩
        · exact ⟨a, h2 ▸ List.suffix_refl _⟩
    · rw [setTh_other _ _ _ _ _ hu] at hc2 ⊢; exact P u c2 hc2

theorem At.obeys {v : Variant} {cfg : Cfg} {th : Thread} {c : Cur} (a : At v cfg th c) {D : List Step → Bool} (hD : Discipline D)
    (hcomp : ∀ call, th.prog[c.idx]? = some call → D (compile v cfg call) = true)
    (halt : ∀ a, D (altSteps v a) = true) : D c.rest = true := by
  obtain ⟨call, hp, h | ⟨a, _, h⟩, _⟩ := a
  · exact hD.suffix h (hcomp call hp)
  · exact hD.suffix h (halt a)

theorem PosInv.obeys {v : Variant} {cfg : Cfg} {s : State} (P : PosInv v cfg s) {D : List Step → Bool} (hD : Discipline D)
    (hcomp : ∀ call, D (compile v cfg call) = true) (halt : ∀ a, D (altSteps v a) = true) (t : Tid) :
    D (view v cfg (s.th t)) = true := by
  unfold view
  split
  · rename_i c hc; exact (P.current hc).obeys hD (fun call _ => hcomp call) halt
  · exact hD.nil

theorem At.halt_noWrite {v : Variant} {cfg : Cfg} {th : Thread} {c : Cur} (a : At v cfg th c) (hh : c.halt = true) :
    noWrite c.rest = true := by
  obtain ⟨_, _, _, h⟩ := a
  obtain ⟨a, ha⟩ := h hh
  exact all_suffix ha (alt_noWrite v a)

theorem At.src {v : Variant} {cfg : Cfg} {th : Thread} {c : Cur} (a : At v cfg th c) {call : Call}
    (hp : th.prog[c.idx]? = some call) : srcOk (call.frame cfg) call.msg c.rest = true := by
  refine a.obeys (D := srcOk (call.frame cfg) call.msg)
    ⟨rfl, fun _ _ h => by simp only [srcOk, List.all_cons, Bool.and_eq_true] at h; exact h.2⟩
    (fun call' h' => ?_) (fun a => alt_srcOk v a _ _)
  rw [hp] at h'; cases h'; exact compile_srcOk v cfg call

theorem At.noJump_send {v : Variant} {cfg : Cfg} {th : Thread} {c : Cur} (a : At v cfg th c) {call : Call}
    (hp : th.prog[c.idx]? = some call) (hs : call.isSend = true) : noJump c.rest = true := by
  refine a.obeys (D := noJump)
    ⟨rfl, fun _ _ h => by simp only [noJump, List.all_cons, Bool.and_eq_true] at h; exact h.2⟩
    (fun call' h' => ?_) (alt_noJump v)
  rw [hp] at h'; cases h'; exact (compile_send v cfg call hs).1

end Lomond.Threads
