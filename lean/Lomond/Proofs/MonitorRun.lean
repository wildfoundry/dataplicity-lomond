/-
  `run()` and the monitor: the terminal event is emitted exactly once, last, after the socket has been
  closed; `Disconnected(graceful=True)` only when the loop ended normally with an observable cause.
-/
import Lomond.Proofs.MonitorLoop
import Lomond.Proofs.MonitorList
import Lomond.Proofs.Graceful
import Lomond.Proofs.RunRule
import Lomond.Proofs.Release
namespace Lomond.Core.Monitor
open Lomond Lomond.Core

/-- `Disconnected(graceful=True)` occurs in the trace (newest first) only with `C` holding of the
    event history before it -/
def gracefulOK (C : List Event → Prop) : List Obs → Prop :=
  Hist (fun o pre => ∀ k, o = .ev (.disconnected k true) → C (histOf pre))

theorem gracefulOK_of_noTerminal (C : List Event → Prop) (tr : List Obs)
    (h : ∀ e, Obs.ev e ∈ tr → Event.isTerminal e = false) : gracefulOK C tr := by
  induction tr with
  | nil => trivial
  | cons o r ih =>
    refine ⟨?_, ih (fun e he => h e (List.mem_cons_of_mem _ he))⟩
    intro k hk; subst hk
    have := h _ List.mem_cons_self; cases this

theorem gracefulOK_ignores (C : List Event → Prop) : Ignores (gracefulOK C) (fun o => Obs.quiet o = true) :=
  IsHist.ignores (fun _ => Iff.rfl) (fun o _ h k hk => by subst hk; cases h)

theorem gracefulOK_split {C : List Event → Prop} {tr : List Obs} (h : gracefulOK C tr) (post pre : List Obs)
    (k : String) (hs : tr = post ++ .ev (.disconnected k true) :: pre) : C (histOf pre) := by
  subst hs
  exact Hist.at (φ := fun o pre => ∀ k, o = .ev (.disconnected k true) → C (histOf pre)) h k rfl

theorem Keeps.gracefulOK {C : List Event → Prop} {s s' : Sys} (h : Keeps s s') (hs : gracefulOK C s.trace) :
    gracefulOK C s'.trace := by
  rw [h.ignores (gracefulOK_ignores C)]; exact hs

structure Fresh (s : Sys) : Prop where
  ready : s.ready = false
  cont : s.p.cont = .header

end Lomond.Core.Monitor

namespace Lomond.Core.Strict
open Lomond Lomond.Core Lomond.Core.Monitor Lomond.Core.MonitorGen

/-- `Connecting` was emitted and the monitor has not rejected the trace -/
def Begun (s : Sys) : Prop := ∃ q, phaseOf' s.trace = some q ∧ q ≠ .start

theorem phaseOf'_pushEv (e : Event) (s : Sys) :
    phaseOf' (Core.pushEv e s).trace = (phaseOf' s.trace).bind (fun p => Mon'.step p e) := rfl

theorem phaseOf'_noTerminal {tr : List Obs} {q : Phase'} (h : phaseOf' tr = some q) (hd : q ≠ .done) :
    ∀ e, Obs.ev e ∈ tr → Event.isTerminal e = false :=
  phaseOf_noTerminal (phaseOf_of' h) (by cases q <;> first | exact (hd rfl).elim | decide)

def AccT (P : List Event → Prop) (s : Sys) : Prop :=
  Begun s ∧ termOK s.trace ∧ NoInc s ∧ HI s ∧ gracefulOK P s.trace

def Done (P : List Event → Prop) (s : Sys) : Prop :=
  phaseOf' s.trace = some .done ∧ termOK s.trace ∧ NoInc s ∧ HI s ∧ gracefulOK P s.trace

variable {P : List Event → Prop}

theorem Done.accT {s : Sys} (h : Done P s) : AccT P s := ⟨⟨_, h.1, by decide⟩, h.2⟩

theorem _root_.Lomond.Core.Monitor.Keeps.done {s s' : Sys} (h : Keeps s s') (hs : Done P s) : Done P s' :=
  ⟨h.phase'.trans hs.1, h.termOK hs.2.1, h.noInc hs.2.2.1, h.hi hs.2.2.2.1, h.gracefulOK hs.2.2.2.2⟩

theorem _root_.Lomond.Core.Monitor.Keeps.accT {s s' : Sys} (h : Keeps s s') (hs : AccT P s) : AccT P s' :=
  ⟨hs.1.elim fun q a => ⟨q, h.phase'.trans a.1, a.2⟩, h.termOK hs.2.1, h.noInc hs.2.2.1, h.hi hs.2.2.2.1,
    h.gracefulOK hs.2.2.2.2⟩

theorem Mid.sockInv {s : Sys} (h : Mid s) : SockInv s := by
  obtain ⟨_, a, _⟩ := h.notDone; exact a.2

theorem Mid.accT {s : Sys} (h : Mid s) : AccT P s := by
  obtain ⟨ph, e, hd, hst, _⟩ := h.notDone
  exact ⟨⟨ph, e.1, hst⟩, termOK_of_noTerminal _ (phaseOf'_noTerminal e.1 hd), h.sockInv.2.1, h.sockInv.2.2,
    gracefulOK_of_noTerminal P _ (phaseOf'_noTerminal e.1 hd)⟩

theorem closeYield_done (e : Event) (s : Sys) (ph : Phase') (hp : phaseOf' s.trace = some ph) (hd : ph ≠ .done)
    (hk : SockInv s) (he : Mon'.step ph e = some .done) (hg : ∀ k, e = .disconnected k true → P s.hist) :
    Done P ((do closeSocket; yieldEv e : M Unit) s).state := by
  obtain ⟨s1, h1⟩ := closeSocket_ok s
  have k1 := keeps_closeSocket.ok h1
  have c1 := (closeSocket_state s).1
  rw [h1] at c1; simp only [Res.state_ok] at c1
  have hp1 : phaseOf' s1.trace = some ph := k1.phase'.trans hp
  have hm : Obs.sockClose ∈ s1.trace := (k1.sockInv hk).1 c1
  rw [bind_ok h1]
  have hi1 : s1.hist = histOf s1.trace := (k1.sockInv hk).2.2
  refine (yieldEv_keeps e s1).done ⟨?_, ⟨?_, ?_⟩, noInc_pushEv e s1 (k1.noInc hk.2.1), hi_pushEv e s1 hi1, ⟨?_, ?_⟩⟩
  · rw [phaseOf'_pushEv, hp1]; exact he
  · intro _; exact hm
  · exact termOK_of_noTerminal _ (phaseOf'_noTerminal hp1 hd)
  · intro k hk
    cases hk
    show P (histOf s1.trace)
    rw [← hi1, k1.hist]; exact hg k rfl
  · exact gracefulOK_of_noTerminal P _ (phaseOf'_noTerminal hp1 hd)

theorem disconnected_done (k : String) (g : Bool) (s : Sys) (hs : Mid s) (hg : g = true → P s.hist) :
    Done P ((do closeSocket; yieldEv (.disconnected k g) : M Unit) s).state := by
  obtain ⟨ph, e, hd, _, hstep⟩ := hs.notDone
  exact closeYield_done _ s ph e.1 hd hs.sockInv (hstep k g) (fun k' hk' => by cases hk'; exact hg rfl)

theorem tri_sat {A Q E R : Sys → Prop} {m : M α}
    (h : Tri A m (fun _ s => Q s ∧ R s) (fun _ s => E s ∧ R s)) {s : Sys} (hs : A s) :
    LiftX.Sat Q (fun _ => E) (m s) ∧ R (m s).state := by
  have h1 := h s hs
  cases hm : m s <;> rw [hm] at h1 <;> exact h1

/-! ### `run()`: the assertions at its program points

  From a fresh state, for any loop body `l` that takes `InvL` to `Mid`: a normal return means the
  monitor is in its final state (exactly one terminal event, last); an exceptional end (abandonment,
  end of script) leaves an accepted prefix; the end-of-script marker is never in the trace;
  `Disconnected(graceful=True)` is emitted only when `l` ended normally.  When a socket existed (also
  when the selector's constructor then raised, in which case the loop is `raise`), every terminal
  event in the trace is preceded by `sockClose`. -/

/-- what is claimed of every final state besides the monitor's phase; the `sockClose`-before-terminal
    part only when `c` (a socket existed) -/
def EndOK (P : List Event → Prop) (c : Prop) (s : Sys) : Prop :=
  NoInc s ∧ HI s ∧ gracefulOK P s.trace ∧ (c → termOK s.trace)

theorem Done.endOK {c : Prop} {s : Sys} (h : Done P s) : phaseOf' s.trace = some .done ∧ EndOK P c s :=
  ⟨h.1, h.2.2.1, h.2.2.2.1, h.2.2.2.2, fun _ => h.2.1⟩

theorem AccT.endOK {c : Prop} {s : Sys} (h : AccT P s) : Begun s ∧ EndOK P c s :=
  ⟨h.1, h.2.2.1, h.2.2.2.1, h.2.2.2.2, fun _ => h.2.1⟩

theorem tri_done {A : Sys → Prop} {m : M Unit} (h : ∀ s, A s → Done P (m s).state) :
    Tri A m (fun _ => Done P) (fun _ => AccT P) :=
  (tri_state.2 h).weaken (fun _ h => h) (fun _ _ h => h) (fun _ _ h => h.accT)

theorem tri_onLoopEnd_mon (r : Option Exn) :
    Tri (fun s => Mid s ∧ (r = none → P s.hist)) (onLoopEnd r) (fun _ => Done P) (fun _ => AccT P) := by
  have key : ∀ k g, (g = true → r = none) → Tri (fun s => Mid s ∧ (r = none → P s.hist))
      (do closeSocket; yieldEv (.disconnected k g) : M Unit) (fun _ => Done P) (fun _ => AccT P) :=
    fun k g hg => tri_done (fun s h => disconnected_done k g s h.1 (fun e => h.2 (hg e)))
  unfold onLoopEnd
  split
  all_goals first
    | exact key _ _ (fun _ => rfl)
    | exact key _ _ (fun h => by cases h)
    | exact tri_throwE (fun _ h => h.1.accT)

theorem tri_runLoopL_mon {l : M Unit} (r0 : React)
    (hl : Tri (fun s => InvL s ∧ J r0 s) l (fun _ s => Mid s ∧ P s.hist) (fun _ => Mid)) :
    Tri (fun s => InvL s ∧ J r0 s) (runLoopL l) (fun _ => Done P) (fun _ => AccT P) :=
  tri_runLoopL hl ((tri_onLoopEnd_mon none).pre (fun _ h => ⟨h.1, fun _ => h.2⟩))
    (fun x => (tri_onLoopEnd_mon (some x)).pre (fun _ h => ⟨h, fun e => by cases e⟩))
    (tri_noRaise selClose_ne_err (fun s h => (keeps_selClose s).done h))
    (fun x => (tri_runFinally x (fun s h => (keeps_closeSocket s).accT h)
      (fun s h => (keeps_selClose s).accT h)).weaken (fun _ h => h) (fun _ _ h => h) (fun _ _ h => h.2))

theorem tri_yieldConnected_mon (r0 : React) (proxy : Bool) :
    Tri (fun s => At .connecting s ∧ Fresh s ∧ J r0 s) (yieldConnected proxy)
      (fun _ s => Await s ∧ s.p.cont = .header ∧ J r0 s) (fun _ => AccT P) := by
  refine tri_yieldConnected proxy (Y := fun _ _ => AccT P) (fun s0 => ?_)
    (fun _ _ s _ h => (keeps_closeSocket s).accT h) (fun _ _ _ _ h => h)
  intro s ⟨hs, _⟩
  have k := yieldEv_keeps (.connected proxy) s
  have hg : Await (yieldEv (.connected proxy) s).state := k.await ⟨hs.1.push _ rfl, hs.2.1.ready⟩
  cases hr : yieldEv (.connected proxy) s with
  | ok u s1 =>
    rw [hr] at k hg
    exact ⟨hg, k.cont.trans hs.2.1.cont,
      (okPres_yieldEv (r0 := r0) (h0 := []) _ s _ s1 ⟨hs.2.2, List.nil_suffix⟩ hr).1⟩
  | err x s1 => rw [hr] at hg; exact Mid.accT (Or.inl (Or.inl hg))

theorem tri_afterConnectL_mon {l : M Unit} (r0 : React)
    (hl : Tri (fun s => InvL s ∧ J r0 s) l (fun _ s => Mid s ∧ P s.hist) (fun _ => Mid))
    (proxy sel : Bool) :
    Tri (fun s => phaseOf' s.trace = some .connecting ∧ Fresh s ∧ NoInc s ∧ HI s ∧ J r0 s)
      (afterConnectL l proxy sel) (fun _ => Done P) (fun _ => AccT P) :=
  tri_afterConnectL proxy sel (A' := fun s => At .connecting s ∧ Fresh s ∧ J r0 s)
    (B := fun _ s => At .connecting s ∧ Fresh s ∧ J r0 s)
    (fun s h => ⟨⟨h.1, fun e => (by cases e), h.2.2.1, h.2.2.2.1⟩, ⟨h.2.1.ready, h.2.1.cont⟩, h.2.2.2.2⟩)
    (fun s0 => tri_noRaise (write_ne_err _ _) (fun s h =>
      ⟨(keeps_write _ _ s).at h.1.1, ⟨(keeps_write _ _ s).ready.trans h.1.2.1.ready,
        (keeps_write _ _ s).cont.trans h.1.2.1.cont⟩, (quiet_write _ _ s).j h.1.2.2⟩))
    (fun r _ => tri_done (fun s h => closeYield_done _ s .connecting h.1.1 (by decide) h.1.2 rfl
      (fun k hk => by cases hk)))
    (fun r _ => tri_yieldConnected_mon r0 proxy)
    (fun s h => ⟨Or.inl ⟨h.1, fun _ => h.2.1⟩, h.2.2⟩)
    (tri_runLoopL_mon r0 hl)

theorem tri_runL_mon {l : M Unit} (r0 : React) (cfg0 : Cfg)
    (hl : Tri (fun s => InvL s ∧ J r0 s) l (fun _ s => Mid s ∧ P s.hist) (fun _ => Mid)) :
    Tri (fun s => s.trace = [] ∧ s.hist = [] ∧ Fresh s ∧ J r0 s ∧ s.cfg = cfg0) (runL l)
      (fun _ s' => phaseOf' s'.trace = some .done ∧
        EndOK P (∃ proxy, cfg0.connect = .ok proxy ∨ cfg0.connect = .selFail proxy) s')
      (fun _ s' => Begun s' ∧
        EndOK P (∃ proxy, cfg0.connect = .ok proxy ∨ cfg0.connect = .selFail proxy) s') := by
  refine tri_runL (A1 := fun s => (phaseOf' s.trace = some .connecting ∧ Fresh s ∧ NoInc s ∧ HI s ∧ J r0 s) ∧
      s.cfg = cfg0) ?_ (fun kd => ?_)
    (fun p => (tri_afterConnectL_mon r0 hl p true).weaken (fun _ h => h.1.1) (fun _ _ h => h.endOK)
      (fun _ _ h => h.endOK))
    (fun p => (tri_afterConnectL_mon r0 (tri_throwE (fun _ h => h.1.mid)) p false).weaken
      (fun _ h => h.1.1) (fun _ _ h => h.endOK) (fun _ _ h => h.endOK))
  · -- `yield Connecting`
    intro s ⟨ht, hh, hf, hj, hc⟩
    have k := yieldEv_keeps .connecting s
    have hn0 : NoInc (pushEv .connecting s) := noInc_pushEv _ s (by intro h; rw [ht] at h; cases h)
    have hi0 : HI (pushEv .connecting s) := hi_pushEv _ s (by unfold HI; rw [ht, hh]; rfl)
    have hp : phaseOf' (yieldEv .connecting s).state.trace = some .connecting := by
      rw [k.phase', phaseOf'_pushEv, ht]; rfl
    have hnt := phaseOf'_noTerminal hp (by decide)
    cases hr : yieldEv .connecting s with
    | err x s1 =>
      rw [hr] at k hp hnt
      exact ⟨⟨_, hp, by decide⟩, k.noInc hn0, k.hi hi0, gracefulOK_of_noTerminal P _ hnt,
        fun _ => termOK_of_noTerminal _ hnt⟩
    | ok u s1 =>
      rw [hr] at k hp
      exact ⟨⟨hp, ⟨k.ready.trans hf.ready, k.cont.trans hf.cont⟩, k.noInc hn0, k.hi hi0,
        (okPres_yieldEv (r0 := r0) (h0 := []) _ s _ s1 ⟨hj, List.nil_suffix⟩ hr).1⟩,
        ((step_yieldEv _).ok hr).cfg.trans hc⟩
  · -- no socket: `yield ConnectFail` and return
    refine (tri_state.2 (fun s h => ?_)).weaken (fun _ h => h) (fun _ _ h => h)
      (fun _ _ h => ⟨⟨_, h.1, by decide⟩, h.2⟩)
    obtain ⟨⟨⟨hp1, _, hn1, hi1, _⟩, hc1⟩, hcn⟩ := h
    have k2 := yieldEv_keeps (.connectFail kd) s
    refine ⟨by rw [k2.phase', phaseOf'_pushEv, hp1]; rfl, k2.noInc (noInc_pushEv _ s hn1),
      k2.hi (hi_pushEv _ s hi1), k2.gracefulOK ⟨fun k' hk' => (by cases hk'),
        gracefulOK_of_noTerminal P _ (phaseOf'_noTerminal hp1 (by decide))⟩, fun ⟨p, hp⟩ => ?_⟩
    rw [← hc1] at hp
    rcases hcn with e | e <;> rw [e] at hp <;> rcases hp with hp | hp <;> cases hp

end Lomond.Core.Strict
