/-
  C10: `WebSocket.on_response` characterised once — when it returns normally and with what
  (`onResponse_ok_iff`) — and the same statement seen through any function `g` that answers
  `Response.get` (`onResponse_ok_iff_of_get`, `ready_iff_of_get`).  The wire-level statements of
  `Properties/C10*.lean` are instances: `g` is the lookup of the reply generator at hand
  (`Http.combined fs`, `Spec.fieldValue fs`).

  The vocabulary the C10 statements are phrased with (`Ready`, `extsOk`, the header names) is defined here.
-/
import Lomond.Model.Http

namespace Lomond.C10
open Lomond Lomond.Http

def hUpgrade : Str := ofString "upgrade"
def hAccept : Str := ofString "sec-websocket-accept"
def hExt : Str := ofString "sec-websocket-extensions"
def hProto : Str := ofString "sec-websocket-protocol"
def websocket : Str := ofString "websocket"
def pmd : Str := ofString "permessage-deflate"

/-- `process_extensions` accepts this list of extension entries (no `CompressionParameterError`) -/
def extsOk (exts : List Str) : Prop := ∃ d, processExtensions exts none = .ok d

/-- `on_response` returns normally, i.e. `WebSocket.feed` yields Ready (and not Rejected) -/
def Ready (strict : Bool) (ch : Str) (r : Response) : Prop := ∃ a, onResponse strict ch r = .ok a

theorem onResponse_ok_iff (strict : Bool) (ch : Str) (r : Response) (a : Accepted) :
    onResponse strict ch r = .ok a ↔
      (r.statusCode = some (false, 101) ∧
       (∃ u, r.get hUpgrade = some u ∧ lower u = websocket) ∧
       (∃ acc, r.get hAccept = some acc ∧ (if strict then acc = ch else lower acc = lower ch)) ∧
       a.protocol = r.get hProto ∧ processExtensions (r.getList hExt) none = .ok a.deflate) := by
  unfold onResponse
  by_cases hs : r.statusCode = some (false, 101)
  · simp only [hs, ne_eq, not_true_eq_false, if_false, true_and]
    cases hu : r.get (ofString "upgrade") with
    | none =>
      have : lower (ofString "<header missing>") ≠ ofString "websocket" := by decide
      simp [hUpgrade, hu, this]
    | some u =>
      by_cases hl : lower u = ofString "websocket"
      · simp only [hUpgrade, hu, Option.getD_some, hl, not_true_eq_false, if_false]
        cases ha : r.get (ofString "sec-websocket-accept") with
        | none => simp [hAccept, ha]
        | some acc =>
          simp only [hAccept, ha]
          by_cases hsame : (if strict then acc = ch else lower acc = lower ch)
          · obtain ⟨p, d⟩ := a
            cases strict <;> simp at hsame <;> simp [hsame, hExt, hProto, websocket, hl] <;>
              (cases processExtensions (r.getList (ofString "sec-websocket-extensions")) none <;> simp [eq_comm])
          · cases strict <;> simp at hsame <;> simp [hsame]
      · simp [hUpgrade, hu, hl, websocket]
  · simp [hs]

theorem ready_iff (strict : Bool) (ch : Str) (r : Response) :
    Ready strict ch r ↔
      (r.statusCode = some (false, 101) ∧
       (∃ u, r.get hUpgrade = some u ∧ lower u = websocket) ∧
       (∃ acc, r.get hAccept = some acc ∧ (if strict then acc = ch else lower acc = lower ch)) ∧
       extsOk (r.getList hExt)) := by
  constructor
  · rintro ⟨a, ha⟩
    obtain ⟨h1, h2, h3, _, h4⟩ := (onResponse_ok_iff strict ch r a).mp ha
    exact ⟨h1, h2, h3, _, h4⟩
  · rintro ⟨h1, h2, h3, d, h4⟩
    exact ⟨⟨r.get hProto, d⟩, (onResponse_ok_iff strict ch r _).mpr ⟨h1, h2, h3, rfl, h4⟩⟩

/-! `Response.get` lower-cases the name it is asked for; the four names `on_response` asks for are in lower
  case already. -/

theorem lower_hUpgrade : lower hUpgrade = hUpgrade := by decide +kernel
theorem lower_hAccept : lower hAccept = hAccept := by decide +kernel
theorem lower_hExt : lower hExt = hExt := by decide +kernel
theorem lower_hProto : lower hProto = hProto := by decide +kernel

theorem onResponse_ok_iff_of_get (strict : Bool) (ch : Str) (r : Response) (a : Accepted) (g : Str → Option Str)
    (hget : ∀ n, r.get n = g (lower n)) :
    onResponse strict ch r = .ok a ↔
      (r.statusCode = some (false, 101) ∧
       (∃ u, g hUpgrade = some u ∧ lower u = websocket) ∧
       (∃ acc, g hAccept = some acc ∧ (if strict then acc = ch else lower acc = lower ch)) ∧
       a.protocol = g hProto ∧ processExtensions (splitList ((g hExt).getD [])) none = .ok a.deflate) := by
  rw [onResponse_ok_iff, Response.getList, hget, hget, hget, hget, lower_hUpgrade, lower_hAccept, lower_hProto,
    lower_hExt]

theorem ready_iff_of_get (strict : Bool) (ch : Str) (r : Response) (g : Str → Option Str)
    (hget : ∀ n, r.get n = g (lower n)) :
    Ready strict ch r ↔
      (r.statusCode = some (false, 101) ∧
       (∃ u, g hUpgrade = some u ∧ lower u = websocket) ∧
       (∃ acc, g hAccept = some acc ∧ (if strict then acc = ch else lower acc = lower ch)) ∧
       extsOk (splitList ((g hExt).getD []))) := by
  rw [ready_iff, Response.getList, hget, hget, hget, lower_hUpgrade, lower_hAccept, lower_hExt]

end Lomond.C10
