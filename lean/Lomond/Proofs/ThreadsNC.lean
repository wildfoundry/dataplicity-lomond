/-
  C12, variant `closeAtomic`.  `CInvN`, for the general socket (`Model/ThreadsN.lean`): at most one COMPLETE Close frame
  reaches the wire and nothing follows it — also when `sendall`s (of the Close frame itself, or of other frames) fail or
  take any number of chunks (`cInvN_fresh`, `cInvN_stepN`, `nawc_count`).  For the two-chunk socket the wire is made of
  whole frames, so `CInv` follows (`cInv_of_whole`, `cInv_reach`): a Close frame that has begun is complete or the last
  thing on the wire; hence `one_close_of_fresh`, `close_flag_of_fresh`.
-/
import Lomond.Proofs.ThreadsNW
import Lomond.Proofs.ThreadsC

namespace Lomond.Threads
open Lomond

/-- the thread has written the last chunk of a Close frame and stands, still under the lock, before
    its `closing = True` -/
def closerEnd : List Step → Bool
  | .setClosing true :: r => holds r
  | _ => false

theorem compile_closerEnd (v : Variant) (cfg : Cfg) (call : Call) : closerEnd (compile v cfg call) = false :=
  compile_start (P := fun r => closerEnd r = false) v cfg call fun st _ h => by cases st <;> first | rfl | cases h

theorem closerEnd_holds (r : List Step) (h : closerEnd r = true) : holds r = true := by
  cases r with
  | nil => cases h
  | cons st r =>
    cases st <;> simp only [closerEnd] at h <;> try cases h
    rename_i b; cases b <;> simp only at h <;> first | (cases h; done) | simpa [holds] using h

theorem hwc_nonfinal (w : List Chunk) (x : Chunk) (h : x.second = false) : hasWholeClose (w ++ [x]) = hasWholeClose w := by
  simp [hasWholeClose, frames, h]

theorem hwc_final (w : List Chunk) (x : Chunk) (h : x.second = true) :
    hasWholeClose (w ++ [x]) = (hasWholeClose w || isClose x) := by
  simp [hasWholeClose, frames, h, List.any_append]

theorem nawc_append (w : List Chunk) (x : Chunk) (h : hasWholeClose w = false) (h5 : nothingAfterWholeClose w = true) :
    nothingAfterWholeClose (w ++ [x]) = true := by
  induction w with
  | nil => simp [nothingAfterWholeClose]
  | cons c r ih =>
    simp only [hasWholeClose, frames, List.filter_cons] at h
    simp only [nothingAfterWholeClose, Bool.and_eq_true] at h5
    simp only [List.cons_append, nothingAfterWholeClose, Bool.and_eq_true]
    by_cases hc : c.second = true
    · simp only [hc, if_true, List.any_cons, Bool.or_eq_false_iff] at h
      refine ⟨by simp [hc, h.1], ih ?_ h5.2⟩
      simpa [hasWholeClose, frames] using h.2
    · simp only [hc] at h
      refine ⟨by simp [hc], ih ?_ h5.2⟩
      simpa [hasWholeClose, frames] using h

theorem nawc_count (w : List Chunk) (h : nothingAfterWholeClose w = true) : closeCount w ≤ 1 := by
  induction w with
  | nil => simp [closeCount, frames]
  | cons c r ih =>
    simp only [nothingAfterWholeClose, Bool.and_eq_true] at h
    rw [closeCount_cons]
    by_cases hc : c.second = true ∧ isClose c = true
    · have : r = [] := by simpa [hc.1, hc.2] using h.1
      subst this
      simp [hc, closeCount, frames]
    · simp only [hc, if_false, Nat.zero_add]; exact ih h.2

theorem nawc_spec (w : List Chunk) (h : nothingAfterWholeClose w = true) (pre post : List Chunk) (x : Chunk)
    (hw : w = pre ++ x :: post) (hx : x.second = true) (hc : isClose x = true) : post = [] := by
  induction pre generalizing w with
  | nil =>
    subst hw
    simp only [List.nil_append, nothingAfterWholeClose, hx, hc, Bool.and_self, if_true, Bool.and_eq_true] at h
    simpa using h.1
  | cons a pre ih =>
    subst hw
    simp only [List.cons_append, nothingAfterWholeClose, Bool.and_eq_true] at h
    exact ih _ h.2 rfl

structure CInvN (v : Variant) (cfg : Cfg) (s : State) : Prop where
  i1 : ∀ t, atClear (view v cfg (s.th t)) = true → s.sh.closed = true
  i2 : hasWholeClose s.sh.wire = true →
    s.sh.closing = true ∨ s.sh.closed = true ∨ ∃ u, closerEnd (view v cfg (s.th u)) = true
  i3 : ∀ t, armed (view v cfg (s.th t)) = true → hasWholeClose s.sh.wire = false
  i4 : ∀ t c, (s.th t).current v cfg = some c → atChkBoth c.rest = true → c.ldc = false →
    hasWholeClose s.sh.wire = false ∨ s.sh.closed = true
  i5 : nothingAfterWholeClose s.sh.wire = true
  i6 : ∀ t, headW2 (view v cfg (s.th t)) = true → hasWholeClose s.sh.wire = false

theorem cInvN_fresh (v : Variant) (cfg : Cfg) {s : State} (F : Fresh s) : CInvN v cfg s := by
  refine ⟨?_, ?_, ?_, ?_, ?_, ?_⟩
  · intro t h; rw [F.at v cfg atClear (compile_atClear v cfg) t] at h; cases h
  · intro h; rw [F.wire] at h; cases h
  · intro t _; rw [F.wire]; rfl
  · intro t c hc h
    rw [← view_of_current hc, F.at v cfg atChkBoth (compile_atBoth v cfg) t] at h; cases h
  · rw [F.wire]; rfl
  · intro t _; rw [F.wire]; rfl

theorem cInvN_step_plain (v : Variant) (cfg : Cfg) (s : State) (t : Tid) (hva : v.closeAtomic = true)
    (B : BaseN v cfg s) (I : CInvN v cfg s) (hnw : atW (view v cfg (s.th t)) = false) :
    CInvN v cfg (step v cfg s t) := by
  rcases step_cases v cfg s t with e | ⟨c, st, r, hc, hr, hb, hh, hv, e⟩
  · rw [e]; exact I
  · rw [e]
    have d : disc (st :: r) = true := hv ▸ B.L.disc t
    have cd : cdisc (st :: r) = true := hv ▸ B.P.cdisc hva t
    have ad : adisc (st :: r) = true := hv ▸ B.P.adisc t
    have hst : isWrite st = false := by
      rw [hv] at hnw; cases st <;> first | rfl | cases hnw
    have m := exec_moves v t st r s.sh c
    have hw := exec_wire_not_write v t st r s.sh c hst
    have hldc := exec_ldc v t st r s.sh c
    have vo : ∀ (p : Shared × Cur) u, u ≠ t →
        view v cfg ((setTh s t (settle (s.th t) p.2) p.1).th u) = view v cfg (s.th u) := by
      intro p u hu; rw [setTh_other _ _ _ _ _ hu]
    have vEnd : ∀ p : Shared × Cur, closerEnd (view v cfg ((setTh s t (settle (s.th t) p.2) p.1).th t)) = closerEnd p.2.rest := by
      intro p; rw [setTh_same]; exact view_settle_eq v cfg closerEnd (compile_closerEnd v cfg) _ _ hh
    have hchk : st = .chkBoth → (s.sh.closed = true ∨ c.ldc = true) → (exec v t st r s.sh c).2.rest = toRelease r := by
      intro h1 h2; subst h1; exact exec_chkBoth v t r s.sh c h2
    have hflags := exec_flags v t st r s.sh c
    generalize exec v t st r s.sh c = p at m hw hldc hchk hflags
    obtain ⟨hcl, hcg⟩ := hflags
    refine ⟨?_, ?_, ?_, ?_, ?_, ?_⟩
    · -- i1
      intro u hu
      refine clause_after v cfg atClear (compile_atClear v cfg) (fun sh => sh.closed = true) s t p hh
        (fun w _ h => ?_) (fun h => ?_) u hu
      · rw [hcl]
        have := I.i1 w h
        cases st <;> first | exact this | rfl
      · obtain ⟨h1, _⟩ := moves_atClear hva m cd h
        rw [hcl]; subst h1; rfl
    · -- i2
      intro hcw
      rw [setTh_sh, hw] at hcw
      rw [setTh_sh, hcl, hcg]
      by_cases hsc : ∃ b, st = .setClosing b
      · obtain ⟨b, rfl⟩ := hsc
        cases b with
        | true => exact Or.inl rfl
        | false => exact Or.inr (Or.inl (I.i1 t (by rw [hv]; rfl)))
      · by_cases hsd : st = .setClosed
        · subst hsd; exact Or.inr (Or.inl rfl)
        · rw [closed_match_ne st _ hsd, closing_match_ne st _ hsc]
          rcases I.i2 hcw with h | h | ⟨u, hu⟩
          · exact Or.inl h
          · exact Or.inr (Or.inl h)
          · by_cases hut : u = t
            · subst hut
              rw [hv] at hu
              cases st <;> simp only [closerEnd] at hu <;> try cases hu
              exact absurd ⟨_, rfl⟩ hsc
            · exact Or.inr (Or.inr ⟨u, by rw [vo p u hut]; exact hu⟩)
    · -- i3
      intro u hu
      refine clause_after v cfg armed (compile_armed v cfg) (fun sh => hasWholeClose sh.wire = false) s t p hh
        (fun w _ h => hw ▸ I.i3 w h) (fun hu => ?_) u hu
      · rw [hw]
        rcases moves_armed m d ad hu with ⟨h1, h2⟩ | ⟨h1, _⟩
        · rcases h1 with h1 | h1
          · subst h1
            simp only [cdisc, cNext, Bool.and_eq_true] at cd
            have := cd.1.2; cases this
          · subst h1
            have hclosed : s.sh.closed = false := by
              cases hx : s.sh.closed with
              | false => rfl
              | true => rw [hchk rfl (Or.inl hx), armed_toRelease] at hu; cases hu
            have hld : c.ldc = false := by
              cases hx : c.ldc with
              | false => rfl
              | true => rw [hchk rfl (Or.inr hx), armed_toRelease] at hu; cases hu
            rcases I.i4 t c hc (by rw [hr]; rfl) hld with h | h
            · exact h
            · rw [hclosed] at h; cases h
        · exact I.i3 t (by rw [hv]; exact h1)
    · -- i4
      intro u c2 hc2 hat hld
      rw [setTh_sh, hw, hcl]
      by_cases hut : u = t
      · subst hut
        rcases current_after hh hc2 with ⟨hu, _⟩ | ⟨_, _, rfl⟩ | ⟨_, _, call3, rfl⟩
        · exact absurd rfl hu
        · obtain ⟨h1, _⟩ := moves_atBoth m cd hat
          subst h1
          have hl : holds (Step.ldClosing :: r) = true := inOnly_holds d rfl
          simp only at hldc
          rw [hldc] at hld
          cases hcl2 : hasWholeClose s.sh.wire with
          | false => exact Or.inl rfl
          | true =>
            rcases I.i2 hcl2 with h | h | ⟨w, hw2⟩
            · rw [hld] at h; cases h
            · exact Or.inr h
            · have hwh := closerEnd_holds _ hw2
              have : w = u := holder_unique B.L (hv ▸ hl) hwh
              subst this
              rw [hv] at hw2; cases hw2
        · rw [compile_atBoth] at hat; cases hat
      · have hcu : (s.th u).current v cfg = some c2 := by
          rw [setTh_other _ _ _ _ _ hut] at hc2; exact hc2
        rcases I.i4 u c2 hcu hat hld with h | h
        · exact Or.inl h
        · right; cases st <;> first | exact h | rfl
    · rw [setTh_sh, hw]; exact I.i5
    · -- i6
      intro u hu
      refine clause_after v cfg headW2 (compile_headW2 v cfg) (fun sh => hasWholeClose sh.wire = false) s t p hh
        (fun w _ h => hw ▸ I.i6 w h) (fun h => ?_) u hu
      obtain ⟨g, hg, _⟩ := moves_headW2 m d h
      subst hg; cases hst

/-- what the invariant needs to know about a write step: the thread stays inside its critical
    section, either in front of (the rest of) its write or past it -/
theorem cInvN_after_write (v : Variant) (cfg : Cfg) (s : State) (t : Tid)
    (B : BaseN v cfg s) (I : CInvN v cfg s) (c : Cur) (p : Shared × Cur)
    (hc : (s.th t).current v cfg = some c) (hw : atW c.rest = true) (hne : p.2.rest ≠ [])
    (hB : atChkBoth p.2.rest = false) (hC : atClear p.2.rest = false)
    (hcl : p.1.closed = s.sh.closed)
    (h5 : nothingAfterWholeClose p.1.wire = true)
    (hmid : (armed p.2.rest = true ∨ headW2 p.2.rest = true) → hasWholeClose p.1.wire = false)
    (hend : hasWholeClose p.1.wire = true → closerEnd p.2.rest = true) :
    CInvN v cfg (setTh s t (settle (s.th t) p.2) p.1) := by
  have hh := current_not_halted hc
  have hv : view v cfg (s.th t) = c.rest := view_of_current hc
  have hl : holds (view v cfg (s.th t)) = true := atW_holds (B.L.disc t) (hv ▸ hw)
  have hview : view v cfg (settle (s.th t) p.2) = p.2.rest := view_settle_ne v cfg _ _ hh hne
  have vo : ∀ u, u ≠ t → view v cfg ((setTh s t (settle (s.th t) p.2) p.1).th u) = view v cfg (s.th u) := by
    intro u hu; rw [setTh_other _ _ _ _ _ hu]
  have others_out : ∀ u, u ≠ t → holds (view v cfg (s.th u)) = false := fun u hu => B.L.alone hl hu holds id
  refine ⟨?_, ?_, ?_, ?_, h5, ?_⟩
  · intro u hu
    rw [setTh_sh, hcl]
    by_cases hut : u = t
    · subst hut; rw [setTh_same, hview, hC] at hu; cases hu
    · rw [vo u hut] at hu; exact I.i1 u hu
  · intro hcw
    rw [setTh_sh] at hcw
    exact Or.inr (Or.inr ⟨t, by rw [setTh_same, hview]; exact hend hcw⟩)
  · intro u hu
    rw [setTh_sh]
    by_cases hut : u = t
    · subst hut; rw [setTh_same, hview] at hu; exact hmid (Or.inl hu)
    · rw [vo u hut] at hu
      have := armed_holds _ (B.L.disc u) hu
      rw [others_out u hut] at this; cases this
  · intro u c2 hc2 hat hld
    by_cases hut : u = t
    · subst hut
      rw [setTh_same, current_settle v cfg _ _ hh hne] at hc2
      cases hc2
      rw [hB] at hat; cases hat
    · rw [setTh_other _ _ _ _ _ hut] at hc2
      have hd := B.L.disc u
      rw [view_of_current hc2] at hd
      cases hcr : c2.rest with
      | nil => rw [hcr] at hat; cases hat
      | cons a r9 =>
        rw [hcr] at hat hd
        cases a <;> simp only [atChkBoth] at hat <;> try cases hat
        have := inOnly_holds hd rfl
        rw [← hcr, ← view_of_current hc2, others_out u hut] at this; cases this
  · intro u hu
    rw [setTh_sh]
    by_cases hut : u = t
    · subst hut; rw [setTh_same, hview] at hu; exact hmid (Or.inr hu)
    · rw [vo u hut] at hu
      have := headW2_holds (B.L.disc u) hu
      rw [others_out u hut] at this; cases this

theorem armed_w2 (f : FrameSrc) (r : List Step) (h : noWrite r = true) : armed (.write2 f :: r) = false := by
  simp only [armed]; exact armed_noWrite r h

theorem cInvN_stepN (env : Env) (v : Variant) (cfg : Cfg) (s : State) (t : Tid) (hva : v.closeAtomic = true)
    (B : BaseN v cfg s) (I : CInvN v cfg s) : CInvN v cfg (stepN env v cfg s t) := by
  rcases stepN_split env v cfg s t with ⟨hnw, e⟩ | ⟨c, st, r, p, hc, hr, hwst, hv, o, e⟩
  · rw [e]; exact cInvN_step_plain v cfg s t hva B I hnw
  · rw [e]
    have hw : atW c.rest = true := by rw [← view_of_current hc, hv]; cases st <;> first | rfl | cases hwst
    have d : disc (st :: r) = true := hv ▸ B.L.disc t
    have cd : cdisc (st :: r) = true := hv ▸ B.P.cdisc hva t
    have ad : adisc (st :: r) = true := hv ▸ B.P.adisc t
    have hhr : holds r = true := disc_write d hwst
    -- no complete Close frame is on the wire while a thread stands before a write
    have hnone : hasWholeClose s.sh.wire = false := by
      cases st <;> simp only [isWrite] at hwst <;> try cases hwst
      · exact I.i3 t (by rw [hv]; rfl)
      · exact I.i6 t (by rw [hv]; rfl)
    cases o with
    | fail _ _ _ _ =>
      exact cInvN_after_write v cfg s t B I c _ hc hw (holds_ne_nil (holds_toRelease _ hhr))
        (atBoth_toRelease r) (atClear_toRelease r) rfl I.i5 (fun _ => hnone)
        (fun h => by simp only at h; rw [hnone] at h; cases h)
    | skip f _ _ _ _ =>
      obtain ⟨_, r2, rfl⟩ := disc_w1 d
      exact cInvN_after_write v cfg s t B I c _ hc hw (by simp) rfl rfl rfl I.i5
        (fun _ => hnone) (fun h => by simp only at h; rw [hnone] at h; cases h)
    | stay f _ _ _ _ =>
      have hn : hasWholeClose (s.sh.wire ++ [(⟨t, c.idx, false, descOf f c⟩ : Chunk)]) = false := by
        rw [hwc_nonfinal _ _ rfl]; exact hnone
      exact cInvN_after_write v cfg s t B I c _ hc hw (by simp) rfl rfl rfl (nawc_append _ _ hnone I.i5)
        (fun _ => hn) (fun h => by simp only at h; rw [hn] at h; cases h)
    | adv f _ _ _ _ _ =>
      obtain ⟨_, r2, rfl⟩ := disc_w1 d
      have hn : hasWholeClose (s.sh.wire ++ [(⟨t, c.idx, false, descOf f c⟩ : Chunk)]) = false := by
        rw [hwc_nonfinal _ _ rfl]; exact hnone
      exact cInvN_after_write v cfg s t B I c _ hc hw (by simp) rfl rfl rfl
        (nawc_append _ _ hnone I.i5) (fun _ => hn) (fun h => by simp only at h; rw [hn] at h; cases h)
    | fin f _ _ _ =>
      have hnw : noWrite r = true := (disc_w2 d).2
      have hB : atChkBoth r = false := by
        cases hx : atChkBoth r with
        | false => rfl
        | true => exact absurd (moves_atBoth (Moves.next (v := v) _ r) cd hx).1 (by intro h; cases h)
      have hC : atClear r = false := by
        cases hx : atClear r with
        | false => rfl
        | true => exact absurd (moves_atClear hva (Moves.next (v := v) _ r) cd hx).1 (by intro h; cases h)
      refine cInvN_after_write v cfg s t B I c _ hc hw (holds_ne_nil hhr) hB hC rfl
        (nawc_append _ _ hnone I.i5) ?_ ?_
      · intro h
        rcases h with h | h
        · simp only at h; rw [armed_noWrite r hnw] at h; cases h
        · simp only at h
          have := atW_noWrite hnw
          cases hr3 : r with
          | nil => rw [hr3] at h; cases h
          | cons a r3 => rw [hr3] at h this; cases a <;> simp only [headW2] at h <;> first | (cases h; done) | (cases this; done)
      · intro h
        simp only at h ⊢
        rw [hwc_final _ _ rfl, hnone, Bool.false_or] at h
        simp only [isClose, descOf_op, decide_eq_true_eq] at h
        simp only [cdisc, cNext, h, Bool.and_eq_true] at cd
        have := cd.1.2
        cases r with
        | nil => simp at this
        | cons a r3 =>
          cases a <;> simp at this
          rename_i b
          cases b <;> simp at this
          simpa [closerEnd] using this

theorem hasClose_pairs (fs : List Chunk) : hasClose (pairs fs) = fs.any isClose := by
  induction fs with
  | nil => rfl
  | cons c r ih =>
    simp only [pairs, hasClose, List.any_cons] at ih ⊢
    rw [ih]
    cases h : isClose c <;> simp [isClose] at h ⊢ <;> simp [h]

theorem nac_pairs (fs tail : List Chunk) (hfs : ∀ c ∈ fs, c.second = true)
    (ht : tail = [] ∨ ∃ h, tail = [h])
    (h : nothingAfterWholeClose (pairs fs ++ tail) = true) : nothingAfterClose (pairs fs ++ tail) = true := by
  induction fs with
  | nil =>
    rcases ht with rfl | ⟨x, rfl⟩
    · rfl
    · simp only [pairs, List.nil_append, nothingAfterClose]; split <;> rfl
  | cons c r ih =>
    have hc2 : c.second = true := hfs c (List.mem_cons_self ..)
    have ih' := ih (fun x hx => hfs x (List.mem_cons_of_mem _ hx))
    simp only [pairs, List.cons_append, nothingAfterWholeClose, hc2, Bool.false_and, Bool.true_and,
      Bool.and_eq_true] at h
    have e : isClose { c with second := false } = isClose c := rfl
    simp only [pairs, List.cons_append, nothingAfterClose, e]
    cases hcl : isClose c with
    | false => simp only [Bool.false_eq_true, if_false]; exact ih' h.2.2
    | true =>
      simp only [hcl, if_true] at h
      have : pairs r ++ tail = [] := by simpa using h.2.1
      rw [this]; simp [hc2]

theorem closerMid_of_end {r : List Step} (h : closerEnd r = true) : closerMid r = true := by
  cases r with
  | nil => cases h
  | cons st r =>
    cases st with
    | setClosing b => cases b <;> first | cases h | exact h
    | _ => cases h

/-- what the two-chunk socket adds to `CInvN`: the wire is `pairs (frames wire)` plus at most the first half the
    lock holder has written, so a Close frame of which a chunk is out is complete or is that first half -/
structure CInv (v : Variant) (cfg : Cfg) (s : State) : Prop where
  i2 : hasClose s.sh.wire = true →
    s.sh.closing = true ∨ s.sh.closed = true ∨ ∃ u, closerMid (view v cfg (s.th u)) = true
  i5 : nothingAfterClose s.sh.wire = true

theorem cInv_of_whole {v : Variant} {cfg : Cfg} {s : State} (B : Base v cfg s) (I : CInvN v cfg s) : CInv v cfg s := by
  have hfr : ∀ c ∈ frames s.sh.wire, c.second = true := fun c hc => (List.mem_filter.mp hc).2
  have whole : hasWholeClose s.sh.wire = true →
      s.sh.closing = true ∨ s.sh.closed = true ∨ ∃ u, closerMid (view v cfg (s.th u)) = true := by
    intro h
    rcases I.i2 h with h | h | ⟨u, hu⟩
    · exact Or.inl h
    · exact Or.inr (Or.inl h)
    · exact Or.inr (Or.inr ⟨u, closerMid_of_end hu⟩)
  have h5 := I.i5
  by_cases hw : ∃ t, headW2 (view v cfg (s.th t)) = true
  · obtain ⟨t, ht⟩ := hw
    obtain ⟨c, f, r, hc, hr⟩ : ∃ c f r, (s.th t).current v cfg = some c ∧ c.rest = .write2 f :: r := by
      cases hv : view v cfg (s.th t) with
      | nil => rw [hv] at ht; cases ht
      | cons st r =>
        rw [hv] at ht
        cases st <;> first | exact (current_of_view hv).imp fun c h => ⟨_, r, h⟩ | cases ht
    have e := B.W.mid t c f r hc hr
    rw [e] at h5
    constructor
    · intro hcl
      rw [e, hasClose_append, hasClose_pairs, Bool.or_eq_true] at hcl
      rcases hcl with h | h
      · exact whole h
      · refine Or.inr (Or.inr ⟨t, ?_⟩)
        rw [view_of_current hc, hr]
        simpa [closerMid, isClose, descOf_op] using h
    · rw [e]; exact nac_pairs _ _ hfr (Or.inr ⟨_, rfl⟩) h5
  · have e := B.W.whole fun t => by
      cases h : headW2 (view v cfg (s.th t)) with
      | false => rfl
      | true => exact absurd ⟨t, h⟩ hw
    rw [e, ← List.append_nil (pairs _)] at h5
    constructor
    · intro hcl
      rw [e, hasClose_pairs] at hcl
      exact whole hcl
    · rw [e, ← List.append_nil (pairs _)]; exact nac_pairs _ _ hfr (Or.inl rfl) h5

theorem cInv_reach (v : Variant) (cfg : Cfg) {s : State} (F : Fresh s) (hva : v.closeAtomic = true) (sched : List Tid) :
    Base v cfg (run v cfg s sched) ∧ CInv v cfg (run v cfg s sched) := by
  have B := base_run v cfg s sched (base_fresh v cfg F)
  have I := (runN_keeps (env := Env.two) (I := fun s => BaseN v cfg s ∧ CInvN v cfg s)
    (fun s t h => ⟨baseN_step Env.two v cfg s t h.1, cInvN_stepN Env.two v cfg s t hva h.1 h.2⟩) s sched
    ⟨baseN_fresh v cfg F, cInvN_fresh v cfg F⟩).2
  rw [runN_default] at I
  exact ⟨B, cInv_of_whole B I⟩

/-- **C12, two-chunk socket, from any fresh state** (connected or not): at most one Close frame, nothing after it, a
    finished send wrote its frame iff it raised no error -/
theorem one_close_of_fresh (v : Variant) (hv : v.closeAtomic = true) (cfg : Cfg) {s₀ : State} (F : Fresh s₀) (sched : List Tid) :
    let s := run v cfg s₀ sched
    closeCount s.sh.wire ≤ 1 ∧ nothingAfterClose s.sh.wire = true ∧
    (∀ (t : Tid) (i : Nat) (r : Result), (s.th t).results[i]? = some r →
      ∃ call, (s₀.th t).prog[i]? = some call ∧ (r.err ≠ none → r.wrote = false) ∧
        (call.isSend = true → (r.wrote = true ↔ r.err = none))) := by
  intro s
  obtain ⟨B, I⟩ := cInv_reach v cfg F hv sched
  exact ⟨nac_count _ I.i5, I.i5, B.toBaseN.results_sound (run_prog v cfg s₀ sched)⟩

theorem close_flag_of_fresh (v : Variant) (hv : v.closeAtomic = true) (cfg : Cfg) {s₀ : State} (F : Fresh s₀)
    (sched : List Tid) :
    let s := run v cfg s₀ sched
    hasClose s.sh.wire = true → s.sh.lock = none → s.sh.closing = true ∨ s.sh.closed = true := by
  intro s hc hl
  obtain ⟨B, I⟩ := cInv_reach v cfg F hv sched
  rcases I.i2 hc with h | h | ⟨u, hu⟩
  · exact Or.inl h
  · exact Or.inr h
  · have := (B.L.holder u).mp (closerMid_holds _ (B.L.disc u) hu)
    rw [hl] at this; cases this

end Lomond.Threads
