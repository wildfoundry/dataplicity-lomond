/-
  One lift for relations that hold between turns but not inside them (a Close frame on the trace ⇒
  closing; a Pong is followed by its Ping event; a result token follows its call), so that neither
  `TimerLeaves` nor `Lift.Leaves` fits.  `Yields R` asks for `feedYield`, the `yield`s of `run()` and
  `_regular()` as wholes, `close()`, `closeSocket`, `selClose`, the clock, the two flag updates under
  their guards, and `silent` for bookkeeping; everything up to `loop` follows, and `run` / `runAll` once
  `R` is also kept by getting the socket, the upgrade request and the end-of-script mark.
-/
import Lomond.Proofs.ApiCalls
import Lomond.Proofs.Pipe
namespace Lomond.Core
open Lomond Lomond.Core.Pong

/-- `s'` differs from `s` at most in parser and stream bookkeeping and the selector flag -/
structure Silent (s s' : Sys) : Prop where
  cfg : s'.cfg = s.cfg
  react : s'.react = s.react
  env : s'.env = s.env
  sockOpen : s'.sockOpen = s.sockOpen
  ready : s'.ready = s.ready
  pollStart : s'.pollStart = s.pollStart
  nextPing : s'.nextPing = s.nextPing
  lastPong : s'.lastPong = s.lastPong
  startTime : s'.startTime = s.startTime
  now : s'.now = s.now
  closing : s'.closing = s.closing
  closed : s'.closed = s.closed
  sentCloseTime : s'.sentCloseTime = s.sentCloseTime
  keyCtr : s'.keyCtr = s.keyCtr
  writeCtr : s'.writeCtr = s.writeCtr
  hist : s'.hist = s.hist
  abandonedWith : s'.abandonedWith = s.abandonedWith
  trace : s'.trace = s.trace

structure Yields (R : Sys → Sys → Prop) : Prop extends PO R where
  silent : ∀ s s', Silent s s' → R s s'
  feedYield : ∀ b e, Spec R (feedYield b e)
  yieldEv : ∀ e, isRunEvent e = true → Spec R (yieldEv e)
  regular : Spec R regular
  wsClose : ∀ c r, Spec R (wsClose c r)
  closeSocket : Spec R closeSocket
  closedSet : ∀ s, s.sockOpen = false ∨ Shut s → R s { s with closing := false, closed := true }
  closeAcked : ∀ s, Shut s → R s { s with closing := true }
  selClosed : ∀ s, s.selOpen = true → R s { s with selOpen := false, trace := .selClose :: s.trace }
  ticked : ∀ s dt, R s (tick s dt)

theorem shut_of_wsClose {c : Option Nat} {r : Arg} {s s1 s2 : Sys} {a : ActRes}
    (h1 : wsClose c r s = .ok a s1) (h2 : raiseIfArgError a s1 = .ok () s2) : Shut s2 := by
  have hs : s2 = s1 ∧ ¬ (a = .valueError ∨ a = .structError ∨ a = .typeError) := by
    unfold raiseIfArgError at h2
    split at h2
    · cases h2
    · rename_i hn; cases h2; exact ⟨rfl, hn⟩
  rw [hs.1]
  refine wsClose_elim (P := fun q => q = .ok a s1 → Shut s1) c r s (fun h e => ?_) (fun _ _ res hres e => ?_)
    (fun _ _ _ _ _ _ _ s' _ e => ?_) h1
  · cases e; exact h.symm
  · cases e; exact absurd (hres.elim .inl (fun h => .inr h.symm)) hs.2
  · cases e; exact .inl rfl

theorem spec_onDisconnect_gone {R : Sys → Sys → Prop} (po : PO R) (hsock : Spec R closeSocket)
    (hset : ∀ s, s.sockOpen = false → R s { s with closing := false, closed := true }) : Spec R onDisconnect := by
  intro s
  rw [onDisconnect_eq]
  exact po.trans (hsock.ok (closeSocket_eq s)) (hset _ (sockClosed_sockOpen s))

namespace Yields
variable {R : Sys → Sys → Prop} (T : Yields R)
include T

theorem onDisconnect : Spec R onDisconnect :=
  spec_onDisconnect_gone T.toPO T.closeSocket (fun s h => T.closedSet s (Or.inl h))

/-- `_on_close`: both flag updates happen on a websocket that is closing or closed — `closing` was set
    before the `Closed` event was handed over and nothing resets it; `close()` has just returned -/
theorem onClose (c : Option Nat) (r : List Nat) : Spec R (onClose c r) := by
  intro s
  unfold Core.onClose
  refine bind_at T.toPO (spec_checkCloseCode T.toPO c s) (fun _ s1 _ => ?_)
  refine bind_at T.toPO (T.refl s1) (fun s2 s3 e2 => ?_)
  cases e2
  refine rel_ite (fun _ => T.refl _) (fun _ => rel_ite (fun hcg => ?_) (fun _ => ?_))
  · refine bind_at T.toPO (T.feedYield _ _ s1) (fun _ s4 e4 => ?_)
    exact T.closedSet s4 (Or.inr (((cl_atYield.calls.feedYield _ _ trivial).ok e4).keep (Or.inl hcg)))
  · refine bind_at T.toPO (T.feedYield _ _ s1) (fun _ s4 _ => ?_)
    refine bind_at T.toPO (T.wsClose _ _ s4) (fun a s5 e5 => ?_)
    refine bind_at T.toPO (spec_raiseIfArgError T.toPO a s5) (fun _ s6 e6 => ?_)
    exact T.closeAcked s6 (shut_of_wsClose e5 e6)

theorem feedHandler (x : Exn) : Spec R (feedHandler x) :=
  spec_feedHandler T.toPO x (fun _ _ => T.feedYield _ _) (fun _ => T.wsClose _ _)

omit T in
theorem Silent.of_inertF {s s' : Sys} (h : LiftX.InertF s s') : Silent s s' :=
  ⟨h.inert.cfg, h.inert.react, h.inert.env, h.inert.sockOpen, h.inert.ready, h.inert.pollStart, h.inert.nextPing,
    h.inert.lastPong, h.inert.startTime, h.inert.now, h.closing, h.closed, h.inert.sentCloseTime, h.inert.keyCtr,
    h.inert.writeCtr, h.inert.hist, h.inert.abandonedWith, h.inert.trace⟩

/-- the receive pipeline: bookkeeping is silent; `_on_close` and the refused handshake are taken as
    wholes, so the guards on the flag updates stay inside `onClose` and `onDisconnect` -/
theorem pipe (s0 : Sys) : LiftX.PipeX (R s0) (fun _ => R s0) where
  inert := fun s s' h hs => T.trans hs (T.silent s s' (Silent.of_inertF h))
  boring := fun _ _ _ hs => hs
  handler := fun x => (spec_iff T.toPO).mp (T.feedHandler x) s0
  reject := fun _ => (spec_iff T.toPO).mp (spec_bind T.toPO T.onDisconnect (fun _ =>
    spec_bind T.toPO (T.feedYield _ _) (fun _ => spec_pure T.toPO _))) s0
  onClose := fun c r => (spec_iff T.toPO).mp (T.onClose c r) s0
  feedYield := fun e _ _ _ => (spec_iff T.toPO).mp (T.feedYield true e) s0

theorem feedLoop (data : Bytes) : Spec R (feedLoop data) :=
  (spec_iff T.toPO).mpr fun s0 => LiftX.pipe_feedLoop (T.pipe s0) data

theorem wsFeed (data : Bytes) : Spec R (wsFeed data) :=
  (spec_iff T.toPO).mpr fun s0 =>
    LiftX.pipe_wsFeed (T.pipe s0) (fun x => (spec_iff T.toPO).mp (spec_unwrapOuter T.toPO x) s0) data

theorem loop (env : List EnvStep) : Spec R (loop env) :=
  spec_loop T.toPO (spec_recvStep T.toPO T.wsFeed) (fun _ => True)
    (fun dt _ s _ => T.trans (T.ticked s dt) (T.regular _)) env (fun _ _ => trivial)

theorem around : AroundLoop R where
  po := T.toPO
  closeSocket := T.closeSocket
  selClose := spec_selClose T.toPO T.selClosed
  yieldEv := T.yieldEv
  selSet := fun s b => T.silent _ _ (by constructor <;> rfl)

theorem run (hon : ∀ s, R s { s with sockOpen := true }) (hreq : ∀ d, Spec R (write d none)) : Spec R run :=
  run_run T.around T.loop hon hreq

theorem runAll (hon : ∀ s, R s { s with sockOpen := true }) (hreq : ∀ d, Spec R (write d none))
    (hinc : ∀ s, R s { s with trace := .incomplete :: s.trace }) (cfg : Cfg) (react : React)
    (env : List EnvStep) : R { cfg := cfg, react := react, env := env } (Core.runAll cfg react env) :=
  run_runAll T.toPO T.closeSocket hinc cfg react env (T.run hon hreq _)

end Yields

end Lomond.Core
