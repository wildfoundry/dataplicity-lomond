/-
  `Step`: what every library step inside a connection guarantees about the system state
  (configuration and application unchanged, `closed` and "socket closed" are stable, the selector
  flag is untouched, the parser never returns to the header state, the trace only grows) —
  proved for every function of the core model up to the session loop, by composition.  `Grows` is
  its last field alone, as a preorder (`grows_po`); `ext_trans` joins two extensions of a trace by
  entries of one kind.
-/
import Lomond.Proofs.SpecGen
namespace Lomond.Core
open Lomond

structure Step (s s' : Sys) : Prop where
  cfg : s'.cfg = s.cfg
  react : s'.react = s.react
  closedMono : s.closed = true → s'.closed = true
  sockMono : s.sockOpen = false → s'.sockOpen = false
  selKeep : s'.selOpen = s.selOpen
  contNH : s.p.cont ≠ .header → s'.p.cont ≠ .header
  traceExt : ∃ l, s'.trace = l ++ s.trace

def Grows (s s' : Sys) : Prop := ∃ l, s'.trace = l ++ s.trace

theorem Grows.refl (s : Sys) : Grows s s := ⟨[], rfl⟩

theorem Grows.trans {a b c : Sys} (h1 : Grows a b) (h2 : Grows b c) : Grows a c := by
  obtain ⟨l1, e1⟩ := h1
  obtain ⟨l2, e2⟩ := h2
  exact ⟨l2 ++ l1, by rw [e2, e1, List.append_assoc]⟩

theorem step_po : PO Step where
  refl _ := ⟨rfl, rfl, id, id, rfl, id, ⟨[], rfl⟩⟩
  trans h1 h2 := ⟨h2.cfg.trans h1.cfg, h2.react.trans h1.react, fun h => h2.closedMono (h1.closedMono h),
    fun h => h2.sockMono (h1.sockMono h), h2.selKeep.trans h1.selKeep, fun h => h2.contNH (h1.contNH h),
    Grows.trans h1.traceExt h2.traceExt⟩

theorem step_tick (s : Sys) (dt : Nat) : Step s (tick s dt) :=
  ⟨rfl, rfl, id, id, rfl, id, if h : dt = 0 then ⟨[], by subst h; rfl⟩ else ⟨[.tick (s.now + dt)], by rw [tick_pos s dt h]; rfl⟩⟩

theorem step_leaves : StreamLeaves Step :=
  { step_po with
    sockClose := fun s _ => ⟨rfl, rfl, id, fun _ => rfl, rfl, id, [_], rfl⟩
    key := fun s => ⟨rfl, rfl, id, id, rfl, id, [], rfl⟩
    wr := fun s d o _ _ _ _ => ⟨rfl, rfl, id, id, rfl, id, [o], rfl⟩
    wrz := fun s op pl o _ _ _ _ _ => ⟨rfl, rfl, id, id, rfl, id, [o], rfl⟩
    closeSent := fun s => ⟨rfl, rfl, id, id, rfl, id, [], rfl⟩
    res := fun s r => ⟨rfl, rfl, id, id, rfl, id, [_], rfl⟩
    abandon := fun s w => ⟨rfl, rfl, id, id, rfl, id, [], rfl⟩
    ev := fun s e => ⟨rfl, rfl, id, id, rfl, id, [_], rfl⟩
    polled := fun s => ⟨rfl, rfl, id, id, rfl, id, [], rfl⟩
    pinged := fun s _ _ => ⟨rfl, rfl, id, id, rfl, id, [], rfl⟩
    becameReady := fun s => ⟨rfl, rfl, id, id, rfl, id, [], rfl⟩
    gotPong := fun s => ⟨rfl, rfl, id, id, rfl, id, [], rfl⟩
    disconnected := fun s => ⟨rfl, rfl, fun _ => rfl, id, rfl, id, [], rfl⟩
    closeAcked := fun s => ⟨rfl, rfl, id, id, rfl, id, [], rfl⟩
    inflated := fun s hist n => ⟨rfl, rfl, id, id, rfl, id, [], rfl⟩
    pushed := fun s f => ⟨rfl, rfl, id, id, rfl, id, [], rfl⟩
    delivered := fun s => ⟨rfl, rfl, id, id, rfl, id, [], rfl⟩
    parsed := fun s => ⟨rfl, rfl, id, id, rfl, id, [], rfl⟩
    accepted := fun s d => ⟨rfl, rfl, id, id, rfl, by cases d <;> exact id, [], rfl⟩
    parser := fun s p' h => ⟨rfl, rfl, id, id, rfl, h, [], rfl⟩
    ticked := step_tick }

theorem step_closeSocket : Spec Step closeSocket := step_leaves.closeSocket

theorem step_write (d : Bytes) (z : Option (Nat × Bytes)) : Spec Step (write d z) :=
  spec_write step_po d z (fun _ o _ _ _ _ => ⟨rfl, rfl, id, id, rfl, id, [o], rfl⟩)

theorem step_sendFrame (op : Nat) (pl : Bytes) (c : Option Bytes) : Spec Step (sendFrame op pl c) :=
  spec_sendFrame step_po op pl c step_leaves.key (fun d => step_write d _)

theorem step_wsClose (c : Option Nat) (r : Arg) : Spec Step (wsClose c r) := step_leaves.wsClose c r

theorem step_doActs (as : List Act) : Spec Step (doActs as) := step_leaves.doActs as

theorem step_yieldEv (e : Event) : Spec Step (yieldEv e) := step_leaves.yieldEv e

theorem step_modS_app {f : Sys → Sys} (h : ∀ s, Step s (f s)) : Spec Step (modS f) := spec_modS h

theorem step_regular : Spec Step regular := step_leaves.regular

theorem step_onDisconnect : Spec Step onDisconnect := step_leaves.onDisconnect

theorem step_feedYield (b : Bool) (e : Event) : Spec Step (feedYield b e) := step_leaves.feedYield b e

theorem step_onOut (o : Out) : Spec Step (onOut o) := step_leaves.calls.onOut o

theorem step_feedLoop (data : Bytes) : Spec Step (feedLoop data) := step_leaves.calls.feedLoop data

theorem step_wsFeed (data : Bytes) : Spec Step (wsFeed data) := step_leaves.calls.wsFeed (fun _ _ => trivial) data

theorem step_loop (env : List EnvStep) : Spec Step (loop env) := step_leaves.loop env

theorem ext_trans {q : Obs → Prop} {a b c : List Obs} (h1 : ∃ l, b = l ++ a ∧ ∀ o ∈ l, q o)
    (h2 : ∃ l, c = l ++ b ∧ ∀ o ∈ l, q o) : ∃ l, c = l ++ a ∧ ∀ o ∈ l, q o := by
  obtain ⟨l1, e1, n1⟩ := h1
  obtain ⟨l2, e2, n2⟩ := h2
  refine ⟨l2 ++ l1, by rw [e2, e1, List.append_assoc], fun o ho => ?_⟩
  rcases List.mem_append.mp ho with h | h
  · exact n2 o h
  · exact n1 o h

theorem grows_po : PO Grows := ⟨Grows.refl, Grows.trans⟩

theorem Grows.of_step {s s' : Sys} (h : Step s s') : Grows s s' := h.traceExt

theorem Grows.mem {s s' : Sys} (g : Grows s s') {o : Obs} (h : o ∈ s.trace) : o ∈ s'.trace := by
  obtain ⟨l, e⟩ := g
  rw [e]; exact List.mem_append_right _ h

end Lomond.Core
