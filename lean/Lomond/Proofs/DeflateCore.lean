/-
  permessage-deflate in the core model (Model/Core.lean, Model/Http.lean; property C06):
  what `buildMessage` inflates, what `sendData` writes, how the permessage-deflate parameters
  are parsed and what a parameter error leads to.
-/
import Lomond.Proofs.FrameCodec
import Lomond.Proofs.ApiCalls
import Lomond.Proofs.Monitor
namespace Lomond.Core
open Lomond

theorem buildMessage_fragments (f g : Frame) (fs gs : List Frame) (s : Sys)
    (hop : f.opcode = g.opcode) (hr : f.rsv1 = g.rsv1)
    (hj : ((f :: fs).map (·.payload)).flatten = ((g :: gs).map (·.payload)).flatten) :
    buildMessage (f :: fs) s = buildMessage (g :: gs) s := by
  simp only [buildMessage, hop, hr, hj]

theorem buildMessage_compressed (f : Frame) (fs : List Frame) (s : Sys)
    (h1 : f.rsv1 ≠ 0) (h2 : s.decompress = true) :
    let hist := s.inflHist ++ ((f :: fs).map (·.payload)).flatten ++ [0, 0, 0xff, 0xff]
    match s.cfg.inflate ((s.compression.map (·.decompressWbits)).getD 15) hist with
    | none => buildMessage (f :: fs) s = .err (.critical "unable to decompress payload") s
    | some out =>
      buildMessage (f :: fs) s =
        liftE (msgOfPayload f.opcode (out.drop s.inflOut))
          (if (s.compression.map (·.resetDecompress)).getD false then { s with inflHist := [], inflOut := 0 }
           else { s with inflHist := hist, inflOut := out.length }) := by
  intro hist
  have e0 : buildMessage (f :: fs) s =
      (inflateMessage ((f :: fs).map (·.payload)).flatten >>= fun payload => liftE (msgOfPayload f.opcode payload)) s := by
    simp only [buildMessage]
    rw [getS_bind]
    rw [if_pos ⟨h1, h2⟩]
  -- `inflateMessage` is this match, by definition
  have hm : inflateMessage ((f :: fs).map (·.payload)).flatten s =
      match s.cfg.inflate ((s.compression.map (·.decompressWbits)).getD 15) hist with
      | none => .err (.critical "unable to decompress payload") s
      | some out =>
        if (s.compression.map (·.resetDecompress)).getD false then
          .ok (out.drop s.inflOut) { s with inflHist := [], inflOut := 0 }
        else .ok (out.drop s.inflOut) { s with inflHist := hist, inflOut := out.length } := rfl
  rw [e0]
  cases hi : s.cfg.inflate ((s.compression.map (·.decompressWbits)).getD 15) hist with
  | none => exact bind_err (by rw [hm, hi])
  | some out =>
    rw [hi] at hm
    cases hr : (s.compression.map (·.resetDecompress)).getD false with
    | true =>
      simp only [hr, if_true] at hm
      rw [bind_ok hm]; simp only [if_true]
    | false =>
      simp only [hr, Bool.false_eq_true, if_false] at hm
      rw [bind_ok hm]; simp only [Bool.false_eq_true, if_false]

/-- `session.write` would put the bytes on the wire: socket open, websocket neither closed nor
    closing, and this `sendall` does not fail -/
def Writable (s : Sys) : Prop :=
  s.sockOpen = true ∧ s.closed = false ∧ s.closing = false ∧ s.cfg.writeFails s.writeCtr = false

theorem write_wrz_iff (d : Bytes) (z : Option (Nat × Bytes)) (s : Sys) (o : Nat) (p : Bytes) :
    (write d z s).state.trace = .wrz o p :: s.trace ↔ Writable s ∧ z = some (o, p) := by
  refine write_elim (P := fun q => q.state.trace = .wrz o p :: s.trace ↔ Writable s ∧ z = some (o, p)) d z s
    (fun r hr => ⟨fun h => absurd h (List.cons_ne_self _ _).symm, fun h => ?_⟩) (fun h1 h2 h3 r ob ho => ?_)
  · obtain ⟨w1, w2, w3, _⟩ := h.1
    rcases hr with ⟨_, e⟩ | ⟨_, e⟩ | ⟨_, e⟩
    · rw [w1] at e; cases e
    · rw [w2] at e; cases e
    · rw [w3] at e; cases e
  · show ob :: s.trace = .wrz o p :: s.trace ↔ _
    rcases ho with ⟨_, rfl, hf⟩ | ⟨_, rfl, hf⟩
    · exact ⟨(fun h => by cases h), (fun h => by rw [h.1.2.2.2] at hf; cases hf)⟩
    · constructor
      · intro h
        have e := (List.cons.inj h).1
        match z, e with
        | some (_, _), rfl => exact ⟨⟨h1, h2, h3, hf⟩, rfl⟩
      · rintro ⟨_, rfl⟩; rfl

theorem sendData_wrz_iff (op : Nat) (payload : Bytes) (compress : Bool) (s : Sys) :
    ((∃ o p, (sendData op payload compress s).state.trace = .wrz o p :: s.trace) ↔
      (compress = true ∧ s.compression.isSome = true ∧ Writable s)) ∧
    (∀ o p, (sendData op payload compress s).state.trace = .wrz o p :: s.trace → o = op ∧ p = payload) := by
  -- drawing the masking key changes nothing `write` or `Writable` look at
  have key : ∀ d z o p, (write d z { s with keyCtr := s.keyCtr + 1 }).state.trace = .wrz o p :: s.trace ↔
      Writable s ∧ z = some (o, p) := fun d z o p => write_wrz_iff d z { s with keyCtr := s.keyCtr + 1 } o p
  by_cases hc : compress = true ∧ s.compression.isSome = true
  · have e : sendData op payload compress s = write [] (some (op, payload)) { s with keyCtr := s.keyCtr + 1 } := by
      unfold sendData; rw [if_pos hc]; rfl
    rw [e]
    refine ⟨⟨fun ⟨o, p, h⟩ => ⟨hc.1, hc.2, ((key _ _ o p).mp h).1⟩,
      fun h => ⟨op, payload, (key _ _ _ _).mpr ⟨h.2.2, rfl⟩⟩⟩, fun o p h => ?_⟩
    have := ((key _ _ o p).mp h).2
    cases this; exact ⟨rfl, rfl⟩
  · have e : sendData op payload compress s = sendFrame op payload none s := by
      unfold sendData; rw [if_neg hc]
    have no : ∀ o p, (sendFrame op payload none s).state.trace ≠ .wrz o p :: s.trace := by
      intro o p h
      obtain ⟨r, s', l, e, ht, -, -, hwz⟩ := sendFrame_trace op payload none s
      rw [e] at h
      have hl : l = [.wrz o p] := List.append_cancel_right (ht.symm.trans h)
      exact nomatch (hwz o p (hl ▸ List.mem_singleton_self _)).2
    rw [e]
    exact ⟨⟨fun ⟨o, p, h⟩ => absurd h (no o p), fun h => absurd ⟨h.1, h.2.1⟩ hc⟩, fun o p h => absurd h (no o p)⟩

theorem getWbits_ok (opts : List (Http.Str × Http.Str)) (key : String) (n : Nat)
    (h : Http.getWbits opts key = .ok n) :
    8 ≤ n ∧ n ≤ 15 ∧
    Http.pyInt Http.isStrSpace ((Http.optGet opts (Http.ofString key)).getD (Http.ofString "15")) = some (false, n) := by
  unfold Http.getWbits at h
  simp only [] at h
  split at h
  · cases h
  · rename_i neg m hp
    split at h
    · cases h
    · rename_i hc
      cases h
      simp only [not_or, Nat.not_lt] at hc
      rw [hp]
      cases neg <;> simp_all

theorem getWbits_default (opts : List (Http.Str × Http.Str)) (key : String)
    (h : Http.optGet opts (Http.ofString key) = none) : Http.getWbits opts key = .ok 15 := by
  unfold Http.getWbits
  simp only [h, Option.getD_none]
  have : Http.pyInt Http.isStrSpace (Http.ofString "15") = some (false, 15) := by decide +kernel
  rw [this]
  simp

theorem getWbits_refused (opts : List (Http.Str × Http.Str)) (key : String) :
    (Http.pyInt Http.isStrSpace ((Http.optGet opts (Http.ofString key)).getD (Http.ofString "15")) = none ∨
     ∃ neg n, Http.pyInt Http.isStrSpace ((Http.optGet opts (Http.ofString key)).getD (Http.ofString "15")) = some (neg, n) ∧
        (neg = true ∨ n < 8 ∨ 15 < n)) →
    ∃ msg, Http.getWbits opts key = .error msg := by
  intro h
  unfold Http.getWbits
  simp only []
  rcases h with h | ⟨neg, n, h, hc⟩
  · rw [h]; exact ⟨_, rfl⟩
  · rw [h]
    simp only
    rw [if_pos (by simpa using hc)]
    exact ⟨_, rfl⟩

theorem deflateFromOptions_ok (opts : List (Http.Str × Http.Str)) (d : Http.DeflateCfg)
    (h : Http.deflateFromOptions opts = .ok d) :
    Http.getWbits opts "server_max_window_bits" = .ok d.decompressWbits ∧
    Http.getWbits opts "client_max_window_bits" = .ok d.compressWbits ∧
    d.resetDecompress = (Http.optGet opts (Http.ofString "server_no_context_takeover")).isSome ∧
    d.resetCompress = (Http.optGet opts (Http.ofString "client_no_context_takeover")).isSome := by
  unfold Http.deflateFromOptions at h
  cases h1 : Http.getWbits opts "server_max_window_bits" with
  | error m => rw [h1] at h; cases h
  | ok a =>
    cases h2 : Http.getWbits opts "client_max_window_bits" with
    | error m => rw [h1, h2] at h; cases h
    | ok b =>
      rw [h1, h2] at h
      cases h
      exact ⟨rfl, rfl, rfl, rfl⟩

theorem onResponse_ext_error (strict : Bool) (chal : Http.Str) (r : Http.Response) (m : Http.Str)
    (hs : r.statusCode = some (false, 101))
    (hu : Http.lower ((r.get (Http.ofString "upgrade")).getD (Http.ofString "<header missing>")) = Http.ofString "websocket")
    (acc : Http.Str) (ha : r.get (Http.ofString "sec-websocket-accept") = some acc)
    (hc : if strict then acc = chal else Http.lower acc = Http.lower chal)
    (he : Http.processExtensions (r.getList (Http.ofString "sec-websocket-extensions")) none = .error m) :
    Http.onResponse strict chal r = .error m := by
  unfold Http.onResponse
  simp only [hs, ne_eq, not_true_eq_false, if_false, hu, ha, he]
  cases strict <;> simp_all

theorem onOut_rejected_z (data : Bytes) (s : Sys) (reason : Http.Str)
    (h : Http.onResponse s.cfg.v.strictAccept s.cfg.challenge (Http.parseResponse data) = .error reason) :
    (onOut (.header data) s).state.closed = true ∧
    Obs.ev (.rejected reason) ∈ (onOut (.header data) s).state.trace := by
  have e0 : onOut (.header data) s =
      (do modS (fun s => { s with parsedResponse := true }); onDisconnect; feedYield true (.rejected reason); pure false : M Bool) s := by
    unfold onOut
    simp only []
    rw [getS_bind]
    simp only [h]
  rw [e0]
  rw [modS_bind]
  obtain ⟨s1, hd, hcl⟩ := Monitor.onDisconnect_ok { s with parsedResponse := true }
  rw [bind_ok hd]
  have hf := feedYield_logged true (.rejected reason) s1 _ rfl
  cases hr : feedYield true (.rejected reason) s1 with
  | ok a s2 =>
    rw [hr] at hf
    rw [bind_ok hr]
    exact ⟨hf.2.closedMono hcl, hf.1⟩
  | err x s2 =>
    rw [hr] at hf
    rw [bind_err hr]
    exact ⟨hf.2.closedMono hcl, hf.1⟩

end Lomond.Core
