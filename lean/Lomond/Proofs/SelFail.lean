/-
  The case `cfg.connect = .selFail proxy` (C09, C13): `_connect()` returned a socket, the upgrade
  request went out, `Connected` was yielded — and then `self._selector_cls(sock)` raised.  The loop is
  never entered; the `except Exception` clause reports `Disconnected('error')`.

  * `NoSelector`: no selector exists and none was ever closed — read off `Once.Outcome`;
  * `tri_run_selFail`: which events such a connection hands to the application (`Evs L`: exactly `L`;
    `Cut`: a prefix, when the application abandons the iterator), as an instance of the proof outline
    of `run()` (Proofs/RunRule.lean);
  * `run_selFail_outcome`: `run()` returns with the socket closed, or the application abandoned it.
-/
import Lomond.Proofs.Once
namespace Lomond.Core.Monitor
open Lomond Lomond.Core

def NoSelector (s : Sys) : Prop := s.selOpen = false ∧ Obs.selClose ∉ s.trace

theorem _root_.Lomond.Core.Once.Outcome.noSelector {cfg : Cfg} {react : React} {s : Sys}
    (o : Once.Outcome cfg react s) (hc : ∀ proxy, cfg.connect ≠ .ok proxy) : NoSelector s := by
  refine ⟨o.selClosed, fun hm => ?_⟩
  have h0 : Once.selCloses s.trace ≠ 1 := fun h => by
    obtain ⟨p, hp, _⟩ := o.sel.mp h; exact hc p hp
  have h1 := o.sel01
  have h2 : 0 < Once.selCloses s.trace := List.count_pos_iff.mpr hm
  omega

theorem run_noSelector (cfg : Cfg) (react : React) (env : List EnvStep)
    (hc : ∀ proxy, cfg.connect ≠ .ok proxy) : NoSelector (run (initSys cfg react env)).state :=
  (Once.run_out cfg react env).1.noSelector hc

theorem runAll_noSelector (cfg : Cfg) (react : React) (env : List EnvStep)
    (hc : ∀ proxy, cfg.connect ≠ .ok proxy) : NoSelector (runAll cfg react env) :=
  (Once.runAll_outcome cfg react env).noSelector hc

def Evs (L : List Event) (s : Sys) : Prop := events s.trace = L

def EvsP (L : List Event) (s : Sys) : Prop := events s.trace <+: L

theorem Evs.pre {L L' : List Event} {s : Sys} (h : Evs L s) (hp : L <+: L') : EvsP L' s := by
  unfold EvsP; rw [h]; exact hp

/-- `yield e`: the event is handed over, whether or not the application resumes the iterator -/
theorem evs_yieldEv (e : Event) {L : List Event} (s : Sys) (h : Evs L s) : Evs (L ++ [e]) (yieldEv e s).state := by
  unfold Evs
  rw [(yieldEv_keeps e s).events, show events (pushEv e s).trace = _ from events_cons_ev e s.trace, h]

theorem evs_closeYield (e : Event) {L : List Event} (s : Sys) (h : Evs L s) :
    Evs (L ++ [e]) ((do closeSocket; yieldEv e : M Unit) s).state := by
  obtain ⟨s1, h1⟩ := closeSocket_ok s
  rw [bind_ok h1]
  exact evs_yieldEv e s1 ((keeps_closeSocket.ok h1).events.trans h)

def selFailEvents (proxy : Bool) : List Event := [.connecting, .connected proxy, .disconnected "error" false]

/-- `Connecting`, `ConnectFail`: already the upgrade request could not be written -/
def reqFailEvents : List Event := [.connecting, .connectFail "request-failed"]

/-- the application abandoned the iterator: it was handed a prefix of one of the two lists -/
def Cut (proxy : Bool) (s : Sys) : Prop := EvsP (selFailEvents proxy) s ∨ EvsP reqFailEvents s

section
variable {proxy : Bool}

/-- the `try` statement when the selector's constructor raised: exactly `Disconnected('error; …')` -/
theorem tri_runLoopL_selFail :
    Tri (Evs [.connecting, .connected proxy]) (runLoopL (throwE (.other "error")))
      (fun _ => Evs (selFailEvents proxy)) (fun _ => Cut proxy) :=
  tri_runLoopL (E := fun _ => False) (Xl := fun x s => x = .other "error" ∧ Evs [.connecting, .connected proxy] s)
    (F := Evs (selFailEvents proxy)) (Xe := fun _ => Evs (selFailEvents proxy))
    (tri_throwE (fun _ h => ⟨rfl, h⟩)) (fun _ h => h.elim)
    (fun x s h => by
      obtain ⟨rfl, h⟩ := h
      exact tri_state.2 (evs_closeYield (.disconnected "error" false)) s h)
    (tri_noRaise selClose_ne_err (fun s h => (keeps_selClose s).events.trans h))
    (fun x => (tri_runFinally x (fun s h => (keeps_closeSocket s).events.trans h)
      (fun s h => (keeps_selClose s).events.trans h)).weaken (fun _ h => h) (fun _ _ h => h)
      (fun _ _ h => Or.inl (Evs.pre h.2 (List.prefix_refl _))))

theorem tri_afterConnectL_selFail :
    Tri (Evs [.connecting]) (afterConnectL (throwE (.other "error")) proxy false)
      (fun _ s => Evs (selFailEvents proxy) s ∨ Evs reqFailEvents s) (fun _ => Cut proxy) :=
  tri_afterConnectL proxy false (A' := Evs [.connecting]) (B := fun _ => Evs [.connecting])
    (C := Evs [.connecting, .connected proxy]) (D := Evs [.connecting, .connected proxy]) (fun _ h => h)
    (fun _ => tri_noRaise (write_ne_err _ _) (fun s h => (keeps_write _ _ s).events.trans h.1))
    (fun _ _ => (tri_state.2 (evs_closeYield (.connectFail "request-failed"))).weaken (fun _ a => a)
      (fun _ _ a => Or.inr a) (fun _ _ a => Or.inr (a.pre (List.prefix_refl _))))
    (fun _ _ => tri_yieldConnected proxy (Y := fun _ _ => Evs [.connecting, .connected proxy])
      (fun _ => tri_state.2 (fun s h => evs_yieldEv (.connected proxy) s h.1))
      (fun _ _ s _ h => Or.inl (Evs.pre ((keeps_closeSocket s).events.trans h) ⟨_, rfl⟩))
      (fun _ _ _ _ h => Or.inl (h.pre ⟨_, rfl⟩)))
    (fun _ h => h)
    (tri_runLoopL_selFail.weaken (fun _ h => h) (fun _ _ h => Or.inl h) (fun _ _ h => h))

/-- **the possible event lists of a connection whose selector cannot be constructed**: the one or the
    other list; a prefix of one of them when the application abandons the iterator -/
theorem tri_run_selFail (cfg : Cfg) (react : React) (env : List EnvStep) (hc : cfg.connect = .selFail proxy) :
    Tri (fun s => s = initSys cfg react env) run
      (fun _ s => Evs (selFailEvents proxy) s ∨ Evs reqFailEvents s) (fun _ => Cut proxy) := by
  intro s hs
  rw [run_eq_runL]
  refine tri_runL (l := loop s.env) (A0 := fun s => s = initSys cfg react env)
    (A1 := fun s => Evs [.connecting] s ∧ s.cfg = cfg) ?_
    (fun k s h => ?_) (fun p s h => ?_) (fun p s h => ?_) s hs
  · intro s hs
    subst hs
    have h : Evs [.connecting] _ := evs_yieldEv .connecting (initSys cfg react env) rfl
    have hcfg := (step_yieldEv .connecting (initSys cfg react env)).cfg
    cases hy : yieldEv .connecting (initSys cfg react env) with
    | ok u s1 => rw [hy] at h hcfg; exact ⟨h, hcfg⟩
    | err x s1 => rw [hy] at h; exact Or.inl (h.pre ⟨_, rfl⟩)
  · have := h.2; rw [h.1.2, hc] at this; rcases this with e | e <;> cases e
  · have := h.2; rw [h.1.2, hc] at this; cases this
  · have e := h.2
    rw [h.1.2, hc] at e
    cases e
    exact tri_afterConnectL_selFail s h.1.1

end

/-- with this connect outcome the loop body is irrelevant -/
theorem runL_selFail (l l' : M Unit) (proxy : Bool) (s : Sys) (hc : s.cfg.connect = .selFail proxy) :
    runL l s = runL l' s := by
  unfold runL
  have st := step_yieldEv .connecting s
  cases hy : yieldEv .connecting s with
  | err x s1 => rw [bind_err hy, bind_err hy]
  | ok u s1 =>
    rw [hy] at st; simp only [Res.state_ok] at st
    have hc1 : s1.cfg.connect = .selFail proxy := by rw [st.cfg]; exact hc
    rw [bind_ok hy, bind_ok hy, getS_bind, getS_bind]
    simp only [hc1]

/-- **`run()` when the selector cannot be constructed**, for every configuration, application and
    script: it returns normally with the socket closed — or the application abandoned the iterator;
    nothing else (no exception escapes, the script is never consulted). -/
theorem run_selFail_outcome (proxy : Bool) (cfg : Cfg) (react : React) (env : List EnvStep)
    (hc : cfg.connect = .selFail proxy) :
    (∃ s', run (initSys cfg react env) = .ok () s' ∧ s'.sockOpen = false) ∨
    (∃ s', run (initSys cfg react env) = .err .genExit s' ∧ Abandons react) := by
  cases hr : run (initSys cfg react env) with
  | ok u s' => exact Or.inl ⟨s', rfl, Once.run_ok_closed cfg react env hr⟩
  | err x s' =>
    rw [run_eq_runL, runL_selFail _ (throwE (.other "error")) proxy _ hc] at hr
    rcases (raises_runL (se := False) _ (raises_selectorError False) _ x s' hr).react
      ((same_leaves.runL (spec_throwE same_po _)).err hr).2.symm with ⟨rfl, ha⟩ | ⟨_, hf⟩
    · exact Or.inr ⟨s', rfl, ha⟩
    · exact hf.elim

end Lomond.Core.Monitor
