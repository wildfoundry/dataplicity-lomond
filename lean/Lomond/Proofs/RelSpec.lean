/-
  Two runs side by side.  `RSpec Q m m'`: from `Q`-related states, `m` and `m'` end with the same
  value (or the same exception) in `Q`-related states.  Rules for the monad operations, then the
  functions of the core model up to `runL`, once for every `Q`: a relation says which fields it
  lets a function read and which updates it allows, and provides `yieldEv` and `regular`
  (`ActRel`, `YieldRel`, `RecvRel`, `RunRel`, each extending the one before).
-/
import Lomond.Proofs.RunL
import Lomond.Proofs.Calls
namespace Lomond.Core.Rel
open Lomond Lomond.Core Lomond.Core.Monitor

def RRel (Q : Sys → Sys → Prop) : Res α → Res α → Prop
  | .ok a s, .ok b u => a = b ∧ Q s u
  | .err x s, .err y u => x = y ∧ Q s u
  | _, _ => False

def RSpec (Q : Sys → Sys → Prop) (m m' : M α) : Prop := ∀ s u, Q s u → RRel Q (m s) (m' u)

variable {Q : Sys → Sys → Prop}

theorem RRel.ok_inv {r : Res α} {a : α} {s' : Sys} (h : RRel Q (.ok a s') r) : ∃ u', r = .ok a u' ∧ Q s' u' := by
  cases r with
  | ok b u' => exact ⟨u', by rw [h.1], h.2⟩
  | err x u' => exact h.elim

theorem RRel.err_inv {r : Res α} {x : Exn} {s' : Sys} (h : RRel Q (.err x s') r) : ∃ u', r = .err x u' ∧ Q s' u' := by
  cases r with
  | ok b u' => exact h.elim
  | err y u' => exact ⟨u', by rw [h.1], h.2⟩

theorem rrel_weaken {Q' : Sys → Sys → Prop} (h : ∀ s u, Q s u → Q' s u) {r r' : Res α} (h0 : RRel Q r r') :
    RRel Q' r r' := by
  cases r <;> cases r' <;> first | exact h0.elim | exact ⟨h0.1, h _ _ h0.2⟩

theorem rs_pure (a : α) : RSpec Q (pure a : M α) (pure a) := fun _ _ q => ⟨rfl, q⟩
theorem rs_throwE (x : Exn) : RSpec Q (throwE x : M α) (throwE x) := fun _ _ q => ⟨rfl, q⟩
theorem rs_liftE (r : Except Exn α) : RSpec Q (liftE r) (liftE r) := by
  intro s u q; unfold liftE; cases r <;> exact ⟨rfl, q⟩

theorem rs_bind {m m' : M α} {f f' : α → M β} (hm : RSpec Q m m') (hf : ∀ a, RSpec Q (f a) (f' a)) :
    RSpec Q (m >>= f) (m' >>= f') := by
  intro s u q
  have h0 := hm s u q
  cases h : m s with
  | ok a s1 =>
    rw [h] at h0; obtain ⟨u1, h', q1⟩ := h0.ok_inv
    rw [bind_ok h, bind_ok h']; exact hf a s1 u1 q1
  | err x s1 =>
    rw [h] at h0; obtain ⟨u1, h', q1⟩ := h0.err_inv
    rw [bind_err h, bind_err h']; exact ⟨rfl, q1⟩

theorem rs_tryC {m m' : M α} {h h' : Exn → M α} (hm : RSpec Q m m') (hh : ∀ x, RSpec Q (h x) (h' x)) :
    RSpec Q (tryC m h) (tryC m' h') := by
  intro s u q
  have h0 := hm s u q
  cases e : m s with
  | ok a s1 =>
    rw [e] at h0; obtain ⟨u1, e', q1⟩ := h0.ok_inv
    rw [tryC_ok e, tryC_ok e']; exact ⟨rfl, q1⟩
  | err x s1 =>
    rw [e] at h0; obtain ⟨u1, e', q1⟩ := h0.err_inv
    rw [tryC_err e, tryC_err e']; exact hh x s1 u1 q1

theorem rs_getS_bind {f f' : Sys → M α} (h : ∀ s u, Q s u → RSpec Q (f s) (f' u)) :
    RSpec Q (getS >>= f) (getS >>= f') := fun s u q => h s u q s u q

theorem rs_modS {f f' : Sys → Sys} (h : ∀ s u, Q s u → Q (f s) (f' u)) : RSpec Q (modS f) (modS f') :=
  fun s u q => ⟨rfl, h s u q⟩

theorem rs_ite (c : Prop) [Decidable c] {m m' k k' : M α} (hm : RSpec Q m m') (hk : RSpec Q k k') :
    RSpec Q (if c then m else k) (if c then m' else k') := by split <;> assumption

theorem rs_if {c : Sys → Prop} [∀ s, Decidable (c s)] {A A' B B' : M α} (hc : ∀ s u, Q s u → (c s ↔ c u))
    (hA : RSpec Q A A') (hB : RSpec Q B B') :
    RSpec Q (fun s => if c s then A s else B s) (fun s => if c s then A' s else B' s) := by
  intro s u q
  show RRel Q (if c s then A s else B s) (if c u then A' u else B' u)
  by_cases h : c s
  · rw [if_pos h, if_pos ((hc s u q).mp h)]; exact hA s u q
  · rw [if_neg h, if_neg (fun h' => h ((hc s u q).mpr h'))]; exact hB s u q

structure ActRel (Q : Sys → Sys → Prop) : Prop where
  cfg : ∀ {s u}, Q s u → s.cfg = u.cfg
  sockOpen : ∀ {s u}, Q s u → s.sockOpen = u.sockOpen
  closed : ∀ {s u}, Q s u → s.closed = u.closed
  closing : ∀ {s u}, Q s u → s.closing = u.closing
  compression : ∀ {s u}, Q s u → s.compression = u.compression
  key : ∀ {s u}, Q s u → s.cfg.maskKey s.keyCtr = u.cfg.maskKey u.keyCtr
  outcome : ∀ d z {s u}, Q s u → writeOutcome d z s = writeOutcome d z u
  sockClosed : ∀ {s u}, Q s u →
    Q { s with sockOpen := false, trace := .sockClose :: s.trace } { u with sockOpen := false, trace := .sockClose :: u.trace }
  wrote : ∀ (w : Option Obs) {s u}, Q s u → Q (wrote s w) (wrote u w)
  drawn : ∀ {s u}, Q s u → Q { s with keyCtr := s.keyCtr + 1 } { u with keyCtr := u.keyCtr + 1 }
  logged : ∀ (o : Obs) {s u}, Q s u → Q { s with trace := o :: s.trace } { u with trace := o :: u.trace }
  abandoned : ∀ (w : Bool) {s u}, Q s u → Q { s with abandonedWith := w } { u with abandonedWith := w }
  closeSent : ∀ {s u}, Q s u → Q (markClosing s) (markClosing u)

theorem ActRel.closeSocket (L : ActRel Q) : RSpec Q closeSocket closeSocket :=
  rs_if (c := fun s => s.sockOpen = true) (fun s u q => by rw [L.sockOpen q])
    (rs_modS (fun _ _ q => L.sockClosed q)) (rs_modS (f := id) (fun _ _ q => q))

theorem ActRel.write (L : ActRel Q) (d : Bytes) (z : Option (Nat × Bytes)) : RSpec Q (write d z) (write d z) := by
  intro s u q
  rw [write_eq, write_eq, ← L.outcome d z q]
  exact ⟨rfl, L.wrote _ q⟩

theorem ActRel.sendFrame (L : ActRel Q) (op : Nat) (pl : Bytes) (c : Option Bytes) :
    RSpec Q (sendFrame op pl c) (sendFrame op pl c) := by
  intro s u q
  unfold Core.sendFrame
  simp only []
  rw [← L.key q]
  cases c with
  | some plain => exact L.write _ _ _ _ (L.drawn q)
  | none =>
    simp only []
    cases Frame.build op pl (s.cfg.maskKey s.keyCtr) with
    | some bytes => exact L.write _ _ _ _ (L.drawn q)
    | none => exact ⟨rfl, L.drawn q⟩

theorem ActRel.sendData (L : ActRel Q) (op : Nat) (pl : Bytes) (c : Bool) : RSpec Q (sendData op pl c) (sendData op pl c) :=
  rs_if (c := fun s => c = true ∧ s.compression.isSome = true) (fun s u q => by rw [L.compression q])
    (L.sendFrame _ _ _) (L.sendFrame _ _ _)

theorem ActRel.wsClose (L : ActRel Q) (c : Option Nat) (r : Arg) : RSpec Q (wsClose c r) (wsClose c r) := by
  intro s u q
  by_cases h : s.closed = true ∨ s.closing = true
  · rw [wsClose_noop c r s h, wsClose_noop c r u (by rw [← L.closed q, ← L.closing q]; exact h)]
    exact ⟨rfl, q⟩
  · have h1 : s.closed = false := Bool.eq_false_iff.mpr (fun hc => h (Or.inl hc))
    have h2 : s.closing = false := Bool.eq_false_iff.mpr (fun hc => h (Or.inr hc))
    rw [wsClose_live c r s h1 h2, wsClose_live c r u (by rw [← L.closed q]; exact h1) (by rw [← L.closing q]; exact h2),
      ← L.cfg q]
    cases argBytes r with
    | none =>
      simp only []
      by_cases hc : s.cfg.v.closeArgs = true ∧ codeTooBig c = true
      · rw [if_pos hc, if_pos hc]; exact ⟨rfl, q⟩
      · rw [if_neg hc, if_neg hc]; exact ⟨rfl, q⟩
    | some rb =>
      simp only []
      by_cases hc : s.cfg.v.closeArgs = true ∧ (codeTooBig c = true ∨ (buildClosePayload c rb).length > 125)
      · rw [if_pos hc, if_pos hc]; exact ⟨rfl, q⟩
      · rw [if_neg hc, if_neg hc]
        by_cases hb : codeTooBig c = true
        · rw [if_pos hb, if_pos hb]; exact ⟨rfl, q⟩
        · rw [if_neg hb, if_neg hb]
          have h0 := L.sendFrame Gen.opClose (buildClosePayload c rb) none s u q
          cases h : Core.sendFrame Gen.opClose (buildClosePayload c rb) none s with
          | ok a s1 => rw [h] at h0; obtain ⟨u1, h', q1⟩ := h0.ok_inv; rw [h']; exact ⟨rfl, L.closeSent q1⟩
          | err x s1 => rw [h] at h0; obtain ⟨u1, h', q1⟩ := h0.err_inv; rw [h']; exact ⟨rfl, q1⟩

theorem ActRel.logRes (L : ActRel Q) {m m' : M ActRes} (h : RSpec Q m m') : RSpec Q (logRes m) (logRes m') :=
  rs_bind h (fun r => rs_modS (fun _ _ q => L.logged (.res r) q))

theorem ActRel.doAct (L : ActRel Q) (a : Act) : RSpec Q (doAct a) (doAct a) := by
  rcases doAct_elim (P := fun m => RSpec Q m m) a (fun r _ => rs_pure r)
      (fun _ _ _ _ => L.sendData _ _ _) (fun _ _ _ _ => L.sendFrame _ _ _) (fun _ _ _ => L.wsClose _ _)
      (fun _ => rs_bind L.closeSocket (fun _ => rs_pure _)) with ⟨w, rfl⟩ | ⟨m, e, hm⟩
  · exact fun _ _ q => ⟨rfl, L.abandoned w q⟩
  · rw [e]; exact L.logRes hm

theorem ActRel.doActs (L : ActRel Q) (as : List Act) : RSpec Q (doActs as) (doActs as) := by
  induction as with
  | nil => exact rs_pure ()
  | cons a r ih => unfold Core.doActs; exact rs_bind (L.doAct a) (fun _ => ih)

structure YieldRel (Q : Sys → Sys → Prop) : Prop extends ActRel Q where
  setFlags : ∀ (a b : Bool) {s u}, Q s u → Q { s with closing := a, closed := b } { u with closing := a, closed := b }
  setClosing : ∀ {s u}, Q s u → Q { s with closing := true } { u with closing := true }
  becameReady : ∀ {s u}, Q s u →
    Q { s with lastPong := 0, nextPing := 0, startTime := some s.now, ready := true }
      { u with lastPong := 0, nextPing := 0, startTime := some u.now, ready := true }
  gotPong : ∀ {s u}, Q s u → Q { s with lastPong := sessionTime s } { u with lastPong := sessionTime u }
  yieldEv : ∀ e, RSpec Q (yieldEv e) (yieldEv e)
  regular : RSpec Q regular regular

theorem YieldRel.onEvent (L : YieldRel Q) (e : Event) : RSpec Q (onEvent e) (onEvent e) := by
  intro s u q
  unfold Core.onEvent
  cases e with
  | ready _ _ => exact ⟨rfl, L.becameReady q⟩
  | pong _ => exact ⟨rfl, L.gotPong q⟩
  | ping data =>
    simp only []
    rw [← L.cfg q]
    split
    · split
      · exact ⟨rfl, q⟩
      · have h0 := L.sendFrame Gen.opPong data none s u q
        cases h : Core.sendFrame Gen.opPong data none s with
        | ok a s1 => rw [h] at h0; obtain ⟨u1, h', q1⟩ := h0.ok_inv; rw [h']; exact ⟨rfl, q1⟩
        | err x s1 => rw [h] at h0; obtain ⟨u1, h', q1⟩ := h0.err_inv; rw [h']; exact ⟨rfl, q1⟩
    · exact ⟨rfl, q⟩
  | _ => exact ⟨rfl, q⟩

theorem rs_checkCloseCode (c : Option Nat) : RSpec Q (checkCloseCode c) (checkCloseCode c) := by
  unfold checkCloseCode; splits <;> first | exact rs_pure _ | exact rs_throwE _

theorem rs_raiseIfArgError (r : ActRes) : RSpec Q (raiseIfArgError r) (raiseIfArgError r) := by
  unfold raiseIfArgError; split <;> first | exact rs_pure _ | exact rs_throwE _

theorem YieldRel.onDisconnect (L : YieldRel Q) : RSpec Q onDisconnect onDisconnect :=
  rs_bind L.closeSocket (fun _ => rs_modS (fun _ _ q => L.setFlags false true q))

theorem YieldRel.feedYield (L : YieldRel Q) (b : Bool) (e : Event) : RSpec Q (feedYield b e) (feedYield b e) :=
  rs_tryC (rs_bind (L.onEvent e) (fun _ => rs_bind (L.yieldEv e) (fun _ => L.regular)))
    (fun _ => rs_bind (rs_ite _ L.onDisconnect (rs_pure _)) (fun _ => rs_throwE _))

theorem YieldRel.onClose (L : YieldRel Q) (c : Option Nat) (r : List Nat) : RSpec Q (onClose c r) (onClose c r) := by
  unfold Core.onClose
  refine rs_bind (rs_checkCloseCode c) (fun _ => rs_getS_bind (fun s u q => ?_))
  rw [L.closed q, L.closing q]
  split
  · exact rs_pure _
  · split
    · exact rs_bind (L.feedYield _ _) (fun _ => rs_modS (fun _ _ q => L.setFlags false true q))
    · exact rs_bind (L.feedYield _ _) (fun _ => rs_bind (L.wsClose _ _) (fun r =>
        rs_bind (rs_raiseIfArgError r) (fun _ => rs_modS (fun _ _ q => L.setClosing q))))

theorem YieldRel.onMessage (L : YieldRel Q) (m : Msg) : RSpec Q (onMessage m) (onMessage m) := by
  unfold Core.onMessage
  split <;> first | exact L.onClose _ _ | exact L.feedYield _ _ | exact rs_pure _

structure RecvRel (Q : Sys → Sys → Prop) : Prop extends YieldRel Q where
  p : ∀ {s u}, Q s u → s.p = u.p
  frames : ∀ {s u}, Q s u → s.frames = u.frames
  decompress : ∀ {s u}, Q s u → s.decompress = u.decompress
  setP : ∀ (p' : PState) {s u}, Q s u → Q { s with p := p' } { u with p := p' }
  setFrames : ∀ (g : List Frame → List Frame) {s u}, Q s u → Q { s with frames := g s.frames } { u with frames := g u.frames }
  setParsed : ∀ {s u}, Q s u → Q { s with parsedResponse := true } { u with parsedResponse := true }
  accept : ∀ (d : Option Http.DeflateCfg) {s u}, Q s u →
    Q { s with compression := d, decompress := d.isSome, p := if d.isSome then { s.p with compression := true } else s.p }
      { u with compression := d, decompress := d.isSome, p := if d.isSome then { u.p with compression := true } else u.p }
  inflHist : ∀ {s u}, Q s u → s.inflHist = u.inflHist
  inflOut : ∀ {s u}, Q s u → s.inflOut = u.inflOut
  inflated : ∀ (h : Bytes) (n : Nat) {s u}, Q s u → Q { s with inflHist := h, inflOut := n } { u with inflHist := h, inflOut := n }

theorem RecvRel.inflateMessage (L : RecvRel Q) (j : Bytes) : RSpec Q (inflateMessage j) (inflateMessage j) := by
  intro s u q
  unfold Core.inflateMessage
  simp only []
  have h1 : (u.compression.map (·.decompressWbits)).getD 15 = (s.compression.map (·.decompressWbits)).getD 15 := by
    rw [L.compression q]
  have h2 : (u.compression.map (·.resetDecompress)).getD false = (s.compression.map (·.resetDecompress)).getD false := by
    rw [L.compression q]
  rw [h1, h2, ← L.inflHist q, ← L.inflOut q, show u.cfg.inflate = s.cfg.inflate from congrArg Cfg.inflate (L.cfg q).symm]
  split
  · exact ⟨rfl, q⟩
  · split
    · exact ⟨rfl, L.inflated _ _ q⟩
    · exact ⟨rfl, L.inflated _ _ q⟩

theorem RecvRel.buildMessage (L : RecvRel Q) (fs : List Frame) : RSpec Q (buildMessage fs) (buildMessage fs) := by
  unfold Core.buildMessage
  split
  · exact rs_throwE _
  · simp only []
    refine rs_getS_bind (fun s u q => ?_)
    rw [L.decompress q]
    exact rs_bind (rs_ite _ (L.inflateMessage _) (rs_pure _)) (fun _ => rs_liftE _)

theorem RecvRel.onDataFrame (L : RecvRel Q) (f : Frame) : RSpec Q (onDataFrame f) (onDataFrame f) := by
  unfold Core.onDataFrame
  refine rs_getS_bind (fun s u q => ?_)
  rw [L.frames q]
  split
  · exact rs_throwE _
  · split
    · exact rs_throwE _
    · refine rs_bind (rs_modS (fun _ _ q => L.setFrames (· ++ [f]) q)) (fun _ => ?_)
      split
      · refine rs_getS_bind (fun s u q => ?_)
        rw [L.frames q]
        exact rs_bind (L.buildMessage _) (fun m => rs_bind (L.toYieldRel.onMessage m) (fun _ =>
          rs_modS (fun _ _ q => L.setFrames (fun _ => []) q)))
      · exact rs_pure _

theorem ActRel.notClosed (L : ActRel Q) : RSpec Q notClosed notClosed :=
  fun s u q => by unfold Core.notClosed; rw [L.closed q]; exact ⟨rfl, q⟩

theorem RecvRel.onFrame (L : RecvRel Q) (f : Frame) : RSpec Q (onFrame f) (onFrame f) := by
  unfold Core.onFrame
  split
  · exact rs_bind (L.buildMessage _) (fun m => L.toYieldRel.onMessage m)
  · exact L.onDataFrame _

theorem RecvRel.onOut (L : RecvRel Q) (o : Out) : RSpec Q (onOut o) (onOut o) := by
  cases o with
  | frame f => exact rs_bind (L.onFrame f) (fun _ => L.notClosed)
  | header data =>
    unfold Core.onOut
    refine rs_getS_bind (fun s u q => ?_)
    rw [L.cfg q]
    cases Http.onResponse u.cfg.v.strictAccept u.cfg.challenge (Http.parseResponse data) with
    | error reason =>
      exact rs_bind (rs_modS (fun _ _ q => L.setParsed q)) (fun _ => rs_bind L.toYieldRel.onDisconnect (fun _ =>
        rs_bind (L.toYieldRel.feedYield _ _) (fun _ => rs_pure _)))
    | ok acc =>
      exact rs_bind (rs_modS (fun _ _ q => L.accept acc.deflate q)) (fun _ =>
        rs_bind (L.toYieldRel.feedYield _ _) (fun _ =>
          rs_bind (rs_modS (fun _ _ q => L.setParsed q)) (fun _ => L.notClosed)))

theorem RecvRel.feedLoop (L : RecvRel Q) (data : Bytes) : RSpec Q (feedLoop data) (feedLoop data) := by
  induction h : data.length using Nat.strongRecOn generalizing data with
  | _ n ih =>
    intro s u q
    rw [Core.feedLoop, Core.feedLoop.eq_1 data u]
    by_cases hd : data = []
    · simp only [hd, dite_true]; exact ⟨rfl, q⟩
    · simp only [hd, dite_false]
      rw [show u.cfg.v = s.cfg.v from congrArg Cfg.v (L.cfg q).symm, ← L.p q]
      have hlt : (data.drop (s.p.remPred + 1)).length < n := by
        have : data.length ≠ 0 := fun hl => hd (List.eq_nil_of_length_eq_zero hl)
        simp only [List.length_drop]; omega
      cases biteBytes s.cfg.v s.p (data.take (s.p.remPred + 1)) with
      | error x => exact ⟨rfl, L.setP _ q⟩
      | ok r =>
        obtain ⟨p', out⟩ := r
        cases out with
        | none => exact ih _ hlt _ rfl _ _ (L.setP p' q)
        | some o =>
          simp only
          have ho := L.onOut o _ _ (L.setP p' q)
          cases hr : Core.onOut o { s with p := p' } with
          | err x s2 => rw [hr] at ho; obtain ⟨u2, hr', q2⟩ := ho.err_inv; rw [hr']; exact ⟨rfl, q2⟩
          | ok go s2 =>
            rw [hr] at ho; obtain ⟨u2, hr', q2⟩ := ho.ok_inv; rw [hr']
            cases go with
            | true => exact ih _ hlt _ rfl _ _ q2
            | false => exact ⟨rfl, q2⟩

theorem RecvRel.afterHeader (L : RecvRel Q) (rest : Bytes) (out : Option Out) :
    RSpec Q (afterHeader rest out) (afterHeader rest out) := by
  unfold Core.afterHeader
  split
  · refine rs_bind (L.onOut _) (fun go => ?_)
    split
    · exact rs_bind (L.feedLoop _) (fun _ => rs_pure _)
    · exact rs_pure _
  · exact rs_bind (L.feedLoop _) (fun _ => rs_pure _)

theorem RecvRel.feedHandler (L : RecvRel Q) (x : Exn) : RSpec Q (feedHandler x) (feedHandler x) := by
  unfold Core.feedHandler
  split
  · exact rs_bind (L.toYieldRel.feedYield _ _) (fun _ => rs_throwE _)
  · exact rs_bind (L.toYieldRel.feedYield _ _) (fun _ => rs_throwE _)
  · exact rs_bind (L.toYieldRel.feedYield _ _) (fun _ => rs_bind (L.wsClose _ _) (fun r =>
      rs_bind (rs_raiseIfArgError r) (fun _ => rs_throwE _)))
  · exact rs_throwE _

theorem rs_unwrapOuter (x : Exn) : RSpec Q (unwrapOuter x) (unwrapOuter x) := by
  unfold unwrapOuter; split <;> exact rs_throwE _

theorem RecvRel.feedHeader (L : RecvRel Q) (data : Bytes) : RSpec Q (feedHeader data) (feedHeader data) := by
  intro s u q
  unfold Core.feedHeader
  simp only []
  rw [show u.cfg.v = s.cfg.v from congrArg Cfg.v (L.cfg q).symm, ← L.p q]
  split
  · split
    · exact ⟨rfl, L.setP _ q⟩
    · exact ⟨rfl, L.setP _ q⟩
  · split
    · exact ⟨rfl, L.setP _ q⟩
    · split
      · exact ⟨rfl, L.setP _ q⟩
      · exact L.afterHeader _ _ _ _ (L.setP _ q)

theorem RecvRel.feedBody (L : RecvRel Q) (data : Bytes) : RSpec Q (feedBody data) (feedBody data) := by
  intro s u q
  unfold Core.feedBody
  rw [← L.p q]
  split
  · exact L.feedHeader data s u q
  · have h := L.feedLoop data s u q
    cases hr : Core.feedLoop data s with
    | ok b s2 => rw [hr] at h; obtain ⟨u2, hr', q2⟩ := h.ok_inv; rw [hr']; exact ⟨rfl, q2⟩
    | err x s2 => rw [hr] at h; obtain ⟨u2, hr', q2⟩ := h.err_inv; rw [hr']; exact ⟨rfl, q2⟩

theorem RecvRel.wsFeed (L : RecvRel Q) (data : Bytes) : RSpec Q (wsFeed data) (wsFeed data) :=
  rs_if (c := fun s => s.closed = true) (A := pure ()) (A' := pure ()) (fun s u q => by rw [L.closed q])
    (rs_pure ()) (rs_tryC (rs_tryC (L.feedBody data) L.feedHandler) rs_unwrapOuter)

theorem YieldRel.onEof (L : YieldRel Q) : RSpec Q onEof onEof :=
  rs_if (c := fun s => ¬ s.closing = true ∧ ¬ s.closed = true) (A := throwE (.socketFail "connection-lost"))
    (A' := throwE (.socketFail "connection-lost")) (B := pure false) (B' := pure false)
    (fun s u q => by rw [L.closing q, L.closed q]) (rs_throwE _) (rs_pure _)

theorem RecvRel.recvStep (L : RecvRel Q) (o : RecvOutcome) :
    RSpec Q (recvStep o) (recvStep o) := by
  intro s u q
  unfold Core.recvStep
  rw [← L.sockOpen q]
  split
  · exact L.toYieldRel.onEof s u q
  · cases o with
    | sockErr => exact ⟨rfl, q⟩
    | otherErr => exact ⟨rfl, q⟩
    | eof => exact L.toYieldRel.onEof s u q
    | data bs =>
      simp only []
      split
      · exact L.toYieldRel.onEof s u q
      · have h := L.wsFeed bs s u q
        cases hr : Core.wsFeed bs s with
        | ok b s2 => rw [hr] at h; obtain ⟨u2, hr', q2⟩ := h.ok_inv; rw [hr']; exact ⟨rfl, q2⟩
        | err x s2 => rw [hr] at h; obtain ⟨u2, hr', q2⟩ := h.err_inv; rw [hr']; exact ⟨rfl, q2⟩

structure RunRel (Q : Sys → Sys → Prop) : Prop extends RecvRel Q where
  selOpen : ∀ {s u}, Q s u → s.selOpen = u.selOpen
  setSock : ∀ {s u}, Q s u → Q { s with sockOpen := true } { u with sockOpen := true }
  setSel : ∀ (b : Bool) {s u}, Q s u → Q { s with selOpen := b } { u with selOpen := b }
  selClosed : ∀ {s u}, Q s u →
    Q { s with selOpen := false, trace := .selClose :: s.trace } { u with selOpen := false, trace := .selClose :: u.trace }

theorem RunRel.selClose (L : RunRel Q) : RSpec Q selClose selClose :=
  rs_if (c := fun s => s.selOpen = true) (fun s u q => by rw [L.selOpen q])
    (rs_modS (fun _ _ q => L.selClosed q)) (rs_modS (f := id) (fun _ _ q => q))

theorem RunRel.onLoopEnd (L : RunRel Q) (r : Option Exn) : RSpec Q (onLoopEnd r) (onLoopEnd r) := by
  unfold Core.onLoopEnd
  split
  all_goals first
    | exact rs_bind L.closeSocket (fun _ => L.yieldEv _)
    | exact rs_throwE _

theorem RunRel.runBodyL (L : RunRel Q) {l l' : M Unit} (h : RSpec Q l l') : RSpec Q (runBodyL l) (runBodyL l') :=
  rs_bind (rs_tryC (rs_bind h (fun _ => rs_pure _)) (fun _ => rs_pure _)) (fun r => L.onLoopEnd r)

theorem RunRel.runFinally (L : RunRel Q) (x : Exn) : RSpec Q (runFinally x) (runFinally x) := by
  unfold Core.runFinally
  refine rs_getS_bind (fun s u q => ?_)
  rw [L.cfg q]
  exact rs_bind (rs_ite _ L.closeSocket (rs_pure _)) (fun _ => rs_bind L.selClose (fun _ => rs_throwE _))

theorem RunRel.runLoopL (L : RunRel Q) {l l' : M Unit} (h : RSpec Q l l') : RSpec Q (runLoopL l) (runLoopL l') :=
  rs_tryC (rs_bind (L.runBodyL h) (fun _ => L.selClose)) L.runFinally

theorem RunRel.yieldConnected (L : RunRel Q) (proxy : Bool) : RSpec Q (yieldConnected proxy) (yieldConnected proxy) := by
  unfold Core.yieldConnected
  refine rs_getS_bind (fun s u q => ?_)
  rw [L.cfg q]
  split
  · exact rs_tryC (L.yieldEv _) (fun x => rs_bind L.closeSocket (fun _ => rs_throwE _))
  · exact L.yieldEv _

theorem RunRel.afterConnectL (L : RunRel Q) {l l' : M Unit} (h : RSpec Q l l') (proxy sel : Bool) :
    RSpec Q (afterConnectL l proxy sel) (afterConnectL l' proxy sel) := by
  unfold Monitor.afterConnectL
  refine rs_bind (rs_modS (fun _ _ q => L.setSock q)) (fun _ => rs_getS_bind (fun s u q => ?_))
  rw [L.cfg q]
  refine rs_bind (L.write _ _) (fun r => ?_)
  split
  · exact rs_bind L.closeSocket (fun _ => L.yieldEv _)
  · exact rs_bind (L.yieldConnected proxy) (fun _ => rs_bind (rs_modS (fun _ _ q => L.setSel sel q)) (fun _ => L.runLoopL h))

theorem RunRel.runL (L : RunRel Q) {l l' : M Unit} (h : RSpec Q l l') : RSpec Q (runL l) (runL l') := by
  unfold Monitor.runL
  refine rs_bind (L.yieldEv _) (fun _ => rs_getS_bind (fun s u q => ?_))
  rw [L.cfg q]
  split
  · exact L.yieldEv _
  · exact L.yieldEv _
  · exact L.afterConnectL h _ _
  · exact L.afterConnectL (rs_throwE _) _ _

end Lomond.Core.Rel
