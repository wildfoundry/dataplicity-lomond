/-
  The loop call `.abandon` (the consumer closes the event generator while other threads send) and the hand-off of the
  lock.  `.abandon` is a straight-line program that contains `sockClose` (`abandon_straight`, `abandon_hasSC`); `AbInv`
  follows the abandoning thread through every entry on every socket (`abInv_stepN`): once it has finished, the socket is
  shut (`abInv_finished`), whatever the other threads did in between.  Under the lock invariant some unfinished thread
  can move: the holder is never itself waiting for the lock (`holder_enabled`, `someone_can_move`).  `nac_after`: what
  follows a chunk of a Close frame on the wire belongs to the same call.  `.connect` (from `initPre`) needs nothing here.
-/
import Lomond.Proofs.Threads

namespace Lomond.Threads
open Lomond

theorem initPre_prog (progs : Tid → List Call) (t : Tid) : ((initPre progs).th t).prog = progs t := rfl

/-- steps that never move the program pointer anywhere but to the next step -/
def straightStep : Step → Bool
  | .retIfClosed => false
  | .retIfClosing => false
  | .brIfClosing _ => false
  | .brIfErr _ => false
  | .chkSock => false
  | .chkClosed => false
  | .chkClosing => false
  | .chkBoth => false
  | .write1 _ => false
  | .write2 _ => false
  | _ => true

def straight (r : List Step) : Bool := r.all straightStep

def isSockClose : Step → Bool
  | .sockClose => true
  | _ => false

def hasSC (r : List Step) : Bool := r.any isSockClose

theorem abandon_straight (v : Variant) (cfg : Cfg) : straight (compile v cfg .abandon) = true := by
  simp only [compile]; split <;> rfl

theorem abandon_hasSC (v : Variant) (cfg : Cfg) : hasSC (compile v cfg .abandon) = true := by
  simp only [compile]; split <;> rfl

theorem exec_straight (v : Variant) (t : Tid) (st : Step) (r : List Step) (sh : Shared) (c : Cur)
    (h : straightStep st = true) : (exec v t st r sh c).2.rest = r ∧ (exec v t st r sh c).2.halt = c.halt := by
  cases st <;> first | exact ⟨rfl, rfl⟩ | cases h

theorem exec_shut_mono (v : Variant) (t : Tid) (st : Step) (r : List Step) (sh : Shared) (c : Cur)
    (h : sh.sockShut = true) : (exec v t st r sh c).1.sockShut = true := by
  rw [exec_sh]; cases st <;> first | exact h | rfl

theorem exec_sockClose_shut (v : Variant) (t : Tid) (r : List Step) (sh : Shared) (c : Cur) :
    (exec v t .sockClose r sh c).1.sockShut = true := rfl

/-- where the abandoning thread `l` stands, and what that means for the socket -/
inductive AbState (v : Variant) (cfg : Cfg) (s : State) (l : Tid) : Prop
  /-- the generator has not been closed yet -/
  | fresh : (s.th l).cur = none → (s.th l).pc = 0 → (s.th l).halted = false → AbState v cfg s l
  /-- inside `gen.close()`: the rest is straight-line, and `sockClose` is ahead unless the socket is already shut -/
  | inside (c : Cur) : (s.th l).cur = some c → (s.th l).pc = 0 → (s.th l).halted = false → c.halt = false →
      straight c.rest = true → (hasSC c.rest = true ∨ s.sh.sockShut = true) → AbState v cfg s l
  /-- `gen.close()` has returned -/
  | done : (s.th l).cur = none → (s.th l).pc = 1 → s.sh.sockShut = true → AbState v cfg s l

structure AbInv (v : Variant) (cfg : Cfg) (s : State) (l : Tid) : Prop where
  prog : (s.th l).prog = [.abandon]
  st : AbState v cfg s l

theorem abInv_init (v : Variant) (cfg : Cfg) (progs : Tid → List Call) (l : Tid) (h : progs l = [.abandon]) :
    AbInv v cfg (init progs) l :=
  ⟨h, .fresh rfl rfl rfl⟩

theorem abInv_other (v : Variant) (cfg : Cfg) (s : State) (l t : Tid) (I : AbInv v cfg s l) (hu : l ≠ t)
    (p : Shared × Cur) (hmono : s.sh.sockShut = true → p.1.sockShut = true) :
    AbInv v cfg (setTh s t (settle (s.th t) p.2) p.1) l := by
  refine ⟨by rw [setTh_other _ _ _ _ _ hu]; exact I.prog, ?_⟩
  cases I.st with
  | fresh h1 h2 h3 =>
    exact .fresh (by rw [setTh_other _ _ _ _ _ hu]; exact h1) (by rw [setTh_other _ _ _ _ _ hu]; exact h2)
      (by rw [setTh_other _ _ _ _ _ hu]; exact h3)
  | inside c2 h1 h2 h3 h4 h5 h6 =>
    refine .inside c2 (by rw [setTh_other _ _ _ _ _ hu]; exact h1) (by rw [setTh_other _ _ _ _ _ hu]; exact h2)
      (by rw [setTh_other _ _ _ _ _ hu]; exact h3) h4 h5 ?_
    rcases h6 with h | h
    · exact Or.inl h
    · exact Or.inr (by rw [setTh_sh]; exact hmono h)
  | done h1 h2 h3 =>
    exact .done (by rw [setTh_other _ _ _ _ _ hu]; exact h1) (by rw [setTh_other _ _ _ _ _ hu]; exact h2)
      (by rw [setTh_sh]; exact hmono h3)

/-- the abandoning thread runs a straight-line program that contains `sockClose` and writes nothing; the others cannot
    undo anything, on any socket -/
theorem abInv_stepN (env : Env) (v : Variant) (cfg : Cfg) (s : State) (l t : Tid) (I : AbInv v cfg s l) :
    AbInv v cfg (stepN env v cfg s t) l := by
  rcases stepN_entry env v cfg s t with e | ⟨c, st, r, hc, hr, hb, hh, _, e⟩
  · rw [e]; exact I
  · rw [e]
    by_cases hu : l = t
    · subst hu
      refine ⟨by rw [setTh_same, settle_prog]; exact I.prog, ?_⟩
      -- the call in progress of `l` is `.abandon` (fresh) or the stored straight-line rest
      have key : c.halt = false ∧ straight c.rest = true ∧ (hasSC c.rest = true ∨ s.sh.sockShut = true) ∧
          (s.th l).pc = 0 := by
        cases I.st with
        | fresh h1 h2 h3 =>
          rcases current_cases hc with h | ⟨_, call, hp, rfl⟩
          · rw [h1] at h; cases h
          · rw [I.prog, h2] at hp
            cases hp
            exact ⟨rfl, abandon_straight v cfg, Or.inl (abandon_hasSC v cfg), h2⟩
        | inside c2 h1 h2 h3 h4 h5 h6 =>
          rcases current_cases hc with h | ⟨h, _⟩
          · rw [h1] at h; cases h; exact ⟨h4, h5, h6, h2⟩
          · rw [h1] at h; cases h
        | done h1 h2 h3 =>
          rcases current_cases hc with h | ⟨_, call, hp, _⟩
          · rw [h1] at h; cases h
          · rw [I.prog, h2] at hp; cases hp
      obtain ⟨hhalt, hstr, hsc, hpc⟩ := key
      rw [hr] at hstr hsc
      simp only [straight, List.all_cons, Bool.and_eq_true] at hstr
      have hnw : isWrite st = false := by cases st <;> first | rfl | cases hstr.1
      rw [execN_not_write env v l st r s.sh c hnw]
      have hmono := exec_shut_mono v l st r s.sh c
      obtain ⟨hrest, hhalt'⟩ := exec_straight v l st r s.sh c hstr.1
      have hshut : hasSC r = true ∨ (exec v l st r s.sh c).1.sockShut = true := by
        rcases hsc with h | h
        · simp only [hasSC, List.any_cons, Bool.or_eq_true] at h
          rcases h with h | h
          · right
            cases st <;> first | (cases h; done) | rfl
          · exact Or.inl h
        · exact Or.inr (hmono h)
      generalize exec v l st r s.sh c = p at hrest hhalt' hshut hmono
      have hth : (setTh s l (settle (s.th l) p.2) p.1).th l = settle (s.th l) p.2 := setTh_same _ _ _ _
      by_cases hfin : p.2.rest = []
      · have h1 : (settle (s.th l) p.2).cur = none := by unfold settle; simp [hfin]
        have h2 : (settle (s.th l) p.2).pc = 1 := by unfold settle; simp [hfin, hpc]
        refine .done (by rw [hth]; exact h1) (by rw [hth]; exact h2) ?_
        rw [setTh_sh]
        rcases hshut with h | h
        · rw [← hrest, hfin] at h; cases h
        · exact h
      · have h1 : (settle (s.th l) p.2).cur = some p.2 := by unfold settle; simp [hfin]
        have h2 : (settle (s.th l) p.2).pc = 0 := by unfold settle; simp [hfin, hpc]
        have h3 : (settle (s.th l) p.2).halted = false := by unfold settle; simp [hfin, hh]
        refine .inside p.2 (by rw [hth]; exact h1) (by rw [hth]; exact h2) (by rw [hth]; exact h3)
          (by rw [hhalt', hhalt]) (by rw [hrest]; exact hstr.2) ?_
        rw [setTh_sh, hrest]; exact hshut
    · refine abInv_other v cfg s l t I hu _ fun h => ?_
      rw [(execN_frame env v t st r s.sh c).1]
      exact exec_shut_mono v t st r s.sh c h

theorem abInv_runN (env : Env) (v : Variant) (cfg : Cfg) (s : State) (l : Tid) (sched : List Tid) (I : AbInv v cfg s l) :
    AbInv v cfg (runN env v cfg s sched) l :=
  runN_keeps (fun s t => abInv_stepN env v cfg s l t) s sched I

theorem abInv_run (v : Variant) (cfg : Cfg) (s : State) (l : Tid) (sched : List Tid) (I : AbInv v cfg s l) :
    AbInv v cfg (run v cfg s sched) l :=
  runN_default v cfg s sched ▸ abInv_runN Env.two v cfg s l sched I

theorem abInv_finished {v : Variant} {cfg : Cfg} {s : State} {l : Tid} (I : AbInv v cfg s l)
    (h : (s.th l).current v cfg = none) : s.sh.sockShut = true := by
  cases I.st with
  | fresh h1 h2 h3 =>
    simp [Thread.current, h1, h2, h3, I.prog] at h
  | inside c h1 h2 h3 h4 h5 h6 =>
    simp [Thread.current, h1, h3] at h
  | done _ _ h3 => exact h3

/-- with `nothingAfterClose`, whatever follows a chunk of a Close frame belongs to the same call (it is that frame's own
    second half) -/
theorem nac_after (pre : List Chunk) (y : Chunk) (rest : List Chunk)
    (h : nothingAfterClose (pre ++ y :: rest) = true) (hy : isClose y = true) :
    ∀ x ∈ rest, x.tid = y.tid ∧ x.idx = y.idx := by
  induction pre with
  | nil =>
    simp only [List.nil_append, nothingAfterClose, hy, if_true] at h
    cases rest with
    | nil => intro x hx; cases hx
    | cons d rest2 =>
      cases rest2 with
      | nil =>
        simp only [Bool.and_eq_true, decide_eq_true_eq] at h
        intro x hx
        simp only [List.mem_singleton] at hx
        subst hx
        exact ⟨h.1.1.2, h.1.2⟩
      | cons e rest3 => cases h
  | cons c pre ih =>
    simp only [List.cons_append, nothingAfterClose] at h
    by_cases hc : isClose c = true
    · simp only [hc, if_true] at h
      cases pre with
      | nil =>
        cases rest with
        | nil => intro x hx; cases hx
        | cons d rest2 => simp at h
      | cons c2 pre2 =>
        cases pre2 with
        | nil => simp at h
        | cons c3 pre3 => simp at h
    · simp only [hc] at h
      exact ih h

theorem holder_enabled {v : Variant} {cfg : Cfg} {s : State} (L : LockInv v cfg s) {h : Tid}
    (hl : s.sh.lock = some h) : enabled v cfg s h = true := by
  have hh : holds (view v cfg (s.th h)) = true := (L.holder h).mpr hl
  unfold enabled
  unfold view at hh
  cases hc : (s.th h).current v cfg with
  | none => rw [hc] at hh; cases hh
  | some c =>
    rw [hc] at hh
    simp only at hh ⊢
    unfold blockedOn
    cases hr : c.rest with
    | nil => rfl
    | cons st r =>
      rw [hr] at hh
      cases st <;> first | rfl | (simp [holds] at hh)

/-- **no deadlock**: if some thread is unfinished, some thread can take a step (with the lock free: that very
    thread; with the lock held: its holder, which is inside its critical section and never waits) -/
theorem someone_can_move {v : Variant} {cfg : Cfg} {s : State} (L : LockInv v cfg s) (t : Tid)
    (ht : (s.th t).current v cfg ≠ none) : ∃ u, enabled v cfg s u = true := by
  cases hl : s.sh.lock with
  | some h => exact ⟨h, holder_enabled L hl⟩
  | none =>
    refine ⟨t, ?_⟩
    unfold enabled
    cases hc : (s.th t).current v cfg with
    | none => exact absurd hc ht
    | some c =>
      simp only
      unfold blockedOn
      split <;> simp [hl]

theorem enabled_current {v : Variant} {cfg : Cfg} {s : State} {t : Tid} (h : enabled v cfg s t = true) :
    (s.th t).current v cfg ≠ none := by
  unfold enabled at h
  intro hc; rw [hc] at h; cases h

end Lomond.Threads
