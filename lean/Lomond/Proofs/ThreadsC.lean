/-
  C12.  For every variant: when a write is armed (`armed`, `adisc`) and what may follow a chunk of a Close frame on the
  two-chunk wire (`nac_*`); these also serve the calm schedules of `Proofs/ThreadsP.lean`.  For the variant `closeAtomic`:
  the discipline of the repaired `close()` (`cdisc`: flag order) and what it says about one step; the invariant itself
  is `CInvN` (`Proofs/ThreadsNC.lean`), from which the two-chunk result follows.
-/
import Lomond.Proofs.ThreadsN

namespace Lomond.Threads
open Lomond

/-- a chunk of a Close frame is on the wire -/
def hasClose (w : List Chunk) : Bool := w.any isClose

/-- the thread has passed the three state checks of `session.write` and its write is still ahead -/
def armed : List Step → Bool
  | [] => false
  | .write1 _ :: _ => true
  | .release :: _ => false
  | .acquire :: _ => false
  | .chkSock :: _ => false
  | .chkClosed :: _ => false
  | .chkClosing :: _ => false
  | .ldClosing :: _ => false
  | .chkBoth :: _ => false
  | _ :: r => armed r

/-- repaired `_check_writable`: `closing` has been read, the test of `closed` comes next -/
def atChkBoth : List Step → Bool
  | .chkBoth :: _ => true
  | _ => false

def atChkClosing : List Step → Bool
  | .chkClosing :: _ => true
  | _ => false

def atClear : List Step → Bool
  | .setClosing false :: _ => true
  | _ => false

/-- the thread has written (part of) a Close frame and has not yet set `closing` (still under the lock) -/
def closerMid : List Step → Bool
  | .write2 f :: _ => f.op = 8
  | .setClosing true :: r => holds r
  | _ => false

/-- arming discipline (all variants): right after the acquire come the three state checks, the two
    flag tests are consecutive, and no write is armed before the `is_closing` test is passed -/
def adisc : List Step → Bool
  | [] => true
  | st :: r =>
    adisc r &&
    (match st with
     | .acquire => !armed r
     | .chkSock => !armed r
     | .chkClosed => atChkClosing r
     | .ldClosing => atChkBoth r
     | _ => true)

theorem adisc_tail {st : Step} {r : List Step} (h : adisc (st :: r) = true) : adisc r = true := by
  simp only [adisc, Bool.and_eq_true] at h; exact h.1

theorem compile_adisc (v : Variant) (cfg : Cfg) (call : Call) : adisc (compile v cfg call) = true := by
  cases call <;>
    simp only [compile, sendData, closeBody, writeProg, checks] <;>
    (repeat' split) <;> rfl

theorem alt_adisc (v : Variant) (a : Alt) : adisc (altSteps v a) = true := by
  cases a <;> simp only [altSteps, closeSocketProg] <;> (try split) <;> simp [adisc, armed]

/-- no `closing = True` is ahead -/
def noSC (r : List Step) : Bool :=
  r.all fun s => match s with | .setClosing true => false | _ => true

def cNext (st : Step) (r : List Step) : Bool :=
  match st with
  | .brIfErr _ => noSC r         -- the branch after the request write belongs to no `close()`
  | .chkClosed => false          -- the repaired `_check_writable` has `ldClosing; chkBoth` instead
  | .chkClosing => false
  | .setClosed => atClear r
  | .write2 f => if f.op = 8 then (match r with | .setClosing true :: r2 => holds r2 | _ => false) else true
  | _ => true

def cPrev (st : Step) (r : List Step) : Bool :=
  match r with
  | .chkBoth :: _ => (match st with | .ldClosing => true | _ => false)
  | .setClosing false :: _ => (match st with | .setClosed => true | _ => false)
  | .setClosing true :: r2 => if holds r2 then (match st with | .write2 f => f.op = 8 | _ => false) else true
  | _ => true

/-- discipline of the repaired `close()` and reply path: `closing` is set under the lock right
    after the Close frame, `closed` is set right before `closing` is cleared, the state checks
    read `closing` (into a local) right before they test `closed` -/
def cdisc : List Step → Bool
  | [] => true
  | st :: r => cdisc r && cNext st r && cPrev st r

theorem cdisc_tail {st : Step} {r : List Step} (h : cdisc (st :: r) = true) : cdisc r = true := by
  simp only [cdisc, Bool.and_eq_true] at h; exact h.1.1

theorem compile_cdisc (v : Variant) (cfg : Cfg) (call : Call) (hv : v.closeAtomic = true) :
    cdisc (compile v cfg call) = true := by
  cases call <;>
    simp only [compile, sendData, closeBody, writeProg, checks, hv, ↓reduceIte] <;>
    (repeat' split) <;> rfl

theorem alt_cdisc (v : Variant) (a : Alt) (hv : v.closeAtomic = true) : cdisc (altSteps v a) = true := by
  cases a <;> simp [altSteps, closeSocketProg, hv, cdisc, cNext, cPrev, atClear]

theorem alt_armed (v : Variant) (a : Alt) : armed (altSteps v a) = false := by
  cases a <;> simp only [altSteps, closeSocketProg] <;> (try split) <;> simp [armed]

theorem alt_atChk (v : Variant) (a : Alt) : atChkClosing (altSteps v a) = false := by
  cases a <;> simp only [altSteps, closeSocketProg] <;> (try split) <;> simp [atChkClosing]

theorem alt_atBoth (v : Variant) (a : Alt) : atChkBoth (altSteps v a) = false := by
  cases a <;> simp only [altSteps, closeSocketProg] <;> (try split) <;> simp [atChkBoth]

theorem compile_atBoth (v : Variant) (cfg : Cfg) (call : Call) : atChkBoth (compile v cfg call) = false :=
  compile_start (P := fun r => atChkBoth r = false) v cfg call fun st _ h => by cases st <;> first | rfl | cases h

theorem alt_atClear (v : Variant) (a : Alt) (hv : v.closeAtomic = true) : atClear (altSteps v a) = false := by
  cases a <;> simp [altSteps, closeSocketProg, hv, atClear]

theorem alt_closerMid (v : Variant) (a : Alt) : closerMid (altSteps v a) = false := by
  cases a <;> simp only [altSteps, closeSocketProg] <;> (try split) <;> simp [closerMid]

theorem compile_atChk (v : Variant) (cfg : Cfg) (call : Call) : atChkClosing (compile v cfg call) = false :=
  compile_start (P := fun r => atChkClosing r = false) v cfg call fun st _ h => by cases st <;> first | rfl | cases h

theorem compile_atClear (v : Variant) (cfg : Cfg) (call : Call) : atClear (compile v cfg call) = false :=
  compile_start (P := fun r => atClear r = false) v cfg call fun st _ h => by cases st <;> first | rfl | cases h

theorem compile_closerMid (v : Variant) (cfg : Cfg) (call : Call) : closerMid (compile v cfg call) = false :=
  compile_start (P := fun r => closerMid r = false) v cfg call fun st _ h => by cases st <;> first | rfl | cases h

theorem armed_out (r : List Step) (d : disc r = true) (h : holds r = false) : armed r = false := by
  induction r with
  | nil => rfl
  | cons s r ih =>
    have dt := disc_tail d
    cases s <;> simp only [armed, holds] at h ⊢ <;> first | rfl | exact ih dt h | skip
    -- write1 outside the lock contradicts the discipline
    simp only [disc, Bool.and_eq_true] at d
    have := d.1.2.1
    simp [h] at this

theorem armed_noWrite (r : List Step) (h : noWrite r = true) : armed r = false := by
  induction r with
  | nil => rfl
  | cons s r ih =>
    simp only [noWrite, List.all_cons, Bool.and_eq_true] at h
    cases s <;> simp only [armed] <;> first | rfl | exact ih h.2 | (simp [isWrite] at h)

theorem armed_holds (r : List Step) (d : disc r = true) (h : armed r = true) : holds r = true := by
  cases hh : holds r with
  | true => rfl
  | false => rw [armed_out r d hh] at h; cases h

theorem armed_toRelease (r : List Step) : armed (toRelease r) = false := by
  rcases toRelease_cases r with e | ⟨_, e⟩ <;> rw [e] <;> rfl

theorem closerMid_holds (r : List Step) (d : disc r = true) (h : closerMid r = true) : holds r = true := by
  cases r with
  | nil => cases h
  | cons st r =>
    cases st <;> simp only [closerMid] at h <;> try cases h
    · simp only [disc, Bool.and_eq_true] at d; simpa [holds] using d.1.2.1
    · rename_i b; cases b <;> simp only at h <;> first | cases h | simpa [holds] using h

theorem atBoth_prev {st : Step} {r : List Step} (p : cPrev st r = true) (h : atChkBoth r = true) : st = .ldClosing := by
  cases r with
  | nil => cases h
  | cons a r =>
    cases a with
    | chkBoth => cases st <;> first | rfl | cases p
    | _ => cases h

theorem atClear_prev {st : Step} {r : List Step} (p : cPrev st r = true) (h : atClear r = true) : st = .setClosed := by
  cases r with
  | nil => cases h
  | cons a r =>
    cases a with
    | setClosing b =>
      cases b with
      | false => cases st <;> first | rfl | cases p
      | true => cases h
    | _ => cases h

theorem cdisc_prev {st : Step} {r : List Step} (c : cdisc (st :: r) = true) : cPrev st r = true := by
  simp only [cdisc, Bool.and_eq_true] at c; exact c.2

theorem atBoth_afterClose (r : List Step) (c : cdisc r = true) : atChkBoth (afterClose r) = false := by
  induction r with
  | nil => rfl
  | cons s r ih =>
    cases s <;> first
      | exact ih (cdisc_tail c)
      | exact Bool.eq_false_iff.mpr fun h => Step.noConfusion (atBoth_prev (cdisc_prev c) h)

theorem atClear_afterClose (r : List Step) (c : cdisc r = true) : atClear (afterClose r) = false := by
  induction r with
  | nil => rfl
  | cons s r ih =>
    cases s <;> first
      | exact ih (cdisc_tail c)
      | exact Bool.eq_false_iff.mpr fun h => Step.noConfusion (atClear_prev (cdisc_prev c) h)

theorem atBoth_toRelease (r : List Step) : atChkBoth (toRelease r) = false := by
  rcases toRelease_cases r with e | ⟨_, e⟩ <;> rw [e] <;> rfl

theorem atClear_toRelease (r : List Step) : atClear (toRelease r) = false := by
  rcases toRelease_cases r with e | ⟨_, e⟩ <;> rw [e] <;> rfl

theorem PosInv.cdisc {v : Variant} {cfg : Cfg} {s : State} (P : PosInv v cfg s) (hv : v.closeAtomic = true) (t : Tid) :
    cdisc (view v cfg (s.th t)) = true :=
  P.obeys ⟨rfl, fun _ _ => cdisc_tail⟩ (fun call => compile_cdisc v cfg call hv) (fun a => alt_cdisc v a hv) t

theorem PosInv.adisc {v : Variant} {cfg : Cfg} {s : State} (P : PosInv v cfg s) (t : Tid) :
    adisc (view v cfg (s.th t)) = true :=
  P.obeys ⟨rfl, fun _ _ => adisc_tail⟩ (compile_adisc v cfg) (alt_adisc v) t

theorem moves_armed {v : Variant} {st : Step} {r r' : List Step} (m : Moves v st r r')
    (d : disc (st :: r) = true) (c : adisc (st :: r) = true) (h : armed r' = true) :
    ((st = .chkClosing ∨ st = .chkBoth) ∧ r' = r) ∨ (armed (st :: r) = true ∧ isWrite st = false) := by
  rcases moves_eq m with e | ⟨_, e⟩ | ⟨_, e⟩ | ⟨a, _, e⟩ <;> subst e
  · have dt := disc_tail d
    cases st with
    | chkClosing => exact Or.inl ⟨Or.inl rfl, rfl⟩
    | chkBoth => exact Or.inl ⟨Or.inr rfl, rfl⟩
    | acquire =>
      simp only [adisc, Bool.and_eq_true] at c
      have := c.2; simp [h] at this
    | chkSock =>
      simp only [adisc, Bool.and_eq_true] at c
      have := c.2; simp [h] at this
    | chkClosed =>
      simp only [adisc, Bool.and_eq_true] at c
      have := c.2
      cases r' with
      | nil => cases h
      | cons a r2 => cases a <;> simp [atChkClosing] at this; simp [armed] at h
    | ldClosing =>
      simp only [adisc, Bool.and_eq_true] at c
      have := c.2
      cases r' with
      | nil => cases h
      | cons a r2 => cases a <;> simp [atChkBoth] at this; simp [armed] at h
    | write1 f =>
      simp only [disc, Bool.and_eq_true] at d
      have h1 := d.1.2.2
      cases r' with
      | nil => cases h
      | cons a r2 =>
        cases a <;> simp at h1
        simp only [disc, Bool.and_eq_true] at dt
        have := armed_noWrite r2 dt.1.2.2
        simp [armed, this] at h
    | write2 f =>
      simp only [disc, Bool.and_eq_true] at d
      have := armed_noWrite r' d.1.2.2
      rw [this] at h; cases h
    | release =>
      simp only [disc, Bool.and_eq_true, Bool.not_eq_true'] at d
      rw [armed_out r' dt d.1.2.1] at h; cases h
    | _ => exact Or.inr ⟨by simpa [armed] using h, rfl⟩
  · rw [armed_out _ (disc_suffix (afterClose_suffix r) (disc_tail d)) (holds_afterClose r (disc_tail d))] at h
    cases h
  · rw [armed_toRelease] at h; cases h
  · rw [alt_armed] at h; cases h

theorem moves_atBoth {v : Variant} {st : Step} {r r' : List Step} (m : Moves v st r r')
    (c : cdisc (st :: r) = true) (h : atChkBoth r' = true) : st = .ldClosing ∧ r' = r := by
  rcases moves_eq m with e | ⟨_, e⟩ | ⟨_, e⟩ | ⟨a, _, e⟩ <;> subst e
  · exact ⟨atBoth_prev (cdisc_prev c) h, rfl⟩
  · rw [atBoth_afterClose r (cdisc_tail c)] at h; cases h
  · rw [atBoth_toRelease] at h; cases h
  · rw [alt_atBoth] at h; cases h

theorem moves_atClear {v : Variant} {st : Step} {r r' : List Step} (hv : v.closeAtomic = true)
    (m : Moves v st r r') (c : cdisc (st :: r) = true) (h : atClear r' = true) : st = .setClosed ∧ r' = r := by
  rcases moves_eq m with e | ⟨_, e⟩ | ⟨_, e⟩ | ⟨a, _, e⟩ <;> subst e
  · exact ⟨atClear_prev (cdisc_prev c) h, rfl⟩
  · rw [atClear_afterClose r (cdisc_tail c)] at h; cases h
  · rw [atClear_toRelease] at h; cases h
  · rw [alt_atClear v a hv] at h; cases h

theorem hasClose_append (w : List Chunk) (x : Chunk) : hasClose (w ++ [x]) = (hasClose w || isClose x) := by
  simp [hasClose, List.any_append]

theorem nac_one (w : List Chunk) (x : Chunk) (h : hasClose w = false) : nothingAfterClose (w ++ [x]) = true := by
  induction w with
  | nil => simp only [List.nil_append, nothingAfterClose]; split <;> rfl
  | cons c r ih =>
    simp only [hasClose, List.any_cons, Bool.or_eq_false_iff] at h
    simp only [List.cons_append, nothingAfterClose, h.1]
    exact ih h.2

theorem nac_two (w : List Chunk) (t : Tid) (i : Nat) (d : FrameDesc) (h : hasClose w = false) :
    nothingAfterClose (w ++ [⟨t, i, false, d⟩, ⟨t, i, true, d⟩]) = true := by
  induction w with
  | nil =>
    simp only [List.nil_append, nothingAfterClose]
    split
    · simp
    · rename_i hc
      have : isClose ⟨t, i, true, d⟩ = isClose ⟨t, i, false, d⟩ := rfl
      rw [this]
      simp [hc]
  | cons c r ih =>
    simp only [hasClose, List.any_cons, Bool.or_eq_false_iff] at h
    simp only [List.cons_append, nothingAfterClose, h.1]
    exact ih h.2

theorem closeCount_cons (c : Chunk) (r : List Chunk) :
    closeCount (c :: r) = (if c.second = true ∧ isClose c = true then 1 else 0) + closeCount r := by
  simp only [closeCount, frames, List.filter_cons]
  by_cases h1 : c.second = true
  · by_cases h2 : isClose c = true
    · simp [h1, h2]; omega
    · simp [h1, h2]
  · simp [h1]

theorem nac_count (w : List Chunk) (h : nothingAfterClose w = true) : closeCount w ≤ 1 := by
  induction w with
  | nil => simp [closeCount, frames]
  | cons c r ih =>
    simp only [nothingAfterClose] at h
    rw [closeCount_cons]
    by_cases hc : isClose c = true
    · simp only [hc, if_true] at h
      cases r with
      | nil => simp [closeCount, frames]; split <;> omega
      | cons d r2 =>
        cases r2 with
        | nil =>
          simp only [Bool.and_eq_true, Bool.not_eq_true'] at h
          have hcs : c.second = false := h.2
          rw [closeCount_cons]
          simp [hcs, closeCount, frames]
          split <;> omega
        | cons e r3 => cases h
    · simp only [hc] at h
      have := ih h
      simp [hc]; exact this

theorem compile_armed (v : Variant) (cfg : Cfg) (call : Call) : armed (compile v cfg call) = false :=
  armed_out _ (compile_disc v cfg call) (compile_holds v cfg call)

theorem descOf_op (f : FrameSrc) (c : Cur) : (descOf f c).op = f.op := by
  unfold descOf; split <;> (try split) <;> rfl

theorem exec_flags (v : Variant) (t : Tid) (st : Step) (r : List Step) (sh : Shared) (c : Cur) :
    (exec v t st r sh c).1.closed = (match st with | .setClosed => true | _ => sh.closed) ∧
    (exec v t st r sh c).1.closing = (match st with | .setClosing b => b | _ => sh.closing) := by
  rw [exec_sh]; cases st <;> exact ⟨rfl, rfl⟩

theorem closed_match_ne (st : Step) (b0 : Bool) :
    st ≠ .setClosed → (match st with | .setClosed => true | _ => b0) = b0 := by
  intro h; cases st <;> first | rfl | exact absurd rfl h

theorem closing_match_ne (st : Step) (b0 : Bool) :
    (¬ ∃ b, st = .setClosing b) → (match st with | .setClosing b => b | _ => b0) = b0 := by
  intro h; cases st <;> first | rfl | exact absurd ⟨_, rfl⟩ h

theorem exec_chkBoth (v : Variant) (t : Tid) (r : List Step) (sh : Shared) (c : Cur)
    (h : sh.closed = true ∨ c.ldc = true) : (exec v t .chkBoth r sh c).2.rest = toRelease r := by
  simp only [exec]
  rcases h with h | h
  · simp [h]
  · split <;> simp

theorem exec_ldc (v : Variant) (t : Tid) (st : Step) (r : List Step) (sh : Shared) (c : Cur) :
    (exec v t st r sh c).2.ldc = (match st with | .ldClosing => sh.closing | _ => c.ldc) := by
  cases st <;> simp only [exec] <;> (repeat' split) <;> rfl

theorem inOnly_holds {st : Step} {r : List Step} (d : disc (st :: r) = true) (h : inOnly st = true) :
    holds (st :: r) = true := by
  cases st with
  | chkSock | chkClosed | chkClosing | ldClosing | chkBoth =>
    simp only [disc, outOnly, inOnly, Bool.and_eq_true] at d
    have := d.1.2
    simp at this
    simpa [holds] using this.1
  | _ => cases h

end Lomond.Threads
