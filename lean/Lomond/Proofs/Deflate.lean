/-
  The token-level model of permessage-deflate (Model/Deflate.lean, property C06): a windowed
  inflater reproduces what the tokens mean as long as every distance fits the window
  (`lossless_from`); zlib's single-stream object against the RFC 7692 meaning with and without
  BFINAL=1 blocks, and the restart loop of the repaired `Deflate._inflate` (`repaired_eq_rfc`).
-/
import Lomond.Model.Deflate
namespace Lomond.Deflate
open Lomond

theorem take_append_take (a b : Bytes) (n : Nat) : (a ++ b.take n).take n = (a ++ b).take n := by
  rw [List.take_append, List.take_append, List.take_take]
  congr 2
  omega

theorem emitCopy_congr (d : Nat) (hd : 1 ≤ d) (rh1 rh2 : Bytes) (h : ∀ i, i < d → rh1[i]? = rh2[i]?) (n : Nat) :
    emitCopy d rh1 n = emitCopy d rh2 n := by
  induction n with
  | zero => rfl
  | succ n ih =>
    simp only [emitCopy, ih]
    congr 1
    simp only [List.getD_eq_getElem?_getD, List.getElem?_append]
    split
    · rfl
    · have hi : d - 1 - (emitCopy d rh2 n).length < d := by omega
      rw [h _ hi]

/-- a token that is valid after the full history `rh` with distance at most `lim` is decoded
    identically by an inflater that only kept the `w ≥ lim` newest bytes (of a possibly longer
    history) -/
theorem tokOut_window (lim w : Nat) (hl : lim ≤ w) (rh older : Bytes) (t : Token) (e : Bytes)
    (h : tokOut lim rh t = some e) : tokOut w ((rh ++ older).take w) t = some e := by
  cases t with
  | lit b => simpa [tokOut] using h
  | copy d n =>
    simp only [tokOut] at h ⊢
    split at h
    · rename_i hc
      obtain ⟨h1, h2, h3⟩ := hc
      have hlen : d ≤ ((rh ++ older).take w).length := by
        simp only [List.length_take, List.length_append]; omega
      rw [if_pos ⟨h1, by omega, hlen⟩]
      cases h
      congr 1
      apply emitCopy_congr d h1
      intro i hi
      rw [List.getElem?_take, if_pos (by omega), List.getElem?_append_left (by omega)]
    · cases h

/-- **one message**: if the tokens mean `out` after the history `rh` with all distances `≤ lim`,
    a `w`-byte-window inflater (`lim ≤ w`) whose window is the newest part of `rh ++ older`
    emits exactly `out` and ends with the newest part of `out ++ rh ++ older` -/
theorem inflTokens_of_expand (lim w : Nat) (hl : lim ≤ w) (toks : List Token) (rh older out : Bytes)
    (h : expand lim rh toks = some out) :
    inflTokens w ((rh ++ older).take w) toks = some (((out ++ rh) ++ older).take w, out) := by
  induction toks generalizing rh out with
  | nil => simp only [expand] at h; cases h; simp [inflTokens]
  | cons t ts ih =>
    simp only [expand] at h
    cases ht : tokOut lim rh t with
    | none => rw [ht] at h; cases h
    | some e =>
      rw [ht] at h
      simp only at h
      cases hx : expand lim (e ++ rh) ts with
      | none => rw [hx] at h; cases h
      | some out' =>
        rw [hx] at h
        cases h
        simp only [inflTokens, tokOut_window lim w hl rh older t e ht]
        rw [take_append_take, ← List.append_assoc e rh older, ih (e ++ rh) out' hx]
        simp [List.append_assoc]

theorem tokOut_mono (l1 l2 : Nat) (h12 : l1 ≤ l2) (rh : Bytes) (t : Token) (e : Bytes)
    (h : tokOut l1 rh t = some e) : tokOut l2 rh t = some e := by
  cases t with
  | lit b => simpa [tokOut] using h
  | copy d n =>
    simp only [tokOut] at h ⊢
    split at h
    · rename_i hc; rw [if_pos ⟨hc.1, by omega, hc.2.2⟩]; exact h
    · cases h

theorem expand_mono (l1 l2 : Nat) (h12 : l1 ≤ l2) (toks : List Token) (rh out : Bytes)
    (h : expand l1 rh toks = some out) : expand l2 rh toks = some out := by
  induction toks generalizing rh out with
  | nil => simpa [expand] using h
  | cons t ts ih =>
    simp only [expand] at h ⊢
    cases ht : tokOut l1 rh t with
    | none => rw [ht] at h; cases h
    | some e =>
      rw [ht] at h; simp only at h
      rw [tokOut_mono l1 l2 h12 rh t e ht]; simp only
      cases hx : expand l1 (e ++ rh) ts with
      | none => rw [hx] at h; cases h
      | some out' => rw [hx] at h; rw [ih _ _ hx]; exact h

/-- **the whole history**, from any pair of states in which the inflater's window is the newest
    part of the sender's history (possibly followed by older bytes the sender has forgotten) -/
theorem lossless_from {D : Nat} (c : Compressor D) (w : Nat) (hD : D ≤ w) (cr ir : Bool)
    (hk : cr = false → ir = false) (msgs : List Bytes) (hist older : Bytes) :
    receiverOutputs w ir ((hist.reverse ++ older).take w) (senderTokens c cr hist msgs) = some msgs := by
  induction msgs generalizing hist older with
  | nil => simp [senderTokens, receiverOutputs]
  | cons m ms ih =>
    simp only [senderTokens, receiverOutputs]
    rw [inflTokens_of_expand D w hD _ hist.reverse older m.reverse (c.sound hist m)]
    simp only [List.reverse_reverse]
    cases cr with
    | false =>
      have hir : ir = false := hk rfl
      subst hir
      have := ih (hist ++ m) older
      simp only [List.reverse_append] at this
      simp only [Bool.false_eq_true, if_false]
      rw [this]
    | true =>
      cases ir with
      | false =>
        have := ih [] ((m.reverse ++ hist.reverse) ++ older)
        simp only [List.reverse_nil, List.nil_append] at this
        simp only [if_true, Bool.false_eq_true, if_false]
        rw [this]
      | true =>
        have := ih [] []
        simp only [List.reverse_nil, List.nil_append, List.take_nil] at this
        simp only [if_true]
        rw [this]

theorem emitCopy_length (d : Nat) (rh : Bytes) (k : Nat) : (emitCopy d rh k).length = k := by
  induction k with
  | zero => rfl
  | succ k ih => simp [emitCopy, ih]

theorem emitCopy_far (n : Nat) (rh : Bytes) (k : Nat) (hk : k ≤ n) (hn : n ≤ rh.length) :
    emitCopy n rh k = (rh.drop (n - k)).take k := by
  induction k with
  | zero => simp [emitCopy]
  | succ k ih =>
    have ihk := ih (by omega)
    simp only [emitCopy]
    rw [List.getD_eq_getElem?_getD, List.getElem?_append_right (by rw [emitCopy_length]; omega), emitCopy_length, ihk]
    have hlt : n - (k + 1) < rh.length := by omega
    rw [show n - 1 - k = n - (k + 1) by omega, List.getElem?_eq_getElem hlt]
    simp only [Option.getD_some]
    conv => rhs; rw [List.drop_eq_getElem_cons hlt, List.take_succ_cons]
    rw [show n - (k + 1) + 1 = n - k by omega]

/-- sends a message that repeats the end of the history as one back-reference, anything else as literals -/
def echoComp (D : Nat) (hist msg : Bytes) : List Token :=
  if 1 ≤ msg.length ∧ msg.length ≤ D ∧ msg.length ≤ hist.length ∧ hist.reverse.take msg.length = msg.reverse
  then [.copy msg.length msg.length] else msg.map Token.lit

theorem expand_literals (lim : Nat) (rh msg : Bytes) : expand lim rh (msg.map Token.lit) = some msg.reverse := by
  induction msg generalizing rh with
  | nil => rfl
  | cons b r ih => simp [expand, tokOut, ih]

def echoCompressor (D : Nat) : Compressor D where
  comp := echoComp D
  sound := by
    intro hist msg
    unfold echoComp
    split
    · rename_i h
      obtain ⟨h1, h2, h3, h4⟩ := h
      have hl : msg.length ≤ hist.reverse.length := by simpa using h3
      simp only [expand, tokOut]
      rw [if_pos ⟨h1, h2, hl⟩]
      simp only [List.nil_append]
      rw [emitCopy_far _ _ _ (Nat.le_refl _) hl]
      simpa using h4
    · exact expand_literals D _ msg

theorem inflBlocks_append (w : Nat) (win : Bytes) (a b : List Blk) :
    inflBlocks w win (a ++ b) =
      match inflBlocks w win a with
      | none => none
      | some (w', e, true) => some (w', e, true)
      | some (w', e, false) =>
        match inflBlocks w w' b with
        | none => none
        | some (w'', e', f) => some (w'', e' ++ e, f) := by
  induction a generalizing win with
  | nil =>
    simp only [List.nil_append, inflBlocks]
    cases inflBlocks w win b with
    | none => rfl
    | some r => obtain ⟨w'', e', f⟩ := r; simp
  | cons x xs ih =>
    simp only [List.cons_append, inflBlocks]
    cases hx : inflTokens w win x.toks with
    | none => rfl
    | some r =>
      obtain ⟨w1, e1⟩ := r
      simp only
      cases hf : x.final with
      | true => simp
      | false =>
        simp only [Bool.false_eq_true, if_false]
        rw [ih w1]
        cases h1 : inflBlocks w w1 xs with
        | none => rfl
        | some r1 =>
          obtain ⟨w2, e2, f2⟩ := r1
          cases f2 with
          | true => simp
          | false =>
            simp only
            cases inflBlocks w w2 b with
            | none => rfl
            | some r2 => obtain ⟨w3, e3, f3⟩ := r2; simp [List.append_assoc]

theorem inflBlocks_eq_all (w : Nat) (win : Bytes) (bs : List Blk) (hn : ∀ b ∈ bs, b.final = false) :
    inflBlocks w win bs = (inflBlocksAll w win bs).map (fun r => (r.1, r.2, false)) := by
  induction bs generalizing win with
  | nil => rfl
  | cons x xs ih =>
    simp only [inflBlocks, inflBlocksAll]
    cases hx : inflTokens w win x.toks with
    | none => rfl
    | some r1 =>
      obtain ⟨w1, e1⟩ := r1
      simp only [hn x (by simp), Bool.false_eq_true, if_false]
      rw [ih w1 (fun b hb => hn b (List.mem_cons_of_mem _ hb))]
      cases inflBlocksAll w w1 xs with
      | none => rfl
      | some r2 => obtain ⟨w2, e2⟩ := r2; rfl

theorem inflBlocks_not_finished (w : Nat) (win : Bytes) (bs : List Blk) (hn : ∀ b ∈ bs, b.final = false)
    (r : Bytes × Bytes × Bool) (h : inflBlocks w win bs = some r) : r.2.2 = false := by
  rw [inflBlocks_eq_all w win bs hn] at h
  cases hh : inflBlocksAll w win bs with
  | none => rw [hh] at h; cases h
  | some r2 => rw [hh] at h; cases h; rfl

/-- **without BFINAL blocks zlib's single-stream object does what RFC 7692 asks for** -/
theorem object_eq_rfc (w : Nat) (reset : Bool) (msgs : List (List Blk))
    (hn : ∀ m ∈ msgs, ∀ b ∈ m, b.final = false) (win : Bytes) :
    objectOutputs w reset { win := win, finished := false } msgs = rfcOutputs w reset win msgs := by
  induction msgs generalizing win with
  | nil => rfl
  | cons m ms ih =>
    have hm : ∀ b ∈ unstrip m, b.final = false := by
      intro b hb
      simp only [unstrip, List.mem_append, List.mem_singleton] at hb
      rcases hb with hb | hb
      · exact hn m (by simp) b hb
      · subst hb; rfl
    have hms : ∀ m' ∈ ms, ∀ b ∈ m', b.final = false := fun m' h' => hn m' (by simp [h'])
    simp only [objectOutputs, rfcOutputs, ZObj.feed, Bool.false_eq_true, if_false]
    rw [inflBlocks_eq_all w win _ hm]
    cases h1 : inflBlocksAll w win (unstrip m) with
    | none => rfl
    | some r =>
      obtain ⟨w1, e1⟩ := r
      simp only [Option.map_some]
      cases reset with
      | true => simp only [if_true]; rw [show ({} : ZObj) = { win := [], finished := false } from rfl, ih hms]
      | false => simp only [Bool.false_eq_true, if_false]; rw [ih hms]

/-- the object once it has seen end-of-stream: everything later is delivered as `b''` -/
theorem objectOutputs_finished (w : Nat) (win : Bytes) (msgs : List (List Blk)) :
    objectOutputs w false { win := win, finished := true } msgs = some (msgs.map (fun _ => [])) := by
  induction msgs with
  | nil => rfl
  | cons m ms ih => simp [objectOutputs, ZObj.feed, ih]

/-- what is new when `e0` had been delivered (outputs are kept newest first) -/
theorem reverse_drop_old (e1 e0 : Bytes) : (e1 ++ e0).reverse.drop e0.length = e1.reverse := by
  rw [List.reverse_append, List.drop_append_of_le_length (by simp)]
  simp

/-- **the core model's "inflate the whole history and deliver what is new" is the streaming
    object**, whatever the blocks are (BFINAL included) -/
theorem whole_eq_object (w : Nat) (reset : Bool) (msgs : List (List Blk)) (hist : List Blk)
    (o : ZObj) (e0 : Bytes) (h0 : inflBlocks w [] hist = some (o.win, e0, o.finished)) :
    wholeOutputs w reset hist e0.length msgs = objectOutputs w reset o msgs := by
  induction msgs generalizing hist o e0 with
  | nil => rfl
  | cons m ms ih =>
    simp only [wholeOutputs, objectOutputs, ZObj.feed]
    rw [inflBlocks_append, h0]
    cases hf : o.finished with
    | true =>
      simp only [if_true]
      have h0' : inflBlocks w [] (hist ++ unstrip m) = some (o.win, e0, o.finished) := by
        rw [inflBlocks_append, h0, hf]
      cases reset with
      | true =>
        simp only [if_true]
        have := ih [] {} [] rfl
        simp only [List.length_nil] at this
        rw [this]
        cases objectOutputs w true {} ms <;> simp
      | false =>
        simp only [Bool.false_eq_true, if_false]
        rw [ih (hist ++ unstrip m) o e0 h0']
        cases objectOutputs w false o ms <;> simp
    | false =>
      simp only [Bool.false_eq_true, if_false]
      cases h1 : inflBlocks w o.win (unstrip m) with
      | none => rfl
      | some r =>
        obtain ⟨w1, e1, f1⟩ := r
        simp only
        have h0' : inflBlocks w [] (hist ++ unstrip m) = some (w1, e1 ++ e0, f1) := by
          rw [inflBlocks_append, h0, hf]; simp only [h1]
        cases reset with
        | true =>
          simp only [if_true]
          have := ih [] {} [] rfl
          simp only [List.length_nil] at this
          rw [this, reverse_drop_old]
        | false =>
          simp only [Bool.false_eq_true, if_false]
          rw [ih (hist ++ unstrip m) { win := w1, finished := f1 } (e1 ++ e0) h0', reverse_drop_old]

theorem inflTokens_append (w : Nat) (win : Bytes) (a b : List Token) :
    inflTokens w win (a ++ b) =
      match inflTokens w win a with
      | none => none
      | some (w', e) =>
        match inflTokens w w' b with
        | none => none
        | some (w'', e') => some (w'', e' ++ e) := by
  induction a generalizing win with
  | nil =>
    simp only [List.nil_append, inflTokens]
    cases inflTokens w win b with
    | none => rfl
    | some r => obtain ⟨w'', e'⟩ := r; simp
  | cons t ts ih =>
    simp only [List.cons_append, inflTokens]
    cases tokOut w win t with
    | none => rfl
    | some e1 =>
      simp only
      rw [ih]
      cases inflTokens w ((e1 ++ win).take w) ts with
      | none => rfl
      | some r1 =>
        obtain ⟨w2, e2⟩ := r1
        simp only
        cases inflTokens w w2 b with
        | none => rfl
        | some r2 => obtain ⟨w3, e3⟩ := r2; simp [List.append_assoc]

theorem inflBlocksAll_flat (w : Nat) (win : Bytes) (bs : List Blk) :
    inflBlocksAll w win bs = inflTokens w win (bs.flatMap (·.toks)) := by
  induction bs generalizing win with
  | nil => rfl
  | cons b bs ih =>
    simp only [inflBlocksAll, List.flatMap_cons, inflTokens_append]
    cases inflTokens w win b.toks with
    | none => rfl
    | some r =>
      obtain ⟨w1, e1⟩ := r
      simp only [ih]
      cases inflTokens w w1 (bs.flatMap (·.toks)) with
      | none => rfl
      | some r2 => rfl

theorem inflBlocksAll_unstrip (w : Nat) (win : Bytes) (m : List Blk) :
    inflBlocksAll w win (unstrip m) = inflTokens w win (m.flatMap (·.toks)) := by
  simp [inflBlocksAll_flat, unstrip, tailBlk]

def oneBlock (toks : List Token) : List Blk := [{ final := false, toks := toks }]

theorem inflBlocksAll_oneBlock (w : Nat) (win : Bytes) (toks : List Token) :
    inflBlocksAll w win (unstrip (oneBlock toks)) = inflTokens w win toks := by
  rw [inflBlocksAll_unstrip]; simp [oneBlock]

theorem inflBlocks_oneBlock (w : Nat) (win : Bytes) (toks : List Token) :
    inflBlocks w win (unstrip (oneBlock toks)) =
      (inflTokens w win toks).map (fun r => (r.1, r.2, false)) := by
  rw [inflBlocks_eq_all w win _ (by simp [unstrip, oneBlock, tailBlk]), inflBlocksAll_oneBlock]

theorem rfc_oneBlock (w : Nat) (reset : Bool) (win : Bytes) (tss : List (List Token)) :
    rfcOutputs w reset win (tss.map oneBlock) = receiverOutputs w reset win tss := by
  induction tss generalizing win with
  | nil => rfl
  | cons ts rest ih =>
    simp only [List.map_cons, rfcOutputs, receiverOutputs, inflBlocksAll_oneBlock]
    cases inflTokens w win ts with
    | none => rfl
    | some r =>
      obtain ⟨w1, e1⟩ := r
      simp only
      cases reset <;> simp [ih]

theorem inflBlocksAll_append (w : Nat) (win : Bytes) (a b : List Blk) :
    inflBlocksAll w win (a ++ b) =
      match inflBlocksAll w win a with
      | none => none
      | some (w', e) =>
        match inflBlocksAll w w' b with
        | none => none
        | some (w'', e') => some (w'', e' ++ e) := by
  simp only [inflBlocksAll_flat, List.flatMap_append, inflTokens_append]

/-- one zlib object = the blocks up to its end of stream; the rest is strictly shorter, and
    decoding the rest with the window the object ended with completes the all-blocks decode -/
theorem inflStream_spec (w : Nat) (win : Bytes) (bs : List Blk) :
    match inflStream w win bs with
    | none => inflBlocksAll w win bs = none
    | some (w', e, rest) =>
      (bs ≠ [] → rest.length < bs.length) ∧
      inflBlocksAll w win bs =
        match inflBlocksAll w w' rest with
        | none => none
        | some (w'', e') => some (w'', e' ++ e) := by
  induction bs generalizing win with
  | nil => simp [inflStream, inflBlocksAll]
  | cons x xs ih =>
    simp only [inflStream, inflBlocksAll]
    cases hx : inflTokens w win x.toks with
    | none => simp
    | some r =>
      obtain ⟨w1, e1⟩ := r
      simp only
      cases hf : x.final with
      | true =>
        simp only [if_true]
        refine ⟨fun _ => by simp, ?_⟩
        cases inflBlocksAll w w1 xs with
        | none => rfl
        | some r2 => obtain ⟨w2, e2⟩ := r2; rfl
      | false =>
        simp only [Bool.false_eq_true, if_false]
        have := ih w1
        cases hs : inflStream w w1 xs with
        | none => rw [hs] at this; simp only at this; simp [this]
        | some r2 =>
          obtain ⟨w2, e2, rest⟩ := r2
          rw [hs] at this
          simp only at this ⊢
          obtain ⟨hlen, heq⟩ := this
          refine ⟨fun _ => ?_, ?_⟩
          · cases xs with
            | nil => simp [inflStream] at hs; simp [hs.2.2]
            | cons y ys => have := hlen (by simp); simp at this ⊢; omega
          · rw [heq]
            cases inflBlocksAll w w2 rest with
            | none => rfl
            | some r3 => obtain ⟨w3, e3⟩ := r3; simp [List.append_assoc]

/-- **the restart loop of the repaired `Deflate._inflate` reads every block**: feeding a zlib
    object, and — whenever it reaches its end of stream — a new one primed with the window, is the
    same as decoding all the blocks in turn with one window -/
theorem repairedFeed_eq (w : Nat) (fuel : Nat) (win : Bytes) (bs : List Blk) (hf : bs.length < fuel) :
    repairedFeed w fuel win bs = inflBlocksAll w win bs := by
  induction fuel generalizing win bs with
  | zero => omega
  | succ fuel ih =>
    simp only [repairedFeed]
    have hs := inflStream_spec w win bs
    cases h1 : inflStream w win bs with
    | none => rw [h1] at hs; simp only at hs; rw [hs]
    | some r =>
      obtain ⟨w1, e1, rest⟩ := r
      rw [h1] at hs
      simp only at hs
      obtain ⟨hlen, heq⟩ := hs
      cases rest with
      | nil =>
        simp only
        rw [heq]; simp [inflBlocksAll]
      | cons r0 rs =>
        simp only
        have hne : bs ≠ [] := by
          intro h; subst h; simp [inflStream] at h1
        have hl := hlen hne
        rw [ih w1 (r0 :: rs) (by omega), heq]
        cases inflBlocksAll w w1 (r0 :: rs) with
        | none => rfl
        | some r2 => rfl

/-- **never wrong, for the repaired code**: for every history — BFINAL=1 blocks anywhere, valid or
    invalid data — the repaired decompress delivers for each message exactly what RFC 7692 says its
    DEFLATE data means, and fails exactly when that data is invalid -/
theorem repaired_eq_rfc (w : Nat) (reset : Bool) (msgs : List (List Blk)) (win : Bytes) :
    repairedOutputs w reset win msgs = rfcOutputs w reset win msgs := by
  induction msgs generalizing win with
  | nil => rfl
  | cons m ms ih =>
    simp only [repairedOutputs, rfcOutputs]
    rw [repairedFeed_eq w _ win (unstrip m) (by omega)]
    cases inflBlocksAll w win (unstrip m) with
    | none => rfl
    | some r =>
      obtain ⟨w1, e1⟩ := r
      simp only [ih]

/-- the core model's "inflate the whole history, deliver what is new" with the inflater of the
    repaired code is the RFC 7692 meaning, message by message -/
theorem wholeSafe_eq_rfc (w : Nat) (reset : Bool) (msgs : List (List Blk)) (hist : List Blk)
    (w0 e0 : Bytes) (h0 : inflBlocksAll w [] hist = some (w0, e0)) :
    wholeOutputsSafe w reset hist e0.length msgs = rfcOutputs w reset w0 msgs := by
  induction msgs generalizing hist w0 e0 with
  | nil => rfl
  | cons m ms ih =>
    simp only [wholeOutputsSafe, rfcOutputs]
    rw [inflBlocksAll_append, h0]
    simp only
    cases h1 : inflBlocksAll w w0 (unstrip m) with
    | none => rfl
    | some r =>
      obtain ⟨w1, e1⟩ := r
      simp only
      have h0' : inflBlocksAll w [] (hist ++ unstrip m) = some (w1, e1 ++ e0) := by
        rw [inflBlocksAll_append, h0]; simp only [h1]
      cases reset with
      | true =>
        simp only [if_true]
        have := ih [] [] [] rfl
        simp only [List.length_nil] at this
        rw [this, reverse_drop_old]
      | false =>
        simp only [Bool.false_eq_true, if_false]
        rw [ih (hist ++ unstrip m) w1 (e1 ++ e0) h0', reverse_drop_old]

end Lomond.Deflate
