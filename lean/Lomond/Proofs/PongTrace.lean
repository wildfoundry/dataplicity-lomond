/-
  C14, run level: the trace grammar of automatic Pongs, `Good auto tr` (newest first).  Its pieces: a
  plain entry (neither a Pong frame handed to `sendall` nor a Ping event); an application call (its at
  most one entry, then its token); an answered Ping (the Pong frame for `d`, written or failed, then at
  once the event `Ping d` — only with automatic pongs on and a `usable` trace before it); a skipped Ping
  (the event alone — pongs off, or the trace before it not usable).  `Good` is what C14_Run and C14_E2E
  are proved from (Proofs/PongRun.lean: the trace of every run is `Good`); `Pong.PongsAccounted`
  (C14.lean) is its any-state part.  Here, for any `Good` trace: Ping ⇒ Pong, Pong ⇒ Ping, the counting.
-/
import Lomond.Proofs.Pong
import Lomond.Proofs.Closing
namespace Lomond.Core
open Lomond

/-- first byte `0x8A`: FIN + opcode Pong -/
def isPongBytes (b : Bytes) : Bool := b.head? == some 138

/-- a Pong frame handed to `sendall` (successfully or not) -/
def Obs.pongOut : Obs → Bool
  | .wr b => isPongBytes b
  | .wrFail b => isPongBytes b
  | _ => false

def Obs.pingEv : Obs → Bool
  | .ev (.ping _) => true
  | _ => false

def Obs.sockCl : Obs → Bool
  | .sockClose => true
  | _ => false

def Obs.isFail : Obs → Bool
  | .wrFail _ => true
  | _ => false

def Obs.resTok : Obs → Bool
  | .res _ => true
  | _ => false

namespace PongRun
open Lomond.Core.Pong

def hasSockClose (tr : List Obs) : Bool := tr.any Obs.sockCl

/-- the trace shows why `send_pong` would be refused: the socket was closed (`session.close()`,
    disconnect) or a Close frame was handed to `sendall` (the websocket is closing or closed) -/
def marked (tr : List Obs) : Bool := hasSockClose tr || hasClose tr

def usable (tr : List Obs) : Bool := !marked tr

/-- `o` is the Pong frame for payload `d` handed to `sendall`: written, or the write failed -/
def IsPongFor (d : Bytes) (o : Obs) : Prop :=
  ∃ key, o = .wr (pongBytes d key) ∨ o = .wrFail (pongBytes d key)

theorem isPongBytes_pongBytes (d key : Bytes) : isPongBytes (pongBytes d key) = true := by
  simp [isPongBytes, pongBytes]

theorem isCloseBytes_pongBytes (d key : Bytes) : isCloseBytes (pongBytes d key) = false := by
  simp [isCloseBytes, pongBytes]

theorem IsPongFor.pongOut {d : Bytes} {o : Obs} (h : IsPongFor d o) : o.pongOut = true := by
  obtain ⟨k, rfl | rfl⟩ := h <;> exact isPongBytes_pongBytes d k

theorem IsPongFor.isClose {d : Bytes} {o : Obs} (h : IsPongFor d o) : o.isClose = false := by
  obtain ⟨k, rfl | rfl⟩ := h <;> exact isCloseBytes_pongBytes d k

theorem IsPongFor.sockCl {d : Bytes} {o : Obs} (h : IsPongFor d o) : o.sockCl = false := by
  obtain ⟨k, rfl | rfl⟩ := h <;> rfl

theorem IsPongFor.pingEv {d : Bytes} {o : Obs} (h : IsPongFor d o) : o.pingEv = false := by
  obtain ⟨k, rfl | rfl⟩ := h <;> rfl

theorem IsPongFor.resTok {d : Bytes} {o : Obs} (h : IsPongFor d o) : o.resTok = false := by
  obtain ⟨k, rfl | rfl⟩ := h <;> rfl

theorem IsPongFor.isWrite {d : Bytes} {o : Obs} (h : IsPongFor d o) : o.isWrite = true := by
  obtain ⟨k, rfl | rfl⟩ := h <;> rfl

theorem hasSockClose_cons (o : Obs) (tr : List Obs) :
    hasSockClose (o :: tr) = (o.sockCl || hasSockClose tr) := by simp [hasSockClose]

theorem marked_cons (o : Obs) (tr : List Obs) :
    marked (o :: tr) = (o.sockCl || o.isClose || marked tr) := by
  simp only [marked, hasSockClose_cons, hasClose_cons]
  cases o.sockCl <;> cases o.isClose <;> cases hasSockClose tr <;> cases hasClose tr <;> rfl

theorem marked_mono (o : Obs) (tr : List Obs) (h : marked tr = true) : marked (o :: tr) = true := by
  rw [marked_cons, h]; simp

theorem marked_append (l tr : List Obs) (h : marked tr = true) : marked (l ++ tr) = true := by
  induction l with
  | nil => exact h
  | cons o l ih => exact marked_mono o _ ih

theorem usable_suffix (l tr : List Obs) (h : usable (l ++ tr) = true) : usable tr = true := by
  unfold usable at *
  cases hm : marked tr
  · rfl
  · rw [marked_append l tr hm] at h; cases h

theorem usable_pong {d : Bytes} {o : Obs} (h : IsPongFor d o) (tr : List Obs) :
    usable (o :: tr) = usable tr := by unfold usable; rw [marked_cons, h.sockCl, h.isClose]; rfl

def NoPongTop (tr : List Obs) : Prop := ∀ o, tr.head? = some o → o.pongOut = false

inductive Good (auto : Bool) : List Obs → Prop
  | nil : Good auto []
  | plain {o : Obs} {t : List Obs} : o.pongOut = false → o.pingEv = false → Good auto t → Good auto (o :: t)
  | app {r : ActRes} {o : Obs} {t : List Obs} : o.pingEv = false → Good auto t → Good auto (.res r :: o :: t)
  | answered {d : Bytes} {o : Obs} {t : List Obs} : auto = true → usable t = true → IsPongFor d o →
      Good auto t → Good auto (.ev (.ping d) :: o :: t)
  | skipped {d : Bytes} {t : List Obs} : (auto && usable t) = false → Good auto t →
      Good auto (.ev (.ping d) :: t)

theorem Good.top {auto : Bool} {t : List Obs} (h : Good auto t) : NoPongTop t := by
  intro o ho
  cases h with
  | nil => cases ho
  | plain h1 _ _ => simp only [List.head?_cons, Option.some.injEq] at ho; subst ho; exact h1
  | app _ _ => simp only [List.head?_cons, Option.some.injEq] at ho; subst ho; rfl
  | answered _ _ _ _ => simp only [List.head?_cons, Option.some.injEq] at ho; subst ho; rfl
  | skipped _ _ => simp only [List.head?_cons, Option.some.injEq] at ho; subst ho; rfl

theorem Good.append_plain {auto : Bool} (l t : List Obs) (h : ∀ o ∈ l, o.pongOut = false ∧ o.pingEv = false)
    (ht : Good auto t) : Good auto (l ++ t) := by
  induction l with
  | nil => exact ht
  | cons o l ih =>
    exact .plain (h o List.mem_cons_self).1 (h o List.mem_cons_self).2
      (ih (fun o' ho' => h o' (List.mem_cons_of_mem _ ho')))

theorem Good.of_plain (auto : Bool) (t : List Obs) (h : ∀ o ∈ t, o.pongOut = false ∧ o.pingEv = false) :
    Good auto t :=
  List.append_nil t ▸ Good.append_plain t [] h .nil

def Answered (auto : Bool) (d : Bytes) (post : List Obs) : Prop :=
  if (auto && usable post) = true then
    ∃ o post', post = o :: post' ∧ IsPongFor d o ∧ NoPongTop post'
  else NoPongTop post

theorem Good.ping {auto : Bool} {tr : List Obs} (h : Good auto tr) :
    ∀ pre d post, tr = pre ++ .ev (.ping d) :: post → Answered auto d post := by
  induction h with
  | nil => intro pre d post e; cases pre <;> cases e
  | @plain o t h1 h2 ht ih =>
    intro pre d post e
    cases pre with
    | nil => simp only [List.nil_append, List.cons.injEq] at e; rw [e.1] at h2; cases h2
    | cons x pre' => simp only [List.cons_append, List.cons.injEq] at e; exact ih pre' d post e.2
  | @app r o t h2 ht ih =>
    intro pre d post e
    cases pre with
    | nil => simp at e
    | cons x pre' =>
      simp only [List.cons_append, List.cons.injEq] at e
      cases pre' with
      | nil => simp only [List.nil_append, List.cons.injEq] at e; rw [e.2.1] at h2; cases h2
      | cons y pre'' => simp only [List.cons_append, List.cons.injEq] at e; exact ih pre'' d post e.2.2
  | @answered d' o t ha hu hp ht ih =>
    intro pre d post e
    cases pre with
    | nil =>
      simp only [List.nil_append, List.cons.injEq, Obs.ev.injEq, Event.ping.injEq] at e
      obtain ⟨rfl, rfl⟩ := e
      unfold Answered
      rw [if_pos (by rw [ha, usable_pong hp, hu]; rfl)]
      exact ⟨o, t, rfl, hp, ht.top⟩
    | cons x pre' =>
      simp only [List.cons_append, List.cons.injEq] at e
      cases pre' with
      | nil =>
        simp only [List.nil_append, List.cons.injEq] at e
        have := hp.pingEv; rw [e.2.1] at this; cases this
      | cons y pre'' => simp only [List.cons_append, List.cons.injEq] at e; exact ih pre'' d post e.2.2
  | @skipped d' t hc ht ih =>
    intro pre d post e
    cases pre with
    | nil =>
      simp only [List.nil_append, List.cons.injEq, Obs.ev.injEq, Event.ping.injEq] at e
      obtain ⟨rfl, rfl⟩ := e
      unfold Answered
      rw [if_neg (by rw [hc]; simp)]
      exact ht.top
    | cons x pre' => simp only [List.cons_append, List.cons.injEq] at e; exact ih pre' d post e.2

/-- what the trace says about a Pong frame `o` handed to `sendall`, `pre` being the newer part of
    the trace and `post` the older one: it was written by an application call (its result token
    follows), or it is the automatic Pong for the Ping event that follows immediately -/
def Accounted (auto : Bool) (pre : List Obs) (o : Obs) (post : List Obs) : Prop :=
  (∃ pre' r, pre = pre' ++ [.res r]) ∨
  (auto = true ∧ usable post = true ∧ ∃ pre' d, pre = pre' ++ [.ev (.ping d)] ∧ IsPongFor d o)

theorem Accounted.cons {auto : Bool} {pre : List Obs} {o : Obs} {post : List Obs} (x : Obs)
    (h : Accounted auto pre o post) : Accounted auto (x :: pre) o post := by
  rcases h with ⟨p, r, e⟩ | ⟨ha, hu, p, d, e, hp⟩
  · exact Or.inl ⟨x :: p, r, by rw [e]; rfl⟩
  · exact Or.inr ⟨ha, hu, x :: p, d, by rw [e]; rfl, hp⟩

theorem Good.pong {auto : Bool} {tr : List Obs} (h : Good auto tr) :
    ∀ pre o post, tr = pre ++ o :: post → o.pongOut = true → Accounted auto pre o post := by
  induction h with
  | nil => intro pre o post e; cases pre <;> cases e
  | @plain o' t h1 h2 ht ih =>
    intro pre o post e ho
    cases pre with
    | nil => simp only [List.nil_append, List.cons.injEq] at e; rw [e.1, ho] at h1; cases h1
    | cons x pre' =>
      simp only [List.cons_append, List.cons.injEq] at e
      exact (ih pre' o post e.2 ho).cons x
  | @app r o' t h2 ht ih =>
    intro pre o post e ho
    cases pre with
    | nil => simp only [List.nil_append, List.cons.injEq] at e; rw [← e.1] at ho; cases ho
    | cons x pre' =>
      simp only [List.cons_append, List.cons.injEq] at e
      cases pre' with
      | nil => exact Or.inl ⟨[], r, by rw [e.1]; rfl⟩
      | cons y pre'' =>
        simp only [List.cons_append, List.cons.injEq] at e
        exact ((ih pre'' o post e.2.2 ho).cons y).cons x
  | @answered d' o' t ha hu hp ht ih =>
    intro pre o post e ho
    cases pre with
    | nil => simp only [List.nil_append, List.cons.injEq] at e; rw [← e.1] at ho; cases ho
    | cons x pre' =>
      simp only [List.cons_append, List.cons.injEq] at e
      cases pre' with
      | nil =>
        simp only [List.nil_append, List.cons.injEq] at e
        obtain ⟨rfl, rfl, rfl⟩ := e
        exact Or.inr ⟨ha, hu, [], d', rfl, hp⟩
      | cons y pre'' =>
        simp only [List.cons_append, List.cons.injEq] at e
        exact ((ih pre'' o post e.2.2 ho).cons y).cons x
  | @skipped d' t hc ht ih =>
    intro pre o post e ho
    cases pre with
    | nil => simp only [List.nil_append, List.cons.injEq] at e; rw [← e.1] at ho; cases ho
    | cons x pre' =>
      simp only [List.cons_append, List.cons.injEq] at e
      exact (ih pre' o post e.2 ho).cons x

def isResOpt : Option Obs → Bool
  | some o => o.resTok
  | none => false

/-- the Pong frames handed to `sendall` outside any application call (newest first): a Pong
    frame counts unless the next newer entry is the result token of an application call -/
def libPongsAux : Option Obs → List Obs → List Obs
  | _, [] => []
  | newer, o :: t => (if o.pongOut && !isResOpt newer then [o] else []) ++ libPongsAux (some o) t

def libPongs (tr : List Obs) : List Obs := libPongsAux none tr

/-- the payloads of the Ping events that had to be answered (newest first): automatic pongs on
    and the connection usable when the event was produced -/
def ansPings (auto : Bool) : List Obs → List Bytes
  | [] => []
  | .ev (.ping d) :: t => (if auto && usable t then [d] else []) ++ ansPings auto t
  | _ :: t => ansPings auto t

theorem libPongsAux_top (n : Option Obs) (t : List Obs) (h : NoPongTop t) :
    libPongsAux n t = libPongsAux none t := by
  cases t with
  | nil => rfl
  | cons o t =>
    have := h o rfl
    show (if o.pongOut && !isResOpt n then [o] else []) ++ libPongsAux (some o) t
       = (if o.pongOut && !isResOpt none then [o] else []) ++ libPongsAux (some o) t
    rw [this]; rfl

theorem libPongs_cons_plain (o : Obs) (t : List Obs) (ho : o.pongOut = false) (h : NoPongTop t) :
    libPongs (o :: t) = libPongs t := by
  show (if o.pongOut && !isResOpt none then [o] else []) ++ libPongsAux (some o) t = libPongsAux none t
  rw [ho]
  exact libPongsAux_top _ t h

theorem libPongs_app (r : ActRes) (o : Obs) (t : List Obs) (h : NoPongTop t) :
    libPongs (.res r :: o :: t) = libPongs t := by
  unfold libPongs
  simp only [libPongsAux, Obs.pongOut, isResOpt, Obs.resTok, Bool.false_and, Bool.not_true, Bool.and_false]
  exact libPongsAux_top _ t h

theorem libPongs_answered (d : Bytes) (o : Obs) (t : List Obs) (ho : o.pongOut = true) (h : NoPongTop t) :
    libPongs (.ev (.ping d) :: o :: t) = o :: libPongs t := by
  show (if o.pongOut && true then [o] else []) ++ libPongsAux (some o) t = o :: libPongsAux none t
  rw [ho, libPongsAux_top _ t h]; rfl

theorem ansPings_cons_plain (auto : Bool) (o : Obs) (t : List Obs) (ho : o.pingEv = false) :
    ansPings auto (o :: t) = ansPings auto t := by
  cases o with
  | ev e =>
    cases e with
    | ping d => cases ho
    | _ => rfl
  | _ => rfl

/-- the two lists have the same length and the `i`-th entry of the first is the Pong frame for
    the `i`-th payload of the second -/
inductive Matched : List Obs → List Bytes → Prop
  | nil : Matched [] []
  | cons {o : Obs} {d : Bytes} {os : List Obs} {ds : List Bytes} :
      IsPongFor d o → Matched os ds → Matched (o :: os) (d :: ds)

theorem Matched.length_eq {os : List Obs} {ds : List Bytes} (h : Matched os ds) : os.length = ds.length := by
  induction h with
  | nil => rfl
  | cons _ _ ih => simp [ih]

theorem Matched.get {os : List Obs} {ds : List Bytes} (h : Matched os ds) :
    ∀ (i : Nat) o d, os[i]? = some o → ds[i]? = some d → IsPongFor d o := by
  induction h with
  | nil => intro i o d h1; simp at h1
  | cons hp _ ih =>
    intro i o d h1 h2
    cases i with
    | zero => simp at h1 h2; subst h1; subst h2; exact hp
    | succ j => simp at h1 h2; exact ih j o d h1 h2

/-- **as many library Pongs as Pings that had to be answered, pairwise matching, in order** -/
theorem Good.count {auto : Bool} {tr : List Obs} (h : Good auto tr) :
    Matched (libPongs tr) (ansPings auto tr) := by
  induction h with
  | nil => exact .nil
  | @plain o t h1 h2 ht ih =>
    rw [libPongs_cons_plain o t h1 ht.top, ansPings_cons_plain auto o t h2]; exact ih
  | @app r o t h2 ht ih =>
    rw [libPongs_app r o t ht.top, ansPings_cons_plain auto _ _ rfl, ansPings_cons_plain auto o t h2]
    exact ih
  | @answered d o t ha hu hp ht ih =>
    rw [libPongs_answered d o t hp.pongOut ht.top]
    have : ansPings auto (.ev (.ping d) :: o :: t) = d :: ansPings auto t := by
      have e := ansPings_cons_plain auto o t hp.pingEv
      simp only [ansPings, ha, usable_pong hp, hu, Bool.and_self, if_true, List.singleton_append]
      rw [ha] at e; rw [e]
    rw [this]
    exact .cons hp ih
  | @skipped d t hc ht ih =>
    rw [libPongs_cons_plain _ t rfl ht.top]
    have : ansPings auto (.ev (.ping d) :: t) = ansPings auto t := by
      simp only [ansPings, hc]; rfl
    rw [this]; exact ih

theorem mem_libPongsAux (n : Option Obs) (tr : List Obs) (o : Obs) (h : o ∈ libPongsAux n tr) : o ∈ tr := by
  induction tr generalizing n with
  | nil => cases h
  | cons x t ih =>
    simp only [libPongsAux, List.mem_append] at h
    rcases h with h | h
    · split at h
      · simp only [List.mem_singleton] at h; rw [h]; exact List.mem_cons_self
      · cases h
    · exact List.mem_cons_of_mem _ (ih _ h)

theorem IsPongFor.written {d : Bytes} {o : Obs} (h : IsPongFor d o) (hf : o.isFail = false) :
    ∃ key, o = .wr (pongBytes d key) := by
  obtain ⟨k, rfl | rfl⟩ := h
  · exact ⟨k, rfl⟩
  · cases hf

end PongRun
end Lomond.Core
