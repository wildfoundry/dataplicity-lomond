/-
  The close timeout over a whole connection (C15), and what the three run-level timers share: the
  clock invariant `Base`, the events `Connected` / `Closed` / `Disconnected` on a trace, the entries
  `session.write` makes.  The invariant `CI` with slack (`close()` armed the timer at the session time
  the trace shows, `CW`; not overdue by more than the slack, `Ndue`) and the clause `EC` about the
  exception in flight make the timer an instance of `Timer` (`timerC`; lifted: `CIn … 0 ∧ ClosedDone`);
  `ic_top` turns `_ForceDisconnect('close-timeout')` into the rule `CtoOK`.  Result: `finC_runAll`.
-/
import Lomond.Proofs.TimerKit
import Lomond.Proofs.PingGrid
import Lomond.Proofs.Closing
import Lomond.Proofs.Report
import Lomond.Proofs.Release
namespace Lomond.Core.TimerRun
open Lomond Lomond.Core Lomond.Core.Lift Lomond.Core.Pong Lomond.Core.Timers Lomond.Core.LiftX

def isConnEv : Obs → Bool
  | .ev (.connected _) => true
  | _ => false

def isCtoEv : Obs → Bool
  | .ev (.disconnected k _) => k == "close-timeout"
  | _ => false

def isClosedEv : Obs → Bool
  | .ev (.closed _ _) => true
  | _ => false

/-- `Connected` was yielded (the socket exists) -/
def connSeen (tr : List Obs) : Bool := tr.any isConnEv

/-- a `Closed` event (the server's reply to our Close) was yielded -/
def closedSeen (tr : List Obs) : Bool := tr.any isClosedEv

/-- the client's Close frame was handed to `sendall` (written, or the write failed) at session time
    `ct`: `t` is the trace before that entry -/
def CloseWr (ct : Nat) (tr : List Obs) : Prop :=
  ∃ l o t, tr = l ++ o :: t ∧ o.isClose = true ∧ sessOf t = ct

/-- **evidence that `close()` armed the close timer at session time `ct`**: either the Close frame
    handed to `sendall` at that time, or — `close()` found no usable socket and wrote nothing — a
    point of the trace with that session time at which the socket had already been closed
    (`session.close()`) or did not exist yet (before `Connected`); `v` = the repaired argument check
    of `close()` (`Variant.closeArgs`; without it a payload of ≥ 2^63 bytes is not written either) -/
def Armed (v : Bool) (ct : Nat) (tr : List Obs) : Prop :=
  CloseWr ct tr ∨ ∃ l t, tr = l ++ t ∧ sessOf t = ct ∧ (Obs.sockClose ∈ t ∨ connSeen t = false ∨ v = false)

/-- **the close-timeout rule on a trace**: every `Disconnected('close-timeout')` is non-graceful,
    happens with the close timeout enabled, no `Closed` event before it, and at a session time `t`
    with `ct + c ≤ t` (and `t < ct + c + D` when `hi`) where `ct` is when `close()` armed the timer -/
def CtoOK (v : Bool) (c D : Nat) (hi : Bool) : List Obs → Prop
  | [] => True
  | o :: t =>
    (isCtoEv o = true → o = .ev (.disconnected "close-timeout" false) ∧ c ≠ 0 ∧ closedSeen t = false ∧
        ∃ ct, Armed v ct t ∧ ct + c ≤ sessOf t ∧ (hi = true → sessOf t < ct + c + D)) ∧ CtoOK v c D hi t

/-- **the loop never goes back to `selector.wait` with the close timer overdue**: at every clock
    mark `n` (clock `clockOf t` before it): the clock does not run backwards, advances by at most `D`
    (when `hi`), and — `R`: the upgrade request is not mistaken for a Close frame — the Close frame
    (if one was handed to `sendall` before, at `ct`) is younger than `c` -/
def TickC (R : Prop) (hi : Bool) (D c : Nat) : List Obs → Prop
  | [] => True
  | o :: t => (∀ n, o.tmTickVal = some n → clockOf t ≤ n ∧ (hi = true → n ≤ clockOf t + D) ∧
      (R → c ≠ 0 → ∀ ct, CloseWr ct t → sessOf t < ct + c)) ∧ TickC R hi D c t

def _root_.Lomond.Core.Obs.cN (o : Obs) : Bool :=
  o.tmTickVal.isNone && !o.tmIsReady && !o.isClose && !isConnEv o && !isCtoEv o

theorem cN_iff (o : Obs) : o.cN = true ↔ o.tmTickVal = none ∧ o.tmIsReady = false ∧ o.isClose = false ∧
    isConnEv o = false ∧ isCtoEv o = false := by
  unfold Obs.cN
  cases o.tmTickVal <;> cases o.tmIsReady <;> cases o.isClose <;> cases isConnEv o <;> cases isCtoEv o <;> simp

def ctoAt (v : Bool) (c D : Nat) (hi : Bool) (o : Obs) (t : List Obs) : Prop :=
  isCtoEv o = true → o = .ev (.disconnected "close-timeout" false) ∧ c ≠ 0 ∧ closedSeen t = false ∧
    ∃ ct, Armed v ct t ∧ ct + c ≤ sessOf t ∧ (hi = true → sessOf t < ct + c + D)

theorem ctoOK_hist (v : Bool) (c D : Nat) (hi : Bool) : IsHist (CtoOK v c D hi) (ctoAt v c D hi) :=
  hist_of_rec trivial (fun _ _ => Iff.rfl)

def tickCAt (R : Prop) (hi : Bool) (D c : Nat) (o : Obs) (t : List Obs) : Prop :=
  ∀ n, o.tmTickVal = some n → clockOf t ≤ n ∧ (hi = true → n ≤ clockOf t + D) ∧
    (R → c ≠ 0 → ∀ ct, CloseWr ct t → sessOf t < ct + c)

theorem tickC_hist (R : Prop) (hi : Bool) (D c : Nat) : IsHist (TickC R hi D c) (tickCAt R hi D c) :=
  hist_of_rec trivial (fun _ _ => Iff.rfl)

theorem sessOf_append_cN (l t : List Obs) (h : ∀ o ∈ l, Obs.cN o = true) : sessOf (l ++ t) = sessOf t :=
  Ignores.append (fun o t ho => sessOf_cons_of t ((cN_iff o).mp ho).1 ((cN_iff o).mp ho).2.1) l t h

theorem closeWr_append (ct : Nat) (l t : List Obs) (h : CloseWr ct t) : CloseWr ct (l ++ t) := by
  obtain ⟨l1, o, t1, e, ho, hs⟩ := h
  exact ⟨l ++ l1, o, t1, by rw [e, List.append_assoc], ho, hs⟩

theorem closeWr_cons_iff (ct : Nat) (o : Obs) (t : List Obs) :
    CloseWr ct (o :: t) ↔ (o.isClose = true ∧ sessOf t = ct) ∨ CloseWr ct t := by
  constructor
  · intro ⟨l1, o1, t1, e, ho, hs⟩
    cases l1 with
    | nil => simp only [List.nil_append, List.cons.injEq] at e; obtain ⟨rfl, rfl⟩ := e; exact Or.inl ⟨ho, hs⟩
    | cons x l2 =>
      simp only [List.cons_append, List.cons.injEq] at e
      exact Or.inr ⟨l2, o1, t1, e.2, ho, hs⟩
  · intro h
    rcases h with ⟨ho, hs⟩ | h
    · exact ⟨[], o, t, rfl, ho, hs⟩
    · exact closeWr_append ct [o] t h

theorem closeWr_append_cN (ct : Nat) (l t : List Obs) (h : ∀ o ∈ l, Obs.cN o = true) :
    CloseWr ct (l ++ t) ↔ CloseWr ct t :=
  (Ignores.of_iff (fun o t ho => by
    rw [closeWr_cons_iff, ((cN_iff o).mp ho).2.2.1]
    simp only [Bool.false_eq_true, false_and, false_or])).append_iff l t h

theorem armed_append (v : Bool) (ct : Nat) (l t : List Obs) (h : Armed v ct t) : Armed v ct (l ++ t) := by
  rcases h with h | ⟨l1, t1, e, hs, hv⟩
  · exact Or.inl (closeWr_append ct l t h)
  · exact Or.inr ⟨l ++ l1, t1, by rw [e, List.append_assoc], hs, hv⟩

theorem connSeen_ignores : Ignores connSeen (fun o => isConnEv o = false) := any_ignores isConnEv

theorem closedSeen_ignores : Ignores closedSeen (fun o => isClosedEv o = false) := any_ignores isClosedEv

theorem ctoOK_ignores (v : Bool) (c D : Nat) (hi : Bool) : Ignores (CtoOK v c D hi) (fun o => isCtoEv o = false) :=
  (ctoOK_hist v c D hi).ignores (fun o t ho hx => by rw [ho] at hx; cases hx)

theorem tickC_ignores (R : Prop) (hi : Bool) (D c : Nat) : Ignores (TickC R hi D c) (fun o => o.tmTickVal = none) :=
  (tickC_hist R hi D c).ignores (fun o t ho n hn => by rw [ho] at hn; cases hn)

/-- the clock invariant: configuration and script unchanged, the session's clock and `_start_time`
    are what the trace says (newest clock mark / clock at the newest Ready), `_ready` ↔ the session
    clock runs -/
structure Base (cfg0 : Cfg) (env0 : List EnvStep) (s : Sys) : Prop where
  cfg : s.cfg = cfg0
  env : s.env = env0
  now : s.now = clockOf s.trace
  start : s.startTime = readyAt s.trace
  rdy : s.ready = true ↔ s.startTime ≠ none

theorem Base.sess {cfg0 : Cfg} {env0 : List EnvStep} {s : Sys} (h : Base cfg0 env0 s) :
    sessionTime s = sessOf s.trace := sessionTime_of h.start h.now

theorem Base.notReady {cfg0 : Cfg} {env0 : List EnvStep} {s : Sys} (h : Base cfg0 env0 s)
    (hr : s.ready = false) : readyAt s.trace = none ∧ sessOf s.trace = 0 := by
  have h1 : s.startTime = none := by
    cases hst : s.startTime with
    | none => rfl
    | some t0 =>
      have := h.rdy.mpr (by rw [hst]; exact fun hx => by cases hx)
      rw [hr] at this; cases this
  have h2 : readyAt s.trace = none := by rw [← h.start]; exact h1
  exact ⟨h2, by unfold sessOf; rw [h2]⟩

theorem Base.isReady {cfg0 : Cfg} {env0 : List EnvStep} {s : Sys} (h : Base cfg0 env0 s)
    (hr : readyAt s.trace ≠ none) : s.ready = true := h.rdy.mpr (by rw [h.start]; exact hr)

theorem Base.ready {cfg0 : Cfg} {env0 : List EnvStep} {s : Sys} (h : Base cfg0 env0 s) (a : Option Http.Str) (b : Bool) :
    Base cfg0 env0 (pushEv (.ready a b) (readyState s)) := by
  refine ⟨h.cfg, h.env, ?_, ?_, ?_⟩
  · show s.now = clockOf (.ev (.ready a b) :: s.trace)
    rw [clockOf_ready]; exact h.now
  · show some s.now = readyAt (.ev (.ready a b) :: s.trace)
    rw [readyAt_ready, h.now]
  · show true = true ↔ some s.now ≠ none
    simp

theorem Base.quiet {cfg0 : Cfg} {env0 : List EnvStep} {s s' : Sys} (h : Base cfg0 env0 s)
    (q : QuietP s s') : Base cfg0 env0 s' := by
  obtain ⟨l, e, n⟩ := q.trace
  refine ⟨q.cfg.trans h.cfg, q.env.trans h.env, ?_, ?_, by rw [q.ready, q.startTime]; exact h.rdy⟩
  · rw [q.now, e, clockOf_neutral.append l _ n]; exact h.now
  · rw [q.startTime, e, readyAt_neutral.append l _ n]; exact h.start

/-- entries made by `session.write` / `_close_socket` -/
def WrEntry (o : Obs) : Prop := (∃ b, o = .wr b) ∨ (∃ b, o = .wrFail b) ∨ (∃ op pl, o = .wrz op pl) ∨ o = .sockClose

theorem WrEntry.facts {o : Obs} (h : WrEntry o) :
    o.tmTickVal = none ∧ o.tmIsReady = false ∧ o.tmIsRes = false ∧ isConnEv o = false := by
  rcases h with ⟨b, rfl⟩ | ⟨b, rfl⟩ | ⟨op, pl, rfl⟩ | rfl <;> exact ⟨rfl, rfl, rfl, rfl⟩

theorem wrEntry_of_isWrite {o : Obs} (h : o.isWrite = true) : WrEntry o := by
  cases o <;> first
    | exact Or.inl ⟨_, rfl⟩ | exact Or.inr (Or.inl ⟨_, rfl⟩) | exact Or.inr (Or.inr (Or.inl ⟨_, _, rfl⟩)) | cases h

/-- a step after which the close-timer facts of the trace read as before: `sent_close_time`
    untouched, the socket closed only with a `sockClose` mark, nothing but `cN` entries appended -/
structure CQ (s s' : Sys) : Prop where
  sct : s'.sentCloseTime = s.sentCloseTime
  sock : s'.sockOpen = s.sockOpen ∨ (s'.sockOpen = false ∧ Obs.sockClose ∈ s'.trace)
  trace : ∃ l, s'.trace = l ++ s.trace ∧ ∀ o ∈ l, Obs.cN o = true

theorem cq_po : PO CQ where
  refl s := ⟨rfl, Or.inl rfl, ⟨[], rfl, by simp⟩⟩
  trans := by
    intro a b c h1 h2
    obtain ⟨l1, e1, n1⟩ := h1.trace
    obtain ⟨l2, e2, n2⟩ := h2.trace
    refine ⟨h2.sct.trans h1.sct, ?_, ext_trans h1.trace h2.trace⟩
    rcases h2.sock with h | h
    · rcases h1.sock with h' | ⟨h', hm⟩
      · exact Or.inl (h.trans h')
      · exact Or.inr ⟨h.trans h', by rw [e2]; exact List.mem_append_right _ hm⟩
    · exact Or.inr h

theorem CQ.same {s s' : Sys} (h1 : s'.sentCloseTime = s.sentCloseTime) (h2 : s'.sockOpen = s.sockOpen)
    (h3 : s'.trace = s.trace) : CQ s s' := ⟨h1, Or.inl h2, ⟨[], h3, by simp⟩⟩

theorem CQ.one {s s' : Sys} {o : Obs} (h1 : s'.sentCloseTime = s.sentCloseTime) (h2 : s'.sockOpen = s.sockOpen)
    (h3 : s'.trace = o :: s.trace) (ho : o.cN = true) : CQ s s' :=
  ⟨h1, Or.inl h2, ⟨[o], h3, by simpa using ho⟩⟩

theorem cq_closeSocket : Spec CQ closeSocket :=
  spec_closeSocket cq_po fun _ _ => ⟨rfl, Or.inr ⟨rfl, List.mem_cons_self⟩, ⟨[.sockClose], rfl, by simp [Obs.cN, Obs.tmTickVal, Obs.tmIsReady, Obs.isClose, isConnEv, isCtoEv]⟩⟩

theorem cq_selClose : Spec CQ selClose :=
  spec_selClose cq_po fun _ _ => CQ.one rfl rfl rfl (by simp [Obs.cN, Obs.tmTickVal, Obs.tmIsReady, Obs.isClose, isConnEv, isCtoEv])

theorem cN_wr (b : Bytes) (h : isCloseBytes b = false) : (Obs.wr b).cN = true := by
  simp [Obs.cN, Obs.tmTickVal, Obs.tmIsReady, Obs.isClose, isConnEv, isCtoEv, h]

theorem cN_wrFail (b : Bytes) (h : isCloseBytes b = false) : (Obs.wrFail b).cN = true := by
  simp [Obs.cN, Obs.tmTickVal, Obs.tmIsReady, Obs.isClose, isConnEv, isCtoEv, h]

theorem cN_wrz (op : Nat) (pl : Bytes) (h : op ≠ 8) : (Obs.wrz op pl).cN = true := by
  simp [Obs.cN, Obs.tmTickVal, Obs.tmIsReady, Obs.isClose, isConnEv, isCtoEv, h]

theorem cN_res (r : ActRes) : (Obs.res r).cN = true := by
  simp [Obs.cN, Obs.tmTickVal, Obs.tmIsReady, Obs.isClose, isConnEv, isCtoEv]

theorem cq_write (d : Bytes) (z : Option (Nat × Bytes)) (h : closeLike d z = false) : Spec CQ (write d z) := by
  unfold closeLike at h
  simp only [Bool.or_eq_false_iff] at h
  refine spec_write cq_po d z (fun s o _ _ _ ho => CQ.one rfl rfl rfl ?_)
  rcases ho with rfl | rfl
  · exact cN_wrFail _ h.1
  · match z with
    | none => exact cN_wr _ h.1
    | some (op, pl) => exact cN_wrz _ _ (by simpa using h.2)

theorem cq_sendFrame (op : Nat) (pl : Bytes) (c : Option Bytes) (hop : op < 16 ∧ op ≠ 8) :
    Spec CQ (sendFrame op pl c) := fun s =>
  sendFrame_elim (P := fun q => CQ s q.state) op pl c s (fun _ _ => CQ.same rfl rfl rfl) (fun d z hf => by
    refine cq_po.trans (CQ.same rfl rfl rfl : CQ s (keyDrawn s)) (cq_write d z ?_ _)
    rcases hf with ⟨hb⟩ | ⟨plain⟩
    · simp only [closeLike, Bool.or_false]
      rw [isCloseBytes_build _ _ _ _ hop.1 hb]; simp [hop.2]
    · simp [closeLike, isCloseBytes, hop.2])

theorem cq_sendData (op : Nat) (pl : Bytes) (c : Bool) (hop : op < 16 ∧ op ≠ 8) : Spec CQ (sendData op pl c) := by
  intro s; unfold sendData; split <;> exact cq_sendFrame _ _ _ hop s

theorem cq_onDisconnect : Spec CQ onDisconnect :=
  spec_onDisconnect cq_po cq_closeSocket fun _ => CQ.same rfl rfl rfl

theorem cq_onEvent (e : Event) : Spec CQ (onEvent e) :=
  spec_onEvent cq_po e (fun _ _ _ _ => CQ.same rfl rfl rfl) (fun _ _ _ => CQ.same rfl rfl rfl)
    (fun _ _ _ s _ => cq_sendFrame _ _ _ (by decide) s)

theorem cq_pushEv (e : Event) (s : Sys) (h : (Obs.ev e).cN = true) : CQ s (pushEv e s) :=
  CQ.one rfl rfl rfl h

/-- the upgrade request is not mistaken for a Close frame (true of every request `build_request`
    makes: it starts with `GET`; `C08.built_request_is_not_a_close`) -/
def ReqOk0 (cfg0 : Cfg) : Prop := isCloseBytes cfg0.request = false

/-- the close-timer facts that hold in **every** state of a connection -/
structure CW (hi : Bool) (cfg0 : Cfg) (s : Sys) : Prop where
  /-- `sent_close_time` is what the trace says -/
  arm : ∀ ct, s.sentCloseTime = some ct → Armed cfg0.v.closeArgs ct s.trace
  sk : s.sockOpen = false → Obs.sockClose ∈ s.trace ∨ connSeen s.trace = false
  cinv : ReqOk0 cfg0 → Inv s
  /-- conversely to `arm`: a Close frame on the trace has armed the timer -/
  cw : ReqOk0 cfg0 → ∀ ct, CloseWr ct s.trace → s.sentCloseTime = some ct
  cto : CtoOK cfg0.v.closeArgs cfg0.closeTimeout cfg0.poll hi s.trace
  tok : TickC (ReqOk0 cfg0) hi cfg0.poll cfg0.closeTimeout s.trace

/-- **the close timer is not overdue** by more than the slack `sl` (`sl = 0` after every
    `_regular()` that returned; `sl = dt` right after a `selector.wait` of `dt` ticks) -/
def Ndue (cfg0 : Cfg) (sl : Nat) (s : Sys) : Prop :=
  cfg0.closeTimeout ≠ 0 → ∀ ct, s.sentCloseTime = some ct → sessOf s.trace < ct + cfg0.closeTimeout + sl

theorem CW.of_cq {hi : Bool} {cfg0 : Cfg} {s s' : Sys} (q : CQ s s') (hc : Inv s → Inv s') (h : CW hi cfg0 s) :
    CW hi cfg0 s' := by
  obtain ⟨l, e, n⟩ := q.trace
  refine ⟨?_, ?_, fun hr => hc (h.cinv hr), ?_, ?_, ?_⟩
  · intro ct hct
    rw [q.sct] at hct
    rw [e]; exact armed_append _ ct l _ (h.arm ct hct)
  · intro hso
    rcases q.sock with hs | ⟨_, hm⟩
    · rcases h.sk (hs ▸ hso) with h1 | h1
      · exact Or.inl (by rw [e]; exact List.mem_append_right _ h1)
      · exact Or.inr (by rw [e, connSeen_ignores.append l _ (fun o ho => ((cN_iff o).mp (n o ho)).2.2.2.1)]; exact h1)
    · exact Or.inl hm
  · intro hr ct hcw
    rw [e, closeWr_append_cN ct l _ n] at hcw
    rw [q.sct]; exact h.cw hr ct hcw
  · rw [e, (ctoOK_ignores _ _ _ _).append l _ (fun o ho => ((cN_iff o).mp (n o ho)).2.2.2.2)]; exact h.cto
  · rw [e, (tickC_ignores _ _ _ _).append l _ (fun o ho => ((cN_iff o).mp (n o ho)).1)]; exact h.tok

theorem Ndue.of_cq {cfg0 : Cfg} {sl : Nat} {s s' : Sys} (q : CQ s s') (h : Ndue cfg0 sl s) : Ndue cfg0 sl s' := by
  obtain ⟨l, e, n⟩ := q.trace
  intro hc ct hct
  rw [q.sct] at hct
  rw [e, sessOf_append_cN l _ n]; exact h hc ct hct

theorem CW.cons {hi : Bool} {cfg0 : Cfg} {s s' : Sys} {o : Obs} (h : CW hi cfg0 s) (e : s'.trace = o :: s.trace)
    (e1 : s'.sentCloseTime = s.sentCloseTime) (e2 : s'.sockOpen = s.sockOpen)
    (hinv : ReqOk0 cfg0 → Inv s → Inv s') (hcl : ReqOk0 cfg0 → o.isClose = false)
    (hconn : isConnEv o = true → s.sockOpen = true)
    (hcto : ctoAt cfg0.v.closeArgs cfg0.closeTimeout cfg0.poll hi o s.trace)
    (htick : tickCAt (ReqOk0 cfg0) hi cfg0.poll cfg0.closeTimeout o s.trace) :
    CW hi cfg0 s' := by
  refine ⟨?_, ?_, fun hr => hinv hr (h.cinv hr), ?_, by rw [e]; exact ⟨hcto, h.cto⟩, by rw [e]; exact ⟨htick, h.tok⟩⟩
  · intro ct hct
    rw [e1] at hct
    rw [e]; exact armed_append _ ct [o] _ (h.arm ct hct)
  · intro hso
    rw [e2] at hso
    rcases h.sk hso with h5 | h5
    · exact Or.inl (by rw [e]; exact List.mem_cons_of_mem _ h5)
    · have hc : isConnEv o = false := by
        cases hc : isConnEv o with
        | false => rfl
        | true => rw [hconn hc] at hso; cases hso
      refine Or.inr ?_
      rw [e]; simp only [connSeen, List.any_cons, hc, Bool.false_or]; exact h5
  · intro hr ct hw
    rw [e, closeWr_cons_iff, hcl hr] at hw
    rw [e1]
    rcases hw with ⟨hx, _⟩ | hw
    · cases hx
    · exact h.cw hr ct hw

theorem closeEntry {pl key bs : Bytes} {f : Bool} {o : Obs} (hb : Frame.build Gen.opClose pl key = some bs)
    (hw : Sendall bs f none o) : o.isClose = true ∧ o.cN = false ∧ o.tmTickVal = none ∧ o.tmIsReady = false ∧
      isConnEv o = false ∧ isCtoEv o = false := by
  have hcb : isCloseBytes bs = true := by rw [isCloseBytes_build _ _ _ _ (by decide) hb]; rfl
  cases hw <;> simp [Obs.isClose, Obs.cN, hcb, Obs.tmTickVal, Obs.tmIsReady, isConnEv, isCtoEv]

theorem noSocket_of_refused {s : Sys} (hs : ¬ Shut s) (hno : ¬ Open s) : s.sockOpen = false := by
  cases hx : s.sockOpen with
  | false => rfl
  | true =>
    exact absurd ⟨hx, Bool.eq_false_iff.mpr fun x => hs (.inl x), Bool.eq_false_iff.mpr fun x => hs (.inr x)⟩ hno

theorem closeWr_hasClose {ct : Nat} {tr : List Obs} (h : CloseWr ct tr) : hasClose tr = true := by
  obtain ⟨l, o, t, e, ho, _⟩ := h
  simp only [hasClose, List.any_eq_true]
  exact ⟨o, by rw [e]; simp, ho⟩

theorem CW.no_closeWr {hi : Bool} {cfg0 : Cfg} {s : Sys} (h : CW hi cfg0 s) (hr : ReqOk0 cfg0)
    (hc : s.closed = false) (hg : s.closing = false) (ct : Nat) : ¬ CloseWr ct s.trace := by
  intro hw
  have := (h.cinv hr).noClose hg hc
  rw [closeWr_hasClose hw] at this
  cases this

/-- the close-timer invariant with slack `sl`: clock invariant, the facts of every state, not overdue by more than `sl` -/
structure CI (hi : Bool) (cfg0 : Cfg) (env0 : List EnvStep) (sl : Nat) (s : Sys) : Prop where
  b : Base cfg0 env0 s
  w : CW hi cfg0 s
  n : Ndue cfg0 sl s

/-- the step keeps `CI … sl`: a preorder, the form in which the `spec_<fn>` lemmas lift the invariant -/
def RC (hi : Bool) (cfg0 : Cfg) (env0 : List EnvStep) (sl : Nat) (s s' : Sys) : Prop :=
  CI hi cfg0 env0 sl s → CI hi cfg0 env0 sl s'

section CloseSteps
variable {hi : Bool} {cfg0 : Cfg} {env0 : List EnvStep} {sl : Nat}

theorem rc_po : PO (RC hi cfg0 env0 sl) := Monitor.pres_po _

theorem CI.quiet {s s' : Sys} (h : CI hi cfg0 env0 sl s) (q : QuietP s s') (c : CQ s s') (k : Cl s s') :
    CI hi cfg0 env0 sl s' :=
  ⟨h.b.quiet q, h.w.of_cq c k.inv, h.n.of_cq c⟩

theorem rc_of_quiet {m : M α} (hq : Spec QuietP m) (hc : Spec CQ m) (hk : Spec Cl m) :
    Spec (RC hi cfg0 env0 sl) m := fun s h => h.quiet (hq s) (hc s) (hk s)

theorem CI.same {s s' : Sys} (h : CI hi cfg0 env0 sl s) (e1 : s'.cfg = s.cfg) (e2 : s'.env = s.env)
    (e3 : s'.now = s.now) (e4 : s'.startTime = s.startTime) (e5 : s'.ready = s.ready)
    (e6 : s'.sentCloseTime = s.sentCloseTime) (e7 : s'.sockOpen = s.sockOpen) (e8 : s'.closing = s.closing)
    (e9 : s'.closed = s.closed) (e10 : s'.trace = s.trace) : CI hi cfg0 env0 sl s' := by
  have hinv : Inv s → Inv s' := by
    intro ⟨h1, h2⟩
    unfold Inv
    rw [e10, e8, e9]; exact ⟨h1, h2⟩
  refine ⟨⟨e1.trans h.b.cfg, e2.trans h.b.env, by rw [e3, e10]; exact h.b.now, by rw [e4, e10]; exact h.b.start,
    by rw [e5, e4]; exact h.b.rdy⟩, h.w.of_cq (CQ.same e6 e7 e10) hinv, h.n.of_cq (CQ.same e6 e7 e10)⟩

/-- `close()` does nothing, or arms the timer at the present session time, with the Close frame on the
    trace or the reason why there is none -/
theorem rc_wsClose (c : Option Nat) (r : Arg) : Spec (RC hi cfg0 env0 sl) (wsClose c r) := by
  intro s h
  have hc := (cl_wsClose c r s).inv
  have hb := h.b.quiet (quietP_wsClose c r s)
  have hw := h.w
  have fresh : ∀ tr, sessOf tr = sessOf s.trace → cfg0.closeTimeout ≠ 0 → ∀ ct, some (sessionTime s) = some ct →
      sessOf tr < ct + cfg0.closeTimeout + sl := by
    intro tr e hc0 ct hct
    rw [h.b.sess] at hct; cases hct
    have := Nat.pos_of_ne_zero hc0
    omega
  have noWr : ¬ Shut s → ReqOk0 cfg0 → ∀ ct, ¬ CloseWr ct s.trace := fun hs hr ct =>
    hw.no_closeWr hr (Bool.eq_false_iff.mpr fun x => hs (.inr x)) (Bool.eq_false_iff.mpr fun x => hs (.inl x)) ct
  rcases wsClose_obs c r s with ⟨a, e, _⟩ | ⟨hs, hno, e⟩ | ⟨ho, o, pl, bs, e, _, hbs, hsa⟩
  · rw [e]; exact h
  all_goals (rw [e] at hc hb ⊢; simp only [Res.state_ok] at hc hb ⊢)
  · refine ⟨hb, ⟨?_, hw.sk, fun hr => hc (hw.cinv hr), fun hr ct x => absurd x (noWr hs hr ct), hw.cto, hw.tok⟩,
      fresh _ rfl⟩
    intro ct hct
    rw [show (closeRefused s).sentCloseTime = some (sessionTime s) from rfl, h.b.sess] at hct; cases hct
    refine Or.inr ⟨[], s.trace, rfl, rfl, ?_⟩
    cases hv : cfg0.v.closeArgs with
    | false => exact Or.inr (Or.inr rfl)
    | true =>
      exact (hw.sk (noSocket_of_refused hs (hno (by rw [h.b.cfg]; exact hv)))).elim Or.inl (fun x => Or.inr (Or.inl x))
  · obtain ⟨o0, _, o1, o2, o3, o4⟩ := closeEntry hbs hsa
    have hs : ¬ Shut s := ho.not_shut
    refine ⟨hb, ⟨?_, ?_, fun hr => hc (hw.cinv hr), ?_, ?_, ?_⟩, fresh _ (sessOf_cons_of _ o1 o2)⟩
    · intro ct hct
      rw [show (closeWritten o s).sentCloseTime = some (sessionTime s) from rfl, h.b.sess] at hct; cases hct
      exact Or.inl ⟨[], o, s.trace, rfl, o0, rfl⟩
    · intro hso
      exact absurd ho.1 (by rw [show s.sockOpen = false from hso]; decide)
    · intro hr ct x
      rcases (closeWr_cons_iff ct o s.trace).mp x with ⟨_, e⟩ | x
      · rw [← e, ← h.b.sess]; rfl
      · exact absurd x (noWr hs hr ct)
    · exact (ctoOK_ignores _ _ _ _ o _ o4).mpr hw.cto
    · exact (tickC_ignores _ _ _ _ o _ o1).mpr hw.tok

theorem cN_of_neutral_ev {e : Event} (h : (Obs.ev e).tmNeutral = true) (h1 : isConnEv (.ev e) = false)
    (h2 : isCtoEv (.ev e) = false) : (Obs.ev e).cN = true := by
  obtain ⟨a, b, _⟩ := (neutral_iff _).mp h
  exact (cN_iff _).mpr ⟨a, b, rfl, h1, h2⟩

theorem cl_pushEv (e : Event) (s : Sys) : Cl s (pushEv e s) := Cl.of_ext [.ev e] rfl rfl id

theorem rc_pushEv (e : Event) (h : (Obs.ev e).cN = true) (s : Sys) : RC hi cfg0 env0 sl s (pushEv e s) := by
  intro hs
  obtain ⟨h1, h2, _⟩ := (cN_iff _).mp h
  refine ⟨⟨hs.b.cfg, hs.b.env, ?_, ?_, hs.b.rdy⟩, hs.w.of_cq (cq_pushEv e s h) (cl_pushEv e s).inv,
    hs.n.of_cq (cq_pushEv e s h)⟩
  · show s.now = clockOf (.ev e :: s.trace)
    rw [clockOf_cons_of _ h1]; exact hs.b.now
  · show s.startTime = readyAt (.ev e :: s.trace)
    rw [readyAt_cons_of _ h2]; exact hs.b.start

theorem quietP_log (o : Obs) (h : o.tmNeutral = true) : Spec QuietP (log o) := by
  intro s; unfold log modS
  exact ⟨rfl, rfl, rfl, rfl, rfl, rfl, rfl, ⟨[o], rfl, by simpa using h⟩⟩

theorem cq_log (o : Obs) (h : o.cN = true) : Spec CQ (log o) := by
  intro s; unfold log modS; exact CQ.one rfl rfl rfl h

theorem rc_logRes {m : M ActRes} (h : Spec (RC hi cfg0 env0 sl) m) : Spec (RC hi cfg0 env0 sl) (logRes m) := by
  unfold logRes
  exact spec_bind rc_po h (fun r => rc_of_quiet (quietP_log_res r) (cq_log _ (cN_res r)) (cl_log _ rfl))

theorem rc_sendFrame (op : Nat) (pl : Bytes) (c : Option Bytes) (hop : op < 16 ∧ op ≠ 8) :
    Spec (RC hi cfg0 env0 sl) (sendFrame op pl c) :=
  rc_of_quiet (quietP_sendFrame _ _ _) (cq_sendFrame _ _ _ hop) (cl_sendFrame _ _ _ hop)

theorem rc_sendData (op : Nat) (pl : Bytes) (c : Bool) (hop : op < 16 ∧ op ≠ 8) :
    Spec (RC hi cfg0 env0 sl) (sendData op pl c) :=
  rc_of_quiet (quietP_sendData _ _ _) (cq_sendData _ _ _ hop) (cl_sendData _ _ _ hop)

theorem rc_doAct (a : Act) : Spec (RC hi cfg0 env0 sl) (doAct a) := by
  refine doAct_of_api (fun m hm => rc_logRes ?_) (fun s w h => h.same rfl rfl rfl rfl rfl rfl rfl rfl rfl rfl) a
  cases hm with
  | argError r => exact spec_pure rc_po _
  | data op pl c h => exact rc_sendData _ _ _ (by rcases h with rfl | rfl <;> decide)
  | ctrl op pl h => exact rc_sendFrame _ _ _ (by rcases h with rfl | rfl <;> decide)
  | close code reason => exact rc_wsClose _ _
  | sessionClose =>
    exact spec_bind rc_po (rc_of_quiet quietP_closeSocket cq_closeSocket cl_closeSocket) (fun _ => spec_pure rc_po _)

theorem rc_doActs (as : List Act) : Spec (RC hi cfg0 env0 sl) (doActs as) :=
  spec_doActs rc_po as (fun a _ => rc_doAct a)

theorem rc_yieldEv (e : Event) (h : (Obs.ev e).cN = true) : Spec (RC hi cfg0 env0 sl) (yieldEv e) := by
  intro s hs
  rw [yieldEv_eq]
  exact rc_doActs _ _ (rc_pushEv e h s hs)

theorem rc_checkPoll : Spec (RC hi cfg0 env0 sl) checkPoll :=
  spec_checkPoll rc_po (fun _ h => h.same rfl rfl rfl rfl rfl rfl rfl rfl rfl rfl) (rc_yieldEv _ rfl)

theorem rc_checkAutoPing : Spec (RC hi cfg0 env0 sl) checkAutoPing :=
  spec_checkAutoPing rc_po (fun s _ _ h => h.same rfl rfl rfl rfl rfl rfl rfl rfl rfl rfl)
    (rc_sendFrame _ _ _ (by decide))

theorem rc_checkPingTimeout : Spec (RC hi cfg0 env0 sl) checkPingTimeout :=
  spec_checkPingTimeout rc_po (rc_yieldEv _ rfl)

theorem rc_closeSocket : Spec (RC hi cfg0 env0 sl) closeSocket :=
  rc_of_quiet quietP_closeSocket cq_closeSocket cl_closeSocket

end CloseSteps

theorem sessOf_tick_le {n D : Nat} (t : List Obs) (h : n ≤ clockOf t + D) : sessOf (.tick n :: t) ≤ sessOf t + D := by
  unfold sessOf
  rw [readyAt_tick, clockOf_tick]
  cases readyAt t with
  | none => simp
  | some t0 => simp only; omega

theorem Base.tick {cfg0 : Cfg} {env0 : List EnvStep} {s : Sys} (h : Base cfg0 env0 s) (dt : Nat) :
    Base cfg0 env0 (tick s dt) := by
  by_cases h0 : dt = 0
  · subst h0; rw [Core.tick_zero]; exact h
  · rw [tick_pos s dt h0]
    exact ⟨h.cfg, h.env, rfl, h.start, h.rdy⟩

section CloseTick
variable {hi : Bool} {cfg0 : Cfg} {env0 : List EnvStep}

/-- `selector.wait` returned after `dt` ticks: the clock mark records that no close timer was
    overdue when the loop went to wait; afterwards it is overdue by less than `dt` -/
theorem CI.tick {s : Sys} (h : CI hi cfg0 env0 0 s) (dt : Nat) (hdt : hi = true → dt ≤ cfg0.poll) :
    CI hi cfg0 env0 dt (tick s dt) := by
  by_cases h0 : dt = 0
  · subst h0; rw [Core.tick_zero]; exact h
  · have hb := h.b.tick dt
    rw [tick_pos s dt h0] at hb ⊢
    have hinv : Inv s → Inv { s with now := s.now + dt, trace := .tick (s.now + dt) :: s.trace } := by
      have := (cl_tick s dt).inv
      rw [tick_pos s dt h0] at this; exact this
    refine ⟨hb, h.w.cons (o := .tick (s.now + dt)) rfl rfl rfl (fun _ => hinv) (fun _ => rfl) (fun hx => by cases hx)
      (fun hx => by cases hx) ?_, ?_⟩
    · intro n hn
      cases hn
      rw [← h.b.now]
      exact ⟨by omega, fun hhi => (by have := hdt hhi; omega),
        fun hr hc0 ct hw => h.n hc0 ct (h.w.cw hr ct hw)⟩
    · intro hc0 ct hct
      have := h.n hc0 ct hct
      have := sessOf_tick_le (n := s.now + dt) s.trace (Nat.le_of_eq (by rw [h.b.now]))
      show sessOf (.tick (s.now + dt) :: s.trace) < ct + cfg0.closeTimeout + dt
      omega

theorem CI.weaken {sl : Nat} {s : Sys} (h : CI hi cfg0 env0 0 s) : CI hi cfg0 env0 sl s :=
  ⟨h.b, h.w, fun hc0 ct hct => by have := h.n hc0 ct hct; omega⟩

/-- the close timer is overdue in `s`: `_ForceDisconnect('close-timeout')` is in flight -/
def DueC (cfg0 : Cfg) (s : Sys) : Prop :=
  cfg0.closeTimeout ≠ 0 ∧ ∃ ct, s.sentCloseTime = some ct ∧ ct + cfg0.closeTimeout ≤ sessOf s.trace

theorem checkCloseTimeout_C {sl : Nat} {s : Sys} (h : CI hi cfg0 env0 sl s) :
    (checkCloseTimeout s = .ok () s ∧ CI hi cfg0 env0 0 s) ∨
    (checkCloseTimeout s = .err (.forceDisconnect "close-timeout") s ∧ DueC cfg0 s) := by
  by_cases hd : closeTimeoutDue s
  · right
    refine ⟨checkCloseTimeout_fires s hd, ?_⟩
    obtain ⟨h0, ct, hct, hge⟩ := hd
    rw [h.b.cfg] at h0 hge
    rw [h.b.sess] at hge
    exact ⟨h0, ct, hct, hge⟩
  · left
    refine ⟨checkCloseTimeout_quiet s hd, h.b, h.w, ?_⟩
    intro hc0 ct hct
    apply Nat.lt_of_not_le
    intro hle
    apply hd
    refine ⟨by rw [h.b.cfg]; exact hc0, ct, hct, ?_⟩
    rw [h.b.cfg, h.b.sess]; omega

def RegOutC (hi : Bool) (cfg0 : Cfg) (env0 : List EnvStep) (dt : Nat) : Res Unit → Prop
  | .ok _ s' => CI hi cfg0 env0 0 s'
  | .err x s' => CI hi cfg0 env0 dt s' ∧ (x = .genExit ∨ x = .forceDisconnect "ping-timeout" ∨
      (x = .forceDisconnect "close-timeout" ∧ DueC cfg0 s'))

theorem regular_tick_C {s : Sys} (h : CI hi cfg0 env0 0 s) (dt : Nat) (hdt : hi = true → dt ≤ cfg0.poll) :
    RegOutC hi cfg0 env0 dt (regular (tick s dt)) := by
  have ht := h.tick dt hdt
  generalize tick s dt = st at ht
  refine regular_gen (I1 := CI hi cfg0 env0 dt) (I2 := CI hi cfg0 env0 dt) (I3 := CI hi cfg0 env0 dt) st
    (fun hr' => ⟨ht.b, ht.w, ?_⟩) (rc_checkPoll st ht) (fun s1 h1 => ⟨h1, Or.inl rfl⟩) rc_checkAutoPing (fun s2 h2 => ?_)
    (fun s3 h3 => ?_)
  · intro hc0 ct hct
    rw [(ht.b.notReady hr').2]
    have := Nat.pos_of_ne_zero hc0
    omega
  · have h3 := rc_checkPingTimeout s2 h2
    cases e3 : checkPingTimeout s2 with
    | ok u3 s3 => rw [e3] at h3; exact h3
    | err x s3 => rw [e3] at h3; exact fun hx => ⟨h3, hx.elim Or.inl (fun hx => Or.inr (Or.inl hx))⟩
  · rcases checkCloseTimeout_C h3 with ⟨e4, h4⟩ | ⟨e4, h4⟩
    · rw [e4]; exact h4
    · rw [e4]; exact ⟨h3, Or.inr (Or.inr ⟨rfl, h4⟩)⟩

end CloseTick

section CloseFeed
variable {hi : Bool} {cfg0 : Cfg} {env0 : List EnvStep}

/-- Ready: the session clock restarts at 0, so a `close()` made before Ready is not overdue -/
theorem CI.ready {s : Sys} (h : CI hi cfg0 env0 0 s) (a : Option Http.Str) (b : Bool) :
    CI hi cfg0 env0 0 (pushEv (.ready a b) (readyState s)) := by
  have hinv : Inv s → Inv (pushEv (.ready a b) (readyState s)) := by
    intro ⟨h1, h2⟩
    exact ⟨by show Lomond.Core.quiet (.ev (.ready a b) :: s.trace) = true; simpa [Lomond.Core.quiet, Obs.isWrite] using h1,
           by intro hc; apply h2; simpa [hasClose, Obs.isClose, pushEv, readyState] using hc⟩
  refine ⟨h.b.ready a b, h.w.cons (o := .ev (.ready a b)) rfl rfl rfl (fun _ => hinv) (fun _ => rfl)
    (fun hx => by cases hx) (fun hx => by cases hx) (fun n hn => by cases hn), ?_⟩
  · intro hc0 ct hct
    show sessOf (.ev (.ready a b) :: s.trace) < ct + cfg0.closeTimeout + 0
    rw [sessOf_ready]
    have := Nat.pos_of_ne_zero hc0
    omega

theorem cN_feedEvent {e : Event} (hf : isFeedEvent e = true) (hr : ∀ a b, e ≠ .ready a b) :
    (Obs.ev e).cN = true := by
  cases e <;> first
    | (exact absurd rfl (hr _ _))
    | (simp [isFeedEvent] at hf; done)
    | rfl

theorem onEvent_push_C {e : Event} (hf : isFeedEvent e = true) {s s1 : Sys} {u : Unit} (h : CI hi cfg0 env0 0 s)
    (hE : onEvent e s = .ok u s1) : CI hi cfg0 env0 0 (pushEv e s1) := by
  cases e with
  | ready a b =>
    simp only [onEvent] at hE
    cases hE
    exact h.ready a b
  | pong d =>
    simp only [onEvent] at hE
    cases hE
    exact rc_pushEv _ rfl _ (h.same rfl rfl rfl rfl rfl rfl rfl rfl rfl rfl)
  | ping d =>
    have h1 : CI hi cfg0 env0 0 s1 := by
      simp only [onEvent] at hE
      repeat' split at hE
      all_goals first
        | (cases hE; exact h)
        | (cases hE; done)
        | (rename_i heq; cases hE; exact (rc_sendFrame _ _ _ (by decide)).ok heq h)
    exact rc_pushEv _ rfl _ h1
  | _ =>
    first
      | (simp [isFeedEvent] at hf; done)
      | (simp only [onEvent] at hE; cases hE; exact rc_pushEv _ rfl _ h)

end CloseFeed

def isDiscEv : Obs → Bool
  | .ev (.disconnected _ _) => true
  | _ => false

def discAny (tr : List Obs) : Bool := tr.any isDiscEv

def NoClosedEv (o : Obs) : Prop := isClosedEv o = false ∧ isDiscEv o = false

def NoDiscEv (o : Obs) : Prop := isDiscEv o = false

theorem timers_noClosed : Lomond.Core.Timers NoClosedEv where
  nonEv := by intro o ho; cases o <;> first | exact ⟨rfl, rfl⟩ | cases ho
  poll := ⟨rfl, rfl⟩
  unresponsive := ⟨rfl, rfl⟩

theorem timers_noDisc : Lomond.Core.Timers NoDiscEv where
  nonEv := by intro o ho; cases o <;> first | rfl | cases ho
  poll := rfl
  unresponsive := rfl

/-- **once `Closed` was yielded the websocket is closed** (so the loop never waits again), and no
    `Disconnected` is yielded while the loop runs -/
structure J (s : Sys) : Prop where
  cl : closedSeen s.trace = true → s.closed = true
  nd : discAny s.trace = false

theorem discAny_ignores : Ignores discAny (fun o => isDiscEv o = false) := any_ignores isDiscEv

theorem closedSeen_ext {s s' : Sys} (h : Ext NoClosedEv s s') : closedSeen s'.trace = closedSeen s.trace := by
  obtain ⟨l, e, n⟩ := h
  rw [e]; exact closedSeen_ignores.append l _ (fun o ho => (n o ho).1)

theorem discAny_ext {s s' : Sys} (h : Ext NoDiscEv s s') : discAny s'.trace = discAny s.trace := by
  obtain ⟨l, e, n⟩ := h
  rw [e]; exact discAny_ignores.append l _ n

/-- once `Closed` was yielded the websocket is closed: holds between the leaves, not inside `_on_close` -/
def ClosedDone (s : Sys) : Prop := closedSeen s.trace = true → s.closed = true

theorem ClosedDone.step {s s' : Sys} (a : ClosedDone s) (st : Step s s') (e : Ext NoClosedEv s s') : ClosedDone s' :=
  fun hc => st.closedMono (a (closedSeen_ext e ▸ hc))

theorem nd_step {s s' : Sys} (h : discAny s.trace = false) (e : Ext NoClosedEv s s') : discAny s'.trace = false := by
  rw [discAny_ext (e.mono (fun o ho => ho.2))]; exact h

theorem J.step {s s' : Sys} (h : J s) (st : Step s s') (e : Ext NoClosedEv s s') : J s' :=
  ⟨ClosedDone.step h.cl st e, nd_step h.nd e⟩

def IC (hi : Bool) (cfg0 : Cfg) (env0 : List EnvStep) (s : Sys) : Prop := CI hi cfg0 env0 0 s ∧ J s

/-- what an exception in flight says about the close timer: `_ForceDisconnect('close-timeout')` only
    with the timer overdue (and by less than `poll` under the cycle bound) and no `Closed` yielded;
    the library's own errors leave the invariant intact -/
def EC (hi : Bool) (cfg0 : Cfg) (y : Exn) (s : Sys) : Prop :=
  discAny s.trace = false ∧
  (y.calm → Ndue cfg0 0 s ∧ J s) ∧
  (y = .forceDisconnect "close-timeout" → DueC cfg0 s ∧ closedSeen s.trace = false ∧
      (hi = true → ∀ ct, s.sentCloseTime = some ct → sessOf s.trace < ct + cfg0.closeTimeout + cfg0.poll))

def XC (hi : Bool) (cfg0 : Cfg) (env0 : List EnvStep) : Exn → Sys → Prop :=
  XGen (fun s => Base cfg0 env0 s ∧ CW hi cfg0 s) (EC hi cfg0)

section CloseClause
variable {hi : Bool} {cfg0 : Cfg} {env0 : List EnvStep}

/-- an exception that says nothing about the close timer: the application abandoned, or the ping
    timeout struck -/
theorem EC.silent {y : Exn} {s : Sys} (nd : discAny s.trace = false) (h1 : ¬ y.calm)
    (h2 : y ≠ .forceDisconnect "close-timeout") : EC hi cfg0 y s :=
  ⟨nd, fun h => absurd h h1, fun e => absurd e h2⟩

theorem XC.genExit {s : Sys} (h : CI hi cfg0 env0 0 s) (nd : discAny s.trace = false) : XC hi cfg0 env0 .genExit s :=
  XGen.of_plain rfl ⟨h.b, h.w⟩ (EC.silent nd not_calm_genExit (fun e => by cases e))

theorem IC.quiet {s s' : Sys} (h : IC hi cfg0 env0 s) (q : QuietP s s') (c : CQ s s') (k : Cl s s')
    (st : Step s s') (e : Ext NoClosedEv s s') : IC hi cfg0 env0 s' :=
  ⟨h.1.quiet q c k, h.2.step st e⟩

theorem CI.setClosed {s : Sys} (h : CI hi cfg0 env0 0 s) :
    CI hi cfg0 env0 0 { s with closing := false, closed := true } := by
  have hinv : Inv s → Inv { s with closing := false, closed := true } := by
    intro ⟨h1, _⟩
    exact ⟨h1, fun _ => Or.inr rfl⟩
  have hcq : CQ s { s with closing := false, closed := true } := CQ.same rfl rfl rfl
  exact ⟨⟨h.b.cfg, h.b.env, h.b.now, h.b.start, h.b.rdy⟩, h.w.of_cq hcq hinv, h.n.of_cq hcq⟩

theorem CI.setClosing {s : Sys} (h : CI hi cfg0 env0 0 s) : CI hi cfg0 env0 0 { s with closing := true } := by
  have hinv : Inv s → Inv { s with closing := true } := by
    intro ⟨h1, _⟩
    exact ⟨h1, fun _ => Or.inl rfl⟩
  have hcq : CQ s { s with closing := true } := CQ.same rfl rfl rfl
  exact ⟨⟨h.b.cfg, h.b.env, h.b.now, h.b.start, h.b.rdy⟩, h.w.of_cq hcq hinv, h.n.of_cq hcq⟩

end CloseClause

section CloseRun
variable {hi : Bool} {cfg0 : Cfg} {env0 : List EnvStep}

theorem ext_tick (s : Sys) (dt : Nat) : Ext NoClosedEv s (tick s dt) := by
  by_cases h0 : dt = 0
  · subst h0; rw [Core.tick_zero]; exact (ext_po _).refl s
  · rw [tick_pos s dt h0]; exact ext_one (P := NoClosedEv) (show NoClosedEv (.tick _) from ⟨rfl, rfl⟩) rfl

/-- `CI` and no `Disconnected` yielded so far: holds inside the leaves of the pipeline too -/
def CIn (hi : Bool) (cfg0 : Cfg) (env0 : List EnvStep) (sl : Nat) (s : Sys) : Prop :=
  CI hi cfg0 env0 sl s ∧ discAny s.trace = false

theorem noClosed_feedEvent {e : Event} (hf : isFeedEvent e = true) (hcl : ∀ c r, e ≠ .closed c r) : NoClosedEv (.ev e) := by
  cases e <;> first | exact ⟨rfl, rfl⟩ | exact absurd rfl (hcl _ _) | (simp [isFeedEvent] at hf; done)

theorem ext_tick_regular (s : Sys) (dt : Nat) : Ext NoClosedEv s (regular (tick s dt)).state :=
  (ext_po _).trans (ext_tick s dt) (ext_regular timers_noClosed _)

theorem timerC : Timer hi cfg0.poll (CIn hi cfg0 env0 0) ClosedDone (fun s => Base cfg0 env0 s ∧ CW hi cfg0 s)
    (EC hi cfg0) (· = .forceDisconnect "close-timeout") where
  w := fun s h => ⟨h.1.b, h.1.w⟩
  eOf := fun x s h a hn => ⟨h.2, fun _ => ⟨h.1.n, a, h.2⟩, fun e => absurd e hn⟩
  back := fun x s hb hw he => by
    obtain ⟨n, j⟩ := he.2.1 (Or.inl hb)
    exact ⟨⟨⟨hw.1, hw.2, n⟩, j.nd⟩, j.cl⟩
  own := fun x h => Or.inr h
  inert := fun s s' h hs =>
    ⟨hs.1.same h.inert.cfg h.inert.env h.inert.now h.inert.startTime h.inert.ready h.inert.sentCloseTime h.inert.sockOpen
      h.closing h.closed h.inert.trace, by rw [h.inert.trace]; exact hs.2⟩
  closeSocket := fun s hs => ⟨rc_closeSocket s hs.1, nd_step hs.2 (ext_closeSocket timers_noClosed s)⟩
  wsClose := fun c r s hs => ⟨rc_wsClose c r s hs.1, nd_step hs.2 (ext_wsClose timers_noClosed c r s)⟩
  onDisconnect := fun s hs => ⟨rc_of_quiet quietP_onDisconnect cq_onDisconnect cl_atYield.calls.onDisconnect s hs.1, nd_step hs.2 (ext_onDisconnect timers_noClosed s)⟩
  acts := fun e s h => by
    rw [yieldEv_eq]
    exact ⟨rc_doActs _ _ h.1, nd_step h.2 (ext_doActs timers_noClosed _ _)⟩
  reg := fun dt s hdt hcl hs => by
    have h1 := regular_tick_C hs.1 dt hdt
    have hex := ext_tick_regular s dt
    have hnd := nd_step hs.2 hex
    cases hr : regular (tick s dt) with
    | ok u s' => rw [hr] at h1 hnd; exact ⟨h1, hnd⟩
    | err x s' =>
      rw [hr] at h1 hnd hex
      obtain ⟨h2, hx⟩ := h1
      rcases hx with rfl | rfl | ⟨rfl, hd⟩
      · exact ⟨rfl, ⟨h2.b, h2.w⟩, EC.silent hnd not_calm_genExit (fun e => by cases e),
          fun e => ⟨⟨e ▸ h2, hnd⟩, fun h => by cases h⟩⟩
      · exact ⟨rfl, ⟨h2.b, h2.w⟩, EC.silent hnd not_calm_pto (fd_ne (by decide)),
          fun e => ⟨⟨e ▸ h2, hnd⟩, fd_ne (by decide)⟩⟩
      · -- the close timeout strikes only after time has passed, so from a state between leaves
        obtain ⟨hc0, ct, hct, hge⟩ := hd
        have hne : dt ≠ 0 := by
          intro e; subst e
          have := h2.n hc0 ct hct
          omega
        obtain ⟨a, hcd⟩ := hcl.resolve_right hne
        have hncl : closedSeen s.trace = false := by
          cases hc : closedSeen s.trace with
          | false => rfl
          | true => have := a hc; rw [hcd] at this; cases this
        refine ⟨rfl, ⟨h2.b, h2.w⟩, ⟨hnd, fun h => absurd h not_calm_cto, fun _ => ⟨⟨hc0, ct, hct, hge⟩, ?_, ?_⟩⟩,
          fun e => absurd e hne⟩
        · exact (closedSeen_ext hex).trans hncl
        · intro hhi ct' hct'
          have := h2.n hc0 ct' hct'
          have := hdt hhi
          omega

theorem betweenC : Between ClosedDone where
  closed := fun s h _ => h
  inert := fun s s' h a hc => by rw [h.inert.trace] at hc; rw [h.closed]; exact a hc
  closeSocket := fun s a => a.step (step_closeSocket s) (ext_closeSocket timers_noClosed s)
  wsClose := fun c r s a => a.step (step_wsClose c r s) (ext_wsClose timers_noClosed c r s)
  onDisconnect := fun s a => a.step (step_onDisconnect s) (ext_onDisconnect timers_noClosed s)
  feed := fun b e s hf hcl a =>
    a.step (step_feedYield b e s) (ext_feedYield timers_noClosed b e (noClosed_feedEvent hf hcl) s)
  closing := fun s a => a
  reg := fun dt s a => a.step (step_po.trans (step_tick s dt) (step_regular _)) (ext_tick_regular s dt)

theorem CIn.push {e : Event} {u : Unit} {s s1 : Sys} (hf : isFeedEvent e = true) (hE : onEvent e s = .ok u s1)
    (h : CIn hi cfg0 env0 0 s) : CIn hi cfg0 env0 0 (pushEv e s1) := by
  refine ⟨onEvent_push_C hf h.1 hE, ?_⟩
  have hd : isDiscEv (.ev e) = false := by cases e <;> first | rfl | (simp [isFeedEvent] at hf; done)
  show discAny (.ev e :: s1.trace) = false
  rw [discAny_ignores _ _ hd, discAny_ext ((ext_onEvent timers_noDisc e).ok hE)]; exact h.2

theorem ic_leaves : LeavesX (fun s => CIn hi cfg0 env0 0 s ∧ ClosedDone s) (XC hi cfg0 env0) :=
  timerC.leaves betweenC
    (timerC.onClose betweenC (fun _ _ _ _ hf hE h => h.push hf hE) (fun _ _ _ h _ => ⟨h.1.setClosed, h.2⟩)
      (fun _ _ _ h _ => ⟨h.1.setClosing, h.2⟩))
    (fun _ _ _ _ hf _ hE h => h.push hf hE)

theorem ic_loop (env : List EnvStep) (h : hi = true → EnvBound cfg0.poll env) :
    SpecX (fun s => CIn hi cfg0 env0 0 s ∧ ClosedDone s) (XC hi cfg0 env0) (loop env) :=
  timerC.loop betweenC ic_leaves env h

/-- what holds of every final state, however the connection ended -/
def FinC0 (hi : Bool) (cfg0 : Cfg) (env0 : List EnvStep) (s : Sys) : Prop := Base cfg0 env0 s ∧ CW hi cfg0 s

theorem FinC0.ci {s : Sys} (h : FinC0 hi cfg0 env0 s) : CI hi cfg0 env0 (sessOf s.trace + 1) s :=
  ⟨h.1, h.2, fun _ ct _ => by omega⟩

theorem fin_rc {m : M α} (hm : ∀ sl, Spec (RC hi cfg0 env0 sl) m) (s : Sys) (h : FinC0 hi cfg0 env0 s) :
    FinC0 hi cfg0 env0 (m s).state := by
  have := hm _ s h.ci
  exact ⟨this.b, this.w⟩

theorem CIn.keep {s s' : Sys} (hs : CIn hi cfg0 env0 0 s ∧ ClosedDone s) (h : CI hi cfg0 env0 0 s') (st : Step s s')
    (e : Ext NoClosedEv s s') : CIn hi cfg0 env0 0 s' ∧ ClosedDone s' :=
  ⟨⟨h, nd_step hs.1.2 e⟩, hs.2.step st e⟩

theorem ic_yieldEv (e : Event) (h1 : (Obs.ev e).cN = true) (h2 : NoClosedEv (.ev e)) :
    SpecX (fun s => CIn hi cfg0 env0 0 s ∧ ClosedDone s) (XC hi cfg0 env0) (yieldEv e) := fun s hs =>
  sat_yieldEv (CIn.keep hs (rc_yieldEv e h1 s hs.1.1) (step_yieldEv e s) (ext_yieldEv timers_noClosed e h2 s))
    (fun _ h => XC.genExit h.1.1 h.1.2)

theorem CI.connected {s : Sys} (h : CI hi cfg0 env0 0 s) (hso : s.sockOpen = true) (p : Bool) :
    CI hi cfg0 env0 0 (pushEv (.connected p) s) := by
  refine ⟨⟨h.b.cfg, h.b.env, h.b.now, h.b.start, h.b.rdy⟩,
    h.w.cons (o := .ev (.connected p)) rfl rfl rfl (fun _ => (cl_pushEv _ s).inv) (fun _ => rfl) (fun _ => hso)
      (fun hx => by cases hx) (fun n hn => by cases hn), ?_⟩
  · intro hc0 ct hct
    show sessOf (.ev (.connected p) :: s.trace) < _
    rw [sessOf_cons_of _ rfl rfl]
    exact h.n hc0 ct hct

theorem ic_yieldConn (p : Bool) (s : Sys) (hs : CIn hi cfg0 env0 0 s ∧ ClosedDone s) (hso : s.sockOpen = true) :
    Sat (fun s => CIn hi cfg0 env0 0 s ∧ ClosedDone s) (XC hi cfg0 env0) (yieldEv (.connected p) s) :=
  sat_yieldEv (CIn.keep hs (by rw [yieldEv_eq]; exact rc_doActs _ _ (hs.1.1.connected hso p))
    (step_yieldEv _ s) (ext_yieldEv timers_noClosed (.connected p) ⟨rfl, rfl⟩ s)) (fun _ h => XC.genExit h.1.1 h.1.2)

theorem CI.sockSet {sl : Nat} {s : Sys} (h : CI hi cfg0 env0 sl s) : CI hi cfg0 env0 sl { s with sockOpen := true } := by
  have hinv : Inv s → Inv { s with sockOpen := true } := fun h => h
  exact ⟨⟨h.b.cfg, h.b.env, h.b.now, h.b.start, h.b.rdy⟩,
    ⟨h.w.arm, fun hx => (by cases hx), fun hr => hinv (h.w.cinv hr), h.w.cw, h.w.cto, h.w.tok⟩, h.n⟩

/-- the upgrade request is written (whatever its bytes: if it looks like a Close frame, `ReqOk0`
    fails and the clauses that depend on it are void) -/
theorem CI.writeReq {s : Sys} (h : CI hi cfg0 env0 0 s) :
    CI hi cfg0 env0 0 (write s.cfg.request none s).state := by
  by_cases hr : closeLike s.cfg.request none = false
  · exact rc_of_quiet (quietP_write _ _) (cq_write _ _ hr) (cl_write _ _ hr) s h
  · have hnr : ¬ ReqOk0 cfg0 := by
      intro h0
      apply hr
      unfold ReqOk0 at h0
      rw [← h.b.cfg] at h0
      simp [closeLike, h0]
    rcases write_obs s.cfg.request none s with ⟨_, r, e⟩ | ⟨_, r, o, e, hsa⟩ <;> rw [e]
    · exact h
    · obtain ⟨h1, h2, _, h3⟩ := (wrEntry_of_isWrite hsa.isWrite).facts
      have h4 : isCtoEv o = false := by cases hsa <;> rfl
      refine ⟨⟨h.b.cfg, h.b.env, (clockOf_cons_of _ h1).symm ▸ h.b.now, (readyAt_cons_of _ h2).symm ▸ h.b.start, h.b.rdy⟩,
        h.w.cons (o := o) rfl rfl rfl (fun h0 => absurd h0 hnr) (fun h0 => absurd h0 hnr)
          (fun hx => by rw [h3] at hx; cases hx) (fun hx => by rw [h4] at hx; cases hx)
          (fun n hn => by rw [h1] at hn; cases hn), ?_⟩
      intro hc0 ct hct
      show sessOf (o :: s.trace) < _
      rw [sessOf_cons_of _ h1 h2]
      exact h.n hc0 ct hct

theorem cN_disc (k : String) (g : Bool) (hk : k ≠ "close-timeout") : (Obs.ev (.disconnected k g)).cN = true := by
  simp [Obs.cN, Obs.tmTickVal, Obs.tmIsReady, Obs.isClose, isConnEv, isCtoEv, hk]

theorem fin_closeYield (k : String) (g : Bool) (hk : k ≠ "close-timeout") (s : Sys) (h : FinC0 hi cfg0 env0 s) :
    FinC0 hi cfg0 env0 ((do closeSocket; yieldEv (.disconnected k g) : M Unit) s).state :=
  fin_rc (fun _ => spec_bind rc_po rc_closeSocket (fun _ => rc_yieldEv _ (cN_disc k g hk))) s h

theorem fin_ctoYield (s : Sys) (hb : Base cfg0 env0 s) (hw : CW hi cfg0 s)
    (p : EC hi cfg0 (.forceDisconnect "close-timeout") s) :
    FinC0 hi cfg0 env0 ((do closeSocket; yieldEv (.disconnected "close-timeout" false) : M Unit) s).state := by
  obtain ⟨⟨hc0, ct, hct, hge⟩, hncl, hhi⟩ := p.2.2 rfl
  obtain ⟨s1, e1⟩ := closeSocket_ok s
  rw [bind_ok e1]
  have q1 : QuietP s s1 := quietP_closeSocket.ok e1
  have c1 : CQ s s1 := cq_closeSocket.ok e1
  have hb1 : Base cfg0 env0 s1 := hb.quiet q1
  have hw1 : CW hi cfg0 s1 := hw.of_cq c1 (cl_closeSocket.ok e1).inv
  obtain ⟨l, el, nl⟩ := c1.trace
  have hs1 : sessOf s1.trace = sessOf s.trace := by rw [el, sessOf_append_cN l _ nl]
  have hcl1 : closedSeen s1.trace = false := by
    rw [closedSeen_ext ((ext_closeSocket timers_noClosed).ok e1)]; exact hncl
  have hct1 : s1.sentCloseTime = some ct := by rw [c1.sct]; exact hct
  have h2 : FinC0 hi cfg0 env0 (pushEv (.disconnected "close-timeout" false) s1) := by
    refine ⟨⟨hb1.cfg, hb1.env, hb1.now, hb1.start, hb1.rdy⟩,
      hw1.cons (o := .ev (.disconnected "close-timeout" false)) rfl rfl rfl (fun _ => (cl_pushEv _ s1).inv)
        (fun _ => rfl) (fun hx => by cases hx) ?_ (fun n hn => by cases hn)⟩
    refine fun _ => ⟨rfl, hc0, hcl1, ct, hw1.arm ct hct1, by rw [hs1]; exact hge, ?_⟩
    intro hhi'
    rw [hs1]; exact hhi hhi' ct hct
  rw [yieldEv_eq]
  exact fin_rc (fun sl => rc_doActs _) _ h2

theorem XC.fin {x : Exn} {s : Sys} (h : XC hi cfg0 env0 x s) : FinC0 hi cfg0 env0 s := h.1

def ctoD : Obs := .ev (.disconnected "close-timeout" false)
def ptoD : Obs := .ev (.disconnected "ping-timeout" false)

/-- the loop lived through a `selector.wait` that ended (clock mark `n`) at or after the close
    deadline `ct + c` of a Close frame handed to `sendall` before it (no Ready since) -/
def PastC (c : Nat) (tr : List Obs) : Prop :=
  ∃ l n t ct, tr = l ++ .tick n :: t ∧ CloseWr ct t ∧ (∀ o ∈ l, o.tmIsReady = false) ∧
    ct + c ≤ sessOf (.tick n :: t)

omit hi cfg0 env0 in
theorem pastC_of_cons {c : Nat} {o : Obs} {tr : List Obs} (h : o.tmTickVal = none) (hp : PastC c (o :: tr)) :
    PastC c tr := by
  obtain ⟨l, n, t, ct, e, hw, hr, hge⟩ := hp
  cases l with
  | nil =>
    simp only [List.nil_append, List.cons.injEq] at e
    rw [e.1] at h; cases h
  | cons x l2 =>
    simp only [List.cons_append, List.cons.injEq] at e
    exact ⟨l2, n, t, ct, e.2, hw, fun o ho => hr o (List.mem_cons_of_mem _ ho), hge⟩

omit hi cfg0 env0 in
theorem pastC_of_append {c : Nat} (l : List Obs) {tr : List Obs} (hl : ∀ o ∈ l, Obs.tmNeutral o = true)
    (hp : PastC c (l ++ tr)) : PastC c tr :=
  drop_prefix (fun o _ ho => pastC_of_cons ((neutral_iff o).mp ho).1) l tr hl hp

def ClockMono : List Obs → Prop := Hist (fun o t => ∀ n, o.tmTickVal = some n → clockOf t ≤ n)

omit hi cfg0 env0 in
theorem tickC_clockMono (R : Prop) (hi : Bool) (D c : Nat) (tr : List Obs) (h : TickC R hi D c tr) : ClockMono tr :=
  ((tickC_hist R hi D c tr).mp h).mono (fun _ _ x n hn => (x n hn).1)

omit hi cfg0 env0 in
theorem sessOf_mono' (l t : List Obs) (h : ClockMono (l ++ t))
    (hr : ∀ o ∈ l, o.tmIsReady = false) : sessOf t ≤ sessOf (l ++ t) := by
  induction l with
  | nil => exact Nat.le_refl _
  | cons o r ih =>
    have ih' := ih h.2 (fun o ho => hr o (List.mem_cons_of_mem _ ho))
    have hro := hr o List.mem_cons_self
    rw [List.cons_append]
    cases hv : o.tmTickVal with
    | none => rw [sessOf_cons_of _ hv hro]; exact ih'
    | some n =>
      have hcl : clockOf (r ++ t) ≤ n := h.1 n hv
      have e1 : clockOf (o :: (r ++ t)) = n := by simp [clockOf, hv]
      have e2 : readyAt (o :: (r ++ t)) = readyAt (r ++ t) := readyAt_cons_of _ hro
      have : sessOf (r ++ t) ≤ sessOf (o :: (r ++ t)) := by
        unfold sessOf
        rw [e1, e2]
        cases readyAt (r ++ t) with
        | none => exact Nat.le_refl _
        | some t0 => simp only; omega
      omega

omit hi cfg0 env0 in
theorem sessOf_mono (R : Prop) (hi : Bool) (D c : Nat) (l t : List Obs) (h : TickC R hi D c (l ++ t))
    (hr : ∀ o ∈ l, o.tmIsReady = false) : sessOf t ≤ sessOf (l ++ t) :=
  sessOf_mono' l t (tickC_clockMono _ _ _ _ _ h) hr

theorem not_pastC {s : Sys} (hw : CW hi cfg0 s) (hn : Ndue cfg0 0 s) (hr : ReqOk0 cfg0)
    (hc0 : cfg0.closeTimeout ≠ 0) : ¬ PastC cfg0.closeTimeout s.trace := by
  intro ⟨l, n, t, ct, e, hwr, hnr, hge⟩
  have h1 : CloseWr ct s.trace := by
    rw [e]; exact closeWr_append ct l _ (closeWr_append ct [.tick n] t hwr)
  have h2 := hn hc0 ct (hw.cw hr ct h1)
  have h3 := hw.tok
  rw [e] at h3 h2
  have := sessOf_mono _ _ _ _ l _ h3 hnr
  omega

/-- **the connection is over once the loop has lived through a wait that ended at or after the close
    deadline**: the forced `Disconnected('close-timeout')` was yielded — unless the ping timeout struck
    at the same `_regular()` (it is checked first) or the application abandoned the iterator there
    (no `Disconnected` at all) -/
def EndC (cfg0 : Cfg) (tr : List Obs) : Prop :=
  ReqOk0 cfg0 → cfg0.closeTimeout ≠ 0 → PastC cfg0.closeTimeout tr → ctoD ∈ tr ∨ ptoD ∈ tr ∨ discAny tr = false

def FinC (hi : Bool) (cfg0 : Cfg) (env0 : List EnvStep) (s : Sys) : Prop := FinC0 hi cfg0 env0 s ∧ EndC cfg0 s.trace

omit hi env0 in
theorem endC_of_not_past {tr : List Obs} (h : ReqOk0 cfg0 → cfg0.closeTimeout ≠ 0 → ¬ PastC cfg0.closeTimeout tr) :
    EndC cfg0 tr := fun hr hc0 hp => absurd hp (h hr hc0)

omit hi env0 in
theorem endC_cons {o : Obs} {tr : List Obs} (h1 : o.tmTickVal = none) (h2 : isDiscEv o = false) (h : EndC cfg0 tr) :
    EndC cfg0 (o :: tr) := by
  intro hr hc0 hp
  rcases h hr hc0 (pastC_of_cons h1 hp) with h | h | h
  · exact Or.inl (List.mem_cons_of_mem _ h)
  · exact Or.inr (Or.inl (List.mem_cons_of_mem _ h))
  · exact Or.inr (Or.inr (by simp only [discAny, List.any_cons, h2, Bool.false_or]; exact h))

theorem endC_closeYield_quiet (k : String) (g : Bool) (s : Sys) (hw : CW hi cfg0 s) (hn : Ndue cfg0 0 s) :
    EndC cfg0 ((do closeSocket; yieldEv (.disconnected k g) : M Unit) s).state.trace := by
  obtain ⟨l, e, n⟩ := (spec_bind quietP_po quietP_closeSocket (fun _ => quietP_yieldEv (.disconnected k g) rfl) s).trace
  rw [e]
  exact endC_of_not_past (fun hr hc0 hp => not_pastC hw hn hr hc0 (pastC_of_append l n hp))

theorem closeYield_mem (e : Event) (s : Sys) :
    Obs.ev e ∈ ((do closeSocket; yieldEv e : M Unit) s).state.trace := by
  obtain ⟨s1, e1⟩ := closeSocket_ok s
  rw [bind_ok e1]
  obtain ⟨l, el⟩ := (yieldEv_step_from_push e s1).traceExt
  rw [el]
  exact List.mem_append_right _ List.mem_cons_self

theorem finC_endSome (x : Exn) (s : Sys) (h : XC hi cfg0 env0 x s) (hno : ∀ z, x ≠ .outer z) :
    FinC hi cfg0 env0 (onLoopEnd (some x) s).state := by
  have hp := h.e hno
  rcases onLoopEnd_some_cases x s hno (h.kind hno) with ⟨hx, e⟩ | ⟨k, e, hx⟩
  · rw [e]
    refine ⟨h.fin, ?_⟩
    rcases hx with rfl | rfl
    · exact fun _ _ _ => Or.inr (Or.inr hp.1)
    · exact endC_of_not_past (fun hr hc0 => not_pastC h.1.2 (hp.2.1 (Or.inr (Or.inl rfl))).1 hr hc0)
  · rw [e]
    have calmCase : x.calm → k ≠ "close-timeout" →
        FinC hi cfg0 env0 ((do closeSocket; yieldEv (.disconnected k false) : M Unit) s).state :=
      fun hx hk => ⟨fin_closeYield k false hk s h.fin, endC_closeYield_quiet k false s h.1.2 (hp.2.1 hx).1⟩
    rcases hx with rfl | ⟨hb, h1, _⟩
    · by_cases hk : k = "close-timeout"
      · subst hk
        exact ⟨fin_ctoYield s h.1.1 h.1.2 hp, fun _ _ _ => Or.inl (closeYield_mem _ s)⟩
      · by_cases hk2 : k = "ping-timeout"
        · subst hk2
          exact ⟨fin_closeYield _ false hk s h.fin, fun _ _ _ => Or.inr (Or.inl (closeYield_mem _ s))⟩
        · exact calmCase (Or.inr (Or.inr ⟨k, rfl, hk, hk2⟩)) hk
    · exact calmCase (Or.inl hb) h1

theorem ic_top : TopX (fun s => CIn hi cfg0 env0 0 s ∧ ClosedDone s) (XC hi cfg0 env0) (FinC hi cfg0 env0) env0 where
  envEq := fun s hs => hs.1.1.b.env
  iFin := fun s hs => ⟨⟨hs.1.1.b, hs.1.1.w⟩, endC_of_not_past (fun hr hc0 => not_pastC hs.1.1.w hs.1.1.n hr hc0)⟩
  xFin := fun s hx => ⟨hx.fin, fun _ _ _ => Or.inr (Or.inr hx.2.2.1.1)⟩
  yieldTop := by
    intro e he
    rcases he with rfl | ⟨k, rfl⟩
    · exact ic_yieldEv _ rfl ⟨rfl, rfl⟩
    · exact ic_yieldEv _ rfl ⟨rfl, rfl⟩
  yieldConn := fun p s hs hso _ _ _ => ic_yieldConn p s hs hso
  sockSet := fun s hs => ⟨⟨hs.1.1.sockSet, hs.1.2⟩, hs.2⟩
  writeReq := fun s hs _ _ => CIn.keep hs hs.1.1.writeReq (step_write _ _ s) (ext_write timers_noClosed _ _ s)
  selSet := fun b s hs => ⟨⟨hs.1.1.same rfl rfl rfl rfl rfl rfl rfl rfl rfl rfl, hs.1.2⟩, hs.2⟩
  endNone := fun s hs => ⟨fin_closeYield "closed" true (by decide) s ⟨hs.1.1.b, hs.1.1.w⟩,
    endC_closeYield_quiet "closed" true s hs.1.1.w hs.1.1.n⟩
  endSome := finC_endSome
  finSel := by
    intro s h
    refine ⟨fin_rc (fun sl => rc_of_quiet quietP_selClose cq_selClose cl_selClose) s h.1, ?_⟩
    unfold selClose
    split
    · exact endC_cons rfl rfl h.2
    · exact h.2
  finSock := by
    intro s h
    refine ⟨fin_rc (fun sl => rc_closeSocket) s h.1, ?_⟩
    unfold closeSocket
    split
    · exact endC_cons rfl rfl h.2
    · exact h.2
  finInc := by
    intro s h'
    refine ⟨?_, endC_cons rfl rfl h'.2⟩
    have h := h'.1
    have := h.ci
    have q : QuietP s { s with trace := .incomplete :: s.trace } := quietP_of [.incomplete] (forall_mem_one rfl)
    have c : CQ s { s with trace := .incomplete :: s.trace } := CQ.one rfl rfl rfl rfl
    have k : Cl s { s with trace := .incomplete :: s.trace } := Cl.of_ext [.incomplete] rfl rfl id
    have := this.quiet q c k
    exact ⟨this.b, this.w⟩

theorem ic_init (cfg : Cfg) (react : React) (env : List EnvStep) :
    CIn hi cfg env 0 { cfg := cfg, react := react, env := env } ∧ ClosedDone { cfg := cfg, react := react, env := env } := by
  refine ⟨⟨⟨⟨rfl, rfl, rfl, rfl, by simp⟩, ⟨?_, fun _ => Or.inr rfl, fun _ => ⟨rfl, fun h => (by cases h)⟩, ?_, trivial,
    trivial⟩, ?_⟩, rfl⟩, fun h => (by cases h)⟩
  · intro ct h; cases h
  · intro _ ct ⟨l, o, t, e, _⟩
    cases l <;> cases e
  · intro _ ct h; cases h

/-- **the close-timer facts hold at the end of every connection** (any configuration, application
    and environment script; with `hi` — the upper bound — under the cycle bound) -/
theorem finC_runAll (hi : Bool) (cfg : Cfg) (react : React) (env : List EnvStep)
    (h : hi = true → EnvBound cfg.poll env) : FinC hi cfg env (runAll cfg react env) :=
  topx_runAll ic_leaves ic_top (ic_loop env h) cfg react (ic_init cfg react env)

end CloseRun

end Lomond.Core.TimerRun
