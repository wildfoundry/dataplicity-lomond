/-
  What the library does at the places where it touches the socket for writing or hands control to
  the application, in the form the run-level invariants use: the entry a `sendall` leaves and the
  frame it carries (`Sendall`, `write_obs`, `sendFrame_obs`, `wsClose_obs`; `FrameOut` of Proofs/Calls.lean), the five API
  bodies (`ApiCall`, `doAct_api`, `api_eff`), `_on_event` for a Ping (`onEvent_ping`), `feedYield` cut
  at the hand-over of the event (`feedYield_from_push`, `feedYield_from_err`).
-/
import Lomond.Proofs.Step
import Lomond.Proofs.Closing
import Lomond.Proofs.Calls
namespace Lomond.Core.Pong
open Lomond Lomond.Core Lomond.Core.Lift

theorem yieldEv_step_from_push (e : Event) (s : Sys) : Step (pushEv e s) (yieldEv e s).state := by
  rw [yieldEv_eq]; exact step_doActs _ _

/-- if `_on_event` raises, the event is *not* handed to the application -/
theorem feedYield_onEvent_err (inTry : Bool) (e : Event) (s s1 : Sys) (x : Exn)
    (h : onEvent e s = .err x s1) :
    feedYield inTry e s =
      (do (if inTry then onDisconnect else pure ()); throwE (.outer x) : M Unit) s1 := by
  unfold feedYield
  rw [tryC_err (bind_err h)]

theorem feedYield_handler_rel {R : Sys → Sys → Prop} (po : PO R) (hDisc : Spec R onDisconnect)
    (inTry : Bool) (x : Exn) :
    Spec R (do (if inTry then onDisconnect else pure ()); throwE (.outer x) : M Unit) := by
  apply spec_bind po
  · split
    · exact hDisc
    · exact spec_pure po _
  · intro _; exact spec_throwE po _

/-- `feedYield` when `_on_event` returned normally: everything from the moment the application
    sees the event is a composition of application calls, `_regular` and `on_disconnect` -/
theorem feedYield_from_push {R : Sys → Sys → Prop} (po : PO R) (hY : ∀ e s, R (pushEv e s) (yieldEv e s).state)
    (hReg : Spec R regular) (hDisc : Spec R onDisconnect) (inTry : Bool) (e : Event) (s s1 : Sys)
    (h : onEvent e s = .ok () s1) : R (pushEv e s1) (feedYield inTry e s).state := by
  unfold feedYield
  refine po.trans ?_ (tryC_state_rel po (feedYield_handler_rel po hDisc inTry) s)
  rw [bind_ok h]
  exact po.trans (hY e s1) (bind_state_rel po (fun _ => hReg) s1)

theorem feedYield_from_err {R : Sys → Sys → Prop} (po : PO R) (hDisc : Spec R onDisconnect)
    (inTry : Bool) (e : Event) (s s1 : Sys) (x : Exn) (h : onEvent e s = .err x s1) :
    R s1 (feedYield inTry e s).state := by
  rw [feedYield_onEvent_err inTry e s s1 x h]
  exact feedYield_handler_rel po hDisc inTry x s1

theorem feedYield_trace (inTry : Bool) (e : Event) (s s1 : Sys) (h : onEvent e s = .ok () s1) :
    ∃ l, (feedYield inTry e s).state.trace = l ++ .ev e :: s1.trace :=
  (feedYield_from_push step_po yieldEv_step_from_push step_regular step_onDisconnect inTry e s s1 h).traceExt

theorem _root_.Lomond.Core.feedYield_logged (inTry : Bool) (e : Event) (s s1 : Sys) (he : onEvent e s = .ok () s1) :
    Obs.ev e ∈ (feedYield inTry e s).state.trace ∧
    Step { s1 with trace := .ev e :: s1.trace, hist := e :: s1.hist } (feedYield inTry e s).state := by
  obtain ⟨l, hl⟩ := feedYield_trace inTry e s s1 he
  exact ⟨by rw [hl]; simp,
    feedYield_from_push step_po yieldEv_step_from_push step_regular step_onDisconnect inTry e s s1 he⟩

/-- first byte of a frame built with FIN=1, RSV=0 -/
theorem build_head (op : Nat) (pl key b : Bytes) (h : Frame.build op pl key = some b) :
    b.head? = some (128 + op) := by
  obtain ⟨r, rfl⟩ := build_first_byte op pl key b h
  rfl

/-! ### the write path: which entry a `sendall` leaves, and in which final state

  `session.write`, `session.send` and `WebSocket.close()` are the only places where the library
  touches the socket for writing.  From the eliminations of Proofs/Calls.lean this section reads off
  which trace entry each of them leaves (`Sendall`), with the final states as flat record
  updates (`closeRefused`, `closeWritten`; `keyDrawn`, `wrote`, `sentState` of Proofs/Calls.lean): a
  field of `markClosing (wrote (keyDrawn s) (some o))` is compared with the same field of `s` by
  unfolding three nested updates, which the unifier does badly; of `closeWritten o s`, by unfolding
  one. -/

/-- `close()` whose `session.send` was refused (nothing reached `sendall`) -/
def closeRefused (s : Sys) : Sys :=
  { s with keyCtr := s.keyCtr + 1, closing := true, sentCloseTime := some (sessionTime s) }

/-- `close()` whose Close frame was handed to `sendall` -/
def closeWritten (o : Obs) (s : Sys) : Sys :=
  { s with keyCtr := s.keyCtr + 1, writeCtr := s.writeCtr + 1, trace := o :: s.trace,
           closing := true, sentCloseTime := some (sessionTime s) }

/-- the entry one `sendall` of `d` (or of the compressed message `z`) leaves on the trace; the flag
    tells whether this `sendall` raises -/
inductive Sendall (d : Bytes) (fails : Bool) : Option (Nat × Bytes) → Obs → Prop
  | fail z : fails = true → Sendall d fails z (.wrFail d)
  | wr : fails = false → Sendall d fails none (.wr d)
  | wrz op pl : fails = false → Sendall d fails (some (op, pl)) (.wrz op pl)

theorem write_obs (d : Bytes) (z : Option (Nat × Bytes)) (s : Sys) :
    (¬ Open s ∧ ∃ r, write d z s = .ok r s) ∨
    (Open s ∧ ∃ r o, write d z s = .ok r (wrote s (some o)) ∧ Sendall d (s.cfg.writeFails s.writeCtr) z o) := by
  refine write_elim (P := fun q => (¬ Open s ∧ ∃ r, q = .ok r s) ∨
    (Open s ∧ ∃ r o, q = .ok r (wrote s (some o)) ∧ Sendall d (s.cfg.writeFails s.writeCtr) z o)) d z s
    (fun r h => .inl ⟨fun ho => ?_, r, rfl⟩) (fun h1 h2 h3 r o ho => .inr ⟨⟨h1, h3, h2⟩, r, o, rfl, ?_⟩)
  · rcases h with ⟨_, h⟩ | ⟨_, h⟩ | ⟨_, h⟩
    · rw [ho.1] at h; cases h
    · rw [ho.2.2] at h; cases h
    · rw [ho.2.1] at h; cases h
  · rcases ho with ⟨_, rfl, hf⟩ | ⟨_, rfl, hf⟩
    · exact .fail z hf
    · match z with
      | none => exact .wr hf
      | some (op, pl) => exact .wrz op pl hf

theorem sendFrame_obs (op : Nat) (pl : Bytes) (c : Option Bytes) (s : Sys) :
    (∃ r, sendFrame op pl c s = .ok r (keyDrawn s) ∧
      (Open s → Frame.build op pl (s.cfg.maskKey s.keyCtr) = none)) ∨
    (Open s ∧ ∃ r o d z, sendFrame op pl c s = .ok r (sentState s o) ∧
      FrameOut op pl (s.cfg.maskKey s.keyCtr) c d z ∧ Sendall d (s.cfg.writeFails s.writeCtr) z o) := by
  refine sendFrame_elim (P := fun q => (∃ r, q = .ok r (keyDrawn s) ∧
      (Open s → Frame.build op pl (s.cfg.maskKey s.keyCtr) = none)) ∨
    (Open s ∧ ∃ r o d z, q = .ok r (sentState s o) ∧
      FrameOut op pl (s.cfg.maskKey s.keyCtr) c d z ∧ Sendall d (s.cfg.writeFails s.writeCtr) z o)) op pl c s
    (fun _ hb => .inl ⟨_, rfl, fun _ => hb⟩) (fun d z hf => ?_)
  rcases write_obs d z (keyDrawn s) with ⟨hno, r, ew⟩ | ⟨ho, r, o, ew, hs⟩
  · rw [ew]; exact .inl ⟨r, rfl, fun ho => absurd ho hno⟩
  · rw [ew]; exact .inr ⟨ho, r, o, d, z, rfl, hf, hs⟩

theorem wsClose_obs (code : Option Nat) (reason : Arg) (s : Sys) :
    (∃ a, wsClose code reason s = .ok a s ∧
      ((a = .ok ∧ Shut s) ∨ a = .valueError ∨ a = .typeError ∨ a = .structError)) ∨
    (¬ Shut s ∧ (s.cfg.v.closeArgs = true → ¬ Open s) ∧ wsClose code reason s = .ok .ok (closeRefused s)) ∨
    (Open s ∧ ∃ o pl bs, wsClose code reason s = .ok .ok (closeWritten o s) ∧
      (s.cfg.v.closeArgs = true → pl.length ≤ 125) ∧
      Frame.build Gen.opClose pl (s.cfg.maskKey s.keyCtr) = some bs ∧
      Sendall bs (s.cfg.writeFails s.writeCtr) none o) := by
  refine wsClose_elim (P := fun q => (∃ a, q = .ok a s ∧
      ((a = .ok ∧ Shut s) ∨ a = .valueError ∨ a = .typeError ∨ a = .structError)) ∨
    (¬ Shut s ∧ (s.cfg.v.closeArgs = true → ¬ Open s) ∧ q = .ok .ok (closeRefused s)) ∨
    (Open s ∧ ∃ o pl bs, q = .ok .ok (closeWritten o s) ∧ (s.cfg.v.closeArgs = true → pl.length ≤ 125) ∧
      Frame.build Gen.opClose pl (s.cfg.maskKey s.keyCtr) = some bs ∧
      Sendall bs (s.cfg.writeFails s.writeCtr) none o)) code reason s
    (fun h => .inl ⟨.ok, rfl, .inl ⟨rfl, h.symm⟩⟩) (fun _ _ res hres => .inl ⟨res, rfl, .inr hres⟩)
    (fun h1 h2 rb _ _ hlen r s' e => ?_)
  have hs : ¬ Shut s := fun h => by
    rcases h with h | h
    · rw [h2] at h; cases h
    · rw [h1] at h; cases h
  rcases sendFrame_obs Gen.opClose (buildClosePayload code rb) none s with ⟨a, ea, hn⟩ | ⟨ho, a, o, d, z, ea, hf, hw⟩
  · rw [ea] at e; cases e
    refine .inr (.inl ⟨hs, fun hv ho => ?_, rfl⟩)
    rw [build_close _ _ (hlen hv)] at hn
    cases hn ho
  · rw [ea] at e; cases e
    cases hf with
    | frame hb => exact .inr (.inr ⟨ho, o, _, d, rfl, hlen, hb, hw⟩)

theorem Sendall.isWrite {d : Bytes} {z : Option (Nat × Bytes)} {f : Bool} {o : Obs} (h : Sendall d f z o) :
    o.isWrite = true := by cases h <;> rfl

variable {R : Sys → Sys → Prop}

/-- the bodies of the API calls an application can make; `doAct` logs their result -/
inductive ApiCall : M ActRes → Prop
  | argError (r : ActRes) : ApiCall (pure r)
  | data (op : Nat) (pl : Bytes) (c : Bool) : op = Gen.opText ∨ op = Gen.opBinary → ApiCall (sendData op pl c)
  | ctrl (op : Nat) (pl : Bytes) : op = Gen.opPing ∨ op = Gen.opPong → ApiCall (sendFrame op pl none)
  | close (code : Option Nat) (reason : Arg) : ApiCall (wsClose code reason)
  | sessionClose : ApiCall (do closeSocket; pure ActRes.ok)

theorem doAct_api (a : Act) :
    (∃ m, ApiCall m ∧ doAct a = logRes m) ∨
    ∃ w, a = .abandon w ∧ doAct a = fun s => .err .genExit { s with abandonedWith := w } := by
  rcases doAct_elim (P := ApiCall) a (fun r _ => .argError r)
      (fun op pl c h => .data op pl c (h.elim (fun h => .inl h.1) (fun h => .inr h.1)))
      (fun op pl h _ => .ctrl op pl h) (fun c r _ => .close c r) (fun _ => .sessionClose)
    with ⟨w, rfl⟩ | ⟨m, e, hm⟩
  · exact .inr ⟨w, rfl, rfl⟩
  · exact .inl ⟨m, hm, e⟩

theorem doAct_of_api (hcall : ∀ m, ApiCall m → Spec R (logRes m))
    (hab : ∀ s w, R s { s with abandonedWith := w }) (a : Act) : Spec R (doAct a) := by
  rcases doAct_api a with ⟨m, hm, e⟩ | ⟨w, _, e⟩
  · rw [e]; exact hcall m hm
  · rw [e]; exact fun s => hab s w

/-- an API call leaves configuration, application, clock, start time, readiness and Ping timer alone and
    appends at most one entry to the trace: a write, or the `sockClose` of `session.close()`; without a
    socket it appends nothing and there is still no socket -/
structure ApiEff (s s' : Sys) : Prop where
  cfg : s'.cfg = s.cfg
  nextPing : s'.nextPing = s.nextPing
  startTime : s'.startTime = s.startTime
  now : s'.now = s.now
  trace : s'.trace = s.trace ∨ ∃ o, s'.trace = o :: s.trace ∧ (o.isWrite = true ∨ o = .sockClose)
  react : s'.react = s.react
  ready : s'.ready = s.ready
  gone : s.sockOpen = false → s'.sockOpen = false ∧ s'.trace = s.trace

theorem Open.not_gone {s : Sys} {p : Prop} (ho : Open s) (h : s.sockOpen = false) : p := by
  rw [ho.1] at h; cases h

theorem apiEff_sendFrame (op : Nat) (pl : Bytes) (c : Option Bytes) (s : Sys) :
    ∃ r s', sendFrame op pl c s = .ok r s' ∧ ApiEff s s' := by
  rcases sendFrame_obs op pl c s with ⟨r, e, _⟩ | ⟨ho, r, o, d, z, e, _, hw⟩
  · exact ⟨r, _, e, rfl, rfl, rfl, rfl, Or.inl rfl, rfl, rfl, fun h => ⟨h, rfl⟩⟩
  · exact ⟨r, _, e, rfl, rfl, rfl, rfl, Or.inr ⟨o, rfl, Or.inl hw.isWrite⟩, rfl, rfl, Open.not_gone ho⟩

theorem api_eff {m : M ActRes} (h : ApiCall m) (s : Sys) : ∃ r s', m s = .ok r s' ∧ ApiEff s s' := by
  cases h with
  | argError r => exact ⟨r, s, rfl, rfl, rfl, rfl, rfl, Or.inl rfl, rfl, rfl, fun h => ⟨h, rfl⟩⟩
  | data op pl c _ => unfold sendData; split <;> exact apiEff_sendFrame _ _ _ s
  | ctrl op pl _ => exact apiEff_sendFrame _ _ _ s
  | close code reason =>
    rcases wsClose_obs code reason s with ⟨a, e, _⟩ | ⟨_, _, e⟩ | ⟨ho, o, pl, bs, e, _, _, hw⟩
    · exact ⟨a, _, e, rfl, rfl, rfl, rfl, Or.inl rfl, rfl, rfl, fun h => ⟨h, rfl⟩⟩
    · exact ⟨_, _, e, rfl, rfl, rfl, rfl, Or.inl rfl, rfl, rfl, fun h => ⟨h, rfl⟩⟩
    · exact ⟨_, _, e, rfl, rfl, rfl, rfl, Or.inr ⟨o, rfl, Or.inl hw.isWrite⟩, rfl, rfl, Open.not_gone ho⟩
  | sessionClose =>
    refine ⟨.ok, sockClosed s, by show (closeSocket >>= _) s = _; rw [bind_ok (closeSocket_eq s)]; rfl, ?_⟩
    rcases sockClosed_cases s with ⟨ho, e⟩ | ⟨_, e⟩ <;> rw [e]
    · exact ⟨rfl, rfl, rfl, rfl, Or.inr ⟨_, rfl, Or.inr rfl⟩, rfl, rfl, fun h => by rw [ho] at h; cases h⟩
    · exact ⟨rfl, rfl, rfl, rfl, Or.inl rfl, rfl, rfl, fun h => ⟨h, rfl⟩⟩

/-- `_on_event` for a Ping: nothing (automatic pongs off), `ValueError` from `send_pong` (payload
    over 125 bytes), or one `session.send` of the Pong -/
theorem onEvent_ping (d : Bytes) (s : Sys) :
    (s.cfg.autoPong = false ∧ onEvent (.ping d) s = .ok () s) ∨
    onEvent (.ping d) s = .err (.other "error") s ∨
    (s.cfg.autoPong = true ∧ d.length ≤ 125 ∧
      ∃ r s', sendFrame Gen.opPong d none s = .ok r s' ∧ onEvent (.ping d) s = .ok () s') := by
  simp only [onEvent]
  split
  · rename_i hauto
    split
    · exact Or.inr (Or.inl rfl)
    · rename_i hlen
      obtain ⟨r, s', e, _⟩ := apiEff_sendFrame Gen.opPong d none s
      exact Or.inr (Or.inr ⟨hauto, Nat.le_of_not_lt hlen, r, s', e, by rw [e]⟩)
  · rename_i hauto
    exact Or.inl ⟨by simpa using hauto, rfl⟩

def pongBytes (d key : Bytes) : Bytes := [138, 128 + d.length] ++ key ++ maskPayload key d

theorem build_pong (d key : Bytes) (h : d.length ≤ 125) :
    Frame.build Gen.opPong d key = some (pongBytes d key) := by
  have h1 : d.length < 126 := by omega
  simp [Frame.build, buildHeader, byte0, Gen.opPong, pongBytes, h1]

/-- state after the library wrote the Pong: one masking key drawn, one `sendall`, one `.wr`
    (`sentState s (.wr b)` of Proofs/Calls.lean, by `rfl`) -/
def pongSent (s : Sys) (b : Bytes) : Sys :=
  { s with keyCtr := s.keyCtr + 1, writeCtr := s.writeCtr + 1, trace := .wr b :: s.trace }

/-- state after the Pong's `sendall` raised: the failure is on the trace, nothing was written
    (`sentState s (.wrFail b)`) -/
def pongFailed (s : Sys) (b : Bytes) : Sys :=
  { s with keyCtr := s.keyCtr + 1, writeCtr := s.writeCtr + 1, trace := .wrFail b :: s.trace }

/-- state after `send_pong` found the connection unusable: only a masking key was drawn (`keyDrawn s`) -/
def pongSkipped (s : Sys) : Sys := { s with keyCtr := s.keyCtr + 1 }

theorem onEvent_ping_disabled (d : Bytes) (s : Sys) (hap : s.cfg.autoPong = false) :
    onEvent (.ping d) s = .ok () s := by
  simp [onEvent, hap]

theorem onEvent_ping_oversize (d : Bytes) (s : Sys) (hap : s.cfg.autoPong = true) (hlen : d.length > 125) :
    onEvent (.ping d) s = .err (.other "error") s := by
  simp [onEvent, hap, hlen]

/-- `_on_event` for a Ping: nothing with automatic pongs off; `ValueError` from `send_pong` for more
    than 125 bytes; otherwise a key is drawn and — the websocket accepting writes — the Pong frame
    for this payload is handed to one `sendall`, which completes or raises; the error is swallowed -/
theorem onEvent_ping_elim {P : Res Unit → Prop} (d : Bytes) (s : Sys)
    (hoff : s.cfg.autoPong = false → P (.ok () s))
    (hbig : s.cfg.autoPong = true → d.length > 125 → P (.err (.other "error") s))
    (hskip : s.cfg.autoPong = true → d.length ≤ 125 → ¬ Open s → P (.ok () (pongSkipped s)))
    (hsent : s.cfg.autoPong = true → d.length ≤ 125 → Open s →
      ∀ o, Sendall (pongBytes d (s.cfg.maskKey s.keyCtr)) (s.cfg.writeFails s.writeCtr) none o →
      P (.ok () (sentState s o))) : P (onEvent (.ping d) s) := by
  cases hap : s.cfg.autoPong with
  | false => rw [onEvent_ping_disabled d s hap]; exact hoff hap
  | true =>
    by_cases hlen : d.length > 125
    · rw [onEvent_ping_oversize d s hap hlen]; exact hbig hap hlen
    · have hl : d.length ≤ 125 := Nat.le_of_not_lt hlen
      rcases sendFrame_obs Gen.opPong d none s with ⟨r, e, hn⟩ | ⟨ho, r, o, b, z, e, hf, hs⟩
      · have e1 : onEvent (.ping d) s = .ok () (pongSkipped s) := by
          simp only [onEvent, hap, hlen, if_true, if_false, e]; rfl
        rw [e1]
        refine hskip hap hl (fun ho => ?_)
        rw [build_pong d _ hl] at hn
        cases hn ho
      · have e1 : onEvent (.ping d) s = .ok () (sentState s o) := by
          simp only [onEvent, hap, hlen, if_true, if_false, e]
        rw [e1]
        cases hf with
        | frame hb =>
          rw [build_pong d _ hl] at hb
          cases hb
          exact hsent hap hl ho o hs

end Lomond.Core.Pong

namespace Lomond.Core.PongTokens
open Lomond Lomond.Core Lomond.Core.Pong

def W1 (s s' : Sys) : Prop := s'.trace = s.trace ∨ ∃ o, s'.trace = o :: s.trace ∧ o.isWrite = true

theorem w1_sendFrame (op : Nat) (pl : Bytes) (c : Option Bytes) (s : Sys) :
    ∃ r s', sendFrame op pl c s = .ok r s' ∧ W1 s s' := by
  rcases sendFrame_obs op pl c s with ⟨r, e, _⟩ | ⟨_, r, o, d, z, e, _, ho⟩
  · exact ⟨r, _, e, Or.inl rfl⟩
  · exact ⟨r, _, e, Or.inr ⟨o, rfl, ho.isWrite⟩⟩

end Lomond.Core.PongTokens
