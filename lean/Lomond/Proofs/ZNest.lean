/-
  `NZ`: every compressed frame belongs to an application call that returned normally.

  In the trace of the core model a `.wrz op plain` entry (a compressed data frame handed to
  `sendall`, which returned) is always directly followed by `.res .ok`, the recorded outcome of the
  `send_text` / `send_binary` call that wrote it: the library itself never sends compressed
  frames, and nothing happens between `sendall` and the return of the call.  Proved for each step
  of Proofs/SendMoves (`Move.nz`) and so for a whole connection (`runAll_nested`).
-/
import Lomond.Proofs.SendMoves
namespace Lomond.Core.KS
open Lomond Lomond.ZFrame

def isZ : Obs → Bool
  | .wrz _ _ => true
  | _ => false

/-- the entry `o` may stand directly after (= is newer than) the entries `l` -/
def Follows (o : Obs) (l : List Obs) : Prop := ∀ op p l', l = .wrz op p :: l' → o = .res .ok

/-- in `l` (newest first) every compressed write is directly followed by `.res .ok` -/
def Nested : List Obs → Prop
  | [] => True
  | o :: l => Follows o l ∧ Nested l

/-- the newest entry is not a compressed write (the call that made it has returned) -/
def HeadOk (l : List Obs) : Prop := ∀ op p l', l ≠ .wrz op p :: l'

theorem follows_of_headOk (o : Obs) {l : List Obs} (h : HeadOk l) : Follows o l :=
  fun op p l' e => absurd e (h op p l')

theorem nested_append {l1 l2 : List Obs} (h1 : Nested l1) (hh : HeadOk l1) (h2 : Nested l2) :
    Nested (l2 ++ l1) := by
  induction l2 with
  | nil => exact h1
  | cons o l ih =>
    refine ⟨?_, ih h2.2⟩
    cases l with
    | nil => exact follows_of_headOk o hh
    | cons o' l'' =>
      intro op p l' e
      change o' :: (l'' ++ l1) = _ at e
      injection e with e1 e2
      exact h2.1 op p l'' (by rw [e1])

theorem headOk_append {l1 l2 : List Obs} (hh1 : HeadOk l1) (hh2 : HeadOk l2) : HeadOk (l2 ++ l1) := by
  cases l2 with
  | nil => exact hh1
  | cons o l =>
    intro op p l' e
    simp only [List.cons_append, List.cons.injEq] at e
    exact hh2 op p l (by rw [e.1])

theorem nested_noZ (l : List Obs) (h : ∀ o ∈ l, isZ o = false) : Nested l ∧ HeadOk l := by
  induction l with
  | nil => exact ⟨trivial, fun _ _ _ e => by cases e⟩
  | cons o l ih =>
    have hl := ih (fun x hx => h x (List.mem_cons_of_mem _ hx))
    refine ⟨⟨follows_of_headOk o hl.2, hl.1⟩, fun op p l' e => ?_⟩
    have := h o List.mem_cons_self
    simp only [List.cons.injEq] at e
    rw [e.1] at this; cases this

/-- the new entries are well nested and do not end in the middle of a compressed call -/
def NZ (s s' : Sys) : Prop := ∃ l, s'.trace = l ++ s.trace ∧ Nested l ∧ HeadOk l

theorem nz_quiet (s s' : Sys) (l : List Obs) (ht : s'.trace = l ++ s.trace) (hz : ∀ o ∈ l, isZ o = false) :
    NZ s s' := ⟨l, ht, (nested_noZ l hz).1, (nested_noZ l hz).2⟩

theorem nz_idle {s s' : Sys} (h : Idle s s') : NZ s s' :=
  let ⟨l, ht, hl⟩ := h.ext
  nz_quiet s s' l ht fun o ho => by cases o <;> first | rfl | exact nomatch hl _ ho

theorem nz_sendFrame {op : Nat} {pl : Bytes} {s s' : Sys} {r : ActRes} (h : sendFrame op pl none s = .ok r s') :
    NZ s s' := by
  obtain ⟨r', s'', h', -, -, -, -, -, -, hcase⟩ := sendFrame_out op pl none s
  cases h.symm.trans h'
  rcases hcase with ⟨ht, -, -⟩ | ⟨ht, -, -, -⟩ | ⟨-, -, o, ht, bytes, -, ⟨ho, -⟩ | ⟨ho, -⟩⟩
  · exact nz_quiet _ _ [] ht (by simp)
  · exact nz_quiet _ _ [] ht (by simp)
  · subst ho; exact nz_quiet _ _ [_] ht (by simp [isZ])
  · subst ho; exact nz_quiet _ _ [_] ht (by simp [isZ])

theorem nz_write {d : Bytes} {s s' : Sys} {r : ActRes} (h : write d none s = .ok r s') : NZ s s' := by
  obtain ⟨r', s'', h', -, -, -, -, -, -, hcase⟩ := write_out d none s
  cases h.symm.trans h'
  rcases hcase with ⟨ht, -, -⟩ | ⟨-, -, ⟨ht, -⟩ | ⟨ht, -⟩⟩
  · exact nz_quiet _ _ [] ht (by simp)
  · exact nz_quiet _ _ [_] ht (by simp [isZ, wrObs])
  · exact nz_quiet _ _ [_] ht (by simp [isZ])

/-- a sending call of the application seen as a whole: its result is recorded on top of what it
    logged, and a compressed write is topped by `.res .ok` -/
theorem nz_call {op : Nat} {pl : Bytes} {c : Option Bytes} {s s' : Sys} {r : ActRes}
    (h : sendFrame op pl c s = .ok r s') : NZ s (resState s' r) := by
  obtain ⟨r', s'', h', -, -, -, -, -, -, hcase⟩ := sendFrame_out op pl c s
  cases h.symm.trans h'
  have quiet (l : List Obs) (ht : s'.trace = l ++ s.trace) (hz : ∀ o ∈ l, isZ o = false) : NZ s (resState s' r) :=
    nz_quiet _ _ (.res r :: l) (congrArg _ ht) fun o ho =>
      (List.mem_cons.mp ho).elim (fun e => e ▸ rfl) (hz o)
  rcases hcase with ⟨ht, -, -⟩ | ⟨ht, -, -, -⟩ | ⟨-, -, o, ht, hso⟩
  · exact quiet [] ht nofun
  · exact quiet [] ht nofun
  · cases c with
    | none =>
      obtain ⟨bytes, -, ⟨ho, -⟩ | ⟨ho, -⟩⟩ := hso
      · subst ho; exact quiet [_] ht (by simp [isZ])
      · subst ho; exact quiet [_] ht (by simp [isZ])
    | some plain =>
      rcases hso with ⟨ho, hr⟩ | ⟨ho, -⟩
      · subst ho; subst hr
        exact ⟨[.res .ok, .wrz op plain], congrArg _ ht,
          ⟨fun _ _ _ _ => rfl, follows_of_headOk _ (fun _ _ _ e => nomatch e), trivial⟩, fun _ _ _ e => nomatch e⟩
      · subst ho; exact quiet [_] ht (by simp [isZ])

theorem _root_.Lomond.Core.Move.nz {L : Prop} {s s' : Sys} (h : Move L s s') : NZ s s' := by
  cases h with
  | idle h => exact nz_idle h
  | lib _ h => exact nz_sendFrame h
  | close h =>
    -- `NZ` looks at the trace alone
    have f := nz_sendFrame h
    exact f
  | call h => exact nz_call h
  | res r => exact nz_quiet _ _ [.res r] rfl (by simp [isZ])

theorem runAll_nested (cfg : Cfg) (react : React) (env : List EnvStep) :
    Nested (runAll cfg react env).trace ∧ HeadOk (runAll cfg react env).trace := by
  let I (s : Sys) : Prop := Nested s.trace ∧ HeadOk s.trace
  have grow {s s' : Sys} (hi : I s) (h : NZ s s') : I s' := by
    obtain ⟨l, ht, hn', hh'⟩ := h
    show Nested s'.trace ∧ HeadOk s'.trace
    rw [ht]; exact ⟨nested_append hi.1 hi.2 hn', headOk_append hi.2 hh'⟩
  have h := (conn_runAll cfg react env).keeps (I := I) (J := I) (fun hi m => grow hi m.nz) (fun hi m => grow hi m.nz)
    (fun {s s'} hi ⟨r, h⟩ =>
      have f : NZ { s with sockOpen := true } s' := nz_write h
      grow hi f)
    ⟨trivial, fun _ _ _ e => nomatch e⟩
  exact h.elim id id

theorem nested_before (newer older : List Obs) (op : Nat) (p : Bytes)
    (hn : Nested (newer ++ .wrz op p :: older)) (hne : newer ≠ []) :
    ∃ newer', newer = newer' ++ [.res .ok] := by
  induction newer with
  | nil => exact absurd rfl hne
  | cons o l ih =>
    cases l with
    | nil =>
      have := hn.1 op p older rfl
      exact ⟨[], by rw [this]; rfl⟩
    | cons o' l' =>
      obtain ⟨n', hn'⟩ := ih hn.2 (by simp)
      exact ⟨o :: n', by rw [hn']; rfl⟩

theorem nested_at (newer older : List Obs) (op : Nat) (p : Bytes)
    (hn : Nested (newer ++ .wrz op p :: older)) (hh : HeadOk (newer ++ .wrz op p :: older)) :
    ∃ newer', newer = newer' ++ [.res .ok] :=
  nested_before newer older op p hn (fun e => by subst e; exact hh op p older rfl)

end Lomond.Core.KS
