/-
  The per-address loop `attempt i addrs` of Model/Connect.lean: its result is the first address that connects
  (`firstOk`, `attempt_result`); its calls are those of the loop body (`callsAt`) at the first `tried addrs`
  addresses, in order (`attempt_calls`, by membership `mem_attempt`).  Read off that: `socket()` is called for exactly
  those addresses (`attempt_sockets`); socket `j` is closed iff address `j` was tried and its `connect()` failed
  (`attempt_close`); a `connect()` either failed, and that socket is closed, or it is the result (`attempt_connect`).
  `connectSock_some`: `_connect_sock` on a resolved name, by `firstOk` and the loop's calls.
-/
import Lomond.Model.Connect
namespace Lomond.Connect

def firstOk : List AddrOutcome → Option Nat
  | [] => none
  | .ok :: _ => some 0
  | _ :: r => (firstOk r).map (· + 1)

/-- the addresses that are tried: up to and including the first that connects -/
def tried (addrs : List AddrOutcome) : Nat :=
  match firstOk addrs with
  | some k => k + 1
  | none => addrs.length

def Call.socketIdx? : Call → Option Nat
  | .socket i => some i
  | _ => none

theorem attempt_result (i : Nat) (addrs : List AddrOutcome) :
    (attempt i addrs).1 = (firstOk addrs).map (· + i) := by
  induction addrs generalizing i with
  | nil => rfl
  | cons a r ih =>
    cases a with
    | ok => simp [attempt, firstOk]
    | sockCreateFail | connectFail =>
      simp only [attempt, firstOk]
      rw [ih (i + 1)]
      cases firstOk r <;> simp [Nat.add_comm, Nat.add_left_comm]

theorem firstOk_none {addrs : List AddrOutcome} : firstOk addrs = none ↔ ∀ a ∈ addrs, a ≠ .ok := by
  induction addrs with
  | nil => simp [firstOk]
  | cons a r ih =>
    cases a <;> simp [firstOk, ih]

theorem firstOk_some {addrs : List AddrOutcome} {k : Nat} (h : firstOk addrs = some k) :
    addrs[k]? = some .ok ∧ ∀ j, j < k → addrs[j]? ≠ some .ok := by
  induction addrs generalizing k with
  | nil => cases h
  | cons a r ih =>
    cases a with
    | ok =>
      simp only [firstOk, Option.some.injEq] at h; subst h
      exact ⟨rfl, fun j hj => by omega⟩
    | sockCreateFail | connectFail =>
      simp only [firstOk, Option.map_eq_some_iff] at h
      obtain ⟨k', hk', rfl⟩ := h
      obtain ⟨h1, h2⟩ := ih hk'
      refine ⟨by simpa using h1, fun j hj => ?_⟩
      cases j with
      | zero => simp
      | succ j' => simpa using h2 j' (by omega)

theorem tried_le (addrs : List AddrOutcome) : tried addrs ≤ addrs.length := by
  unfold tried
  cases h : firstOk addrs with
  | none => exact Nat.le_refl _
  | some k => exact (List.getElem?_eq_some_iff.mp (firstOk_some h).1).1

theorem tried_cons {a : AddrOutcome} (h : a ≠ .ok) (r : List AddrOutcome) : tried (a :: r) = tried r + 1 := by
  unfold tried
  cases a <;> first | exact absurd rfl h | (simp only [firstOk]; cases firstOk r <;> simp)

theorem firstOk_le {addrs : List AddrOutcome} {k : Nat} (ha : addrs[k]? = some .ok) :
    ∃ k0, firstOk addrs = some k0 ∧ k0 ≤ k := by
  cases h : firstOk addrs with
  | none => exact absurd rfl (firstOk_none.mp h _ (List.mem_of_getElem? ha))
  | some k0 => exact ⟨k0, rfl, Nat.le_of_not_lt fun hlt => (firstOk_some h).2 k hlt ha⟩

theorem firstOk_some_iff {addrs : List AddrOutcome} {k : Nat} :
    firstOk addrs = some k ↔ addrs[k]? = some .ok ∧ ∀ j, j < k → addrs[j]? ≠ some .ok := by
  refine ⟨firstOk_some, fun ⟨hk, hlt⟩ => ?_⟩
  obtain ⟨k0, h, hle⟩ := firstOk_le hk
  rcases Nat.lt_or_eq_of_le hle with hlt' | rfl
  · exact absurd (firstOk_some h).1 (hlt k0 hlt')
  · exact h

theorem tried_ok {addrs : List AddrOutcome} {k : Nat} (hk : k < tried addrs) (ha : addrs[k]? = some .ok) :
    firstOk addrs = some k := by
  obtain ⟨k0, h, hle⟩ := firstOk_le ha
  simp only [tried, h] at hk
  rw [h]; exact congrArg some (by omega)

/-- what one pass of the loop body does at address `k` whose outcome is `a` -/
def callsAt (k : Nat) : AddrOutcome → List Call
  | .sockCreateFail => [.socket k]
  | .connectFail => [.socket k, .connect k, .close k]
  | .ok => [.socket k, .connect k]

/-- Normal form of the loop: it visits the first `tried addrs` addresses in order.  The statements below about
    `socket()`, `close()` and `connect()` are read off it. -/
theorem attempt_calls (i : Nat) (addrs : List AddrOutcome) :
    (attempt i addrs).2 = ((addrs.take (tried addrs)).zipIdx i).flatMap fun p => callsAt p.2 p.1 := by
  induction addrs generalizing i with
  | nil => rfl
  | cons a r ih =>
    cases a with
    | ok => rfl
    | sockCreateFail | connectFail =>
      rw [tried_cons (by decide)]
      simp only [attempt, List.take_succ_cons, List.zipIdx_cons, List.flatMap_cons, ih (i + 1)]
      rfl

theorem mem_attempt {i : Nat} {addrs : List AddrOutcome} {c : Call} :
    c ∈ (attempt i addrs).2 ↔ ∃ k a, k < tried addrs ∧ addrs[k]? = some a ∧ c ∈ callsAt (k + i) a := by
  simp only [attempt_calls, List.mem_flatMap, Prod.exists, List.mk_mem_zipIdx_iff_le_and_getElem?_sub,
    List.getElem?_take]
  constructor
  · rintro ⟨a, k, ⟨hk, ha⟩, hc⟩
    split at ha
    · exact ⟨k - i, a, ‹_›, ha, by rwa [Nat.sub_add_cancel hk]⟩
    · cases ha
  · rintro ⟨k, a, hk, ha, hc⟩
    exact ⟨a, k + i, ⟨Nat.le_add_left .., by rwa [Nat.add_sub_cancel, if_pos hk]⟩, hc⟩

theorem attempt_sockets (i : Nat) (addrs : List AddrOutcome) :
    (attempt i addrs).2.filterMap Call.socketIdx? = (List.range (tried addrs)).map (· + i) := by
  have h : ∀ p : AddrOutcome × Nat, (callsAt p.2 p.1).filterMap Call.socketIdx? = [p.2] := by
    rintro ⟨a, k⟩; cases a <;> rfl
  rw [attempt_calls, List.filterMap_flatMap]
  simp only [h]
  rw [← List.map_eq_flatMap, List.zipIdx_map_snd, List.length_take, Nat.min_eq_left (tried_le addrs),
    List.range'_eq_map_range]
  exact List.map_congr_left fun _ _ => Nat.add_comm ..

theorem attempt_close (i : Nat) (addrs : List AddrOutcome) (j : Nat) :
    Call.close (j + i) ∈ (attempt i addrs).2 ↔ (j < tried addrs ∧ addrs[j]? = some .connectFail) := by
  rw [mem_attempt]
  constructor
  · rintro ⟨k, a, hk, ha, hc⟩
    cases a <;> simp [callsAt] at hc
    obtain rfl : j = k := by omega
    exact ⟨hk, ha⟩
  · rintro ⟨hj, ha⟩
    exact ⟨j, _, hj, ha, by simp [callsAt]⟩

theorem attempt_connect (j i : Nat) (addrs : List AddrOutcome) (h : Call.connect j ∈ (attempt i addrs).2) :
    Call.close j ∈ (attempt i addrs).2 ∨ (attempt i addrs).1 = some j := by
  obtain ⟨k, a, hk, ha, hc⟩ := mem_attempt.mp h
  cases a <;> simp [callsAt] at hc <;> subst hc
  · exact Or.inr (by rw [attempt_result, tried_ok hk ha]; rfl)
  · exact Or.inl (mem_attempt.mpr ⟨k, _, hk, ha, by simp [callsAt]⟩)

theorem attempt_first (addrs : List AddrOutcome) : (attempt 0 addrs).1 = firstOk addrs := by
  simpa using attempt_result 0 addrs

theorem connectSock_some (addrs : List AddrOutcome) :
    connectSock (some addrs) = ((firstOk addrs).elim .fail .sock, (attempt 0 addrs).2) := by
  rw [← attempt_first]
  unfold connectSock
  simp only []
  rcases attempt 0 addrs with ⟨_ | i, l⟩ <;> rfl

theorem connectSock_connect (gai : Option (List AddrOutcome)) (j : Nat)
    (h : Call.connect j ∈ (connectSock gai).2) :
    Call.close j ∈ (connectSock gai).2 ∨ (connectSock gai).1 = .sock j := by
  cases gai with
  | none => cases h
  | some addrs =>
    rw [connectSock_some] at h ⊢
    refine (attempt_connect j 0 addrs h).imp_right fun hr => ?_
    rw [attempt_first] at hr
    exact congrArg (Option.elim · Result.fail Result.sock) hr

end Lomond.Connect
