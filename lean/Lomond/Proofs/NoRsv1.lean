/-
  "Without negotiation the client never sets RSV1", for whole connections.

  `Neg s s'`: the trace only grew, and if in `s` nothing is negotiated and no compressed frame has
  been written (`NoZ s`), then in `s'` either that is still so, or a `Ready` event announcing
  permessage-deflate is in the trace.  Proved for every function of the core model from the
  bottom to `run` (the lower half comes from `Quiet`, Proofs/Quiet.lean), hence for `runAll`.
-/
import Lomond.Proofs.Quiet
import Lomond.Proofs.ApiCalls
namespace Lomond.Core
open Lomond

/-- a `Ready` event that lists permessage-deflate is in the trace -/
def ReadyZ (tr : List Obs) : Prop := ∃ p, Obs.ev (.ready p true) ∈ tr

def NoZ (s : Sys) : Prop := s.compression = none ∧ NoWrz s.trace

structure Neg (s s' : Sys) : Prop where
  tr : ∃ l, s'.trace = l ++ s.trace
  keep : NoZ s → NoZ s' ∨ ReadyZ s'.trace

theorem neg_po : PO Neg where
  refl s := ⟨⟨[], rfl⟩, Or.inl⟩
  trans h1 h2 := ⟨Grows.trans h1.tr h2.tr, fun ha =>
    (h1.keep ha).elim h2.keep fun hb => .inr (hb.imp fun _ => Grows.mem h2.tr)⟩

theorem Quiet.neg {s s' : Sys} (h : Quiet s s') : Neg s s' := by
  obtain ⟨l, e, n⟩ := h.tr
  refine ⟨⟨l, e⟩, fun hz => Or.inl ⟨h.comp.trans hz.1, ?_⟩⟩
  rw [e]; exact noWrz_append (n hz.1) hz.2

theorem neg_of_quiet {m : M α} (h : Spec Quiet m) : Spec Neg m := fun s => (h s).neg

theorem neg_same {s s' : Sys} (hc : s'.compression = s.compression) (ht : s'.trace = s.trace) : Neg s s' :=
  ⟨⟨[], by simp [ht]⟩, fun hz => Or.inl ⟨hc.trans hz.1, by rw [ht]; exact hz.2⟩⟩

theorem neg_cons {s s' : Sys} (o : Obs) (hc : s'.compression = s.compression) (ht : s'.trace = o :: s.trace)
    (ho : ∀ op pl, Obs.wrz op pl ≠ o) : Neg s s' :=
  ⟨⟨[o], by simp [ht]⟩, fun hz => Or.inl ⟨hc.trans hz.1, by
    rw [ht]; intro op pl hm
    rcases List.mem_cons.mp hm with h | h
    · exact ho op pl h
    · exact hz.2 op pl h⟩⟩

theorem neg_leaves : TimerLeaves Neg := quiet_leaves.mono neg_po Quiet.neg

theorem neg_buildMessage (fs : List Frame) : Spec Neg (buildMessage fs) :=
  spec_buildMessage neg_po fs (fun j => spec_inflateMessage neg_po j (fun _ _ _ => neg_same rfl rfl))

theorem neg_onMessage (m : Msg) : Spec Neg (onMessage m) := neg_of_quiet (quiet_onMessage_z m)

theorem neg_onFrame (f : Frame) : Spec Neg (onFrame f) :=
  spec_onFrame neg_po f neg_buildMessage neg_onMessage
    (spec_onDataFrame neg_po f (fun _ => neg_same rfl rfl) (fun _ => neg_same rfl rfl) neg_buildMessage neg_onMessage)

/-- the handshake response: the only place where a configuration appears — together with the
    `Ready` event that announces it -/
theorem neg_onOut (o : Out) : Spec Neg (onOut o) := by
  cases o with
  | frame f =>
    unfold onOut
    exact spec_bind neg_po (neg_onFrame _) (fun _ => spec_notClosed neg_po)
  | header data =>
    intro s
    refine ⟨(step_onOut (.header data) s).traceExt, fun hz => ?_⟩
    unfold onOut
    simp only []
    rw [getS_bind]
    cases hresp : Http.onResponse s.cfg.v.strictAccept s.cfg.challenge (Http.parseResponse data) with
    | error reason =>
      simp only []
      have : Spec Neg (do modS (fun s => { s with parsedResponse := true }); onDisconnect
                          feedYield true (.rejected reason); pure false : M Bool) := by
        exact spec_bind neg_po (spec_modS (fun s => neg_same rfl rfl)) (fun _ =>
          spec_bind neg_po neg_leaves.onDisconnect (fun _ =>
            spec_bind neg_po (neg_leaves.feedYield _ _) (fun _ => spec_pure neg_po _)))
      exact (this s).keep hz
    | ok acc =>
      simp only []
      cases hd : acc.deflate with
      | none =>
        have : Spec Neg (do
            modS (fun s => { s with compression := none, decompress := (none : Option Http.DeflateCfg).isSome,
                                     p := if (none : Option Http.DeflateCfg).isSome then { s.p with compression := true } else s.p })
            feedYield true (.ready acc.protocol (none : Option Http.DeflateCfg).isSome)
            modS (fun s => { s with parsedResponse := true }); notClosed : M Bool) := by
          exact spec_bind neg_po (spec_modS (fun s => ⟨⟨[], rfl⟩, fun hz => Or.inl ⟨rfl, hz.2⟩⟩)) (fun _ =>
            spec_bind neg_po (neg_leaves.feedYield _ _) (fun _ =>
              spec_bind neg_po (spec_modS (fun s => neg_same rfl rfl)) (fun _ => spec_notClosed neg_po)))
        exact (this s).keep hz
      | some d =>
        right
        simp only [Option.isSome_some, if_true]
        rw [modS_bind]
        have hf := feedYield_logged true (.ready acc.protocol true)
          { s with compression := some d, decompress := true, p := { s.p with compression := true } } _ rfl
        cases hr : feedYield true (.ready acc.protocol true)
            { s with compression := some d, decompress := true, p := { s.p with compression := true } } with
        | err x s2 =>
          rw [hr] at hf
          rw [bind_err hr]
          exact ⟨acc.protocol, hf.1⟩
        | ok u s2 =>
          rw [hr] at hf
          rw [bind_ok hr]
          rw [modS_bind]
          unfold notClosed
          exact ⟨acc.protocol, hf.1⟩

theorem neg_feedLoop (data : Bytes) : Spec Neg (feedLoop data) :=
  spec_feedLoop neg_po (fun _ _ _ => neg_same rfl rfl) neg_onOut data

theorem neg_wsFeed (data : Bytes) : Spec Neg (wsFeed data) :=
  spec_wsFeed neg_po
    (spec_feedBody (spec_feedHeader neg_po (fun _ _ _ => neg_same rfl rfl) (fun rest out =>
      spec_afterHeader neg_po rest out neg_onOut neg_feedLoop)) neg_feedLoop)
    (fun x => spec_feedHandler neg_po x (fun _ _ => neg_leaves.feedYield _ _) (fun _ => neg_leaves.wsClose _ _)) data

theorem neg_tick (s : Sys) (dt : Nat) : Neg s (tick s dt) := by
  by_cases h : dt = 0
  · subst h; exact neg_po.refl s
  · rw [tick_pos s dt h]; exact neg_cons (.tick (s.now + dt)) rfl rfl (fun _ _ h => nomatch h)

theorem neg_loop (env : List EnvStep) : Spec Neg (loop env) :=
  spec_loop neg_po (spec_recvStep neg_po neg_wsFeed) (fun _ => True)
    (fun dt _ s _ => neg_po.trans (neg_tick s dt) (neg_leaves.regular _)) env (fun _ _ => trivial)

theorem neg_run : Spec Neg run :=
  Pong.run_run ⟨neg_po, neg_leaves.closeSocket,
      spec_selClose neg_po (fun _ _ => neg_cons _ rfl rfl (fun _ _ h => nomatch h)),
      fun e _ => neg_leaves.yieldEv e, fun _ _ => neg_same rfl rfl⟩
    neg_loop (fun _ => neg_same rfl rfl) (fun _ => neg_leaves.write _)

/-- **whole connections**: a compressed frame in the trace implies a `Ready` event that lists
    permessage-deflate -/
theorem runAll_wrz_ready (cfg : Cfg) (react : React) (env : List EnvStep) :
    NoZ (runAll cfg react env) ∨ ReadyZ (runAll cfg react env).trace :=
  (Pong.run_runAll neg_po neg_leaves.closeSocket
    (fun _ => neg_cons _ rfl rfl (fun _ _ h => nomatch h)) cfg react env (neg_run _)).keep ⟨rfl, noWrz_nil⟩

end Lomond.Core
