/-
  UTF-8 (property C05): the generated DFA equals a hand-written semantic state machine (`sstep`),
  and that machine recognises exactly `wf`; `decode` and `encode` are inverse to each other on
  scalar values (code points as iterated six-bit steps, `acc`).
-/
import Lomond.Model.Utf8


namespace Lomond.Utf8

/-- semantic state machine over the DFA's state numbering:
    0 accept, 1 reject, 2 one tail, 3 two tails, 4 after E0, 5 after ED,
    6 after F0, 7 three tails, 8 after F4 -/
def sstep (s b : Nat) : Nat :=
  match s with
  | 0 =>
    if b < 0x80 then 0
    else if 0xC2 ≤ b ∧ b ≤ 0xDF then 2
    else if b = 0xE0 then 4
    else if (0xE1 ≤ b ∧ b ≤ 0xEC) ∨ b = 0xEE ∨ b = 0xEF then 3
    else if b = 0xED then 5
    else if b = 0xF0 then 6
    else if 0xF1 ≤ b ∧ b ≤ 0xF3 then 7
    else if b = 0xF4 then 8
    else 1
  | 2 => if 0x80 ≤ b ∧ b ≤ 0xBF then 0 else 1
  | 3 => if 0x80 ≤ b ∧ b ≤ 0xBF then 2 else 1
  | 4 => if 0xA0 ≤ b ∧ b ≤ 0xBF then 2 else 1
  | 5 => if 0x80 ≤ b ∧ b ≤ 0x9F then 2 else 1
  | 6 => if 0x90 ≤ b ∧ b ≤ 0xBF then 3 else 1
  | 7 => if 0x80 ≤ b ∧ b ≤ 0xBF then 3 else 1
  | 8 => if 0x80 ≤ b ∧ b ≤ 0x8F then 3 else 1
  | _ => 1

/-- class table restricted to bytes, as a finite statement -/
def clsSpec (b : Nat) : Nat :=
  if b < 0x80 then 0
  else if b < 0x90 then 1
  else if b < 0xA0 then 9
  else if b < 0xC0 then 7
  else if b < 0xC2 then 8
  else if b < 0xE0 then 2
  else if b = 0xE0 then 10
  else if b < 0xED then 3
  else if b = 0xED then 4
  else if b < 0xF0 then 3
  else if b = 0xF0 then 11
  else if b < 0xF4 then 6
  else if b = 0xF4 then 5
  else 8

theorem cls_sweep : (Gen.utf8Dfa.take 256 == (List.range 256).map clsSpec) = true := by
  decide +kernel

theorem cls_table (b : Nat) (hb : b < 256) : cls b = clsSpec b := by
  have h : (Gen.utf8Dfa.take 256)[b]? = some (clsSpec b) := by
    rw [eq_of_beq cls_sweep, List.getElem?_map, List.getElem?_range hb]; rfl
  rw [List.getElem?_take_of_lt hb] at h
  rw [cls, List.getD_eq_getElem?_getD, h]; rfl

/-- one representative byte of each of the twelve classes -/
def clsRep : List Nat := [0x00, 0x80, 0xC2, 0xE1, 0xED, 0xF4, 0xF1, 0xA0, 0xC0, 0x90, 0xE0, 0xF0]

theorem clsSpec_rep : ∀ c : Fin 12, clsSpec (clsRep.getD c.val 0) = c.val := by decide +kernel

/-- row `s` of the transition table, read at the class of a byte, is `sstep s` at that byte -/
theorem trans_sweep : ((List.range 9).all fun s => (List.range 256).all fun b =>
    (Gen.utf8Dfa.drop (256 + s * 16)).getD (clsSpec b) 1 == sstep s b) = true := by
  decide +kernel

theorem step_eq_sstep (s b : Nat) (hs : s < 9) (hb : b < 256) : step s b = sstep s b := by
  have h := List.all_eq_true.1 (List.all_eq_true.1 trans_sweep s (List.mem_range.2 hs))
    b (List.mem_range.2 hb)
  rw [step, cls_table b hb, trans, ← eq_of_beq h, List.getD_eq_getElem?_getD,
    List.getD_eq_getElem?_getD, List.getElem?_drop]

theorem ite_lt {c : Prop} [Decidable c] {a b n : Nat} (ha : a < n) (hb : b < n) :
    (if c then a else b) < n := by
  split <;> assumption

theorem sstep_lt (s b : Nat) : sstep s b < 9 := by
  unfold sstep
  split <;> (repeat' apply ite_lt) <;> decide

theorem step_lt (s b : Nat) (hs : s < 9) (hb : b < 256) : step s b < 9 := by
  rw [step_eq_sstep s b hs hb]; exact sstep_lt s b

theorem sstep_reject (b : Nat) : sstep 1 b = 1 := by
  unfold sstep; rfl

def srun (s : Nat) (bs : Bytes) : Nat := bs.foldl sstep s

theorem run_eq_srun (s : Nat) (bs : Bytes) (hs : s < 9) (hb : Bytes.WF bs) :
    run s bs = srun s bs := by
  induction bs generalizing s with
  | nil => rfl
  | cons b r ih =>
    have hb0 : b < 256 := hb b (by simp)
    have hr : Bytes.WF r := fun x hx => hb x (by simp [hx])
    simp only [run, srun, List.foldl_cons]
    rw [step_eq_sstep s b hs hb0]
    exact ih (sstep s b) (sstep_lt s b) hr

theorem srun_reject (bs : Bytes) : srun 1 bs = 1 := by
  induction bs with
  | nil => rfl
  | cons b r ih => simp only [srun, List.foldl_cons, sstep_reject]; exact ih

theorem srun_append (s : Nat) (a b : Bytes) : srun s (a ++ b) = srun (srun s a) b := by
  simp [srun, List.foldl_append]

/-- what remains to be recognised from state `s` -/
def wfFrom (s : Nat) (bs : Bytes) : Bool :=
  match s, bs with
  | 0, bs => wf bs
  | 2, b1 :: r => isTail b1 && wf r
  | 3, b1 :: b2 :: r => isTail b1 && isTail b2 && wf r
  | 4, b1 :: b2 :: r => (0xA0 ≤ b1 && b1 ≤ 0xBF) && isTail b2 && wf r
  | 5, b1 :: b2 :: r => (0x80 ≤ b1 && b1 ≤ 0x9F) && isTail b2 && wf r
  | 6, b1 :: b2 :: b3 :: r => (0x90 ≤ b1 && b1 ≤ 0xBF) && isTail b2 && isTail b3 && wf r
  | 7, b1 :: b2 :: b3 :: r => isTail b1 && isTail b2 && isTail b3 && wf r
  | 8, b1 :: b2 :: b3 :: r => (0x80 ≤ b1 && b1 ≤ 0x8F) && isTail b2 && isTail b3 && wf r
  | _, _ => false

theorem wfFrom_nil : ∀ s, s < 9 → wfFrom s [] = (s == 0) := by decide

theorem wfFrom_reject (bs : Bytes) : wfFrom 1 bs = false := by
  rcases bs with _ | ⟨b1, _ | ⟨b2, _ | ⟨b3, r⟩⟩⟩ <;> rfl

@[simp] theorem wfFrom_0 (bs : Bytes) : wfFrom 0 bs = wf bs := by simp [wfFrom]
@[simp] theorem wfFrom_3 (b1 b2 : Nat) (r : Bytes) : wfFrom 3 (b1 :: b2 :: r) = (isTail b1 && isTail b2 && wf r) := by simp [wfFrom]
@[simp] theorem wfFrom_3' (b1 : Nat) : wfFrom 3 [b1] = false := by simp [wfFrom]
set_option linter.unusedVariables false in
@[simp] theorem wfFrom_2' (b1 : Nat) : wfFrom 2 [] = false := by simp [wfFrom]

theorem ite_eq_apply_ite {α β} (f : α → β) {c : Prop} [Decidable c] {a b : α} {x y : β}
    (h1 : x = f a) (h2 : y = f b) : (if c then x else y) = f (if c then a else b) := by
  split <;> assumption

/-- `wf` and `sstep 0` branch on the same conditions on the lead byte, and what `wf` asks of the
    rest in each branch is `wfFrom` of the state `sstep 0` enters. -/
theorem wf_cons (b : Nat) (r : Bytes) : wf (b :: r) = wfFrom (sstep 0 b) r := by
  unfold wf
  rw [sstep]
  repeat' apply ite_eq_apply_ite (wfFrom · r)
  all_goals rcases r with _ | ⟨b1, _ | ⟨b2, _ | ⟨b3, r'⟩⟩⟩ <;> rfl

theorem wfFrom_range (lo hi k b : Nat) (r : Bytes) :
    wfFrom (if lo ≤ b ∧ b ≤ hi then k else 1) r = ((lo ≤ b && b ≤ hi) && wfFrom k r) := by
  by_cases h : lo ≤ b ∧ b ≤ hi <;> simp [h, wfFrom_reject]

theorem wfFrom_cons (s b : Nat) (r : Bytes) (hs : s < 9) :
    wfFrom s (b :: r) = wfFrom (sstep s b) r := by
  match s, hs with
  | 0, _ => exact wf_cons b r
  | 1, _ => exact (wfFrom_reject _).trans (wfFrom_reject _).symm
  | 2, _ => rw [sstep, wfFrom_range]; rfl
  | 3, _ | 4, _ | 5, _ =>
    rw [sstep, wfFrom_range]
    rcases r with _ | ⟨b2, r'⟩
    · exact (Bool.and_false _).symm
    · exact Bool.and_assoc ..
  | 6, _ | 7, _ | 8, _ =>
    rw [sstep, wfFrom_range]
    rcases r with _ | ⟨b2, _ | ⟨b3, r'⟩⟩
    · exact (Bool.and_false _).symm
    · exact (Bool.and_false _).symm
    · simp only [wfFrom, isTail, Bool.and_assoc]

theorem wfFrom_eq_srun (s : Nat) (bs : Bytes) (hs : s < 9) : wfFrom s bs = (srun s bs == 0) := by
  induction bs generalizing s with
  | nil => exact wfFrom_nil s hs
  | cons b r ih => rw [wfFrom_cons s b r hs]; exact ih _ (sstep_lt s b)

theorem srun_zero_iff_wf (bs : Bytes) : srun 0 bs = 0 ↔ wf bs = true := by
  have := wfFrom_eq_srun 0 bs (by decide)
  simp at this
  rw [this]; simp


theorem validate_append (s : Nat) (a b : Bytes) :
    validate s (a ++ b) = (validate s a).bind (fun s' => validate s' b) := by
  induction a generalizing s with
  | nil => simp [validate]
  | cons x r ih =>
    simp only [List.cons_append, validate]
    split
    · simp
    · exact ih _

theorem validate_eq_run (s : Nat) (bs : Bytes) (hs : s < 9) (h1 : s ≠ 1) (hb : Bytes.WF bs) :
    validate s bs = if srun s bs = 1 then none else some (srun s bs) := by
  induction bs generalizing s with
  | nil => simp [validate, srun, h1]
  | cons b r ih =>
    have hb0 : b < 256 := hb b (by simp)
    have hr : Bytes.WF r := fun x hx => hb x (by simp [hx])
    simp only [validate, step_eq_sstep s b hs hb0, srun, List.foldl_cons]
    by_cases h : sstep s b = 1
    · have : Gen.utf8Reject = 1 := rfl
      simp only [h, this, if_true]
      have := srun_reject r
      simp only [srun] at this
      simp [this]
    · have e : Gen.utf8Reject = 1 := rfl
      simp only [e, h, if_false]
      exact ih (sstep s b) (sstep_lt s b) h hr

/-- a completing suffix for every non-rejecting state -/
def completion (s : Nat) : Bytes :=
  match s with
  | 0 => []
  | 2 => [0x80]
  | 3 => [0x80, 0x80]
  | 4 => [0xA0, 0x80]
  | 5 => [0x80, 0x80]
  | 6 => [0x90, 0x80, 0x80]
  | 7 => [0x80, 0x80, 0x80]
  | 8 => [0x80, 0x80, 0x80]
  | _ => []

theorem completion_accepts : ∀ s : Fin 9, s.val ≠ 1 → srun s.val (completion s.val) = 0 := by
  decide

theorem srun_lt (s : Nat) (bs : Bytes) (hs : s < 9) : srun s bs < 9 := by
  induction bs generalizing s with
  | nil => simpa [srun]
  | cons b r ih => simp only [srun, List.foldl_cons]; exact ih _ (sstep_lt s b)

theorem decode_isSome (bs : Bytes) : (decode bs).isSome = wf bs := by
  fun_induction decode bs <;> (rw [wf.eq_def]; simp [*])
  all_goals (first | omega | skip)

theorem decode_1 (b0 : Nat) (r : Bytes) (h : b0 < 128) :
    decode (b0 :: r) = (decode r).map (b0 :: ·) := by
  rw [decode.eq_def]; simp [h]

theorem decode_2 (b0 b1 : Nat) (r : Bytes) (h0 : 194 ≤ b0 ∧ b0 ≤ 223) (h1 : 128 ≤ b1 ∧ b1 ≤ 191) :
    decode (b0 :: b1 :: r) = (decode r).map (cp2 b0 b1 :: ·) := by
  rw [decode.eq_def]
  have : ¬ b0 < 128 := by omega
  simp [this, h0, h1, isTail]

def valid3 (b0 b1 : Nat) : Prop :=
  (b0 = 224 ∧ 160 ≤ b1 ∧ b1 ≤ 191) ∨
  ((225 ≤ b0 ∧ b0 ≤ 236 ∨ b0 = 238 ∨ b0 = 239) ∧ 128 ≤ b1 ∧ b1 ≤ 191) ∨
  (b0 = 237 ∧ 128 ≤ b1 ∧ b1 ≤ 159)

theorem decode_3 (b0 b1 b2 : Nat) (r : Bytes) (h0 : valid3 b0 b1) (h2 : 128 ≤ b2 ∧ b2 ≤ 191) :
    decode (b0 :: b1 :: b2 :: r) = (decode r).map (cp3 b0 b1 b2 :: ·) := by
  rw [decode.eq_def]
  rcases h0 with ⟨e, h⟩ | ⟨e, h⟩ | ⟨e, h⟩
  · subst e; simp [h, h2, isTail]
  · have a1 : ¬ b0 < 128 := by omega
    have a2 : ¬ (194 ≤ b0 ∧ b0 ≤ 223) := by omega
    have a3 : ¬ b0 = 224 := by omega
    simp [a1, a2, a3, e, h, h2, isTail]
  · subst e; simp [h, h2, isTail]

def valid4 (b0 b1 : Nat) : Prop :=
  (b0 = 240 ∧ 144 ≤ b1 ∧ b1 ≤ 191) ∨
  ((241 ≤ b0 ∧ b0 ≤ 243) ∧ 128 ≤ b1 ∧ b1 ≤ 191) ∨
  (b0 = 244 ∧ 128 ≤ b1 ∧ b1 ≤ 143)

theorem decode_4 (b0 b1 b2 b3 : Nat) (r : Bytes) (h0 : valid4 b0 b1) (h2 : 128 ≤ b2 ∧ b2 ≤ 191)
    (h3 : 128 ≤ b3 ∧ b3 ≤ 191) :
    decode (b0 :: b1 :: b2 :: b3 :: r) = (decode r).map (cp4 b0 b1 b2 b3 :: ·) := by
  rw [decode.eq_def]
  rcases h0 with ⟨e, h⟩ | ⟨e, h⟩ | ⟨e, h⟩
  · subst e; simp [h, h2, h3, isTail]
  · have a1 : ¬ b0 < 128 := by omega
    have a2 : ¬ (194 ≤ b0 ∧ b0 ≤ 223) := by omega
    have a3 : ¬ b0 = 224 := by omega
    have a4 : ¬ (225 ≤ b0 ∧ b0 ≤ 236 ∨ b0 = 238 ∨ b0 = 239) := by omega
    have a5 : ¬ b0 = 237 := by omega
    have a6 : ¬ b0 = 240 := by omega
    simp [a1, a2, a3, a4, a5, a6, e, h, h2, h3, isTail]
  · subst e; simp [h, h2, h3, isTail]

/-- one Horner step of `cp2` / `cp3` / `cp4`: the six payload bits of the continuation byte `t`
    appended to `a` -/
def acc (a t : Nat) : Nat := a * 64 + (t - 128)

theorem acc_split {a t : Nat} (ht : 128 ≤ t ∧ t ≤ 191) : acc a t / 64 = a ∧ 128 + acc a t % 64 = t := by
  unfold acc; omega

theorem acc_join (c : Nat) : acc (c / 64) (128 + c % 64) = c := by
  unfold acc; omega

theorem cp3_acc (b0 b1 b2 : Nat) : cp3 b0 b1 b2 = acc (acc (b0 - 224) b1) b2 := by
  unfold cp3 acc; omega

theorem cp4_acc (b0 b1 b2 b3 : Nat) : cp4 b0 b1 b2 b3 = acc (acc (acc (b0 - 240) b1) b2) b3 := by
  unfold cp4 acc; omega

/-- the overlong, surrogate and U+10FFFF bounds are multiples of 64 (of 4096 for four bytes), so
    they are bounds on the first two bytes alone -/
theorem valid3_iff (b0 b1 : Nat) : valid3 b0 b1 ↔ 224 ≤ b0 ∧ (128 ≤ b1 ∧ b1 ≤ 191) ∧
    (32 ≤ acc (b0 - 224) b1 ∧ acc (b0 - 224) b1 < 864 ∨ 896 ≤ acc (b0 - 224) b1 ∧ acc (b0 - 224) b1 < 1024) := by
  unfold valid3 acc; omega

theorem valid4_iff (b0 b1 : Nat) : valid4 b0 b1 ↔
    240 ≤ b0 ∧ (128 ≤ b1 ∧ b1 ≤ 191) ∧ 16 ≤ acc (b0 - 240) b1 ∧ acc (b0 - 240) b1 < 272 := by
  unfold valid4 acc; omega

theorem encodeOne_eq (c : Nat) : encodeOne c =
    if c < 128 then [c] else if c < 2048 then [192 + c / 64, 128 + c % 64]
    else if c < 65536 then [224 + c / 64 / 64, 128 + c / 64 % 64, 128 + c % 64]
    else [240 + c / 64 / 64 / 64, 128 + c / 64 / 64 % 64, 128 + c / 64 % 64, 128 + c % 64] := by
  simp only [encodeOne, Nat.div_div_eq_div_mul, Nat.reduceMul]

theorem isScalar_iff (c : Nat) : isScalar c = true ↔ c / 64 < 864 ∨ 896 ≤ c / 64 ∧ c / 64 / 64 < 272 := by
  simp only [isScalar, Bool.or_eq_true, Bool.and_eq_true, decide_eq_true_eq]; omega

theorem decode_encodeOne (c : Nat) (r : Bytes) (hc : isScalar c = true) :
    decode (encodeOne c ++ r) = (decode r).map (c :: ·) := by
  rw [isScalar_iff] at hc
  have tail (x : Nat) : 128 ≤ 128 + x % 64 ∧ 128 + x % 64 ≤ 191 := by omega
  rw [encodeOne_eq]
  split
  · rename_i h; exact decode_1 c r h
  split
  · have := decode_2 (192 + c / 64) (128 + c % 64) r (by omega) (tail c)
    rwa [show cp2 (192 + c / 64) (128 + c % 64) = c by
      rw [show cp2 _ _ = acc _ _ from rfl, Nat.add_sub_cancel_left, acc_join]] at this
  split
  · have := decode_3 (224 + c / 64 / 64) (128 + c / 64 % 64) (128 + c % 64) r
      ((valid3_iff _ _).2 ⟨Nat.le_add_right .., tail _, by rw [Nat.add_sub_cancel_left, acc_join]; omega⟩) (tail c)
    rwa [cp3_acc, Nat.add_sub_cancel_left, acc_join, acc_join] at this
  · have := decode_4 (240 + c / 64 / 64 / 64) (128 + c / 64 / 64 % 64) (128 + c / 64 % 64) (128 + c % 64) r
      ((valid4_iff _ _).2 ⟨Nat.le_add_right .., tail _, by rw [Nat.add_sub_cancel_left, acc_join]; omega⟩)
      (tail _) (tail c)
    rwa [cp4_acc, Nat.add_sub_cancel_left, acc_join, acc_join, acc_join] at this

theorem decode_encode (cs : List Nat) (h : ∀ c ∈ cs, isScalar c = true) :
    decode (encode cs) = some cs := by
  induction cs with
  | nil => simp [encode, decode]
  | cons c r ih =>
    have hc := h c (by simp)
    have hr : ∀ x ∈ r, isScalar x = true := fun x hx => h x (by simp [hx])
    simp only [encode, List.flatMap_cons] at *
    rw [decode_encodeOne c _ hc, ih hr]; rfl


theorem encodeOne_cp2 (b0 b1 : Nat) (h0 : 194 ≤ b0 ∧ b0 ≤ 223) (h1 : 128 ≤ b1 ∧ b1 ≤ 191) :
    encodeOne (cp2 b0 b1) = [b0, b1] ∧ isScalar (cp2 b0 b1) = true := by
  obtain ⟨e1, e2⟩ := acc_split (a := b0 - 192) h1
  show encodeOne (acc (b0 - 192) b1) = _ ∧ isScalar (acc (b0 - 192) b1) = true
  rw [encodeOne_eq, isScalar_iff, if_neg (by omega), if_pos (by omega), e1, e2, Nat.add_sub_cancel' (by omega)]
  exact ⟨rfl, by omega⟩

theorem encodeOne_cp3 (b0 b1 b2 : Nat) (h0 : valid3 b0 b1) (h2 : 128 ≤ b2 ∧ b2 ≤ 191) :
    encodeOne (cp3 b0 b1 b2) = [b0, b1, b2] ∧ isScalar (cp3 b0 b1 b2) = true := by
  obtain ⟨hl, h1, ha⟩ := (valid3_iff b0 b1).1 h0
  obtain ⟨e1, e2⟩ := acc_split (a := b0 - 224) h1
  obtain ⟨f1, f2⟩ := acc_split (a := acc (b0 - 224) b1) h2
  rw [cp3_acc, encodeOne_eq, isScalar_iff, if_neg (by omega), if_neg (by omega), if_pos (by omega), f1, f2, e1, e2,
    Nat.add_sub_cancel' hl]
  exact ⟨rfl, by omega⟩

theorem encodeOne_cp4 (b0 b1 b2 b3 : Nat) (h0 : valid4 b0 b1) (h2 : 128 ≤ b2 ∧ b2 ≤ 191)
    (h3 : 128 ≤ b3 ∧ b3 ≤ 191) :
    encodeOne (cp4 b0 b1 b2 b3) = [b0, b1, b2, b3] ∧ isScalar (cp4 b0 b1 b2 b3) = true := by
  obtain ⟨hl, h1, ha⟩ := (valid4_iff b0 b1).1 h0
  obtain ⟨e1, e2⟩ := acc_split (a := b0 - 240) h1
  obtain ⟨f1, f2⟩ := acc_split (a := acc (b0 - 240) b1) h2
  obtain ⟨g1, g2⟩ := acc_split (a := acc (acc (b0 - 240) b1) b2) h3
  rw [cp4_acc, encodeOne_eq, isScalar_iff, if_neg (by omega), if_neg (by omega), if_neg (by omega), g1, g2, f1, f2,
    e1, e2, Nat.add_sub_cancel' hl]
  exact ⟨rfl, by omega⟩

theorem encode_decode_step (pre r bs' : Bytes) (cp : Nat) (cs : List Nat)
    (h : Option.map (fun x => cp :: x) (decode r) = some cs)
    (ih : ∀ cs, decode r = some cs → encode cs = r ∧ ∀ c ∈ cs, isScalar c = true)
    (henc : encodeOne cp = pre ∧ isScalar cp = true) (hb : bs' = pre ++ r) :
    encode cs = bs' ∧ ∀ c ∈ cs, isScalar c = true := by
  simp only [Option.map_eq_some_iff] at h
  obtain ⟨cs', hd, rfl⟩ := h
  obtain ⟨e, sc⟩ := ih cs' hd
  subst hb
  refine ⟨?_, ?_⟩
  · simp only [encode, List.flatMap_cons] at e ⊢; rw [henc.1, e]
  · intro c hc
    simp only [List.mem_cons] at hc
    rcases hc with rfl | hc
    · exact henc.2
    · exact sc c hc

theorem encode_decode (bs : Bytes) (cs : List Nat) (h : decode bs = some cs) :
    encode cs = bs ∧ ∀ c ∈ cs, isScalar c = true := by
  fun_induction decode bs generalizing cs
  all_goals try (simp at h; done)
  case case1 => simp at h; subst h; simp [encode]
  case case2 b0 r hb ih =>
    refine encode_decode_step [b0] r _ b0 cs h ih ⟨by unfold encodeOne; rw [if_pos hb], by simp only [isScalar, Bool.or_eq_true, Bool.and_eq_true, decide_eq_true_eq]; omega⟩ rfl
  case case3 b0 h1 h2 b1 r' h3 ih =>
    simp only [isTail, Bool.and_eq_true, decide_eq_true_eq] at h3
    exact encode_decode_step [b0, b1] r' _ _ cs h ih (encodeOne_cp2 b0 b1 h2 h3) rfl
  case case6 b1 b2 r' h1 _ _ ih =>
    simp only [isTail, Bool.and_eq_true, decide_eq_true_eq] at h1
    exact encode_decode_step [224, b1, b2] r' _ _ cs h ih
      (encodeOne_cp3 224 b1 b2 (Or.inl ⟨rfl, h1.1⟩) h1.2) rfl
  case case9 b0 _ _ _ h1 b1 b2 r' h2 ih =>
    simp only [isTail, Bool.and_eq_true, decide_eq_true_eq] at h2
    exact encode_decode_step [b0, b1, b2] r' _ _ cs h ih
      (encodeOne_cp3 b0 b1 b2 (Or.inr (Or.inl ⟨h1, h2.1⟩)) h2.2) rfl
  case case12 b1 b2 r' h1 _ _ _ _ ih =>
    simp only [isTail, Bool.and_eq_true, decide_eq_true_eq] at h1
    exact encode_decode_step [237, b1, b2] r' _ _ cs h ih
      (encodeOne_cp3 237 b1 b2 (Or.inr (Or.inr ⟨rfl, h1.1⟩)) h1.2) rfl
  case case15 b1 b2 b3 r' h1 _ _ _ _ _ ih =>
    simp only [isTail, Bool.and_eq_true, decide_eq_true_eq] at h1
    exact encode_decode_step [240, b1, b2, b3] r' _ _ cs h ih
      (encodeOne_cp4 240 b1 b2 b3 (Or.inl ⟨rfl, h1.1.1⟩) h1.1.2 h1.2) rfl
  case case18 b0 _ _ _ _ _ _ h1 b1 b2 b3 r' h2 ih =>
    simp only [isTail, Bool.and_eq_true, decide_eq_true_eq] at h2
    exact encode_decode_step [b0, b1, b2, b3] r' _ _ cs h ih
      (encodeOne_cp4 b0 b1 b2 b3 (Or.inr (Or.inl ⟨h1, h2.1.1⟩)) h2.1.2 h2.2) rfl
  case case21 b1 b2 b3 r' h1 _ _ _ _ _ _ _ ih =>
    simp only [isTail, Bool.and_eq_true, decide_eq_true_eq] at h1
    exact encode_decode_step [244, b1, b2, b3] r' _ _ cs h ih
      (encodeOne_cp4 244 b1 b2 b3 (Or.inr (Or.inr ⟨rfl, h1.1.1⟩)) h1.1.2 h1.2) rfl

end Lomond.Utf8
