/-
  The receive pipeline walked once.  Between `onOut` and `feedBody` the core only composes
  `feedYield`, `onClose`, the refused handshake and the `except` clauses of `feed`, updates bookkeeping
  fields (`InertF`) and raises the library's own errors (`Exn.boring`): `PipeX I X` asks for those six
  things, `pipe_*` give `SpecX I X`.  `pipe_wsFeed` and `pipe_recvStep` also take what `unwrapOuter`
  makes of an exception.  Instances: `Lift.Leaves`, `LeavesX`, `Yields`, `Monitor.raises_pipe` (Raises.lean).
-/
import Lomond.Proofs.Step
namespace Lomond.Core.Monitor
open Lomond Lomond.Core

theorem frameDone_boring {v p f x} (h : frameDone v p f = .error x) : x.boring = true := by
  unfold frameDone at h
  split at h
  · cases h; rfl
  · cases h

theorem boring_of_protocol_if {c : Prop} [Decidable c] {m : String} {b : Except Exn α} {x : Exn}
    (hb : b = .error x → x.boring = true) (h : (if c then .error (.protocol m) else b) = .error x) :
    x.boring = true := by
  by_cases hc : c
  · rw [if_pos hc] at h; cases h; rfl
  · rw [if_neg hc] at h; exact hb h

theorem validateFrame_boring {v c f len x} (h : validateFrame v c f len = .error x) : x.boring = true := by
  unfold validateFrame at h
  exact boring_of_protocol_if (boring_of_protocol_if (boring_of_protocol_if (boring_of_protocol_if
    (show (Except.ok () : Except Exn Unit) = .error x → x.boring = true from fun e => nomatch e)))) h

theorem gotMask_boring {v p b0 len key x} (h : gotMask v p b0 len key = .error x) : x.boring = true := by
  unfold gotMask at h
  simp only [] at h
  split at h
  · rename_i y hv; cases h; exact validateFrame_boring hv
  · split at h
    · cases h
    · exact frameDone_boring h

theorem gotLength_boring {v p b0 m len x} (h : gotLength v p b0 m len = .error x) : x.boring = true := by
  unfold gotLength at h
  split at h
  · cases h; rfl
  · split at h
    · cases h
    · exact gotMask_boring h

theorem resume_boring {v p bytes x} (h : resume v p bytes = .error x) : x.boring = true := by
  unfold resume at h
  simp only [] at h
  split at h
  · cases h
  · split at h
    · cases h
    · split at h
      · cases h
      · exact gotLength_boring h
  · exact gotLength_boring h
  · exact gotLength_boring h
  · exact gotMask_boring h
  · exact frameDone_boring h

theorem biteBytes_boring {v p chunk x} (h : biteBytes v p chunk = .error x) : x.boring = true := by
  rw [biteBytes_eq] at h
  split at h
  · cases h; rfl
  · split at h
    · cases h
    · exact resume_boring h

theorem closeFromPayload_boring {pl : Bytes} {x : Exn} (h : closeFromPayload pl = .error x) :
    x.boring = true := by
  unfold closeFromPayload at h
  repeat' (first | split at h | (simp only [] at h; split at h))
  all_goals first | (cases h; rfl) | cases h

theorem msgOfPayload_boring {op : Nat} {pl : Bytes} {x : Exn} (h : msgOfPayload op pl = .error x) :
    x.boring = true := by
  unfold msgOfPayload at h
  by_cases h1 : op = Gen.opBinary
  · rw [if_pos h1] at h; cases h
  rw [if_neg h1] at h
  by_cases h2 : op = Gen.opText
  · rw [if_pos h2] at h
    cases hd : Utf8.decode pl <;> rw [hd] at h <;> cases h
    rfl
  rw [if_neg h2] at h
  by_cases h3 : op = Gen.opClose
  · rw [if_pos h3] at h; exact closeFromPayload_boring h
  rw [if_neg h3] at h
  by_cases h4 : op = Gen.opPing
  · rw [if_pos h4] at h; cases h
  rw [if_neg h4] at h
  by_cases h5 : op = Gen.opPong
  · rw [if_pos h5] at h; cases h
  · rw [if_neg h5] at h; cases h

end Lomond.Core.Monitor

namespace Lomond.Core.Lift
open Lomond Lomond.Core

/-- `s'` differs from `s` at most in parser / stream / websocket-state bookkeeping
    (`p`, `frames`, `parsedResponse`, `compression`, `decompress`, `inflHist`, `inflOut`,
    `closing`, `closed`): nothing that concerns the wire, the clock, the timers or the
    application -/
structure Inert (s s' : Sys) : Prop where
  cfg : s'.cfg = s.cfg
  react : s'.react = s.react
  env : s'.env = s.env
  sockOpen : s'.sockOpen = s.sockOpen
  selOpen : s'.selOpen = s.selOpen
  ready : s'.ready = s.ready
  pollStart : s'.pollStart = s.pollStart
  nextPing : s'.nextPing = s.nextPing
  lastPong : s'.lastPong = s.lastPong
  startTime : s'.startTime = s.startTime
  now : s'.now = s.now
  sentCloseTime : s'.sentCloseTime = s.sentCloseTime
  keyCtr : s'.keyCtr = s.keyCtr
  writeCtr : s'.writeCtr = s.writeCtr
  hist : s'.hist = s.hist
  abandonedWith : s'.abandonedWith = s.abandonedWith
  trace : s'.trace = s.trace

theorem Inert.refl (s : Sys) : Inert s s := by constructor <;> rfl

end Lomond.Core.Lift

namespace Lomond.Core.LiftX
open Lomond Lomond.Core Lomond.Core.Lift

variable {I : Sys → Prop} {X X' : Exn → Sys → Prop}

/-- `s'` differs from `s` at most in parser / stream bookkeeping (`p`, `frames`, `parsedResponse`,
    `compression`, `decompress`, `inflHist`, `inflOut`) -/
structure InertF (s s' : Sys) : Prop where
  inert : Inert s s'
  closing : s'.closing = s.closing
  closed : s'.closed = s.closed

theorem inertF_setP (s : Sys) (p' : PState) : InertF s { s with p := p' } :=
  ⟨by constructor <;> rfl, rfl, rfl⟩

structure PipeX (I : Sys → Prop) (X : Exn → Sys → Prop) : Prop where
  inert : ∀ s s', InertF s s' → I s → I s'
  boring : ∀ x s, Exn.boring x = true → I s → X x s
  handler : ∀ x s, X x s → Sat I X (feedHandler x s : Res Unit)
  reject : ∀ reason, SpecX I X (do onDisconnect; feedYield true (.rejected reason); pure false : M Bool)
  onClose : ∀ c r, SpecX I X (onClose c r)
  feedYield : ∀ e, isFeedEvent e = true → (∀ c r, e ≠ .closing c r) → (∀ c r, e ≠ .closed c r) →
    SpecX I X (feedYield true e)

section Pipe
variable (T : PipeX I X)
include T

theorem pipe_modS {f : Sys → Sys} (h : ∀ s, InertF s (f s)) : SpecX I X (modS f) :=
  specx_modS (fun s hs => T.inert _ _ (h s) hs)

theorem pipe_boring (x : Exn) (hb : Exn.boring x = true) : SpecX I X (throwE x : M α) :=
  specx_throwE (fun s hs => T.boring x s hb hs)

theorem pipe_inflateMessage (j : Bytes) : SpecX I X (inflateMessage j) := by
  intro s hs; unfold inflateMessage; simp only []
  splits
  all_goals first
    | exact T.boring _ _ rfl hs
    | exact T.inert s _ ⟨by constructor <;> rfl, rfl, rfl⟩ hs

theorem pipe_buildMessage (fs : List Frame) : SpecX I X (buildMessage fs) := by
  unfold buildMessage
  split
  · exact pipe_boring T _ rfl
  · simp only []
    refine specx_getS_bind (fun s => ?_)
    refine specx_bind ?_ (fun _ => specx_liftE (fun x s h hs => T.boring x s (Monitor.msgOfPayload_boring h) hs))
    split
    · exact pipe_inflateMessage T _
    · exact specx_pure _

theorem pipe_onMessage (m : Msg) : SpecX I X (onMessage m) := by
  unfold onMessage
  split
  · exact T.onClose _ _
  · exact T.feedYield _ rfl (fun _ _ h => by cases h) (fun _ _ h => by cases h)
  · exact T.feedYield _ rfl (fun _ _ h => by cases h) (fun _ _ h => by cases h)
  · exact T.feedYield _ rfl (fun _ _ h => by cases h) (fun _ _ h => by cases h)
  · exact T.feedYield _ rfl (fun _ _ h => by cases h) (fun _ _ h => by cases h)
  · exact specx_pure _

theorem pipe_onDataFrame (f : Frame) : SpecX I X (onDataFrame f) := by
  unfold onDataFrame
  refine specx_getS_bind (fun s => ?_)
  split
  · exact pipe_boring T _ rfl
  · split
    · exact pipe_boring T _ rfl
    · refine specx_bind (pipe_modS T ?_) (fun _ => ?_)
      · intro s; exact ⟨by constructor <;> rfl, rfl, rfl⟩
      · split
        · refine specx_getS_bind (fun s => specx_bind (pipe_buildMessage T _) (fun m =>
            specx_bind (pipe_onMessage T m) (fun _ => pipe_modS T ?_)))
          intro s; exact ⟨by constructor <;> rfl, rfl, rfl⟩
        · exact specx_pure _

omit T in
theorem pipe_notClosed : SpecX I X notClosed := by
  intro s hs; unfold notClosed; exact hs

theorem pipe_onFrame (f : Frame) : SpecX I X (onFrame f) := by
  unfold onFrame
  split
  · exact specx_bind (pipe_buildMessage T _) (fun m => pipe_onMessage T m)
  · exact pipe_onDataFrame T _

theorem pipe_onOut (o : Out) : SpecX I X (onOut o) := by
  unfold onOut
  split
  · refine specx_getS_bind (fun s => ?_)
    split
    · refine specx_bind (pipe_modS T ?_) (fun _ => T.reject _)
      intro s; exact ⟨by constructor <;> rfl, rfl, rfl⟩
    · refine specx_bind (pipe_modS T ?_) (fun _ =>
        specx_bind (T.feedYield _ rfl (fun _ _ h => by cases h) (fun _ _ h => by cases h)) (fun _ =>
          specx_bind (pipe_modS T ?_) (fun _ => pipe_notClosed)))
      · intro s; exact ⟨by constructor <;> rfl, rfl, rfl⟩
      · intro s; exact ⟨by constructor <;> rfl, rfl, rfl⟩
  · exact specx_bind (pipe_onFrame T _) (fun _ => pipe_notClosed)

theorem pipe_feedLoop (data : Bytes) : SpecX I X (feedLoop data) :=
  specx_feedLoop (fun s _ x hs hb => T.boring x _ (Monitor.biteBytes_boring hb) (T.inert _ _ (inertF_setP s _) hs))
    (fun s _ p' _ hs _ => T.inert _ _ (inertF_setP s p') hs) (pipe_onOut T) data

theorem pipe_afterHeader (rest : Bytes) (out : Option Out) : SpecX I X (afterHeader rest out) := by
  unfold afterHeader
  split
  · refine specx_bind (pipe_onOut T _) (fun go => ?_)
    split
    · exact specx_bind (pipe_feedLoop T _) (fun _ => specx_pure _)
    · exact specx_pure _
  · exact specx_bind (pipe_feedLoop T _) (fun _ => specx_pure _)

theorem pipe_feedHeader (data : Bytes) : SpecX I X (feedHeader data) := by
  intro s hs; unfold feedHeader; simp only []
  split
  · split
    · exact T.boring _ _ rfl (T.inert _ _ (inertF_setP s _) hs)
    · exact T.inert _ _ (inertF_setP s _) hs
  · split
    · exact T.boring _ _ rfl (T.inert _ _ (inertF_setP s _) hs)
    · split
      · rename_i x hr
        exact T.boring _ _ (Monitor.resume_boring hr) (T.inert _ _ (inertF_setP s _) hs)
      · rename_i p' out hr
        exact pipe_afterHeader T _ _ _ (T.inert _ _ (inertF_setP s p') hs)

theorem pipe_feedBody (data : Bytes) : SpecX I X (feedBody data) := by
  intro s hs; unfold feedBody
  split
  · exact pipe_feedHeader T data s hs
  · have := pipe_feedLoop T data s hs
    split <;> (rename_i h; rw [h] at this; exact this)

/-- `X'` is what is known of an exception once `unwrapOuter` has passed it on -/
theorem pipe_wsFeed (hun : ∀ x s, X x s → Sat I X' (unwrapOuter x s : Res Unit)) (data : Bytes) :
    SpecX I X' (wsFeed data) := by
  intro s hs; unfold wsFeed
  split
  · exact hs
  · exact specx_tryC (Q := X) (specx_tryC (Q := X) (pipe_feedBody T data) T.handler) hun s hs

theorem pipe_recvStep (hun : ∀ x s, X x s → Sat I X' (unwrapOuter x s : Res Unit))
    (hb : ∀ x s, Exn.boring x = true → I s → X' x s) (o : RecvOutcome) : SpecX I X' (recvStep o) := by
  have heof : SpecX I X' onEof := by
    intro s hs; unfold onEof
    split
    · exact hb _ _ rfl hs
    · exact hs
  intro s hs; unfold recvStep
  split
  · exact heof s hs
  · split
    · exact hb _ _ rfl hs
    · exact hb _ _ rfl hs
    · exact heof s hs
    · rename_i bs
      split
      · exact heof s hs
      · have := pipe_wsFeed T hun bs s hs
        split <;> (rename_i h; rw [h] at this; exact this)

end Pipe

end Lomond.Core.LiftX
