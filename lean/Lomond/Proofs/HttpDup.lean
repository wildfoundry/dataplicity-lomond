/-
  C10, wire level: `Response.__init__` (`Http.parseLines`; its single steps are in `Proofs/Http.lean`) followed over
  every rendering of the generator `Spec.FField`: a field line plus any number of continuation lines, names repeated
  at will.  A continuation line adds `' ' + line.lstrip()`, a repeated name adds `','` and its text, the collected
  text is stripped once, so `Response.get(name)` is `strip (joinWith "," (texts of the fields called name))`
  (`get_render2`); the elements of a list-valued field written several times are those of its occurrences
  (`splitList_combined_multi`); the first `CR LF CR LF` of a rendered reply is at its end (`findSep_renderReply2`).
  `Spec.WireField` of `Model/Handshake.lean` is the special case `FField.ofWire`.  The generator
  is defined in `namespace Lomond.Spec` (specification side), the lemmas are in `Lomond.Http`.
-/
import Lomond.Proofs.Http
import Lomond.Proofs.FindSep

namespace Lomond.Spec
open Lomond

/-- one continuation line of a header field (RFC 7230 obs-fold): `CR LF`, the blanks `ws` (at least one),
    the text `body`, blanks `trail` -/
structure Cont where
  ws : Bytes
  body : Bytes
  trail : Bytes
  deriving Repr, DecidableEq

/-- one header field as a server may write it: the field line `name ":" pre body trail` followed by the
    continuation lines `conts` -/
structure FField where
  /-- canonical (lower-case) field name -/
  name : Bytes
  /-- which letters of the name are sent in upper case -/
  upper : List Bool
  /-- blanks between the colon and the text of the field line -/
  pre : Bytes
  /-- the text on the field line (may be empty: the value then starts on the first continuation line) -/
  body : Bytes
  /-- blanks at the end of the field line -/
  trail : Bytes
  conts : List Cont
  deriving Repr, DecidableEq

def Cont.line (c : Cont) : Bytes := c.ws ++ c.body ++ c.trail

/-- the lines of the field (without their `CR LF`) -/
def FField.lines (f : FField) : List Bytes :=
  (upcase f.upper f.name ++ [58] ++ f.pre ++ f.body ++ f.trail) :: f.conts.map Cont.line

/-- what the continuation lines add once every obs-fold (`CR LF` + blanks) is replaced by one SP -/
def contText (cs : List Cont) : Bytes := cs.flatMap (fun c => 32 :: (c.body ++ c.trail))

/-- RFC 7230 §3.2.4: the field content after the colon's blanks, every obs-fold replaced by one SP -/
def FField.unfolded (f : FField) : Bytes := f.body ++ f.trail ++ contText f.conts

/-- RFC 7230 field value: the unfolded content without the optional blanks (SP / HT) at both ends -/
def FField.value (f : FField) : Bytes := trimOWS f.unfolded

def textOk (b : Bytes) : Bool :=
  b.all (fun c => c < 128 && c != 13 && c != 10) &&
  (match b with | [] => true | c :: _ => isVChar c) &&
  (match b.reverse with | [] => true | c :: _ => isVChar c)

def Cont.ok (c : Cont) : Bool :=
  c.ws ≠ [] && c.ws.all isBlank && c.trail.all isBlank && c.body ≠ [] && textOk c.body

def FField.ok (f : FField) : Bool :=
  f.name ≠ [] && f.name.all isNameChar && f.pre.all isBlank && f.trail.all isBlank && textOk f.body &&
  f.conts.all Cont.ok

/-- `status-line CRLF *(line CRLF) CRLF` -/
def renderLines (statusLine : Bytes) (ls : List Bytes) : Bytes :=
  statusLine ++ [13, 10] ++ (ls.flatMap (· ++ [13, 10])) ++ [13, 10]

/-- `status-line CRLF *(field CRLF) CRLF` over the general generator -/
def renderReply2 (statusLine : Bytes) (fs : List FField) : Bytes :=
  renderLines statusLine (fs.flatMap FField.lines)

def fieldsNamed (fs : List FField) (n : Bytes) : List FField := fs.filter (fun f => f.name = n)

/-- the embedding of the one-fold generator of `Model/Handshake.lean` -/
def FField.ofWire (f : WireField) : FField :=
  match f.fold with
  | none => { name := f.name, upper := f.upper, pre := f.pre, body := f.value, trail := f.post, conts := [] }
  | some ws => { name := f.name, upper := f.upper, pre := f.pre, body := [], trail := [],
                 conts := [{ ws := ws, body := f.value, trail := f.post }] }

end Lomond.Spec

namespace Lomond.Http
open Lomond Lomond.Spec Lomond.Handshake

def lookup (hs : List (Str × Str)) (n : Str) : Option Str := (hs.find? (fun p => p.1 = n)).map (·.2)

theorem lookup_hdrAppend (hs : List (Str × Str)) (m v n : Str) :
    lookup (hdrAppend hs m v) n = if m = n then some ((lookup hs n).getD [] ++ v) else lookup hs n := by
  induction hs with
  | nil =>
    by_cases h : m = n <;> simp [hdrAppend, lookup, h]
  | cons p hs ih =>
    obtain ⟨a, b⟩ := p
    by_cases ham : a = m
    · subst ham
      by_cases han : a = n
      · subst han; simp [hdrAppend, lookup]
      · simp [hdrAppend, lookup, han]
    · by_cases han : a = n
      · subst han
        have : ¬ m = a := fun e => ham e.symm
        simp [hdrAppend, lookup, ham, this]
      · have e1 : lookup ((a, b) :: hdrAppend hs m v) n = lookup (hdrAppend hs m v) n := by
          simp [lookup, han]
        have e2 : lookup ((a, b) :: hs) n = lookup hs n := by simp [lookup, han]
        simp only [hdrAppend, ham, if_false]
        rw [e1, e2, ih]

theorem hdrHas_eq_lookup (hs : List (Str × Str)) (n : Str) : hdrHas hs n = (lookup hs n).isSome := by
  unfold hdrHas lookup
  induction hs with
  | nil => rfl
  | cons p hs ih => by_cases h : p.1 = n <;> simp [h, ih]

/-- what one header field does to the table: a `','` first if the name is there already, then its text -/
def tblAdd (hs : List (Str × Str)) (n r : Str) : List (Str × Str) :=
  hdrAppend (if hdrHas hs n then hdrAppend hs n [44] else hs) n r

theorem lookup_tblAdd (hs : List (Str × Str)) (m r n : Str) :
    lookup (tblAdd hs m r) n =
      if m = n then (match lookup hs n with | none => some r | some v => some (v ++ 44 :: r)) else lookup hs n := by
  unfold tblAdd
  by_cases hmn : m = n
  · subst hmn
    rw [hdrHas_eq_lookup]
    cases hl : lookup hs m with
    | none => simp [lookup_hdrAppend, hl]
    | some v => simp [lookup_hdrAppend, hl]
  · by_cases hh : hdrHas hs m = true
    · simp [hh, lookup_hdrAppend, hmn]
    · simp [hh, lookup_hdrAppend, hmn]

def tblOf (items : List (Str × Str)) (hs : List (Str × Str)) : List (Str × Str) :=
  items.foldl (fun T it => tblAdd T it.1 it.2) hs

def accum (start : Option Str) (rs : List Str) : Option Str :=
  rs.foldl (fun a r => match a with | none => some r | some v => some (v ++ 44 :: r)) start

theorem lookup_tblOf (items : List (Str × Str)) (hs : List (Str × Str)) (n : Str) :
    lookup (tblOf items hs) n = accum (lookup hs n) ((items.filter (fun it => it.1 = n)).map (·.2)) := by
  induction items generalizing hs with
  | nil => rfl
  | cons it items ih =>
    show lookup (tblOf items (tblAdd hs it.1 it.2)) n = _
    rw [ih, lookup_tblAdd]
    by_cases h : it.1 = n
    · simp only [h, if_true, List.filter_cons, decide_true, List.map_cons, accum, List.foldl_cons]
    · simp only [h, if_false, List.filter_cons, decide_false]
      rfl

theorem accum_some (v : Str) (rs : List Str) : accum (some v) rs = some (v ++ rs.flatMap (fun r => 44 :: r)) := by
  induction rs generalizing v with
  | nil => simp [accum]
  | cons r rs ih =>
    show accum (some (v ++ 44 :: r)) rs = _
    rw [ih]; simp

theorem joinWith_cons_flat (r : Str) (rs : List Str) : joinWith [44] (r :: rs) = r ++ rs.flatMap (fun x => 44 :: x) := by
  induction rs generalizing r with
  | nil => simp [joinWith]
  | cons x rs ih =>
    show r ++ [44] ++ joinWith [44] (x :: rs) = _
    rw [ih]; simp

theorem accum_none (rs : List Str) :
    accum none rs = (match rs with | [] => none | _ :: _ => some (joinWith [44] rs)) := by
  cases rs with
  | nil => rfl
  | cons r rs =>
    show accum (some r) rs = _
    rw [accum_some, joinWith_cons_flat]

/-- a visible character at both ends (vacuous for the empty text) -/
def EndsV (v : Bytes) : Prop :=
  (∀ c r, v = c :: r → isVChar c = true) ∧ (∀ c t, v.reverse = c :: t → isVChar c = true)

structure TextOk (b : Bytes) : Prop where
  chars : ∀ c ∈ b, c < 128 ∧ c ≠ 13 ∧ c ≠ 10
  ends : EndsV b

structure COk (c : Cont) : Prop where
  ws_ne : c.ws ≠ []
  ws_blank : ∀ x ∈ c.ws, isBlank x = true
  trail_blank : ∀ x ∈ c.trail, isBlank x = true
  body_ne : c.body ≠ []
  body : TextOk c.body

structure FOk (f : FField) : Prop where
  name_ne : f.name ≠ []
  name_chars : ∀ c ∈ f.name, isNameChar c = true
  pre_blank : ∀ c ∈ f.pre, isBlank c = true
  trail_blank : ∀ c ∈ f.trail, isBlank c = true
  body : TextOk f.body
  conts : ∀ c ∈ f.conts, COk c

theorem textOk_of_ok (b : Bytes) (h : textOk b = true) : TextOk b := by
  unfold textOk at h
  simp only [Bool.and_eq_true, List.all_eq_true, decide_eq_true_eq, bne_iff_ne, ne_eq] at h
  obtain ⟨⟨h1, h2⟩, h3⟩ := h
  refine ⟨fun c hc => ⟨(h1 c hc).1.1, (h1 c hc).1.2, (h1 c hc).2⟩, ?_, ?_⟩
  · intro c r e; rw [e] at h2; exact h2
  · intro c t e; rw [e] at h3; exact h3

theorem cOk_of_ok (c : Cont) (h : c.ok = true) : COk c := by
  unfold Cont.ok at h
  simp only [Bool.and_eq_true, decide_eq_true_eq, List.all_eq_true] at h
  obtain ⟨⟨⟨⟨h1, h2⟩, h3⟩, h4⟩, h5⟩ := h
  exact ⟨h1, h2, h3, h4, textOk_of_ok _ h5⟩

theorem fOk_of_ok (f : FField) (h : f.ok = true) : FOk f := by
  unfold FField.ok at h
  simp only [Bool.and_eq_true, decide_eq_true_eq, List.all_eq_true] at h
  obtain ⟨⟨⟨⟨⟨h1, h2⟩, h3⟩, h4⟩, h5⟩, h6⟩ := h
  exact ⟨h1, h2, h3, h4, textOk_of_ok _ h5, fun c hc => cOk_of_ok c (h6 c hc)⟩

theorem endsV_nil : EndsV [] := ⟨(by intro c r e; cases e), (by intro c t e; simp at e)⟩

theorem endsV_join (a m b : Bytes) (ha : EndsV a) (hb : EndsV b) (hane : a ≠ []) (hbne : b ≠ []) :
    EndsV (a ++ (m ++ b)) := by
  refine ⟨?_, ?_⟩
  · intro c r e
    cases a with
    | nil => exact absurd rfl hane
    | cons x a' =>
      simp only [List.cons_append, List.cons.injEq] at e
      rw [← e.1]; exact ha.1 x a' rfl
  · intro c t e
    cases hr : b.reverse with
    | nil => simp at hr; exact absurd hr hbne
    | cons y t' =>
      simp only [List.reverse_append, hr, List.cons_append, List.cons.injEq] at e
      rw [← e.1]; exact hb.2 y t' hr

theorem contText_cons (c : Cont) (r : List Cont) :
    contText (c :: r) = 32 :: (c.body ++ c.trail ++ contText r) := rfl

/-- what `Response.__init__` collects for one field before the final `strip()` -/
def _root_.Lomond.Spec.FField.raw (f : FField) : Str := f.pre ++ f.unfolded

theorem tail_decomp (cs : List Cont) (hcs : ∀ c ∈ cs, COk c) (b t : Bytes) (hb : b ≠ []) (hbe : EndsV b)
    (ht : ∀ x ∈ t, isBlank x = true) :
    ∃ V B, b ++ t ++ contText cs = V ++ B ∧ (∀ x ∈ B, isBlank x = true) ∧ V ≠ [] ∧ EndsV V := by
  induction cs generalizing b t with
  | nil => exact ⟨b, t, by simp [contText], ht, hb, hbe⟩
  | cons c r ih =>
    have hc := hcs c (by simp)
    obtain ⟨V', B', e, hB', hV', hE'⟩ := ih (fun x hx => hcs x (by simp [hx])) c.body c.trail hc.body_ne hc.body.ends hc.trail_blank
    refine ⟨b ++ ((t ++ [32]) ++ V'), B', ?_, hB', by simp [hb], endsV_join b (t ++ [32]) V' hbe hE' hb hV'⟩
    rw [contText_cons, e]; simp

theorem unfolded_decomp (f : FField) (hf : FOk f) :
    ∃ A V B, f.unfolded = A ++ V ++ B ∧ (∀ x ∈ A, isBlank x = true) ∧ (∀ x ∈ B, isBlank x = true) ∧ EndsV V := by
  unfold FField.unfolded
  by_cases hb : f.body = []
  · rw [hb]
    cases hcs : f.conts with
    | nil => exact ⟨f.trail, [], [], by simp [contText], hf.trail_blank, by simp, endsV_nil⟩
    | cons c r =>
      have hc := hf.conts c (by rw [hcs]; simp)
      obtain ⟨V, B, e, hB, _, hE⟩ := tail_decomp r (fun x hx => hf.conts x (by rw [hcs]; simp [hx])) c.body c.trail
        hc.body_ne hc.body.ends hc.trail_blank
      refine ⟨f.trail ++ [32], V, B, ?_, ?_, hB, hE⟩
      · rw [contText_cons, e]; simp
      · intro x hx
        simp only [List.mem_append, List.mem_singleton] at hx
        rcases hx with hx | hx
        · exact hf.trail_blank x hx
        · subst hx; decide
  · obtain ⟨V, B, e, hB, _, hE⟩ := tail_decomp f.conts hf.conts f.body f.trail hb hf.body.ends hf.trail_blank
    exact ⟨[], V, B, by rw [e]; simp, by simp, hB, hE⟩

theorem not_ows_of_vchar (c : Nat) (h : isVChar c = true) : isOWS c = false := by
  have := isVChar_spec c h
  simp only [isOWS, Bool.or_eq_false_iff, beq_eq_false_iff_ne, ne_eq]; omega

/-- **the value of a field written once**: Python's `strip()` of the collected text is the RFC 7230 value
    (obs-folds replaced by SP, blanks trimmed) -/
theorem strip_raw2 (f : FField) (hf : FOk f) : strip f.raw = f.value := by
  obtain ⟨A, V, B, e, hA, hB, hE⟩ := unfolded_decomp f hf
  have h1 : strip (f.pre ++ A ++ V ++ B) = V :=
    stripBy_pad isStrSpace (f.pre ++ A) V B
      (by intro c hc; simp only [List.mem_append] at hc
          rcases hc with hc | hc
          · exact strSpace_of_blank c (hf.pre_blank c hc)
          · exact strSpace_of_blank c (hA c hc))
      (fun c hc => strSpace_of_blank c (hB c hc))
      (fun c r ev => not_strSpace_of_vchar c (isVChar_spec c (hE.1 c r ev)))
      (fun c t ev => not_strSpace_of_vchar c (isVChar_spec c (hE.2 c t ev)))
  have h2 : stripBy isOWS (A ++ V ++ B) = V :=
    stripBy_pad isOWS A V B hA hB
      (fun c r ev => not_ows_of_vchar c (hE.1 c r ev)) (fun c t ev => not_ows_of_vchar c (hE.2 c t ev))
  unfold FField.raw FField.value
  rw [trimOWS_eq_stripBy, e, h2]
  simpa using h1

theorem value_nofold (f : FField) (hf : FOk f) (hc : f.conts = []) : f.value = f.body := by
  unfold FField.value FField.unfolded
  rw [hc, trimOWS_eq_stripBy]
  have := stripBy_pad isOWS [] f.body f.trail (by simp) hf.trail_blank
    (fun c r ev => not_ows_of_vchar c (hf.body.ends.1 c r ev)) (fun c t ev => not_ows_of_vchar c (hf.body.ends.2 c t ev))
  simpa [contText] using this

theorem blank_chars (b : Bytes) (hb : ∀ c ∈ b, isBlank c = true) : ∀ c ∈ b, c < 128 ∧ c ≠ 13 := by
  intro c hc; rcases isBlank_spec c (hb c hc) with h | h <;> omega

/-- every character of a written line is ASCII (so `decode('ascii', 'replace')` leaves it alone) and is not CR (so
    `split(b'\r\n')` cuts between the lines only) -/
theorem cont_chars (c : Cont) (hc : COk c) : ∀ x ∈ c.line, x < 128 ∧ x ≠ 13 := by
  intro x hx
  simp only [Cont.line, List.append_assoc, List.mem_append] at hx
  rcases hx with hx | hx | hx
  · exact blank_chars _ hc.ws_blank x hx
  · exact ⟨(hc.body.chars x hx).1, (hc.body.chars x hx).2.1⟩
  · exact blank_chars _ hc.trail_blank x hx

theorem flines_chars (f : FField) (hf : FOk f) : ∀ l ∈ f.lines, ∀ c ∈ l, c < 128 ∧ c ≠ 13 := by
  have hup := upcase_mem f.upper f.name hf.name_chars
  intro l hl c hc
  simp only [FField.lines, List.mem_cons, List.mem_map] at hl
  rcases hl with hl | ⟨k, hk, hl⟩
  · subst hl
    simp only [List.append_assoc, List.mem_append, List.mem_singleton] at hc
    rcases hc with hc | hc | hc | hc | hc
    · have := hup c hc; unfold isWireNameChar at this; omega
    · omega
    · exact blank_chars _ hf.pre_blank c hc
    · exact ⟨(hf.body.chars c hc).1, (hf.body.chars c hc).2.1⟩
    · exact blank_chars _ hf.trail_blank c hc
  · subst hl; exact cont_chars k (hf.conts k hk) c hc

theorem lstrip_cont (c : Cont) (hc : COk c) : lstrip (c.ws ++ (c.body ++ c.trail)) = c.body ++ c.trail := by
  cases hb : c.body with
  | nil => exact absurd hb hc.body_ne
  | cons v0 vt =>
    have hv0 := isVChar_spec v0 (hc.body.ends.1 v0 vt hb)
    have h1 := lstripBy_append_of_all isStrSpace c.ws (v0 :: vt ++ c.trail)
      (fun x hx => strSpace_of_blank x (hc.ws_blank x hx))
    have h2 := lstripBy_of_head isStrSpace v0 (vt ++ c.trail) (not_strSpace_of_vchar v0 hv0)
    simp only [lstrip]
    rw [h1]; exact h2

theorem parseLines_conts (cs : List Cont) (hcs : ∀ c ∈ cs, COk c) (rest : List Bytes) (name : Str) (hn : name ≠ [])
    (T : List (Str × Str)) (v0 : Str) :
    parseLines (cs.map Cont.line ++ rest) (some name) (hdrAppend T name v0) =
      parseLines rest (some name) (hdrAppend T name (v0 ++ contText cs)) := by
  induction cs generalizing v0 with
  | nil => simp [contText]
  | cons c r ih =>
    have hc := hcs c (by simp)
    cases hws : c.ws with
    | nil => exact absurd hws hc.ws_ne
    | cons w0 wt =>
    have hw0 : isBlank w0 = true := hc.ws_blank w0 (by rw [hws]; simp)
    have hascii : asciiReplace c.line = w0 :: (wt ++ (c.body ++ c.trail)) := by
      rw [asciiReplace_id]
      · simp [Cont.line, hws]
      · exact fun x hx => (cont_chars c hc x hx).1
    have hne : strip (w0 :: (wt ++ (c.body ++ c.trail))) ≠ [] := by
      cases hb : c.body with
      | nil => exact absurd hb hc.body_ne
      | cons v0' vt =>
        have hv0 := isVChar_spec v0' (hc.body.ends.1 v0' vt hb)
        have := stripBy_ne_nil isStrSpace (w0 :: wt) v0' (vt ++ c.trail) (not_strSpace_of_vchar v0' hv0)
        simpa [strip] using this
    have hl : lstrip (w0 :: (wt ++ (c.body ++ c.trail))) = c.body ++ c.trail := by
      have := lstrip_cont c hc
      rw [hws] at this; simpa using this
    simp only [List.map_cons, List.cons_append]
    rw [parseLines_cont c.line _ name _ w0 _ hascii hne (lws_of_blank w0 hw0) hn, hl, hdrAppend_append,
      ih (fun x hx => hcs x (by simp [hx])), contText_cons]
    simp

theorem parseLines_ffield (f : FField) (hf : FOk f) (rest : List Bytes) (cur : Option Str)
    (hs : List (Str × Str)) :
    parseLines (f.lines ++ rest) cur hs = parseLines rest (some f.name) (tblAdd hs f.name f.raw) := by
  have hup := upcase_mem f.upper f.name hf.name_chars
  have hupne := upcase_ne_nil f.upper f.name hf.name_ne
  cases hu : upcase f.upper f.name with
  | nil => exact absurd hu hupne
  | cons u0 ut =>
  have hu0 : isWireNameChar u0 := hup u0 (by rw [hu]; simp)
  have hlow : lower (u0 :: ut) = f.name := by
    rw [← hu]; exact lower_upcase f.upper f.name (fun c hc => (isNameChar_spec c (hf.name_chars c hc)).2.2.2)
  have hnocolon : ∀ c ∈ u0 :: ut, c ≠ 58 := by
    intro c hc; rw [← hu] at hc; exact (hup c hc).2.2
  have hlines : f.lines = ((u0 :: ut) ++ [58] ++ f.pre ++ f.body ++ f.trail) :: f.conts.map Cont.line := by
    simp [FField.lines, hu]
  unfold isWireNameChar at hu0
  have hascii : asciiReplace ((u0 :: ut) ++ [58] ++ f.pre ++ f.body ++ f.trail) =
      u0 :: (ut ++ 58 :: (f.pre ++ f.body ++ f.trail)) := by
    rw [asciiReplace_id]
    · simp
    · exact fun c hc => (flines_chars f hf _ (hlines ▸ List.mem_cons_self) c hc).1
  have hpart : partition 58 (u0 :: (ut ++ 58 :: (f.pre ++ f.body ++ f.trail))) =
      (u0 :: ut, true, f.pre ++ f.body ++ f.trail) := by
    have := partition_colon (u0 :: ut) (f.pre ++ f.body ++ f.trail) 58 hnocolon
    simpa using this
  rw [hlines, List.cons_append,
    parseLines_head _ _ cur hs u0 _ hascii
      (by have := stripBy_ne_nil isStrSpace [] u0 (ut ++ 58 :: (f.pre ++ f.body ++ f.trail)) (not_strSpace_of_vchar u0 (by omega))
          simpa [strip] using this)
      (not_lws_of_vchar u0 (by omega))]
  simp only [hpart, hlow, strip_name f.name hf.name_chars]
  rw [parseLines_conts f.conts hf.conts rest f.name hf.name_ne]
  unfold tblAdd FField.raw FField.unfolded
  simp only [List.append_assoc]

def items (fs : List FField) : List (Str × Str) := fs.map (fun f => (f.name, f.raw))

theorem parseLines_ffields (fs : List FField) (hok : ∀ f ∈ fs, FOk f) (rest : List Bytes)
    (cur : Option Str) (hs : List (Str × Str)) :
    ∃ cur', parseLines (fs.flatMap FField.lines ++ rest) cur hs = parseLines rest cur' (tblOf (items fs) hs) := by
  induction fs generalizing cur hs with
  | nil => exact ⟨cur, rfl⟩
  | cons f fs ih =>
    simp only [List.flatMap_cons, List.append_assoc]
    rw [parseLines_ffield f (hok f (by simp)) _ cur hs]
    obtain ⟨cur', h⟩ := ih (fun g hg => hok g (by simp [hg])) (some f.name) (tblAdd hs f.name f.raw)
    exact ⟨cur', by rw [h]; rfl⟩

theorem splitCRLF_renderLines_head (sl : Bytes) (ls : List Bytes) (hsl : ∀ c ∈ sl, c ≠ 13) :
    splitCRLF (renderLines sl ls) = sl :: splitCRLF (ls.flatMap (· ++ [13, 10]) ++ [13, 10]) := by
  have := splitCRLF_line sl ((ls.flatMap (· ++ [13, 10])) ++ [13, 10]) hsl
  simpa [renderLines, List.append_assoc] using this

theorem splitCRLF_renderLines (sl : Bytes) (ls : List Bytes) (hsl : ∀ c ∈ sl, c ≠ 13)
    (hls : ∀ l ∈ ls, ∀ c ∈ l, c ≠ 13) : splitCRLF (renderLines sl ls) = sl :: (ls ++ [[], []]) := by
  rw [splitCRLF_renderLines_head sl ls hsl, splitCRLF_lines ls hls]

theorem renderReply_eq_lines (sl : Bytes) (fs : List WireField) :
    renderReply sl fs = renderLines sl (fs.flatMap WireField.lines) := rfl

theorem headers_render2 (sl : Bytes) (fs : List FField) (hsl : ∀ c ∈ sl, c ≠ 13) (hok : ∀ f ∈ fs, FOk f) :
    (parseResponse (renderReply2 sl fs)).headers = (tblOf (items fs) []).map (fun p => (p.1, strip p.2)) := by
  have hsplit := splitCRLF_renderLines sl (fs.flatMap FField.lines) hsl (fun l hl =>
    let ⟨f, hf, hl⟩ := List.mem_flatMap.mp hl
    fun c hc => (flines_chars f (hok f hf) l hl c hc).2)
  unfold parseResponse renderReply2
  simp only [hsplit, List.tail_cons]
  obtain ⟨cur', h⟩ := parseLines_ffields fs hok [[], []] none []
  rw [h, parseLines_tail]

theorem find_map_strip (T : List (Str × Str)) (n : Str) :
    ((T.map (fun p => (p.1, strip p.2))).find? (fun p => p.1 = n)).map (·.2) = (lookup T n).map strip := by
  unfold lookup
  rw [List.find?_map]
  simp only [Option.map_map]
  rfl

/-- the combined text `Response.get` returns for a name: the texts of all fields with that name, in wire
    order, joined with `','`, stripped once -/
def combined (fs : List FField) (n : Bytes) : Option Str :=
  match fieldsNamed fs n with
  | [] => none
  | g :: gs => some (strip (joinWith [44] ((g :: gs).map FField.raw)))

theorem filter_items (fs : List FField) (n : Str) :
    ((items fs).filter (fun it => it.1 = n)).map (·.2) = (fieldsNamed fs n).map FField.raw := by
  simp [items, fieldsNamed, List.filter_map, Function.comp_def]

theorem get_render2 (sl : Bytes) (fs : List FField) (hsl : ∀ c ∈ sl, c ≠ 13) (hok : ∀ f ∈ fs, FOk f) (n : Str) :
    (parseResponse (renderReply2 sl fs)).get n = combined fs (lower n) := by
  unfold Response.get
  rw [headers_render2 sl fs hsl hok, find_map_strip, lookup_tblOf, filter_items]
  have e0 : lookup [] (lower n) = none := rfl
  rw [e0, accum_none]
  unfold combined
  cases fieldsNamed fs (lower n) with
  | nil => rfl
  | cons g gs => rfl

theorem combined_single (fs : List FField) (hok : ∀ f ∈ fs, FOk f) (n : Bytes) (f : FField)
    (h : fieldsNamed fs n = [f]) : combined fs n = some f.value := by
  have hf : f ∈ fs := by
    have : f ∈ fieldsNamed fs n := by rw [h]; simp
    exact (List.mem_filter.mp this).1
  unfold combined
  rw [h]
  simp only [List.map_cons, List.map_nil, joinWith]
  rw [strip_raw2 f (hok f hf)]

theorem combined_comma (fs : List FField) (n : Bytes) (g1 g2 : FField) (gs : List FField)
    (h : fieldsNamed fs n = g1 :: g2 :: gs) : ∃ v, combined fs n = some v ∧ 44 ∈ v := by
  unfold combined
  rw [h]
  refine ⟨_, rfl, ?_⟩
  exact mem_stripBy isStrSpace _ 44 (by simp [joinWith]) (by decide)

theorem combined_no_comma (fs : List FField) (hok : ∀ f ∈ fs, FOk f) (n v : Bytes) (h : combined fs n = some v)
    (hc : 44 ∉ v) : ∃ f, fieldsNamed fs n = [f] ∧ f.value = v := by
  cases hf : fieldsNamed fs n with
  | nil => simp [combined, hf] at h
  | cons f r =>
    cases r with
    | nil =>
      rw [combined_single fs hok n f hf] at h
      exact ⟨f, rfl, Option.some.inj h⟩
    | cons g2 gs =>
      obtain ⟨w, hw, hcw⟩ := combined_comma fs n f g2 gs hf
      rw [hw] at h
      exact absurd (Option.some.inj h ▸ hcw) hc

theorem statusLine_no_cr (ver reason : Bytes) (a b c : Nat)
    (hvs : ∀ x ∈ ver, isBytesSpace x = false) (hr : ∀ x ∈ reason, x ≠ 13)
    (ha : isDigit a = true) (hb : isDigit b = true) (hc : isDigit c = true) :
    ∀ x ∈ statusLine ver [a, b, c] reason, x ≠ 13 := by
  simp only [isDigit, Bool.and_eq_true, decide_eq_true_eq] at ha hb hc
  intro x hx e
  subst e
  have h1 : (13 : Nat) ∉ ver := fun h => by have := hvs 13 h; revert this; decide
  have h2 : (13 : Nat) ∉ reason := fun h => hr 13 h rfl
  simp only [statusLine, List.append_assoc, List.mem_append, List.mem_cons, List.not_mem_nil, or_false] at hx
  rcases hx with h | h | h | h | h
  all_goals first | exact h1 h | exact h2 h | omega

theorem statusCode_renderLines (ver reason : Bytes) (a b c : Nat) (ls : List Bytes)
    (hv : ver ≠ []) (hvs : ∀ x ∈ ver, isBytesSpace x = false) (hr : ∀ x ∈ reason, x ≠ 13)
    (ha : isDigit a = true) (hb : isDigit b = true) (hc : isDigit c = true) :
    (parseResponse (renderLines (statusLine ver [a, b, c] reason) ls)).statusCode = pyInt isBytesSpace [a, b, c] := by
  have hsl := statusLine_no_cr ver reason a b c hvs hr ha hb hc
  simp only [isDigit, Bool.and_eq_true, decide_eq_true_eq] at ha hb hc
  have hsplit : (splitCRLF (renderLines (statusLine ver [a, b, c] reason) ls)).headD [] = statusLine ver [a, b, c] reason := by
    rw [splitCRLF_renderLines_head _ ls hsl]
    rfl
  unfold parseResponse
  simp only [hsplit]
  rw [splitNone2_status ver [a, b, c] reason hv hvs (by simp)
    (by intro x hx; simp only [List.mem_cons, List.not_mem_nil, or_false] at hx
        simp only [isBytesSpace, Bool.or_eq_false_iff, Bool.and_eq_false_iff, decide_eq_false_iff_not, beq_eq_false_iff_ne]
        omega)]
  have : ([a, b, c].all (· < 128)) = true := by simp; omega
  simp [this]

theorem ofWire_lines (f : WireField) : (FField.ofWire f).lines = f.lines := by
  unfold FField.ofWire WireField.lines FField.lines
  cases f.fold <;> simp [Cont.line]

theorem ofWire_name (f : WireField) : (FField.ofWire f).name = f.name := by
  unfold FField.ofWire; cases f.fold <;> rfl

theorem renderReply2_ofWire (sl : Bytes) (fs : List WireField) :
    renderReply2 sl (fs.map FField.ofWire) = renderReply sl fs := by
  unfold renderReply2
  rw [renderReply_eq_lines]
  congr 1
  induction fs with
  | nil => rfl
  | cons f fs ih => simp only [List.map_cons, List.flatMap_cons, ofWire_lines, ih]

theorem ofWire_ok (f : WireField) (hf : FieldOk f) : FOk (FField.ofWire f) := by
  have hvt : TextOk f.value := ⟨hf.value_chars, hf.value_head, hf.value_last⟩
  unfold FField.ofWire
  cases hfold : f.fold with
  | none => exact ⟨hf.name_ne, hf.name_chars, hf.pre_blank, hf.post_blank, hvt, by simp⟩
  | some ws =>
    obtain ⟨h1, h2, h3⟩ := hf.fold_ok ws hfold
    refine ⟨hf.name_ne, hf.name_chars, hf.pre_blank, by simp, ⟨by simp, endsV_nil⟩, ?_⟩
    intro c hc
    simp only [List.mem_singleton] at hc
    subst hc
    exact ⟨h1, h2, hf.post_blank, h3, hvt⟩

theorem ofWire_value (f : WireField) (hf : FieldOk f) : (FField.ofWire f).value = f.value := by
  have hpost : ∀ c ∈ f.post, isOWS c = true := hf.post_blank
  have hh : ∀ c r, f.value = c :: r → isOWS c = false := fun c r e => not_ows_of_vchar c (hf.value_head c r e)
  have hl : ∀ c t, f.value.reverse = c :: t → isOWS c = false := fun c t e => not_ows_of_vchar c (hf.value_last c t e)
  unfold FField.ofWire FField.value FField.unfolded
  rw [trimOWS_eq_stripBy]
  cases f.fold with
  | none => simpa [contText] using stripBy_pad isOWS [] f.value f.post (by simp) hpost hh hl
  | some ws => simpa [contText] using stripBy_pad isOWS [32] f.value f.post (by simp [isOWS]) hpost hh hl

theorem tblOf_nodup (its hs : List (Str × Str)) (hnd : (its.map (·.1)).Nodup) (hnew : ∀ it ∈ its, it.1 ∉ names hs) :
    tblOf its hs = hs ++ its := by
  induction its generalizing hs with
  | nil => simp [tblOf]
  | cons it its ih =>
    rw [List.map_cons, List.nodup_cons] at hnd
    have h0 := hnew it (by simp)
    have hadd : tblAdd hs it.1 it.2 = hs ++ [it] := by
      unfold tblAdd
      rw [hdrHas_false hs it.1 h0]
      exact hdrAppend_new hs it.1 it.2 h0
    show tblOf its (tblAdd hs it.1 it.2) = _
    rw [hadd, ih _ hnd.2, List.append_assoc]
    · rfl
    · intro x hx
      simp only [names, List.map_append, List.map_cons, List.map_nil, List.mem_append, List.mem_singleton, not_or]
      exact ⟨hnew x (by simp [hx]), fun e => hnd.1 (e ▸ List.mem_map_of_mem hx)⟩

theorem headers_render (sl : Bytes) (fs : List WireField) (hsl : ∀ c ∈ sl, c ≠ 13)
    (hok : ∀ f ∈ fs, FieldOk f) (hnd : (fs.map (·.name)).Nodup) :
    (parseResponse (renderReply sl fs)).headers = fs.map (fun f => (f.name, f.value)) := by
  have hok2 : ∀ g ∈ fs.map FField.ofWire, FOk g := by
    intro g hg
    obtain ⟨f, hf, rfl⟩ := List.mem_map.mp hg
    exact ofWire_ok f (hok f hf)
  have hnames : (items (fs.map FField.ofWire)).map (·.1) = fs.map (·.name) := by
    simp only [items, List.map_map]
    exact List.map_congr_left fun f _ => ofWire_name f
  rw [← renderReply2_ofWire, headers_render2 sl _ hsl hok2,
    tblOf_nodup _ [] (hnames ▸ hnd) (fun _ _ => List.not_mem_nil), List.nil_append]
  simp only [items, List.map_map]
  apply List.map_congr_left
  intro f hf
  simp only [Function.comp, ofWire_name, strip_raw2 _ (ofWire_ok f (hok f hf)), ofWire_value f (hok f hf)]

theorem statusCode_render (ver reason : Bytes) (a b c : Nat) (fs : List WireField)
    (hv : ver ≠ []) (hvs : ∀ x ∈ ver, isBytesSpace x = false) (hr : ∀ x ∈ reason, x ≠ 13)
    (ha : isDigit a = true) (hb : isDigit b = true) (hc : isDigit c = true) :
    (parseResponse (renderReply (statusLine ver [a, b, c] reason) fs)).statusCode = pyInt isBytesSpace [a, b, c] :=
  statusCode_renderLines ver reason a b c (fs.flatMap WireField.lines) hv hvs hr ha hb hc

theorem acceptFor_no_comma (key : Bytes) : 44 ∉ acceptFor key := b64encode_no_comma _

open Lomond.Core in
theorem findSep_not_prefix (sep : Bytes) (b : Nat) (r : Bytes) (h : sep.isPrefixOf (b :: r) = false) :
    findSep sep (b :: r) = (findSep sep r).map (· + 1) := by
  show (if sep.isPrefixOf (b :: r) then some 0 else (findSep sep r).map (· + 1)) = _
  rw [h]; rfl

open Lomond.Core in
theorem findSep_skip (x : Nat) (xs : Bytes) (hx : x ≠ 13) :
    findSep [13, 10, 13, 10] (x :: xs) = (findSep [13, 10, 13, 10] xs).map (· + 1) := by
  apply findSep_not_prefix
  simp only [List.isPrefixOf, Bool.and_eq_false_iff, beq_eq_false_iff_ne, ne_eq]
  exact Or.inl (fun e => hx e.symm)

open Lomond.Core in
theorem findSep_line (l rest : Bytes) (hl : ∀ c ∈ l, c ≠ 13) :
    findSep [13, 10, 13, 10] (l ++ rest) = (findSep [13, 10, 13, 10] rest).map (· + l.length) := by
  induction l with
  | nil => simp
  | cons x l ih =>
    rw [List.cons_append, findSep_skip x _ (hl x (by simp)), ih (fun c hc => hl c (by simp [hc]))]
    cases findSep [13, 10, 13, 10] rest with
    | none => rfl
    | some j => rfl

open Lomond.Core in
theorem findSep_crlf_then (x : Nat) (xs : Bytes) (hx : x ≠ 13) :
    findSep [13, 10, 13, 10] (13 :: 10 :: x :: xs) = (findSep [13, 10, 13, 10] (x :: xs)).map (· + 2) := by
  have h1 : List.isPrefixOf [13, 10, 13, 10] (13 :: 10 :: x :: xs) = false := by
    simp only [List.isPrefixOf, beq_self_eq_true, Bool.true_and, Bool.and_eq_false_iff, beq_eq_false_iff_ne, ne_eq]
    exact Or.inl (fun e => hx e.symm)
  rw [findSep_not_prefix _ _ _ h1, findSep_skip 10 (x :: xs) (by decide)]
  cases findSep [13, 10, 13, 10] (x :: xs) <;> simp

open Lomond.Core in
theorem findSep_lines (ls : List Bytes) (hne : ∀ l ∈ ls, l ≠ []) (hcr : ∀ l ∈ ls, ∀ c ∈ l, c ≠ 13)
    (l : Bytes) (hl : ∀ c ∈ l, c ≠ 13) :
    findSep [13, 10, 13, 10] (l ++ 13 :: 10 :: (ls.flatMap (· ++ [13, 10]) ++ [13, 10])) =
      some (l.length + (ls.flatMap (· ++ [13, 10])).length) := by
  induction ls generalizing l with
  | nil =>
    rw [findSep_line l _ hl]
    simp [findSep, List.isPrefixOf]
  | cons l' ls ih =>
    cases hl' : l' with
    | nil => exact absurd hl' (hne l' (by simp))
    | cons x l'' =>
      have hx : x ≠ 13 := hcr l' (by simp) x (by rw [hl']; simp)
      have hcr' : ∀ c ∈ x :: l'', c ≠ 13 := by rw [← hl']; exact hcr l' (by simp)
      have ih' := ih (fun m hm => hne m (by simp [hm])) (fun m hm => hcr m (by simp [hm])) (x :: l'') hcr'
      rw [findSep_line l _ hl]
      simp only [List.flatMap_cons, List.append_assoc, List.cons_append, List.nil_append]
      rw [findSep_crlf_then x _ hx]
      simp only [List.cons_append] at ih'
      rw [ih']
      simp only [Option.map_some, List.length_append, List.length_cons]
      congr 1; omega

theorem flines_ne (f : FField) (hf : FOk f) : ∀ l ∈ f.lines, l ≠ [] := by
  intro l hl
  simp only [FField.lines, List.mem_cons, List.mem_map] at hl
  rcases hl with hl | ⟨k, hk, hl⟩
  · subst hl
    have := upcase_ne_nil f.upper f.name hf.name_ne
    simp [this]
  · subst hl
    have := (hf.conts k hk).ws_ne
    simp [Cont.line, this]

open Lomond.Core in
theorem findSep_renderReply2 (sl : Bytes) (fs : List FField) (hsl : ∀ c ∈ sl, c ≠ 13) (hok : ∀ f ∈ fs, FOk f)
    (stream : Bytes) :
    ∃ i, findSep Gen.headerSep (renderReply2 sl fs ++ stream) = some i ∧ i + 4 = (renderReply2 sl fs).length := by
  have hne : ∀ l ∈ fs.flatMap FField.lines, l ≠ [] := fun l hl =>
    let ⟨f, hf, hl⟩ := List.mem_flatMap.mp hl
    flines_ne f (hok f hf) l hl
  have hcr : ∀ l ∈ fs.flatMap FField.lines, ∀ c ∈ l, c ≠ 13 := fun l hl =>
    let ⟨f, hf, hl⟩ := List.mem_flatMap.mp hl
    fun c hc => (flines_chars f (hok f hf) l hl c hc).2
  have h := findSep_lines (fs.flatMap FField.lines) hne hcr sl hsl
  have e : renderReply2 sl fs = sl ++ 13 :: 10 :: ((fs.flatMap FField.lines).flatMap (· ++ [13, 10]) ++ [13, 10]) := by
    simp [renderReply2, renderLines]
  refine ⟨_, findSep_append Gen.headerSep _ stream _ (by rw [e]; exact h), ?_⟩
  rw [e]
  simp only [List.length_append, List.length_cons, List.length_nil]
  omega

theorem splitOn1_joinWith (sep : Nat) (r : Str) (rs : List Str) :
    splitOn1 sep (joinWith [sep] (r :: rs)) = (r :: rs).flatMap (splitOn1 sep) := by
  induction rs generalizing r with
  | nil => simp [joinWith]
  | cons x rs ih =>
    show splitOn1 sep (r ++ [sep] ++ joinWith [sep] (x :: rs)) = _
    rw [List.append_assoc, List.singleton_append, splitOn1_append_sep, ih]
    simp

def appLast : List Str → Str → List Str
  | [], b => [b]
  | [l], b => [l ++ b]
  | l :: r :: t, b => l :: appLast (r :: t) b

theorem splitOn1_prefix (sep : Nat) (a x : Str) (ha : ∀ c ∈ a, c ≠ sep) :
    splitOn1 sep (a ++ x) = (a ++ (splitOn1 sep x).headD []) :: (splitOn1 sep x).tail := by
  induction a with
  | nil =>
    cases h : splitOn1 sep x with
    | nil => exact absurd h (splitOn1_ne_nil sep x)
    | cons y t => simp [h]
  | cons c a ih =>
    have hc : c ≠ sep := ha c (by simp)
    simp only [List.cons_append, splitOn1, ih (fun y hy => ha y (by simp [hy])), hc, if_false]

theorem splitOn1_suffix (sep : Nat) (x b : Str) (hb : ∀ c ∈ b, c ≠ sep) :
    splitOn1 sep (x ++ b) = appLast (splitOn1 sep x) b := by
  induction x with
  | nil => simp [splitOn1, splitOn1_nosep sep b hb, appLast]
  | cons c x ih =>
    cases h : splitOn1 sep x with
    | nil => exact absurd h (splitOn1_ne_nil sep x)
    | cons y t =>
      rw [h] at ih
      simp only [List.cons_append, splitOn1, ih, h]
      cases t with
      | nil => simp only [appLast]; split <;> simp [appLast]
      | cons z t' => simp only [appLast]; split <;> simp [appLast]

theorem strip_prefix_space (a h : Str) (ha : ∀ c ∈ a, isStrSpace c = true) : strip (a ++ h) = strip h := by
  unfold strip stripBy
  rw [lstripBy_append_of_all isStrSpace a h ha]

theorem strip_suffix_space (l b : Str) (hb : ∀ c ∈ b, isStrSpace c = true) : strip (l ++ b) = strip l := by
  unfold strip stripBy lstripBy
  rw [List.dropWhile_append]
  split
  · next h => rw [List.isEmpty_iff.mp h, (dropWhile_eq_nil_iff_all isStrSpace b).mpr hb]
  · exact rstripBy_append_of_all isStrSpace _ b hb

theorem map_strip_appLast (L : List Str) (b : Str) (hL : L ≠ []) (hb : ∀ c ∈ b, isStrSpace c = true) :
    (appLast L b).map strip = L.map strip := by
  induction L with
  | nil => exact absurd rfl hL
  | cons l t ih =>
    cases t with
    | nil => simp [appLast, strip_suffix_space l b hb]
    | cons r t' =>
      simp only [appLast, List.map_cons]
      have := ih (by simp)
      simp only [List.map_cons] at this
      rw [this]

theorem space_ne_comma (c : Nat) (h : isStrSpace c = true) : c ≠ 44 := by
  intro e; subst e; revert h; decide

/-- stripping the whole text first changes nothing once every element is stripped: the blanks around it hold no comma -/
theorem map_strip_split_strip (s : Str) : (splitOn1 44 (strip s)).map strip = (splitOn1 44 s).map strip := by
  obtain ⟨a, b, e, ha, hb, _⟩ := stripBy_spec isStrSpace s
  conv => rhs; rw [e]
  show _ = (splitOn1 44 (a ++ strip s ++ b)).map strip
  rw [splitOn1_suffix 44 (a ++ strip s) b (fun c hc => space_ne_comma c (hb c hc)),
    map_strip_appLast _ b (splitOn1_ne_nil _ _) hb,
    splitOn1_prefix 44 a (strip s) (fun c hc => space_ne_comma c (ha c hc))]
  cases h : splitOn1 44 (strip s) with
  | nil => exact absurd h (splitOn1_ne_nil 44 _)
  | cons y t => simp [strip_prefix_space a y ha]

theorem splitList_combined_multi (fs : List FField) (hok : ∀ f ∈ fs, FOk f) (n : Bytes) (g1 g2 : FField) (gs : List FField)
    (h : fieldsNamed fs n = g1 :: g2 :: gs) :
    splitList ((combined fs n).getD []) = (g1 :: g2 :: gs).flatMap (fun f => (splitOn1 44 f.value).map strip) := by
  have hmem : ∀ f ∈ g1 :: g2 :: gs, FOk f := by
    intro f hf
    have : f ∈ fieldsNamed fs n := by rw [h]; exact hf
    exact hok f (List.mem_filter.mp this).1
  obtain ⟨v, hv, hc⟩ := combined_comma fs n g1 g2 gs h
  have hvJ : v = strip (joinWith [44] ((g1 :: g2 :: gs).map FField.raw)) := by
    unfold combined at hv
    rw [h] at hv
    exact (Option.some.inj hv).symm
  rw [hv, Option.getD_some]
  unfold splitList
  have hne : strip v ≠ [] := List.ne_nil_of_mem (mem_stripBy isStrSpace v 44 hc (by decide))
  rw [if_neg hne, hvJ, map_strip_split_strip]
  have hj := splitOn1_joinWith 44 g1.raw ((g2 :: gs).map FField.raw)
  rw [List.map_cons, hj, List.map_flatMap, ← List.map_cons, List.flatMap_map]
  rw [List.flatMap_def, List.flatMap_def]
  congr 1
  apply List.map_congr_left
  intro f hf
  show (splitOn1 44 f.raw).map strip = _
  rw [← strip_raw2 f (hmem f hf), map_strip_split_strip]

end Lomond.Http
