/-
  C10: the concrete replies, digest and client that the witnesses of finding D5 and the non-vacuity examples of
  `Properties/C10*.lean` share, each with the facts about it that are evaluated by the kernel — once, here.
-/
import Lomond.Proofs.Sha1
import Lomond.Proofs.Logic

namespace Lomond.C10
open Lomond Lomond.Http Lomond.Handshake Lomond.Spec

/-- RFC 6455 §1.3: key `dGhlIHNhbXBsZSBub25jZQ==` has the digest `s3pPLMBiTxaQ9kYGzzhZRbK+xOo=` -/
def sampleDigest : Str := ofString "s3pPLMBiTxaQ9kYGzzhZRbK+xOo="

/-- a reply whose accept value is the digest with the case of every letter swapped -/
def swapcaseReply : Bytes :=
  lit "HTTP/1.1 101 Switching Protocols\r\nUpgrade: websocket\r\nConnection: Upgrade\r\nSec-WebSocket-Accept: S3PplmbItXAq9KygZZHzrBk+XoO=\r\n\r\n"

theorem swapcase_lenient :
    onResponse false sampleDigest (parseResponse swapcaseReply) = .ok { protocol := none, deflate := none } := by
  rw [swapcaseReply, lit_ofList]
  decide +kernel

theorem swapcase_strict :
    onResponse true sampleDigest (parseResponse swapcaseReply) =
      .error (ofString "Sec-WebSocket-Accept challenge failed") := by
  rw [swapcaseReply, lit_ofList]
  decide +kernel

def sampleClient : Client :=
  { url := { secure := true, host := lit "example.com", port := none, path := lit "/chat", query := lit "a=1" },
    agent := lit "agent/1.0", protocols := [lit "chat", lit "superchat"],
    customHeaders := [(lit "Origin", lit "http://example.com")], compress := true }

theorem sampleRequest_key :
    keyOfRequest (nthRequest sampleClient (fun k => List.replicate 16 k) 3) = lit "AwMDAwMDAwMDAwMDAwMDAw==" := by
  -- the long literal `deflateOffer` inside `buildRequest` as a character list, for the kernel
  unfold nthRequest buildRequest
  rw [show deflateOffer = _ from lit_ofList _]
  decide +kernel

end Lomond.C10
