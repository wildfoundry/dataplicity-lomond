/-
  A whole connection: what can leave `run()`, the three ways a connection ends (`runAll_cases`, on top
  of the equations of Proofs/RunAllEq.lean), and the facts of Proofs/MonitorLoop.lean, MonitorRun.lean,
  Raises.lean instantiated for the session loop over the stored script.  At the end: what the
  application's send calls can report (`isSend`, `write_outcome`, `sendFrame_outcome`; C09).
-/
import Lomond.Proofs.MonitorRun
import Lomond.Proofs.RunAllEq
import Lomond.Proofs.EnvIrrel
namespace Lomond.Core.Monitor
open Lomond Lomond.Core

/-- what can leave `run()`: only `GeneratorExit` (when the application abandons the iterator) and
    the model's end-of-script marker -/
theorem run_raises (s : Sys) {x : Exn} {s' : Sys} (h : run s = .err x s') :
    (x = .genExit ∧ Abandons s.react) ∨ x = .scriptEnd := by
  rw [run_eq_runL] at h
  rcases (raises_runL (se := True) _ (raises_loop s.env) s x s' h).react
    ((same_leaves.runL (same_of_step (step_loop _))).err h).2.symm with h | ⟨hx, _⟩
  · exact Or.inl h
  · exact Or.inr hx

theorem runAll_cases (cfg : Cfg) (react : React) (env : List EnvStep) :
    (∃ s, run (initSys cfg react env) = .ok () s ∧ runAll cfg react env = s) ∨
    (∃ s, run (initSys cfg react env) = .err .genExit s ∧ Abandons react ∧ Keeps s (runAll cfg react env)) ∨
    (∃ s, run (initSys cfg react env) = .err .scriptEnd s ∧
        runAll cfg react env = { s with trace := .incomplete :: s.trace }) := by
  cases hr : run (initSys cfg react env) with
  | ok u s => exact Or.inl ⟨s, rfl, runAll_ok hr⟩
  | err x s =>
    rcases run_raises _ hr with ⟨rfl, ha⟩ | rfl
    · refine Or.inr (Or.inl ⟨s, rfl, ha, ?_⟩)
      rw [runAll_genExit hr]
      split
      · exact keeps_closeSocket s
      · exact keeps_po.refl s
    · exact Or.inr (Or.inr ⟨s, rfl, runAll_scriptEnd hr⟩)

theorem Keeps.events {s s' : Sys} (h : Keeps s s') : events s'.trace = events s.trace :=
  h.ignores (fun o t h => events_cons_nonEv o t (Obs.quiet.isEv h))

theorem runAll_events (cfg : Cfg) (react : React) (env : List EnvStep) :
    events (runAll cfg react env).trace = events (run (initSys cfg react env)).state.trace :=
  runAll_of_run (F := fun s => events s.trace = events (run (initSys cfg react env)).state.trace) cfg react env rfl
    (fun s h => (keeps_closeSocket s).events.trans h) (fun _ h => (events_cons_nonEv _ _ rfl).trans h)

/-- `run()` from the initial state: the stricter monitor `Mon'` is in its final state on a normal
    return and has accepted the events (`Strict.Begun`) on every other exit; the trace has no
    `incomplete`, `hist` is its events, a graceful `Disconnected` has a cause, and if `_connect`
    returned a socket every terminal event has a `sockClose` before it -/
theorem _root_.Lomond.Core.Strict.run_spec (cfg : Cfg) (react : React) (env : List EnvStep) :
    LiftX.Sat (fun s' => MonitorGen.phaseOf' s'.trace = some .done) (fun _ => Strict.Begun) (run (initSys cfg react env)) ∧
    NoInc (run (initSys cfg react env)).state ∧
    HI (run (initSys cfg react env)).state ∧
    gracefulOK (CauseH react) (run (initSys cfg react env)).state.trace ∧
    ((∃ proxy, cfg.connect = .ok proxy ∨ cfg.connect = .selFail proxy) →
      termOK (run (initSys cfg react env)).state.trace) := by
  rw [run_eq_runL]
  refine Strict.tri_sat (R := Strict.EndOK (CauseH react) _)
    (Strict.tri_runL_mon react cfg (l := loop env) (fun s1 hs1 => ?_))
    ⟨rfl, rfl, ⟨rfl, rfl⟩, ⟨rfl, fun h => by rcases h with h | h <;> cases h⟩, rfl⟩
  have h1 := Strict.loop_spec env s1 hs1.1
  cases h : loop env s1 with
  | ok u s2 => rw [h] at h1; exact ⟨h1, loop_ok_cause env s1 s2 hs1.2 h⟩
  | err x s2 => rw [h] at h1; exact h1

/-- `Strict.run_spec` in terms of `Mon`, the monitor of the property text -/
theorem run_spec (cfg : Cfg) (react : React) (env : List EnvStep) :
    LiftX.Sat (fun s' => phaseOf s'.trace = some .done) (fun _ => Acc) (run (initSys cfg react env)) ∧
    NoInc (run (initSys cfg react env)).state ∧
    HI (run (initSys cfg react env)).state ∧
    gracefulOK (CauseH react) (run (initSys cfg react env)).state.trace ∧
    ((∃ proxy, cfg.connect = .ok proxy ∨ cfg.connect = .selFail proxy) →
      termOK (run (initSys cfg react env)).state.trace) := by
  obtain ⟨h, rest⟩ := Strict.run_spec cfg react env
  refine ⟨?_, rest⟩
  cases hr : run (initSys cfg react env) with
  | ok u s => rw [hr] at h; exact MonitorGen.phaseOf_of' h
  | err x s =>
    rw [hr] at h
    obtain ⟨q, hq, hn⟩ := h
    exact ⟨q.proj, MonitorGen.phaseOf_of' hq, by cases q <;> first | exact (hn rfl).elim | decide⟩

theorem runAll_accepted (cfg : Cfg) (react : React) (env : List EnvStep) :
    ∃ ph, Mon.run .start (events (runAll cfg react env).trace) = some ph := by
  have h := (run_spec cfg react env).1
  rw [runAll_events, ← phaseOf_eq_run]
  cases hr : run (initSys cfg react env) with
  | ok u s => rw [hr] at h; exact ⟨_, h⟩
  | err x s => rw [hr] at h; obtain ⟨ph, hp, _⟩ := h; exact ⟨ph, hp⟩

theorem runAll_complete (cfg : Cfg) (react : React) (env : List EnvStep) (s : Sys)
    (hr : run (initSys cfg react env) = .ok () s) : Mon.complete (events (runAll cfg react env).trace) := by
  have h := (run_spec cfg react env).1
  unfold Mon.complete
  rw [runAll_events, ← phaseOf_eq_run]
  rw [hr] at h ⊢; exact h

/-- **the stricter monitor accepts the events of every connection**, and is in its final state when
    `run()` returned -/
theorem _root_.Lomond.Core.Strict.runAll_accepted (cfg : Cfg) (react : React) (env : List EnvStep) :
    ∃ q, MonitorGen.Mon'.run .start (events (runAll cfg react env).trace) = some q ∧
      ∀ s, run (initSys cfg react env) = .ok () s → q = .done := by
  have h := (Strict.run_spec cfg react env).1
  rw [runAll_events, ← MonitorGen.phaseOf'_eq_run]
  cases hr : run (initSys cfg react env) with
  | ok u s => rw [hr] at h; exact ⟨_, h, fun _ _ => rfl⟩
  | err x s => rw [hr] at h; obtain ⟨ph, hp, _⟩ := h; exact ⟨ph, hp, fun _ e => by cases e⟩

/-- whenever `_connect` returned a socket (also when the selector's constructor then raised), every
    terminal event of the connection is preceded by `sockClose` -/
theorem termOK_runAll' (cfg : Cfg) (react : React) (env : List EnvStep) (proxy : Bool)
    (hc : cfg.connect = .ok proxy ∨ cfg.connect = .selFail proxy) : termOK (runAll cfg react env).trace :=
  runAll_of_run (F := fun s => termOK s.trace) cfg react env ((run_spec cfg react env).2.2.2.2 ⟨proxy, hc⟩)
    (fun s h => (keeps_closeSocket s).termOK h) (fun _ h => ⟨fun ht => (nomatch ht), h⟩)

theorem gracefulOK_runAll (cfg : Cfg) (react : React) (env : List EnvStep) :
    gracefulOK (CauseH react) (runAll cfg react env).trace :=
  runAll_of_run (F := fun s => gracefulOK (CauseH react) s.trace) cfg react env (run_spec cfg react env).2.2.2.1
    (fun s h => (keeps_closeSocket s).gracefulOK h) (fun _ h => ⟨fun _ hk => (nomatch hk), h⟩)

def isSend : Act → Bool
  | .sendText _ _ => true
  | .sendBinary _ _ => true
  | .sendPing _ => true
  | .sendPong _ => true
  | _ => false

/-- outcomes a send call may report: success, an argument error (`TypeError` / `ValueError`), or a
    `WebSocketError` subclass (`WebSocketClosed`, `WebSocketClosing`, `WebSocketUnavailable`, `TransportFail`) -/
def sendOutcomeOK (r : ActRes) : Prop := r = .ok ∨ r = .typeError ∨ r = .valueError ∨ wsError r = true

theorem write_outcome {d z s r s'} (h : write d z s = .ok r s') : r = .ok ∨ wsError r = true :=
  write_elim (P := fun q => ∀ r s', q = .ok r s' → r = .ok ∨ wsError r = true) d z s
    (fun r0 hr0 r s' e => by cases e; right; rcases hr0 with ⟨rfl, _⟩ | ⟨rfl, _⟩ | ⟨rfl, _⟩ <;> decide)
    (fun _ _ _ r0 o ho r s' e => by
      cases e
      rcases ho with ⟨rfl, _⟩ | ⟨rfl, _⟩
      · exact Or.inr (by decide)
      · exact Or.inl rfl) r s' h

theorem sendFrame_outcome {op pl c s r s'} (h : sendFrame op pl c s = .ok r s') : sendOutcomeOK r := by
  unfold sendFrame at h
  simp only [] at h
  repeat' split at h
  all_goals first
    | (cases h; exact Or.inr (Or.inr (Or.inl rfl)))
    | (rcases write_outcome h with h1 | h1
       · exact Or.inl h1
       · exact Or.inr (Or.inr (Or.inr h1)))

end Lomond.Core.Monitor
