/-
  C01/C02 for whole messages, parser side.  `pRun_append`: the eager parser over `a ++ b` is the
  eager parser over `a`, then over `b` from the state reached (pure counterpart of `feedLoop_append`).
  `pRun_silent_not_boundary`: a non-empty input that produces no output does not end at a frame
  boundary, so the last frame of a stream is handed over exactly when its last byte is read.
  The frames of a compressed message (RSV1 on the first frame, permessage-deflate negotiated):
  nothing is validated incrementally, the parser returns to "between two messages" (`parses_zmsg`).
-/
import Lomond.Proofs.Delivery
namespace Lomond.Core
open Lomond

def PRun.andThen (r : PRun) (k : PState → PRun) : PRun :=
  match r.err with
  | some _ => r
  | none => { outs := r.outs ++ (k r.p).outs, p := (k r.p).p, err := (k r.p).err }

theorem PRun.push_andThen (x : PState × Option Out) (r : PRun) (k : PState → PRun) :
    (r.push x).andThen k = (r.andThen k).push x := by
  obtain ⟨p1, o⟩ := x
  cases o with
  | none => rfl
  | some o =>
    unfold PRun.push PRun.andThen
    simp only []
    cases he : r.err with
    | none => rfl
    | some x => simp only [he]

theorem pRun_append (v : Variant) (p : PState) (a b : Bytes) :
    pRun v p (a ++ b) = (pRun v p a).andThen (fun q => pRun v q b) := by
  induction h : a.length using Nat.strongRecOn generalizing a p with
  | _ n ih =>
    by_cases ha : a = []
    · subst ha
      rw [pRun_nil]
      simp only [List.nil_append, PRun.andThen, List.nil_append]
    · by_cases hb : b = []
      · subst hb
        simp only [List.append_nil]
        unfold PRun.andThen
        cases he : (pRun v p a).err with
        | some x => rfl
        | none =>
          simp only [pRun_nil, List.append_nil]
          rw [← he]
      · have hab : a ++ b ≠ [] := by simp [ha]
        by_cases hn : p.remPred + 1 ≤ a.length
        · rw [pRun, pRun.eq_1 v p a]
          simp only [hab, ha, dite_false]
          have e1 : (a ++ b).take (p.remPred + 1) = a.take (p.remPred + 1) := by
            rw [List.take_append_of_le_length hn]
          have e2 : (a ++ b).drop (p.remPred + 1) = a.drop (p.remPred + 1) ++ b := by
            rw [List.drop_append_of_le_length hn]
          rw [e1, e2]
          have hlt : (a.drop (p.remPred + 1)).length < n := by
            simp only [List.length_drop]; omega
          cases hbite : biteBytes v p (a.take (p.remPred + 1)) with
          | error x => rfl
          | ok r =>
            simp only []
            rw [ih _ hlt _ _ rfl, PRun.push_andThen]
        · have hlt : a.length < p.remPred + 1 := by omega
          have e1 : (a ++ b).take (p.remPred + 1) = a ++ b.take (p.remPred + 1 - a.length) := by
            rw [List.take_append]; rw [List.take_of_length_le (by omega)]
          have e2 : (a ++ b).drop (p.remPred + 1) = b.drop (p.remPred + 1 - a.length) := by
            rw [List.drop_append]; rw [List.drop_of_length_le (by omega)]; simp
          have e3 : a.take (p.remPred + 1) = a := List.take_of_length_le (by omega)
          have e4 : a.drop (p.remPred + 1) = [] := List.drop_of_length_le (by omega)
          rw [pRun, pRun.eq_1 v p a]
          simp only [hab, ha, dite_false]
          rw [e1, e2, e3, e4]
          rw [biteBytes_split v p a _ hlt (by simp only [List.length_take]; omega)]
          rw [biteBytes_eq v p a]
          cases h1 : vres p.utf8 p.dfa a with
          | none => rfl
          | some d =>
            simp only [hlt, if_true, pRun_nil]
            have hpush : (({ p := partialState p a d } : PRun).push (partialState p a d, none)) =
                { p := partialState p a d } := rfl
            rw [hpush]
            unfold PRun.andThen
            simp only [List.nil_append]
            rw [pRun.eq_1 v (partialState p a d) b]
            simp only [hb, dite_false]
            have e5 : (partialState p a d).remPred + 1 = p.remPred + 1 - a.length := by
              simp only [partialState]; omega
            simp only [e5]
            cases biteBytes v (partialState p a d) (List.take (p.remPred + 1 - a.length) b) with
            | error x => simp [deadParser, partialState]
            | ok r => rfl

theorem pRun_append_ok (v : Variant) (p : PState) (a b : Bytes) (h : (pRun v p (a ++ b)).err = none) :
    (pRun v p a).err = none ∧ (pRun v (pRun v p a).p b).err = none ∧
    (pRun v p (a ++ b)).outs = (pRun v p a).outs ++ (pRun v (pRun v p a).p b).outs ∧
    (pRun v p (a ++ b)).p = (pRun v (pRun v p a).p b).p := by
  rw [pRun_append] at h ⊢
  cases he : (pRun v p a).err with
  | some x =>
    have : ((pRun v p a).andThen fun q => pRun v q b) = pRun v p a := by
      unfold PRun.andThen; rw [he]
    rw [this, he] at h; cases h
  | none =>
    have e : ((pRun v p a).andThen fun q => pRun v q b) =
        { outs := (pRun v p a).outs ++ (pRun v (pRun v p a).p b).outs,
          p := (pRun v (pRun v p a).p b).p, err := (pRun v (pRun v p a).p b).err } := by
      unfold PRun.andThen; rw [he]
    rw [e] at h ⊢
    exact ⟨rfl, h, rfl, rfl⟩

theorem pRun_silent_not_boundary (v : Variant) (q : PState) (y : Bytes) (hne : y ≠ [])
    (hout : (pRun v q y).outs = []) (herr : (pRun v q y).err = none) : ¬ Boundary (pRun v q y).p := by
  induction h : y.length using Nat.strongRecOn generalizing y q with
  | _ n ih =>
    rw [pRun] at hout herr ⊢
    simp only [hne, dite_false] at hout herr ⊢
    have hlt : (y.drop (q.remPred + 1)).length < n := by
      have : y.length ≠ 0 := fun hl => hne (List.eq_nil_of_length_eq_zero hl)
      simp only [List.length_drop]; omega
    have htk : y.take (q.remPred + 1) ≠ [] := fun e =>
      (List.take_eq_nil_iff.mp e).elim (Nat.succ_ne_zero _) hne
    cases hb : biteBytes v q (y.take (q.remPred + 1)) with
    | error x => rw [hb] at herr; cases herr
    | ok r =>
      obtain ⟨p1, o⟩ := r
      rw [hb] at hout herr
      simp only [] at hout herr ⊢
      cases o with
      | some o => simp [PRun.push] at hout
      | none =>
        have e : ∀ r : PRun, r.push (p1, none) = r := fun _ => rfl
        rw [e] at hout herr ⊢
        by_cases hr : y.drop (q.remPred + 1) = []
        · rw [hr, pRun_nil]
          exact (biteBytes_res hb).2.1 rfl htk
        · exact ih _ hlt _ _ hr hout herr rfl

/-- first byte of the first frame of a compressed message (64 is RSV1) -/
def zb0 (text fin : Bool) : Nat := (if fin then 128 else 0) + 64 + (if text then 1 else 2)

def zfirstBytes (text fin : Bool) (g : Frag) : Bytes := serialise (zb0 text fin) g.form g.payload

/-- inside a message none of whose bytes is validated incrementally (a compressed message, or any
    message before the first frame: generalises `Between`) -/
structure InZ (v : Variant) (p : PState) : Prop where
  b : Boundary p
  dfa : p.dfa = 0
  nv : p.isText = true → noValidate v p

theorem Between.inZ {v : Variant} {p : PState} (h : Between p) : InZ v p :=
  ⟨h.b, h.dfa, fun ht => by rw [h.isText] at ht; cases ht⟩

theorem hdrFrame_zb0 (text fin : Bool) (payload : Bytes) :
    ({ hdrFrame (zb0 text fin) with payload := payload } : Frame) =
      { opcode := if text then 1 else 2, payload := payload, fin := if fin then 1 else 0, rsv1 := 1 } := by
  cases text <;> cases fin <;> rfl

theorem validate_zb0 (v : Variant) (text fin : Bool) (len : Nat) :
    validateFrame v true (hdrFrame (zb0 text fin)) len = .ok () := by
  cases text <;> cases fin <;>
    simp [validateFrame, hdrFrame, zb0, isReservedOp, Gen.reservedOpcodes, Frame.isControl]

/-- parser state after the first frame of a compressed message -/
def zNext (v : Variant) (p : PState) (text fin : Bool) (payload : Bytes) : PState :=
  doneState v { afterHdr p.resumed (hdrFrame (zb0 text fin)) with dfa := p.dfa }
    { hdrFrame (zb0 text fin) with payload := payload }

/-- the first frame of a compressed message (RSV1 = 1, Text or Binary), permessage-deflate
    negotiated: accepted, not validated, handed over with its payload as it is -/
theorem parses_zfirst (v : Variant) (p : PState) (hp : Between p) (hcomp : p.compression = true)
    (text fin : Bool) (g : Frag) (hg : g.Ok) :
    ParsesB v p (zfirstBytes text fin g) [firstFrame true text g fin] (zNext v p text fin g.payload) ∧
      (if fin then Between (zNext v p text fin g.payload) else InZ v (zNext v p text fin g.payload)) := by
  have hv : validateFrame v p.compression (hdrFrame (zb0 text fin)) g.payload.length = .ok () := by
    rw [hcomp]; exact validate_zb0 v text fin _
  have hc : p.resumed.compression = true := hcomp
  have hit : p.resumed.isText = false := hp.isText
  have hflag : (decide (g.payload ≠ [] ∧ valFlag v (afterHdr p.resumed (hdrFrame (zb0 text fin))) (hdrFrame (zb0 text fin)) = true)) = false := by
    cases text <;> cases fin <;>
      simp [valFlag, afterHdr, hdrFrame, zb0, Frame.isText, Frame.isContinuation, Gen.opText, Gen.opContinuation,
        noValidate, hc, hit]
  have hstep : frameStep v p (zb0 text fin) g.payload =
      .ok (zNext v p text fin g.payload, .frame { hdrFrame (zb0 text fin) with payload := g.payload }) := by
    rw [frameStep_eq v p (zb0 text fin) g.payload hv, hflag]
    rfl
  refine ⟨?_, ?_⟩
  · intro tail
    obtain ⟨q', h⟩ := pRun_frame v p hp.b (zb0 text fin) g.form g.payload hg tail
    rw [hstep] at h
    refine ⟨[(zNext v p text fin g.payload, .frame (firstFrame true text g fin))], ?_, rfl⟩
    have hf : ({ hdrFrame (zb0 text fin) with payload := g.payload } : Frame) = firstFrame true text g fin := by
      rw [hdrFrame_zb0]; rfl
    rw [hf] at h
    exact h
  · cases text <;> cases fin
    all_goals
      simp only [Bool.false_eq_true, if_false, if_true]
      refine ⟨⟨rfl, rfl, rfl, rfl⟩, ?_, ?_⟩ <;>
        simp [zNext, doneState, afterHdr, hdrFrame, zb0, Frame.isText, Frame.isContinuation, Frame.isControl,
          Gen.opText, Gen.opContinuation, noValidate, hc, hit, hp.dfa]

/-- a control frame or a continuation frame while nothing is validated: not validated either -/
theorem inz_step (v : Variant) (p : PState) (w : WFrame) (hp : InZ v p) (hop : w.opcode = 0 ∨ w.opcode ≥ 8) :
    vres (w.flag v p) p.dfa w.payload = some 0 ∧ InZ v (w.next v p 0) ∧
      (w.opcode = 0 → w.fin = true → Between (w.next v p 0)) := by
  have hne1 : w.opcode ≠ 1 := by rcases hop with h | h <;> omega
  have h1 : afterHdr p.resumed w.hdr = p.resumed := afterHdr_nontext _ _ hne1
  have hT : w.hdr.isText = false := by simp [Frame.isText, WFrame.hdr, hne1, Gen.opText]
  have hf : w.flag v p = false := by
    unfold WFrame.flag valFlag
    rw [h1]
    by_cases ht : p.resumed.isText = true
    · have : noValidate v p.resumed := hp.nv ht
      simp [this]
    · simp [hT, ht]
  have hnext_nv : noValidate v (w.next v p 0) ↔ noValidate v p := by
    unfold WFrame.next doneState; rw [h1]; exact Iff.rfl
  have hnext_dfa : (w.next v p 0).dfa = 0 := by
    unfold WFrame.next doneState; rw [h1]; simp
  refine ⟨by rw [hf, hp.dfa]; rfl, ⟨next_boundary, hnext_dfa, ?_⟩, ?_⟩
  · intro ht
    apply hnext_nv.mpr
    apply hp.nv
    unfold WFrame.next doneState at ht
    rw [h1] at ht
    simp only [] at ht
    split at ht
    · cases ht
    · exact ht
  · intro h0 hfin
    refine ⟨next_boundary, ?_, hnext_dfa⟩
    unfold WFrame.next doneState; rw [h1]
    have hC : w.frame.isControl = false := by simp [Frame.isControl, WFrame.frame, h0]
    have hF1 : w.frame.fin = 1 := by simp [WFrame.frame, hfin]
    simp [hC, hF1]

theorem inside_z (v : Variant) : Inside v (fun _ p => InZ v p) (fun _ => True) where
  b h := h.b
  pre _ := trivial
  ctrl w hp h := ⟨0, (inz_step v _ w hp (Or.inr h)).1, (inz_step v _ w hp (Or.inr h)).2.1⟩
  cont w hp h _ := by
    obtain ⟨hd, hn, hb⟩ := inz_step v _ w hp (Or.inl h)
    refine ⟨0, hd, ?_⟩
    cases hf : w.fin
    · exact hn
    · exact hb h hf

/-- one compressed message (permessage-deflate negotiated): from between two messages back to
    between two messages; the outputs are the first frame with RSV1 set and the continuation /
    control frames as written; nothing is validated -/
theorem parses_zmsg (v : Variant) (m : DataMsg) (p : PState) (hp : Between p) (hcomp : p.compression = true)
    (hfirst : m.first.Ok) (hrest : contOk m.rest) :
    ∃ p', ParsesB v p (zfirstBytes m.text m.rest.isEmpty m.first ++ wireBytes (contWire m.rest))
        (firstFrame true m.text m.first m.rest.isEmpty :: (contWire m.rest).map WFrame.frame) p' ∧ Between p' := by
  obtain ⟨h1, hn⟩ := parses_zfirst v p hp hcomp m.text m.rest.isEmpty m.first hfirst
  cases hr : m.rest with
  | nil =>
    rw [hr] at h1 hn
    simp only [List.isEmpty_nil, if_true] at hn
    refine ⟨_, ?_, hn⟩
    simpa [contWire, wireBytes] using h1
  | cons y r' =>
    rw [hr] at h1 hn
    simp only [List.isEmpty_cons, Bool.false_eq_true, if_false] at hn
    obtain ⟨p3, h3, _, hb3⟩ := parses_cont (inside_z v) (y :: r') _ [] hn (hr ▸ hrest) trivial
    exact ⟨p3, parsesB_append (fa := [_]) h1 h3, hb3 (by simp)⟩

theorem pRun_comp (v : Variant) (p : PState) (data : Bytes) (herr : (pRun v p data).err = none) :
    (pRun v p data).p.compression = p.compression := by
  induction h : data.length using Nat.strongRecOn generalizing data p with
  | _ n ih =>
    rw [pRun] at herr ⊢
    by_cases hd : data = []
    · simp only [hd, dite_true]
    · simp only [hd, dite_false] at herr ⊢
      have hlt : (data.drop (p.remPred + 1)).length < n := by
        have : data.length ≠ 0 := fun hl => hd (List.eq_nil_of_length_eq_zero hl)
        simp only [List.length_drop]; omega
      cases hb : biteBytes v p (data.take (p.remPred + 1)) with
      | error x => rw [hb] at herr; cases herr
      | ok r =>
        rw [hb] at herr
        simp only [] at herr ⊢
        have e1 : r.1.compression = p.compression := (biteBytes_res hb).1
        have hp : ∀ q : PRun, (q.push r).p = q.p ∧ (q.push r).err = q.err := by
          intro q; unfold PRun.push; split <;> exact ⟨rfl, rfl⟩
        rw [(hp _).2] at herr
        rw [(hp _).1, ih _ hlt _ _ herr rfl, e1]

theorem ParsesB.comp {v : Variant} {p p' : PState} {data : Bytes} {fs : List Frame} (h : ParsesB v p data fs p') :
    p'.compression = p.compression := by
  obtain ⟨he, _, hp⟩ := h.run
  rw [← hp]; exact pRun_comp v p data he

end Lomond.Core
