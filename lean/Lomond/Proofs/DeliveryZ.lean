/-
  C01 with permessage-deflate: the inflate-context threading of `DG.ItemsAt` follows from C06's
  formulation (`feedMsgs`: the joined payloads of the compressed messages handed to
  `Core.inflateMessage` one after the other; `zOuts`, `feedMsgs_zOuts`, `itemsAt_of_zOuts`); statically
  well-formed uncompressed items need no inflater (`itemsAt_plain`); C01's `Item`s embed as `GItem`s
  with the same bytes and events (`GItem.ofItem`, `ofItems_itemsAt`).
-/
import Lomond.Proofs.DeliveryTimedRun
import Lomond.Proofs.DeflateTie
namespace Lomond.Core.DG
open Lomond Lomond.Core Lomond.Core.E2E

/-- the joined payloads `zs` of successive compressed messages through the inflater, from context
    `ic`: the outputs and the final context; `none` = some message cannot be inflated -/
def zOuts (z : ZP) : ICtx → List Bytes → Option (List Bytes × ICtx)
  | ic, [] => some ([], ic)
  | ic, j :: r =>
    match inflPure z ic j with
    | none => none
    | some (o, ic1) =>
      match zOuts z ic1 r with
      | none => none
      | some (os, ic') => some (o :: os, ic')

theorem zOuts_cons_inv {z : ZP} {ic ic' : ICtx} {j o : Bytes} {r os : List Bytes}
    (h : zOuts z ic (j :: r) = some (o :: os, ic')) :
    ∃ ic1, inflPure z ic j = some (o, ic1) ∧ zOuts z ic1 r = some (os, ic') := by
  simp only [zOuts] at h
  split at h
  · cases h
  · rename_i o1 ic1 h1
    split at h
    · cases h
    · rename_i os1 ic2 h2
      cases h
      exact ⟨ic1, h1, h2⟩

theorem feedMsgs_zOuts (z : ZP) (zs : List Bytes) (s : Sys) (hz : ZOk z s) :
    feedMsgs zs s = (zOuts z ⟨s.inflHist, s.inflOut⟩ zs).map (·.1) := by
  induction zs generalizing s with
  | nil => rfl
  | cons j r ih =>
    simp only [feedMsgs, zOuts]
    cases hp : inflPure z ⟨s.inflHist, s.inflOut⟩ j with
    | none =>
      rw [inflateMessage_eq z s hz j, hp]
      rfl
    | some x =>
      obtain ⟨o, ic1⟩ := x
      rw [inflateMessage_eq z s hz j, hp]
      simp only []
      have := ih { s with inflHist := ic1.hist, inflOut := ic1.out } ⟨hz.infl, hz.comp, hz.dec⟩
      rw [this]
      cases zOuts z ic1 r with
      | none => rfl
      | some y => rfl

/-- the compressed payload of a compressed message -/
def GItem.zpay : GItem → Option Bytes
  | .ctrl _ => none
  | .msg g => if g.zf then some g.m.payload else none

/-- the plaintext a compressed message stands for -/
def GItem.zplain : GItem → Option Bytes
  | .ctrl _ => none
  | .msg g => if g.zf then some g.plain else none

/-- lengths fit their forms; an uncompressed message stands for its payload; Text is UTF-8 -/
def GMsg.Static (g : GMsg) : Prop :=
  g.m.first.Ok ∧ contOk g.m.rest ∧ (g.zf = false → g.plain = g.m.payload) ∧
  (g.m.text = true → Bytes.WF g.plain ∧ Utf8.wf g.plain = true)

def GItem.Static : GItem → Prop
  | .ctrl c => c.Ok
  | .msg g => g.Static

instance (g : GMsg) : Decidable g.Static := by unfold GMsg.Static; exact inferInstance
instance (it : GItem) : Decidable it.Static := by
  cases it <;> (unfold GItem.Static; exact inferInstance)

theorem buildPure_z (z : ZP) (hdc : z.dc.isSome = true) (ic : ICtx) (text : Bool) (g : Frag) (fin : Bool) (j : Bytes) :
    buildPure z ic (firstFrame true text g fin) j = inflPure z ic j := by
  unfold buildPure
  have : (firstFrame true text g fin).rsv1 ≠ 0 ∧ z.dc.isSome = true := ⟨by simp [firstFrame], hdc⟩
  rw [if_pos this]

/-- the inflater hypothesis in C06's form implies the threaded one: statically well-formed
    items whose compressed messages, in order, inflate to their `plain`s -/
theorem itemsAt_of_zOuts (z : ZP) (hdc : z.dc.isSome = true) (items : List GItem)
    (hst : ∀ it ∈ items, it.Static) (ic ic' : ICtx)
    (h : zOuts z ic (items.filterMap GItem.zpay) = some (items.filterMap GItem.zplain, ic')) :
    ItemsAt z ic items ic' := by
  induction items generalizing ic with
  | nil =>
    simp only [List.filterMap_nil, zOuts] at h
    cases h
    rfl
  | cons it r ih =>
    have hi := hst it (by simp)
    have hr := fun x hx => hst x (List.mem_cons_of_mem _ hx)
    cases it with
    | ctrl c =>
      rw [List.filterMap_cons_none (by rfl), List.filterMap_cons_none (by rfl)] at h
      exact ⟨hi, ih hr ic h⟩
    | msg g =>
      obtain ⟨hf, hrest, hpl, ht⟩ := hi
      cases hzf : g.zf with
      | false =>
        rw [List.filterMap_cons_none (by simp [GItem.zpay, hzf]),
          List.filterMap_cons_none (by simp [GItem.zplain, hzf])] at h
        refine ⟨ic, ⟨hf, hrest, ?_, ht⟩, ih hr ic h⟩
        rw [hzf, buildPure_plain, hpl hzf]
      | true =>
        rw [List.filterMap_cons_some (b := g.m.payload) (by simp [GItem.zpay, hzf]),
          List.filterMap_cons_some (b := g.plain) (by simp [GItem.zplain, hzf])] at h
        obtain ⟨ic1, h1, h2⟩ := zOuts_cons_inv h
        refine ⟨ic1, ⟨hf, hrest, ?_, ht⟩, ih hr ic1 h2⟩
        rw [hzf, buildPure_z z hdc]
        exact h1

theorem itemsAt_plain (z : ZP) (items : List GItem) (hst : ∀ it ∈ items, it.Static)
    (hnz : ∀ g, GItem.msg g ∈ items → g.zf = false) (ic : ICtx) : ItemsAt z ic items ic := by
  induction items with
  | nil => rfl
  | cons it r ih =>
    have hi := hst it (by simp)
    have hr := ih (fun x hx => hst x (List.mem_cons_of_mem _ hx)) (fun g hg => hnz g (List.mem_cons_of_mem _ hg))
    cases it with
    | ctrl c => exact ⟨hi, hr⟩
    | msg g =>
      obtain ⟨hf, hrest, hpl, ht⟩ := hi
      have hzf := hnz g List.mem_cons_self
      refine ⟨ic, ⟨hf, hrest, ?_, ht⟩, hr⟩
      rw [hzf, buildPure_plain, hpl hzf]

def GItem.ofItem : Item → GItem
  | .ctrl c => .ctrl c
  | .data m => .msg ⟨false, m, m.payload⟩

theorem ofItem_bytes (it : Item) : (GItem.ofItem it).bytes = wireBytes it.wire := by
  cases it with
  | ctrl c => simp [GItem.ofItem, GItem.bytes, Item.wire, wireBytes]
  | data m => rfl

theorem ofItem_events (it : Item) : (GItem.ofItem it).events = it.events := by
  cases it with
  | ctrl c => rfl
  | data m => rfl

theorem ofItems_bytes (items : List Item) :
    (items.map GItem.ofItem).flatMap GItem.bytes = wireBytes (items.flatMap Item.wire) := by
  induction items with
  | nil => rfl
  | cons it r ih =>
    simp only [List.map_cons, List.flatMap_cons, wireBytes_append, ih, ofItem_bytes]

theorem ofItems_events (items : List Item) :
    (items.map GItem.ofItem).flatMap GItem.events = items.flatMap Item.events := by
  induction items with
  | nil => rfl
  | cons it r ih => simp only [List.map_cons, List.flatMap_cons, ih, ofItem_events]

theorem ofItem_static (it : Item) (h : it.Ok) : (GItem.ofItem it).Static := by
  cases it with
  | ctrl c => exact h
  | data m => exact ⟨h.1, h.2.1, fun _ => rfl, h.2.2⟩

theorem ofItems_zf (items : List Item) : ∀ g, GItem.msg g ∈ items.map GItem.ofItem → g.zf = false := by
  intro g hg
  obtain ⟨it, hit, he⟩ := List.mem_map.mp hg
  cases it with
  | ctrl c => cases he
  | data m => cases he; rfl

theorem ofItems_itemsAt (z : ZP) (items : List Item) (hok : ∀ it ∈ items, it.Ok) (ic : ICtx) :
    ItemsAt z ic (items.map GItem.ofItem) ic := by
  apply itemsAt_plain
  · intro x hx
    obtain ⟨it, hit, rfl⟩ := List.mem_map.mp hx
    exact ofItem_static it (hok it hit)
  · exact ofItems_zf items

example (items : List Item) (b : Bool) :
    ∀ g, GItem.msg g ∈ items.map GItem.ofItem → g.zf = true → b = true :=
  fun g hg hz => nomatch (ofItems_zf items g hg).symm.trans hz

end Lomond.Core.DG
