/-
  C01, parser side: the eager, consumer-free run of the frame parser (`pRun`, `pFeed`); the walk
  of the grammar over one complete frame (header bytes, extended length in any form, masking key
  if announced, payload), stated once for any loop that feeds it bite by bite (`BiteLoop.hdr`,
  `BiteLoop.frame`), with the eager parser (`pLoop`) and the lazy `feedLoop` (`fLoop`) as instances;
  the unmasked frame in the three `LenForm`s (`pRun_frame`), its effect in closed form (`frameStep_eq`).
-/
import Lomond.Proofs.Step
import Lomond.Proofs.BeBytes
namespace Lomond.Core
open Lomond

/-- result of running the parser alone over some bytes; each output comes with the parser state
    at the moment it is handed to the consumer -/
structure PRun where
  outs : List (PState × Out) := []
  p : PState
  err : Option Exn := none

def PRun.push (x : PState × Option Out) (r : PRun) : PRun :=
  match x.2 with
  | none => r
  | some o => { r with outs := (x.1, o) :: r.outs }

set_option linter.unusedVariables false in
/-- `Parser.feed`'s loop with no consumer: the fold of `biteBytes` over the bites, exactly the
    bites `feedLoop` takes -/
def pRun (v : Variant) (p : PState) (data : Bytes) : PRun :=
  if h : data = [] then { p := p }
  else
    match biteBytes v p (data.take (p.remPred + 1)) with
    | .error x => { p := deadParser p, err := some x }
    | .ok r => (pRun v r.1 (data.drop (p.remPred + 1))).push r
termination_by data.length
decreasing_by
  simp only [List.length_drop]
  have : data.length ≠ 0 := by
    intro hl; exact h (List.eq_nil_of_length_eq_zero hl)
  omega

def pFeed (v : Variant) (p : PState) (data : Bytes) : Except Exn (PState × List Out) :=
  match (pRun v p data).err with
  | some x => .error x
  | none => .ok ((pRun v p data).p, (pRun v p data).outs.map (·.2))

theorem pRun_nil (v : Variant) (p : PState) : pRun v p [] = { p := p } := by
  rw [pRun]; simp

theorem pRun_bite (v : Variant) (p : PState) (chunk rest : Bytes) (h : chunk.length = p.remPred + 1) :
    pRun v p (chunk ++ rest) =
      match biteBytes v p chunk with
      | .error x => { p := deadParser p, err := some x }
      | .ok r => (pRun v r.1 rest).push r := by
  have hne : chunk ++ rest ≠ [] := by
    intro h0
    have : (chunk ++ rest).length = 0 := by rw [h0]; rfl
    simp only [List.length_append] at this; omega
  rw [pRun]
  simp only [hne, dite_false]
  have e1 : (chunk ++ rest).take (p.remPred + 1) = chunk := by
    rw [← h]; simp
  have e2 : (chunk ++ rest).drop (p.remPred + 1) = rest := by
    rw [← h]; simp
  rw [e1, e2]

/-- the three ways RFC 6455 §5.2 can spell a payload length -/
inductive LenForm
  | short | ext16 | ext64
  deriving Repr, DecidableEq, Inhabited

/-- the form can express the length (non-minimal spellings are allowed: `ext16` for any length
    below 2^16, `ext64` for any length below 2^63) -/
def LenForm.ok (form : LenForm) (len : Nat) : Prop :=
  match form with
  | .short => len < 126
  | .ext16 => len < 65536
  | .ext64 => len < 2 ^ 63

instance (form : LenForm) (len : Nat) : Decidable (form.ok len) := by
  unfold LenForm.ok; cases form <;> exact inferInstance

/-- second header byte (MASK = 0) and the extended length bytes -/
def lenBytes (form : LenForm) (len : Nat) : Bytes :=
  match form with
  | .short => [len]
  | .ext16 => 126 :: beBytes 2 len
  | .ext64 => 127 :: beBytes 8 len

/-- an unmasked frame as the server writes it -/
def serialise (b0 : Nat) (form : LenForm) (payload : Bytes) : Bytes :=
  b0 :: lenBytes form payload.length ++ payload

/-- the state `resume` continues from (the consumed awaitable's bookkeeping is dead) -/
def PState.resumed (p : PState) : PState := { p with remPred := 0, utf8 := false, buf := [] }

theorem biteBytes_exact (v : Variant) (p : PState) (chunk : Bytes) (hu : p.utf8 = false)
    (hl : chunk.length = p.remPred + 1) (hbuf : p.buf = []) :
    biteBytes v p chunk = resume v p chunk := by
  cases p with
  | mk c r u b d t co ic =>
    simp only at hu hbuf hl
    subst hu hbuf
    rw [biteBytes_eq]
    simp only [vres, hl, List.nil_append, Nat.lt_irrefl, if_false, Bool.false_eq_true]

theorem resume_resumed (v : Variant) (p : PState) (bytes : Bytes) :
    resume v p bytes = resume v p.resumed bytes := by
  simp [resume, PState.resumed]

/-- the parser fields that outlive a frame: all that `gotMask` and `frameDone` read -/
structure SameMsg (q p : PState) : Prop where
  dfa : q.dfa = p.dfa
  isText : q.isText = p.isText
  compression : q.compression = p.compression
  isCompressed : q.isCompressed = p.isCompressed

theorem gotMask_congr (v : Variant) (p q : PState) (b0 len : Nat) (key : Option Bytes) (h : SameMsg q p) :
    gotMask v q b0 len key = gotMask v p b0 len key := by
  obtain ⟨h1, h2, h3, h4⟩ := h
  cases p; cases q
  simp only at h1 h2 h3 h4
  subst h1 h2 h3 h4
  unfold gotMask
  simp only []
  simp only [Frame.isText]
  by_cases ht : b0 % 16 = Gen.opText
  · simp only [ht, decide_true, if_true]
    split
    · rfl
    · split
      · rfl
      · simp [frameDone]
  · simp only [ht, decide_false, if_false, Bool.false_eq_true]
    split
    · rfl
    · split
      · rfl
      · simp [frameDone]

/-- `ext` is the extended-length field announced by `b1` and spells `len` -/
structure HdrLen (b1 : Nat) (ext : Bytes) (len : Nat) : Prop where
  short : b1 % 128 < 126 → ext = [] ∧ len = b1 % 128
  long : b1 % 128 ≥ 126 → ext.length = (if b1 % 128 = 126 then 2 else 8) ∧ beVal ext = len
  small : len < 2 ^ 63

def extCont (b0 b1 : Nat) : Cont :=
  if b1 % 128 = 126 then .len16 b0 (decide (b1 ≥ 128)) else .len64 b0 (decide (b1 ≥ 128))

def extWait (p : PState) (b0 b1 : Nat) : PState :=
  { p.resumed with cont := extCont b0 b1, remPred := if b1 % 128 = 126 then 1 else 7 }

theorem resume_hdr2_any (v : Variant) (p : PState) (b0 b1 : Nat) (hc : p.cont = .hdr2) :
    resume v p [b0, b1] =
      if b1 % 128 ≥ 126 then .ok (extWait p b0 b1, none)
      else gotLength v p.resumed b0 (decide (b1 ≥ 128)) (b1 % 128) := by
  have hlt : b1 % 128 < 128 := Nat.mod_lt _ (by decide)
  cases p with | mk c r u b d t co ic =>
  simp only at hc; subst hc
  unfold resume extWait extCont PState.resumed
  simp only [List.getD_cons_zero, List.getD_cons_succ]
  by_cases h6 : b1 % 128 = 126
  · simp [h6]
  · by_cases h7 : b1 % 128 = 127
    · simp [h7]
    · have : ¬ b1 % 128 ≥ 126 := by omega
      simp only [h6, h7, this, if_false]

theorem resume_ext (v : Variant) (p : PState) (b0 b1 : Nat) (ext : Bytes) (hc : p.cont = extCont b0 b1) :
    resume v p ext = gotLength v p.resumed b0 (decide (b1 ≥ 128)) (beVal ext) := by
  cases p with | mk c r u b d t co ic =>
  simp only at hc; subst hc
  unfold extCont resume PState.resumed
  split <;> rfl

/-- a loop that feeds the grammar bite by bite: `run p data` is the loop from parser state `p`;
    `after q r rest` is what it does with the grammar's answer `r` to a bite taken in state `q`.
    The walk over a frame is proved once for such a loop, and so serves the eager parser `pRun`
    and the lazy `feedLoop` (whatever its consumer does) alike. -/
structure BiteLoop (v : Variant) (α : Type) where
  run : PState → Bytes → α
  after : PState → Except Exn (PState × Option Out) → Bytes → α
  bite : ∀ (p : PState) (chunk rest : Bytes), chunk.length = p.remPred + 1 →
    run p (chunk ++ rest) = after p (biteBytes v p chunk) rest
  silent : ∀ (q p' : PState) (rest : Bytes), after q (.ok (p', none)) rest = run p' rest
  failed : ∀ (q : PState) (x : Exn) (r1 r2 : Bytes), after q (.error x) r1 = after q (.error x) r2

theorem BiteLoop.field {v : Variant} {α : Type} (L : BiteLoop v α) (p : PState) (chunk rest : Bytes)
    (hu : p.utf8 = false) (hb : p.buf = []) (hl : chunk.length = p.remPred + 1) :
    L.run p (chunk ++ rest) = L.after p (resume v p chunk) rest := by
  rw [L.bite p chunk rest hl, biteBytes_exact v p chunk hu hl hb]

/-- `pc` is the state `gotLength` runs in, `p0` the state the frame started in, `q` the state the bite came from -/
theorem BiteLoop.gotLength {v : Variant} {α : Type} (L : BiteLoop v α) (pc p0 q : PState) (hm : SameMsg pc p0)
    (b0 : Nat) (m : Bool) (len : Nat) (hs : len < 2 ^ 63) (key rest : Bytes)
    (hk : key.length = if m then 4 else 0) :
    ∃ q', L.after q (gotLength v pc b0 m len) (key ++ rest) =
        L.after q' (gotMask v p0 b0 len (if m then some key else none)) rest := by
  unfold Core.gotLength
  rw [if_neg (by omega)]
  cases m with
  | false =>
    simp only [Bool.false_eq_true, if_false] at hk ⊢
    rw [List.eq_nil_of_length_eq_zero hk, List.nil_append,
      gotMask_congr v p0 pc b0 len none hm]
    exact ⟨q, rfl⟩
  | true =>
    simp only [if_true] at hk ⊢
    refine ⟨{ pc with cont := .maskKey b0 len, remPred := 3, utf8 := false, buf := [] }, ?_⟩
    rw [L.silent, L.field _ key rest rfl rfl (by rw [hk])]
    congr 1
    unfold resume
    simp only []
    exact gotMask_congr v p0 _ b0 len (some key) ⟨hm.dfa, hm.isText, hm.compression, hm.isCompressed⟩

/-- From a frame boundary the two header bytes, the extended length (whatever its form) and the
    masking key (if any) bring `parse()` to `gotMask`, run in the state the frame started from. -/
theorem BiteLoop.hdr {v : Variant} {α : Type} (L : BiteLoop v α) (p : PState) (hb : Boundary p) (b0 b1 : Nat)
    (ext key : Bytes) (len : Nat) (h : HdrLen b1 ext len) (hk : key.length = if b1 ≥ 128 then 4 else 0)
    (rest : Bytes) :
    ∃ q : PState, L.run p ([b0, b1] ++ (ext ++ (key ++ rest))) =
        L.after q (gotMask v p.resumed b0 len (if decide (b1 ≥ 128) then some key else none)) rest := by
  have hk' : key.length = if decide (b1 ≥ 128) = true then 4 else 0 := by simpa using hk
  rw [L.field p [b0, b1] _ hb.utf8 hb.buf (by simp [hb.rem]), resume_hdr2_any v p b0 b1 hb.cont]
  by_cases hl : b1 % 128 ≥ 126
  · obtain ⟨he, hv⟩ := h.long hl
    rw [if_pos hl, L.silent,
      L.field _ ext _ rfl rfl (by rw [he]; unfold extWait; split <;> rfl),
      resume_ext v _ b0 b1 ext rfl, hv]
    exact L.gotLength (extWait p b0 b1).resumed p.resumed (extWait p b0 b1) ⟨rfl, rfl, rfl, rfl⟩ b0 _ len h.small key rest hk'
  · obtain ⟨he, hv⟩ := h.short (by omega)
    rw [if_neg hl, he, List.nil_append, ← hv]
    exact L.gotLength p.resumed p.resumed p ⟨rfl, rfl, rfl, rfl⟩ b0 _ len h.small key rest hk'

/-- the grammar's answer to one whole frame; with an empty payload `gotMask` already produces it -/
def frameRes (v : Variant) (p : PState) (b0 : Nat) (key : Option Bytes) (payload : Bytes) :
    Except Exn (PState × Option Out) :=
  match gotMask v p.resumed b0 payload.length key with
  | .ok (p1, none) => biteBytes v p1 payload
  | r => r

theorem gotMask_shape (v : Variant) (p : PState) (b0 len : Nat) (key : Option Bytes) (p1 : PState) (o : Option Out)
    (h : gotMask v p b0 len key = .ok (p1, o)) :
    (o = none → p1.remPred + 1 = len ∧ ∃ f, p1.cont = .payload f) ∧ (o ≠ none → len = 0) := by
  unfold gotMask at h
  simp only [] at h
  split at h
  · cases h
  · split at h
    · cases h; exact ⟨fun _ => ⟨by simp only []; omega, _, rfl⟩, fun h => (h rfl).elim⟩
    · unfold frameDone at h
      split at h <;> cases h
      exact ⟨fun h => (by cases h), fun _ => (by omega)⟩

theorem BiteLoop.frame {v : Variant} {α : Type} (L : BiteLoop v α) (p : PState) (hb : Boundary p) (b0 b1 : Nat)
    (ext key payload : Bytes) (h : HdrLen b1 ext payload.length) (hk : key.length = if b1 ≥ 128 then 4 else 0)
    (rest : Bytes) :
    ∃ q : PState, L.run p ([b0, b1] ++ (ext ++ (key ++ (payload ++ rest)))) =
        L.after q (frameRes v p b0 (if decide (b1 ≥ 128) then some key else none) payload) rest := by
  obtain ⟨q, e⟩ := L.hdr p hb b0 b1 ext key payload.length h hk (payload ++ rest)
  rw [e]
  unfold frameRes
  generalize (if decide (b1 ≥ 128) then some key else none) = k
  cases hg : gotMask v p.resumed b0 payload.length k with
  | error x => exact ⟨q, L.failed q x _ _⟩
  | ok r =>
    obtain ⟨p1, o⟩ := r
    obtain ⟨g1, g2⟩ := gotMask_shape v _ b0 _ k p1 o hg
    cases o with
    | some o =>
      rw [List.eq_nil_of_length_eq_zero (g2 (by simp)), List.nil_append]
      exact ⟨q, rfl⟩
    | none =>
      exact ⟨p1, by rw [L.silent, L.bite p1 payload rest (g1 rfl).1.symm]⟩

def PRun.after (v : Variant) (q : PState) (r : Except Exn (PState × Option Out)) (rest : Bytes) : PRun :=
  match r with
  | .error x => { p := deadParser q, err := some x }
  | .ok r => (pRun v r.1 rest).push r

def pLoop (v : Variant) : BiteLoop v PRun where
  run := pRun v
  after := PRun.after v
  bite := pRun_bite v
  silent := fun _ _ _ => rfl
  failed := fun _ _ _ _ => rfl

def feedAfter (s : Sys) (q : PState) (r : Except Exn (PState × Option Out)) (rest : Bytes) : Res Bool :=
  match r with
  | .error x => .err x { s with p := deadParser q }
  | .ok (p', none) => feedLoop rest { s with p := p' }
  | .ok (p', some o) => contLoop (onOut o { s with p := p' }) rest

theorem feedLoop_chunk (s : Sys) (p : PState) (chunk rest : Bytes) (hl : chunk.length = p.remPred + 1) :
    feedLoop (chunk ++ rest) { s with p := p } = feedAfter s p (biteBytes s.cfg.v p chunk) rest := by
  have hne : chunk ++ rest ≠ [] := by
    cases chunk with
    | nil => simp at hl
    | cons => simp
  rw [feedLoop]
  simp only [hne, dite_false]
  rw [← hl, List.take_left' rfl, List.drop_left' rfl]
  unfold feedAfter contLoop
  cases biteBytes s.cfg.v p chunk with
  | error x => rfl
  | ok r =>
    obtain ⟨p', out⟩ := r
    cases out with
    | none => rfl
    | some o =>
      simp only []
      generalize onOut o { s with p := p' } = q
      cases q with
      | err x s2 => rfl
      | ok go s2 => cases go <;> rfl

def fLoop (s : Sys) : BiteLoop s.cfg.v (Res Bool) where
  run := fun p data => feedLoop data { s with p := p }
  after := feedAfter s
  bite := feedLoop_chunk s
  silent := fun _ _ _ => rfl
  failed := fun _ _ _ _ => rfl

def LenForm.b1 (form : LenForm) (len : Nat) : Nat :=
  match form with | .short => len | .ext16 => 126 | .ext64 => 127
def LenForm.n (form : LenForm) : Nat :=
  match form with | .short => 0 | .ext16 => 2 | .ext64 => 8

theorem lenBytes_eq (form : LenForm) (len : Nat) : lenBytes form len = form.b1 len :: beBytes form.n len := by
  cases form <;> rfl

theorem hdrLen_form (form : LenForm) (len : Nat) (hf : form.ok len) :
    HdrLen (form.b1 len) (beBytes form.n len) len ∧ form.b1 len < 128 := by
  cases form
  · have : len < 126 := hf
    have e : len % 128 = len := Nat.mod_eq_of_lt (by omega)
    exact ⟨⟨fun _ => ⟨rfl, e.symm⟩, fun h => by simp only [LenForm.b1, e] at h; omega, by omega⟩, by simp only [LenForm.b1]; omega⟩
  · have : len < 65536 := hf
    exact ⟨⟨fun h => by simp [LenForm.b1] at h, fun _ => ⟨beBytes_length _ _, beVal_beBytes _ _ (show len < 256 ^ 2 by omega)⟩, by omega⟩, show (126 : Nat) < 128 by decide⟩
  · have : len < 2 ^ 63 := hf
    exact ⟨⟨fun h => by simp [LenForm.b1] at h, fun _ => ⟨beBytes_length _ _, beVal_beBytes _ _ (show len < 256 ^ 8 by omega)⟩, this⟩, show (127 : Nat) < 128 by decide⟩

theorem pRun_header (v : Variant) (p : PState) (hb : Boundary p) (b0 len : Nat) (form : LenForm)
    (hf : form.ok len) (rest : Bytes) :
    ∃ q : PState, pRun v p (b0 :: lenBytes form len ++ rest) =
      match gotMask v p.resumed b0 len none with
      | .error x => { p := deadParser q, err := some x }
      | .ok r => (pRun v r.1 rest).push r := by
  obtain ⟨h, hlt⟩ := hdrLen_form form len hf
  have hm : ¬ form.b1 len ≥ 128 := by omega
  obtain ⟨q, e⟩ := (pLoop v).hdr p hb b0 (form.b1 len) (beBytes form.n len) [] len h (by simp [hm]) rest
  have e : pRun v p _ = PRun.after v q _ rest := e
  refine ⟨q, ?_⟩
  rw [lenBytes_eq]
  simp only [hm, decide_false, Bool.false_eq_true, if_false, List.nil_append] at e
  simpa [PRun.after] using e

/-- big-step effect of one complete unmasked frame (first byte `b0`, payload `payload`) on a parser
    at a frame boundary: `gotMask` (frame construction, validation, `_is_text` bookkeeping), then
    the payload read with its incremental UTF-8 validation, then `on_frame` -/
def frameStep (v : Variant) (p : PState) (b0 : Nat) (payload : Bytes) : Except Exn (PState × Out) :=
  match frameRes v p b0 none payload with
  | .error x => .error x
  | .ok (p2, some o) => .ok (p2, o)
  | .ok (_, none) => .error (.other "unreachable")

theorem frameRes_out (v : Variant) (p : PState) (b0 : Nat) (key : Option Bytes) (payload : Bytes) (p2 : PState)
    (h : frameRes v p b0 key payload = .ok (p2, none)) : False := by
  unfold frameRes at h
  split at h
  · next p1 hg =>
    obtain ⟨hl, f, hc⟩ := (gotMask_shape v _ b0 _ key p1 none hg).1 rfl
    rw [biteBytes_eq] at h
    split at h
    · cases h
    · rw [if_neg (by omega)] at h
      unfold resume at h
      simp only [hc] at h
      unfold frameDone at h
      split at h <;> cases h
  · next hne => exact hne p2 h

/-- C01, parser side: from a frame boundary, the bytes of one unmasked frame in any length form
    make the eager parser do exactly `frameStep`: the error with no output, or the frame as its
    single output, and the parser goes on with the rest. -/
theorem pRun_frame (v : Variant) (p : PState) (hb : Boundary p) (b0 : Nat) (form : LenForm)
    (payload : Bytes) (hf : form.ok payload.length) (rest : Bytes) :
    ∃ q : PState, pRun v p (serialise b0 form payload ++ rest) =
      match frameStep v p b0 payload with
      | .error x => { p := deadParser q, err := some x }
      | .ok r => (pRun v r.1 rest).push (r.1, some r.2) := by
  obtain ⟨h, hlt⟩ := hdrLen_form form payload.length hf
  have hm : ¬ form.b1 payload.length ≥ 128 := by omega
  obtain ⟨q, e⟩ := (pLoop v).frame p hb b0 (form.b1 _) (beBytes form.n _) [] payload h (by simp [hm]) rest
  refine ⟨q, ?_⟩
  have e0 : serialise b0 form payload ++ rest =
      [b0, form.b1 payload.length] ++ (beBytes form.n payload.length ++ ([] ++ (payload ++ rest))) := by
    simp [serialise, lenBytes_eq]
  rw [e0]
  refine e.trans ?_
  simp only [hm, decide_false, Bool.false_eq_true, if_false]
  show PRun.after v q (frameRes v p b0 none payload) rest = _
  unfold frameStep PRun.after
  cases hr : frameRes v p b0 none payload with
  | error x => rfl
  | ok r =>
    obtain ⟨p2, o⟩ := r
    cases o with
    | some o => rfl
    | none => exact (frameRes_out v p b0 none payload p2 hr).elim

/-- the frame object `parse()` builds from the first byte of an unmasked frame -/
def hdrFrame (b0 : Nat) : Frame :=
  { opcode := b0 % 16, payload := [], fin := b0 / 128, rsv1 := b0 / 64 % 2,
    rsv2 := b0 / 32 % 2, rsv3 := b0 / 16 % 2, mask := false, maskingKey := none }

/-- "the payload of this message is not validated incrementally" -/
def noValidate (v : Variant) (p : PState) : Prop :=
  if v.perMsgValidate then p.compression ∧ p.isCompressed else p.compression

instance (v : Variant) (p : PState) : Decidable (noValidate v p) :=
  inferInstanceAs (Decidable (if v.perMsgValidate then p.compression ∧ p.isCompressed else p.compression))

/-- parser state once the header of a frame has been accepted (`_is_text` bookkeeping) -/
def afterHdr (p : PState) (f : Frame) : PState :=
  if f.isText then { p with isText := true, isCompressed := f.rsv1 ≠ 0 } else p

/-- is the payload read with `read_utf8` -/
def valFlag (v : Variant) (p1 : PState) (f : Frame) : Bool :=
  (f.isText ∨ (f.isContinuation ∧ p1.isText)) ∧ ¬ noValidate v p1

/-- parser state after `on_frame` -/
def doneState (v : Variant) (p : PState) (f : Frame) : PState :=
  { p with cont := .hdr2, remPred := 1, utf8 := false, buf := [],
           dfa := if ¬ noValidate v p ∧ f.fin ≠ 0 ∧ (f.isText ∨ f.isContinuation) then 0 else p.dfa,
           isText := if f.fin ≠ 0 ∧ (¬ v.keepIsText ∨ ¬ f.isControl) then false else p.isText }

theorem frameDone_unmasked (v : Variant) (p : PState) (f : Frame) (h : f.mask = false) :
    frameDone v p f = .ok (doneState v p f, some (.frame f)) := by
  unfold frameDone
  simp only [h, Bool.false_eq_true, if_false]
  rfl

def payloadState (v : Variant) (p1 : PState) (f : Frame) (len : Nat) : PState :=
  { p1 with cont := .payload f, remPred := len - 1, utf8 := valFlag v p1 f, buf := [] }

theorem gotMask_eq (v : Variant) (p : PState) (b0 len : Nat) :
    gotMask v p b0 len none =
      match validateFrame v p.compression (hdrFrame b0) len with
      | .error x => .error x
      | .ok () =>
        if len ≠ 0 then
          .ok (payloadState v (afterHdr p (hdrFrame b0)) (hdrFrame b0) len, none)
        else frameDone v (afterHdr p (hdrFrame b0)) (hdrFrame b0) := by
  unfold gotMask
  rfl

theorem afterHdr_dfa (p : PState) (f : Frame) : (afterHdr p f).dfa = p.dfa := by
  unfold afterHdr; split <;> rfl

theorem frameStep_eq (v : Variant) (p : PState) (b0 : Nat) (payload : Bytes)
    (hv : validateFrame v p.compression (hdrFrame b0) payload.length = .ok ()) :
    frameStep v p b0 payload =
      match vres (payload ≠ [] ∧ valFlag v (afterHdr p.resumed (hdrFrame b0)) (hdrFrame b0)) p.dfa payload with
      | none => .error (.parse "invalid utf8")
      | some d =>
        .ok (doneState v { afterHdr p.resumed (hdrFrame b0) with dfa := d } { hdrFrame b0 with payload := payload },
             .frame { hdrFrame b0 with payload := payload }) := by
  unfold frameStep frameRes
  rw [gotMask_eq]
  have hv' : validateFrame v p.resumed.compression (hdrFrame b0) payload.length = .ok () := hv
  rw [hv']
  simp only []
  have hAd : (afterHdr p.resumed (hdrFrame b0)).dfa = p.dfa := afterHdr_dfa _ _
  generalize afterHdr p.resumed (hdrFrame b0) = A at hAd ⊢
  generalize hF : hdrFrame b0 = F
  have hFm : F.mask = false := by rw [← hF]; rfl
  by_cases hlen : payload.length = 0
  · have hp : payload = [] := List.eq_nil_of_length_eq_zero hlen
    subst hp
    have hFp : F.payload = [] := by rw [← hF]; rfl
    simp only [List.length_nil, ne_eq, not_true_eq_false, if_false, false_and, decide_false, vres,
      Bool.false_eq_true]
    rw [frameDone_unmasked _ _ F hFm]
    simp only []
    have e1 : ({ F with payload := [] } : Frame) = F := by cases F; simp_all
    have e2 : ({ A with dfa := p.dfa } : PState) = A := by cases A; simp_all
    rw [e1, e2]
  · have hp : payload ≠ [] := by intro h; subst h; exact hlen rfl
    simp only [hlen, ne_eq, not_false_eq_true, if_true]
    rw [biteBytes_eq]
    have e1 : (payloadState v A F payload.length).utf8 = valFlag v A F := rfl
    have e2 : (payloadState v A F payload.length).dfa = p.dfa := hAd
    have e3 : (payloadState v A F payload.length).remPred + 1 = payload.length := by
      show payload.length - 1 + 1 = payload.length
      omega
    have e4 : (payloadState v A F payload.length).buf = [] := rfl
    have e5 : decide (¬ payload = [] ∧ valFlag v A F = true) = valFlag v A F := by
      simp [hp]
    rw [e1, e2, e3, e4, e5]
    cases vres (valFlag v A F) p.dfa payload with
    | none => rfl
    | some d =>
      simp only [Nat.lt_irrefl, if_false, List.nil_append]
      unfold resume
      simp only [payloadState]
      rw [frameDone_unmasked _ _ { F with payload := payload } hFm]
      simp only []
      rfl

end Lomond.Core
