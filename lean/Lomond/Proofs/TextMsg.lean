/-
  The message-level part of C05 in the core model: `Text.from_payload` builds a text message exactly from
  well-formed payloads, the `_ReadUtf8` awaitable fails at the first offending byte, and which frames are
  read with validation.
-/
import Lomond.Proofs.Utf8
import Lomond.Proofs.Core
namespace Lomond.Core
open Lomond Lomond.Utf8

/-- `Text.from_payload`: a text message is built exactly from well-formed payloads, and the text is
    the exact decoding -/
theorem msgOfPayload_text (payload : Bytes) :
    (∀ cps, msgOfPayload Gen.opText payload = .ok (.text cps) ↔ Utf8.decode payload = some cps) ∧
    (msgOfPayload Gen.opText payload = .error (.critical "payload contains invalid utf-8") ↔ Utf8.wf payload = false) := by
  have hop : Gen.opText ≠ Gen.opBinary := by decide
  unfold msgOfPayload
  simp only [hop, if_false, if_true]
  have hs := Utf8.decode_isSome payload
  cases hd : Utf8.decode payload with
  | none =>
    rw [hd] at hs
    refine ⟨fun cps => ⟨fun h => (by simp at h), fun h => (by cases h)⟩, ?_⟩
    simp at hs
    simp [hs]
  | some cps =>
    rw [hd] at hs
    refine ⟨fun c => ⟨fun h => (by simp at h; rw [h]), fun h => (by cases h; rfl)⟩, ?_⟩
    simp at hs
    simp [hs]

theorem validate_after_prefix (pre chunk : Bytes) (d : Nat) (h : Utf8.validate 0 pre = some d) :
    Utf8.validate d chunk = Utf8.validate 0 (pre ++ chunk) := by
  rw [Utf8.validate_append, h]; rfl


/-- `validate` from the state reached after `pre` rejects `chunk` iff `pre ++ chunk` has no
    well-formed extension -/
theorem validate_none_iff (pre chunk : Bytes) (d : Nat) (h : Utf8.validate 0 pre = some d)
    (hw : Bytes.WF (pre ++ chunk)) :
    Utf8.validate d chunk = none ↔ ∀ ext, Utf8.wf (pre ++ chunk ++ ext) = false := by
  rw [validate_after_prefix pre chunk d h]
  have hr := Utf8.run_eq_srun 0 (pre ++ chunk) (by decide) hw
  rw [Utf8.validate_eq_run 0 _ (by decide) (by decide) hw]
  constructor
  · intro hn ext
    have h1 : Utf8.srun 0 (pre ++ chunk) = 1 := by
      by_cases h1 : Utf8.srun 0 (pre ++ chunk) = 1
      · exact h1
      · simp [h1] at hn
    have : Utf8.srun 0 (pre ++ chunk ++ ext) = 1 := by rw [Utf8.srun_append, h1, Utf8.srun_reject]
    cases hwf : Utf8.wf (pre ++ chunk ++ ext)
    · rfl
    · have := (Utf8.srun_zero_iff_wf _).mpr hwf; omega
  · intro hall
    by_cases h1 : Utf8.srun 0 (pre ++ chunk) = 1
    · simp [h1]
    · exfalso
      have hlt := Utf8.srun_lt 0 (pre ++ chunk) (by decide)
      have hc := Utf8.completion_accepts ⟨_, hlt⟩ h1
      have : Utf8.srun 0 (pre ++ chunk ++ Utf8.completion (Utf8.srun 0 (pre ++ chunk))) = 0 := by
        rw [Utf8.srun_append]; exact hc
      have := (Utf8.srun_zero_iff_wf _).mp this
      rw [hall] at this; cases this

/-- **Fail-fast at the parser.**  While a text payload is being read with incremental validation
    (`_ReadUtf8`), a bite is answered with `ParseError('invalid utf8')` at once — before the rest of
    the frame or message arrives — iff the text bytes received so far plus this bite admit no
    well-formed continuation; otherwise the validator lets it pass. -/
theorem failfast_bite (v : Variant) (p : PState) (pre chunk : Bytes) (hu : p.utf8 = true)
    (hpre : Utf8.validate 0 pre = some p.dfa) (hw : Bytes.WF (pre ++ chunk)) :
    ((∀ ext, Utf8.wf (pre ++ chunk ++ ext) = false) → biteBytes v p chunk = .error (.parse "invalid utf8")) ∧
    ((∃ ext, Utf8.wf (pre ++ chunk ++ ext) = true) → ∃ d, vres p.utf8 p.dfa chunk = some d) := by
  have key := validate_none_iff pre chunk p.dfa hpre hw
  constructor
  · intro hall
    rw [biteBytes_eq]
    have : vres p.utf8 p.dfa chunk = none := by simp [vres, hu]; exact key.mpr hall
    rw [this]
  · intro ⟨ext, hext⟩
    cases hv : vres p.utf8 p.dfa chunk with
    | some d => exact ⟨d, rfl⟩
    | none =>
      exfalso
      have : Utf8.validate p.dfa chunk = none := by simpa [vres, hu] using hv
      have := key.mp this ext
      rw [hext] at this; cases this

/-- an uncompressed (RSV1 = 0) text frame with a payload is read with incremental validation,
    whether or not permessage-deflate was negotiated (repair of D9) -/
theorem text_frame_is_validated (v : Variant) (hv : v.perMsgValidate = true) (p : PState) (b0 len : Nat)
    (key : Option Bytes) (r : PState × Option Out)
    (hop : b0 % 16 = Gen.opText) (hrsv : b0 / 64 % 2 = 0) (hlen : len ≠ 0)
    (h : gotMask v p b0 len key = .ok r) :
    r.1.utf8 = true ∧ r.1.isText = true ∧ r.1.isCompressed = false := by
  unfold gotMask at h
  simp only [Frame.isText, Frame.isContinuation, hop] at h
  split at h
  · cases h
  · simp [hlen, hrsv, hv] at h
    rw [← h]; simp

end Lomond.Core
