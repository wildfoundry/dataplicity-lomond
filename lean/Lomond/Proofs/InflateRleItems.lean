/-
  Code-length items (RFC 1951 §3.2.7: the symbols 0..15 and the repeat codes 16, 17, 18) of
  Model/DeflEnc.lean: what `expand` does on concatenations, and the run-length compressor `rle`
  (`expand (rle l) = some l`, every item it makes is in range).  Pure list facts; the inflater's
  side is in Proofs/InflateRle.lean.
-/
import Lomond.Model.DeflEnc
namespace Lomond.DeflEnc
open Lomond

theorem expandGo_append (acc : List Nat) (a b : List Item) :
    expandGo acc (a ++ b) = (expandGo acc a).bind (fun acc' => expandGo acc' b) := by
  induction a generalizing acc with
  | nil => simp [expandGo]
  | cons it a ih =>
    cases it with
    | lit n => simp only [List.cons_append, expandGo, ih]
    | rep16 k =>
      simp only [List.cons_append, expandGo]
      cases acc.getLast? with
      | none => rfl
      | some v => simp only [ih]
    | rep17 k => simp only [List.cons_append, expandGo, ih]
    | rep18 k => simp only [List.cons_append, expandGo, ih]

theorem expandGo_cons_some (acc : List Nat) (it : Item) (r : List Item) (lens : List Nat)
    (h : expandGo acc (it :: r) = some lens) :
    ∃ ext, expandGo (acc ++ ext) r = some lens ∧ (it.ok = true → 1 ≤ ext.length) := by
  cases it with
  | lit n => exact ⟨[n], h, fun _ => Nat.le_refl _⟩
  | rep16 k =>
    simp only [expandGo] at h
    cases hl : acc.getLast? with
    | none => rw [hl] at h; cases h
    | some v =>
      rw [hl] at h
      refine ⟨_, h, fun hok => ?_⟩
      simp only [Item.ok, Bool.and_eq_true, decide_eq_true_eq] at hok
      rw [List.length_replicate]; omega
  | rep17 k | rep18 k =>
    refine ⟨_, h, fun hok => ?_⟩
    simp only [Item.ok, Bool.and_eq_true, decide_eq_true_eq] at hok
    rw [List.length_replicate]; omega

theorem expandGo_length (acc : List Nat) (items : List Item) (lens : List Nat) (h : expandGo acc items = some lens) :
    acc.length ≤ lens.length := by
  induction items generalizing acc with
  | nil => simp only [expandGo, Option.some.injEq] at h; rw [h]; exact Nat.le_refl _
  | cons it items ih =>
    obtain ⟨ext, h', _⟩ := expandGo_cons_some acc it items lens h
    have := ih _ h'
    rw [List.length_append] at this
    omega

theorem expandGo_count (acc : List Nat) (items : List Item) (lens : List Nat) (hok : ∀ it ∈ items, it.ok = true)
    (h : expandGo acc items = some lens) : acc.length + items.length ≤ lens.length := by
  induction items generalizing acc with
  | nil => simp only [expandGo, Option.some.injEq] at h; rw [h]; simp
  | cons it items ih =>
    obtain ⟨ext, h', h1⟩ := expandGo_cons_some acc it items lens h
    have := ih _ (fun it' h' => hok it' (by simp [h'])) h'
    have := h1 (hok it (by simp))
    rw [List.length_append] at *
    rw [List.length_cons]
    omega

theorem expandGo_zeroRun (fuel n : Nat) (h : n ≤ fuel) (acc : List Nat) :
    expandGo acc (zeroRun fuel n) = some (acc ++ List.replicate n 0) := by
  induction fuel generalizing n acc with
  | zero =>
    obtain rfl : n = 0 := by omega
    simp [zeroRun, expandGo]
  | succ fuel ih =>
    unfold zeroRun
    split
    · next h0 => subst h0; simp [expandGo]
    · split
      · simp only [expandGo]
        rw [ih (n - 1) (by omega), List.append_assoc]
        congr 2
        obtain ⟨m, rfl⟩ : ∃ m, n = m + 1 := ⟨n - 1, by omega⟩
        simp [List.replicate_succ]
      · split
        · simp [expandGo]
        · split
          · simp [expandGo]
          · simp only [expandGo]
            rw [ih (n - 138) (by omega), List.append_assoc, List.replicate_append_replicate]
            have e : 138 + (n - 138) = n := by omega
            rw [e]

theorem getLast?_append_replicate (acc : List Nat) (k v : Nat) (h : acc.getLast? = some v) :
    (acc ++ List.replicate k v).getLast? = some v := by
  cases k with
  | zero => simpa using h
  | succ k =>
    rw [List.getLast?_append, List.getLast?_replicate]
    simp

theorem expandGo_sameRun (fuel v n : Nat) (h : n ≤ fuel) (acc : List Nat) (hl : acc.getLast? = some v) :
    expandGo acc (sameRun fuel v n) = some (acc ++ List.replicate n v) := by
  induction fuel generalizing n acc with
  | zero =>
    obtain rfl : n = 0 := by omega
    simp [sameRun, expandGo]
  | succ fuel ih =>
    unfold sameRun
    split
    · next h0 => subst h0; simp [expandGo]
    · split
      · simp only [expandGo]
        rw [ih (n - 1) (by omega) _ (by simp), List.append_assoc]
        congr 2
        obtain ⟨m, rfl⟩ : ∃ m, n = m + 1 := ⟨n - 1, by omega⟩
        simp [List.replicate_succ]
      · split
        · simp [expandGo, hl]
        · simp only [expandGo, hl]
          rw [ih (n - 6) (by omega) _ (getLast?_append_replicate acc 6 v hl), List.append_assoc,
            List.replicate_append_replicate]
          have e : 6 + (n - 6) = n := by omega
          rw [e]

theorem runLen_split (v : Nat) (r : List Nat) : r = List.replicate (runLen v r) v ++ r.drop (runLen v r) := by
  induction r with
  | nil => rfl
  | cons x r ih =>
    unfold runLen
    split
    · next hx =>
      subst hx
      simp only [List.replicate_succ, List.cons_append, List.drop_succ_cons]
      rw [← ih]
    · simp

theorem expandGo_rleGo (fuel : Nat) (l : List Nat) (h : l.length ≤ fuel) (acc : List Nat) :
    expandGo acc (rleGo fuel l) = some (acc ++ l) := by
  induction fuel generalizing l acc with
  | zero =>
    have : l = [] := List.length_eq_zero_iff.mp (by omega)
    subst this
    simp [rleGo, expandGo]
  | succ fuel ih =>
    cases l with
    | nil => simp [rleGo, expandGo]
    | cons v r =>
      simp only [List.length_cons] at h
      have hsplit := runLen_split v r
      have hd : (r.drop (runLen v r)).length ≤ fuel := by simp only [List.length_drop]; omega
      simp only [rleGo]
      rw [expandGo_append]
      by_cases hv : v = 0
      · subst hv
        simp only [if_true]
        rw [expandGo_zeroRun _ _ (Nat.le_refl _)]
        simp only [Option.bind_some]
        rw [ih _ hd, List.append_assoc]
        congr 2
        rw [List.replicate_succ, List.cons_append, ← hsplit]
      · simp only [hv, if_false, expandGo]
        rw [expandGo_sameRun _ _ _ (Nat.le_refl _) _ (by simp)]
        simp only [Option.bind_some]
        rw [ih _ hd, List.append_assoc, List.append_assoc]
        congr 2
        rw [List.singleton_append, ← hsplit]

theorem expand_rle (l : List Nat) : expand (rle l) = some l := by
  simp only [expand, rle]
  rw [expandGo_rleGo _ _ (Nat.le_refl _)]
  simp

theorem zeroRun_ok (fuel n : Nat) : ∀ it ∈ zeroRun fuel n, it.ok = true ∧ 16 < it.sym ∨ it = .lit 0 := by
  induction fuel generalizing n with
  | zero => simp [zeroRun]
  | succ fuel ih =>
    unfold zeroRun
    split
    · simp
    · split
      · intro it hit
        simp only [List.mem_cons] at hit
        rcases hit with rfl | hit
        · right; rfl
        · exact ih _ it hit
      · split
        · intro it hit
          rw [List.mem_singleton.mp hit]
          exact .inl ⟨by simp only [Item.ok, Bool.and_eq_true, decide_eq_true_eq]; omega, by simp [Item.sym]⟩
        · split
          · intro it hit
            rw [List.mem_singleton.mp hit]
            exact .inl ⟨by simp only [Item.ok, Bool.and_eq_true, decide_eq_true_eq]; omega, by simp [Item.sym]⟩
          · intro it hit
            simp only [List.mem_cons] at hit
            rcases hit with rfl | hit
            · left; simp [Item.ok, Item.sym]
            · exact ih _ it hit

theorem sameRun_ok (fuel v n : Nat) : ∀ it ∈ sameRun fuel v n, it.ok = true ∧ it.sym = 16 ∨ it = .lit v := by
  induction fuel generalizing n with
  | zero => simp [sameRun]
  | succ fuel ih =>
    unfold sameRun
    split
    · simp
    · split
      · intro it hit
        simp only [List.mem_cons] at hit
        rcases hit with rfl | hit
        · right; rfl
        · exact ih _ it hit
      · split
        · intro it hit
          rw [List.mem_singleton.mp hit]
          exact .inl ⟨by simp only [Item.ok, Bool.and_eq_true, decide_eq_true_eq]; omega, by simp [Item.sym]⟩
        · intro it hit
          simp only [List.mem_cons] at hit
          rcases hit with rfl | hit
          · left; simp [Item.ok, Item.sym]
          · exact ih _ it hit

theorem rleGo_ok (fuel : Nat) (l : List Nat) (h15 : ∀ x ∈ l, x ≤ 15) :
    ∀ it ∈ rleGo fuel l, it.ok = true ∧ it.sym < 19 := by
  induction fuel generalizing l with
  | zero => simp [rleGo]
  | succ fuel ih =>
    cases l with
    | nil => simp [rleGo]
    | cons v r =>
      have hv : v ≤ 15 := h15 v (by simp)
      intro it hit
      simp only [rleGo, List.mem_append] at hit
      rcases hit with hit | hit
      · by_cases h0 : v = 0
        · subst h0
          simp only [if_true] at hit
          rcases zeroRun_ok _ _ it hit with ⟨h1, h2⟩ | rfl
          · refine ⟨h1, ?_⟩
            cases it <;> simp [Item.sym] at h2 ⊢
            simp [Item.ok] at h1; omega
          · simp [Item.ok, Item.sym]
        · simp only [h0, if_false, List.mem_cons] at hit
          rcases hit with rfl | hit
          · simp only [Item.ok, Item.sym, decide_eq_true_eq]; omega
          · rcases sameRun_ok _ _ _ it hit with ⟨h1, h2⟩ | rfl
            · exact ⟨h1, by omega⟩
            · simp only [Item.ok, Item.sym, decide_eq_true_eq]; omega
      · exact ih _ (fun x hx => h15 x (List.mem_cons_of_mem _ (List.mem_of_mem_drop hx))) it hit

theorem rle_ok (l : List Nat) (h15 : ∀ x ∈ l, x ≤ 15) : ∀ it ∈ rle l, it.ok = true ∧ it.sym < 19 :=
  rleGo_ok _ l h15

theorem clDefault_all : ∀ s, s < 19 → 1 ≤ clDefault.getD s 0 := by decide

theorem clOk_default : clOk clDefault 19 = true := by decide

theorem rleOk_rleOf (ll dl : List Nat) (toks : List Deflate.Token) :
    rleOk clDefault 19 ll.length (rle (ll ++ dl)) toks = dynOk ll dl toks := by
  unfold rleOk
  rw [expand_rle, clOk_default]
  simp only [List.take_left', List.drop_left', Bool.true_and]
  cases hd : dynOk ll dl toks with
  | false => simp
  | true =>
    simp only [Bool.and_true, List.all_eq_true, Bool.and_eq_true, decide_eq_true_eq]
    have h15 : ∀ x ∈ ll ++ dl, x ≤ 15 := by
      simp only [dynOk, Bool.and_eq_true, List.all_eq_true, decide_eq_true_eq] at hd
      exact hd.1.1.1.1.2
    intro it hit
    obtain ⟨h1, h2⟩ := rle_ok _ h15 it hit
    exact ⟨h1, clDefault_all _ h2⟩

end Lomond.DeflEnc
