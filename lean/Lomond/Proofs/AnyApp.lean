/-
  An arbitrary application after a protocol violation: `ReactSeg` (what the application's calls and
  the timer events add to the trace), what one application call can do (`AK`, `ak_logRes`: for every `ApiCall`
  of Proofs/ApiCalls.lean), `PingOK` / `pingOK_feedBody` (no automatic Ping is due inside
  `WebSocket.feed`), the `except` clauses for any application (`feedHandler_any_app`), `TailV`
  (nothing is written once the socket is closed), and the whole-run theorem `runAll_trace2`, an
  instance of `runAll_report` of Proofs/Report.lean.
-/
import Lomond.Proofs.EndToEnd
import Lomond.Proofs.ApiCalls

namespace Lomond.Core.AnyApp
open Lomond Lomond.Core Lomond.Core.Timers

/-- a frame handed to `sendall` (whether it went out, went out compressed, or `sendall` raised) -/
def isWrite : Obs → Bool
  | .wr _ | .wrz _ _ | .wrFail _ => true
  | _ => false

/-- what one application call can do to the wire: a frame, or giving up the socket -/
def isEffect : Obs → Bool
  | .wr _ | .wrz _ _ | .wrFail _ | .sockClose => true
  | _ => false

/-- **the application's reaction** (newest first): a sequence of application calls — each is its
    result token `res r`, preceded in time by at most one wire effect *of that call* — and of the two
    timer events `Poll` / `Unresponsive`.  A frame written by the library itself (automatic Pong,
    automatic Ping, Close echo, the 1002 Close) is never followed by a result token, so no such frame
    fits in a `ReactSeg`. -/
inductive ReactSeg : List Obs → Prop
  | nil : ReactSeg []
  | call (r : ActRes) {l : List Obs} : ReactSeg l → ReactSeg (.res r :: l)
  | callW (r : ActRes) (o : Obs) {l : List Obs} (ho : isEffect o = true) : ReactSeg l → ReactSeg (.res r :: o :: l)
  | timer (e : Event) {l : List Obs} (he : e = .poll ∨ e = .unresponsive) : ReactSeg l → ReactSeg (.ev e :: l)

theorem ReactSeg.append {a b : List Obs} (ha : ReactSeg a) (hb : ReactSeg b) : ReactSeg (a ++ b) := by
  induction ha with
  | nil => exact hb
  | call r _ ih => exact .call r ih
  | callW r o ho _ ih => exact .callW r o ho ih
  | timer e he _ ih => exact .timer e he ih

theorem ReactSeg.calm {l : List Obs} (h : ReactSeg l) : ∀ o ∈ l, CalmV o := by
  induction h with
  | nil => intro o ho; cases ho
  | call r _ ih =>
    intro o ho
    rcases List.mem_cons.mp ho with rfl | ho
    · trivial
    · exact ih o ho
  | callW r o' ho' _ ih =>
    intro o ho
    rcases List.mem_cons.mp ho with rfl | ho
    · trivial
    · rcases List.mem_cons.mp ho with rfl | ho
      · cases o <;> first | trivial | cases ho'
      · exact ih o ho
  | timer e he _ ih =>
    intro o ho
    rcases List.mem_cons.mp ho with rfl | ho
    · rcases he with rfl | rfl <;> trivial
    · exact ih o ho

structure KF (s s' : Sys) : Prop where
  cfg : s'.cfg = s.cfg
  react : s'.react = s.react
  ready : s'.ready = s.ready
  startTime : s'.startTime = s.startTime
  now : s'.now = s.now
  nextPing : s'.nextPing = s.nextPing

theorem KF.refl (s : Sys) : KF s s := ⟨rfl, rfl, rfl, rfl, rfl, rfl⟩
theorem KF.trans {a b c : Sys} (h1 : KF a b) (h2 : KF b c) : KF a c :=
  ⟨h2.cfg.trans h1.cfg, h2.react.trans h1.react, h2.ready.trans h1.ready, h2.startTime.trans h1.startTime,
   h2.now.trans h1.now, h2.nextPing.trans h1.nextPing⟩

theorem KF.sessionTime {s s' : Sys} (h : KF s s') : sessionTime s' = sessionTime s := by
  unfold Core.sessionTime; rw [h.startTime, h.now]

/-- no automatic Ping is due (`_regular()` is only run once the websocket is ready) -/
def PingOK (s : Sys) : Prop := s.ready = true → ¬ pingDue s

theorem PingOK.of_kf {s s' : Sys} (k : KF s s') (h : PingOK s) : PingOK s' := by
  intro hr hd
  apply h (k.ready ▸ hr)
  unfold pingDue at *
  rw [k.sessionTime, k.cfg, k.nextPing] at hd
  exact hd

/-- a step made of application calls and timer events only -/
structure AK (s s' : Sys) : Prop where
  kf : KF s s'
  dead : s.sockOpen = false → s'.sockOpen = false
  trace : ∃ l, s'.trace = l ++ s.trace ∧ ReactSeg l ∧ (s.sockOpen = false → ∀ o ∈ l, isWrite o = false)

theorem ak_po : PO AK where
  refl s := ⟨KF.refl s, id, [], rfl, .nil, fun _ o ho => by cases ho⟩
  trans := by
    intro a b c h1 h2
    obtain ⟨l1, e1, r1, d1⟩ := h1.trace
    obtain ⟨l2, e2, r2, d2⟩ := h2.trace
    refine ⟨h1.kf.trans h2.kf, fun h => h2.dead (h1.dead h), l2 ++ l1, by rw [e2, e1, List.append_assoc],
      r2.append r1, fun h o ho => ?_⟩
    rcases List.mem_append.mp ho with ho | ho
    · exact d2 (h1.dead h) o ho
    · exact d1 h o ho

theorem ak_logRes {m : M ActRes} (hm : Pong.ApiCall m) : Spec AK (logRes m) := by
  intro s
  obtain ⟨r, s', e, f⟩ := Pong.api_eff hm s
  rw [logRes_ok e]
  simp only [Res.state_ok]
  refine ⟨⟨f.cfg, f.react, f.ready, f.startTime, f.now, f.nextPing⟩, fun h => (f.gone h).1, ?_⟩
  rcases f.trace with t | ⟨o, t, ho⟩
  · refine ⟨[.res r], ?_, .call r .nil, fun _ o ho => ?_⟩
    · show Obs.res r :: s'.trace = _
      rw [t]; rfl
    · simp at ho; subst ho; rfl
  · have ho' : isEffect o = true := by
      rcases ho with ho | rfl
      · cases o <;> first | rfl | cases ho
      · rfl
    refine ⟨[.res r, o], ?_, .callW r o ho' .nil, fun h => ?_⟩
    · show Obs.res r :: s'.trace = _
      rw [t]; rfl
    · have := (f.gone h).2
      rw [t] at this
      exact absurd this (by simp)

theorem ak_doActs (as : List Act) : Spec AK (doActs as) := spec_doActs ak_po as (fun a _ =>
  Pong.doAct_of_api (fun m hm => ak_logRes hm)
    (fun s w => ⟨⟨rfl, rfl, rfl, rfl, rfl, rfl⟩, id, [], rfl, .nil, fun _ o ho => by cases ho⟩) a)

theorem kf_pushEv (e : Event) (s : Sys) : KF s (pushEv e s) := ⟨rfl, rfl, rfl, rfl, rfl, rfl⟩

theorem ak_yield_from_push (e : Event) (s : Sys) : AK (pushEv e s) (yieldEv e s).state := by
  rw [yieldEv_eq]
  exact ak_doActs _ _

theorem ak_yield_timer (e : Event) (he : e = .poll ∨ e = .unresponsive) : Spec AK (yieldEv e) := by
  intro s
  have h := ak_yield_from_push e s
  obtain ⟨l, el, rl, dl⟩ := h.trace
  refine ⟨(kf_pushEv e s).trans h.kf, h.dead, l ++ [.ev e], ?_, rl.append (.timer e he .nil), fun hd o ho => ?_⟩
  · rw [el]; show l ++ (Obs.ev e :: s.trace) = _; simp
  · rcases List.mem_append.mp ho with ho | ho
    · exact dl hd o ho
    · simp at ho; subst ho; rfl

theorem ak_checkPoll : Spec AK checkPoll :=
  spec_checkPoll ak_po (fun s => ⟨⟨rfl, rfl, rfl, rfl, rfl, rfl⟩, id, [], rfl, .nil, fun _ o ho => by cases ho⟩)
    (ak_yield_timer .poll (Or.inl rfl))

/-- **`_regular()` with no automatic Ping due**: a Poll and an Unresponsive event at most, each with
    the application's reaction; the library writes nothing -/
theorem ak_regular (s : Sys) (hp : PingOK s) : AK s (regular s).state := by
  by_cases hr : s.ready = true
  · rw [Timers.regular_ready s hr]
    refine bind_at ak_po (ak_checkPoll s) (fun _ s1 hc => ?_)
    have k := (ak_checkPoll.ok hc).kf
    rw [bind_ok (checkAutoPing_quiet s1 (hp.of_kf k (k.ready.trans hr)))]
    exact spec_bind ak_po (spec_checkPingTimeout ak_po (ak_yield_timer .unresponsive (Or.inr rfl)))
      (fun _ => spec_checkCloseTimeout ak_po) s1
  · rw [regular_not_ready s (by simpa using hr)]
    exact ak_po.refl s

/-- **the `yield ProtocolError(...)` of the `except` clauses, any application**: what follows the
    event up to the point where the handler goes on (or an exception of `run()`'s frame ends it) is a
    `ReactSeg`: the application's calls and the timer events, no frame of the library's own -/
theorem feedYield_pe_seg (msg : String) (crit : Bool) (s : Sys) (hp : PingOK s) :
    AK (pushEv (.protocolError msg crit) s) (feedYield false (.protocolError msg crit) s).state := by
  rw [feedYield_pe]
  have key : AK (pushEv (.protocolError msg crit) s) (reactThenRegular (pushEv (.protocolError msg crit) s)).state := by
    unfold reactThenRegular
    rw [getS_bind]
    exact bind_at ak_po (ak_doActs _ _) (fun _ s1 h =>
      ak_regular s1 ((hp.of_kf (kf_pushEv _ s)).of_kf ((ak_doActs _).ok h).kf))
  cases hr : reactThenRegular (pushEv (.protocolError msg crit) s) with
  | ok a s2 => rw [hr] at key; exact key
  | err x s2 => rw [hr] at key; exact key

/-- **the `except` clauses of `WebSocket.feed`, any application** (cf. `feedHandler_spec`): exactly
    one ProtocolError event, then the application's reaction `l` (a `ReactSeg`), then at most one
    Close frame written by the library (`CloseWrite`), then the exception -/
theorem feedHandler_any_app (x : Exn) (msg : String) (crit : Bool) (hx : violationOf x = some (msg, crit))
    (s1 : Sys) (hp : PingOK s1) :
    ∃ y s2 l cw,
      feedHandler x s1 = .err y s2 ∧
      s2.trace = cw ++ l ++ .ev (.protocolError msg crit) :: s1.trace ∧
      ReactSeg l ∧ CloseWrite msg crit cw := by
  have hak := feedYield_pe_seg msg crit s1 hp
  obtain ⟨l, hl, hseg, _⟩ := hak.trace
  have hl' : (feedYield false (.protocolError msg crit) s1).state.trace
      = l ++ .ev (.protocolError msg crit) :: s1.trace := hl
  obtain ⟨herr, hok⟩ := feedHandler_after x msg crit hx s1
  cases hfy : feedYield false (.protocolError msg crit) s1 with
  | err y s2 =>
    rw [hfy] at hl'
    exact ⟨y, s2, l, [], herr y s2 hfy, by simpa using hl', hseg, Or.inl rfl⟩
  | ok u s2 =>
    rw [hfy] at hl'
    simp only [Res.state_ok] at hl'
    obtain ⟨y, s3, cw, e, ht, hcw, _, _⟩ := hok s2 hfy
    exact ⟨y, s3, l, cw, e, by rw [ht, hl', List.append_assoc], hseg, hcw⟩

/-- `_regular()` returned normally: it has just sent the Ping that was due -/
theorem regular_ok_pingOK {s s' : Sys} (h : regular s = .ok () s') : PingOK s' := by
  by_cases hr : s.ready = true
  · rw [Timers.regular_ready s hr] at h
    obtain ⟨_, sa, _, h⟩ := bind_ok_inv h
    obtain ⟨_, sb, hb, h⟩ := bind_ok_inv h
    obtain ⟨_, sc, hc, h⟩ := bind_ok_inv h
    obtain ⟨hnd, _⟩ := SegLoop.checkAutoPing_post hb
    obtain ⟨_, e1⟩ := SegLoop.checkPingTimeout_post hc
    obtain ⟨_, e2⟩ := SegLoop.checkCloseTimeout_post h
    subst e2; subst e1
    exact fun _ => hnd
  · have hr' : s.ready = false := by simpa using hr
    rw [regular_not_ready s hr'] at h
    cases h
    intro hr2; rw [hr'] at hr2; cases hr2

def RP (s s' : Sys) : Prop := PingOK s → PingOK s'

theorem rp_po : PO RP := Monitor.pres_po _

theorem rp_of_kf {s s' : Sys} (k : KF s s') : RP s s' := fun h => h.of_kf k

theorem rp_closeSocket : Spec RP closeSocket :=
  spec_closeSocket rp_po (fun _ _ => rp_of_kf ⟨rfl, rfl, rfl, rfl, rfl, rfl⟩)

theorem rp_call {m : M ActRes} (hm : Pong.ApiCall m) : Spec RP m := by
  intro s
  obtain ⟨r, s', e, f⟩ := Pong.api_eff hm s
  rw [e]; exact rp_of_kf ⟨f.cfg, f.react, f.ready, f.startTime, f.now, f.nextPing⟩

theorem rp_onDisconnect : Spec RP onDisconnect :=
  spec_onDisconnect rp_po rp_closeSocket (fun _ => rp_of_kf ⟨rfl, rfl, rfl, rfl, rfl, rfl⟩)

theorem rp_onEvent (e : Event) : Spec RP (onEvent e) := by
  refine spec_onEvent rp_po e (fun _ _ _ s => ?_) (fun _ _ s => rp_of_kf ⟨rfl, rfl, rfl, rfl, rfl, rfl⟩)
    (fun _ _ _ s _ => rp_call (.ctrl _ _ (.inr rfl)) s)
  -- Ready: the session clock starts at 0, the first Ping is due after 0
  intro _ _ hd
  unfold pingDue Core.sessionTime at hd
  simp only [Nat.sub_self] at hd
  omega

theorem rp_yieldEv (e : Event) : Spec RP (yieldEv e) := by
  intro s
  exact rp_of_kf ((kf_pushEv e s).trans (ak_yield_from_push e s).kf)

theorem rp_regular : Spec RP regular := fun s hp => hp.of_kf (ak_regular s hp).kf

theorem rp_feedYield (b : Bool) (e : Event) : Spec RP (feedYield b e) :=
  spec_feedYield rp_po b e (rp_onEvent e) (rp_yieldEv e) rp_regular rp_onDisconnect

theorem rp_leaves : Lift.Leaves RP where
  po := rp_po
  inert := fun _ _ h => rp_of_kf ⟨h.cfg, h.react, h.ready, h.startTime, h.now, h.nextPing⟩
  closeSocket := rp_closeSocket
  wsClose := fun c r => rp_call (.close c r)
  feedYield := fun b e _ => rp_feedYield b e

/-- **inside `WebSocket.feed` no automatic Ping is ever due** once `_regular()` has run at the top of
    the loop cycle: the model's clock only moves in `selector.wait` -/
theorem pingOK_feedBody (data : Bytes) (s : Sys) (hp : PingOK s) : PingOK (feedBody data s).state :=
  Lift.lift_feedBody rp_leaves data s hp

/-- what may follow the library's reaction to a violation: `CalmV` observations that are not writes -/
def TailV (o : Obs) : Prop := CalmV o ∧ isWrite o = false

/-- `_close_socket()` then `yield Disconnected(...)`: whatever the application calls in reaction,
    nothing reaches the wire -/
theorem tail_closeThenYield (e : Event) (he : CalmV (.ev e)) :
    Spec (Ext TailV) (do closeSocket; yieldEv e : M Unit) := by
  intro s
  obtain ⟨s2, l2, h2, so2, _, _, t2, n2⟩ := E2E.closeSocket_trace s
  rw [bind_ok h2]
  have hak := ak_yield_from_push e s2
  obtain ⟨l, el, rl, dl⟩ := hak.trace
  have hdead := dl (show (pushEv e s2).sockOpen = false from so2)
  refine ⟨l ++ .ev e :: l2, ?_, fun o ho => ?_⟩
  · rw [el]; show l ++ (Obs.ev e :: s2.trace) = _; rw [t2]; simp
  · rcases List.mem_append.mp ho with ho | ho
    · exact ⟨rl.calm o ho, hdead o ho⟩
    · rcases List.mem_cons.mp ho with rfl | ho
      · exact ⟨he, rfl⟩
      · rw [n2 o ho]; exact ⟨trivial, rfl⟩

theorem tail_onLoopEnd_some (y : Exn) : Spec (Ext TailV) (onLoopEnd (some y)) := by
  unfold onLoopEnd
  split
  all_goals first
    | exact tail_closeThenYield _ trivial
    | exact spec_throwE (ext_po _) _
    | skip
  rename_i h; cases h

theorem TailV.calm {o : Obs} (h : TailV o) : CalmV o := h.1

/-- exactly one ProtocolError event was added; before it only non-ProtocolError observations;
    after it the application's reaction, at most one Close written by the library, then a tail
    without any write -/
def OnePE2 (s s' : Sys) : Prop :=
  ∃ post cw l m c pre, s'.trace = post ++ cw ++ l ++ .ev (.protocolError m c) :: pre ++ s.trace ∧
    (∀ o ∈ post, TailV o) ∧ CloseWrite m c cw ∧ ReactSeg l ∧ (∀ o ∈ pre, NotPE o)

theorem OnePE2.after {a b c : Sys} (h : OnePE2 a b) (h2 : Ext TailV b c) : OnePE2 a c := by
  obtain ⟨post, cw, l, m, cr, pre, e, hp, hcw, hl, hq⟩ := h
  obtain ⟨l2, e2, hl2⟩ := h2
  refine ⟨l2 ++ post, cw, l, m, cr, pre, by rw [e2, e]; simp, ?_, hcw, hl, hq⟩
  intro o ho
  rcases List.mem_append.mp ho with h | h
  · exact hl2 o h
  · exact hp o h

theorem OnePE2.before {a b c : Sys} (h1 : Ext NotPE a b) (h : OnePE2 b c) : OnePE2 a c := by
  obtain ⟨post, cw, l, m, cr, pre, e, hp, hcw, hl, hq⟩ := h
  obtain ⟨l1, e1, hl1⟩ := h1
  refine ⟨post, cw, l, m, cr, pre ++ l1, by rw [e, e1]; simp, hp, hcw, hl, ?_⟩
  intro o ho
  rcases List.mem_append.mp ho with h | h
  · exact hq o h
  · exact hl1 o h

def Quiet2 (s s' : Sys) : Prop := Ext NotPE s s' ∨ OnePE2 s s'

theorem Quiet2.after {a b c : Sys} (h : Quiet2 a b) (h2 : Ext TailV b c) : Quiet2 a c := by
  rcases h with h | h
  · exact Or.inl ((ext_po _).trans h (h2.mono (fun o ho => ho.1.notPE)))
  · exact Or.inr (h.after h2)

theorem Quiet2.before {a b c : Sys} (h1 : Ext NotPE a b) (h : Quiet2 b c) : Quiet2 a c := by
  rcases h with h | h
  · exact Or.inl ((ext_po _).trans h1 h)
  · exact Or.inr (h.before h1)

theorem report_tail : Report Quiet2 TailV where
  silent := Or.inl
  before := Quiet2.before
  after := Quiet2.after
  closeSocket := spec_closeSocket (ext_po _) (fun _ _ => ext_one (o := .sockClose) ⟨trivial, rfl⟩ rfl)
  selClose := spec_selClose (ext_po _) (fun _ _ => ext_one (o := .selClose) ⟨trivial, rfl⟩ rfl)
  loopEnd := tail_onLoopEnd_some
  incomplete := ⟨trivial, rfl⟩

theorem wsFeed_trace2 (data : Bytes) (s : Sys) (hp : PingOK s) : ResV Quiet2 s (wsFeed data s) := by
  refine wsFeed_report report_tail data s (fun x s1 mc hb hx => ?_)
  obtain ⟨msg, crit⟩ := mc
  have hp1 := pingOK_feedBody data s hp
  rw [hb] at hp1
  obtain ⟨y, s2, l, cw, e, htr, hseg, hcw⟩ := feedHandler_any_app x msg crit hx s1 hp1
  exact ⟨y, s2, e, Or.inr ⟨[], cw, l, msg, crit, [], by rw [htr]; simp, by simp, hcw, hseg, by simp⟩⟩

/-- **whole connection, any application**: no ProtocolError event, or exactly one, followed by the
    application's reaction, at most one Close frame of the library's, and a tail without writes -/
theorem runAll_trace2 (cfg : Cfg) (react : React) (env : List EnvStep) :
    (∀ o ∈ (runAll cfg react env).trace, NotPE o) ∨
    ∃ post cw l m c pre, (runAll cfg react env).trace = post ++ cw ++ l ++ .ev (.protocolError m c) :: pre ∧
      (∀ o ∈ post, TailV o) ∧ CloseWrite m c cw ∧ ReactSeg l ∧ (∀ o ∈ pre, NotPE o) := by
  rcases runAll_report report_tail PingOK (fun _ _ => regular_ok_pingOK) (fun bs s => wsFeed_trace2 bs s)
    cfg react env with ⟨l, e, hl⟩ | ⟨post, cw, l, m, c, pre, e, hp, hcw, hl, hq⟩
  · left; rw [e]; simpa using hl
  · right; exact ⟨post, cw, l, m, c, pre, by rw [e]; simp, hp, hcw, hl, hq⟩

end Lomond.Core.AnyApp
