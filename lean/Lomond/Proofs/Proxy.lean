/-
  Vocabulary of the C19 statements — projections of the I/O log, `Reply200`, `rxStop` / `stopKind`, `verdict`,
  `TunnelUp` / `TunnelFails`, `nonReads` — and the lemmas about the Proxy model.  `_connect_proxy` is characterised
  once: `Dialogue` gives its log and result case by case; from it `connectProxy_cases` (the tunnel comes up with the
  whole dialogue logged, or fails in one of the listed ways) and `connectProxy_log` (the form of every log).  `run`
  with a proxy chosen is `Connecting`, that log, and the ending (`run_proxy`); apart from its reads it depends on the
  read script only through the read loop's result (`run_nonReads_congr`: segmentation).  Last, the bytes of the CONNECT
  request (`buildConnect_eq`) and `urlparse` on a URL assembled from well-formed parts (`parseUrl_parts`).
-/
import Lomond.Model.Proxy
import Lomond.Proofs.FindSep
import Lomond.Proofs.Http


namespace Lomond.Proxy
open Lomond Lomond.Http Lomond.Core

def Io.isWrite : Io → Bool
  | .write _ _ _ => true
  | _ => false

def Io.isRead : Io → Bool
  | .read _ => true
  | _ => false

def Io.rx : Io → Bytes
  | .read (.data d) => d
  | _ => []

def received (l : List Io) : Bytes := l.flatMap Io.rx

def writes (l : List Io) : List Io := l.filter Io.isWrite

/-- `rx` contains a complete reply (terminated by the separator within the size limit) whose status is 200 -/
def Reply200 (rx : Bytes) : Prop :=
  ∃ i, findSep Gen.proxySep rx = some i ∧ i + Gen.proxySep.length ≤ Gen.proxyMax ∧
    statusOf (rx.take (i + Gen.proxySep.length)) = some (false, 200)

/-- bytes a read script delivers before its first stop (end of stream, error, timeout, end of script) -/
def rxStop : List ReadOutcome → Bytes
  | .data d :: r => if d = [] then [] else d ++ rxStop r
  | _ => []

def stopKind : List ReadOutcome → FailKind
  | .data d :: r => if d = [] then .parseEof else stopKind r
  | .err :: _ => .readErr
  | .timeout :: _ => .timeout
  | [] => .timeout

inductive Verdict
  | incomplete
  | tooLong
  | status (code : Option (Bool × Nat))
  | ok
  deriving DecidableEq, Repr

def verdict (rx : Bytes) : Verdict :=
  match findSep Gen.proxySep rx with
  | some i =>
    if i + Gen.proxySep.length > Gen.proxyMax then .tooLong
    else
      let code := statusOf (rx.take (i + Gen.proxySep.length))
      if code ≠ some (false, 200) then .status code else .ok
  | none => if rx.length > Gen.proxyMax then .tooLong else .incomplete

def resultOf : Verdict → FailKind → Except FailKind Unit
  | .ok, _ => .ok ()
  | .tooLong, _ => .error .parseTooLong
  | .status c, _ => .error (.proxyStatus c)
  | .incomplete, k => .error k

theorem verdict_ok_iff (rx : Bytes) : verdict rx = .ok ↔ Reply200 rx := by
  unfold verdict Reply200
  cases h : findSep Gen.proxySep rx with
  | none => simp; split <;> simp
  | some i =>
    simp only [Option.some.injEq, exists_eq_left']
    by_cases h1 : i + Gen.proxySep.length > Gen.proxyMax
    · simp [h1]; omega
    · by_cases h2 : statusOf (rx.take (i + Gen.proxySep.length)) = some (false, 200)
      · simp [h1, h2]; omega
      · simp [h1, h2]

instance (rx : Bytes) : Decidable (Reply200 rx) := decidable_of_iff _ (verdict_ok_iff rx)

/-! ### the verdict does not depend on later bytes once it is final -/

theorem verdict_incomplete {buf : Bytes} (hb : findSep Gen.proxySep buf = none) (hl : buf.length ≤ Gen.proxyMax) :
    verdict buf = .incomplete := by
  unfold verdict; rw [hb]; simp; omega

theorem verdict_tooLong_of_long {buf : Bytes} (t : Bytes) (hb : findSep Gen.proxySep buf = none)
    (hl : buf.length > Gen.proxyMax) : verdict (buf ++ t) = .tooLong := by
  unfold verdict
  cases h : findSep Gen.proxySep (buf ++ t) with
  | none => simp; omega
  | some i =>
    have := findSep_append_none _ buf t i hb h
    simp; omega

theorem verdict_append_found {buf : Bytes} (t : Bytes) {i : Nat} (hb : findSep Gen.proxySep buf = some i) :
    verdict (buf ++ t) = verdict buf := by
  have h1 := findSep_append _ buf t i hb
  have h2 := findSep_bound _ buf i hb
  unfold verdict
  rw [h1, hb]
  simp only [List.take_append_of_le_length h2]

/-- The outcome of the read loop is a function of the bytes delivered before the first stop and of the
    stop, whatever the segmentation. -/
theorem readLoop_result : ∀ (reads : List ReadOutcome) (buf : Bytes),
    findSep Gen.proxySep buf = none → buf.length ≤ Gen.proxyMax →
    (readLoop reads buf).2 = resultOf (verdict (buf ++ rxStop reads)) (stopKind reads)
  | [], buf, hb, hl => by simp [readLoop, rxStop, stopKind, verdict_incomplete hb hl, resultOf]
  | .timeout :: _, buf, hb, hl => by simp [readLoop, rxStop, stopKind, verdict_incomplete hb hl, resultOf]
  | .err :: _, buf, hb, hl => by simp [readLoop, rxStop, stopKind, verdict_incomplete hb hl, resultOf]
  | .data d :: rest, buf, hb, hl => by
    unfold readLoop
    by_cases hd : d = []
    · simp [hd, rxStop, stopKind, verdict_incomplete hb hl, resultOf]
    · simp only [hd, if_false, rxStop, stopKind]
      rw [← List.append_assoc]
      cases hf : findSep Gen.proxySep (buf ++ d) with
      | none =>
        simp only
        by_cases hlen : (buf ++ d).length > Gen.proxyMax
        · rw [if_pos hlen, verdict_tooLong_of_long _ hf hlen]; rfl
        · rw [if_neg hlen]
          exact readLoop_result rest (buf ++ d) hf (by omega)
      | some i =>
        simp only
        rw [verdict_append_found _ hf]
        unfold verdict
        rw [hf]
        by_cases h1 : i + Gen.proxySep.length > Gen.proxyMax
        · simp [h1, resultOf]
        · by_cases h2 : statusOf ((buf ++ d).take (i + Gen.proxySep.length)) = some (false, 200)
          · simp [h1, h2, resultOf]
          · simp [h1, h2, resultOf]

theorem readLoop_reads : ∀ (reads : List ReadOutcome) (buf : Bytes), ∀ x ∈ (readLoop reads buf).1, x.isRead = true
  | [], buf => by simp [readLoop, Io.isRead]
  | .timeout :: _, buf => by simp [readLoop, Io.isRead]
  | .err :: _, buf => by simp [readLoop, Io.isRead]
  | .data d :: rest, buf => by
    unfold readLoop
    by_cases hd : d = []
    · simp [hd, Io.isRead]
    · simp only [hd, if_false]
      cases hf : findSep Gen.proxySep (buf ++ d) with
      | none =>
        simp only
        by_cases hlen : (buf ++ d).length > Gen.proxyMax
        · rw [if_pos hlen]; simp [Io.isRead]
        · rw [if_neg hlen]
          intro x hx
          simp at hx
          rcases hx with rfl | hx
          · rfl
          · exact readLoop_reads rest _ x hx
      | some i =>
        simp only
        by_cases h1 : i + Gen.proxySep.length > Gen.proxyMax
        · simp [h1, Io.isRead]
        · by_cases h2 : statusOf ((buf ++ d).take (i + Gen.proxySep.length)) = some (false, 200)
          · simp [h1, h2, Io.isRead]
          · simp [h1, h2, Io.isRead]

theorem readLoop_ok : ∀ (reads : List ReadOutcome) (buf : Bytes), (readLoop reads buf).2 = .ok () →
    verdict (buf ++ received (readLoop reads buf).1) = .ok
  | [], buf, h => by simp [readLoop] at h
  | .timeout :: _, buf, h => by simp [readLoop] at h
  | .err :: _, buf, h => by simp [readLoop] at h
  | .data d :: rest, buf, h => by
    unfold readLoop at h ⊢
    by_cases hd : d = []
    · simp [hd] at h
    · simp only [hd, if_false] at h ⊢
      cases hf : findSep Gen.proxySep (buf ++ d) with
      | none =>
        rw [hf] at h
        simp only at h ⊢
        by_cases hlen : (buf ++ d).length > Gen.proxyMax
        · rw [if_pos hlen] at h; simp at h
        · rw [if_neg hlen] at h ⊢
          have := readLoop_ok rest (buf ++ d) h
          simpa [received, Io.rx, List.append_assoc] using this
      | some i =>
        rw [hf] at h
        simp only at h ⊢
        by_cases h1 : i + Gen.proxySep.length > Gen.proxyMax
        · simp [h1] at h
        · by_cases h2 : statusOf ((buf ++ d).take (i + Gen.proxySep.length)) = some (false, 200)
          · simp only [h1, h2, if_false, ne_eq, not_true_eq_false]
            simp only [received, List.flatMap_cons, Io.rx, List.flatMap_nil, List.append_nil]
            unfold verdict
            rw [hf]
            simp [h1, h2]
          · simp [h1, h2] at h

theorem received_append (a b : List Io) : received (a ++ b) = received a ++ received b := by
  simp [received]

theorem Io.rx_of_not_read (x : Io) (h : x.isRead = false) : x.rx = [] := by
  cases x <;> first | rfl | cases h

theorem received_of_no_reads (l : List Io) (h : ∀ x ∈ l, x.isRead = false) : received l = [] :=
  List.flatMap_eq_nil_iff.mpr fun x hx => Io.rx_of_not_read x (h x hx)

def Io.isWrap : Io → Bool
  | .wrap _ _ => true
  | _ => false

/-- for every item of the log satisfying `p`, in order: the bytes received before it (starting from `rx`) -/
def ctxs (p : Io → Bool) : Bytes → List Io → List Bytes
  | _, [] => []
  | rx, x :: r => (if p x then [rx] else []) ++ ctxs p (rx ++ x.rx) r

theorem ctxs_append (p : Io → Bool) (rx : Bytes) (a b : List Io) :
    ctxs p rx (a ++ b) = ctxs p rx a ++ ctxs p (rx ++ received a) b := by
  induction a generalizing rx with
  | nil => simp [ctxs, received]
  | cons x r ih => simp [ctxs, ih, received, List.append_assoc]

theorem ctxs_none (p : Io → Bool) (rx : Bytes) (l : List Io) (h : ∀ x ∈ l, p x = false) : ctxs p rx l = [] := by
  induction l generalizing rx with
  | nil => rfl
  | cons x r ih =>
    simp [ctxs, h x (by simp), ih _ (fun y hy => h y (by simp [hy]))]

theorem ctxs_ne_nil_of_mem (p : Io → Bool) (rx : Bytes) (l : List Io) (y : Io) (hy : y ∈ l) (hw : p y = true) :
    ctxs p rx l ≠ [] := by
  induction l generalizing rx with
  | nil => simp at hy
  | cons x r ih =>
    simp only [ctxs]
    by_cases hx : p x = true
    · simp [hx]
    · rcases List.mem_cons.mp hy with rfl | hy'
      · exact absurd hw hx
      · simpa [hx] using ih _ hy'

theorem ctx_mem (p : Io → Bool) (pre post : List Io) (x : Io) (hx : p x = true) :
    received pre ∈ ctxs p [] (pre ++ x :: post) := by
  rw [ctxs_append]
  simp [ctxs, hx]

theorem ctx_mem_tail (p : Io → Bool) (pre post : List Io) (x : Io) (hx : p x = true)
    (hpre : ∃ y ∈ pre, p y = true) : received pre ∈ (ctxs p [] (pre ++ x :: post)).tail := by
  obtain ⟨y, hy, hw⟩ := hpre
  rw [ctxs_append]
  have hne := ctxs_ne_nil_of_mem p [] pre y hy hw
  cases hc : ctxs p [] pre with
  | nil => exact absurd hc hne
  | cons c cs => simp [ctxs, hx]

theorem ctxs_const (p : Io → Bool) (rx : Bytes) (l : List Io) (h : ∀ x ∈ l, x.rx = []) :
    ∀ r ∈ ctxs p rx l, r = rx := by
  induction l generalizing rx with
  | nil => simp [ctxs]
  | cons x t ih =>
    intro r hr
    have hx := h x (by simp)
    simp only [ctxs, hx, List.append_nil, List.mem_append] at hr
    rcases hr with hr | hr
    · split at hr <;> simp_all
    · exact ih rx (fun y hy => h y (by simp [hy])) r hr

theorem writes_reads (l : List Io) (h : ∀ x ∈ l, x.isRead = true) : writes l = [] := by
  simp only [writes, List.filter_eq_nil_iff]
  intro x hx
  have := h x hx
  cases x <;> simp_all [Io.isWrite, Io.isRead]

theorem writes_append (a b : List Io) : writes (a ++ b) = writes a ++ writes b := by simp [writes]

/-- `_connect_sock(proxy host, proxy port, ssl)` as derived from the proxy URL -/
def proxyAddr (u : Url) (p : Option Nat) : Io :=
  .connectTo u.hostname (portOr p (if u.scheme = ofString "https" then 443 else 80)) (decide (u.scheme = ofString "https"))

def connectRequestOf (c : Cfg) (purl : Str) : Option Bytes :=
  (parseUrl purl).bind fun u => buildConnect c.target.host c.target.port u.username u.password

theorem buildConnect_none_iff (host : Option Str) (port : Nat) (user pw : Option Str) :
    buildConnect host port user pw = none ↔ host = none := by
  cases host <;> simp [buildConnect]

/-- what `_connect_proxy` needs to return a socket: a usable proxy URL, a target host, the TCP connect, the CONNECT
    `sendall`, a complete 200 reply before the reads stop, and for wss the TLS wrap -/
structure TunnelUp (c : Cfg) (e : Env) (purl : Str) : Prop where
  url : ∃ u p, parseUrl purl = some u ∧ u.port = some p
  host : c.target.host ≠ none
  connect : e.connectOk = true
  sent : e.writeFails 0 = false
  reply : Reply200 (rxStop e.reads)
  tls : c.target.secure = true → e.wrapOk = true

/-- the ways the tunnel can fail (the classes of the property text) -/
inductive TunnelFails (c : Cfg) (e : Env) (purl : Str) : Prop
  /-- the proxy URL cannot be parsed / has no usable port -/
  | url : (∀ u p, parseUrl purl = some u → u.port ≠ some p) → TunnelFails c e purl
  /-- the target URL names no host -/
  | host : c.target.host = none → TunnelFails c e purl
  /-- socket error while connecting to the proxy -/
  | connect : e.connectOk = false → TunnelFails c e purl
  /-- socket error while sending the CONNECT request -/
  | send : e.writeFails 0 = true → TunnelFails c e purl
  /-- any other status, an unterminated, oversized or empty answer, a socket error or a timeout while reading -/
  | reply : ¬ Reply200 (rxStop e.reads) → TunnelFails c e purl
  /-- wss: TLS to the target cannot be started over the tunnel -/
  | tls : c.target.secure = true → e.wrapOk = false → TunnelFails c e purl

theorem not_up_of_fails (c : Cfg) (e : Env) (purl : Str) (h : TunnelFails c e purl) : ¬ TunnelUp c e purl := by
  intro hu
  cases h with
  | url h => obtain ⟨u, p, h1, h2⟩ := hu.url; exact h u p h1 h2
  | host h => exact hu.host h
  | connect h => rw [hu.connect] at h; cases h
  | send h => rw [hu.sent] at h; cases h
  | reply h => exact h hu.reply
  | tls h1 h2 => rw [hu.tls h1] at h2; cases h2

theorem findSep_nil_proxySep : findSep Gen.proxySep [] = none := by decide

theorem readLoop_ok_iff (reads : List ReadOutcome) : (readLoop reads []).2 = .ok () ↔ Reply200 (rxStop reads) := by
  rw [readLoop_result reads [] findSep_nil_proxySep (Nat.zero_le _), ← verdict_ok_iff]
  simp only [List.nil_append]
  cases verdict (rxStop reads) <;> simp [resultOf]

theorem stopKind_cases : ∀ reads : List ReadOutcome,
    stopKind reads = .parseEof ∨ stopKind reads = .readErr ∨ stopKind reads = .timeout
  | [] => Or.inr (Or.inr rfl)
  | .err :: _ => Or.inr (Or.inl rfl)
  | .timeout :: _ => Or.inr (Or.inr rfl)
  | .data d :: r => by
    unfold stopKind
    split
    · exact Or.inl rfl
    · exact stopKind_cases r

theorem readLoop_error_kind (reads : List ReadOutcome) (k : FailKind) (h : (readLoop reads []).2 = .error k) :
    k ≠ .proxyConnect := by
  rw [readLoop_result reads [] findSep_nil_proxySep (Nat.zero_le _)] at h
  intro hk; subst hk
  cases hv : verdict ([] ++ rxStop reads) <;> rw [hv] at h <;> simp only [resultOf] at h
  · rcases stopKind_cases reads with e | e | e <;> rw [e] at h <;> cases h
  all_goals cases h

inductive Dialogue (c : Cfg) (e : Env) (purl : Str) : List Io × Except FailKind Bool → Prop
  | badUrl : parseUrl purl = none → Dialogue c e purl ([], .error .badUrl)
  | badPort (u : Url) : parseUrl purl = some u → u.port = none → Dialogue c e purl ([], .error .badPort)
  | noConnect (u : Url) (p : Option Nat) : parseUrl purl = some u → u.port = some p → e.connectOk = false →
      Dialogue c e purl ([proxyAddr u p], .error .proxyConnect)
  | noHost (u : Url) (p : Option Nat) : parseUrl purl = some u → u.port = some p → e.connectOk = true →
      c.target.host = none → Dialogue c e purl ([proxyAddr u p], .error .noHost)
  | writeErr (u : Url) (p : Option Nat) (req : Bytes) : parseUrl purl = some u → u.port = some p →
      e.connectOk = true → connectRequestOf c purl = some req → e.writeFails 0 = true →
      Dialogue c e purl ([proxyAddr u p, .write false req false], .error .writeErr)
  | readFail (u : Url) (p : Option Nat) (req : Bytes) (k : FailKind) : parseUrl purl = some u → u.port = some p →
      e.connectOk = true → connectRequestOf c purl = some req → e.writeFails 0 = false →
      (readLoop e.reads []).2 = .error k →
      Dialogue c e purl ([proxyAddr u p, .write false req true] ++ (readLoop e.reads []).1, .error k)
  | wrapFail (u : Url) (p : Option Nat) (req : Bytes) : parseUrl purl = some u → u.port = some p →
      e.connectOk = true → connectRequestOf c purl = some req → e.writeFails 0 = false →
      (readLoop e.reads []).2 = .ok () → c.target.secure = true → e.wrapOk = false →
      Dialogue c e purl ([proxyAddr u p, .write false req true] ++ (readLoop e.reads []).1 ++
        [.wrap c.target.host false], .error .wrap)
  | up (u : Url) (p : Option Nat) (req : Bytes) : parseUrl purl = some u → u.port = some p →
      e.connectOk = true → connectRequestOf c purl = some req → e.writeFails 0 = false →
      (readLoop e.reads []).2 = .ok () → (c.target.secure = true → e.wrapOk = true) →
      Dialogue c e purl ([proxyAddr u p, .write false req true] ++ (readLoop e.reads []).1 ++
        (if c.target.secure then [.wrap c.target.host true] else []), .ok c.target.secure)

theorem connectProxy_dialogue (c : Cfg) (e : Env) (purl : Str) :
    Dialogue c e purl (connectProxy c e purl) := by
  cases hu : parseUrl purl with
  | none =>
    have := Dialogue.badUrl (c := c) (e := e) hu
    simpa [connectProxy, hu] using this
  | some u =>
    cases hp : u.port with
    | none =>
      have := Dialogue.badPort (c := c) (e := e) u hu hp
      simpa [connectProxy, hu, hp] using this
    | some p =>
      cases hconn : e.connectOk with
      | false =>
        have := Dialogue.noConnect (c := c) u p hu hp hconn
        simpa [connectProxy, hu, hp, hconn, proxyAddr] using this
      | true =>
        cases hr : buildConnect c.target.host c.target.port u.username u.password with
        | none =>
          have := Dialogue.noHost u p hu hp hconn ((buildConnect_none_iff _ _ _ _).mp hr)
          simpa [connectProxy, hu, hp, hconn, hr, proxyAddr] using this
        | some req =>
          have hreq : connectRequestOf c purl = some req := by simp [connectRequestOf, hu, hr]
          cases hw : e.writeFails 0 with
          | true =>
            have := Dialogue.writeErr u p req hu hp hconn hreq hw
            simpa [connectProxy, hu, hp, hconn, hr, hw, proxyAddr] using this
          | false =>
            cases hl : (readLoop e.reads []).2 with
            | error k =>
              have := Dialogue.readFail u p req k hu hp hconn hreq hw hl
              simpa [connectProxy, hu, hp, hconn, hr, hw, hl, proxyAddr] using this
            | ok v =>
              cases v
              cases hs : c.target.secure with
              | false =>
                have := Dialogue.up u p req hu hp hconn hreq hw hl (fun h => by rw [hs] at h; cases h)
                simpa [connectProxy, hu, hp, hconn, hr, hw, hl, proxyAddr, hs] using this
              | true =>
                cases hwr : e.wrapOk with
                | false =>
                  have := Dialogue.wrapFail u p req hu hp hconn hreq hw hl hs hwr
                  simpa [connectProxy, hu, hp, hconn, hr, hw, hl, proxyAddr, hs, hwr] using this
                | true =>
                  have := Dialogue.up u p req hu hp hconn hreq hw hl (fun _ => hwr)
                  simpa [connectProxy, hu, hp, hconn, hr, hw, hl, proxyAddr, hs, hwr] using this

/-- the log of a tunnel that comes up: the whole dialogue -/
def upLog (c : Cfg) (e : Env) (u : Url) (p : Option Nat) (req : Bytes) : List Io :=
  [proxyAddr u p, .write false req true] ++ (readLoop e.reads []).1 ++
    (if c.target.secure then [.wrap c.target.host true] else [])

theorem upLog_received (c : Cfg) (e : Env) (u : Url) (p : Option Nat) (req : Bytes) :
    received (upLog c e u p req) = received (readLoop e.reads []).1 := by
  unfold upLog
  rw [received_append, received_append]
  cases c.target.secure <;> simp [received, Io.rx, proxyAddr]

theorem upLog_writes (c : Cfg) (e : Env) (u : Url) (p : Option Nat) (req : Bytes) :
    writes (upLog c e u p req) = [.write false req true] := by
  unfold upLog
  rw [writes_append, writes_append, writes_reads _ (readLoop_reads _ [])]
  cases c.target.secure <;> simp [writes, Io.isWrite, proxyAddr, List.filter_cons]

theorem upLog_reply200 {c : Cfg} {e : Env} {purl : Str} (hup : TunnelUp c e purl) (u : Url) (p : Option Nat)
    (req : Bytes) : Reply200 (received (upLog c e u p req)) := by
  rw [upLog_received]
  exact (verdict_ok_iff _).mp (readLoop_ok _ [] ((readLoop_ok_iff _).mpr hup.reply))

/-- **`_connect_proxy`, summarised**: the tunnel comes up and the log is the whole dialogue, or it fails in one of
    the listed ways with an error — the re-raised `_SocketFail` exactly when the proxy cannot be reached -/
theorem connectProxy_cases (c : Cfg) (e : Env) (purl : Str) :
    (TunnelUp c e purl ∧ ∃ u p req, parseUrl purl = some u ∧ u.port = some p ∧ connectRequestOf c purl = some req ∧
        connectProxy c e purl = (upLog c e u p req, .ok c.target.secure)) ∨
    (TunnelFails c e purl ∧ ∃ k, (connectProxy c e purl).2 = .error k ∧
        (k = .proxyConnect ↔ (∃ u p, parseUrl purl = some u ∧ u.port = some p) ∧ e.connectOk = false)) := by
  have hs := connectProxy_dialogue c e purl
  generalize connectProxy c e purl = r at hs
  have hno : ∀ {P : Prop}, e.connectOk = true → P ∧ e.connectOk = false → False :=
    fun h1 h2 => by rw [h1] at h2; cases h2.2
  cases hs with
  | badUrl hu =>
    refine .inr ⟨.url fun u p h _ => (by rw [hu] at h; cases h), .badUrl, rfl, nofun, fun ⟨⟨u, p, h, _⟩, _⟩ => ?_⟩
    rw [hu] at h; cases h
  | badPort u hu hp =>
    refine .inr ⟨.url fun u' p h1 h2 => ?_, .badPort, rfl, nofun, fun ⟨⟨u', p, h1, h2⟩, _⟩ => ?_⟩
    all_goals rw [hu] at h1; cases h1; rw [hp] at h2; cases h2
  | noConnect u p hu hp hconn =>
    exact .inr ⟨.connect hconn, .proxyConnect, rfl, fun _ => ⟨⟨u, p, hu, hp⟩, hconn⟩, fun _ => rfl⟩
  | noHost u p hu hp hconn hh => exact .inr ⟨.host hh, .noHost, rfl, nofun, fun h => (hno hconn h).elim⟩
  | writeErr u p req hu hp hconn hreq hw => exact .inr ⟨.send hw, .writeErr, rfl, nofun, fun h => (hno hconn h).elim⟩
  | readFail u p req k hu hp hconn hreq hw hl =>
    refine .inr ⟨.reply fun h => ?_, k, rfl, fun hk => absurd hk (readLoop_error_kind _ k hl), fun h => (hno hconn h).elim⟩
    rw [(readLoop_ok_iff _).mpr h] at hl; cases hl
  | wrapFail u p req hu hp hconn hreq hw hl hs hwr =>
    exact .inr ⟨.tls hs hwr, .wrap, rfl, nofun, fun h => (hno hconn h).elim⟩
  | up u p req hu hp hconn hreq hw hl htls =>
    refine .inl ⟨⟨⟨u, p, hu, hp⟩, fun hh => ?_, hconn, hw, (readLoop_ok_iff _).mp hl, htls⟩, u, p, req, hu, hp, hreq, rfl⟩
    simp [connectRequestOf, hu, hh, buildConnect] at hreq

theorem tunnelUp_or_fails (c : Cfg) (e : Env) (purl : Str) : TunnelUp c e purl ∨ TunnelFails c e purl :=
  (connectProxy_cases c e purl).imp And.left And.left

theorem phase_up {c : Cfg} {e : Env} {purl : Str} (hup : TunnelUp c e purl) :
    ∃ u p req, parseUrl purl = some u ∧ u.port = some p ∧ connectRequestOf c purl = some req ∧
      connectProxy c e purl = (upLog c e u p req, .ok c.target.secure) :=
  ((connectProxy_cases c e purl).resolve_right fun h => not_up_of_fails c e purl h.1 hup).2

theorem phase_down {c : Cfg} {e : Env} {purl : Str} (hf : TunnelFails c e purl) :
    ∃ k, (connectProxy c e purl).2 = .error k ∧
      (k = .proxyConnect ↔ (∃ u p, parseUrl purl = some u ∧ u.port = some p) ∧ e.connectOk = false) :=
  ((connectProxy_cases c e purl).resolve_left fun h => not_up_of_fails c e purl hf h.1).2

theorem connectProxy_log (c : Cfg) (e : Env) (purl : Str) :
    ((connectProxy c e purl).1 = [] ∧ (∃ k, (connectProxy c e purl).2 = .error k) ∧
      ¬ ∃ u p, parseUrl purl = some u ∧ u.port = some p) ∨
    ∃ u p, parseUrl purl = some u ∧ u.port = some p ∧
      (((connectProxy c e purl).1 = [proxyAddr u p] ∧ ∃ k, (connectProxy c e purl).2 = .error k) ∨
       ∃ req ok rest, connectRequestOf c purl = some req ∧
        (connectProxy c e purl).1 = proxyAddr u p :: .write false req ok :: rest ∧
        ∀ x ∈ rest, x.isRead = true ∨ x.isWrap = true) := by
  have hs := connectProxy_dialogue c e purl
  have hrd : ∀ x ∈ (readLoop e.reads []).1, x.isRead = true ∨ x.isWrap = true :=
    fun x hx => .inl (readLoop_reads _ _ x hx)
  have happ : ∀ w : List Io, (∀ x ∈ w, x.isWrap = true) →
      ∀ x ∈ (readLoop e.reads []).1 ++ w, x.isRead = true ∨ x.isWrap = true := fun w hw x hx =>
    (List.mem_append.mp hx).elim (hrd x) fun h => .inr (hw x h)
  generalize connectProxy c e purl = r at hs
  cases hs with
  | badUrl hu => exact .inl ⟨rfl, ⟨_, rfl⟩, fun ⟨u, p, h, _⟩ => by rw [hu] at h; cases h⟩
  | badPort u hu hp =>
    exact .inl ⟨rfl, ⟨_, rfl⟩, fun ⟨u', p, h1, h2⟩ => by rw [hu] at h1; cases h1; rw [hp] at h2; cases h2⟩
  | noConnect u p hu hp _ => exact .inr ⟨u, p, hu, hp, .inl ⟨rfl, _, rfl⟩⟩
  | noHost u p hu hp _ _ => exact .inr ⟨u, p, hu, hp, .inl ⟨rfl, _, rfl⟩⟩
  | writeErr u p req hu hp _ hreq _ => exact .inr ⟨u, p, hu, hp, .inr ⟨req, false, [], hreq, rfl, nofun⟩⟩
  | readFail u p req _ hu hp _ hreq _ _ => exact .inr ⟨u, p, hu, hp, .inr ⟨req, true, _, hreq, rfl, hrd⟩⟩
  | wrapFail u p req hu hp _ hreq _ _ _ _ =>
    exact .inr ⟨u, p, hu, hp, .inr ⟨req, true, (readLoop e.reads []).1 ++ [.wrap c.target.host false], hreq, by simp,
      happ [.wrap c.target.host false] (by simp [Io.isWrap])⟩⟩
  | up u p req hu hp _ hreq _ _ _ =>
    refine .inr ⟨u, p, hu, hp, .inr ⟨req, true,
      (readLoop e.reads []).1 ++ (if c.target.secure then [.wrap c.target.host true] else []), hreq, by simp,
      happ _ fun x hx => ?_⟩⟩
    split at hx <;> simp at hx
    rw [hx]; rfl

theorem not_mem_reads_wraps {l : List Io} (h : ∀ x ∈ l, x.isRead = true ∨ x.isWrap = true) {y : Io}
    (hy : y.isRead = false) (hy' : y.isWrap = false) : y ∉ l :=
  fun hm => (h y hm).elim (fun h => by rw [hy] at h; cases h) (fun h => by rw [hy'] at h; cases h)

theorem connectProxy_writes (c : Cfg) (e : Env) (purl : Str) :
    writes (connectProxy c e purl).1 = [] ∨
    ∃ req ok, connectRequestOf c purl = some req ∧ writes (connectProxy c e purl).1 = [.write false req ok] := by
  rcases connectProxy_log c e purl with ⟨h, _⟩ | ⟨u, p, _, _, ⟨h, _⟩ | ⟨req, ok, rest, hreq, h, hr⟩⟩ <;> rw [h]
  · exact .inl rfl
  · exact .inl rfl
  · refine .inr ⟨req, ok, hreq, ?_⟩
    have : writes rest = [] := List.filter_eq_nil_iff.mpr fun x hx hw =>
      not_mem_reads_wraps hr (by cases x <;> first | rfl | cases hw) (by cases x <;> first | rfl | cases hw) hx
    show writes ([proxyAddr u p, .write false req ok] ++ rest) = _
    rw [writes_append, this]; rfl

theorem connectProxy_writes_le (c : Cfg) (e : Env) (purl : Str) :
    (writes (connectProxy c e purl).1).length ≤ 1 ∧
    ∀ w ∈ writes (connectProxy c e purl).1, ∃ req ok, connectRequestOf c purl = some req ∧ w = .write false req ok := by
  rcases connectProxy_writes c e purl with h | ⟨req, ok, hreq, h⟩ <;> rw [h]
  · exact ⟨Nat.zero_le _, nofun⟩
  · exact ⟨Nat.le_refl _, fun w hw => ⟨req, ok, hreq, List.mem_singleton.mp hw⟩⟩

theorem ev_not_mem_connectProxy (c : Cfg) (e : Env) (purl : Str) (v : Ev) : Io.ev v ∉ (connectProxy c e purl).1 := by
  rcases connectProxy_log c e purl with ⟨h, _⟩ | ⟨u, p, _, _, ⟨h, _⟩ | ⟨req, ok, rest, _, h, hr⟩⟩ <;> rw [h]
  · nofun
  · simp [proxyAddr]
  · simp [proxyAddr, not_mem_reads_wraps hr (y := .ev v) rfl rfl]

theorem connectTo_mem_connectProxy {c : Cfg} {e : Env} {purl : Str} {h : Option Str} {q : Nat} {s : Bool}
    (hm : Io.connectTo h q s ∈ (connectProxy c e purl).1) :
    ∃ u p rest, parseUrl purl = some u ∧ u.port = some p ∧ Io.connectTo h q s = proxyAddr u p ∧
      (connectProxy c e purl).1 = proxyAddr u p :: rest := by
  rcases connectProxy_log c e purl with ⟨h0, _⟩ | ⟨u, p, hu, hp, ⟨h0, _⟩ | ⟨req, ok, rest, _, h0, hr⟩⟩ <;> rw [h0] at hm ⊢
  · cases hm
  · exact ⟨u, p, [], hu, hp, List.mem_singleton.mp hm, rfl⟩
  · refine ⟨u, p, _, hu, hp, ?_, rfl⟩
    simpa [not_mem_reads_wraps hr (y := .connectTo h q s) rfl rfl] using hm

/-- how `run` ends after `_connect()` -/
def ending (c : Cfg) (e : Env) (purl : Str) : Except FailKind Bool → List Io
  | .error k => [.ev (.connectFail k)]
  | .ok tls => sendRequest c e tls 1 (some purl)

theorem run_proxy {c : Cfg} (e : Env) {purl : Str} (hc : proxyChoice c = some purl) :
    run c e = .ev .connecting :: ((connectProxy c e purl).1 ++ ending c e purl (connectProxy c e purl).2) := by
  unfold run
  rw [hc]
  simp only []
  cases (connectProxy c e purl).2 <;> rfl

theorem ending_eq (c : Cfg) (e : Env) (purl : Str) (r : Except FailKind Bool) :
    (∃ k, ending c e purl r = [.ev (.connectFail k)]) ∨
    ∃ tls ok, r = .ok tls ∧ ending c e purl r =
      [.write tls c.request ok, .ev (if ok then .connected (some purl) else .connectFail .requestFailed)] := by
  cases r with
  | error k => exact .inl ⟨k, rfl⟩
  | ok tls =>
    refine .inr ⟨tls, !e.writeFails 1, rfl, ?_⟩
    cases h : e.writeFails 1 <;> simp [ending, sendRequest, h]

theorem ending_rx (c : Cfg) (e : Env) (purl : Str) (r : Except FailKind Bool) : ∀ x ∈ ending c e purl r, x.rx = [] := by
  intro x hx
  rcases ending_eq c e purl r with ⟨k, h⟩ | ⟨tls, ok, _, h⟩ <;> rw [h] at hx <;> simp at hx
  · rw [hx]; rfl
  · rcases hx with rfl | rfl <;> rfl

/-- Items of a kind `p` that events, connects and reads are not of (writes; TLS wraps), each with what had been
    received before it: leaving aside the CONNECT request — `first`, nothing received yet — every one of them
    comes after a complete 200 reply. -/
theorem ctxs_run (p : Io → Bool) (hev : ∀ v, p (.ev v) = false) (hct : ∀ h q s, p (.connectTo h q s) = false)
    (hrd : ∀ x, x.isRead = true → p x = false) (c : Cfg) (e : Env) (purl : Str) (hc : proxyChoice c = some purl) :
    ∃ first rest, ctxs p [] (run c e) = first ++ rest ∧ first.length ≤ 1 ∧
      (first ≠ [] → ∃ w ok, p (.write false w ok) = true) ∧ ∀ rx ∈ rest, Reply200 rx := by
  rw [run_proxy e hc]
  have hs := connectProxy_dialogue c e purl
  have h0 : ∀ rx, ctxs p rx (readLoop e.reads []).1 = [] :=
    fun rx => ctxs_none p rx _ (fun x hx => hrd x (readLoop_reads e.reads [] x hx))
  -- the context of the CONNECT request itself: nothing received yet
  have hfirst : ∀ (w : Bytes) (ok : Bool), (if p (.write false w ok) = true then [([] : Bytes)] else []).length ≤ 1 ∧
      ((if p (.write false w ok) = true then [([] : Bytes)] else []) ≠ [] → ∃ w ok, p (.write false w ok) = true) := by
    intro w ok
    by_cases h : p (.write false w ok) = true
    · exact ⟨by simp [h], fun _ => ⟨w, ok, h⟩⟩
    · exact ⟨by simp [h], fun h' => by simp [h] at h'⟩
  -- once the loop has ended well, a complete 200 reply has been received, and nothing is received any more
  have hafter : (readLoop e.reads []).2 = .ok () → ∀ t : List Io, (∀ x ∈ t, x.rx = []) →
      ∀ rx ∈ ctxs p (received (readLoop e.reads []).1) t, Reply200 rx := by
    intro hl t ht rx hrx
    rw [ctxs_const p _ _ ht rx hrx]
    simpa using (verdict_ok_iff _).mp (readLoop_ok e.reads [] hl)
  generalize connectProxy c e purl = r at hs
  cases hs with
  | badUrl _ => exact ⟨[], [], by simp [ctxs, hev, ending], by simp, by simp, by simp⟩
  | badPort _ _ _ => exact ⟨[], [], by simp [ctxs, hev, ending], by simp, by simp, by simp⟩
  | noConnect _ _ _ _ _ => exact ⟨[], [], by simp [ctxs, hev, hct, proxyAddr, ending], by simp, by simp, by simp⟩
  | noHost _ _ _ _ _ _ => exact ⟨[], [], by simp [ctxs, hev, hct, proxyAddr, ending], by simp, by simp, by simp⟩
  | writeErr u q req _ _ _ _ _ =>
    exact ⟨_, [], by simp [ctxs, hev, hct, proxyAddr, ending]; rfl, (hfirst req false).1, (hfirst req false).2, by simp⟩
  | readFail u q req k _ _ _ _ _ hl =>
    exact ⟨_, [], by simp [ctxs_append, ctxs, hev, hct, proxyAddr, h0, ending]; rfl, (hfirst req true).1, (hfirst req true).2, by simp⟩
  | wrapFail u q req _ _ _ _ _ hl _ _ =>
    refine ⟨_, ctxs p (received (readLoop e.reads []).1) [.wrap c.target.host false, .ev (.connectFail .wrap)],
      by simp [ctxs_append, ctxs, hev, hct, proxyAddr, h0, received, Io.rx, ending], (hfirst req true).1, (hfirst req true).2,
      hafter hl _ (by simp [Io.rx])⟩
  | up u q req _ _ _ _ _ hl _ =>
    refine ⟨_, ctxs p (received (readLoop e.reads []).1)
        ((if c.target.secure then [.wrap c.target.host true] else []) ++ ending c e purl (.ok c.target.secure)),
      by simp [ctxs_append, ctxs, hev, hct, proxyAddr, h0, received, Io.rx], (hfirst req true).1, (hfirst req true).2,
      hafter hl _ fun x hx => ?_⟩
    rcases List.mem_append.mp hx with h | h
    · split at h <;> simp at h
      rw [h]; rfl
    · exact ending_rx _ _ _ _ x h

@[simp] theorem isRead_ev (x : Ev) : (Io.ev x).isRead = false := rfl
@[simp] theorem isRead_connectTo (h : Option Str) (p : Nat) (s : Bool) : (Io.connectTo h p s).isRead = false := rfl
@[simp] theorem isRead_write (t : Bool) (b : Bytes) (o : Bool) : (Io.write t b o).isRead = false := rfl
@[simp] theorem isRead_wrap (h : Option Str) (o : Bool) : (Io.wrap h o).isRead = false := rfl
@[simp] theorem isRead_read (o : ReadOutcome) : (Io.read o).isRead = true := rfl

def nonReads (l : List Io) : List Io := l.filter (fun x => !x.isRead)

theorem nonReads_readLoop (r : List ReadOutcome) (b : Bytes) : nonReads (readLoop r b).1 = [] := by
  simp only [nonReads, List.filter_eq_nil_iff]
  intro x hx
  simp [readLoop_reads r b x hx]

theorem run_nonReads_congr (c : Cfg) (e : Env) (r₁ r₂ : List ReadOutcome)
    (h4 : (readLoop r₁ []).2 = (readLoop r₂ []).2) :
    nonReads (run c { e with reads := r₁ }) = nonReads (run c { e with reads := r₂ }) := by
  have n1 := nonReads_readLoop r₁ []
  have n2 := nonReads_readLoop r₂ []
  simp only [nonReads] at n1 n2 ⊢
  simp only [run, connectProxy, sendRequest, h4]
  cases proxyChoice c with
  | none => rfl
  | some purl =>
    simp only
    cases parseUrl purl with
    | none => rfl
    | some u =>
      simp only
      cases u.port with
      | none => rfl
      | some p =>
        simp only
        cases e.connectOk with
        | false => rfl
        | true =>
          simp only
          cases buildConnect c.target.host c.target.port u.username u.password with
          | none => rfl
          | some req =>
            simp only
            cases e.writeFails 0 with
            | true => rfl
            | false =>
              cases (readLoop r₂ []).2 with
              | error k => simp [List.filter_append, n1, n2]
              | ok v =>
                cases c.target.secure <;> cases e.wrapOk <;> simp [List.filter_append, n1, n2]

theorem rxStop_chunks (cs : List Bytes) (t : List ReadOutcome) (h : ∀ x ∈ cs, x ≠ []) :
    rxStop (cs.map .data ++ t) = cs.flatten ++ rxStop t := by
  induction cs with
  | nil => simp
  | cons x r ih =>
    have hx := h x (by simp)
    simp [rxStop, hx, ih (fun y hy => h y (by simp [hy]))]

theorem stopKind_chunks (cs : List Bytes) (t : List ReadOutcome) (h : ∀ x ∈ cs, x ≠ []) :
    stopKind (cs.map .data ++ t) = stopKind t := by
  induction cs with
  | nil => simp
  | cons x r ih =>
    have hx := h x (by simp)
    simp [stopKind, hx, ih (fun y hy => h y (by simp [hy]))]

theorem buildConnect_eq (h : Str) (port : Nat) (user pw : Option Str) :
    buildConnect (some h) port user pw = some (
      connectLine h port ++ crlf ++
      (strBytes "Host" ++ strBytes ": " ++ h ++ crlf ++
      strBytes "Proxy-Connection" ++ strBytes ": " ++ strBytes "keep-alive" ++ crlf ++
      strBytes "Connection" ++ strBytes ": " ++ strBytes "keep-alive" ++
      (match user with
       | some u => if u = [] then [] else
          crlf ++ strBytes "Proxy-Authorization:" ++ strBytes ": " ++ strBytes "Basic " ++
            b64encode (match pw with | none => u | some p => u ++ [58] ++ p)
       | none => [])) ++ crlf ++ crlf) := by
  cases user with
  | none => simp [buildConnect, joinCRLF, List.append_assoc]
  | some u =>
    by_cases hu : u = []
    · simp [buildConnect, joinCRLF, hu, List.append_assoc]
    · cases pw <;> simp [buildConnect, joinCRLF, hu, List.append_assoc]

theorem partition_not_mem (sep : Nat) : ∀ s : Str, sep ∉ s → partition sep s = (s, false, [])
  | [], _ => rfl
  | c :: r, h => by
    have hc : c ≠ sep := fun e => h (by simp [e])
    have hr : sep ∉ r := fun m => h (by simp [m])
    simp [partition, hc, partition_not_mem sep r hr]

theorem partition_append_sep (sep : Nat) (a b : Str) (h : sep ∉ a) : partition sep (a ++ sep :: b) = (a, true, b) :=
  partition_colon a b sep fun _ hc e => h (e ▸ hc)

theorem rpartition_not_mem (sep : Nat) (s : Str) (h : sep ∉ s) : rpartition sep s = ([], false, s) := by
  simp [rpartition, partition_not_mem sep s.reverse (by simpa using h)]

theorem rpartition_append_sep (sep : Nat) (a b : Str) (h : sep ∉ b) :
    rpartition sep (a ++ sep :: b) = (a, true, b) := by
  have : (a ++ sep :: b).reverse = b.reverse ++ sep :: a.reverse := by simp
  simp [rpartition, this, partition_append_sep sep b.reverse a.reverse (by simpa using h)]

/-- characters that may appear in a host name: not a delimiter of the URL grammar -/
def hostChar (c : Nat) : Bool :=
  !isNetlocEnd c && c != 58 && c != 64 && c != 91 && c != 93 && c != 37

def credChar (c : Nat) : Bool := !isNetlocEnd c && c != 91 && c != 93

def credPart : Option Str → Str
  | some ci => ci ++ [64]
  | none => []

def portPart : Option Str → Str
  | some ds => 58 :: ds
  | none => []

/-- `scheme://[cred@]host[:port]path` -/
def assembleUrl (scheme : Str) (cred : Option Str) (host : Str) (port : Option Str) (path : Str) : Str :=
  scheme ++ [58, 47, 47] ++ (credPart cred ++ (host ++ portPart port)) ++ path

structure UrlParts (scheme : Str) (cred : Option Str) (host : Str) (port : Option Str) (path : Str) : Prop where
  scheme_ne : scheme ≠ []
  scheme_alpha : ∀ c r, scheme = c :: r → isAlpha c = true
  scheme_chars : scheme.all isSchemeChar = true
  cred_chars : ∀ ci, cred = some ci → ∀ x ∈ ci, credChar x = true
  host_ne : host ≠ []
  host_chars : ∀ x ∈ host, hostChar x = true
  port_ok : ∀ ds, port = some ds → ds ≠ [] ∧ ds.all isDigit = true ∧ ds.length ≤ pyMaxStrDigits ∧ decVal ds ≤ 65535
  path_ok : path = [] ∨ ∃ y t, path = y :: t ∧ isNetlocEnd y = true

theorem schemeChar_ne_colon (c : Nat) (h : isSchemeChar c = true) : c ≠ 58 := by
  intro e; subst e; simp [isSchemeChar, isAlpha, isDigit] at h

theorem hostChar_of_digit (c : Nat) (h : isDigit c = true) : hostChar c = true := by
  simp [isDigit] at h
  simp [hostChar, isNetlocEnd]; omega

theorem rpartition_netloc (cred : Option Str) (hp : Str) (h64 : (64 : Nat) ∉ hp) :
    rpartition 64 (credPart cred ++ hp) = (cred.getD [], cred.isSome, hp) := by
  cases cred with
  | none => simpa [credPart] using rpartition_not_mem 64 _ h64
  | some ci =>
    have : credPart (some ci) ++ hp = ci ++ 64 :: hp := by simp [credPart]
    rw [this]; exact rpartition_append_sep 64 ci _ h64

theorem partition_hostport (host : Str) (port : Option Str) (h58 : (58 : Nat) ∉ host) :
    partition 58 (host ++ portPart port) = (host, port.isSome, port.getD []) := by
  cases port with
  | none => simpa [portPart] using partition_not_mem 58 host h58
  | some ds => simpa [portPart] using partition_append_sep 58 host ds h58

theorem parseUrl_parts (scheme : Str) (cred : Option Str) (host : Str) (port : Option Str) (path : Str)
    (h : UrlParts scheme cred host port path) :
    ∃ u, parseUrl (assembleUrl scheme cred host port path) = some u ∧
      u.scheme = lower scheme ∧ u.hostname = some (lower host) ∧ u.port = some (port.map decVal) ∧
      (cred = none → u.userinfo = (none, none)) ∧
      (∀ ci, cred = some ci → u.userinfo =
        (some (partition 58 ci).1, if (partition 58 ci).2.1 then some (partition 58 ci).2.2 else none)) := by
  have hcolon : (58 : Nat) ∉ scheme := by
    intro hm
    have := List.all_eq_true.mp h.scheme_chars 58 hm
    exact schemeChar_ne_colon 58 this rfl
  have hhp_chars : ∀ x ∈ host ++ portPart port, (!isNetlocEnd x) = true ∧ x ≠ 64 ∧ x ≠ 91 ∧ x ≠ 93 := by
    intro x hx
    simp only [List.mem_append] at hx
    rcases hx with hx | hx
    · have := h.host_chars x hx; simp [hostChar] at this; simp [this]
    · cases hp : port with
      | none => simp [hp, portPart] at hx
      | some ds =>
        simp only [hp, portPart, List.mem_cons] at hx
        rcases hx with rfl | hx
        · simp [isNetlocEnd]
        · have := hostChar_of_digit x (List.all_eq_true.mp (h.port_ok ds hp).2.1 x hx)
          simp [hostChar] at this; simp [this]
  have hnl_chars : ∀ x ∈ credPart cred ++ (host ++ portPart port), (!isNetlocEnd x) = true ∧ x ≠ 91 ∧ x ≠ 93 := by
    intro x hx
    rw [List.mem_append] at hx
    rcases hx with hx | hx
    · cases hc : cred with
      | none => simp [hc, credPart] at hx
      | some ci =>
        simp only [hc, credPart, List.mem_append, List.mem_singleton] at hx
        rcases hx with hx | rfl
        · have := h.cred_chars ci hc x hx; simp [credChar] at this; simp [this]
        · simp [isNetlocEnd]
    · have := hhp_chars x hx; simp [this]
  have hsplit : splitScheme (assembleUrl scheme cred host port path) =
      (lower scheme, 47 :: 47 :: ((credPart cred ++ (host ++ portPart port)) ++ path)) := by
    obtain ⟨c, r, hcr⟩ := List.exists_cons_of_ne_nil h.scheme_ne
    have ha := h.scheme_alpha c r hcr
    have hp : partition 58 (assembleUrl scheme cred host port path) =
        (scheme, true, 47 :: 47 :: ((credPart cred ++ (host ++ portPart port)) ++ path)) := by
      have : assembleUrl scheme cred host port path =
          scheme ++ 58 :: (47 :: 47 :: ((credPart cred ++ (host ++ portPart port)) ++ path)) := by
        simp [assembleUrl, List.append_assoc]
      rw [this, partition_append_sep 58 _ _ hcolon]
    subst hcr
    unfold splitScheme
    rw [hp]
    simp only []
    rw [if_pos ⟨trivial, ha, h.scheme_chars⟩]
  have hnetloc : splitNetloc (47 :: 47 :: ((credPart cred ++ (host ++ portPart port)) ++ path)) =
      credPart cred ++ (host ++ portPart port) := by
    simp only [splitNetloc]
    rw [List.takeWhile_append_of_pos fun x hx => (hnl_chars x hx).1]
    rcases h.path_ok with rfl | ⟨y, t, rfl, hy⟩
    · simp
    · simp [hy]
  have hno91 : (credPart cred ++ (host ++ portPart port)).contains 91 = false := by
    simp only [List.contains_eq_mem, decide_eq_false_iff_not]
    intro hm; exact (hnl_chars 91 hm).2.1 rfl
  have hno93 : (credPart cred ++ (host ++ portPart port)).contains 93 = false := by
    simp only [List.contains_eq_mem, decide_eq_false_iff_not]
    intro hm; exact (hnl_chars 93 hm).2.2 rfl
  have h64 : (64 : Nat) ∉ host ++ portPart port := fun hm => (hhp_chars 64 hm).2.1 rfl
  have h58 : (58 : Nat) ∉ host := fun hm => by have := h.host_chars 58 hm; simp [hostChar] at this
  have h37 : (37 : Nat) ∉ host := fun hm => by have := h.host_chars 37 hm; simp [hostChar] at this
  have hrp := rpartition_netloc cred _ h64
  have hpp := partition_hostport host port h58
  have hhi : Url.hostinfo { scheme := lower scheme, netloc := credPart cred ++ (host ++ portPart port) } = (host, port) := by
    unfold Url.hostinfo
    simp only [hrp, hpp]
    cases hp : port with
    | none => simp
    | some ds => simp [(h.port_ok _ hp).1]
  refine ⟨{ scheme := lower scheme, netloc := credPart cred ++ (host ++ portPart port) }, ?_, rfl, ?_, ?_, ?_, ?_⟩
  · simp only [parseUrl, hsplit, hnetloc, hno91, hno93]; simp
  · unfold Url.hostname
    rw [hhi]
    simp [h.host_ne, partition_not_mem 37 host h37]
  · unfold Url.port
    rw [hhi]
    cases hp : port with
    | none => rfl
    | some ds =>
      obtain ⟨_, h2, h3, h4⟩ := h.port_ok ds hp
      simp [h3, h4]
      simpa using h2
  · intro hc; subst hc
    unfold Url.userinfo
    simp [hrp]
  · intro ci hc; subst hc
    unfold Url.userinfo
    simp [hrp]

end Lomond.Proxy
