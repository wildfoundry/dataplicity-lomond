/-
  String literals as character lists: `ofString (String.ofList l) = l.map Char.toNat`.

  A literal `"…"` unifies with `String.ofList ['…', …]`, so `rw [lit_ofList]` (or `ofString_ofList`; `Http.lit` is
  `Http.ofString` under another head symbol, and `rw` matches the head) turns `Http.lit "HTTP/1.1 101 …"` into a
  `List.map` over a character list.  This is done before a goal about a concrete reply or request is handed to
  `decide +kernel`: the kernel evaluates `String.toList` of a literal by walking its UTF-8 byte array, quadratically in
  the length, and pays that again in every evaluation that mentions the literal.
-/
import Lomond.Model.Http

namespace Lomond.Http

theorem ofString_ofList (l : List Char) : ofString (String.ofList l) = l.map (·.toNat) := by
  unfold ofString; rw [String.toList_ofList]

theorem lit_ofList (l : List Char) : lit (String.ofList l) = l.map (·.toNat) := ofString_ofList l

end Lomond.Http
