/-
  With every timer switched off (`ping_rate = 0`, `ping_timeout = 0`, `close_timeout = 0`) and an
  application that ignores Poll events, time is unobservable (`runAll_freeze`, behind
  `time_unobservable` of Properties/C02_Time.lean).  `erase s` forgets all that has to do with time:
  the clock, the time stamps, the `tick` and `Poll` entries of the trace, the Polls in the history
  handed to the application.  Two runs from states with the timers off and the same erasure (`QT`)
  stay in step (`RSpec QT`, Proofs/RelSpec.lean: `ti_runRel`), also over a script and its frozen version.
-/
import Lomond.Proofs.RelSpec
import Lomond.Proofs.Timers
import Lomond.Proofs.SegmentationRun
namespace Lomond.Core.TI
open Lomond Lomond.Core Lomond.Core.Monitor Lomond.Core.Rel

def notTime : Obs → Bool
  | .tick _ => false
  | .ev .poll => false
  | _ => true

def npoll : Event → Bool
  | .poll => false
  | _ => true

/-- forget the clock, the time stamps, the ticks and Polls of trace and history, and the stored script
    (it differs between the two runs compared) -/
def erase (s : Sys) : Sys :=
  { s with env := [], now := 0, startTime := none, pollStart := none, nextPing := 0, lastPong := 0,
           sentCloseTime := none, trace := s.trace.filter notTime, hist := s.hist.filter npoll }

/-- the application does nothing at a Poll, and its reaction to any other event does not depend on
    the Polls it has seen before -/
structure PollBlind (r : React) : Prop where
  atPoll : ∀ h, r (.poll :: h) = []
  blind : ∀ e h, npoll e = true → r (e :: h) = r (e :: h.filter npoll)

structure Off (s : Sys) : Prop where
  rate : s.cfg.pingRate = 0
  pt : s.cfg.pingTimeout = 0
  ct : s.cfg.closeTimeout = 0
  pb : PollBlind s.react

theorem Off.erase {s : Sys} (h : Off s) : Off (erase s) := ⟨h.rate, h.pt, h.ct, h.pb⟩

theorem Off.of_eq {s s' : Sys} (h : Off s) (hc : s'.cfg = s.cfg) (hr : s'.react = s.react) : Off s' :=
  ⟨by rw [hc]; exact h.rate, by rw [hc]; exact h.pt, by rw [hc]; exact h.ct, by rw [hr]; exact h.pb⟩

theorem filter_idem {α : Type} (p : α → Bool) (l : List α) : (l.filter p).filter p = l.filter p := by
  rw [List.filter_filter]; simp

theorem erase_idem (s : Sys) : erase (erase s) = erase s := by
  unfold erase
  simp only [filter_idem]

theorem erase_cfg (s : Sys) : (erase s).cfg = s.cfg := rfl
theorem erase_react (s : Sys) : (erase s).react = s.react := rfl
theorem erase_env (s : Sys) : (erase s).env = [] := rfl
theorem erase_sockOpen (s : Sys) : (erase s).sockOpen = s.sockOpen := rfl
theorem erase_selOpen (s : Sys) : (erase s).selOpen = s.selOpen := rfl
theorem erase_ready (s : Sys) : (erase s).ready = s.ready := rfl
theorem erase_closing (s : Sys) : (erase s).closing = s.closing := rfl
theorem erase_closed (s : Sys) : (erase s).closed = s.closed := rfl
theorem erase_compression (s : Sys) : (erase s).compression = s.compression := rfl
theorem erase_parsedResponse (s : Sys) : (erase s).parsedResponse = s.parsedResponse := rfl
theorem erase_frames (s : Sys) : (erase s).frames = s.frames := rfl
theorem erase_decompress (s : Sys) : (erase s).decompress = s.decompress := rfl
theorem erase_inflHist (s : Sys) : (erase s).inflHist = s.inflHist := rfl
theorem erase_inflOut (s : Sys) : (erase s).inflOut = s.inflOut := rfl
theorem erase_p (s : Sys) : (erase s).p = s.p := rfl
theorem erase_keyCtr (s : Sys) : (erase s).keyCtr = s.keyCtr := rfl
theorem erase_writeCtr (s : Sys) : (erase s).writeCtr = s.writeCtr := rfl
theorem erase_abandonedWith (s : Sys) : (erase s).abandonedWith = s.abandonedWith := rfl
theorem erase_pollStart (s : Sys) : (erase s).pollStart = none := rfl
theorem erase_startTime (s : Sys) : (erase s).startTime = none := rfl
theorem erase_hist (s : Sys) : (erase s).hist = s.hist.filter npoll := rfl
theorem erase_trace (s : Sys) : (erase s).trace = s.trace.filter notTime := rfl
theorem erase_sessionTime (s : Sys) : sessionTime (erase s) = 0 := rfl

def TI (m : M α) : Prop := ∀ s, Off s → Res.mapS erase (m (erase s)) = Res.mapS erase (m s)

def QT (s u : Sys) : Prop := (Off s ∧ Off u) ∧ erase s = erase u

theorem rrel_erase {r r' : Res α} :
    RRel (fun s u => erase s = erase u) r r' ↔ Res.mapS erase r = Res.mapS erase r' := by
  cases r <;> cases r' <;> simp [RRel, Res.mapS]

theorem qt_mapS {r r' : Res α} (h : RRel QT r r') : Res.mapS erase r = Res.mapS erase r' :=
  rrel_erase.mp (rrel_weaken (fun _ _ q => q.2) h)

theorem ti_of_rs {m : M α} (h : RSpec QT m m) : TI m :=
  fun s hs => qt_mapS (h (erase s) s ⟨⟨hs.erase, hs⟩, erase_idem s⟩)

theorem qt_get {β : Type} (g : Sys → β) (hg : ∀ s, g (erase s) = g s) {s u : Sys} (q : QT s u) : g s = g u := by
  rw [← hg s, ← hg u, q.2]

theorem qt_upd (f : Sys → Sys) (hc : ∀ s, (f s).cfg = s.cfg) (hr : ∀ s, (f s).react = s.react)
    (he : ∀ s u, erase s = erase u → erase (f s) = erase (f u)) {s u : Sys} (q : QT s u) : QT (f s) (f u) :=
  ⟨⟨q.1.1.of_eq (hc s) (hr s), q.1.2.of_eq (hc u) (hr u)⟩, he s u q.2⟩

theorem qt_set (f : Sys → Sys) (hc : ∀ s, (f s).cfg = s.cfg) (hr : ∀ s, (f s).react = s.react)
    (hf : ∀ s, erase (f s) = f (erase s)) {s u : Sys} (q : QT s u) : QT (f s) (f u) :=
  qt_upd f hc hr (fun s u e => by rw [hf, hf, e]) q

@[simp] theorem nt_wr (d : Bytes) : notTime (.wr d) = true := rfl
@[simp] theorem nt_wrz (o : Nat) (d : Bytes) : notTime (.wrz o d) = true := rfl
@[simp] theorem nt_wrFail (d : Bytes) : notTime (.wrFail d) = true := rfl
@[simp] theorem nt_sockClose : notTime .sockClose = true := rfl
@[simp] theorem nt_selClose : notTime .selClose = true := rfl
@[simp] theorem nt_res (r : ActRes) : notTime (.res r) = true := rfl
@[simp] theorem nt_incomplete : notTime .incomplete = true := rfl
@[simp] theorem nt_tick (n : Nat) : notTime (.tick n) = false := rfl
@[simp] theorem nt_ev (e : Event) : notTime (.ev e) = npoll e := by cases e <;> rfl

theorem erase_wrote (s : Sys) (w : Option Obs) : erase (wrote (erase s) w) = erase (wrote s w) := by
  cases w with
  | none => exact erase_idem s
  | some o => simp [erase, wrote, List.filter_cons]

theorem erase_setClosing (s : Sys) (t : Option Nat) :
    erase { s with closing := true, sentCloseTime := t } = { erase s with closing := true } := rfl

/-- the Close frame went out: closing, the close timer armed -/
def markClosing (s : Sys) : Sys := { s with closing := true, sentCloseTime := some (sessionTime s) }

theorem erase_markClosing (s : Sys) : erase (markClosing s) = { erase s with closing := true } := rfl

theorem erase_logged (o : Obs) {s u : Sys} (e : erase s = erase u) :
    erase { s with trace := o :: s.trace } = erase { u with trace := o :: u.trace } := by
  have ht : s.trace.filter notTime = u.trace.filter notTime := congrArg Sys.trace e
  have hs : erase { s with trace := o :: s.trace } = { erase s with trace := (o :: s.trace).filter notTime } := rfl
  have hu : erase { u with trace := o :: u.trace } = { erase u with trace := (o :: u.trace).filter notTime } := rfl
  rw [hs, hu, e, List.filter_cons, List.filter_cons, ht]

theorem ti_actRel : ActRel QT where
  cfg q := qt_get Sys.cfg (fun _ => rfl) q
  sockOpen q := qt_get Sys.sockOpen (fun _ => rfl) q
  closed q := qt_get Sys.closed (fun _ => rfl) q
  closing q := qt_get Sys.closing (fun _ => rfl) q
  compression q := qt_get Sys.compression (fun _ => rfl) q
  key q := qt_get (fun s => s.cfg.maskKey s.keyCtr) (fun _ => rfl) q
  outcome d z _ _ q := qt_get (writeOutcome d z) (fun _ => rfl) q
  sockClosed q := qt_set (fun s => { s with sockOpen := false, trace := .sockClose :: s.trace })
    (fun _ => rfl) (fun _ => rfl) (fun _ => rfl) q
  wrote w _ _ q := qt_upd (fun s => wrote s w) (fun _ => by cases w <;> rfl) (fun _ => by cases w <;> rfl)
    (fun s u e => by rw [← erase_wrote s, ← erase_wrote u, e]) q
  drawn q := qt_set (fun s => { s with keyCtr := s.keyCtr + 1 }) (fun _ => rfl) (fun _ => rfl) (fun _ => rfl) q
  logged o _ _ q := qt_upd (fun s => { s with trace := o :: s.trace }) (fun _ => rfl) (fun _ => rfl)
    (fun _ _ e => erase_logged o e) q
  abandoned w _ _ q := qt_set (fun s => { s with abandonedWith := w }) (fun _ => rfl) (fun _ => rfl) (fun _ => rfl) q
  closeSent q := qt_upd Core.markClosing (fun _ => rfl) (fun _ => rfl)
    (fun _ _ e => congrArg (fun x : Sys => { x with closing := true }) e) q

theorem erase_push_poll (s : Sys) : erase (pushEv .poll s) = erase s := by
  simp [erase, pushEv, npoll]

theorem erase_push (e : Event) (s : Sys) (he : npoll e = true) :
    erase (pushEv e s) = pushEv e (erase s) := by
  simp [erase, pushEv, he]

theorem yieldEv_poll (s : Sys) (hs : Off s) : yieldEv .poll s = .ok () (pushEv .poll s) := by
  rw [yieldEv_eq, hs.pb.atPoll]
  rfl

/-- a Poll changes nothing that `erase` keeps; any other event reaches the same reaction -/
theorem rt_yieldEv (e : Event) : RSpec QT (yieldEv e) (yieldEv e) := by
  intro s u q
  cases he : npoll e with
  | false =>
    have : e = .poll := by cases e <;> first | rfl | (simp [npoll] at he)
    subst this
    rw [yieldEv_poll s q.1.1, yieldEv_poll u q.1.2]
    exact ⟨rfl, qt_upd (pushEv .poll) (fun _ => rfl) (fun _ => rfl)
      (fun s u h => by rw [erase_push_poll, erase_push_poll, h]) q⟩
  | true =>
    rw [yieldEv_eq, yieldEv_eq]
    have hr : s.react (e :: s.hist) = u.react (e :: u.hist) := by
      have h1 : s.hist.filter npoll = u.hist.filter npoll := congrArg Sys.hist q.2
      rw [q.1.1.pb.blind e s.hist he, q.1.2.pb.blind e u.hist he, h1, qt_get Sys.react (fun _ => rfl) q]
    rw [hr]
    exact ti_actRel.doActs _ _ _ (qt_upd (pushEv e) (fun _ => rfl) (fun _ => rfl)
      (fun s u h => by rw [erase_push e s he, erase_push e u he, h]) q)

theorem checkPoll_erase (s : Sys) (hs : Off s) : ∃ s', checkPoll s = .ok () s' ∧ erase s' = erase s := by
  by_cases h : Timers.pollDue s
  · rw [Timers.checkPoll_fires s h]
    have hs' : Off (Timers.pollMark s) := ⟨hs.rate, hs.pt, hs.ct, hs.pb⟩
    refine ⟨_, yieldEv_poll _ hs', ?_⟩
    rw [erase_push_poll]
    rfl
  · cases hp : s.pollStart with
    | none => exact (h (Or.inl hp)).elim
    | some p0 =>
      have hlt : sessionTime s - p0 < s.cfg.poll := by
        apply Nat.lt_of_not_le
        intro hge
        exact h (Or.inr ⟨p0, hp, hge⟩)
      exact ⟨s, Timers.checkPoll_quiet s p0 hp hlt, rfl⟩

theorem off_of_erase_eq {s s' : Sys} (hs : Off s) (e : erase s' = erase s) : Off s' := by
  have h1' : (erase s').cfg = (erase s).cfg := congrArg Sys.cfg e
  have h2' : (erase s').react = (erase s).react := congrArg Sys.react e
  have h1 : s'.cfg = s.cfg := h1'
  have h2 : s'.react = s.react := h2'
  exact ⟨by rw [h1]; exact hs.rate, by rw [h1]; exact hs.pt, by rw [h1]; exact hs.ct, by rw [h2]; exact hs.pb⟩

theorem regular_erase (s : Sys) (hs : Off s) : ∃ s', regular s = .ok () s' ∧ erase s' = erase s := by
  cases hr : s.ready with
  | false => exact ⟨s, regular_not_ready s hr, rfl⟩
  | true =>
    rw [Timers.regular_ready s hr]
    obtain ⟨s1, h1, e1⟩ := checkPoll_erase s hs
    have hs1 := off_of_erase_eq hs e1
    rw [bind_ok h1]
    have a : ¬ Timers.pingDue s1 := fun h => h.1 hs1.rate
    have b : ¬ Timers.pingTimeoutDue s1 := fun h => h.1 hs1.pt
    have c : ¬ Timers.closeTimeoutDue s1 := fun h => h.1 hs1.ct
    rw [bind_ok (Timers.checkAutoPing_quiet s1 a), bind_ok (Timers.checkPingTimeout_quiet s1 b)]
    exact ⟨s1, Timers.checkCloseTimeout_quiet s1 c, e1⟩

theorem rt_regular : RSpec QT regular regular := by
  intro s u q
  obtain ⟨s1, h1, e1⟩ := regular_erase s q.1.1
  obtain ⟨u1, h2, e2⟩ := regular_erase u q.1.2
  rw [h1, h2]
  exact ⟨rfl, ⟨off_of_erase_eq q.1.1 e1, off_of_erase_eq q.1.2 e2⟩, e1.trans (q.2.trans e2.symm)⟩

theorem ti_modS_kept {f : Sys → Sys} (h : ∀ s, erase (f (erase s)) = erase (f s)) : TI (modS f) := by
  intro s _
  show Res.ok () (erase (f (erase s))) = Res.ok () (erase (f s))
  rw [h]

theorem erase_setP (s : Sys) (q : PState) : erase { s with p := q } = { erase s with p := q } := rfl

theorem ti_runRel : RunRel QT where
  toActRel := ti_actRel
  setFlags a b _ _ q := qt_set (fun s => { s with closing := a, closed := b }) (fun _ => rfl) (fun _ => rfl) (fun _ => rfl) q
  setClosing q := qt_set (fun s => { s with closing := true }) (fun _ => rfl) (fun _ => rfl) (fun _ => rfl) q
  becameReady q :=
    qt_upd (fun s => { s with lastPong := 0, nextPing := 0, startTime := some s.now, ready := true })
      (fun _ => rfl) (fun _ => rfl) (fun _ _ e => congrArg (fun x : Sys => { x with ready := true }) e) q
  gotPong q := qt_upd (fun s => { s with lastPong := sessionTime s }) (fun _ => rfl) (fun _ => rfl) (fun _ _ e => e) q
  yieldEv := rt_yieldEv
  regular := rt_regular
  p q := qt_get Sys.p (fun _ => rfl) q
  frames q := qt_get Sys.frames (fun _ => rfl) q
  decompress q := qt_get Sys.decompress (fun _ => rfl) q
  inflHist q := qt_get Sys.inflHist (fun _ => rfl) q
  inflOut q := qt_get Sys.inflOut (fun _ => rfl) q
  setP p' _ _ q := qt_set (fun s => { s with p := p' }) (fun _ => rfl) (fun _ => rfl) (fun _ => rfl) q
  setFrames g _ _ q := qt_set (fun s => { s with frames := g s.frames }) (fun _ => rfl) (fun _ => rfl) (fun _ => rfl) q
  setParsed q := qt_set (fun s => { s with parsedResponse := true }) (fun _ => rfl) (fun _ => rfl) (fun _ => rfl) q
  accept d _ _ q :=
    qt_set (fun s => { s with compression := d, decompress := d.isSome, p := if d.isSome then { s.p with compression := true } else s.p })
      (fun _ => rfl) (fun _ => rfl) (fun _ => rfl) q
  inflated h n _ _ q := qt_set (fun s => { s with inflHist := h, inflOut := n }) (fun _ => rfl) (fun _ => rfl) (fun _ => rfl) q
  selOpen q := qt_get Sys.selOpen (fun _ => rfl) q
  setSock q := qt_set (fun s => { s with sockOpen := true }) (fun _ => rfl) (fun _ => rfl) (fun _ => rfl) q
  setSel b _ _ q := qt_set (fun s => { s with selOpen := b }) (fun _ => rfl) (fun _ => rfl) (fun _ => rfl) q
  selClosed q := qt_set (fun s => { s with selOpen := false, trace := .selClose :: s.trace })
    (fun _ => rfl) (fun _ => rfl) (fun _ => rfl) q

theorem ti_recvStep (o : RecvOutcome) : RSpec QT (recvStep o) (recvStep o) :=
  ti_runRel.recvStep o

theorem ti_wsFeed (data : Bytes) : TI (wsFeed data) := ti_of_rs (ti_runRel.wsFeed data)

theorem erase_tick (s : Sys) (dt : Nat) : erase (tick s dt) = erase s := by
  unfold tick
  by_cases h : dt = 0
  · simp [h, erase]
  · simp [h, erase]

/-- forget the waits of a script: a cycle that reads returns at once, an idle cycle disappears -/
def freeze : List EnvStep → List EnvStep
  | [] => []
  | .wait _ none :: r => freeze r
  | .wait _ (some o) :: r => .wait 0 (some o) :: freeze r
  | .selErr :: r => .selErr :: freeze r

theorem qt_left {s s' u : Sys} (e : erase s' = erase s) (q : QT s u) : QT s' u :=
  ⟨⟨off_of_erase_eq q.1.1 e, q.1.2⟩, e.trans q.2⟩

theorem qt_right {s u u' : Sys} (e : erase u' = erase u) (q : QT s u) : QT s u' :=
  ⟨⟨q.1.1, off_of_erase_eq q.1.2 e⟩, q.2.trans e.symm⟩

theorem loop_freeze (env : List EnvStep) : RSpec QT (loop env) (loop (freeze env)) := by
  induction env with
  | nil =>
    intro s u q
    simp only [freeze, loop]
    rw [qt_get Sys.closed (fun _ => rfl) q]
    split <;> exact ⟨rfl, q⟩
  | cons st rest ih =>
    intro s u q
    have hc := qt_get Sys.closed (fun _ => rfl) q
    by_cases hcl : s.closed = true
    · rw [loop_closed _ s hcl, loop_closed _ u (hc ▸ hcl)]
      exact ⟨rfl, q⟩
    · have hcl' : s.closed = false := by simpa using hcl
      have hclu : u.closed = false := hc ▸ hcl'
      cases st with
      | selErr =>
        show RRel QT (loop (.selErr :: rest) s) (loop (.selErr :: freeze rest) u)
        rw [SegLoop.loop_selErr rest s hcl', SegLoop.loop_selErr (freeze rest) u hclu]
        exact ⟨rfl, q⟩
      | wait dt readable =>
        obtain ⟨s2, hr, e2⟩ := regular_erase (tick s dt) (off_of_erase_eq q.1.1 (erase_tick s dt))
        have q2 : QT s2 u := qt_left (e2.trans (erase_tick s dt)) q
        rw [SegLoop.loop_wait dt readable rest s hcl', hr]
        cases readable with
        | none =>
          show RRel QT (loop rest s2) (loop (freeze rest) u)
          exact ih s2 u q2
        | some o =>
          obtain ⟨u2, hru, eu2⟩ := regular_erase (tick u 0) (off_of_erase_eq q.1.2 (erase_tick u 0))
          have q3 : QT s2 u2 := qt_right (eu2.trans (erase_tick u 0)) q2
          show RRel QT _ (loop (.wait 0 (some o) :: freeze rest) u)
          rw [SegLoop.loop_wait 0 (some o) (freeze rest) u hclu, hru]
          simp only []
          have h0 := ti_recvStep o s2 u2 q3
          cases h1 : recvStep o s2 with
          | err x s3 => rw [h1] at h0; obtain ⟨u3, h2, q4⟩ := h0.err_inv; rw [h2]; exact ⟨rfl, q4⟩
          | ok go s3 =>
            rw [h1] at h0; obtain ⟨u3, h2, q4⟩ := h0.ok_inv; rw [h2]
            cases go with
            | true => exact ih s3 u3 q4
            | false => exact ⟨rfl, q4⟩

theorem same_runLoopL {l : M Unit} (hl : Spec Same l) : Spec Same (runLoopL l) := same_leaves.runLoopL hl

theorem finish_erase (r₁ r₂ : Res Unit) (h : Res.mapS erase r₁ = Res.mapS erase r₂) :
    erase (SegLoop.finish r₁) = erase (SegLoop.finish r₂) := by
  have e (r : Res Unit) : SegLoop.finish (Res.mapS erase r) = erase (SegLoop.finish r) :=
    SegLoop.finish_mapS erase (fun _ => rfl) (fun _ => rfl) (fun s => by simp [erase, List.filter_cons])
      (fun s => by simp [erase, List.filter_cons]) r
  rw [← e, ← e, h]

/-- Time is unobservable with the timers off.  Configuration: `ping_rate = 0`,
    `ping_timeout = 0`, `close_timeout = 0`; application: any function of the event history that
    does nothing at a Poll and does not look at the Polls it has seen (`PollBlind`); it may send,
    close, close the session's socket, abandon the loop; environment: any script (any server
    bytes, valid or not, errors, end of stream).  The connection run with the script's waits and
    the connection run with all waits removed (`freeze`) end in the same state up to `erase`:
    same events apart from Polls, same results of application calls, same bytes written, in the
    same order, same final flags. -/
theorem runAll_freeze (cfg : Cfg) (react : React) (h1 : cfg.pingRate = 0) (h2 : cfg.pingTimeout = 0)
    (h3 : cfg.closeTimeout = 0) (hpb : PollBlind react) (env : List EnvStep) :
    erase (runAll cfg react env) = erase (runAll cfg react (freeze env)) := by
  rw [SegLoop.runAll_eq, SegLoop.runAll_eq]
  apply finish_erase
  rw [run_eq_runL, run_eq_runL]
  exact qt_mapS (ti_runRel.runL (loop_freeze env) _ _ ⟨⟨⟨h1, h2, h3, hpb⟩, ⟨h1, h2, h3, hpb⟩⟩, rfl⟩)

/-- what the application and the wire see, time left out -/
def timeless (tr : List Obs) : List Obs := tr.filter notTime

theorem timeless_freeze (cfg : Cfg) (react : React) (h1 : cfg.pingRate = 0) (h2 : cfg.pingTimeout = 0)
    (h3 : cfg.closeTimeout = 0) (hpb : PollBlind react) (env : List EnvStep) :
    timeless (runAll cfg react env).trace = timeless (runAll cfg react (freeze env)).trace :=
  congrArg Sys.trace (runAll_freeze cfg react h1 h2 h3 hpb env)

end Lomond.Core.TI
