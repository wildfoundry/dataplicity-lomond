/-
  Canonical Huffman codes (RFC 1951 §3.2.2) for arbitrary code lengths: the table `mkHuff` builds
  is in canonical form (`Canon`, `mkHuff_canon`), and on such a table the loop `goL` of
  Proofs/InflateHuff.lean reads the code word `DeflEnc.canonCode lens s`, followed by anything, back
  as `s` when the lengths are not over-subscribed (`kraft_fits`, `goL_canonCode`, `goL_canonWord`).
  `decode` itself and prefix-freeness: Properties/C06_Inflate.lean.
-/
import Lomond.Proofs.InflateHuff
namespace Lomond.Inflate
open Lomond Lomond.DeflEnc

/-- number of symbols with a non-zero length below `l` = where the symbols of length `l` start
    in `Huff.symbol` -/
def firstIdx (lens : List Nat) : Nat → Nat
  | 0 => 0
  | 1 => 0
  | j + 2 => firstIdx lens (j + 1) + lens.count (j + 1)

theorem firstCode_succ (lens : List Nat) (j : Nat) (hj : 1 ≤ j) :
    firstCode lens (j + 1) = (firstCode lens j + lens.count j) * 2 := by
  obtain ⟨k, rfl⟩ : ∃ k, j = k + 1 := ⟨j - 1, by omega⟩
  rfl

theorem firstIdx_succ (lens : List Nat) (j : Nat) (hj : 1 ≤ j) :
    firstIdx lens (j + 1) = firstIdx lens j + lens.count j := by
  obtain ⟨k, rfl⟩ : ∃ k, j = k + 1 := ⟨j - 1, by omega⟩
  rfl

/-- the codes of a longer length start beyond every shorter code extended with zeros -/
theorem firstCode_grow (lens : List Nat) (j m : Nat) (hj : 1 ≤ j) (hm : 1 ≤ m) :
    (firstCode lens j + lens.count j) * 2 ^ m ≤ firstCode lens (j + m) := by
  induction m with
  | zero => omega
  | succ m ih =>
    by_cases h0 : m = 0
    · subst h0; rw [firstCode_succ lens j hj]; simp
    · have := ih (by omega)
      rw [show j + (m + 1) = (j + m) + 1 from rfl, firstCode_succ lens (j + m) (by omega), Nat.pow_succ,
        ← Nat.mul_assoc]
      apply Nat.mul_le_mul_right
      omega

/-- what `decode` needs of a table: the counts per length and the symbols in canonical order -/
structure Canon (cnt sym : Nat → Nat) (lens : List Nat) : Prop where
  cnt : ∀ l, 1 ≤ l → l ≤ 15 → cnt l = lens.count l
  sym : ∀ s l, lens[s]? = some l → 1 ≤ l → l ≤ 15 → sym (firstIdx lens l + (lens.take s).count l) = s

theorem bitsMSB_succ (m v : Nat) (hv : v < 2 ^ (m + 1)) :
    bitsMSB (m + 1) v = decide (v / 2 ^ m = 1) :: bitsMSB m (v % 2 ^ m) := by
  unfold bitsMSB
  rw [bitsLE_add m 1, List.reverse_append]
  have h1 : v / 2 ^ m < 2 := by
    rw [Nat.div_lt_iff_lt_mul (Nat.two_pow_pos _)]
    rw [Nat.pow_succ] at hv; omega
  have : (v / 2 ^ m % 2 = 1) = (v / 2 ^ m = 1) := by
    generalize v / 2 ^ m = x at h1
    apply propext; omega
  simp only [bitsLE, List.reverse_cons, List.reverse_nil, List.nil_append, List.singleton_append, this, bitsLE_mod]

/-- **the decoding loop on a canonical code word**: entered at length `len` with `code` = twice
    the bits read so far, it reads the remaining `m` bits `v` and returns the symbol whose code is
    `w = code * 2^(m-1) + v` of length `len + m - 1` -/
theorem goL_canon (cnt sym : Nat → Nat) (lens : List Nat) (hc : Canon cnt sym lens) (m : Nat) :
    ∀ (len c v fuel : Nat) (rest : List Bool), 1 ≤ len → len + m ≤ 15 → m + 1 ≤ fuel → v < 2 ^ (m + 1) →
      firstCode lens (len + m) ≤ c * 2 ^ m + v →
      c * 2 ^ m + v < firstCode lens (len + m) + lens.count (len + m) →
      goL cnt sym fuel len c (firstCode lens len) (firstIdx lens len) (bitsMSB (m + 1) v ++ rest) =
        some (some (sym (firstIdx lens (len + m) + (c * 2 ^ m + v - firstCode lens (len + m)))), m + 1) := by
  induction m with
  | zero =>
    intro len c v fuel rest h1 h15 hf hv hlo hhi
    obtain ⟨fuel, rfl⟩ : ∃ f, fuel = f + 1 := ⟨fuel - 1, by omega⟩
    simp only [Nat.pow_zero, Nat.mul_one, Nat.add_zero] at hlo hhi ⊢
    have hb : bitsMSB 1 v = [decide (v = 1)] := by
      have : (v % 2 = 1) = (v = 1) := by apply propext; omega
      simp [bitsMSB, bitsLE, this]
    rw [hb]
    have hbt : (decide (v = 1)).toNat = v := by
      have : v = 0 ∨ v = 1 := by omega
      rcases this with h | h <;> subst h <;> rfl
    simp only [List.cons_append, List.nil_append, goL, hbt, hc.cnt len h1 (by omega)]
    rw [if_pos hhi]
  | succ m ih =>
    intro len c v fuel rest h1 h15 hf hv hlo hhi
    obtain ⟨fuel, rfl⟩ : ∃ f, fuel = f + 1 := ⟨fuel - 1, by omega⟩
    have hP : 0 < 2 ^ (m + 1) := Nat.two_pow_pos _
    have hq : v / 2 ^ (m + 1) < 2 := by
      rw [Nat.div_lt_iff_lt_mul hP]
      rw [Nat.pow_succ] at hv; omega
    have hbt : (decide (v / 2 ^ (m + 1) = 1)).toNat = v / 2 ^ (m + 1) := by
      have : v / 2 ^ (m + 1) = 0 ∨ v / 2 ^ (m + 1) = 1 := by
        generalize v / 2 ^ (m + 1) = x at hq
        omega
      rcases this with h | h <;> rw [h] <;> rfl
    rw [bitsMSB_succ (m + 1) v hv]
    simp only [List.cons_append, goL, hbt, hc.cnt len h1 (by omega)]
    have hdm := Nat.div_add_mod v (2 ^ (m + 1))
    have hgrow := firstCode_grow lens len (m + 1) h1 (by omega)
    -- the prefix read so far is not a code of length `len`
    have hge : firstCode lens len + lens.count len ≤ c + v / 2 ^ (m + 1) := by
      have : (firstCode lens len + lens.count len) * 2 ^ (m + 1) ≤ c * 2 ^ (m + 1) + v := Nat.le_trans hgrow hlo
      have h2 := (Nat.le_div_iff_mul_le hP).mpr this
      rw [Nat.mul_comm c, Nat.mul_add_div hP] at h2
      exact h2
    rw [if_neg (by omega)]
    have hw : (c + v / 2 ^ (m + 1)) * 2 * 2 ^ m + v % 2 ^ (m + 1) = c * 2 ^ (m + 1) + v := by
      rw [Nat.mul_assoc, ← Nat.pow_succ', Nat.add_mul, Nat.add_assoc]
      congr 1
      rw [Nat.mul_comm]
      exact hdm
    have := ih (len + 1) ((c + v / 2 ^ (m + 1)) * 2) (v % 2 ^ (m + 1)) fuel rest (by omega) (by omega) (by omega)
      (Nat.mod_lt _ hP)
    rw [hw, show len + 1 + m = len + (m + 1) by omega] at this
    rw [← firstCode_succ lens len h1, ← firstIdx_succ lens len h1, this hlo hhi]

theorem count_take_lt (lens : List Nat) (s l : Nat) (h : lens[s]? = some l) : (lens.take s).count l < lens.count l := by
  induction lens generalizing s with
  | nil => simp at h
  | cons x r ih =>
    cases s with
    | zero =>
      simp at h; subst h
      simp
    | succ s =>
      simp only [List.getElem?_cons_succ] at h
      have := ih s h
      simp only [List.take_succ_cons, List.count_cons]
      omega

/-- `hk`: the lengths are not over-subscribed at `l` (all codes of length `l` fit in `l` bits) -/
theorem goL_canonCode (cnt sym : Nat → Nat) (lens : List Nat) (hc : Canon cnt sym lens) (s l : Nat) (rest : List Bool)
    (hs : lens[s]? = some l) (h1 : 1 ≤ l) (h15 : l ≤ 15)
    (hk : firstCode lens l + lens.count l ≤ 2 ^ l) :
    goL cnt sym 15 1 0 (0 : Nat) 0 (canonCode lens s ++ rest) = some (some s, l) := by
  obtain ⟨m, rfl⟩ : ∃ m, l = m + 1 := ⟨l - 1, by omega⟩
  have hr := count_take_lt lens s (m + 1) hs
  have hg : lens.getD s 0 = m + 1 := by simp [List.getD_eq_getElem?_getD, hs]
  have := goL_canon cnt sym lens hc m 1 0 (firstCode lens (m + 1) + (lens.take s).count (m + 1)) 15 rest
    (by omega) (by omega) (by omega) (by omega)
  simp only [Nat.zero_mul, Nat.zero_add, show 1 + m = m + 1 by omega] at this
  have h2 := this (by omega) (by omega)
  have e1 : firstCode lens 1 = 0 := rfl
  have e2 : firstIdx lens 1 = 0 := rfl
  rw [e1, e2] at h2
  rw [canonCode, hg, h2, Nat.add_sub_cancel_left, hc.sym s (m + 1) hs (by omega) h15]

theorem symsOf_length (l i0 : Nat) (ll : List Nat) : (symsOf l i0 ll).length = ll.count l := by
  induction ll generalizing i0 with
  | nil => rfl
  | cons x r ih =>
    simp only [symsOf, List.count_cons]
    split
    · rename_i hx; subst hx; simp [ih]
    · rename_i hx
      have : (x == l) = false := by simpa using hx
      simp [ih, this]

theorem symsOf_getElem? (l i0 : Nat) (ll : List Nat) (s : Nat) (h : ll[s]? = some l) :
    (symsOf l i0 ll)[(ll.take s).count l]? = some (i0 + s) := by
  induction ll generalizing i0 s with
  | nil => simp at h
  | cons x r ih =>
    cases s with
    | zero =>
      simp at h; subst h
      simp [symsOf]
    | succ s =>
      simp only [List.getElem?_cons_succ] at h
      simp only [symsOf, List.take_succ_cons, List.count_cons]
      split
      · rename_i hx; subst hx
        simp only [BEq.rfl, if_true, List.getElem?_cons_succ]
        rw [ih (i0 + 1) s h]; congr 1; omega
      · rename_i hx
        have : (x == l) = false := by simpa using hx
        simp only [this, Bool.false_eq_true, if_false, Nat.add_zero]
        rw [ih (i0 + 1) s h]; congr 1; omega

theorem flatMap_range_getElem? {α : Type} (f : Nat → List α) (n k r : Nat) (x : α) (hk : k < n)
    (h : (f k)[r]? = some x) :
    ((List.range n).flatMap f)[((List.range k).flatMap f).length + r]? = some x := by
  induction n with
  | zero => omega
  | succ n ih =>
    rw [List.range_succ, List.flatMap_append]
    by_cases hkn : k < n
    · have := ih hkn
      rw [List.getElem?_append_left]
      · exact this
      · exact (List.getElem?_eq_some_iff.mp this).1
    · have : k = n := by omega
      subst this
      rw [List.getElem?_append_right (by omega)]
      simp [h]

theorem segs_length (ll : List Nat) (k : Nat) :
    ((List.range k).flatMap (fun l => symsOf (l + 1) 0 ll)).length = firstIdx ll (k + 1) := by
  induction k with
  | zero => rfl
  | succ k ih =>
    rw [List.range_succ, List.flatMap_append, List.length_append, ih, firstIdx_succ ll (k + 1) (by omega)]
    simp [symsOf_length]

theorem countLens_getD (ll : List Nat) (l : Nat) (h : l < 16) : (countLens ll).getD l 0 = ll.count l := by
  simp only [countLens]
  rw [← getD_toList]
  simp only [List.getD_eq_getElem?_getD, List.getElem?_map, List.getElem?_range h]
  rfl

theorem canon_mk (lens : List Nat) (sh : Shape) :
    Canon (Huff.cnt ⟨countLens lens, ((List.range 15).flatMap (fun l => symsOf (l + 1) 0 lens)).toArray, sh⟩)
      (Huff.sym ⟨countLens lens, ((List.range 15).flatMap (fun l => symsOf (l + 1) 0 lens)).toArray, sh⟩) lens where
  cnt l h1 h15 := countLens_getD lens l (by omega)
  sym s l hs h1 h15 := by
    simp only [Huff.sym]
    rw [← getD_toList]
    simp only [List.getD_eq_getElem?_getD]
    have h0 := symsOf_getElem? l 0 lens s hs
    obtain ⟨k, rfl⟩ : ∃ k, l = k + 1 := ⟨l - 1, by omega⟩
    have := flatMap_range_getElem? (fun l => symsOf (l + 1) 0 lens) 15 k _ _ (by omega) h0
    rw [segs_length] at this
    rw [this, Option.getD_some, Nat.zero_add]

theorem mkHuff_canon (lens : Array Nat) (isCodes : Bool) (h : Huff) (hm : mkHuff lens isCodes = some h) :
    Canon h.cnt h.sym lens.toList := by
  unfold mkHuff at hm
  simp only [] at hm
  split at hm
  · cases hm
  · rename_i sh _
    simp only [Option.some.injEq] at hm
    subst hm
    exact canon_mk lens.toList sh

theorem kraftTo_succ (g : Nat → Nat) (n : Nat) :
    (List.range (n + 1)).foldl (fun a l => a + g l) 0 = (List.range n).foldl (fun a l => a + g l) 0 + g n := by
  rw [List.range_succ, List.foldl_append]; rfl

theorem kraftTo_mono (g : Nat → Nat) (n k : Nat) :
    (List.range n).foldl (fun a l => a + g l) 0 ≤ (List.range (n + k)).foldl (fun a l => a + g l) 0 := by
  induction k with
  | zero => exact Nat.le_refl _
  | succ k ih => rw [← Nat.add_assoc, kraftTo_succ]; omega

/-- the codes of the lengths `1..l`, extended with zeros to 15 bits, fill exactly the Kraft sum
    over these lengths -/
theorem firstCode_kraft (ll : List Nat) (l : Nat) (h1 : 1 ≤ l) (h15 : l ≤ 15) :
    (firstCode ll l + ll.count l) * 2 ^ (15 - l) =
      (List.range l).foldl (fun a l => a + ll.count (l + 1) * 2 ^ (14 - l)) 0 := by
  induction l with
  | zero => omega
  | succ l ih =>
    rw [kraftTo_succ (fun l => ll.count (l + 1) * 2 ^ (14 - l))]
    by_cases h0 : l = 0
    · subst h0; simp [firstCode]
    · rw [← ih (by omega) (by omega), firstCode_succ ll l (by omega), show 15 - l = (14 - l) + 1 by omega,
        show 15 - (l + 1) = 14 - l by omega, Nat.pow_succ, Nat.add_mul, Nat.mul_assoc, Nat.mul_comm 2]

/-- not over-subscribed (the test of `classify`, as `inflate_table` makes it): the codes of
    every length fit -/
theorem kraft_fits (ll : List Nat)
    (hu : (List.range 15).foldl (fun a l => a + ll.count (l + 1) * 2 ^ (14 - l)) 0 ≤ 2 ^ 15)
    (l : Nat) (h1 : 1 ≤ l) (h15 : l ≤ 15) : firstCode ll l + ll.count l ≤ 2 ^ l := by
  have hm := kraftTo_mono (fun l => ll.count (l + 1) * 2 ^ (14 - l)) l (15 - l)
  rw [show l + (15 - l) = 15 by omega, ← firstCode_kraft ll l h1 h15] at hm
  have h2 : (2 : Nat) ^ 15 = 2 ^ l * 2 ^ (15 - l) := by rw [← Nat.pow_add]; congr 1; omega
  rw [h2] at hu
  exact Nat.le_of_mul_le_mul_right (Nat.le_trans hm hu) (Nat.two_pow_pos _)

theorem goL_canonWord (cnt sym : Nat → Nat) (lens : List Nat) (hc : Canon cnt sym lens) (hk : kraft lens ≤ 2 ^ 15)
    (h15 : ∀ l ∈ lens, l ≤ 15) (s : Nat) (rest : List Bool) (hs : 1 ≤ lens.getD s 0) :
    goL cnt sym 15 1 0 0 0 (canonCode lens s ++ rest) = some (some s, lens.getD s 0) := by
  have hget : lens[s]? = some (lens.getD s 0) := by
    rw [List.getD_eq_getElem?_getD] at hs ⊢
    cases hx : lens[s]? with
    | none => rw [hx] at hs; cases hs
    | some x => rfl
  have hl15 : lens.getD s 0 ≤ 15 := h15 _ (List.mem_of_getElem? hget)
  exact goL_canonCode cnt sym lens hc s _ rest hget hs hl15 (kraft_fits lens hk _ hs hl15)

end Lomond.Inflate
