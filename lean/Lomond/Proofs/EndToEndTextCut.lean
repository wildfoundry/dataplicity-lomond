/-
  What a text message does from any idle state (Properties/C05_E2E, C05_E2E2, C05_ZAny): feeding a stream
  in stages, what the incremental validator says at the first offending byte of a fragment, a valid and an
  invalid text message, and the cases of `ZOutcome`; then the whole-connection forms for any `Prefix`:
  `violation_after_items` (one violating frame: Properties/C04_E2E, C04_E2E2), `failfast_after_prefix`,
  `text_verdict_after_prefix`.
-/
import Lomond.Proofs.EndToEndText
import Lomond.Proofs.PrefixRun
import Lomond.Proofs.ZMsg
import Lomond.Properties.C05

namespace Lomond.Core

theorem feedLoop_append_ok {a : Bytes} {s s' : Sys} (h : feedLoop a s = .ok true s') (b : Bytes) :
    feedLoop (a ++ b) s = feedLoop b s' := by
  rw [feedLoop_append, h]; rfl

namespace E2E

/-- `b` is the first offending byte of the fragment `w` (`done`: the text bytes of the frames before
    it; hypotheses as in `C05E2E.failfast_message`): the validator passes everything before the
    fragment, and fails on the fragment's payload cut after `b` — the input of `cut_partial_bad_g`. -/
theorem offending_byte {w : WFrame} {done a c : Bytes} {b : Nat} (hpl : w.payload = a ++ b :: c)
    (hbytes : Bytes.WF (done ++ a ++ [b]))
    (hgood : ∃ ext, Utf8.wf (done ++ a ++ ext) = true)
    (hbad : ∀ ext, Utf8.wf (done ++ a ++ [b] ++ ext) = false) :
    (∃ d, Utf8.validate 0 done = some d) ∧ a.length + 1 ≤ w.payload.length ∧
      Utf8.validate 0 (done ++ w.payload.take (a.length + 1)) = none := by
  have hw1 : Bytes.WF (done ++ a) := fun x hx => hbytes x (List.mem_append_left _ hx)
  have hv1 : Utf8.validate 0 (done ++ a) ≠ none := fun hv => by
    obtain ⟨ext, he⟩ := hgood
    rw [(C05.validate_verdict _ hw1).mp hv ext] at he
    cases he
  obtain ⟨d1, hd1⟩ := Option.ne_none_iff_exists'.mp hv1
  have htake : w.payload.take (a.length + 1) = a ++ [b] := by
    rw [hpl, List.append_cons]
    exact List.take_left' (by simp)
  refine ⟨validate_prefix 0 _ _ _ hd1, by rw [hpl]; simp, ?_⟩
  rw [htake, ← List.append_assoc]
  exact (C05.validate_verdict _ hbytes).mpr hbad

/-- **An invalid text message stops the loop.**  `m` is a text message (RSV1 = 0, any fragmentation)
    whose joined payload is not well-formed UTF-8.  Fed from any idle state, with anything after it,
    it delivers a prefix `ces` of its control events and then raises a critical error: the
    incremental validator's at the fragment that makes the text unsalvageable, or
    `Text.from_payload`'s at the last fragment when every byte passed but the text is truncated.
    `ces` and the error text depend on the message only. -/
theorem invalid_text_stops (m : DataMsg) (ht : m.text = true) (hfirst : m.first.Ok) (hrest : contOk m.rest)
    (hwf : Utf8.wf m.payload = false) :
    ∃ ces msg, ces <+: (contCtrls m.rest).map CtrlF.event ∧
      ∀ {cfg : Cfg} {react : React} {c : Bool} {s4 : Sys}, IdleG cfg react c s4 → cfg.v.keepIsText = true →
        (cfg.v.perMsgValidate = true ∨ c = false) → ∀ tail : Bytes,
        ∃ x s1, feedLoop (wireBytes m.wire ++ tail) s4 = .err x s1 ∧ violationOf x = some (msg, true) ∧ I s1 ∧
          hist s1.trace = ces.reverse ++ hist s4.trace := by
  cases hv : Utf8.validate 0 m.payload with
  | none =>
    obtain ⟨before, w, after, done, evs, hcut, ⟨d, hd⟩, hbad⟩ := find_cut_bad m hv
    refine ⟨evs, "invalid utf8", hcut.evs_prefix, fun h4 hk hm tail => ?_⟩
    obtain ⟨sp, hfl, a⟩ := feed_cut_g h4 hk hm m ht hfirst hrest hcut d hd
    obtain ⟨q, e⟩ := cut_bad_g a (hcut.wOk ht hfirst hrest) hbad (wireBytes after ++ tail)
    refine ⟨.parse "invalid utf8", { sp with p := q }, ?_, rfl, ⟨a.i.app, a.i.poll, a.i.sock, a.i.nr, a.i.rd⟩, a.hist⟩
    rw [hcut.wire, wireBytes_append, wireBytes_cons, List.append_assoc, List.append_assoc]
    exact (feedLoop_append_ok hfl _).trans e
  | some dv =>
    obtain ⟨before, w, done, hcut, hfin, hpl⟩ := find_cut_last m
    rw [hpl] at hv hwf
    obtain ⟨d0, hd0⟩ := validate_prefix 0 _ _ _ hv
    refine ⟨_, "payload contains invalid utf-8", List.prefix_refl _, fun h4 hk hm tail => ?_⟩
    obtain ⟨sp, hfl, a⟩ := feed_cut_g h4 hk hm m ht hfirst hrest hcut d0 hd0
    obtain ⟨q, e⟩ := cut_build_bad_g a (hcut.wOk ht hfirst hrest) hfin dv hv hwf tail
    refine ⟨.critical "payload contains invalid utf-8", { sp with p := q, frames := sp.frames ++ [w.frame] }, ?_, rfl,
      ⟨a.i.app, a.i.poll, a.i.sock, a.i.nr, a.i.rd⟩, a.hist⟩
    rw [hcut.wire, wireBytes_append, wireBytes_cons, List.append_assoc]
    exact (feedLoop_append_ok hfl _).trans (by simpa [wireBytes] using e)

/-- **A valid text message is delivered.**  The counterpart of `invalid_text_stops`: a text message
    whose joined payload is well-formed UTF-8 is a conforming item (`feed_items_G`); it delivers its
    control events, then one `Text` with the decoding, and leaves the state idle. -/
theorem valid_text_delivered {cfg : Cfg} {react : React} {c : Bool} {s4 : Sys} (h4 : IdleG cfg react c s4)
    (m : DataMsg) (ht : m.text = true) (hfirst : m.first.Ok) (hrest : contOk m.rest)
    (hwf : Utf8.wf m.payload = true) {cps : List Nat} (hcps : Utf8.decode m.payload = some cps) :
    ∃ sp, feedLoop (wireBytes m.wire) s4 = .ok true sp ∧
      AfterItemsG cfg react c s4 sp ((contCtrls m.rest).map CtrlF.event ++ [.text cps]) := by
  have hmok : ∀ it ∈ [Item.data m], it.Ok := by
    intro it hit
    rw [List.mem_singleton.mp hit]
    exact ⟨hfirst, hrest, fun _ => ⟨wf_WF _ hwf, hwf⟩⟩
  simpa [Item.wire, Item.events, DataMsg.events, DataMsg.event, ht, hcps] using feed_items_G h4 _ hmok

theorem ZOutcome.inflate_none {s0 : Sys} {joined : Bytes} {r : Res Bool} (h : ZOutcome s0 joined r)
    (hi : s0.cfg.inflate ((s0.compression.map (·.decompressWbits)).getD 15)
      (s0.inflHist ++ joined ++ [0, 0, 0xff, 0xff]) = none) :
    ∃ s', r = .err (.critical "unable to decompress payload") s' ∧ Book s0 s' := by
  unfold ZOutcome at h
  rw [hi] at h
  exact h

theorem ZOutcome.invalid {s0 : Sys} {joined : Bytes} {r : Res Bool} (h : ZOutcome s0 joined r) {out : Bytes}
    (hi : s0.cfg.inflate ((s0.compression.map (·.decompressWbits)).getD 15)
      (s0.inflHist ++ joined ++ [0, 0, 0xff, 0xff]) = some out)
    (hw : Utf8.wf (out.drop s0.inflOut) = false) :
    ∃ s', r = .err (.critical "payload contains invalid utf-8") s' ∧ Book s0 s' := by
  have hd : Utf8.decode (out.drop s0.inflOut) = none := by
    simpa [hw] using Utf8.decode_isSome (out.drop s0.inflOut)
  unfold ZOutcome at h
  rw [hi] at h
  simp only [hd] at h
  exact h

theorem ZOutcome.valid {s0 : Sys} {joined : Bytes} {r : Res Bool} (h : ZOutcome s0 joined r) {out : Bytes}
    {cps : List Nat}
    (hi : s0.cfg.inflate ((s0.compression.map (·.decompressWbits)).getD 15)
      (s0.inflHist ++ joined ++ [0, 0, 0xff, 0xff]) = some out)
    (hd : Utf8.decode (out.drop s0.inflOut) = some cps) :
    ∃ s', r = .ok true s' ∧ Rel [.text cps] s0 s' ∧ s'.frames = [] ∧ Between s'.p ∧ s'.p.compression = true := by
  unfold ZOutcome at h
  rw [hi] at h
  simp only [hd] at h
  exact h

open AnyApp in
/-- **a violation after conforming items, end to end**: `bad` enters only through what it does to
    an idle state.  The complete trace is `post ++ cw ++ l ++ ProtocolError(msg, crit) :: pre`
    (`run_prefix_violation`), `pre` carrying the handshake and the events of `items`. -/
theorem violation_after_items {cfg : Cfg} {react : React} {proxy : Bool} {proto : Option Http.Str}
    {dz : Option Http.DeflateCfg} (hs : Setup cfg react proxy)
    {reply : Bytes} (hreply : GoodReplyG cfg reply proto dz)
    (items : List Item) (hok : ∀ it ∈ items, it.Ok) (Y : List Event) (stream : Bytes)
    (hstop : ∀ sp, IdleG cfg react dz.isSome sp → ∃ x s1 msg crit, feedLoop stream sp = .err x s1 ∧
      violationOf x = some (msg, crit) ∧ I s1 ∧ hist s1.trace = Y.reverse ++ hist sp.trace)
    (chunks : List Bytes) (hne : ∀ c ∈ chunks, c ≠ [])
    (hflat : chunks.flatten = reply ++ (wireBytes (items.flatMap Item.wire) ++ stream))
    (restEnv : List EnvStep) :
    ∃ msg crit k cw l post pre,
      (runAll cfg react (reads chunks ++ restEnv)).trace = post ++ cw ++ l ++ .ev (.protocolError msg crit) :: pre ∧
      hist pre = (items.flatMap Item.events ++ Y).reverse ++
        [.poll, .ready proto dz.isSome, .connected proxy, .connecting] ∧
      ((∀ o ∈ l, Obs.isEv o = false) ∧ ReactSeg l) ∧ CloseWrite msg crit cw ∧
      hist post = [.disconnected k false] ∧
      ((∀ o ∈ post, TailObs (.disconnected k false) o) ∧ ∀ o ∈ post, TailV o) ∧
      (k = "forced" ∨ (crit = false ∧ k = "error")) ∧
      Monitor.events (runAll cfg react (reads chunks ++ restEnv)).trace =
        [.connecting, .connected proxy, .ready proto dz.isSome, .poll] ++ (items.flatMap Item.events ++ Y) ++
          [.protocolError msg crit, .disconnected k false] := by
  obtain ⟨msg, crit, k, cw, l, post, pre, _, h⟩ :=
    run_prefix_violation hs hreply chunks _ stream restEnv hne hflat (Prefix.items cfg react proxy proto dz items hok) Y
      (fun _ _ => True) (fun sp ip _ => by
        obtain ⟨x, s1, msg, crit, e, hx, i1, hh⟩ := hstop sp ip
        exact ⟨x, s1, msg, crit, e, hx, i1, hh, trivial⟩)
  exact ⟨msg, crit, k, cw, l, post, pre, h⟩

/-- **fail-fast at byte granularity, after any prefix**: the server's bytes up to and including the
    first offending byte `b` of an RSV1 = 0 text message (`CutAt`, hypotheses as in
    `C05E2E.failfast_message`) make the client raise; nothing else needs to arrive -/
theorem failfast_after_prefix {cfg : Cfg} {react : React} {proxy : Bool} {proto : Option Http.Str}
    {dz : Option Http.DeflateCfg}
    (hs : Setup cfg react proxy) (hk : cfg.v.keepIsText = true)
    (hmode : cfg.v.perMsgValidate = true ∨ dz.isSome = false)
    {reply : Bytes} (hreply : GoodReplyG cfg reply proto dz)
    {pre : Bytes} {X : List Event} {Q : Sys → Prop} (hpre : Prefix cfg react proxy proto dz pre X Q)
    (m : DataMsg) (ht : m.text = true) (hfirst : m.first.Ok) (hrest : contOk m.rest)
    {before after : List WFrame} {w : WFrame} {done : Bytes} {evs : List Event}
    (hcut : CutAt m before w after done evs)
    {a : Bytes} {b : Nat} {c : Bytes} (hpl : w.payload = a ++ b :: c)
    (hbytes : Bytes.WF (done ++ a ++ [b]))
    (hgood : ∃ ext, Utf8.wf (done ++ a ++ ext) = true)
    (hbad : ∀ ext, Utf8.wf (done ++ a ++ [b] ++ ext) = false)
    (chunks : List Bytes) (hne : ∀ c ∈ chunks, c ≠ [])
    (hflat : chunks.flatten = reply ++ (pre ++ (wireBytes before ++ partialBytes w (a.length + 1))))
    (restEnv : List EnvStep) :
    Monitor.events (runAll cfg react (reads chunks ++ restEnv)).trace =
      [.connecting, .connected proxy, .ready proto dz.isSome, .poll] ++ (X ++ evs) ++
        [.protocolError "invalid utf8" true, .disconnected "forced" false] := by
  have hwok : w.Ok := hcut.wOk ht hfirst hrest
  obtain ⟨⟨d0, hd⟩, hn, hv2⟩ := offending_byte hpl hbytes hgood hbad
  exact run_prefix_critical hs hreply chunks pre _ restEnv hne hflat hpre evs _ (fun sp0 i0 _ => by
    obtain ⟨sp, hfl, at'⟩ := feed_cut_g i0 hk hmode m ht hfirst hrest hcut d0 hd
    obtain ⟨q, e⟩ := cut_partial_bad_g at' hwok (a.length + 1) hn (by omega) hv2
    exact ⟨.parse "invalid utf8", { sp with p := q }, (feedLoop_append_ok hfl _).trans e, rfl,
      ⟨at'.i.app, at'.i.poll, at'.i.sock, at'.i.nr, at'.i.rd⟩, at'.hist⟩)

/-- **the verdict on a text message after any prefix**: an RSV1 = 0 text message `m` (any
    fragmentation, Ping/Pong between the fragments) after `pre`, then any bytes `tail`.
    Well-formed: the events of `pre`, the control events, one `Text` with the exact decoding and —
    when `tail` is a list of conforming items — their events.  Otherwise: a prefix of the control
    events, one critical ProtocolError, `Disconnected('forced')`, whatever follows. -/
theorem text_verdict_after_prefix {cfg : Cfg} {react : React} {proxy : Bool} {proto : Option Http.Str}
    {dz : Option Http.DeflateCfg}
    (hs : Setup cfg react proxy) (hk : cfg.v.keepIsText = true)
    (hmode : cfg.v.perMsgValidate = true ∨ dz.isSome = false)
    {reply : Bytes} (hreply : GoodReplyG cfg reply proto dz)
    {pre : Bytes} {X : List Event} {Q : Sys → Prop} (hpre : Prefix cfg react proxy proto dz pre X Q)
    (m : DataMsg) (ht : m.text = true) (hfirst : m.first.Ok) (hrest : contOk m.rest) (tail : Bytes)
    (chunks : List Bytes) (hne : ∀ c ∈ chunks, c ≠ [])
    (hflat : chunks.flatten = reply ++ (pre ++ (wireBytes m.wire ++ tail))) :
    (Utf8.wf m.payload = true → ∃ cps, Utf8.decode m.payload = some cps ∧
      ∀ more : List Item, (∀ it ∈ more, it.Ok) → tail = wireBytes (more.flatMap Item.wire) →
      ∀ dt, (cfg.pingTimeout = 0 ∨ dt ≤ cfg.pingTimeout) → (cfg.closeTimeout = 0 ∨ dt < cfg.closeTimeout) →
      Monitor.events (runAll cfg react (reads chunks ++ [.wait dt (some .eof)])).trace =
        [.connecting, .connected proxy, .ready proto dz.isSome, .poll] ++
          (X ++ ((contCtrls m.rest).map CtrlF.event ++ [.text cps]) ++ more.flatMap Item.events) ++
          (if cfg.poll ≤ dt then [.poll] else []) ++ [.disconnected "connection-lost" false]) ∧
    (Utf8.wf m.payload = false → ∃ ces msg, ces <+: (contCtrls m.rest).map CtrlF.event ∧ ∀ restEnv,
      Monitor.events (runAll cfg react (reads chunks ++ restEnv)).trace =
        [.connecting, .connected proxy, .ready proto dz.isSome, .poll] ++ (X ++ ces) ++
          [.protocolError msg true, .disconnected "forced" false]) := by
  constructor
  · intro hwf
    obtain ⟨cps, hcps⟩ := Option.isSome_iff_exists.mp ((Utf8.decode_isSome _).trans hwf)
    refine ⟨cps, hcps, fun more hmore htail dt hpt hct => ?_⟩
    subst htail
    have h1 := Prefix.append hpre (Y := (contCtrls m.rest).map CtrlF.event ++ [.text cps]) (Q' := fun _ => True)
      (fun sp ip _ => by
        obtain ⟨s2, e2, a2⟩ := valid_text_delivered ip m ht hfirst hrest hwf hcps
        exact ⟨s2, e2, a2.idle, a2.hist, trivial⟩)
    have h2 := Prefix.append h1 (Y := more.flatMap Item.events) (Q' := fun _ => True) (fun sp ip _ => by
      obtain ⟨s3, e3, a3⟩ := feed_items_G ip more hmore
      exact ⟨s3, e3, a3.idle, a3.hist, trivial⟩)
    exact run_prefix_eof hs hreply chunks _ hne (by rw [hflat]; simp) dt hpt hct h2
  · intro hwf
    obtain ⟨ces, msg, hp, hstop⟩ := invalid_text_stops m ht hfirst hrest hwf
    exact ⟨ces, msg, hp, fun restEnv =>
      run_prefix_critical hs hreply chunks pre _ restEnv hne hflat hpre ces msg (fun sp ip _ => hstop ip hk hmode tail)⟩

end E2E
end Lomond.Core
