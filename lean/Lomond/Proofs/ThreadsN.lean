/-
  The general socket (`Model/ThreadsN.lean`: any number of chunks per `sendall`, write failures): the outcomes of a
  write step in detail (`WOut`; an entry of a thread that is not about to write is that of the two-chunk model,
  `stepN_split`), and what the lock discipline says of a thread about to write.
-/
import Lomond.Model.ThreadsN
import Lomond.Proofs.Threads

namespace Lomond.Threads
open Lomond

/-- the thread is about to write (a chunk of) its frame -/
def atW : List Step → Bool
  | .write1 _ :: _ => true
  | .write2 _ :: _ => true
  | _ => false

theorem stepN_eq_step (env : Env) (v : Variant) (cfg : Cfg) (s : State) (t : Tid)
    (h : atW (view v cfg (s.th t)) = false) : stepN env v cfg s t = step v cfg s t := by
  unfold stepN step
  cases hc : (s.th t).current v cfg with
  | none => rfl
  | some c =>
    simp only
    cases hr : c.rest with
    | nil => rfl
    | cons st r =>
      have : isWrite st = false := by
        rw [view_of_current hc, hr] at h
        cases st <;> first | rfl | cases h
      simp only [execN_not_write env v t st r s.sh c this]

/-- what a write step of the general socket can do: fail (on a shut socket, or as told by the environment: nothing is
    written, on to the release), write nothing (the first step of a 1-chunk `sendall`), write a chunk and stay, write a
    chunk and move on, write the last chunk -/
inductive WOut (env : Env) (t : Tid) (sh : Shared) (c : Cur) : Step → List Step → Shared × Cur → Prop
  | fail (st r) : isWrite st = true →
      (sh.sockShut = true ∨ (sh.sockShut = false ∧ env.failAt t c.idx = some (sentOf sh.wire t c.idx))) →
      WOut env t sh c st r (sh, { c with rest := toRelease r, err := some .transport })
  | skip (f r) : sh.sockShut = false → env.failAt t c.idx ≠ some (sentOf sh.wire t c.idx) → env.more t c.idx = 0 →
      WOut env t sh c (.write1 f) r (sh, { c with rest := r })
  | stay (f r) : sh.sockShut = false → env.failAt t c.idx ≠ some (sentOf sh.wire t c.idx) →
      sentOf sh.wire t c.idx + 1 < env.more t c.idx →
      WOut env t sh c (.write1 f) r
        ({ sh with wire := sh.wire ++ [⟨t, c.idx, false, descOf f c⟩] }, { c with rest := .write1 f :: r })
  | adv (f r) : sh.sockShut = false → env.failAt t c.idx ≠ some (sentOf sh.wire t c.idx) → env.more t c.idx ≠ 0 →
      ¬ sentOf sh.wire t c.idx + 1 < env.more t c.idx →
      WOut env t sh c (.write1 f) r ({ sh with wire := sh.wire ++ [⟨t, c.idx, false, descOf f c⟩] }, { c with rest := r })
  | fin (f r) : sh.sockShut = false → env.failAt t c.idx ≠ some (sentOf sh.wire t c.idx) →
      WOut env t sh c (.write2 f) r
        ({ sh with wire := sh.wire ++ [⟨t, c.idx, true, descOf f c⟩] }, { c with rest := r, wrote := true })

theorem execN_wout (env : Env) (v : Variant) (t : Tid) (st : Step) (r : List Step) (sh : Shared) (c : Cur)
    (hw : isWrite st = true) : WOut env t sh c st r (execN env v t st r sh c) := by
  cases st <;> simp only [isWrite] at hw <;> try cases hw
  · rename_i f
    simp only [execN, execW1, failWrite]
    split
    · rename_i hs; exact .fail _ _ rfl (Or.inl hs)
    · rename_i hs
      have hs : sh.sockShut = false := by simpa using hs
      split
      · rename_i h; exact .fail _ _ rfl (Or.inr ⟨hs, h⟩)
      · rename_i h
        split
        · rename_i h0; exact .skip f r hs h h0
        · rename_i h0
          by_cases hk : sentOf sh.wire t c.idx + 1 < env.more t c.idx
          · simp only [hk, if_true]; exact .stay f r hs h hk
          · simp only [hk, if_false]; exact .adv f r hs h h0 hk
  · rename_i f
    simp only [execN, execW2, failWrite]
    split
    · rename_i hs; exact .fail _ _ rfl (Or.inl hs)
    · rename_i hs
      have hs : sh.sockShut = false := by simpa using hs
      split
      · rename_i h; exact .fail _ _ rfl (Or.inr ⟨hs, h⟩)
      · rename_i h; exact .fin f r hs h

theorem stepN_split (env : Env) (v : Variant) (cfg : Cfg) (s : State) (t : Tid) :
    (atW (view v cfg (s.th t)) = false ∧ stepN env v cfg s t = step v cfg s t) ∨
    (∃ c st r p, (s.th t).current v cfg = some c ∧ c.rest = st :: r ∧ isWrite st = true ∧
      view v cfg (s.th t) = st :: r ∧ WOut env t s.sh c st r p ∧
      stepN env v cfg s t = setTh s t (settle (s.th t) p.2) p.1) := by
  cases h : atW (view v cfg (s.th t)) with
  | false => exact Or.inl ⟨rfl, stepN_eq_step env v cfg s t h⟩
  | true =>
    right
    obtain ⟨st, r, hv⟩ : ∃ st r, view v cfg (s.th t) = st :: r := by
      cases hv : view v cfg (s.th t) with
      | nil => rw [hv] at h; cases h
      | cons st r => exact ⟨st, r, rfl⟩
    obtain ⟨c, hc, hr⟩ := current_of_view hv
    have hw : isWrite st = true := by rw [hv] at h; cases st <;> first | rfl | cases h
    refine ⟨c, st, r, _, hc, hr, hw, hv, execN_wout env v t st r s.sh c hw, ?_⟩
    -- a thread about to write is not waiting for the lock
    have hb : blockedOn s.sh c = false := by
      rw [blockedOn, hr]; cases st <;> first | rfl | cases hw
    unfold stepN
    rw [hc]
    simp only [hr, hb, Bool.false_eq_true, if_false]

theorem disc_w1 {f : FrameSrc} {r : List Step} (d : disc (.write1 f :: r) = true) :
    holds r = true ∧ ∃ r2, r = .write2 f :: r2 := by
  simp only [disc, Bool.and_eq_true] at d
  refine ⟨d.1.2.1, ?_⟩
  have := d.1.2.2
  cases r with
  | nil => simp at this
  | cons a r2 => cases a <;> simp at this; subst this; exact ⟨r2, rfl⟩

theorem disc_w2 {f : FrameSrc} {r : List Step} (d : disc (.write2 f :: r) = true) :
    holds r = true ∧ noWrite r = true := by
  simp only [disc, Bool.and_eq_true] at d
  exact ⟨d.1.2.1, d.1.2.2⟩

theorem disc_write {st : Step} {r : List Step} (d : disc (st :: r) = true) (hw : isWrite st = true) : holds r = true := by
  cases st <;> simp only [isWrite] at hw <;> try cases hw
  · exact (disc_w1 d).1
  · exact (disc_w2 d).1

theorem holds_ne_nil {r : List Step} (h : holds r = true) : r ≠ [] := by
  intro e; subst e; cases h

theorem atW_holds {r : List Step} (d : disc r = true) (h : atW r = true) : holds r = true := by
  cases r with
  | nil => cases h
  | cons st r =>
    cases st <;> simp only [atW] at h <;> try cases h
    · exact (disc_w1 d).1
    · exact (disc_w2 d).1

theorem atW_toRelease (r : List Step) : atW (toRelease r) = false := by
  rcases toRelease_cases r with e | ⟨_, e⟩ <;> rw [e] <;> rfl

theorem atW_noWrite {r : List Step} (h : noWrite r = true) : atW r = false := by
  cases r with
  | nil => rfl
  | cons st r =>
    simp only [noWrite, List.all_cons, Bool.and_eq_true] at h
    cases st <;> first | rfl | (simp [isWrite] at h)

theorem not_wrote_at_write {v : Variant} {cfg : Cfg} {s : State} {t : Tid} {c : Cur} (M : MsgInv v cfg s)
    (hc : (s.th t).current v cfg = some c) (h : atW c.rest = true) : c.wrote = false := by
  cases hcw : c.wrote with
  | false => rfl
  | true =>
    have := atW_noWrite ((cur_facts M hc).2 hcw)
    rw [h] at this; cases this

theorem hasW2_w1 (f : FrameSrc) (r : List Step) : hasW2 (.write1 f :: r) = hasW2 r := by
  simp [hasW2, isW2]

end Lomond.Threads
