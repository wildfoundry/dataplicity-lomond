/-
  The proof outline of `run()`.  With `Tri` (Proofs/Logic.lean) the assertion may change from
  statement to statement, which is what `run()` needs: `tri_runL`, `tri_afterConnectL`, `tri_runLoopL`
  are the outline of `run()` with the session loop abstracted (`runL l`), one assertion per program
  point.  A theorem about `run()` is obtained by choosing the assertions and proving the leaf steps.
-/
import Lomond.Proofs.Logic
import Lomond.Proofs.RunL
namespace Lomond.Core
open Lomond Lomond.Core Lomond.Core.Monitor

/-- `try: <loop> except …: … else: … ; selector.close()  finally: …` -/
theorem tri_runLoopL {l : M Unit} {D E F Q : Sys → Prop} {Xl Xe X : Exn → Sys → Prop}
    (hl : Tri D l (fun _ => E) Xl)
    (hnone : Tri E (onLoopEnd none) (fun _ => F) Xe)
    (hsome : ∀ x, Tri (Xl x) (onLoopEnd (some x)) (fun _ => F) Xe)
    (hsel : Tri F selClose (fun _ => Q) Xe)
    (hfin : ∀ x, Tri (Xe x) (runFinally x) (fun _ => Q) X) :
    Tri D (runLoopL l) (fun _ => Q) X := by
  unfold runLoopL runBodyL
  refine tri_tryC (Y := Xe) (tri_bind (B := fun _ => F) (tri_bind
    (B := fun r s => match r with | none => E s | some x => Xl x s)
    (tri_tryC (Y := Xl) (tri_bind hl (fun _ => tri_pure (fun _ h => h))) (fun x => tri_pure (fun _ h => h)))
    (fun r => ?_)) (fun _ => hsel)) hfin
  cases r with
  | none => exact hnone
  | some x => exact hsome x

theorem tri_afterConnectL {l : M Unit} (proxy sel : Bool) {A A' C D Q : Sys → Prop}
    {B : ActRes → Sys → Prop} {X : Exn → Sys → Prop}
    (hopen : ∀ s, A s → A' { s with sockOpen := true })
    (hreq : ∀ s0, Tri (fun s => A' s ∧ s = s0) (write s0.cfg.request) B X)
    (hfail : ∀ r, wsError r = true →
      Tri (B r) (do closeSocket; yieldEv (.connectFail "request-failed")) (fun _ => Q) X)
    (hconn : ∀ r, ¬ wsError r = true → Tri (B r) (yieldConnected proxy) (fun _ => C) X)
    (hsel : ∀ s, C s → D { s with selOpen := sel })
    (hrun : Tri D (runLoopL l) (fun _ => Q) X) :
    Tri A (afterConnectL l proxy sel) (fun _ => Q) X := by
  unfold afterConnectL
  exact tri_bind (B := fun _ => A') (tri_modS hopen) (fun _ => tri_getS_bind (fun s0 =>
    tri_bind (hreq s0) (fun r => tri_ite _ (hfail r) (fun hne =>
      tri_bind (hconn r hne) (fun _ => tri_bind (B := fun _ => D) (tri_modS hsel) (fun _ => hrun))))))

theorem tri_runL {l : M Unit} {A0 A1 Q : Sys → Prop} {X : Exn → Sys → Prop}
    (h0 : Tri A0 (yieldEv .connecting) (fun _ => A1) X)
    (hcf : ∀ k, Tri (fun s => A1 s ∧ (s.cfg.connect = .socketFail ∨ s.cfg.connect = .otherFail))
      (yieldEv (.connectFail k)) (fun _ => Q) X)
    (hafter : ∀ p, Tri (fun s => A1 s ∧ s.cfg.connect = .ok p) (afterConnectL l p true) (fun _ => Q) X)
    (hnosel : ∀ p, Tri (fun s => A1 s ∧ s.cfg.connect = .selFail p)
      (afterConnectL (throwE (.other "error")) p false) (fun _ => Q) X) :
    Tri A0 (runL l) (fun _ => Q) X := by
  unfold runL
  refine tri_bind h0 (fun _ => tri_getS_bind (fun s0 => ?_))
  split
  · rename_i hc; exact (hcf _).pre (fun s h => ⟨h.1, h.2 ▸ Or.inl hc⟩)
  · rename_i hc; exact (hcf _).pre (fun s h => ⟨h.1, h.2 ▸ Or.inr hc⟩)
  · rename_i p hc; exact (hafter p).pre (fun s h => ⟨h.1, h.2 ▸ hc⟩)
  · rename_i p hc; exact (hnosel p).pre (fun s h => ⟨h.1, h.2 ▸ hc⟩)

/-- `yield Connected`; in the repaired code the socket is closed when the application abandons the
    iterator there.  `s0` is the state before the `yield`. -/
theorem tri_yieldConnected {A : Sys → Prop} {Q : Unit → Sys → Prop} {Y : Sys → Exn → Sys → Prop}
    {X : Exn → Sys → Prop} (proxy : Bool)
    (hy : ∀ s0, Tri (fun s => A s ∧ s = s0) (yieldEv (.connected proxy)) Q (Y s0))
    (hclean : ∀ s0 x s, s0.cfg.v.cleanup = true → Y s0 x s → X x (closeSocket s).state)
    (hplain : ∀ s0 x s, ¬ s0.cfg.v.cleanup = true → Y s0 x s → X x s) :
    Tri A (yieldConnected proxy) Q X := by
  unfold yieldConnected
  exact tri_getS_bind (fun s0 => tri_ite _
    (fun hc => tri_tryC (hy s0) (fun x => tri_bind (B := fun _ => X x)
      (tri_noRaise closeSocket_ne_err (fun s h => hclean s0 x s hc h)) (fun _ => tri_throwE (fun _ h => h))))
    (fun hn => (hy s0).weaken (fun _ h => h) (fun _ _ h => h) (fun x s h => hplain s0 x s hn h)))

/-- `finally:` with an exception passing through: what releasing socket and selector keeps is kept,
    and the same exception leaves -/
theorem tri_runFinally {W : Sys → Prop} {Q : Unit → Sys → Prop} (x : Exn)
    (hsock : ∀ s, W s → W (closeSocket s).state) (hsel : ∀ s, W s → W (selClose s).state) :
    Tri W (runFinally x) Q (fun y s => y = x ∧ W s) := by
  unfold runFinally
  exact tri_getS_bind (fun s0 => tri_bind (B := fun _ => W)
    (tri_ite _ (fun _ => tri_noRaise closeSocket_ne_err (fun s h => hsock s h.1))
      (fun _ => tri_pure (fun _ h => h.1)))
    (fun _ => tri_bind (B := fun _ => W) (tri_noRaise selClose_ne_err hsel)
      (fun _ => tri_throwE (fun _ h => ⟨rfl, h⟩))))

theorem Monitor.runFinally_err (x : Exn) (s : Sys) : ∃ s', runFinally x s = .err x s' := by
  have h := tri_runFinally (W := fun _ => True) (Q := fun _ _ => False) x (fun _ _ => trivial)
    (fun _ _ => trivial) s trivial
  cases hr : runFinally x s with
  | ok u s' => rw [hr] at h; exact h.elim
  | err y s' => rw [hr] at h; exact ⟨s', by rw [h.1]⟩

end Lomond.Core
