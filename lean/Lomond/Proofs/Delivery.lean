/-
  C01: conforming server streams (`Item`; with compressed messages `DG.GItem`), their serialisations,
  and the two halves of the delivery theorem: the eager parser turns the bytes of the stream into
  exactly the frames that were written (`ParsesTo`), and the consumer turns those frames into exactly
  the expected events — frame by frame (`eat_ctrl`, `eat_msg`, `eat_items`) for every class of states
  of `Proofs/Consumer.lean` (`feed_items`); the server's Close is answered once, for `Good` (`onOut_close`, `feed_close`).
-/
import Lomond.Proofs.Consumer
import Lomond.Proofs.SendOnly
namespace Lomond.Core
open Lomond

/-- a Ping or Pong frame -/
structure CtrlF where
  pong : Bool
  payload : Bytes
  form : LenForm
  deriving Repr, DecidableEq

def CtrlF.wire (c : CtrlF) : WFrame :=
  { fin := true, opcode := if c.pong then 10 else 9, payload := c.payload, form := c.form }
def CtrlF.event (c : CtrlF) : Event := if c.pong then .pong c.payload else .ping c.payload
def CtrlF.Ok (c : CtrlF) : Prop := c.form.ok c.payload.length ∧ c.payload.length ≤ 125

instance (c : CtrlF) : Decidable c.Ok := by unfold CtrlF.Ok; exact inferInstance

/-- one fragment of a data message: its bytes (possibly none) and the length form of its frame -/
structure Frag where
  payload : Bytes
  form : LenForm
  deriving Repr, DecidableEq

def Frag.Ok (g : Frag) : Prop := g.form.ok g.payload.length
instance (g : Frag) : Decidable g.Ok := by unfold Frag.Ok; exact inferInstance

/-- a data message: Text or Binary, a first fragment, then any number of further fragments each
    preceded by any number of control frames -/
structure DataMsg where
  text : Bool
  first : Frag
  rest : List (List CtrlF × Frag)
  deriving Repr, DecidableEq

/-- the frames after the first one: controls, then a continuation frame; FIN on the last -/
def contWire : List (List CtrlF × Frag) → List WFrame
  | [] => []
  | (cs, g) :: r =>
    cs.map CtrlF.wire ++
      ({ fin := r.isEmpty, opcode := 0, payload := g.payload, form := g.form } : WFrame) :: contWire r

def DataMsg.wire (m : DataMsg) : List WFrame :=
  ({ fin := m.rest.isEmpty, opcode := if m.text then 1 else 2, payload := m.first.payload,
     form := m.first.form } : WFrame) :: contWire m.rest

def DataMsg.firstW (m : DataMsg) (b : Bool) : WFrame :=
  { fin := b, opcode := if m.text then 1 else 2, payload := m.first.payload, form := m.first.form }

theorem DataMsg.wire_eq (m : DataMsg) : m.wire = m.firstW m.rest.isEmpty :: contWire m.rest := rfl

def contPayload (r : List (List CtrlF × Frag)) : Bytes := (r.map (·.2.payload)).flatten
def DataMsg.payload (m : DataMsg) : Bytes := m.first.payload ++ contPayload m.rest
def contCtrls (r : List (List CtrlF × Frag)) : List CtrlF := (r.map (·.1)).flatten

/-- the message event: Binary byte-exact, Text as the code points of the strict UTF-8 decoding -/
def DataMsg.event (m : DataMsg) : Event :=
  if m.text then .text ((Utf8.decode m.payload).getD []) else .binary m.payload

/-- expected events in completion order: the interleaved controls complete first -/
def DataMsg.events (m : DataMsg) : List Event := (contCtrls m.rest).map CtrlF.event ++ [m.event]

def contOk (r : List (List CtrlF × Frag)) : Prop := ∀ x ∈ r, (∀ c ∈ x.1, c.Ok) ∧ x.2.Ok

def DataMsg.Ok (m : DataMsg) : Prop :=
  m.first.Ok ∧ contOk m.rest ∧ (m.text = true → Bytes.WF m.payload ∧ Utf8.wf m.payload = true)

inductive Item
  | ctrl (c : CtrlF)
  | data (m : DataMsg)
  deriving Repr, DecidableEq

def Item.wire : Item → List WFrame
  | .ctrl c => [c.wire]
  | .data m => m.wire
def Item.events : Item → List Event
  | .ctrl c => [c.event]
  | .data m => m.events
def Item.Ok : Item → Prop
  | .ctrl c => c.Ok
  | .data m => m.Ok

def wireBytes (ws : List WFrame) : Bytes := (ws.map WFrame.bytes).flatten

theorem wireBytes_append (a b : List WFrame) : wireBytes (a ++ b) = wireBytes a ++ wireBytes b := by
  simp [wireBytes]
theorem wireBytes_cons (w : WFrame) (b : List WFrame) : wireBytes (w :: b) = w.bytes ++ wireBytes b := by
  simp [wireBytes]

/-- `ParsesB` for the bytes of the conforming frames `ws` -/
def ParsesTo (v : Variant) (p : PState) (ws : List WFrame) (p' : PState) : Prop :=
  ParsesB v p (wireBytes ws) (ws.map WFrame.frame) p'

theorem parsesTo_nil (v : Variant) (p : PState) : ParsesTo v p [] p := parsesB_nil v p

theorem parsesTo_append {v : Variant} {p p1 p2 : PState} {a b : List WFrame}
    (h1 : ParsesTo v p a p1) (h2 : ParsesTo v p1 b p2) : ParsesTo v p (a ++ b) p2 := by
  unfold ParsesTo
  rw [wireBytes_append, List.map_append]
  exact parsesB_append h1 h2

theorem parsesTo_one {v : Variant} {p : PState} (hb : Boundary p) {w : WFrame} (hw : w.Ok) {d : Nat}
    (hd : vres (w.flag v p) p.dfa w.payload = some d) : ParsesTo v p [w] (w.next v p d) := by
  intro tail
  refine ⟨[(w.next v p d, .frame w.frame)], ?_, rfl⟩
  have e : wireBytes [w] ++ tail = w.bytes ++ tail := by simp [wireBytes]
  rw [e]
  exact pRun_wire_ok v p hb w hw d hd _

theorem CtrlF.wire_ok {c : CtrlF} (h : c.Ok) : c.wire.Ok := by
  refine ⟨h.1, Or.inr ⟨?_, rfl, h.2⟩⟩
  unfold CtrlF.wire
  cases c.pong <;> simp

theorem CtrlF.wire_op (c : CtrlF) : c.wire.opcode = 9 ∨ c.wire.opcode = 10 := by
  unfold CtrlF.wire
  cases c.pong <;> simp

theorem CtrlF.wire_nontext (c : CtrlF) : c.wire.opcode ≠ 1 := by
  rcases c.wire_op with h | h <;> omega

theorem parses_one (v : Variant) (w : WFrame) (p : PState) (hp : Between p) (hw : w.Ok) (hop : w.opcode ≠ 1) :
    ∃ p', ParsesTo v p [w] p' ∧ Between p' := by
  obtain ⟨hd, hb⟩ := between_step v p w hp hop
  exact ⟨_, parsesTo_one hp.b hw hd, hb⟩

theorem parses_nontext (v : Variant) (ws : List WFrame) (p : PState) (hp : Between p)
    (hok : ∀ w ∈ ws, w.Ok ∧ w.opcode ≠ 1) : ∃ p', ParsesTo v p ws p' ∧ Between p' := by
  induction ws generalizing p with
  | nil => exact ⟨p, parsesTo_nil v p, hp⟩
  | cons w r ih =>
    obtain ⟨hw, hop⟩ := hok w (by simp)
    obtain ⟨p1, h1, hb⟩ := parses_one v w p hp hw hop
    obtain ⟨p', h2, hb'⟩ := ih _ hb (fun x hx => hok x (by simp [hx]))
    exact ⟨p', parsesTo_append (a := [w]) h1 h2, hb'⟩

/-- inside a message: an invariant `J done` of the parser (`done`: the payload received so far)
    that control frames keep and continuation frames extend (the last one returning to `Between`),
    as long as the payload satisfies `V` -/
structure Inside (v : Variant) (J : Bytes → PState → Prop) (V : Bytes → Prop) : Prop where
  b : ∀ {done p}, J done p → Boundary p
  pre : ∀ {a b}, V (a ++ b) → V a
  ctrl : ∀ {done p} (w : WFrame), J done p → w.opcode ≥ 8 →
    ∃ d, vres (w.flag v p) p.dfa w.payload = some d ∧ J done (w.next v p d)
  cont : ∀ {done p} (w : WFrame), J done p → w.opcode = 0 → V (done ++ w.payload) →
    ∃ d, vres (w.flag v p) p.dfa w.payload = some d ∧
      (if w.fin then Between (w.next v p d) else J (done ++ w.payload) (w.next v p d))

theorem parses_ctrls {v : Variant} {J : Bytes → PState → Prop} {V : Bytes → Prop} (I : Inside v J V)
    (cs : List CtrlF) (p : PState) (done : Bytes) (hp : J done p) (hok : ∀ c ∈ cs, c.Ok) :
    ∃ p', ParsesTo v p (cs.map CtrlF.wire) p' ∧ J done p' := by
  induction cs generalizing p with
  | nil => exact ⟨p, parsesTo_nil v p, hp⟩
  | cons c r ih =>
    have hc := hok c (by simp)
    have hop : c.wire.opcode ≥ 8 := by rcases c.wire_op with h | h <;> omega
    obtain ⟨d, hd, hn⟩ := I.ctrl c.wire hp hop
    obtain ⟨p', h2, hb'⟩ := ih _ hn (fun x hx => hok x (by simp [hx]))
    exact ⟨p', parsesTo_append (a := [c.wire]) (parsesTo_one (I.b hp) (CtrlF.wire_ok hc) hd) h2, hb'⟩


theorem _root_.Lomond.Utf8.decode_of_wf {bs : Bytes} (h : Utf8.wf bs = true) : ∃ cps, Utf8.decode bs = some cps :=
  Option.isSome_iff_exists.mp ((Utf8.decode_isSome bs).trans h)

theorem validate_prefix (st : Nat) (a b : Bytes) (d : Nat) (h : Utf8.validate st (a ++ b) = some d) :
    ∃ d', Utf8.validate st a = some d' := by
  rw [Utf8.validate_append] at h
  cases h1 : Utf8.validate st a with
  | none => rw [h1] at h; cases h
  | some d' => exact ⟨d', rfl⟩

theorem validate_of_wf (bs : Bytes) (hb : Bytes.WF bs) (hw : Utf8.wf bs = true) :
    Utf8.validate 0 bs = some 0 := by
  rw [Utf8.validate_eq_run 0 bs (by decide) (by decide) hb]
  have := (Utf8.srun_zero_iff_wf bs).mpr hw
  simp [this]

theorem contWire_ok (r : List (List CtrlF × Frag)) (h : contOk r) :
    ∀ w ∈ contWire r, w.Ok ∧ w.opcode ≠ 1 := by
  induction r with
  | nil => intro w hw; simp [contWire] at hw
  | cons x r ih =>
    obtain ⟨cs, g⟩ := x
    have hx := h (cs, g) (by simp)
    intro w hw
    simp only [contWire, List.mem_append, List.mem_map, List.mem_cons] at hw
    rcases hw with ⟨c, hc, rfl⟩ | rfl | hw
    · exact ⟨CtrlF.wire_ok (hx.1 c hc), c.wire_nontext⟩
    · exact ⟨⟨hx.2, Or.inl (Or.inl rfl)⟩, by simp⟩
    · exact ih (fun y hy => h y (by simp [hy])) w hw

theorem parses_cont {v : Variant} {J : Bytes → PState → Prop} {V : Bytes → Prop} (I : Inside v J V)
    (r : List (List CtrlF × Frag)) (p : PState) (done : Bytes) (hp : J done p) (hok : contOk r)
    (hval : V (done ++ contPayload r)) :
    ∃ p', ParsesTo v p (contWire r) p' ∧ (r = [] → J done p') ∧ (r ≠ [] → Between p') := by
  induction r generalizing p done with
  | nil => exact ⟨p, parsesTo_nil v p, fun _ => hp, fun h => (h rfl).elim⟩
  | cons x r ih =>
    obtain ⟨cs, g⟩ := x
    have hx := hok (cs, g) (by simp)
    obtain ⟨p1, h1, hb1⟩ := parses_ctrls I cs p done hp hx.1
    have hval' : V ((done ++ g.payload) ++ contPayload r) := by
      simpa [contPayload] using hval
    have hwok : ({ fin := r.isEmpty, opcode := 0, payload := g.payload, form := g.form } : WFrame).Ok :=
      ⟨hx.2, Or.inl (Or.inl rfl)⟩
    obtain ⟨d, hd, hnext⟩ := I.cont
      { fin := r.isEmpty, opcode := 0, payload := g.payload, form := g.form } hb1 rfl (I.pre hval')
    have h2 := parsesTo_one (v := v) (I.b hb1) hwok hd
    cases r with
    | nil =>
      simp only [List.isEmpty_nil, if_true] at hnext
      refine ⟨_, ?_, (fun h => by cases h), fun _ => hnext⟩
      have : contWire [(cs, g)] = cs.map CtrlF.wire ++
          [({ fin := true, opcode := 0, payload := g.payload, form := g.form } : WFrame)] := rfl
      rw [this]
      exact parsesTo_append h1 h2
    | cons y r' =>
      simp only [List.isEmpty_cons, Bool.false_eq_true, if_false] at hnext
      obtain ⟨p3, h3, _, hb3⟩ := ih _ _ hnext (fun z hz => hok z (by simp [hz])) hval'
      refine ⟨p3, ?_, (fun h => by cases h), fun _ => hb3 (by simp)⟩
      have : contWire ((cs, g) :: y :: r') = cs.map CtrlF.wire ++
          ([({ fin := false, opcode := 0, payload := g.payload, form := g.form } : WFrame)] ++
            contWire (y :: r')) := rfl
      rw [this]
      exact parsesTo_append h1 (parsesTo_append h2 h3)

theorem inside_text (v : Variant) :
    Inside v (fun done p => InText v p done) (fun b => ∃ d, Utf8.validate 0 b = some d) where
  b h := h.b
  pre := fun ⟨d, h⟩ => validate_prefix 0 _ _ d h
  ctrl w hp h := ⟨_, intext_ctrl v _ w _ hp h⟩
  cont w hp h := fun ⟨d0, hv⟩ => intext_cont v _ w _ hp h d0 hv

theorem parses_data (v : Variant) (m : DataMsg) (p : PState) (hp : Between p) (hm : m.Ok) :
    ∃ p', ParsesTo v p m.wire p' ∧ Between p' := by
  obtain ⟨hfirst, hrest, htext⟩ := hm
  cases ht : m.text with
  | false =>
    apply parses_nontext v m.wire p hp
    intro w hw
    simp only [DataMsg.wire, ht, List.mem_cons] at hw
    rcases hw with rfl | hw
    · exact ⟨⟨hfirst, Or.inl (Or.inr (Or.inr rfl))⟩, by simp⟩
    · exact contWire_ok m.rest hrest w hw
  | true =>
    obtain ⟨hwf, hutf⟩ := htext ht
    have hval := validate_of_wf m.payload hwf hutf
    unfold DataMsg.payload at hval
    obtain ⟨d1, hd1⟩ := validate_prefix 0 _ _ _ hval
    have hwok : ({ fin := m.rest.isEmpty, opcode := 1, payload := m.first.payload,
                   form := m.first.form } : WFrame).Ok := ⟨hfirst, Or.inl (Or.inr (Or.inl rfl))⟩
    obtain ⟨d, hd, hnext⟩ := between_text v p
      { fin := m.rest.isEmpty, opcode := 1, payload := m.first.payload, form := m.first.form } hp rfl d1 hd1
    have h1 := parsesTo_one (v := v) hp.b hwok hd
    have hw : m.wire = [({ fin := m.rest.isEmpty, opcode := 1, payload := m.first.payload,
                           form := m.first.form } : WFrame)] ++ contWire m.rest := by
      simp [DataMsg.wire, ht]
    rw [hw]
    cases hr : m.rest with
    | nil =>
      rw [hr] at hnext h1
      simp only [List.isEmpty_nil, if_true] at hnext
      exact ⟨_, by simpa [contWire] using h1, hnext⟩
    | cons y r' =>
      rw [hr] at hnext h1 hval
      simp only [List.isEmpty_cons, Bool.false_eq_true, if_false] at hnext
      obtain ⟨p3, h3, _, hb3⟩ := parses_cont (inside_text v) (y :: r') _ _ hnext (hr ▸ hrest) ⟨0, hval⟩
      exact ⟨p3, parsesTo_append h1 h3, hb3 (by simp)⟩


theorem parses_items (v : Variant) (items : List Item) (p : PState) (hp : Between p)
    (hok : ∀ it ∈ items, it.Ok) : ∃ p', ParsesTo v p (items.flatMap Item.wire) p' ∧ Between p' := by
  induction items generalizing p with
  | nil => exact ⟨p, parsesTo_nil v p, hp⟩
  | cons it r ih =>
    have h1 : ∃ p1, ParsesTo v p it.wire p1 ∧ Between p1 := by
      have hi := hok it (by simp)
      cases it with
      | ctrl c =>
        exact parses_one v c.wire p hp (CtrlF.wire_ok hi) c.wire_nontext
      | data m => exact parses_data v m p hp hi
    obtain ⟨p1, h1, hb1⟩ := h1
    obtain ⟨p2, h2, hb2⟩ := ih p1 hb1 (fun x hx => hok x (by simp [hx]))
    exact ⟨p2, by rw [List.flatMap_cons]; exact parsesTo_append h1 h2, hb2⟩

/-- first frame of a data message; `zf`: RSV1 (the message is compressed) -/
def firstFrame (zf text : Bool) (g : Frag) (fin : Bool) : Frame :=
  { opcode := if text then 1 else 2, payload := g.payload, fin := if fin then 1 else 0,
    rsv1 := if zf then 1 else 0 }

def contFrame (g : Frag) (fin : Bool) : Frame :=
  ({ fin := fin, opcode := 0, payload := g.payload, form := g.form } : WFrame).frame

namespace DG

/-- a data message as the peer sends it: `zf` = compressed (RSV1 on the first frame; then
    `m.payload` is the compressed data), `plain` = the application data it stands for -/
structure GMsg where
  zf : Bool
  m : DataMsg
  plain : Bytes
  deriving Repr, DecidableEq

def GMsg.frames (g : GMsg) : List Frame :=
  firstFrame g.zf g.m.text g.m.first g.m.rest.isEmpty :: (contWire g.m.rest).map WFrame.frame

def GMsg.event (g : GMsg) : Event :=
  if g.m.text then .text ((Utf8.decode g.plain).getD []) else .binary g.plain

def GMsg.events (g : GMsg) : List Event := (contCtrls g.m.rest).map CtrlF.event ++ [g.event]

/-- the message is well-formed and, at inflate context `ic`, stands for `plain`, leaving `ic'` -/
def GMsg.OkAt (z : ZP) (g : GMsg) (ic ic' : ICtx) : Prop :=
  g.m.first.Ok ∧ contOk g.m.rest ∧
  buildPure z ic (firstFrame g.zf g.m.text g.m.first true) g.m.payload = some (g.plain, ic') ∧
  (g.m.text = true → Bytes.WF g.plain ∧ Utf8.wf g.plain = true)

inductive GItem
  | ctrl (c : CtrlF)
  | msg (g : GMsg)
  deriving Repr, DecidableEq

def GItem.frames : GItem → List Frame
  | .ctrl c => [c.wire.frame]
  | .msg g => g.frames

def GItem.events : GItem → List Event
  | .ctrl c => [c.event]
  | .msg g => g.events

def ItemsAt (z : ZP) : ICtx → List GItem → ICtx → Prop
  | ic, [], ic' => ic = ic'
  | ic, .ctrl c :: r, ic' => c.Ok ∧ ItemsAt z ic r ic'
  | ic, .msg g :: r, ic' => ∃ ic1, g.OkAt z ic ic1 ∧ ItemsAt z ic1 r ic'

end DG

open DG

variable {Y : Sys → Prop} {R : List Event → Sys → Sys → Prop}

theorem eat_ctrl (E : Eater Y R) (c : CtrlF) (hc : c.Ok) (vw : View) : Eat1 Y R c.wire.frame [c.event] vw vw := by
  have hctl : c.wire.frame.isControl = true := by
    unfold Frame.isControl CtrlF.wire WFrame.frame
    cases c.pong <;> simp
  have hd : Deliverable c.event := by
    unfold CtrlF.event
    cases c.pong
    · simp only [Bool.false_eq_true, if_false]; exact hc.2
    · simp only [if_true]; trivial
  refine eat_event E _ hctl c.event hd (fun s => ?_) vw
  rw [buildMessage_plain c.wire.frame [] s rfl]
  unfold CtrlF.wire WFrame.frame CtrlF.event
  cases c.pong
  · exact ⟨.ping c.payload, by simp [msgOfPayload, liftE, Gen.opBinary, Gen.opText, Gen.opClose, Gen.opPing], rfl⟩
  · exact ⟨.pong c.payload,
      by simp [msgOfPayload, liftE, Gen.opBinary, Gen.opText, Gen.opClose, Gen.opPing, Gen.opPong], rfl⟩

theorem eat_ctrls (E : Eater Y R) (cs : List CtrlF) (hc : ∀ c ∈ cs, c.Ok) (vw : View) :
    EatSeq Y R (cs.map (WFrame.frame ∘ CtrlF.wire)) (cs.map CtrlF.event).reverse vw vw := by
  induction cs with
  | nil => exact eatSeq_nil vw
  | cons c r ih =>
    have h1 := eatSeq_one (eat_ctrl E c (hc c (by simp)) vw)
    have h2 := ih (fun x hx => hc x (by simp [hx]))
    have := eatSeq_append h1 h2
    simpa using this

theorem firstFrame_ctl (zf text : Bool) (g : Frag) (fin : Bool) : (firstFrame zf text g fin).isControl = false := by
  unfold firstFrame Frame.isControl; cases text <;> simp

theorem firstFrame_cont (zf text : Bool) (g : Frag) (fin : Bool) : (firstFrame zf text g fin).isContinuation = false := by
  unfold firstFrame Frame.isContinuation; cases text <;> simp [Gen.opContinuation]

theorem buildPure_plain (z : ZP) (ic : ICtx) (text : Bool) (g : Frag) (fin : Bool) (j : Bytes) :
    buildPure z ic (firstFrame false text g fin) j = some (j, ic) := by
  unfold buildPure
  have : ¬ ((firstFrame false text g fin).rsv1 ≠ 0 ∧ z.dc.isSome = true) := by
    intro h; apply h.1; rfl
  rw [if_neg this]

/-- `Message.build` in every state of the class: `z` has to describe the state only if the first
    frame says the message is compressed -/
theorem builds (z : ZP) (first : Frame) (tl : List Frame) (hz : first.rsv1 ≠ 0 → ∀ s, Y s → ZOk z s)
    (ic ic' : ICtx) (pl : Bytes)
    (hb : buildPure z ic first ((first :: tl).map (·.payload)).flatten = some (pl, ic'))
    (m : Msg) (hm : msgOfPayload first.opcode pl = .ok m) (s : Sys) (hy : Y s)
    (hic : (⟨s.inflHist, s.inflOut⟩ : ICtx) = ic) :
    buildMessage (first :: tl) s = .ok m { s with inflHist := ic'.hist, inflOut := ic'.out } := by
  subst hic
  by_cases h1 : first.rsv1 = 0
  · unfold buildPure at hb
    rw [if_neg (fun hc => hc.1 h1)] at hb
    cases hb
    rw [buildMessage_plain first tl s h1]
    unfold liftE; rw [hm]
  · exact buildMessage_pure z first tl s (hz h1 s hy) pl ic' hb m hm

theorem eat_cont (E : Eater Y R) (z : ZP) (r : List (List CtrlF × Frag)) (hr : r ≠ []) (hok : contOk r)
    (first : Frame) (tl : List Frame) (hz : first.rsv1 ≠ 0 → ∀ s, Y s → ZOk z s) (ic ic' : ICtx) (pl : Bytes)
    (hb : buildPure z ic first (((first :: tl).map (·.payload)).flatten ++ contPayload r) = some (pl, ic'))
    (msg : Msg) (hm : msgOfPayload first.opcode pl = .ok msg)
    (e : Event) (he : onMessage msg = feedYield true e) (hd : Deliverable e) :
    EatSeq Y R ((contWire r).map WFrame.frame) (e :: ((contCtrls r).map CtrlF.event).reverse)
      ⟨first :: tl, ic⟩ ⟨[], ic'⟩ := by
  induction r generalizing tl with
  | nil => exact (hr rfl).elim
  | cons x r ih =>
    obtain ⟨cs, g⟩ := x
    have hx := hok (cs, g) (by simp)
    have hcs := eat_ctrls E cs hx.1 ⟨first :: tl, ic⟩
    cases r with
    | nil =>
      have hlast : EatSeq Y R [contFrame g true] [e] ⟨first :: tl, ic⟩ ⟨[], ic'⟩ := by
        apply eatSeq_one
        refine eat_fin E _ ⟨first :: tl, ic⟩ (by simp [contFrame, WFrame.frame]) rfl
          (by simp [contFrame, Frame.isContinuation, WFrame.frame, Gen.opContinuation])
          first (tl ++ [contFrame g true]) rfl ic' msg
          (builds z first _ hz ic ic' pl ?_ msg hm) e he hd
        simpa [contPayload, contFrame, WFrame.frame] using hb
      have := eatSeq_append hcs hlast
      simpa [contWire, contCtrls, contFrame] using this
    | cons y r' =>
      have hmore : EatSeq Y R [contFrame g false] [] ⟨first :: tl, ic⟩ ⟨first :: (tl ++ [contFrame g false]), ic⟩ := by
        apply eatSeq_one
        exact eat_more E _ ⟨first :: tl, ic⟩ (by simp [contFrame, WFrame.frame]) rfl
          (by simp [contFrame, Frame.isContinuation, WFrame.frame, Gen.opContinuation])
      have hrest := ih (by simp) (fun w hw => hok w (by simp [hw])) (tl ++ [contFrame g false])
        (by simpa [contPayload, contFrame, WFrame.frame] using hb)
      have := eatSeq_append hcs (eatSeq_append hmore hrest)
      simpa [contWire, contCtrls, contFrame] using this

theorem msg_of_plain (g : GMsg) (ht : g.m.text = true → Bytes.WF g.plain ∧ Utf8.wf g.plain = true) :
    ∃ msg, msgOfPayload (if g.m.text then 1 else 2) g.plain = .ok msg ∧
      onMessage msg = feedYield true g.event ∧ Deliverable g.event := by
  cases hx : g.m.text with
  | false =>
    refine ⟨.binary g.plain, ?_, ?_, ?_⟩
    · simp [msgOfPayload, Gen.opBinary]
    · simp [GMsg.event, hx, onMessage]
    · simp [GMsg.event, hx, Deliverable]
  | true =>
    obtain ⟨_, hutf⟩ := ht hx
    obtain ⟨cps, hcps⟩ := Utf8.decode_of_wf hutf
    refine ⟨.text cps, ?_, ?_, ?_⟩
    · simp [msgOfPayload, Gen.opBinary, Gen.opText, hcps]
    · simp [GMsg.event, hx, onMessage, hcps]
    · simp [GMsg.event, hx, Deliverable]

/-- **Reassembly** (one data message, compressed or not): the interleaved control events in wire
    order, then exactly one message event carrying the (inflated) concatenation of the fragment
    payloads -/
theorem eat_msg (E : Eater Y R) (z : ZP) (g : GMsg) (hz : g.zf = true → ∀ s, Y s → ZOk z s) (ic ic' : ICtx)
    (h : g.OkAt z ic ic') : EatSeq Y R g.frames g.events.reverse ⟨[], ic⟩ ⟨[], ic'⟩ := by
  obtain ⟨hfirst, hrest, hb, ht⟩ := h
  obtain ⟨msg, hmsg, he, hd⟩ := msg_of_plain g ht
  have hz' : ∀ b, (firstFrame g.zf g.m.text g.m.first b).rsv1 ≠ 0 → ∀ s, Y s → ZOk z s := by
    intro b hne
    apply hz
    cases hzf : g.zf with
    | true => rfl
    | false => rw [hzf] at hne; exact (hne rfl).elim
  unfold GMsg.frames
  cases hr : g.m.rest with
  | nil =>
    have hp : g.m.payload = g.m.first.payload := by simp [DataMsg.payload, hr, contPayload]
    have : EatSeq Y R [firstFrame g.zf g.m.text g.m.first true] [g.event] ⟨[], ic⟩ ⟨[], ic'⟩ := by
      apply eatSeq_one
      refine eat_fin E _ ⟨[], ic⟩ (by simp [firstFrame]) (firstFrame_ctl _ _ _ _)
        (by rw [firstFrame_cont]; simp) _ [] rfl ic' msg
        (builds z _ [] (hz' true) ic ic' g.plain ?_ msg hmsg) g.event he hd
      rw [hp] at hb
      simpa [firstFrame] using hb
    simpa [GMsg.events, hr, contWire, contCtrls] using this
  | cons y r' =>
    have h1 : EatSeq Y R [firstFrame g.zf g.m.text g.m.first false] [] ⟨[], ic⟩
        ⟨[firstFrame g.zf g.m.text g.m.first false], ic⟩ := by
      apply eatSeq_one
      exact eat_more E _ ⟨[], ic⟩ (by simp [firstFrame]) (firstFrame_ctl _ _ _ _) (by rw [firstFrame_cont]; simp)
    have h2 := eat_cont E z (y :: r') (by simp) (hr ▸ hrest) (firstFrame g.zf g.m.text g.m.first false) []
      (hz' false) ic ic' g.plain (by
        show buildPure z ic (firstFrame g.zf g.m.text g.m.first true) _ = _
        simpa [DataMsg.payload, hr, firstFrame] using hb)
      msg hmsg g.event he hd
    have := eatSeq_append h1 h2
    simpa [GMsg.events, hr] using this

theorem eat_items (E : Eater Y R) (z : ZP) (items : List GItem)
    (hz : ∀ g, GItem.msg g ∈ items → g.zf = true → ∀ s, Y s → ZOk z s) (ic ic' : ICtx)
    (h : ItemsAt z ic items ic') :
    EatSeq Y R (items.flatMap GItem.frames) (items.flatMap GItem.events).reverse ⟨[], ic⟩ ⟨[], ic'⟩ := by
  induction items generalizing ic with
  | nil =>
    have : ic = ic' := h
    subst this
    exact eatSeq_nil _
  | cons it r ih =>
    have hzr := fun g hg => hz g (List.mem_cons_of_mem _ hg)
    cases it with
    | ctrl c =>
      obtain ⟨hc, hr⟩ := h
      have h1 := eatSeq_one (eat_ctrl E c hc ⟨[], ic⟩)
      have := eatSeq_append h1 (ih hzr ic hr)
      simpa [List.flatMap_cons, GItem.frames, GItem.events] using this
    | msg g =>
      obtain ⟨ic1, hg, hr⟩ := h
      have := eatSeq_append (eat_msg E z g (hz g List.mem_cons_self) ic ic1 hg) (ih hzr ic1 hr)
      simpa [List.flatMap_cons, GItem.frames, GItem.events] using this

/-- no extension: only uncompressed messages can be described -/
def zNone : ZP := ⟨fun _ _ => none, none⟩

theorem eat_data (E : Eater Y R) (m : DataMsg) (hm : m.Ok) (ic : ICtx) :
    EatSeq Y R (m.wire.map WFrame.frame) m.events.reverse ⟨[], ic⟩ ⟨[], ic⟩ :=
  eat_msg E zNone ⟨false, m, m.payload⟩ (fun h => by cases h) ic ic ⟨hm.1, hm.2.1, rfl, hm.2.2⟩

theorem eat_plain (E : Eater Y R) (items : List Item) (hok : ∀ it ∈ items, it.Ok) (ic : ICtx) :
    EatSeq Y R ((items.flatMap Item.wire).map WFrame.frame) (items.flatMap Item.events).reverse ⟨[], ic⟩ ⟨[], ic⟩ := by
  induction items with
  | nil => exact eatSeq_nil _
  | cons it r ih =>
    have h1 : EatSeq Y R (it.wire.map WFrame.frame) it.events.reverse ⟨[], ic⟩ ⟨[], ic⟩ := by
      have hi := hok it (by simp)
      cases it with
      | ctrl c => exact eatSeq_one (eat_ctrl E c hi ⟨[], ic⟩)
      | data m => exact eat_data E m hi ic
    have := eatSeq_append h1 (ih (fun x hx => hok x (by simp [hx])))
    simpa [List.flatMap_cons] using this

/-- a Close frame: no body, or a status code and a UTF-8 reason -/
structure CloseF where
  body : Option (Nat × Bytes)
  form : LenForm
  deriving Repr, DecidableEq

def CloseF.payload (c : CloseF) : Bytes :=
  match c.body with
  | none => []
  | some (code, rb) => beBytes 2 code ++ rb
def CloseF.wire (c : CloseF) : WFrame := { fin := true, opcode := 8, payload := c.payload, form := c.form }
def CloseF.code (c : CloseF) : Option Nat := c.body.map (·.1)
def CloseF.reason (c : CloseF) : List Nat :=
  match c.body with
  | none => []
  | some (_, rb) => (Utf8.decode rb).getD []
/-- the client is not closing yet, so a server Close is reported as `Closing` -/
def CloseF.event (c : CloseF) : Event := .closing c.code c.reason

def CloseF.Ok (c : CloseF) : Prop :=
  c.form.ok c.payload.length ∧ c.payload.length ≤ 125 ∧
  ∀ code rb, c.body = some (code, rb) →
    code < 65536 ∧ isInvalidCode code = false ∧ Bytes.WF rb ∧ Utf8.wf rb = true

theorem CloseF.wire_ok {c : CloseF} (h : c.Ok) : c.wire.Ok :=
  ⟨h.1, Or.inr ⟨Or.inl rfl, rfl, h.2.1⟩⟩

theorem closeFromPayload_ok (c : CloseF) (h : c.Ok) :
    closeFromPayload c.payload = .ok (.close c.code c.reason) := by
  obtain ⟨_, _, hb⟩ := h
  unfold CloseF.payload CloseF.code CloseF.reason
  cases hbody : c.body with
  | none => simp [closeFromPayload]
  | some x =>
    obtain ⟨code, rb⟩ := x
    obtain ⟨hcode, _, hwf, hutf⟩ := hb code rb hbody
    have hlen : (beBytes 2 code ++ rb).length = 2 + rb.length := by simp [beBytes_length]
    have htake : (beBytes 2 code ++ rb).take 2 = beBytes 2 code := List.take_left' (beBytes_length 2 code)
    have hdrop : (beBytes 2 code ++ rb).drop 2 = rb := List.drop_left' (beBytes_length 2 code)
    have hval := validate_of_wf rb hwf hutf
    obtain ⟨cps, hcps⟩ := Utf8.decode_of_wf hutf
    unfold closeFromPayload
    simp only [hlen, htake, hdrop, hval, hcps, beVal_beBytes_mod]
    have h1 : ¬ 2 + rb.length = 1 := by omega
    have h2 : 2 + rb.length ≥ 2 := by omega
    have h3 : code % 256 ^ 2 = code := Nat.mod_eq_of_lt (by omega)
    simp [h1, h2, h3]


theorem close_echo_payload (c : CloseF) (h : c.Ok) :
    buildClosePayload c.code (encodeReplace c.reason) = c.payload := by
  unfold CloseF.code CloseF.reason CloseF.payload
  cases hbody : c.body with
  | none => rfl
  | some x =>
    obtain ⟨code, rb⟩ := x
    obtain ⟨_, _, _, hutf⟩ := h.2.2 code rb hbody
    obtain ⟨cps, hcps⟩ := Utf8.decode_of_wf hutf
    obtain ⟨he, hsc⟩ := Utf8.encode_decode rb cps hcps
    simp only [Option.map_some, hcps, Option.getD_some, buildClosePayload]
    rw [encodeReplace_scalar cps hsc, he]


theorem CloseF.Ok.code {c : CloseF} (hc : c.Ok) :
    ∀ k, c.code = some k → k < 65536 ∧ isInvalidCode k = false := by
  intro k hk
  unfold CloseF.code at hk
  cases hbody : c.body with
  | none => rw [hbody] at hk; cases hk
  | some x =>
    obtain ⟨code, rb⟩ := x
    rw [hbody] at hk
    simp only [Option.map_some, Option.some.injEq] at hk
    subst hk
    exact ⟨(hc.2.2 code rb hbody).1, (hc.2.2 code rb hbody).2.1⟩

/-- the state after the server's Close has been answered: `Closing` delivered, the echo written (or
    its write failed), the websocket closing, the close timer armed now.  `s1` is the state in which
    the `Closing` yield returned: only the echo lies between it and `s'`. -/
structure Echoed (c : CloseF) (s s' : Sys) : Prop where
  react : s'.react = s.react
  closed : s'.closed = false
  closing : s'.closing = true
  sct : s'.sentCloseTime = some (sessionTime s')
  evs : delivered s'.trace = c.event :: delivered s.trace
  own : Own s s'
  mid : ∃ s1, feedYield true c.event s = .ok () s1 ∧ s'.sockOpen = s1.sockOpen ∧ s'.selOpen = s1.selOpen

theorem onOut_close (c : CloseF) (hc : c.Ok) (s : Sys) (g : Good s) (hcl : s.closed = false)
    (hcg : s.closing = false) : ∃ s', onOut (.frame c.wire.frame) s = .ok true s' ∧ Echoed c s s' := by
  have hctl : c.wire.frame.isControl = true := by simp [Frame.isControl, WFrame.frame, CloseF.wire]
  have hb : buildMessage [c.wire.frame] s = .ok (.close c.code c.reason) s := by
    rw [buildMessage_plain c.wire.frame [] s rfl]
    have : msgOfPayload c.wire.frame.opcode (([c.wire.frame].map (·.payload)).flatten)
        = closeFromPayload c.payload := by
      simp [msgOfPayload, WFrame.frame, CloseF.wire, Gen.opBinary, Gen.opText, Gen.opClose]
    rw [this, closeFromPayload_ok c hc]
    rfl
  have hcc : checkCloseCode c.code s = .ok () s := by
    unfold checkCloseCode
    cases hcode : c.code with
    | none => rfl
    | some k =>
      simp only [(hc.code k hcode).2, Bool.false_eq_true, if_false]
      rfl
  obtain ⟨_, s1, e1, c1⟩ := tot_feedYield true (.closing c.code c.reason) trivial s g
  have o1 : Own s s1 := (own_leaves.feedYield true _).ok e1
  obtain ⟨a, s2, e2, c2⟩ := tot_sendFrame Gen.opClose (buildClosePayload c.code (encodeReplace c.reason)) none s1 (c1.good g)
  have o2 : Own s1 s2 := (own_leaves.toSendLeaves.sendFrame _ _).ok e2
  have k2 : E2E.Keep s1 s2 := (E2E.keep_sendFrame _ _ _).ok e2
  have hl : ¬ (buildClosePayload c.code (encodeReplace c.reason)).length > 125 := by
    rw [close_echo_payload c hc]; have := hc.2.1; omega
  have h1cl : s1.closed = false := by rw [c1.closed]; exact hcl
  have h1cg : s1.closing = false := by rw [c1.closing]; exact hcg
  have key : wsClose c.code (.str c.reason) s1 =
      .ok .ok { s2 with closing := true, sentCloseTime := some (sessionTime s2) } := by
    rw [wsClose_live _ _ _ h1cl h1cg]
    simp only [argBytes, codeTooBig_false.2 (fun k hk => (hc.code k hk).1), hl, Bool.false_eq_true, false_or, and_false, if_false]
    rw [e2]
  let s3 : Sys := { s2 with closing := true, sentCloseTime := some (sessionTime s2) }
  have hf : onFrame c.wire.frame s = .ok () { s3 with closing := true } := by
    unfold onFrame
    simp only [hctl, if_true]
    rw [bind_ok hb]
    show onClose c.code c.reason s = _
    unfold onClose
    rw [bind_ok hcc, getS_bind]
    simp only [hcl, hcg, Bool.false_eq_true, if_false]
    rw [bind_ok e1, bind_ok key]
    rfl
  have h2cl : s2.closed = false := by rw [c2.closed]; exact h1cl
  have o : Own s s2 := own_po.trans o1 o2
  refine ⟨{ s3 with closing := true }, onOut_frame_of hf h2cl, c2.react.trans c1.react, h2cl, rfl, rfl, ?_,
    ⟨o.cfg, o.p, o.frames, o.hist, o.out⟩, s1, e1, k2.sockOpen, k2.selOpen⟩
  show delivered s2.trace = _
  rw [c2.evs, c1.evs]
  rfl

def finOk (p' : PState) (s : Sys) : Res Bool := .ok true { s with p := p' }

/-- one Close frame through the parser; in namespace `CR` because Proofs/ClosingRun.lean calls it by
    that name, in this file because `feed_close` needs it first -/
theorem CR.feedLoop_close_frame (c : CloseF) (hc : c.Ok) (s : Sys) (hb : Between s.p) :
    ∃ p1 p', Between p' ∧ feedLoop c.wire.bytes s =
      match onOut (.frame c.wire.frame) { s with p := p1 } with
      | .ok true s2 => .ok true { s2 with p := p' }
      | .ok false s2 => .ok false s2
      | .err x s2 => .err x s2 := by
  obtain ⟨hd, hb'⟩ := between_step s.cfg.v s.p c.wire hb (by simp [CloseF.wire])
  have e := pRun_wire_ok s.cfg.v s.p hb.b c.wire (CloseF.wire_ok hc) _ hd []
  rw [List.append_nil, pRun_nil] at e
  refine ⟨c.wire.next s.cfg.v s.p 0, _, hb', ?_⟩
  rw [feedLoop_eq_fold _ s hb.b.notHeader, e]
  simp only [PRun.pushAll, List.append_nil, consume]
  cases onOut (Out.frame c.wire.frame) { s with p := c.wire.next s.cfg.v s.p 0 } with
  | ok go s2 => cases go <;> rfl
  | err x s2 => rfl

/-- **Delivery, items**: feeding the bytes of any conforming serialisation of `items` from a state
    between two messages yields exactly the expected events, in completion order, and returns to
    a state between two messages. -/
theorem feed_items (E : Eater Y R) (items : List Item) (hok : ∀ it ∈ items, it.Ok) (s : Sys) (g : Y s)
    (hfr : s.frames = []) (hp : Between s.p) :
    ∃ s', feedLoop (wireBytes (items.flatMap Item.wire)) s = .ok true s' ∧
      R (items.flatMap Item.events).reverse s s' ∧ s'.frames = [] ∧ Between s'.p := by
  have hc : s.p.cont ≠ .header := hp.b.notHeader
  obtain ⟨p', hpar, hb'⟩ := parses_items s.cfg.v items s.p hp hok
  have he := eat_plain E items hok ⟨s.inflHist, s.inflOut⟩
  obtain ⟨s', h, r, _, v, hp'⟩ := feed_frames E s g hc hpar
    (by unfold view; rw [hfr]; exact he)
  exact ⟨s', h, r, congrArg View.frames v, by rw [hp']; exact hb'⟩

theorem feed_close (c : CloseF) (hc : c.Ok) (s : Sys) (g : Good s) (hcl : s.closed = false)
    (hcg : s.closing = false) (hp : Between s.p) :
    ∃ s', feedLoop c.wire.bytes s = .ok true s' ∧ delivered s'.trace = c.event :: delivered s.trace ∧
      s'.closed = false ∧ s'.closing = true ∧ view s' = view s ∧ Between s'.p := by
  obtain ⟨p1, p', hb', e⟩ := CR.feedLoop_close_frame c hc s hp
  obtain ⟨s1, e1, h1⟩ := onOut_close c hc { s with p := p1 } ⟨g.quiet, g.nt⟩ hcl hcg
  exact ⟨{ s1 with p := p' }, by rw [e, e1], h1.evs, h1.closed, h1.closing, h1.own.view, hb'⟩


/-- `WebsocketStream.feed` + `WebSocket.feed` + `run()` over a list of frames -/
def feedFrames : List Frame → Sys → Res Bool
  | [], s => .ok true s
  | f :: r, s =>
    match onOut (.frame f) s with
    | .ok true s2 => feedFrames r s2
    | .ok false s2 => .ok false s2
    | .err x s2 => .err x s2

theorem consume_eq_feedFrames (fs : List Frame) (s : Sys) :
    consume (finOk s.p) (fs.map (fun f => (s.p, Out.frame f))) s = feedFrames fs s := by
  induction fs generalizing s with
  | nil => cases s; rfl
  | cons f r ih =>
    simp only [List.map_cons, consume, feedFrames]
    have hk := keep_onOut_frame f s
    cases hr : onOut (.frame f) s with
    | err x s2 => rfl
    | ok go s2 =>
      rw [hr] at hk
      have e1 : s2.p = s.p := hk
      cases go with
      | false => rfl
      | true =>
        simp only
        rw [← e1]
        exact ih s2

instance (r : List (List CtrlF × Frag)) : Decidable (contOk r) := by
  unfold contOk; exact inferInstance
instance (m : DataMsg) : Decidable m.Ok := by unfold DataMsg.Ok; exact inferInstance
instance (it : Item) : Decidable it.Ok := by
  cases it <;> (unfold Item.Ok; exact inferInstance)
instance (c : CloseF) : Decidable c.Ok := by
  unfold CloseF.Ok
  cases c.body with
  | none => exact decidable_of_iff (c.form.ok c.payload.length ∧ c.payload.length ≤ 125) (by simp)
  | some x =>
    exact decidable_of_iff (c.form.ok c.payload.length ∧ c.payload.length ≤ 125 ∧
      (x.1 < 65536 ∧ isInvalidCode x.1 = false ∧ Bytes.WF x.2 ∧ Utf8.wf x.2 = true)) (by
        constructor
        · rintro ⟨a, b, h⟩
          refine ⟨a, b, ?_⟩
          intro code rb hx
          cases hx
          exact h
        · rintro ⟨a, b, h⟩
          exact ⟨a, b, h x.1 x.2 rfl⟩)

end Lomond.Core
