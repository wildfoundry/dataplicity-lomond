/-
  Lifting a relation through the receive pipeline.

  Most invariants needed by the properties only care about what happens at the *leaves* that touch
  the wire, the clock or the application (`feedYield`, `wsClose`, `closeSocket`); every other function
  of the pipeline only composes those leaves and updates parser / stream / websocket bookkeeping
  fields.  `Leaves R` packages what has to be shown about the leaves of a preorder `R`; it yields
  `PipeX (R s0) (fun _ => R s0)` (Proofs/Pipe.lean), hence `Spec R` for the pipeline and the loop.
-/
import Lomond.Proofs.Pipe
namespace Lomond.Core.Lift
open Lomond Lomond.Core Lomond.Core.LiftX

structure Leaves (R : Sys → Sys → Prop) : Prop where
  po : PO R
  inert : ∀ s s', Inert s s' → R s s'
  closeSocket : Spec R closeSocket
  wsClose : ∀ c r, Spec R (wsClose c r)
  feedYield : ∀ b e, isFeedEvent e = true → Spec R (feedYield b e)

variable {R : Sys → Sys → Prop}

theorem lift_onDisconnect (T : Leaves R) : Spec R onDisconnect :=
  spec_onDisconnect T.po T.closeSocket (fun s => T.inert _ _ (by constructor <;> rfl))

theorem lift_onClose (T : Leaves R) (c : Option Nat) (r : List Nat) : Spec R (onClose c r) :=
  spec_onClose T.po c r (T.feedYield _ _ rfl) (T.feedYield _ _ rfl) (T.wsClose _ _) (fun s => T.inert _ _ (by constructor <;> rfl))
    (fun s => T.inert _ _ (by constructor <;> rfl))

theorem lift_feedHandler (T : Leaves R) (x : Exn) : Spec R (feedHandler x) :=
  spec_feedHandler T.po x (fun _ _ => T.feedYield _ _ rfl) (fun _ => T.wsClose _ _)

theorem Leaves.pipe (T : Leaves R) (s0 : Sys) : PipeX (R s0) (fun _ => R s0) where
  inert := fun s s' h hs => T.po.trans hs (T.inert s s' h.inert)
  boring := fun _ _ _ hs => hs
  handler := fun x => (spec_iff T.po).mp (lift_feedHandler T x) s0
  reject := fun _ => (spec_iff T.po).mp (spec_bind T.po (lift_onDisconnect T) (fun _ =>
    spec_bind T.po (T.feedYield _ _ rfl) (fun _ => spec_pure T.po _))) s0
  onClose := fun c r => (spec_iff T.po).mp (lift_onClose T c r) s0
  feedYield := fun e he _ _ => (spec_iff T.po).mp (T.feedYield true e he) s0

theorem lift_feedLoop (T : Leaves R) (data : Bytes) : Spec R (feedLoop data) :=
  (spec_iff T.po).mpr fun s0 => pipe_feedLoop (T.pipe s0) data

theorem lift_feedBody (T : Leaves R) (data : Bytes) : Spec R (feedBody data) :=
  (spec_iff T.po).mpr fun s0 => pipe_feedBody (T.pipe s0) data

theorem lift_wsFeed (T : Leaves R) (data : Bytes) : Spec R (wsFeed data) :=
  (spec_iff T.po).mpr fun s0 =>
    pipe_wsFeed (T.pipe s0) (fun x => (spec_iff T.po).mp (spec_unwrapOuter T.po x) s0) data

theorem lift_recvStep (T : Leaves R) (o : RecvOutcome) : Spec R (recvStep o) :=
  (spec_iff T.po).mpr fun s0 =>
    pipe_recvStep (T.pipe s0) (fun x => (spec_iff T.po).mp (spec_unwrapOuter T.po x) s0) (fun _ _ _ hs => hs) o

theorem lift_loop (T : Leaves R) (P : EnvStep → Prop)
    (hTick : ∀ dt rd s, P (.wait dt rd) → R s (regular (tick s dt)).state)
    (env : List EnvStep) (hP : ∀ st ∈ env, P st) : Spec R (loop env) :=
  spec_loop T.po (lift_recvStep T) P hTick env hP

end Lomond.Core.Lift
