/-
  C17: a connection on a USED WebSocket object.

  `Core.runAll cfg react env` starts from the initial `Sys`.  On the Python side the object is not new:
  whatever the previous connection left in its attributes is still there when `connect()` is called.
  `reconnect prev …` is the model state the next connection really starts from: every per-connection field
  of `Sys` is taken from the leftover state `prev` UNLESS the source re-creates the object that carries it and
  initialises the attribute to the value the model starts with — read off the facts the translator
  regenerates from the source on every run (`Gen.initValues`: the initialiser expressions of the `__init__`
  methods; `connectResetsFirst`, `resetAssignsState`, `connectNewSession`, …).  If a field moved to an object
  that survives `connect()`, or an initialiser changed (say `self.closing = True`), `reconnect` keeps the stale
  value (or takes the other literal) and `reconnect_eq_init` (after `connect()` nothing of the previous connection is
  left) stops checking.

  Where each field lives (trusted reading of the model against the source, cross-checked by
  `C17.model_fields_are_instance_state`):
    session object (`WebsocketSession.__init__`, new per `connect()`)  : sockOpen ← _sock, ready ← _ready,
        pollStart ← _poll_start, nextPing ← _next_ping, lastPong ← _last_pong, startTime ← _start_time
    `WebSocket.State.__init__` (new per `reset()`)                      : closing, closed, sentCloseTime ← sent_close_time,
        compression
    `WebsocketStream.__init__` (created by `State.__init__`)            : parsedResponse ← _parsed_response, frames ← _frames,
        decompress ← _decompress
    `FrameParser.__init__` / `Parser.__init__` (created by the stream)  : p.isText ← _is_text, p.isCompressed ← _is_compressed,
        p.compression ← _compression, p.dfa ← the new Utf8Validator(), p.buf ← _buffer,
        p.cont / p.remPred / p.utf8 ← the new `parse()` generator made by `reset()`
    the `Deflate` object (inflHist, inflOut) is reachable only through `state.compression` / `stream._decompress`
    local variables of `run()` and the per-connection world of the harness: selOpen, now, keyCtr, writeCtr, hist,
        abandonedWith, trace — new by construction
-/
import Lomond.Model.Core
import Lomond.Generated.Facts

namespace Lomond.Fresh
open Lomond Lomond.Core

/-- the initialiser expression of `cls.__init__` for `self.attr`, as source text -/
def initText (cls attr : String) : Option String :=
  (Gen.initValues.find? (fun t => t.1 == cls && t.2.1 == attr)).map (fun t => t.2.2)

/-- `connect()` begins with `reset()`, which assigns a new `State` -/
def stateNew : Bool := Gen.connectResetsFirst && Gen.resetAssignsState
/-- … whose `__init__` makes a new stream … -/
def streamNew : Bool := stateNew && (initText "State" "stream" == some "WebsocketStream()")
/-- … whose `__init__` makes a new frame parser (whose `__init__` runs `Parser.__init__`, which runs `reset()`) -/
def parserNew : Bool :=
  streamNew && (initText "WebsocketStream" "frame_parser" == some "ClientFrameParser()") && Gen.frameParserInitCallsSuper
def genNew : Bool := parserNew && Gen.parserInitCallsReset && Gen.parserResetFresh
/-- `connect()` constructs a new session object -/
def sessionNew : Bool := Gen.connectNewSession

/-- a Bool attribute after `connect()`: the literal its re-created owner assigns, else the stale value -/
def boolAttr (new : Bool) (cls attr : String) (prev : Bool) : Bool :=
  if new then
    match initText cls attr with
    | some "False" => false
    | some "True" => true
    | _ => prev
  else prev

/-- an attribute the model reads as "absent" (`none` / `false` / `0`) exactly when Python holds `None` -/
def noneAttr {α : Type} (new : Bool) (cls attr : String) (absent prev : α) : α :=
  if new && (initText cls attr == some "None") then absent else prev

/-- a list / buffer attribute initialised to an empty container -/
def emptyAttr {α : Type} (new : Bool) (cls attr : String) (prev : List α) : List α :=
  if new && (initText cls attr == some "[]" || initText cls attr == some "bytearray()") then [] else prev

def reconnectP (prev : PState) : PState :=
  { cont := if genNew then .header else prev.cont
    remPred := if genNew then 0 else prev.remPred
    utf8 := if genNew then false else prev.utf8
    buf := emptyAttr parserNew "Parser" "_buffer" prev.buf
    dfa := if parserNew && (initText "FrameParser" "_utf8_validator" == some "Utf8Validator()") then 0 else prev.dfa
    isText := boolAttr parserNew "FrameParser" "_is_text" prev.isText
    compression := boolAttr parserNew "FrameParser" "_compression" prev.compression
    isCompressed := boolAttr parserNew "FrameParser" "_is_compressed" prev.isCompressed }

/-- the `Deflate` object of the previous connection is unreachable once both references to it are gone -/
def deflateGone : Bool :=
  stateNew && (initText "State" "compression" == some "None") &&
  streamNew && (initText "WebsocketStream" "_decompress" == some "None")

/-- The state a connection starts from when `connect()` is called on an object whose previous connection left `prev`. -/
def reconnect (prev : Sys) (cfg : Cfg) (react : React) (env : List EnvStep) : Sys :=
  { cfg := cfg, react := react, env := env
    sockOpen := noneAttr sessionNew "WebsocketSession" "_sock" false prev.sockOpen
    ready := boolAttr sessionNew "WebsocketSession" "_ready" prev.ready
    pollStart := noneAttr sessionNew "WebsocketSession" "_poll_start" none prev.pollStart
    nextPing := noneAttr sessionNew "WebsocketSession" "_next_ping" 0 prev.nextPing
    lastPong := noneAttr sessionNew "WebsocketSession" "_last_pong" 0 prev.lastPong
    startTime := noneAttr sessionNew "WebsocketSession" "_start_time" none prev.startTime
    closing := boolAttr stateNew "State" "closing" prev.closing
    closed := boolAttr stateNew "State" "closed" prev.closed
    sentCloseTime := noneAttr stateNew "State" "sent_close_time" none prev.sentCloseTime
    compression := noneAttr stateNew "State" "compression" none prev.compression
    parsedResponse := boolAttr streamNew "WebsocketStream" "_parsed_response" prev.parsedResponse
    frames := emptyAttr streamNew "WebsocketStream" "_frames" prev.frames
    decompress := noneAttr streamNew "WebsocketStream" "_decompress" false prev.decompress
    inflHist := if deflateGone then [] else prev.inflHist
    inflOut := if deflateGone then 0 else prev.inflOut
    p := reconnectP prev.p }

/-- `Core.runAll` with the start state as a parameter (the same code as `runAll`) -/
def runAllFrom (s0 : Sys) : Sys :=
  match run s0 with
  | .ok _ s => s
  | .err .genExit s =>
    if s.abandonedWith then
      match closeSocket s with
      | .ok _ s' => s'
      | .err _ s' => s'
    else s
  | .err (.outer .genExit) s =>
    if s.abandonedWith then
      match closeSocket s with
      | .ok _ s' => s'
      | .err _ s' => s'
    else s
  | .err .scriptEnd s => { s with trace := .incomplete :: s.trace }
  | .err _ s => { s with trace := .incomplete :: s.trace }

theorem runAll_eq_from (cfg : Cfg) (react : React) (env : List EnvStep) :
    runAll cfg react env = runAllFrom { cfg := cfg, react := react, env := env } := rfl

theorem boolAttr_false (cls attr : String) (prev : Bool) (h : initText cls attr = some "False") :
    boolAttr true cls attr prev = false := by
  simp [boolAttr, h]

theorem noneAttr_absent {α : Type} (cls attr : String) (absent prev : α) (h : initText cls attr = some "None") :
    noneAttr true cls attr absent prev = absent := by
  simp [noneAttr, h]

theorem emptyAttr_nil {α : Type} (cls attr : String) (prev : List α)
    (h : initText cls attr = some "[]" ∨ initText cls attr = some "bytearray()") :
    emptyAttr true cls attr prev = [] := by
  rcases h with h | h <;> simp [emptyAttr, h]

/-- every owner of per-connection state is re-created by `connect()` -/
theorem owners_new :
    stateNew = true ∧ streamNew = true ∧ parserNew = true ∧ genNew = true ∧ sessionNew = true ∧
    deflateGone = true := by
  decide +kernel

/-- the initialisers of `FrameParser.__init__` / `Parser.__init__` the model's parser state rests on -/
theorem parser_inits :
    initText "Parser" "_buffer" = some "bytearray()" ∧
    initText "FrameParser" "_utf8_validator" = some "Utf8Validator()" ∧
    initText "FrameParser" "_is_text" = some "False" ∧
    initText "FrameParser" "_compression" = some "False" ∧
    initText "FrameParser" "_is_compressed" = some "False" := by
  decide +kernel

/-- … of `WebsocketSession.__init__` … -/
theorem session_inits :
    (∀ a ∈ ["_sock", "_poll_start", "_next_ping", "_last_pong", "_start_time"],
      initText "WebsocketSession" a = some "None") ∧
    initText "WebsocketSession" "_ready" = some "False" := by
  decide +kernel

/-- … of `State.__init__` and `WebsocketStream.__init__` -/
theorem state_inits :
    initText "State" "closing" = some "False" ∧ initText "State" "closed" = some "False" ∧
    initText "State" "sent_close_time" = some "None" ∧ initText "State" "compression" = some "None" ∧
    initText "WebsocketStream" "_parsed_response" = some "False" ∧
    initText "WebsocketStream" "_frames" = some "[]" ∧
    initText "WebsocketStream" "_decompress" = some "None" := by
  decide +kernel

theorem reconnectP_eq (prev : PState) : reconnectP prev = {} := by
  obtain ⟨hbuf, hval, htext, hcomp, hcompd⟩ := parser_inits
  simp only [reconnectP, owners_new.2.2.2.1, owners_new.2.2.1, if_true, emptyAttr_nil _ _ _ (.inr hbuf), hval,
    boolAttr_false _ _ _ htext, boolAttr_false _ _ _ hcomp, boolAttr_false _ _ _ hcompd,
    beq_self_eq_true, Bool.and_self]

/-- **After `connect()` nothing of the previous connection is left**: whatever state `prev` the object was in, the
    next connection starts from exactly the state a freshly constructed object starts from. -/
theorem reconnect_eq_init (prev : Sys) (cfg : Cfg) (react : React) (env : List EnvStep) :
    reconnect prev cfg react env = { cfg := cfg, react := react, env := env } := by
  obtain ⟨hnone, hready⟩ := session_inits
  obtain ⟨hclosing, hclosed, hsent, hcompr, hparsed, hframes, hdecomp⟩ := state_inits
  have n (a : String) (h : a ∈ ["_sock", "_poll_start", "_next_ping", "_last_pong", "_start_time"])
      {α : Type} (x y : α) : noneAttr true "WebsocketSession" a x y = x :=
    noneAttr_absent _ _ _ _ (hnone a h)
  obtain ⟨hstate, hstream, _, _, hsession, hgone⟩ := owners_new
  simp only [reconnect, hsession, hstate, hstream, hgone, reconnectP_eq, if_true,
    n "_sock" (by decide), n "_poll_start" (by decide), n "_next_ping" (by decide), n "_last_pong" (by decide),
    n "_start_time" (by decide), boolAttr_false _ _ _ hready, boolAttr_false _ _ _ hclosing,
    boolAttr_false _ _ _ hclosed, noneAttr_absent _ _ _ _ hsent, noneAttr_absent _ _ _ _ hcompr,
    boolAttr_false _ _ _ hparsed, emptyAttr_nil _ _ _ (.inl hframes), noneAttr_absent _ _ _ _ hdecomp]

end Lomond.Fresh
