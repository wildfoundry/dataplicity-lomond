/-
  C14, token placement.  The C14 theorems (and the oracle) tell a write made by an application call
  from a write made by the library itself by the result token `.res r` that the harness logs right
  after every application call.  That classification is sound from any state: every library function
  appends a segment that is `TokensWellPlaced` on its own — the relation `RL`, in which the results are
  stated (`twp_runAll`, `RL.no_token_on_top`) — so no token is ever put on top of a write the library has
  just made.  `RC` (complete call blocks, `Calls`) is what the application's reaction satisfies and serves
  only to get `RL` of a hand-over; `AM1` is `W1` with the `sockClose` of `session.close()` allowed.
  `feedYield_shape`: what a `yield` appends once `_on_event` has returned.  `ReqFirst`: the oldest write of
  the trace is the upgrade request (`reqFirst_runAll`).
-/
import Lomond.Proofs.PongRun
namespace Lomond.Core.PongTokens
open Lomond Lomond.Core Lomond.Core.Lift Lomond.Core.Pong

/-- what an application call may leave on the trace before its result token: one write, or the
    `sockClose` of `session.close()` -/
def appItem (o : Obs) : Bool := o.isWrite || o.sockCl

/-- the newest entry is an event or a result token: the position at which the application makes
    its (next) call -/
def atApp : List Obs → Bool
  | .ev _ :: _ => true
  | .res _ :: _ => true
  | _ => false

/-- `t` is the part of the trace older than a result token: the token is attached to an event
    (or to the previous call's token) directly, or through exactly one entry of the call -/
def resOK : List Obs → Bool
  | .ev _ :: _ => true
  | .res _ :: _ => true
  | o :: t => appItem o && atApp t
  | [] => false

/-- **every result token is well placed** (trace newest first): it directly follows an event, a
    previous token, or one write / `sockClose` that itself directly follows an event or a token -/
def TokensWellPlaced : List Obs → Bool
  | [] => true
  | .res _ :: t => resOK t && TokensWellPlaced t
  | _ :: t => TokensWellPlaced t

theorem resOK_of_atApp {t : List Obs} (h : atApp t = true) : resOK t = true := by
  cases t with
  | nil => cases h
  | cons o t => cases o <;> first | rfl | cases h

theorem resOK_item {o : Obs} {t : List Obs} (ho : appItem o = true) (h : atApp t = true) :
    resOK (o :: t) = true := by
  cases o <;> simp_all [resOK, appItem, Obs.isWrite, Obs.sockCl]

theorem twp_cons {o : Obs} {t : List Obs} (ho : o.resTok = false) :
    TokensWellPlaced (o :: t) = TokensWellPlaced t := by
  cases o <;> first | rfl | cases ho

theorem twp_res (r : ActRes) (t : List Obs) :
    TokensWellPlaced (.res r :: t) = (resOK t && TokensWellPlaced t) := rfl

theorem atApp_append {l : List Obs} (t : List Obs) (h : atApp l = true) : atApp (l ++ t) = true := by
  cases l with
  | nil => cases h
  | cons o l => cases o <;> first | rfl | cases h

theorem resOK_append {l : List Obs} (t : List Obs) (h : resOK l = true) : resOK (l ++ t) = true := by
  cases l with
  | nil => cases h
  | cons o l =>
    cases o
    case ev => rfl
    case res => rfl
    all_goals
      simp only [resOK, Bool.and_eq_true] at h
      simp only [List.cons_append, resOK, Bool.and_eq_true]
      exact ⟨h.1, atApp_append t h.2⟩

theorem twp_append {l2 l1 : List Obs} (h2 : TokensWellPlaced l2 = true) (h1 : TokensWellPlaced l1 = true) :
    TokensWellPlaced (l2 ++ l1) = true := by
  induction l2 with
  | nil => exact h1
  | cons o l ih =>
    cases ho : o.resTok with
    | false =>
      rw [twp_cons ho] at h2
      rw [List.cons_append, twp_cons ho]; exact ih h2
    | true =>
      cases o <;> first | cases ho | skip
      rw [twp_res, Bool.and_eq_true] at h2
      rw [List.cons_append, twp_res, Bool.and_eq_true]
      exact ⟨resOK_append l1 h2.1, ih h2.2⟩

theorem twp_of_nores {l : List Obs} (h : ∀ o ∈ l, o.resTok = false) : TokensWellPlaced l = true := by
  induction l with
  | nil => rfl
  | cons o l ih =>
    rw [twp_cons (h o List.mem_cons_self)]
    exact ih (fun o' ho' => h o' (List.mem_cons_of_mem _ ho'))

/-- a sequence of complete call blocks (newest first): each is a token on top of at most one
    entry, a write or a `sockClose` -/
inductive Calls : List Obs → Prop
  | nil : Calls []
  | bare {r : ActRes} {c : List Obs} : Calls c → Calls (.res r :: c)
  | item {r : ActRes} {o : Obs} {c : List Obs} : appItem o = true → Calls c → Calls (.res r :: o :: c)

theorem Calls.append {a b : List Obs} (ha : Calls a) (hb : Calls b) : Calls (a ++ b) := by
  induction ha with
  | nil => exact hb
  | bare _ ih => exact .bare ih
  | item ho _ ih => exact .item ho ih

theorem Calls.atApp {c : List Obs} (h : Calls c) (e : Event) (t : List Obs) :
    atApp (c ++ .ev e :: t) = true := by
  cases h <;> rfl

theorem appItem_resTok {o : Obs} (h : appItem o = true) : o.resTok = false := by
  cases o <;> first | rfl | (simp [appItem, Obs.isWrite, Obs.sockCl] at h)

theorem Calls.twp {c : List Obs} (h : Calls c) (e : Event) : TokensWellPlaced (c ++ [.ev e]) = true := by
  induction h with
  | nil => rfl
  | @bare r c hc ih =>
    rw [List.cons_append, twp_res, Bool.and_eq_true]
    exact ⟨resOK_of_atApp (hc.atApp e []), ih⟩
  | @item r o c ho hc ih =>
    rw [List.cons_append, List.cons_append, twp_res, Bool.and_eq_true, twp_cons (appItem_resTok ho)]
    exact ⟨resOK_item ho (hc.atApp e []), ih⟩

def AM1 (s s' : Sys) : Prop := s'.trace = s.trace ∨ ∃ o, s'.trace = o :: s.trace ∧ appItem o = true

def RC (s s' : Sys) : Prop := ∃ c, s'.trace = c ++ s.trace ∧ Calls c

/-- a segment was appended whose tokens are well placed within the segment itself -/
def RL (s s' : Sys) : Prop := ∃ l, s'.trace = l ++ s.trace ∧ TokensWellPlaced l = true

theorem rc_po : PO RC where
  refl _ := ⟨[], rfl, .nil⟩
  trans := by
    rintro a b c ⟨l1, e1, h1⟩ ⟨l2, e2, h2⟩
    exact ⟨l2 ++ l1, by rw [e2, e1, List.append_assoc], h2.append h1⟩

theorem rl_po : PO RL where
  refl _ := ⟨[], rfl, rfl⟩
  trans := by
    rintro a b c ⟨l1, e1, h1⟩ ⟨l2, e2, h2⟩
    exact ⟨l2 ++ l1, by rw [e2, e1, List.append_assoc], twp_append h2 h1⟩

theorem rl_same {s s' : Sys} (h : s'.trace = s.trace) : RL s s' := ⟨[], h, rfl⟩

theorem rl_one {s s' : Sys} (o : Obs) (h : s'.trace = o :: s.trace) (ho : o.resTok = false) : RL s s' :=
  ⟨[o], h, by rw [twp_cons ho]; rfl⟩

theorem rl_of_am1 {s s' : Sys} (h : AM1 s s') : RL s s' := by
  rcases h with h | ⟨o, h, ho⟩
  · exact rl_same h
  · exact rl_one o h (appItem_resTok ho)

theorem am1_of_apiEff {s s' : Sys} (h : ApiEff s s') : AM1 s s' := by
  rcases h.trace with e | ⟨o, e, ho | rfl⟩
  · exact Or.inl e
  · exact Or.inr ⟨o, e, by unfold appItem; rw [ho]; rfl⟩
  · exact Or.inr ⟨_, e, rfl⟩

def Block (s s' : Sys) : Prop :=
  ∃ r, s'.trace = .res r :: s.trace ∨ ∃ o, s'.trace = .res r :: o :: s.trace ∧ appItem o = true

theorem block_logRes {m : M ActRes} (hm : ApiCall m) (s : Sys) :
    ∃ s', logRes m s = .ok () s' ∧ Block s s' := by
  obtain ⟨r, s1, e, eff⟩ := api_eff hm s
  refine ⟨{ s1 with trace := .res r :: s1.trace }, logRes_ok e, r, ?_⟩
  rcases am1_of_apiEff eff with h | ⟨o, h, ho⟩
  · exact Or.inl (by show Obs.res r :: s1.trace = _; rw [h])
  · exact Or.inr ⟨o, by show Obs.res r :: s1.trace = _; rw [h], ho⟩

theorem Block.rc {s s' : Sys} (h : Block s s') : RC s s' := by
  obtain ⟨r, h | ⟨o, h, ho⟩⟩ := h
  · exact ⟨[.res r], h, .bare .nil⟩
  · exact ⟨[.res r, o], h, .item ho .nil⟩

/-- **one application call = one call block** (or, for an abandonment, nothing and `GeneratorExit`) -/
theorem doAct_cases (a : Act) (s : Sys) :
    (∃ s', doAct a s = .ok () s' ∧ Block s s') ∨
    (∃ w, a = .abandon w ∧ doAct a s = .err .genExit { s with abandonedWith := w }) := by
  rcases doAct_api a with ⟨m, hm, e⟩ | ⟨w, ha, e⟩
  · rw [e]; exact Or.inl (block_logRes hm s)
  · rw [e]; exact Or.inr ⟨w, ha, rfl⟩

theorem rc_doAct (a : Act) : Spec RC (doAct a) := by
  intro s
  rcases doAct_cases a s with ⟨s', e, b⟩ | ⟨w, _, e⟩
  · rw [e]; exact b.rc
  · rw [e]; exact ⟨[], rfl, .nil⟩

theorem rc_doActs (as : List Act) : Spec RC (doActs as) :=
  spec_doActs rc_po as fun a _ => rc_doAct a

theorem yieldEv_calls (e : Event) (s : Sys) :
    ∃ c, (yieldEv e s).state.trace = c ++ .ev e :: s.trace ∧ Calls c := by
  rw [yieldEv_eq]
  exact rc_doActs _ (pushEv e s)

theorem rl_yieldEv (e : Event) : Spec RL (yieldEv e) := by
  intro s
  obtain ⟨c, h, hc⟩ := yieldEv_calls e s
  refine ⟨c ++ [.ev e], by rw [h]; simp, ?_⟩
  exact hc.twp e

theorem rl_closeSocket : Spec RL closeSocket :=
  spec_closeSocket rl_po (fun _ _ => rl_one .sockClose rfl rfl)

theorem rl_sendFrame (op : Nat) (pl : Bytes) (c : Option Bytes) : Spec RL (sendFrame op pl c) := by
  intro s
  obtain ⟨r, s', e, eff⟩ := apiEff_sendFrame op pl c s
  rw [e]; exact rl_of_am1 (am1_of_apiEff eff)

theorem rl_wsClose (c : Option Nat) (r : Arg) : Spec RL (wsClose c r) :=
  spec_wsClose rl_po c r (fun pl => rl_sendFrame _ pl none) (fun _ => rl_same rfl)

theorem rl_checkAutoPing : Spec RL checkAutoPing :=
  spec_checkAutoPing rl_po (fun _ _ _ => rl_same rfl) (rl_sendFrame _ _ _)

theorem rl_regular : Spec RL regular :=
  spec_regular rl_po (spec_checkPoll rl_po (fun _ => rl_same rfl) (rl_yieldEv _)) rl_checkAutoPing
    (spec_checkPingTimeout rl_po (rl_yieldEv _))

/-- `_on_event` (the automatic Pong is here): at most one entry, a write; no token -/
theorem w1_onEvent (e : Event) : Spec W1 (onEvent e) := by
  intro s
  cases e with
  | ping d =>
    exact onEvent_ping_elim (P := fun q => W1 s q.state) d s (fun _ => .inl rfl) (fun _ _ => .inl rfl)
      (fun _ _ _ => .inl rfl) (fun _ _ _ o ho => .inr ⟨o, rfl, ho.isWrite⟩)
  | _ => exact Or.inl rfl

theorem rl_onEvent (e : Event) : Spec RL (onEvent e) := fun s =>
  rl_of_am1 ((w1_onEvent e s).imp id fun ⟨o, h, ho⟩ => ⟨o, h, by unfold appItem; rw [ho]; rfl⟩)

theorem rl_onDisconnect : Spec RL onDisconnect :=
  spec_onDisconnect rl_po rl_closeSocket (fun _ => rl_same rfl)

theorem rl_feedYield (b : Bool) (e : Event) : Spec RL (feedYield b e) :=
  spec_feedYield rl_po b e (rl_onEvent e) (rl_yieldEv e) rl_regular rl_onDisconnect

theorem rl_tick (s : Sys) (dt : Nat) : RL s (tick s dt) := by
  by_cases hd : dt = 0
  · subst hd; exact rl_same rfl
  · rw [tick_pos s dt hd]; exact rl_one _ rfl rfl

theorem rl_write (d : Bytes) : Spec RL (write d none) :=
  spec_write rl_po d none fun _ o _ _ _ ho => rl_one o rfl (by rcases ho with rfl | rfl <;> rfl)

/-- the token relation holds of a `yield` only as a whole: a result token alone is not well placed -/
theorem rl_yields : Yields RL where
  toPO := rl_po
  silent := fun _ _ h => rl_same h.trace
  feedYield := rl_feedYield
  yieldEv := fun e _ => rl_yieldEv e
  regular := rl_regular
  wsClose := rl_wsClose
  closeSocket := rl_closeSocket
  closedSet := fun _ _ => rl_same rfl
  closeAcked := fun _ _ => rl_same rfl
  selClosed := fun _ _ => rl_one .selClose rfl rfl
  ticked := rl_tick

/-- **the trace of every connection has all its result tokens well placed** -/
theorem twp_runAll (cfg : Cfg) (react : React) (env : List EnvStep) :
    TokensWellPlaced (runAll cfg react env).trace = true := by
  obtain ⟨l, e, hl⟩ := rl_yields.runAll (fun s => rl_same rfl) rl_write (fun s => rl_one .incomplete rfl rfl) cfg react env
  rw [e]; exact twp_append hl rfl

theorem twp_suffix (pre : List Obs) {t : List Obs} (h : TokensWellPlaced (pre ++ t) = true) :
    TokensWellPlaced t = true := by
  induction pre with
  | nil => exact h
  | cons o pre ih =>
    cases ho : o.resTok with
    | false => rw [List.cons_append, twp_cons ho] at h; exact ih h
    | true =>
      cases o <;> first | cases ho | skip
      rw [List.cons_append, twp_res, Bool.and_eq_true] at h
      exact ih h.2

theorem twp_at_token {pre : List Obs} {r : ActRes} {post : List Obs}
    (h : TokensWellPlaced (pre ++ .res r :: post) = true) : resOK post = true := by
  have := twp_suffix pre h
  rw [twp_res, Bool.and_eq_true] at this
  exact this.1

/-- **whatever satisfies `RL` never puts a token directly on top of the trace it started from** -/
theorem RL.no_token_on_top {s s' : Sys} (h : RL s s') (pre : List Obs) (r : ActRes)
    (e : s'.trace = pre ++ .res r :: s.trace) : False := by
  obtain ⟨l, el, hl⟩ := h
  have hl' : l = pre ++ [.res r] := by
    apply List.append_cancel_right (bs := s.trace)
    rw [← el, e]; simp
  subst hl'
  have := twp_suffix pre hl
  simp [TokensWellPlaced, resOK] at this

/-- `_on_event` returned: what `feedYield` appends is the event directly on top of what
    `_on_event` left (for a Ping: the Pong), then call blocks and library entries -/
theorem feedYield_shape (inTry : Bool) (e : Event) (s s1 : Sys) (h : onEvent e s = .ok () s1) :
    ∃ l, (feedYield inTry e s).state.trace = l ++ .ev e :: s1.trace ∧ TokensWellPlaced (l ++ [.ev e]) = true := by
  obtain ⟨c, hc, cc⟩ := yieldEv_calls e s1
  have h2 : RL (yieldEv e s1).state (feedYield inTry e s).state := by
    unfold feedYield
    refine rl_po.trans ?_ (tryC_state_rel rl_po (feedYield_handler_rel rl_po rl_onDisconnect inTry) s)
    rw [bind_ok h]
    exact bind_state_rel rl_po (fun _ => rl_regular) s1
  obtain ⟨l2, e2, t2⟩ := h2
  refine ⟨l2 ++ c, by rw [e2, hc, List.append_assoc], ?_⟩
  rw [List.append_assoc]
  exact twp_append t2 (cc.twp e)

open Lomond.Core.PongRun in
/-- nothing was ever handed to `sendall`, or the oldest write of the trace is the upgrade request
    (written or failed) and below it there are only `Connecting` and the tokens of the calls made
    there (no write, no Ping event, no `sockClose`) -/
def ReqFirst (req : Bytes) (tr : List Obs) : Prop :=
  (∀ o ∈ tr, o.isWrite = false ∧ o.pingEv = false) ∨
  ∃ newer o older, tr = newer ++ o :: older ∧ (o = .wr req ∨ o = .wrFail req) ∧
    ∀ x ∈ older, PongRun.calm x = true

theorem ReqFirst.cons {req : Bytes} {tr : List Obs} (o : Obs) (ho : o.isWrite = false) (hp : o.pingEv = false)
    (h : ReqFirst req tr) : ReqFirst req (o :: tr) := by
  rcases h with h | ⟨n, x, old, e, hx, hc⟩
  · exact Or.inl (List.forall_mem_cons.mpr ⟨⟨ho, hp⟩, h⟩)
  · exact Or.inr ⟨o :: n, x, old, by rw [e]; rfl, hx, hc⟩

open Lomond.Core.PongRun in
theorem reqFirst_run (cfg : Cfg) (react : React) (env : List EnvStep) :
    ReqFirst cfg.request (run { cfg := cfg, react := react, env := env }).state.trace :=
  run_from_request (P := fun s => ReqFirst cfg.request s.trace) rl_yields.around rl_yields.loop cfg react env
    (fun s h => Or.inl (fun o ho => and_not_facts (h o ho)))
    (fun s1 o s' _ hc hcfg _ hw hR => by
      obtain ⟨l, el, _⟩ := hR
      refine Or.inr ⟨l, o, s1.trace, el, ?_, hc⟩
      rw [← hcfg]
      cases hw with
      | fail _ _ => exact Or.inr rfl
      | wr _ => exact Or.inl rfl)

theorem reqFirst_runAll (cfg : Cfg) (react : React) (env : List EnvStep) :
    ReqFirst cfg.request (runAll cfg react env).trace :=
  run_runAll (Monitor.pres_po fun s => ReqFirst cfg.request s.trace)
    (spec_closeSocket (Monitor.pres_po _) fun _ _ hs => hs.cons .sockClose rfl rfl)
    (fun _ hs => hs.cons .incomplete rfl rfl) cfg react env (fun _ => reqFirst_run cfg react env)
    (Or.inl (fun _ ho => nomatch ho))

theorem ReqFirst.ping_above {req : Bytes} {tr : List Obs} (h : ReqFirst req tr)
    {pre : List Obs} {d : Bytes} {post : List Obs} (e : tr = pre ++ .ev (.ping d) :: post) :
    ∃ mid o older, post = mid ++ o :: older ∧ (o = .wr req ∨ o = .wrFail req) ∧
      ∀ x ∈ older, PongRun.calm x = true := by
  rcases h with h | ⟨n, o, old, e2, ho, hc⟩
  · have := (h (.ev (.ping d)) (by rw [e]; simp)).2
    cases this
  · -- the Ping event is not in `o :: old`, hence in `n`
    have key : ∀ (n pre : List Obs), n ++ o :: old = pre ++ .ev (.ping d) :: post →
        ∃ mid, post = mid ++ o :: old := by
      intro n
      induction n with
      | nil =>
        intro pre e3
        exfalso
        have hm : Obs.ev (.ping d) ∈ o :: old := by rw [show o :: old = [] ++ o :: old from rfl, e3]; simp
        rcases List.mem_cons.mp hm with h1 | h1
        · rcases ho with rfl | rfl <;> cases h1
        · have := (PongRun.calm_facts (hc _ h1)).2.1; cases this
      | cons x n ih =>
        intro pre e3
        cases pre with
        | nil =>
          simp only [List.nil_append, List.cons_append, List.cons.injEq] at e3
          exact ⟨n, e3.2.symm⟩
        | cons y pre =>
          simp only [List.cons_append, List.cons.injEq] at e3
          exact ih pre e3.2
    obtain ⟨mid, hm⟩ := key n pre (by rw [← e2, e])
    exact ⟨mid, o, old, hm, ho, hc⟩

theorem resOK_write {o : Obs} {t : List Obs} (ho : o.isWrite = true) (h : resOK (o :: t) = true) :
    atApp t = true := by
  cases o
  case wr => simp only [resOK, Bool.and_eq_true] at h; exact h.2
  case wrz => simp only [resOK, Bool.and_eq_true] at h; exact h.2
  case wrFail => simp only [resOK, Bool.and_eq_true] at h; exact h.2
  all_goals cases ho

theorem atApp_cut (l : List Obs) (e : Event) (t : List Obs) (h : atApp (l ++ .ev e :: t) = true) :
    atApp (l ++ [.ev e]) = true := by
  cases l with
  | nil => rfl
  | cons o l => cases o <;> first | rfl | cases h

theorem resOK_cut (l : List Obs) (e : Event) (t : List Obs) (h : resOK (l ++ .ev e :: t) = true) :
    resOK (l ++ [.ev e]) = true := by
  cases l with
  | nil => rfl
  | cons o l =>
    cases o
    case ev => rfl
    case res => rfl
    all_goals
      simp only [List.cons_append, resOK, Bool.and_eq_true] at h
      simp only [List.cons_append, resOK, Bool.and_eq_true]
      exact ⟨h.1, atApp_cut l e t h.2⟩

/-- the part of a well-placed trace from an event upwards is well placed on its own: every token
    above the event is attached to that event or to a later one -/
theorem twp_cut (l : List Obs) (e : Event) (t : List Obs) (h : TokensWellPlaced (l ++ .ev e :: t) = true) :
    TokensWellPlaced (l ++ [.ev e]) = true := by
  induction l with
  | nil => rfl
  | cons o l ih =>
    cases ho : o.resTok with
    | false =>
      rw [List.cons_append, twp_cons ho] at h
      rw [List.cons_append, twp_cons ho]; exact ih h
    | true =>
      cases o <;> first | cases ho | skip
      rw [List.cons_append, twp_res, Bool.and_eq_true] at h
      rw [List.cons_append, twp_res, Bool.and_eq_true]
      exact ⟨resOK_cut l e t h.1, ih h.2⟩

theorem w1_checkAutoPing : Spec W1 checkAutoPing := by
  intro s
  unfold checkAutoPing
  rw [getS_bind]
  split
  · rw [modS_bind]
    obtain ⟨r, s2, e, a⟩ := w1_sendFrame Gen.opPing [] none
      { s with nextPing := ceilDiv (sessionTime s) s.cfg.pingRate * s.cfg.pingRate }
    rw [bind_ok e]
    exact a
  · exact Or.inl rfl

end Lomond.Core.PongTokens
