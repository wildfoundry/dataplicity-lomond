/-
  The environment script (`Sys.env`) is read exactly once, by `runLoop`; every other function of
  the core model is independent of it.  `EnvInd m`: running `m` from a state with another script
  gives the same result with that other script in it.  Needed to compare two whole connections
  (`runAll`) whose scripts differ (C02, session level).  This is `Monitor.EnvIrrel`
  (Proofs/EnvIrrel.lean, where it is proved function by function) in the notation of C02.
-/
import Lomond.Proofs.EnvIrrel
namespace Lomond.Core.SegLoop
open Lomond Lomond.Core

def envTo (s : Sys) (e : List EnvStep) : Sys := { s with env := e }

def _root_.Lomond.Core.Res.mapEnv (e : List EnvStep) : Res α → Res α
  | .ok a s => .ok a (envTo s e)
  | .err x s => .err x (envTo s e)

def EnvInd (m : M α) : Prop := ∀ s e, m (envTo s e) = (m s).mapEnv e

theorem envTo_cfg (s : Sys) (e : List EnvStep) : (envTo s e).cfg = s.cfg := rfl
theorem envTo_react (s : Sys) (e : List EnvStep) : (envTo s e).react = s.react := rfl
theorem envTo_sockOpen (s : Sys) (e : List EnvStep) : (envTo s e).sockOpen = s.sockOpen := rfl
theorem envTo_selOpen (s : Sys) (e : List EnvStep) : (envTo s e).selOpen = s.selOpen := rfl
theorem envTo_ready (s : Sys) (e : List EnvStep) : (envTo s e).ready = s.ready := rfl
theorem envTo_pollStart (s : Sys) (e : List EnvStep) : (envTo s e).pollStart = s.pollStart := rfl
theorem envTo_nextPing (s : Sys) (e : List EnvStep) : (envTo s e).nextPing = s.nextPing := rfl
theorem envTo_lastPong (s : Sys) (e : List EnvStep) : (envTo s e).lastPong = s.lastPong := rfl
theorem envTo_startTime (s : Sys) (e : List EnvStep) : (envTo s e).startTime = s.startTime := rfl
theorem envTo_now (s : Sys) (e : List EnvStep) : (envTo s e).now = s.now := rfl
theorem envTo_closing (s : Sys) (e : List EnvStep) : (envTo s e).closing = s.closing := rfl
theorem envTo_closed (s : Sys) (e : List EnvStep) : (envTo s e).closed = s.closed := rfl
theorem envTo_sentCloseTime (s : Sys) (e : List EnvStep) : (envTo s e).sentCloseTime = s.sentCloseTime := rfl
theorem envTo_compression (s : Sys) (e : List EnvStep) : (envTo s e).compression = s.compression := rfl
theorem envTo_parsedResponse (s : Sys) (e : List EnvStep) : (envTo s e).parsedResponse = s.parsedResponse := rfl
theorem envTo_frames (s : Sys) (e : List EnvStep) : (envTo s e).frames = s.frames := rfl
theorem envTo_decompress (s : Sys) (e : List EnvStep) : (envTo s e).decompress = s.decompress := rfl
theorem envTo_inflHist (s : Sys) (e : List EnvStep) : (envTo s e).inflHist = s.inflHist := rfl
theorem envTo_inflOut (s : Sys) (e : List EnvStep) : (envTo s e).inflOut = s.inflOut := rfl
theorem envTo_p (s : Sys) (e : List EnvStep) : (envTo s e).p = s.p := rfl
theorem envTo_keyCtr (s : Sys) (e : List EnvStep) : (envTo s e).keyCtr = s.keyCtr := rfl
theorem envTo_writeCtr (s : Sys) (e : List EnvStep) : (envTo s e).writeCtr = s.writeCtr := rfl
theorem envTo_hist (s : Sys) (e : List EnvStep) : (envTo s e).hist = s.hist := rfl
theorem envTo_abandonedWith (s : Sys) (e : List EnvStep) : (envTo s e).abandonedWith = s.abandonedWith := rfl
theorem envTo_trace (s : Sys) (e : List EnvStep) : (envTo s e).trace = s.trace := rfl
theorem envTo_env (s : Sys) (e : List EnvStep) : (envTo s e).env = e := rfl

theorem mapEnv_ok (e : List EnvStep) (a : α) (s : Sys) : (Res.ok a s).mapEnv e = .ok a (envTo s e) := rfl
theorem mapEnv_err (e : List EnvStep) (x : Exn) (s : Sys) :
    (Res.err x s : Res α).mapEnv e = .err x (envTo s e) := rfl

theorem mapEnv_eq (e : List EnvStep) (r : Res α) : r.mapEnv e = Monitor.Res.mapS (Monitor.setEnv e) r := by
  cases r <;> rfl

theorem EnvInd.of {m : M α} (h : Monitor.EnvIrrel m) : EnvInd m :=
  fun s e => (h e s).trans (mapEnv_eq e (m s)).symm

def setP (s : Sys) (p' : PState) : Sys := { s with p := p' }

theorem setP_envTo (s : Sys) (e : List EnvStep) (p' : PState) : setP (envTo s e) p' = envTo (setP s p') e := rfl

end Lomond.Core.SegLoop
