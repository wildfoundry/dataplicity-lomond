/-
  The general socket (`Model/ThreadsN.lean`): the shape of the wire.  At every moment the wire is a
  concatenation of groups of chunks — each group either a whole frame (all chunks of one `sendall`)
  or the torn head of a frame whose `sendall` was made to fail, at most one group per call, the
  groups of a thread in call order — followed by the chunks the lock holder has written so far of the
  frame it is writing.
-/
import Lomond.Proofs.ThreadsN

namespace Lomond.Threads
open Lomond

theorem flat_append (a b : List Group) : flat (a ++ b) = flat a ++ flat b := by
  simp [flat]

theorem flat_single (g : Group) : flat [g] = g.chunks := by
  simp [flat]

theorem sentOf_append (a b : List Chunk) (t : Tid) (i : Nat) : sentOf (a ++ b) t i = sentOf a t i + sentOf b t i := by
  simp [sentOf, List.filter_append]

theorem sentOf_replicate (k : Nat) (t : Tid) (i : Nat) (b : Bool) (d : FrameDesc) :
    sentOf (List.replicate k ⟨t, i, b, d⟩) t i = k := by
  induction k with
  | zero => rfl
  | succ k ih =>
    simp only [List.replicate_succ, sentOf, List.filter_cons] at ih ⊢
    simp

theorem sentOf_chunks_other (g : Group) (t : Tid) (i : Nat) (h : ¬ (g.tid = t ∧ g.idx = i)) :
    sentOf g.chunks t i = 0 := by
  unfold sentOf Group.chunks
  rw [List.length_eq_zero_iff, List.filter_eq_nil_iff]
  intro x hx
  simp only [List.mem_append, List.mem_replicate] at hx
  have hx' : x.tid = g.tid ∧ x.idx = g.idx := by
    rcases hx with ⟨_, rfl⟩ | hx
    · exact ⟨rfl, rfl⟩
    · split at hx
      · simp only [List.mem_singleton] at hx; subst hx; exact ⟨rfl, rfl⟩
      · cases hx
  simp only [Bool.and_eq_true, decide_eq_true_eq, hx'.1, hx'.2]
  exact h

theorem sentOf_flat_zero (gs : List Group) (t : Tid) (i : Nat) (h : ∀ g ∈ gs, ¬ (g.tid = t ∧ g.idx = i)) :
    sentOf (flat gs) t i = 0 := by
  induction gs with
  | nil => rfl
  | cons g r ih =>
    have : flat (g :: r) = g.chunks ++ flat r := by simp [flat]
    rw [this, sentOf_append, sentOf_chunks_other g t i (h g (List.mem_cons_self ..)),
      ih (fun x hx => h x (List.mem_cons_of_mem _ hx))]

def gidx (gs : List Group) (t : Tid) : List Nat := (gs.filter (fun g => g.tid = t)).map (·.idx)

theorem gidx_append_same (gs : List Group) (g : Group) : gidx (gs ++ [g]) g.tid = gidx gs g.tid ++ [g.idx] := by
  simp [gidx, List.filter_append]

theorem gidx_append_other (gs : List Group) (g : Group) (t : Tid) (h : g.tid ≠ t) : gidx (gs ++ [g]) t = gidx gs t := by
  simp [gidx, List.filter_append, h]

theorem mem_gidx {gs : List Group} {t : Tid} {i : Nat} (h : i ∈ gidx gs t) : ∃ g ∈ gs, g.tid = t ∧ g.idx = i := by
  simp only [gidx, List.mem_map, List.mem_filter, decide_eq_true_eq] at h
  obtain ⟨g, ⟨hg, ht⟩, hi⟩ := h
  exact ⟨g, hg, ht, hi⟩

theorem compile_atW (v : Variant) (cfg : Cfg) (call : Call) : atW (compile v cfg call) = false :=
  compile_start (P := fun r => atW r = false) v cfg call fun st _ h => by cases st <;> first | rfl | cases h

theorem alt_atW (v : Variant) (a : Alt) : atW (altSteps v a) = false := by
  cases a <;> simp only [altSteps, closeSocketProg] <;> (try split) <;> simp [atW]

theorem atW_afterClose (r : List Step) (d : disc r = true) : atW (afterClose r) = false := by
  cases h : atW (afterClose r) with
  | false => rfl
  | true =>
    have := atW_holds (disc_suffix (afterClose_suffix r) d) h
    rw [holds_afterClose r d] at this; cases this

theorem moves_atW {v : Variant} {st : Step} {r r' : List Step} (m : Moves v st r r') (d : disc (st :: r) = true)
    (hnw : isWrite st = false) (h : atW r' = true) : ∃ f r2, r' = .write1 f :: r2 := by
  cases hr' : r' with
  | nil => rw [hr'] at h; cases h
  | cons a r2 =>
    rw [hr'] at h
    cases a <;> simp only [atW] at h <;> try cases h
    · exact ⟨_, r2, rfl⟩
    · have : headW2 r' = true := by rw [hr']; rfl
      obtain ⟨g, hg, _⟩ := moves_headW2 m d this
      subst hg; cases hnw

theorem atW_unique {v : Variant} {cfg : Cfg} {s : State} (L : LockInv v cfg s) {t u : Tid}
    (ht : holds (view v cfg (s.th t)) = true) (hu : atW (view v cfg (s.th u)) = true) : u = t :=
  holder_unique L ht (atW_holds (L.disc u) hu)

theorem atW_of_rest {v : Variant} {cfg : Cfg} {th : Thread} {c : Cur} {f : FrameSrc} {r : List Step}
    (h : th.current v cfg = some c) (hr : c.rest = .write1 f :: r ∨ c.rest = .write2 f :: r) :
    atW (view v cfg th) = true := by
  rw [view_of_current h]; rcases hr with e | e <;> rw [e] <;> rfl

structure Shape (env : Env) (v : Variant) (cfg : Cfg) (s : State) (gs : List Group) : Prop where
  ok : ∀ g ∈ gs, g.whole env ∨ g.torn env
  sorted : ∀ t, (gidx gs t).Pairwise (· < ·)
  bound : ∀ g ∈ gs, g.idx < (s.th g.tid).pc ∨
    (g.idx = (s.th g.tid).pc ∧ noWrite (view v cfg (s.th g.tid)) = true)
  mid : ∀ t c f r, (s.th t).current v cfg = some c → (c.rest = .write1 f :: r ∨ c.rest = .write2 f :: r) →
    ∃ k, s.sh.wire = flat gs ++ List.replicate k ⟨t, c.idx, false, descOf f c⟩ ∧ k ≤ env.more t c.idx ∧
      (c.rest = .write2 f :: r → k = env.more t c.idx) ∧
      (c.rest = .write1 f :: r → k < env.more t c.idx ∨ k = 0)
  quiet : (∀ t, atW (view v cfg (s.th t)) = false) → s.sh.wire = flat gs
  /-- the socket is shut under the write lock: on a shut socket nobody has written a chunk of a frame in progress -/
  shut : s.sh.sockShut = true → ∀ t c f r, (s.th t).current v cfg = some c →
    (c.rest = .write1 f :: r ∨ c.rest = .write2 f :: r) → s.sh.wire = flat gs

theorem shape_fresh (env : Env) (v : Variant) (cfg : Cfg) {s : State} (F : Fresh s) : Shape env v cfg s [] := by
  refine ⟨fun g h => (by cases h), fun t => (by simp [gidx]), fun g h => (by cases h), ?_, fun _ => F.wire,
    fun _ _ _ _ _ _ _ => F.wire⟩
  intro t c f r hc hr
  have := atW_of_rest hc hr
  rw [F.at v cfg atW (compile_atW v cfg) t] at this; cases this

theorem noWrite_head_false {st : Step} {r : List Step} (h : atW (st :: r) = true) : noWrite (st :: r) = false := by
  cases st <;> simp only [atW] at h <;> first | (cases h; done) | simp [noWrite, isWrite]

theorem shape_earlier {env : Env} {v : Variant} {cfg : Cfg} {s : State} {gs : List Group}
    (S : Shape env v cfg s gs) (M : MsgInv v cfg s) {t : Tid} {c : Cur}
    (hc : (s.th t).current v cfg = some c) (hw : atW c.rest = true) :
    ∀ g ∈ gs, g.tid = t → g.idx < c.idx := by
  intro g hg ht
  have hidx := (cur_facts M hc).1
  rcases S.bound g hg with h | ⟨_, h⟩
  · rw [ht] at h; omega
  · rw [ht, view_of_current hc] at h
    cases hr : c.rest with
    | nil => rw [hr] at hw; cases hw
    | cons st r => rw [hr] at hw h; rw [noWrite_head_false hw] at h; cases h

theorem view_settle_ne (v : Variant) (cfg : Cfg) (th : Thread) (c' : Cur) (hh : th.halted = false)
    (h : c'.rest ≠ []) : view v cfg (settle th c') = c'.rest := by
  rcases settle_cases v cfg th c' hh with ⟨_, e, _⟩ | ⟨e, _⟩
  · exact e
  · exact absurd e h

theorem shape_step_plain (env : Env) (v : Variant) (cfg : Cfg) (s : State) (t : Tid) (gs : List Group)
    (B : BaseN v cfg s) (S : Shape env v cfg s gs) (hnw : atW (view v cfg (s.th t)) = false) :
    Shape env v cfg (step v cfg s t) gs := by
  have L' : LockInv v cfg (step v cfg s t) := lockInv_step v cfg s t B.L
  rcases step_cases v cfg s t with e | ⟨c, st, r, hc, hr, hb, hh, hv, e⟩
  · rw [e]; exact S
  · rw [e] at L' ⊢
    have d : disc (st :: r) = true := hv ▸ B.L.disc t
    have hst : isWrite st = false := by
      rw [hv] at hnw; cases st <;> first | rfl | cases hnw
    have m := exec_moves v t st r s.sh c
    have hw := exec_wire_not_write v t st r s.sh c hst
    have hsh := exec_shut v t st r s.sh c
    generalize exec v t st r s.sh c = p at m hw L' hsh
    -- when `t` newly stands before a write, nobody stood before a write
    have tnew : ∀ cu f2 r2, ((setTh s t (settle (s.th t) p.2) p.1).th t).current v cfg = some cu →
        (cu.rest = .write1 f2 :: r2 ∨ cu.rest = .write2 f2 :: r2) →
        (∀ w, atW (view v cfg (s.th w)) = false) ∧ ∃ f3 r3, cu.rest = .write1 f3 :: r3 := by
      intro cu f2 r2 hcu hru
      have hat := atW_of_rest hcu hru
      rw [setTh_same] at hcu hat
      rcases settle_cases v cfg (s.th t) p.2 hh with ⟨hne, e2, _⟩ | ⟨_, hcn⟩
      · rw [current_settle v cfg _ _ hh hne] at hcu
        cases hcu
        rw [e2] at hat
        refine ⟨?_, moves_atW m d hst hat⟩
        intro w
        by_cases hwu : w = t
        · subst hwu; exact hnw
        · cases hx : atW (view v cfg (s.th w)) with
          | false => rfl
          | true =>
            have h1 : holds (view v cfg ((setTh s t (settle (s.th t) p.2) p.1).th t)) = true := by
              rw [setTh_same, e2]; exact atW_holds (by rw [← e2]; have := L'.disc t; rwa [setTh_same] at this) hat
            have h2 : atW (view v cfg ((setTh s t (settle (s.th t) p.2) p.1).th w)) = true := by
              rw [setTh_other _ _ _ _ _ hwu]; exact hx
            exact absurd (atW_unique L' h1 h2) hwu
      · rw [fresh_eq v cfg atW (compile_atW v cfg) _ hcn] at hat; cases hat
    refine ⟨S.ok, S.sorted, ?_, ?_, ?_, ?_⟩
    · intro g hg
      by_cases hu : g.tid = t
      · rw [hu, setTh_same]
        have hb := S.bound g hg
        rw [hu, hv] at hb
        rcases settle_cases v cfg (s.th t) p.2 hh with ⟨hne, e2, _⟩ | ⟨he, _⟩
        · rw [settle_pc_same _ _ hne, e2]
          rcases hb with h | ⟨h1, h2⟩
          · exact Or.inl h
          · simp only [noWrite, List.all_cons, Bool.and_eq_true] at h2
            exact Or.inr ⟨h1, moves_noWrite m h2.2⟩
        · rw [settle_pc_next _ _ he]
          rcases hb with h | ⟨h1, _⟩ <;> left <;> omega
      · rw [setTh_other _ _ _ _ _ hu]; exact S.bound g hg
    · intro u cu f2 r2 hcu hru
      rw [setTh_sh, hw]
      by_cases hu : u = t
      · subst hu
        obtain ⟨hnone, f3, r3, e3⟩ := tnew cu f2 r2 hcu hru
        refine ⟨0, by rw [S.quiet hnone]; simp, Nat.zero_le _, ?_, fun _ => Or.inr rfl⟩
        intro h2; rw [e3] at h2; cases h2
      · rw [setTh_other _ _ _ _ _ hu] at hcu
        exact S.mid u cu f2 r2 hcu hru
    · intro hall
      rw [setTh_sh, hw]
      apply S.quiet
      intro w
      by_cases hwt : w = t
      · subst hwt; exact hnw
      · have := hall w
        rwa [setTh_other _ _ _ _ _ hwt] at this
    · intro hs u cu f2 r2 hcu hru
      rw [setTh_sh] at hs ⊢
      rw [hw]
      by_cases hu : u = t
      · subst hu
        exact S.quiet (tnew cu f2 r2 hcu hru).1
      · rw [setTh_other _ _ _ _ _ hu] at hcu
        cases hsx : s.sh.sockShut with
        | true => exact S.shut hsx u cu f2 r2 hcu hru
        | false =>
          rw [hsh, hsx] at hs
          have : st = .sockClose := by simpa using hs
          subst this
          have h1 : holds (view v cfg (s.th t)) = true := by rw [hv]; exact disc_sockClose d
          exact absurd (atW_unique B.L h1 (atW_of_rest hcu hru)) hu

theorem writer_facts {env : Env} {v : Variant} {cfg : Cfg} {s : State} {gs : List Group} {t : Tid} {c : Cur}
    (B : BaseN v cfg s) (S : Shape env v cfg s gs) (hc : (s.th t).current v cfg = some c)
    (hw : atW c.rest = true) :
    (s.th t).halted = false ∧ c.idx = (s.th t).pc ∧ (∀ g ∈ gs, g.tid = t → g.idx < c.idx) ∧
    (∀ u, u ≠ t → atW (view v cfg (s.th u)) = false) := by
  refine ⟨current_not_halted hc, (cur_facts B.M hc).1, shape_earlier S B.M hc hw, ?_⟩
  intro u hu
  cases hx : atW (view v cfg (s.th u)) with
  | false => rfl
  | true =>
    have ht : holds (view v cfg (s.th t)) = true :=
      atW_holds (B.L.disc t) (by rw [view_of_current hc]; exact hw)
    exact absurd (atW_unique B.L ht hx) hu

/-- the write step that ends a group: the last chunk, or the failure of the `sendall` -/
theorem shape_close (env : Env) (v : Variant) (cfg : Cfg) (s : State) (t : Tid) (gs : List Group) (c : Cur)
    (p : Shared × Cur) (g : Group) (B : BaseN v cfg s) (S : Shape env v cfg s gs)
    (hc : (s.th t).current v cfg = some c) (hw : atW c.rest = true)
    (hne : p.2.rest ≠ []) (hnw : noWrite p.2.rest = true)
    (hgt : g.tid = t) (hgi : g.idx = c.idx) (hgok : g.whole env ∨ g.torn env)
    (hwire : p.1.wire = flat (gs ++ [g])) :
    Shape env v cfg (setTh s t (settle (s.th t) p.2) p.1) (gs ++ [g]) := by
  obtain ⟨hh, hidx, hearlier, hothers⟩ := writer_facts B S hc hw
  have hview : view v cfg (settle (s.th t) p.2) = p.2.rest := view_settle_ne v cfg _ _ hh hne
  have hpc : (settle (s.th t) p.2).pc = (s.th t).pc := settle_pc_same _ _ hne
  have hnone : ∀ u, atW (view v cfg ((setTh s t (settle (s.th t) p.2) p.1).th u)) = false := by
    intro u
    by_cases hu : u = t
    · subst hu; rw [setTh_same, hview]; exact atW_noWrite hnw
    · rw [setTh_other _ _ _ _ _ hu]; exact hothers u hu
  refine ⟨?_, ?_, ?_, ?_, fun _ => by rw [setTh_sh]; exact hwire, ?_⟩
  rotate_right
  · intro _ u cu f2 r2 hcu hru
    have := atW_of_rest hcu hru
    rw [hnone u] at this; cases this
  · intro g' hg'
    rcases List.mem_append.mp hg' with h | h
    · exact S.ok g' h
    · simp only [List.mem_singleton] at h; subst h; exact hgok
  · intro u
    by_cases hu : u = t
    · subst hu
      rw [← hgt, gidx_append_same, List.pairwise_append]
      refine ⟨S.sorted _, by simp, ?_⟩
      intro j hj k hk
      simp only [List.mem_singleton] at hk; subst hk
      obtain ⟨g', hg', h1, h2⟩ := mem_gidx hj
      have := hearlier g' hg' (h1.trans hgt)
      omega
    · rw [gidx_append_other _ _ _ (by rw [hgt]; exact Ne.symm hu)]; exact S.sorted u
  · intro g' hg'
    rcases List.mem_append.mp hg' with h | h
    · by_cases hu : g'.tid = t
      · rw [hu, setTh_same, hpc]
        have := hearlier g' h hu
        left; omega
      · rw [setTh_other _ _ _ _ _ hu]; exact S.bound g' h
    · simp only [List.mem_singleton] at h; subst h
      rw [hgt, setTh_same, hpc, hview]
      exact Or.inr ⟨by omega, hnw⟩
  · intro u cu f2 r2 hcu hru
    have := atW_of_rest hcu hru
    rw [hnone u] at this; cases this

/-- the write step that fails before the first chunk of the frame on a shut socket: no group is added -/
theorem shape_abort (env : Env) (v : Variant) (cfg : Cfg) (s : State) (t : Tid) (gs : List Group) (c : Cur)
    (p : Shared × Cur) (B : BaseN v cfg s) (S : Shape env v cfg s gs)
    (hc : (s.th t).current v cfg = some c) (hw : atW c.rest = true)
    (hne : p.2.rest ≠ []) (hnw : noWrite p.2.rest = true) (hwire : p.1.wire = flat gs) :
    Shape env v cfg (setTh s t (settle (s.th t) p.2) p.1) gs := by
  obtain ⟨hh, hidx, hearlier, hothers⟩ := writer_facts B S hc hw
  have hview : view v cfg (settle (s.th t) p.2) = p.2.rest := view_settle_ne v cfg _ _ hh hne
  have hpc : (settle (s.th t) p.2).pc = (s.th t).pc := settle_pc_same _ _ hne
  have hnone : ∀ u, atW (view v cfg ((setTh s t (settle (s.th t) p.2) p.1).th u)) = false := by
    intro u
    by_cases hu : u = t
    · subst hu; rw [setTh_same, hview]; exact atW_noWrite hnw
    · rw [setTh_other _ _ _ _ _ hu]; exact hothers u hu
  refine ⟨S.ok, S.sorted, ?_, ?_, fun _ => by rw [setTh_sh]; exact hwire, ?_⟩
  · intro g' h
    by_cases hu : g'.tid = t
    · rw [hu, setTh_same, hpc]
      have := hearlier g' h hu
      left; omega
    · rw [setTh_other _ _ _ _ _ hu]; exact S.bound g' h
  · intro u cu f2 r2 hcu hru
    have := atW_of_rest hcu hru
    rw [hnone u] at this; cases this
  · intro _ u cu f2 r2 hcu hru
    have := atW_of_rest hcu hru
    rw [hnone u] at this; cases this

/-- the write step after which the thread still stands before a write of the same frame -/
theorem shape_cont (env : Env) (v : Variant) (cfg : Cfg) (s : State) (t : Tid) (gs : List Group) (c : Cur)
    (p : Shared × Cur) (f : FrameSrc) (r' : List Step) (k' : Nat) (B : BaseN v cfg s) (S : Shape env v cfg s gs)
    (hc : (s.th t).current v cfg = some c) (hw : atW c.rest = true)
    (hrest : p.2.rest = .write1 f :: r' ∨ p.2.rest = .write2 f :: r') (hi : p.2.idx = c.idx)
    (hwire : p.1.wire = flat gs ++ List.replicate k' ⟨t, c.idx, false, descOf f p.2⟩)
    (hk : k' ≤ env.more t c.idx) (hk2 : p.2.rest = .write2 f :: r' → k' = env.more t c.idx)
    (hk1 : p.2.rest = .write1 f :: r' → k' < env.more t c.idx ∨ k' = 0) (hns : p.1.sockShut = false) :
    Shape env v cfg (setTh s t (settle (s.th t) p.2) p.1) gs := by
  obtain ⟨hh, hidx, hearlier, hothers⟩ := writer_facts B S hc hw
  have hne : p.2.rest ≠ [] := by rcases hrest with e | e <;> rw [e] <;> simp
  have hview : view v cfg (settle (s.th t) p.2) = p.2.rest := view_settle_ne v cfg _ _ hh hne
  have hpc : (settle (s.th t) p.2).pc = (s.th t).pc := settle_pc_same _ _ hne
  have hatw : atW p.2.rest = true := by rcases hrest with e | e <;> rw [e] <;> rfl
  refine ⟨S.ok, S.sorted, ?_, ?_, ?_, fun hs => by rw [setTh_sh, hns] at hs; cases hs⟩
  · intro g' h
    by_cases hu : g'.tid = t
    · rw [hu, setTh_same, hpc]
      have := hearlier g' h hu
      left; omega
    · rw [setTh_other _ _ _ _ _ hu]; exact S.bound g' h
  · intro u cu f2 r2 hcu hru
    by_cases hu : u = t
    · subst hu
      rw [setTh_same, current_settle v cfg _ _ hh hne] at hcu
      cases hcu
      rw [setTh_sh, hi]
      rcases hrest with e | e <;> rcases hru with e2 | e2 <;> rw [e] at e2 <;> cases e2
      · exact ⟨k', hwire, hk, fun h => (by rw [e] at h; cases h), fun _ => hk1 e⟩
      · exact ⟨k', hwire, hk, fun _ => hk2 e, fun h => (by rw [e] at h; cases h)⟩
    · have := atW_of_rest hcu hru
      rw [setTh_other _ _ _ _ _ hu, hothers u hu] at this; cases this
  · intro hall
    have := hall t
    rw [setTh_same, hview, hatw] at this; cases this

theorem shape_stepN (env : Env) (v : Variant) (cfg : Cfg) (s : State) (t : Tid) (gs : List Group)
    (B : BaseN v cfg s) (S : Shape env v cfg s gs) : ∃ gs', Shape env v cfg (stepN env v cfg s t) gs' := by
  rcases stepN_split env v cfg s t with ⟨hnw, e⟩ | ⟨c, st, r, p, hc, hr, hwst, hv, o, e⟩
  · rw [e]; exact ⟨gs, shape_step_plain env v cfg s t gs B S hnw⟩
  · rw [e]
    have hw : atW c.rest = true := by rw [hr]; cases st <;> first | rfl | cases hwst
    have d : disc (st :: r) = true := hv ▸ B.L.disc t
    have hhr : holds r = true := disc_write d hwst
    have hnwr : noWrite (toRelease r) = true := noWrite_toRelease r (disc_tail d)
    -- the `k` chunks of the frame in progress are the chunks of this call on the wire
    have mid : ∀ f, (c.rest = .write1 f :: r ∨ c.rest = .write2 f :: r) →
        ∃ k, s.sh.wire = flat gs ++ List.replicate k ⟨t, c.idx, false, descOf f c⟩ ∧ k ≤ env.more t c.idx ∧
          (c.rest = .write2 f :: r → k = env.more t c.idx) ∧ (c.rest = .write1 f :: r → k < env.more t c.idx ∨ k = 0) ∧
          sentOf s.sh.wire t c.idx = k := by
      intro f h
      obtain ⟨k, hwire, h1, h2, h3⟩ := S.mid t c f r hc h
      refine ⟨k, hwire, h1, h2, h3, ?_⟩
      rw [hwire, sentOf_append, sentOf_replicate, sentOf_flat_zero, Nat.zero_add]
      intro g hg ⟨h1, h2⟩
      have := shape_earlier S B.M hc hw g hg h1
      omega
    cases o with
    | fail _ _ _ hf =>
      obtain ⟨f, hrf⟩ : ∃ f, c.rest = .write1 f :: r ∨ c.rest = .write2 f :: r := by
        cases st <;> first | exact ⟨_, Or.inl hr⟩ | exact ⟨_, Or.inr hr⟩ | cases hwst
      obtain ⟨k, hwire, hk, _, _, hsent⟩ := mid f hrf
      rcases hf with hs | ⟨_, hf⟩
      · exact ⟨gs, shape_abort env v cfg s t gs c _ B S hc hw (holds_ne_nil (holds_toRelease _ hhr)) hnwr
          (S.shut hs t c f r hc hrf)⟩
      · rw [hsent] at hf
        refine ⟨gs ++ [⟨t, c.idx, descOf f c, k, false⟩], shape_close env v cfg s t gs c _ _ B S hc hw
          (holds_ne_nil (holds_toRelease _ hhr)) hnwr rfl rfl (Or.inr ⟨rfl, hf, hk⟩) ?_⟩
        simp [flat_append, flat_single, Group.chunks, hwire]
    | skip f _ hns _ h0 =>
      obtain ⟨_, r2, hr2⟩ := disc_w1 d
      obtain ⟨k, hwire, hk, _, _, _⟩ := mid f (Or.inl hr)
      exact ⟨gs, shape_cont env v cfg s t gs c _ f r2 k B S hc hw (Or.inr hr2) rfl hwire hk
        (fun _ => by omega) (fun h => by rw [hr2] at h; cases h) hns⟩
    | stay f _ hns _ hlt =>
      obtain ⟨k, hwire, hk, _, _, hsent⟩ := mid f (Or.inl hr)
      rw [hsent] at hlt
      refine ⟨gs, shape_cont env v cfg s t gs c _ f r (k + 1) B S hc hw (Or.inl rfl) rfl ?_ (by omega)
        (fun h => by cases h) (fun _ => Or.inl hlt) hns⟩
      simp only [hwire, List.append_assoc]
      rw [← List.replicate_succ']; rfl
    | adv f _ hns _ h0 hge =>
      obtain ⟨_, r2, hr2⟩ := disc_w1 d
      obtain ⟨k, hwire, hk, _, hk1, hsent⟩ := mid f (Or.inl hr)
      have hk1' := hk1 hr
      rw [hsent] at hge
      refine ⟨gs, shape_cont env v cfg s t gs c _ f r2 (k + 1) B S hc hw (Or.inr hr2) rfl ?_ (by omega)
        (fun _ => by omega) (fun h => by rw [hr2] at h; cases h) hns⟩
      simp only [hwire, List.append_assoc]
      rw [← List.replicate_succ']; rfl
    | fin f _ _ _ =>
      obtain ⟨k, hwire, _, hk2, _, _⟩ := mid f (Or.inr hr)
      refine ⟨gs ++ [⟨t, c.idx, descOf f c, k, true⟩], shape_close env v cfg s t gs c _ _ B S hc hw
        (holds_ne_nil hhr) (disc_w2 d).2 rfl rfl (Or.inl ⟨rfl, hk2 hr⟩) ?_⟩
      simp [flat_append, flat_single, Group.chunks, hwire]

theorem shape_reach (env : Env) (v : Variant) (cfg : Cfg) {s : State} (F : Fresh s) (sched : List Tid) :
    ∃ gs, Shape env v cfg (runN env v cfg s sched) gs :=
  (runN_keeps (I := fun s => BaseN v cfg s ∧ ∃ gs, Shape env v cfg s gs)
    (fun s t h => ⟨baseN_step env v cfg s t h.1, h.2.elim fun gs S => shape_stepN env v cfg s t gs h.1 S⟩)
    s sched ⟨baseN_fresh v cfg F, [], shape_fresh env v cfg F⟩).2

theorem current_of_atW {v : Variant} {cfg : Cfg} {th : Thread} (h : atW (view v cfg th) = true) :
    ∃ c f r, th.current v cfg = some c ∧ (c.rest = .write1 f :: r ∨ c.rest = .write2 f :: r) := by
  cases hv : view v cfg th with
  | nil => rw [hv] at h; cases h
  | cons st r =>
    obtain ⟨c, hc, hr⟩ := current_of_view hv
    rw [hv] at h
    cases st <;> simp only [atW] at h <;> try cases h
    · exact ⟨c, _, r, hc, Or.inl hr⟩
    · exact ⟨c, _, r, hc, Or.inr hr⟩

/-- on a shut socket the wire is exactly the finished groups: nobody has chunks of a frame in progress on it -/
theorem shape_shut_flat {env : Env} {v : Variant} {cfg : Cfg} {s : State} {gs : List Group}
    (S : Shape env v cfg s gs) (hs : s.sh.sockShut = true) : s.sh.wire = flat gs := by
  by_cases h : ∀ t, atW (view v cfg (s.th t)) = false
  · exact S.quiet h
  · obtain ⟨t, ht⟩ := exists_at h
    obtain ⟨c, f, r, hc, hr⟩ := current_of_atW ht
    exact S.shut hs t c f r hc hr

end Lomond.Threads
