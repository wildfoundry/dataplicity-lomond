/-
  `Core.findSep sep a` (the model of `bytes.find`, used for the header terminators) is the position of the first
  occurrence of `sep` in `a`: `findSep_eq_some_iff`, `findSep_eq_none_iff`.  What more bytes can and cannot change
  (`findSep_bound`, `findSep_append`, `findSep_append_none`, `findSep_prefix_none`) follows from that alone.
-/
import Lomond.Model.Core

namespace Lomond.Core
open Lomond

theorem findSep_spec (sep a : Bytes) :
    match findSep sep a with
    | some i => i ≤ a.length ∧ sep <+: a.drop i ∧ ∀ j, j < i → ¬ sep <+: a.drop j
    | none => ∀ j, j ≤ a.length → ¬ sep <+: a.drop j := by
  induction a with
  | nil =>
    by_cases hs : sep = []
    · rw [show findSep sep [] = some 0 from if_pos hs, hs]
      exact ⟨Nat.le_refl _, List.nil_prefix, fun j hj => absurd hj (Nat.not_lt_zero j)⟩
    · rw [show findSep sep [] = none from if_neg hs]
      intro j _ hp
      rw [List.drop_nil] at hp
      exact hs (List.prefix_nil.mp hp)
  | cons b r ih =>
    by_cases hp : sep.isPrefixOf (b :: r) = true
    · rw [show findSep sep (b :: r) = some 0 from if_pos hp]
      exact ⟨Nat.zero_le _, List.isPrefixOf_iff_prefix.mp hp, fun j hj => absurd hj (Nat.not_lt_zero j)⟩
    · have h0 : ¬ sep <+: (b :: r).drop 0 := fun h => hp (List.isPrefixOf_iff_prefix.mpr h)
      rw [show findSep sep (b :: r) = (findSep sep r).map (· + 1) from if_neg hp]
      cases hr : findSep sep r with
      | some i =>
        rw [hr] at ih
        refine ⟨Nat.succ_le_succ ih.1, ih.2.1, ?_⟩
        intro j hj
        cases j with
        | zero => exact h0
        | succ k => exact ih.2.2 k (Nat.lt_of_succ_lt_succ hj)
      | none =>
        rw [hr] at ih
        intro j hj
        cases j with
        | zero => exact h0
        | succ k => exact ih k (Nat.le_of_succ_le_succ hj)

theorem findSep_eq_none_iff (sep a : Bytes) :
    findSep sep a = none ↔ ∀ j, j ≤ a.length → ¬ sep <+: a.drop j := by
  have h := findSep_spec sep a
  constructor
  · intro e; rw [e] at h; exact h
  · intro hn
    cases e : findSep sep a with
    | none => rfl
    | some i => rw [e] at h; exact absurd h.2.1 (hn i h.1)

theorem findSep_eq_some_iff (sep a : Bytes) (i : Nat) :
    findSep sep a = some i ↔ i ≤ a.length ∧ sep <+: a.drop i ∧ ∀ j, j < i → ¬ sep <+: a.drop j := by
  have h := findSep_spec sep a
  constructor
  · intro e; rw [e] at h; exact h
  · rintro ⟨h1, h2, h3⟩
    cases e : findSep sep a with
    | none => rw [e] at h; exact absurd h2 (h i h1)
    | some k =>
      rw [e] at h
      -- each of `i`, `k` is a position of `sep` with none before it
      have : ¬ k < i := fun hk => h3 k hk h.2.1
      have : ¬ i < k := fun hi => h.2.2 i hi h2
      congr 1; omega

theorem findSep_bound (sep a : Bytes) (i : Nat) (h : findSep sep a = some i) : i + sep.length ≤ a.length := by
  obtain ⟨h1, h2, _⟩ := (findSep_eq_some_iff sep a i).mp h
  have := h2.length_le
  rw [List.length_drop] at this
  omega

theorem prefix_drop_append (sep a x : Bytes) (j : Nat) (hj : j + sep.length ≤ a.length) :
    sep <+: (a ++ x).drop j ↔ sep <+: a.drop j := by
  rw [List.drop_append_of_le_length (by omega)]
  constructor
  · intro h
    exact List.prefix_of_prefix_length_le h (List.prefix_append _ _) (by rw [List.length_drop]; omega)
  · intro h
    exact h.trans (List.prefix_append _ _)

theorem findSep_append (sep a x : Bytes) (i : Nat) (h : findSep sep a = some i) : findSep sep (a ++ x) = some i := by
  have hb := findSep_bound sep a i h
  obtain ⟨h1, h2, h3⟩ := (findSep_eq_some_iff sep a i).mp h
  rw [findSep_eq_some_iff]
  refine ⟨by rw [List.length_append]; omega, (prefix_drop_append sep a x i hb).mpr h2, ?_⟩
  intro j hj hp
  exact h3 j hj ((prefix_drop_append sep a x j (by omega)).mp hp)

theorem findSep_append_none (sep a x : Bytes) (i : Nat) (h : findSep sep a = none)
    (h2 : findSep sep (a ++ x) = some i) : a.length < i + sep.length := by
  obtain ⟨_, hp, _⟩ := (findSep_eq_some_iff sep (a ++ x) i).mp h2
  apply Nat.lt_of_not_le
  intro hle
  exact (findSep_eq_none_iff sep a).mp h i (by omega) ((prefix_drop_append sep a x i hle).mp hp)

theorem findSep_prefix_none (sep a x : Bytes) (h : findSep sep (a ++ x) = none) : findSep sep a = none := by
  cases ha : findSep sep a with
  | none => rfl
  | some i => rw [findSep_append sep a x i ha] at h; cases h

theorem findSep_none_of_not_mem (s : Nat) (sep a : Bytes) (h : s ∉ a) : findSep (s :: sep) a = none := by
  rw [findSep_eq_none_iff]
  intro j _ hp
  exact h (List.mem_of_mem_drop (hp.subset (List.mem_cons_self)))

end Lomond.Core
