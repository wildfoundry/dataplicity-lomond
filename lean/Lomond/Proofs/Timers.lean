/-
  What each `_check_*` of `_regular()` does when it is due and when it is not (C15: `…_fires`, `…_quiet`
  over `pollDue`, `pingDue`, `pingTimeoutDue`, `closeTimeoutDue`), and that the configuration never
  changes (`CfgKeep`, `cfg_runAll`).
-/
import Lomond.Proofs.ApiCalls
namespace Lomond.Core.Timers
open Lomond Lomond.Core Lomond.Core.Lift Lomond.Core.Pong

/-- state in which the Poll event is yielded: `_poll_start` records the current session time -/
def pollMark (s : Sys) : Sys := { s with pollStart := some (sessionTime s) }

/-- `_check_poll` is due: never polled, or at least `poll` since the last Poll -/
def pollDue (s : Sys) : Prop :=
  s.pollStart = none ∨ ∃ p0, s.pollStart = some p0 ∧ sessionTime s - p0 ≥ s.cfg.poll

theorem not_pollDue {s : Sys} (hd : ¬ pollDue s) : ∃ p0, s.pollStart = some p0 ∧ sessionTime s - p0 < s.cfg.poll := by
  cases hps : s.pollStart with
  | none => exact absurd (Or.inl hps) hd
  | some p0 => exact ⟨p0, rfl, Nat.lt_of_not_le fun hc => hd (Or.inr ⟨p0, hps, hc⟩)⟩

theorem checkPoll_fires (s : Sys) (h : pollDue s) : checkPoll s = yieldEv .poll (pollMark s) := by
  unfold checkPoll
  rw [getS_bind]
  rcases h with h | ⟨p0, h, hge⟩
  · simp only [h, if_true]; rfl
  · simp only [h, hge, decide_true, if_true]; rfl

theorem checkPoll_quiet (s : Sys) (p0 : Nat) (h : s.pollStart = some p0)
    (hlt : sessionTime s - p0 < s.cfg.poll) : checkPoll s = .ok () s := by
  unfold checkPoll
  rw [getS_bind]
  have : ¬ (sessionTime s - p0 ≥ s.cfg.poll) := by omega
  simp only [h, this, decide_false]; rfl

def pingDue (s : Sys) : Prop := s.cfg.pingRate ≠ 0 ∧ sessionTime s > s.nextPing

/-- state in which the automatic Ping is sent: the next one is due after the next multiple of the rate -/
def pingMark (s : Sys) : Sys :=
  { s with nextPing := ceilDiv (sessionTime s) s.cfg.pingRate * s.cfg.pingRate }

theorem checkAutoPing_fires (s : Sys) (h : pingDue s) :
    checkAutoPing s = (do let _ ← sendFrame Gen.opPing [] none; pure () : M Unit) (pingMark s) := by
  unfold checkAutoPing
  rw [getS_bind]
  unfold pingDue at h
  simp only [h, and_self, if_true, ne_eq, not_false_eq_true]; rfl

theorem checkAutoPing_quiet (s : Sys) (h : ¬ pingDue s) : checkAutoPing s = .ok () s := by
  unfold checkAutoPing
  rw [getS_bind]
  unfold pingDue at h
  simp only [h, if_false]; rfl

def pingTimeoutDue (s : Sys) : Prop :=
  s.cfg.pingTimeout ≠ 0 ∧ sessionTime s - s.lastPong > s.cfg.pingTimeout

theorem checkPingTimeout_fires (s : Sys) (h : pingTimeoutDue s) :
    checkPingTimeout s =
      (do yieldEv .unresponsive; throwE (.forceDisconnect "ping-timeout") : M Unit) s := by
  unfold checkPingTimeout
  rw [getS_bind]
  unfold pingTimeoutDue at h
  simp only [h, and_self, if_true, ne_eq, not_false_eq_true]

theorem checkPingTimeout_quiet (s : Sys) (h : ¬ pingTimeoutDue s) : checkPingTimeout s = .ok () s := by
  unfold checkPingTimeout
  rw [getS_bind]
  unfold pingTimeoutDue at h
  simp only [h, if_false]; rfl

def closeTimeoutDue (s : Sys) : Prop :=
  s.cfg.closeTimeout ≠ 0 ∧ ∃ ct, s.sentCloseTime = some ct ∧ sessionTime s ≥ ct + s.cfg.closeTimeout

theorem checkCloseTimeout_fires (s : Sys) (h : closeTimeoutDue s) :
    checkCloseTimeout s = .err (.forceDisconnect "close-timeout") s := by
  unfold checkCloseTimeout
  rw [getS_bind]
  obtain ⟨h0, ct, hct, hge⟩ := h
  simp only [h0, hct, hge, if_true, ne_eq, not_false_eq_true]; rfl

theorem checkCloseTimeout_quiet (s : Sys) (h : ¬ closeTimeoutDue s) : checkCloseTimeout s = .ok () s := by
  unfold checkCloseTimeout
  rw [getS_bind]
  unfold closeTimeoutDue at h
  by_cases h0 : s.cfg.closeTimeout = 0
  · simp only [h0, ne_eq, not_true_eq_false, if_false]; rfl
  · simp only [h0, ne_eq, not_false_eq_true, if_true]
    cases hct : s.sentCloseTime with
    | none => rfl
    | some ct =>
      have : ¬ (sessionTime s ≥ ct + s.cfg.closeTimeout) := fun hge => h ⟨h0, ct, hct, hge⟩
      simp only [this, if_false]; rfl

theorem build_ping_empty (key : Bytes) : Frame.build Gen.opPing [] key = some ([137, 128] ++ key) := by
  simp [Frame.build, buildHeader, byte0, Gen.opPing, maskPayload, maskFrom]

theorem checkAutoPing_writes (s : Sys) (hd : pingDue s) (hso : s.sockOpen = true)
    (hcg : s.closing = false) (hcd : s.closed = false) (hw : s.cfg.writeFails s.writeCtr = false) :
    checkAutoPing s = .ok ()
      { pingMark s with keyCtr := s.keyCtr + 1, writeCtr := s.writeCtr + 1,
                        trace := .wr ([137, 128] ++ s.cfg.maskKey s.keyCtr) :: s.trace } := by
  rw [checkAutoPing_fires s hd]
  have e : sendFrame Gen.opPing [] none (pingMark s) = .ok .ok
      { pingMark s with keyCtr := s.keyCtr + 1, writeCtr := s.writeCtr + 1,
                        trace := .wr ([137, 128] ++ s.cfg.maskKey s.keyCtr) :: s.trace } := by
    simp [sendFrame, pingMark, build_ping_empty, write, hso, hcg, hcd, hw]
  rw [bind_ok e]; rfl

theorem checkPingTimeout_due (s : Sys) (h : pingTimeoutDue s) :
    (∃ l, (checkPingTimeout s).state.trace = l ++ .ev .unresponsive :: s.trace) ∧
    (∀ s1, yieldEv .unresponsive s = .ok () s1 →
        checkPingTimeout s = .err (.forceDisconnect "ping-timeout") s1) ∧
    (∃ x s1, checkPingTimeout s = .err x s1) := by
  rw [checkPingTimeout_fires s h]
  refine ⟨?_, ?_, ?_⟩
  · have s1 := yieldEv_step_from_push .unresponsive s
    have s2 := bind_state_rel step_po (m := yieldEv .unresponsive)
      (k := fun _ => (throwE (.forceDisconnect "ping-timeout") : M Unit))
      (fun _ => spec_throwE step_po _) s
    exact (step_po.trans s1 s2).traceExt
  · intro s1 hy; rw [bind_ok hy]; rfl
  · cases hy : yieldEv .unresponsive s with
    | ok u s1 => exact ⟨_, s1, by rw [bind_ok hy]; rfl⟩
    | err x s1 => exact ⟨x, s1, bind_err hy⟩

theorem runBody_forceDisconnect (env : List EnvStep) (s s1 : Sys) (k : String)
    (h : loop env s = .err (.forceDisconnect k) s1) :
    runBody env s = (do closeSocket; yieldEv (.disconnected k false) : M Unit) s1 := by
  unfold runBody
  have hb : (do loop env; pure none : M (Option Exn)) s = .err (.forceDisconnect k) s1 := bind_err h
  have ht : tryC (do loop env; pure none : M (Option Exn)) (fun x => pure (some x)) s
      = .ok (some (.forceDisconnect k)) s1 := by rw [tryC_err hb]; rfl
  rw [bind_ok ht]; rfl

theorem loop_regular_err (dt : Nat) (rd : Option RecvOutcome) (rest : List EnvStep) (s s2 : Sys)
    (x : Exn) (hc : s.closed = false) (h : regular (tick s dt) = .err x s2) :
    loop (.wait dt rd :: rest) s = .err x s2 := by
  unfold loop
  simp only [hc, Bool.false_eq_true, if_false, regularTop]
  rw [h]

theorem sessionTime_tick (s : Sys) (dt : Nat) :
    sessionTime s ≤ sessionTime (tick s dt) ∧ sessionTime (tick s dt) ≤ sessionTime s + dt := by
  unfold sessionTime tick
  cases s.startTime with
  | none => simp
  | some t0 => simp only; omega

theorem wsClose_records_time (code : Option Nat) (reason : Arg) (s s' : Sys)
    (h : wsClose code reason s = .ok .ok s') (hcd : s.closed = false) (hcg : s.closing = false) :
    s'.sentCloseTime = some (sessionTime s) ∧ s'.closing = true := by
  have hns : ¬ Shut s := by
    rintro (h | h)
    · rw [hcg] at h; cases h
    · rw [hcd] at h; cases h
  rcases wsClose_obs code reason s with ⟨a, e, ha⟩ | ⟨_, _, e⟩ | ⟨_, o, pl, bs, e, _⟩
  · rw [e] at h; cases h
    rcases ha with ⟨_, hs⟩ | h | h | h
    · exact absurd hs hns
    · cases h
    · cases h
    · cases h
  · rw [e] at h; cases h; exact ⟨rfl, rfl⟩
  · rw [e] at h; cases h; exact ⟨rfl, rfl⟩

theorem onEvent_ping_timers (d : Bytes) (s s1 : Sys) (h : onEvent (.ping d) s = .ok () s1) :
    s1.pollStart = s.pollStart ∧ s1.nextPing = s.nextPing ∧ s1.lastPong = s.lastPong ∧
    s1.startTime = s.startTime ∧ s1.now = s.now ∧ s1.sentCloseTime = s.sentCloseTime := by
  rcases onEvent_ping d s with ⟨_, e⟩ | e | ⟨_, _, r, s', es, e⟩
  · rw [e] at h; cases h; exact ⟨rfl, rfl, rfl, rfl, rfl, rfl⟩
  · rw [e] at h; cases h
  · rw [e] at h; cases h
    rcases sendFrame_obs Gen.opPong d none s with ⟨r', e1, _⟩ | ⟨_, r', o, b, z, e1, _⟩
    · rw [e1] at es; cases es; exact ⟨rfl, rfl, rfl, rfl, rfl, rfl⟩
    · rw [e1] at es; cases es; exact ⟨rfl, rfl, rfl, rfl, rfl, rfl⟩

def CfgKeep (s s' : Sys) : Prop := s'.cfg = s.cfg

theorem cfgKeep_po : PO CfgKeep where
  refl _ := rfl
  trans h1 h2 := h2.trans h1

theorem cfgKeep_of_step {m : M α} (h : Spec Step m) : Spec CfgKeep m := fun s => (h s).cfg

theorem cfgKeep_around : AroundLoop CfgKeep where
  po := cfgKeep_po
  closeSocket := cfgKeep_of_step step_closeSocket
  selClose := spec_selClose cfgKeep_po (fun _ _ => rfl)
  yieldEv := fun e _ => cfgKeep_of_step (step_yieldEv e)
  selSet := fun _ _ => rfl

theorem cfgKeep_run : Spec CfgKeep run :=
  run_run cfgKeep_around (fun env => cfgKeep_of_step (step_loop env)) (fun _ => rfl)
    (fun d => cfgKeep_of_step (step_write d none))

theorem cfg_runAll (cfg : Cfg) (react : React) (env : List EnvStep) : (runAll cfg react env).cfg = cfg :=
  run_runAll cfgKeep_po cfgKeep_around.closeSocket (fun _ => rfl) cfg react env (cfgKeep_run _)

end Lomond.Core.Timers
