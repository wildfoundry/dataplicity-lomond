/-
  Helper lemmas for the digest part of C10: sizes of `sha1` / `b64encode` / `acceptFor`, the key read
  back out of a request, and the two constructions of an attempt's core configuration agreeing.
-/
import Lomond.Model.Sha1
import Lomond.Model.Attempt
import Lomond.Proofs.Http
import Lomond.Proofs.BeBytes

namespace Lomond.Sha1
open Lomond

theorem State.bytes_length (h : State) : h.bytes.length = 20 := by
  simp [State.bytes, beBytes_length]

theorem State.bytes_wf (h : State) : Bytes.WF h.bytes := by
  intro b hb
  simp only [State.bytes, List.mem_append] at hb
  rcases hb with (((hb | hb) | hb) | hb) | hb <;> exact beBytes_wf _ _ b hb

theorem sha1_length (msg : Bytes) : (sha1 msg).length = 20 := State.bytes_length _

theorem sha1_wf (msg : Bytes) : Bytes.WF (sha1 msg) := State.bytes_wf _

/-- the padded message is the message, one byte 0x80, the fewest zero bytes and the 8 length bytes that
    make the total a multiple of 64 -/
theorem pad_length (msg : Bytes) :
    (pad msg).length = msg.length + 9 + (119 - msg.length % 64) % 64 ∧ (pad msg).length % 64 = 0 ∧
    (119 - msg.length % 64) % 64 < 64 := by
  have h : (pad msg).length = msg.length + 9 + (119 - msg.length % 64) % 64 := by
    simp [pad, beBytes_length]; omega
  exact ⟨h, by rw [h]; omega, by omega⟩

theorem pad_prefix (msg : Bytes) : (pad msg).take msg.length = msg := by
  simp [pad]

end Lomond.Sha1

namespace Lomond.Handshake
open Lomond Lomond.Http Lomond.Spec

theorem b64encode_length (bs : Bytes) : (b64encode bs).length = 4 * ((bs.length + 2) / 3) := by
  fun_induction b64encode bs <;> simp_all <;> omega

theorem acceptFor_length (key : Bytes) : (acceptFor key).length = 28 := by
  unfold acceptFor
  rw [b64encode_length, Sha1.sha1_length]

theorem acceptFor_solid (key : Bytes) : Solid (acceptFor key) := b64encode_solid _

theorem acceptFor_ascii (key : Bytes) : asciiReplace (acceptFor key) = acceptFor key :=
  asciiReplace_id _ (fun c hc => by have := acceptFor_solid key c hc; omega)

theorem b64decode_acceptFor (key : Bytes) : b64decode (acceptFor key) = some (Sha1.sha1 (key ++ Gen.wsKey)) :=
  b64decode_encode _ (Sha1.sha1_wf _)

theorem find?_reverse_last {α} (p : α → Bool) (pre post : List α) (x : α) (hx : p x = true)
    (hpost : ∀ y ∈ post, p y = false) : (pre ++ x :: post).reverse.find? p = some x := by
  have hnone : post.reverse.find? p = none := by
    rw [List.find?_eq_none]
    intro y hy
    rw [List.mem_reverse] at hy
    simp [hpost y hy]
  simp [List.find?_append, hnone, hx]

theorem requestHeaders_split (c : ReqCfg) :
    requestHeaders c =
      (c.customHeaders ++ [(lit "Host", c.hostPort), (lit "Upgrade", lit "websocket"), (lit "Connection", lit "Upgrade")]) ++
      (keyHeaderName, c.key) ::
        ([(lit "Sec-WebSocket-Version", lit "13"), (lit "User-Agent", c.agent)] ++
         (if c.protocols ≠ [] then [(lit "Sec-WebSocket-Protocol", joinWith (lit ", ") c.protocols)] else []) ++
         (if c.compress then [(lit "Sec-WebSocket-Extensions", deflateOffer)] else [])) := by
  simp [requestHeaders, keyHeaderName]

/-- `build_request` writes the key field once, between fields of other names; only the application's own
    fields, which come first, can carry that name too -/
theorem requestHeaders_key (c : ReqCfg) :
    ∃ pre post, requestHeaders c = (c.customHeaders ++ pre) ++ (keyHeaderName, c.key) :: post ∧
      (∀ y ∈ pre, y.1 ≠ keyHeaderName) ∧ (∀ y ∈ post, y.1 ≠ keyHeaderName) := by
  have names : ∀ n ∈ [lit "Host", lit "Upgrade", lit "Connection", lit "Sec-WebSocket-Version", lit "User-Agent",
      lit "Sec-WebSocket-Protocol", lit "Sec-WebSocket-Extensions"], n ≠ keyHeaderName := by decide +kernel
  refine ⟨_, _, requestHeaders_split c, ?_, ?_⟩
  · intro y hy
    simp only [List.mem_cons, List.not_mem_nil, or_false] at hy
    rcases hy with rfl | rfl | rfl <;> exact names _ (by simp)
  · intro y hy
    simp only [List.mem_append, List.mem_cons, List.not_mem_nil, or_false] at hy
    rcases hy with ((rfl | rfl) | hy) | hy
    · exact names _ (by simp)
    · exact names _ (by simp)
    · split at hy
      · rw [List.mem_singleton] at hy
        subst hy
        exact names _ (by simp)
      · exact absurd hy List.not_mem_nil
    · split at hy
      · rw [List.mem_singleton] at hy
        subst hy
        exact names _ (by simp)
      · exact absurd hy List.not_mem_nil

theorem lastKey_requestHeaders (c : ReqCfg) :
    (requestHeaders c).reverse.find? (fun h => h.1 = keyHeaderName) = some (keyHeaderName, c.key) := by
  obtain ⟨pre, post, e, _, hpost⟩ := requestHeaders_key c
  rw [e]
  exact find?_reverse_last _ _ _ _ (by simp) (fun y hy => by simpa using hpost y hy)

theorem parseRequest_isSome_of_key (req : Bytes) (h : keyOfRequest req ≠ []) : (parseRequest req).isSome = true := by
  unfold keyOfRequest at h
  cases hp : parseRequest req with
  | some q => rfl
  | none => rw [hp] at h; exact absurd rfl h

theorem keyOfRequest_build (c : ReqCfg)
    (hres : c.resource ≠ [] ∧ ∀ x ∈ c.resource, x ≠ 32 ∧ x ≠ 13 ∧ x ≠ 10)
    (hcustom : ∀ p ∈ c.customHeaders, NameOk p.1 ∧ ValueOk p.2)
    (hhost : ValueOk c.hostPort) (hkey : ValueOk c.key) (hagent : ValueOk c.agent)
    (hproto : ValueOk (joinWith (lit ", ") c.protocols)) :
    keyOfRequest (buildRequest c) = c.key := by
  unfold keyOfRequest
  rw [request_wellformed c hres hcustom hhost hkey hagent hproto]
  simp only [lastKey_requestHeaders, Option.map_some, Option.getD_some]

theorem keyOfRequest_nth (cl : Client) (rnd : Nat → Bytes) (n : Nat)
    (hhost : Solid cl.url.host) (hpath : Solid cl.url.path) (hquery : Solid cl.url.query)
    (hagent : ValueOk cl.agent) (hprotos : ∀ p ∈ cl.protocols, p ≠ [] ∧ Solid p)
    (hcustom : ∀ p ∈ cl.customHeaders, NameOk p.1 ∧ ValueOk p.2) :
    keyOfRequest (nthRequest cl rnd n) = b64encode (rnd n) := by
  unfold nthRequest
  rw [(afterConnects_spec rnd n).2]
  exact keyOfRequest_build (cl.reqCfg (b64encode (rnd n))) (resource_ok cl.url hpath hquery) hcustom
    (hostPort_ok cl.url hhost) (valueOk_of_solid _ (b64encode_solid _)) hagent (protocols_ok cl.protocols hprotos)

theorem nthChallenge_eq (rnd : Nat → Bytes) (n : Nat) : nthChallenge rnd n = acceptFor (b64encode (rnd n)) := by
  unfold nthChallenge KeyState.challenge
  rw [(afterConnects_spec rnd n).2]

theorem cfgOfRequest_nth (cl : Client) (rnd : Nat → Bytes) (n : Nat) (base : Core.Cfg)
    (hhost : Solid cl.url.host) (hpath : Solid cl.url.path) (hquery : Solid cl.url.query)
    (hagent : ValueOk cl.agent) (hprotos : ∀ p ∈ cl.protocols, p ≠ [] ∧ Solid p)
    (hcustom : ∀ p ∈ cl.customHeaders, NameOk p.1 ∧ ValueOk p.2) :
    cfgOfRequest base (nthRequest cl rnd n) = cl.attemptCfg rnd n base := by
  unfold cfgOfRequest Client.attemptCfg challengeOfRequest
  rw [keyOfRequest_nth cl rnd n hhost hpath hquery hagent hprotos hcustom, nthChallenge_eq]

end Lomond.Handshake
