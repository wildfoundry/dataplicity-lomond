/-
  Helpers for the companion property files `Properties/Cxx_Gen.lean`, which tie the hand-written
  model to `Generated/Code.lean` (the Python code translated by harness/py2lean.py): how an error
  value of the generated code (`Py.Err`: class name + literal text) is read as a result / exception
  of the model (`actResOf`, `exnOf`), and lemmas about the support functions of `Model/PyOps.lean`.
  The companion proofs follow the generated definitions test by test and leave the arithmetic side
  conditions to `omega`, so they do not depend on how the source happens to spell a comparison
  (`< 126` or `<= 125`, `1 << 16` or `65536`, the order of the operands of `or`).
-/
import Lomond.Model.Core
import Lomond.Model.PyOps

namespace Lomond.GenTie
open Lomond Lomond.Core

/-- the model's result of an API call that raised `e` (class names as written in websocket.py) -/
def actResOf (e : Py.Err) : ActRes :=
  if e.cls = "TypeError" then .typeError
  else if e.cls = "ValueError" then .valueError
  else .structError

/-- the model's result of `session.write` / `send` refused by `_check_writable` with error `e`
    (class names as written in session.py; all three are WebSocketErrors) -/
def wsResOf (e : Py.Err) : ActRes :=
  if e.cls = "WebSocketClosed" then .wsClosed
  else if e.cls = "WebSocketClosing" then .wsClosing
  else .wsUnavailable

/-- the model's exception for an error raised in frame.py / frame_parser.py:
    `PayloadTooLarge` is a subclass of `ProtocolError`, both are `Exn.protocol` with the text -/
def exnOf (e : Py.Err) : Exn :=
  if e.cls = "ProtocolError" ∨ e.cls = "PayloadTooLarge" then .protocol e.msg
  else if e.cls = "CriticalProtocolError" then .critical e.msg
  else .other e.cls

def exceptOf {α : Type} (r : Except Py.Err α) : Except Exn α :=
  match r with
  | .ok a => .ok a
  | .error e => .error (exnOf e)

theorem exnOf_protocol (m : String) : exnOf ⟨"ProtocolError", m⟩ = .protocol m := by
  simp only [exnOf, true_or, if_true]

theorem exnOf_tooLarge (m : String) : exnOf ⟨"PayloadTooLarge", m⟩ = .protocol m := by
  simp only [exnOf, or_true, if_true]

theorem gen_str_inj (a b : String) : Py.str a = Py.str b ↔ a = b := by
  unfold Py.str
  rw [List.map_inj_right (fun x y h => Char.toNat_inj.mp h), String.toList_inj]

theorem gen_beBytes_one (v : Nat) : beBytes 1 v = [v % 256] := by simp [beBytes]

theorem gen_pack_nil : Py.pack [] = [] := rfl

theorem gen_pack_cons (w v : Nat) (r : List (Nat × Nat)) :
    Py.pack ((w, v) :: r) = beBytes w v ++ Py.pack r := by
  simp [Py.pack]

/-- `128 | n = 128 + n` below 128 (the mask bit and a 7-bit length do not overlap) -/
theorem gen_or_128 (n : Nat) (h : n < 128) : (128 ||| n) = 128 + n := by
  have : ∀ l : Fin 128, (128 ||| l.val) = 128 + l.val := by decide +kernel
  exact this ⟨n, h⟩

theorem gen_ceilDiv_eq (a b : Nat) : Py.ceilDiv a b = Core.ceilDiv a b := rfl

end Lomond.GenTie

/-! `ceil(t / r) * r`, the next Ping time of `_check_auto_ping`: the first multiple of `r` not before `t` -/
namespace Lomond.Core.Timers
open Lomond.Core

theorem le_ceilDiv_mul (t r : Nat) (hr : 0 < r) : t ≤ ceilDiv t r * r := by
  unfold ceilDiv
  have h := Nat.lt_div_mul_add (a := t + r - 1) hr
  generalize (t + r - 1) / r * r = q at h
  omega

theorem ceilDiv_mul_lt (t r : Nat) (hr : 0 < r) : ceilDiv t r * r < t + r := by
  unfold ceilDiv
  have h := Nat.div_mul_le_self (t + r - 1) r
  generalize (t + r - 1) / r * r = q at h
  omega

end Lomond.Core.Timers
