/-
  C18, safety half (`Model/Transport.lean`).  The receive loop is a chain of moves: `Moves cfg s s'` is generated by
  the five things an iteration can do to the state — deliver what is due, let the clock run while `poll(2)` finds
  nothing to read, log tokens, and the two outcomes of a `recv` —, each constructor carrying what the loop knows where
  it takes that step; `block_moves` … `run_moves` show once that the loop moves only so.  Each invariant is one
  induction on `Moves`, applied to `run_moves` where a run is spoken of.  Last, the variant without the `pending()`
  short-cut, by computation on its witness.
-/
import Lomond.Model.Transport

namespace Lomond.Transport
open Lomond

theorem bufferSize_pos : 0 < bufferSize := by decide

namespace Sock

theorem buffered_eq (sk : Sock) : sk.buffered = sk.pendingBytes ++ sk.kernel := by
  cases sk <;> simp [buffered, pendingBytes, kernel]

theorem kernel_nil_of_not_readable {sk : Sock} {hup : Bool} (h : sk.fdReadable hup = false) :
    sk.kernel = [] := by
  cases sk with
  | plain k => cases k <;> simp_all [fdReadable, kernel]
  | tls rs p => cases rs <;> simp_all [fdReadable, kernel]

theorem buffered_nil_of_not_readable {sk : Sock} {hup : Bool} (hr : sk.fdReadable hup = false)
    (hp : sk.pendingBytes = []) : sk.buffered = [] := by
  rw [buffered_eq, hp, kernel_nil_of_not_readable hr]; rfl

theorem push_buffered (p : Bytes) (sk : Sock) : (sk.push p).buffered = sk.buffered ++ p := by
  cases sk with
  | plain k => simp [push, buffered]
  | tls rs pe =>
    by_cases h : p = []
    · subst h; simp [push, buffered]
    · have : p.isEmpty = false := by cases p <;> simp_all
      simp [push, buffered, this]

theorem recv_conserve (c : Nat) (sk : Sock) : (sk.recv c).1 ++ (sk.recv c).2.buffered = sk.buffered := by
  cases sk with
  | plain k => simp [recv, buffered]
  | tls rs p =>
    cases p with
    | nil =>
      cases rs with
      | nil => simp [recv, buffered]
      | cons r rs => simp only [recv, buffered, List.flatten_cons, List.nil_append]; rw [← List.append_assoc, List.take_append_drop]
    | cons b p => simp only [recv, buffered]; rw [← List.append_assoc, List.take_append_drop]

theorem recv_length_le_min (c : Nat) (sk : Sock) : (sk.recv c).1.length ≤ min c bufferSize := by
  cases sk with
  | plain k => simp only [recv, List.length_take]; omega
  | tls rs p =>
    cases p with
    | nil =>
      cases rs with
      | nil => simp [recv]
      | cons r rs => simp only [recv, List.length_take]; omega
    | cons b p => simp only [recv, List.length_take]; omega

theorem recv_length_le_count (c : Nat) (sk : Sock) : (sk.recv c).1.length ≤ c :=
  Nat.le_trans (recv_length_le_min c sk) (Nat.min_le_left _ _)

end Sock

theorem pushAll_buffered (sk : Sock) (as : List (Nat × Bytes)) :
    (pushAll sk as).buffered = sk.buffered ++ (as.map (·.2)).flatten := by
  induction as generalizing sk with
  | nil => simp [pushAll]
  | cons a as ih => simp [pushAll, ih, Sock.push_buffered]

theorem pendingBytes_nil_of_pending? {sk : Sock} (h : sk.pending? = none ∨ sk.pending? = some 0) :
    sk.pendingBytes = [] := by
  cases sk with
  | plain k => rfl
  | tls rs p =>
    rcases h with h | h
    · simp [Sock.pending?] at h
    · simp only [Sock.pending?, Option.some.injEq] at h
      exact List.eq_nil_of_length_eq_zero h

theorem pending?_some {sk : Sock} {n : Nat} (h : sk.pending? = some n) : sk.pendingBytes.length = n := by
  cases sk with
  | plain k => simp [Sock.pending?] at h
  | tls rs p => simpa [Sock.pending?, Sock.pendingBytes] using h

def bytesOf (l : List (Nat × Bytes)) : Bytes := (l.map (·.2)).flatten

@[simp] theorem bytesOf_nil : bytesOf [] = [] := rfl
@[simp] theorem bytesOf_cons (a : Nat × Bytes) (l) : bytesOf (a :: l) = a.2 ++ bytesOf l := by simp [bytesOf]
@[simp] theorem bytesOf_append (l₁ l₂ : List (Nat × Bytes)) : bytesOf (l₁ ++ l₂) = bytesOf l₁ ++ bytesOf l₂ := by
  simp [bytesOf]

def content (s : St) : Bytes := bytesOf s.log ++ s.sock.buffered ++ bytesOf s.future

theorem deliverDue_content (s : St) : content (deliverDue s) = content s := by
  simp only [content, deliverDue, pushAll_buffered]
  have h := List.takeWhile_append_dropWhile (p := fun a : Nat × Bytes => decide (a.1 ≤ s.now)) (l := s.future)
  conv => rhs; rw [← h, bytesOf_append]
  simp [bytesOf, List.append_assoc]

@[simp] theorem deliverDue_log (s : St) : (deliverDue s).log = s.log := rfl
@[simp] theorem deliverDue_now (s : St) : (deliverDue s).now = s.now := rfl
@[simp] theorem deliverDue_stopped (s : St) : (deliverDue s).stopped = s.stopped := rfl
@[simp] theorem deliverDue_trace (s : St) : (deliverDue s).trace = s.trace := rfl
@[simp] theorem deliverDue_eofAt (s : St) : (deliverDue s).eofAt = s.eofAt := rfl

/-- The three ways `block t s` can go: the descriptor is readable at once; the next arrival `t'` falls
    inside the timeout (the clock jumps there and what is due is delivered); nothing arrives inside
    the timeout (the clock advances by it). -/
theorem block_cases (t : Nat) (s : St) {P : Bool × St → Prop}
    (ready : s.sock.fdReadable s.hup = true → P (true, s))
    (jump : ∀ t', s.sock.fdReadable s.hup = false → nextTime s = some t' → t' ≤ s.now + t →
      P ((deliverDue { s with now := max s.now t' }).sock.fdReadable (deliverDue { s with now := max s.now t' }).hup,
         deliverDue { s with now := max s.now t' }))
    (idle : s.sock.fdReadable s.hup = false → (∀ t', nextTime s = some t' → s.now + t < t') →
      P (false, { s with now := s.now + t })) :
    P (block t s) := by
  unfold block
  split
  · exact ready ‹_›
  · have hr : s.sock.fdReadable s.hup = false := Bool.eq_false_iff.mpr ‹_›
    split
    · rename_i t0 hn
      split
      · exact jump _ hr hn ‹_›
      · exact idle hr (fun t' h => by obtain rfl := Option.some.inj (hn.symm.trans h); omega)
    · rename_i hn
      exact idle hr (fun t' h => by rw [hn] at h; cases h)

theorem block_now_lt {t : Nat} {s : St} (h : s.now < (block t s).2.now) : s.sock.fdReadable s.hup = false := by
  revert h
  exact block_cases t s (P := fun r => s.now < r.2.now → s.sock.fdReadable s.hup = false)
    (fun _ h => absurd h (Nat.lt_irrefl _)) (fun _ hr _ _ _ => hr) (fun hr _ _ => hr)

theorem block_readable (t : Nat) (s : St) (h : (block t s).1 = true) :
    (block t s).2.sock.fdReadable (block t s).2.hup = true := by
  revert h
  exact block_cases t s (P := fun r => r.1 = true → r.2.sock.fdReadable r.2.hup = true)
    (fun hr _ => hr) (fun _ _ _ _ h => h) (fun _ _ h => nomatch h)

theorem block_idle {t : Nat} {s : St} (h : (block t s).1 = false) : s.sock.fdReadable s.hup = false := by
  revert h
  exact block_cases t s (P := fun r => r.1 = false → s.sock.fdReadable s.hup = false)
    (fun _ h => nomatch h) (fun _ hr _ _ _ => hr) (fun hr _ _ => hr)

/-- The two ways `selector.wait` can go: a `wait_readable` call, made from a world that differs from `s`
    only by a `pending()` token in the trace and, with the short-cut, has nothing decrypted pending; or
    the short-cut itself, which answers at once with the number of pending bytes. -/
theorem selWait_cases (cfg : Cfg) (m : Nat) (s : St) {P : Bool × Nat × St → Prop}
    (wait : ∀ tr, (cfg.shortcut = true → s.sock.pendingBytes = []) →
      (tr = s.trace ∨ tr = s.trace ++ [Tok.pend 0]) →
      P ((waitReadable cfg.poll { s with trace := tr }).1, m, (waitReadable cfg.poll { s with trace := tr }).2))
    (short : ∀ n, n ≠ 0 → s.sock.pending? = some n →
      P (true, n, { s with trace := s.trace ++ [Tok.pend n, Tok.pend n] })) :
    P (selWait cfg m s) := by
  unfold selWait
  split
  · rename_i hs
    exact wait s.trace (fun h => by rw [h] at hs; cases hs) (.inl rfl)
  · split
    · rename_i hn
      exact wait s.trace (fun _ => pendingBytes_nil_of_pending? (.inl hn)) (.inl rfl)
    · rename_i n hn
      split
      · rename_i hz
        exact short n (by simpa using hz) hn
      · rename_i hz
        obtain rfl : n = 0 := by simpa using hz
        exact wait _ (fun _ => pendingBytes_nil_of_pending? (.inr hn)) (.inr rfl)

/-- What one iteration does with the answer `(ready, n, s1)` of `selector.wait`: nothing when the
    socket is not ready; otherwise one `recv` of up to `n` bytes, which stops the loop when it comes
    back empty and is logged as a chunk otherwise. -/
theorem cycleBody_cases (cfg : Cfg) (s : St) {P : St → Prop} {ready : Bool} {n : Nat} {s1 : St}
    (hw : selWait cfg bufferSize s = (ready, n, s1))
    (idle : ready = false → P s1)
    (eof : ready = true → (s1.sock.recv n).1 = [] →
      P { s1 with sock := (s1.sock.recv n).2, trace := s1.trace ++ [Tok.recv s1.now n (s1.sock.recv n).1.length],
                  stopped := true })
    (data : ready = true → (s1.sock.recv n).1 ≠ [] →
      P { s1 with sock := (s1.sock.recv n).2, trace := s1.trace ++ [Tok.recv s1.now n (s1.sock.recv n).1.length],
                  log := s1.log ++ [(s1.now, (s1.sock.recv n).1)] }) :
    P (cycleBody cfg s) := by
  unfold cycleBody
  simp only [hw]
  split
  · split
    · exact eof ‹_› (List.isEmpty_iff.mp ‹_›)
    · exact data ‹_› (fun h => ‹¬ _› (List.isEmpty_iff.mpr h))
  · exact idle (Bool.eq_false_iff.mpr ‹_›)

theorem run_preserves (cfg : Cfg) {P : St → Prop} (h : ∀ s, P s → P (cycle cfg s)) (n : Nat) {s : St} (hs : P s) :
    P (run cfg n s) := by
  induction n generalizing s with
  | zero => exact hs
  | succ n ih =>
    simp only [run]
    split
    · exact hs
    · exact ih (h s hs)

/-- a `wait_readable` call that consumed virtual time was made with nothing buffered -/
def WaitOk : Tok → Prop
  | .wait t0 t1 _ k p => t0 < t1 → k = 0 ∧ p = 0
  | _ => True

def TraceOk (tr : List Tok) : Prop := ∀ tok ∈ tr, WaitOk tok

theorem TraceOk.append {a b : List Tok} (ha : TraceOk a) (hb : TraceOk b) : TraceOk (a ++ b) := by
  intro tok h
  rcases List.mem_append.mp h with h | h
  · exact ha tok h
  · exact hb tok h

theorem TraceOk.cons {a : Tok} {l : List Tok} (ha : WaitOk a) (hl : TraceOk l) : TraceOk (a :: l) := by
  intro tok h
  rcases List.mem_cons.mp h with rfl | h
  · exact ha
  · exact hl tok h

theorem TraceOk.nil : TraceOk [] := fun _ h => nomatch h

/-- why `selector.wait` answers `True`: the descriptor is readable, or decrypted bytes are pending -/
def Ready (s : St) : Prop := s.sock.fdReadable s.hup = true ∨ s.sock.pendingBytes ≠ []

inductive Moves (cfg : Cfg) : St → St → Prop
  | refl (s : St) : Moves cfg s s
  | trans {a b c : St} : Moves cfg a b → Moves cfg b c → Moves cfg a c
  /-- arrivals whose time has come reach the kernel buffer -/
  | deliver (s : St) : Moves cfg s (deliverDue s)
  /-- the clock runs inside a `poll(2)` that found nothing to read (and, with the short-cut, nothing
      decrypted is pending), no further than the next event of the environment -/
  | advance (s : St) (now' : Nat) (hr : s.sock.fdReadable s.hup = false)
      (hp : cfg.shortcut = true → s.sock.pendingBytes = []) (h0 : s.now ≤ now')
      (hn : ∀ t', nextTime s = some t' → now' ≤ max s.now t') : Moves cfg s { s with now := now' }
  /-- tokens are logged; with the short-cut a `wait` token that consumed time saw nothing buffered -/
  | toks (s : St) (tks : List Tok) (h : cfg.shortcut = true → TraceOk tks) :
      Moves cfg s { s with trace := s.trace ++ tks }
  /-- a `recv` of a positive count, made because the selector said so, came back empty: the loop stops -/
  | eof (s : St) (n : Nat) (hn : 0 < n) (hrd : Ready s) (he : (s.sock.recv n).1 = []) :
      Moves cfg s { s with sock := (s.sock.recv n).2, stopped := true }
  /-- `recv` returned a chunk, which is fed at the current tick -/
  | data (s : St) (n : Nat) (hd : (s.sock.recv n).1 ≠ []) :
      Moves cfg s { s with sock := (s.sock.recv n).2, log := s.log ++ [(s.now, (s.sock.recv n).1)] }

variable {cfg : Cfg}

theorem block_moves (t : Nat) (s : St) (hp : cfg.shortcut = true → s.sock.pendingBytes = []) :
    Moves cfg s (block t s).2 :=
  block_cases t s (P := fun r => Moves cfg s r.2) (fun _ => .refl s)
    (fun t' hr hn _ =>
      .trans (.advance s _ hr hp (Nat.le_max_left _ _) (fun t'' h => by
        obtain rfl := Option.some.inj (hn.symm.trans h); exact Nat.le_refl _)) (.deliver _))
    (fun hr hidle => .advance s _ hr hp (Nat.le_add_right _ _) (fun t' h => by
      have := hidle t' h; omega))

/-- `wait_readable` is a chain of moves, and says `True` only of a readable descriptor.  Its token is
    fine because the clock runs only from a state with nothing to read (`block_now_lt`). -/
theorem waitReadable_moves (t : Nat) (s : St) (hp : cfg.shortcut = true → s.sock.pendingBytes = []) :
    Moves cfg s (waitReadable t s).2 ∧ ((waitReadable t s).1 = true → Ready (waitReadable t s).2) :=
  ⟨(block_moves t s hp).trans (.toks _ [_] fun hs => .cons (fun hlt => by
      simp [Sock.kernel_nil_of_not_readable (block_now_lt hlt), hp hs]) .nil),
    fun h => .inl (block_readable t s h)⟩

theorem selWait_moves (cfg : Cfg) {m : Nat} (hm : 0 < m) (s : St) :
    Moves cfg s (selWait cfg m s).2.2 ∧ 0 < (selWait cfg m s).2.1 ∧
    ((selWait cfg m s).1 = true → Ready (selWait cfg m s).2.2) := by
  refine selWait_cases cfg m s (P := fun w => Moves cfg s w.2.2 ∧ 0 < w.2.1 ∧ (w.1 = true → Ready w.2.2)) ?_ ?_
  · intro tr hp htr
    have pre : Moves cfg s { s with trace := tr } := by
      rcases htr with rfl | rfl
      · exact .refl s
      · exact .toks s [.pend 0] fun _ => .cons trivial .nil
    have h := waitReadable_moves cfg.poll { s with trace := tr } hp
    exact ⟨pre.trans h.1, hm, h.2⟩
  · intro n hz hn
    refine ⟨.toks s [.pend n, .pend n] fun _ => .cons trivial (.cons trivial .nil), Nat.pos_of_ne_zero hz,
      fun _ => .inr fun h => ?_⟩
    have := pending?_some hn
    rw [h] at this
    exact hz this.symm

theorem cycle_moves (cfg : Cfg) (s0 : St) : Moves cfg s0 (cycle cfg s0) := by
  refine (Moves.deliver s0).trans ?_
  show Moves cfg (deliverDue s0) (cycleBody cfg (deliverDue s0))
  generalize deliverDue s0 = s
  rcases hw : selWait cfg bufferSize s with ⟨ready, n, s1⟩
  obtain ⟨h1, hn, hrd⟩ : Moves cfg s s1 ∧ 0 < n ∧ (ready = true → Ready s1) :=
    (hw ▸ selWait_moves cfg bufferSize_pos s :)
  have h2 := h1.trans (.toks s1 [Tok.recv s1.now n (s1.sock.recv n).1.length] fun _ => .cons trivial .nil)
  exact cycleBody_cases cfg s hw (P := Moves cfg s) (fun _ => h1)
    (fun hr he => h2.trans (.eof _ n hn (hrd hr) he)) (fun _ hd => h2.trans (.data _ n hd))

theorem run_moves (cfg : Cfg) (n : Nat) (s : St) : Moves cfg s (run cfg n s) :=
  run_preserves cfg (P := Moves cfg s) (fun x hx => hx.trans (cycle_moves cfg x)) n (.refl s)

/-! ### what the moves keep: the bytes (no variant hypothesis, no ordering hypothesis), chunk sizes, waits -/

theorem Moves.content {s s' : St} (m : Moves cfg s s') : content s' = content s := by
  induction m with
  | refl | advance | toks => rfl
  | trans _ _ h1 h2 => exact h2.trans h1
  | deliver s => exact deliverDue_content s
  | eof s n _ _ he =>
    have hc := Sock.recv_conserve n s.sock
    rw [he, List.nil_append] at hc
    simp only [Transport.content, hc]
  | data s n hd =>
    simp only [Transport.content, bytesOf_append, bytesOf_cons, bytesOf_nil, List.append_nil, List.append_assoc]
    rw [← List.append_assoc _ _ (bytesOf s.future), Sock.recv_conserve]

theorem run_content (cfg : Cfg) (n : Nat) (s : St) : content (run cfg n s) = content s :=
  (run_moves cfg n s).content

def ChunksOk (l : List (Nat × Bytes)) : Prop := ∀ c ∈ l, c.2 ≠ [] ∧ c.2.length ≤ bufferSize

theorem Moves.chunksOk {s s' : St} (m : Moves cfg s s') (h : ChunksOk s.log) : ChunksOk s'.log := by
  induction m with
  | refl | deliver | advance | toks | eof => exact h
  | trans _ _ h1 h2 => exact h2 (h1 h)
  | data s n hd =>
    intro c hc
    rcases List.mem_append.mp hc with hc | hc
    · exact h c hc
    · obtain rfl := List.mem_singleton.mp hc
      exact ⟨hd, Nat.le_trans (Sock.recv_length_le_min _ _) (Nat.min_le_right _ _)⟩

theorem Moves.traceOk (hs : cfg.shortcut = true) {s s' : St} (m : Moves cfg s s') (h : TraceOk s.trace) :
    TraceOk s'.trace := by
  induction m with
  | refl | deliver | advance | eof | data => exact h
  | trans _ _ h1 h2 => exact h2 (h1 h)
  | toks _ _ htk => exact h.append (htk hs)

/-! ### every byte is fed at the tick at which it arrived -/

def stamp (t : Nat) (bs : Bytes) : List (Nat × Nat) := bs.map (fun b => (t, b))

def stamps (l : List (Nat × Bytes)) : List (Nat × Nat) := (l.map (fun a => stamp a.1 a.2)).flatten

@[simp] theorem stamp_nil (t : Nat) : stamp t [] = [] := rfl
@[simp] theorem stamp_append (t : Nat) (a b : Bytes) : stamp t (a ++ b) = stamp t a ++ stamp t b := by simp [stamp]
@[simp] theorem stamps_nil : stamps [] = [] := rfl
@[simp] theorem stamps_cons (a : Nat × Bytes) (l) : stamps (a :: l) = stamp a.1 a.2 ++ stamps l := by simp [stamps]
@[simp] theorem stamps_append (l₁ l₂ : List (Nat × Bytes)) : stamps (l₁ ++ l₂) = stamps l₁ ++ stamps l₂ := by
  simp [stamps]

theorem stamps_map_snd (l : List (Nat × Bytes)) : (stamps l).map (·.2) = bytesOf l := by
  induction l with
  | nil => rfl
  | cons a l ih => simp [ih, stamp, Function.comp_def]

theorem stamps_same (t : Nat) (l : List (Nat × Bytes)) (h : ∀ a ∈ l, a.1 = t) : stamps l = stamp t (bytesOf l) := by
  induction l with
  | nil => rfl
  | cons a l ih =>
    have h1 : a.1 = t := h a (by simp)
    have h2 := ih (fun b hb => h b (by simp [hb]))
    simp [h1, h2]

def Sorted (l : List (Nat × Bytes)) : Prop := l.Pairwise (fun a b => a.1 ≤ b.1)

structure SInv (all : List (Nat × Nat)) (s : St) : Prop where
  cons : stamps s.log ++ stamp s.now s.sock.buffered ++ stamps s.future = all
  ge : ∀ a ∈ s.future, s.now ≤ a.1
  sorted : Sorted s.future

theorem deliverDue_SInv {all} {s : St} (h : SInv all s) : SInv all (deliverDue s) := by
  have hsplit := List.takeWhile_append_dropWhile (p := fun a : Nat × Bytes => decide (a.1 ≤ s.now)) (l := s.future)
  have hdue : ∀ a ∈ s.future.takeWhile (fun a => decide (a.1 ≤ s.now)), a.1 = s.now := by
    intro a ha
    have h1 := List.all_eq_true.mp List.all_takeWhile a ha
    have h2 := h.ge a ((List.takeWhile_sublist _).subset ha)
    simp at h1; omega
  refine ⟨?_, ?_, ?_⟩
  · have hc := h.cons
    rw [← hsplit, stamps_append, stamps_same _ _ hdue] at hc
    simp only [deliverDue, pushAll_buffered, stamp_append]
    rw [← hc]
    simp [bytesOf, List.append_assoc]
  · intro a ha
    exact h.ge a ((List.dropWhile_sublist _).subset ha)
  · exact List.Pairwise.sublist (List.dropWhile_sublist _) h.sorted

theorem nextTime_le {s : St} {t : Nat} (hn : nextTime s = some t) (hs : Sorted s.future) :
    ∀ a ∈ s.future, t ≤ a.1 := by
  intro a ha
  unfold nextTime at hn
  split at hn
  · rename_i b rest hb
    simp only [Option.some.injEq] at hn
    rw [hb] at ha hs
    rcases List.mem_cons.mp ha with rfl | ha
    · omega
    · have := (List.pairwise_cons.mp hs).1 a ha
      omega
  · rename_i hb; rw [hb] at ha; cases ha

theorem nextTime_none {s : St} (hn : nextTime s = none) : s.future = [] := by
  unfold nextTime at hn
  split at hn
  · cases hn
  · assumption

theorem Moves.sInv {all} (hs : cfg.shortcut = true) {s s' : St} (m : Moves cfg s s') (h : SInv all s) :
    SInv all s' := by
  induction m with
  | refl => exact h
  | trans _ _ h1 h2 => exact h2 (h1 h)
  | deliver => exact deliverDue_SInv h
  | toks => exact ⟨h.cons, h.ge, h.sorted⟩
  | advance s now' hr hp h0 hn =>
    -- nothing is buffered, so the clock may move without restamping
    have hb := Sock.buffered_nil_of_not_readable hr (hp hs)
    refine ⟨?_, fun a ha => ?_, h.sorted⟩
    · have := h.cons; rw [hb] at this ⊢; simpa using this
    · cases hnt : nextTime s with
      | none => rw [nextTime_none hnt] at ha; cases ha
      | some t' =>
        have := nextTime_le hnt h.sorted a ha
        have := hn t' hnt
        have := h.ge a ha
        show now' ≤ a.1
        omega
  | eof s n _ _ he =>
    have hc := Sock.recv_conserve n s.sock
    rw [he, List.nil_append] at hc
    exact ⟨by simp only [hc]; exact h.cons, h.ge, h.sorted⟩
  | data s n hd =>
    refine ⟨?_, h.ge, h.sorted⟩
    simp only [stamps_append, stamps_cons, stamps_nil, List.append_nil]
    rw [List.append_assoc (stamps _), ← stamp_append, Sock.recv_conserve]
    exact h.cons

theorem init_content (tls : Bool) (arrivals : List (Nat × Bytes)) (eofAt : Option Nat) :
    content (init tls arrivals eofAt) = bytesOf arrivals := by
  cases tls <;> simp [content, init, Sock.buffered]

theorem init_SInv (tls : Bool) (arrivals : List (Nat × Bytes)) (eofAt : Option Nat) (h : Sorted arrivals) :
    SInv (stamps arrivals) (init tls arrivals eofAt) := by
  refine ⟨?_, ?_, h⟩
  · cases tls <;> simp [init, Sock.buffered]
  · intro a _; simp [init]

theorem long_record {r : Bytes} (hr : bufferSize < r.length) :
    r.isEmpty = false ∧ (r.take bufferSize).isEmpty = false ∧ ∃ b p, r.drop bufferSize = b :: p := by
  have hbs := bufferSize_pos
  have hne : ∀ l : Bytes, 0 < l.length → l.isEmpty = false := fun l h => by cases l <;> simp_all
  refine ⟨hne r (by omega), hne _ (by simp; omega), ?_⟩
  cases hd : r.drop bufferSize with
  | nil => have := congrArg List.length hd; simp at this; omega
  | cons b p => exact ⟨b, p, rfl⟩

theorem noShortcut_blocks (r : Bytes) (hr : bufferSize < r.length) (poll : Nat) :
    Tok.wait 0 poll false 0 (r.length - bufferSize) ∈
      (run { poll := poll, shortcut := false } 2 (init true [(0, r)] none)).trace := by
  obtain ⟨h1, h2, -⟩ := long_record hr
  simp [run, cycle, cycleBody, init, deliverDue, selWait, waitReadable, block, nextTime, pushAll, Sock.push,
    Sock.recv, Sock.fdReadable, eofDue, h1, h2, Sock.kernel, Sock.pendingBytes]

/-- the state in which the variant without the short-cut is stuck: decrypted bytes pending,
    nothing in the kernel buffer, nothing more to come -/
structure Stuck (L : List (Nat × Bytes)) (s : St) : Prop where
  sock : ∃ b p, s.sock = .tls [] (b :: p)
  future : s.future = []
  hup : s.hup = false
  eofAt : s.eofAt = none
  stopped : s.stopped = false
  log : s.log = L

theorem cycle_stuck (poll : Nat) {L} {s : St} (h : Stuck L s) :
    Stuck L (cycle { poll := poll, shortcut := false } s) := by
  obtain ⟨b, p, hs⟩ := h.sock
  obtain ⟨now, sock, future, eofAt, hup, log, trace, stopped⟩ := s
  have h2 := h.future; have h3 := h.hup; have h4 := h.eofAt; have h5 := h.stopped; have h6 := h.log
  simp only at hs h2 h3 h4 h5 h6
  subst hs h2 h3 h4 h5 h6
  generalize hc : cycle { poll := poll, shortcut := false } _ = s'
  simp [cycle, cycleBody, deliverDue, selWait, waitReadable, block, nextTime, pushAll, Sock.fdReadable, eofDue] at hc
  subst hc
  exact ⟨⟨b, p, rfl⟩, rfl, rfl, rfl, rfl, rfl⟩

theorem first_cycle_stuck (r : Bytes) (hr : bufferSize < r.length) (poll : Nat) :
    Stuck [(0, r.take bufferSize)] (cycle { poll := poll, shortcut := false } (init true [(0, r)] none)) := by
  obtain ⟨h1, h2, b, p, h3⟩ := long_record hr
  -- the cycle is computed once; the six fields are read off the resulting state
  generalize hs : cycle { poll := poll, shortcut := false } (init true [(0, r)] none) = s
  simp [cycle, cycleBody, init, deliverDue, selWait, waitReadable, block, pushAll, Sock.push,
    Sock.recv, Sock.fdReadable, eofDue, h1, h2, h3] at hs
  subst hs
  exact ⟨⟨b, p, rfl⟩, rfl, rfl, rfl, rfl, rfl⟩

/-- with the short-cut the same record is drained by two reads in the tick of its arrival -/
theorem shortcut_drains (r : Bytes) (hr : bufferSize < r.length) (hr2 : r.length ≤ 2 * bufferSize) (poll : Nat) :
    (run { poll := poll, shortcut := true } 2 (init true [(0, r)] none)).log =
      [(0, r.take bufferSize), (0, r.drop bufferSize)] := by
  obtain ⟨h1, h2, b, p, h3⟩ := long_record hr
  have h4 : (b :: p).length ≤ bufferSize := by rw [← h3]; simp; omega
  have h5 : min (p.length + 1) bufferSize = p.length + 1 := by simp at h4; omega
  simp [run, cycle, cycleBody, init, deliverDue, selWait, waitReadable, block, pushAll, Sock.push,
    Sock.recv, Sock.fdReadable, Sock.pending?, eofDue, h1, h2, h3, h5]

end Lomond.Transport
