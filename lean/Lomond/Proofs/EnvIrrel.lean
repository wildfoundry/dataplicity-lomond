/-
  The environment script stored in the state (`Sys.env`) is read by `runLoop` only: every other
  function of the core model commutes with replacing it (`EnvIrrel`), so the script is never
  modified (`EnvIrrel.env_eq`) and `run` is `runL` over the loop on the stored script (`run_eq_runL`).
  `EnvIrrel m` is `RSpec (QE e) m m` for every script `e` (Proofs/RelSpec.lean): a `yield`, the
  timers and the session loop are proved here, the other functions are instances (`ei_runRel`).
-/
import Lomond.Proofs.Step
import Lomond.Proofs.RunL
import Lomond.Proofs.RelSpec
namespace Lomond.Core.Monitor
open Lomond Lomond.Core Lomond.Core.Rel

def setEnv (e : List EnvStep) (s : Sys) : Sys := { s with env := e }

def Res.mapS (f : Sys → Sys) : Res α → Res α
  | .ok a s => .ok a (f s)
  | .err x s => .err x (f s)

@[simp] theorem Res.mapS_ok (f : Sys → Sys) (a : α) (s : Sys) : Res.mapS f (Res.ok a s) = .ok a (f s) := rfl
@[simp] theorem Res.mapS_err (f : Sys → Sys) (x : Exn) (s : Sys) : Res.mapS f (Res.err x s : Res α) = .err x (f s) := rfl

def EnvIrrel (m : M α) : Prop := ∀ e s, m (setEnv e s) = Res.mapS (setEnv e) (m s)

theorem ei_pure (a : α) : EnvIrrel (pure a : M α) := fun _ _ => rfl
theorem ei_throwE (x : Exn) : EnvIrrel (throwE x : M α) := fun _ _ => rfl

def QE (e : List EnvStep) (s u : Sys) : Prop := u = setEnv e s

theorem ei_iff {m : M α} : EnvIrrel m ↔ ∀ e, RSpec (QE e) m m := by
  constructor
  · intro h e s u q
    cases q
    rw [h e s]
    cases m s <;> exact ⟨rfl, rfl⟩
  · intro h e s
    have h0 := h e s _ rfl
    cases hm : m s with
    | ok a s1 => rw [hm] at h0; obtain ⟨u1, e', q⟩ := h0.ok_inv; rw [e', q]; rfl
    | err x s1 => rw [hm] at h0; obtain ⟨u1, e', q⟩ := h0.err_inv; rw [e', q]; rfl

theorem ei_bind {m : M α} {f : α → M β} (hm : EnvIrrel m) (hf : ∀ a, EnvIrrel (f a)) :
    EnvIrrel (m >>= f) :=
  ei_iff.mpr (fun e => rs_bind (ei_iff.mp hm e) (fun a => ei_iff.mp (hf a) e))

theorem ei_getS_bind {f : Sys → M α} (h1 : ∀ e s, f (setEnv e s) = f s) (h2 : ∀ s, EnvIrrel (f s)) :
    EnvIrrel (getS >>= f) :=
  ei_iff.mpr (fun e => rs_getS_bind (fun s u q => by cases q; rw [h1]; exact ei_iff.mp (h2 s) e))

theorem ei_modS {f : Sys → Sys} (h : ∀ e s, f (setEnv e s) = setEnv e (f s)) : EnvIrrel (modS f) :=
  ei_iff.mpr (fun e => rs_modS (fun s u q => by cases q; exact h e s))

theorem ei_actRel (e : List EnvStep) : ActRel (QE e) where
  cfg q := by cases q; rfl
  sockOpen q := by cases q; rfl
  closed q := by cases q; rfl
  closing q := by cases q; rfl
  compression q := by cases q; rfl
  key q := by cases q; rfl
  outcome d z _ _ q := by cases q; rfl
  sockClosed q := by cases q; rfl
  wrote w _ _ q := by cases q; cases w <;> rfl
  drawn q := by cases q; rfl
  logged o _ _ q := by cases q; rfl
  abandoned w _ _ q := by cases q; rfl
  closeSent q := by cases q; rfl

theorem mon_ei_closeSocket : EnvIrrel closeSocket := ei_iff.mpr (fun e => (ei_actRel e).closeSocket)

theorem ei_write (d : Bytes) (z : Option (Nat × Bytes)) : EnvIrrel (write d z) :=
  ei_iff.mpr (fun e => (ei_actRel e).write d z)

theorem ei_sendFrame (op : Nat) (pl : Bytes) (c : Option Bytes) : EnvIrrel (sendFrame op pl c) :=
  ei_iff.mpr (fun e => (ei_actRel e).sendFrame op pl c)

theorem ei_yieldEv (ev : Event) : EnvIrrel (yieldEv ev) := by
  unfold yieldEv
  refine ei_bind (ei_modS (fun _ _ => rfl)) (fun _ => ei_getS_bind (fun _ _ => rfl) (fun s => ?_))
  exact ei_iff.mpr (fun e => (ei_actRel e).doActs _)

theorem ei_checkPoll : EnvIrrel checkPoll := by
  unfold checkPoll
  refine ei_getS_bind (fun _ _ => rfl) (fun s => ?_)
  simp only []
  splits
  all_goals first
    | exact ei_pure _
    | exact ei_bind (ei_modS (fun _ _ => rfl)) (fun _ => ei_yieldEv _)

theorem ei_checkAutoPing : EnvIrrel checkAutoPing := by
  unfold checkAutoPing
  refine ei_getS_bind (fun _ _ => rfl) (fun s => ?_)
  simp only []
  split
  · exact ei_bind (ei_modS (fun _ _ => rfl)) (fun _ => ei_bind (ei_sendFrame _ _ _) (fun _ => ei_pure _))
  · exact ei_pure _

theorem ei_checkPingTimeout : EnvIrrel checkPingTimeout := by
  unfold checkPingTimeout
  refine ei_getS_bind (fun _ _ => rfl) (fun s => ?_)
  simp only []
  split
  · exact ei_bind (ei_yieldEv _) (fun _ => ei_throwE _)
  · exact ei_pure _

theorem ei_checkCloseTimeout : EnvIrrel checkCloseTimeout := by
  unfold checkCloseTimeout
  refine ei_getS_bind (fun _ _ => rfl) (fun s => ?_)
  simp only []
  splits
  all_goals first | exact ei_pure _ | exact ei_throwE _

theorem ei_regular : EnvIrrel regular := by
  unfold regular
  refine ei_getS_bind (fun _ _ => rfl) (fun s => ?_)
  split
  · exact ei_bind ei_checkPoll (fun _ => ei_bind ei_checkAutoPing
      (fun _ => ei_bind ei_checkPingTimeout (fun _ => ei_checkCloseTimeout)))
  · exact ei_pure _

theorem ei_runRel (e : List EnvStep) : RunRel (QE e) where
  toActRel := ei_actRel e
  setFlags a b _ _ q := by cases q; rfl
  setClosing q := by cases q; rfl
  becameReady q := by cases q; rfl
  gotPong q := by cases q; rfl
  yieldEv ev := ei_iff.mp (ei_yieldEv ev) e
  regular := ei_iff.mp ei_regular e
  p q := by cases q; rfl
  frames q := by cases q; rfl
  decompress q := by cases q; rfl
  inflHist q := by cases q; rfl
  inflOut q := by cases q; rfl
  setP p' _ _ q := by cases q; rfl
  setFrames g _ _ q := by cases q; rfl
  setParsed q := by cases q; rfl
  accept d _ _ q := by cases q; rfl
  inflated h n _ _ q := by cases q; rfl
  selOpen q := by cases q; rfl
  setSock q := by cases q; rfl
  setSel b _ _ q := by cases q; rfl
  selClosed q := by cases q; rfl

theorem ei_recvStep (o : RecvOutcome) : EnvIrrel (recvStep o) :=
  ei_iff.mpr (fun e => (ei_runRel e).recvStep o)

theorem tick_setEnv (e : List EnvStep) (s : Sys) (dt : Nat) : tick (setEnv e s) dt = setEnv e (tick s dt) := rfl

theorem ei_loop (env : List EnvStep) : EnvIrrel (loop env) := by
  induction env with
  | nil =>
    intro e s
    unfold loop
    by_cases hc : s.closed = true
    · have hc' : (setEnv e s).closed = true := hc
      rw [if_pos hc, if_pos hc']; rfl
    · have hc' : ¬ (setEnv e s).closed = true := hc
      rw [if_neg hc, if_neg hc']; rfl
  | cons st rest ih =>
    intro e s
    unfold loop
    by_cases hc : s.closed = true
    · have hc' : (setEnv e s).closed = true := hc
      rw [if_pos hc, if_pos hc']; rfl
    · have hc' : ¬ (setEnv e s).closed = true := hc
      rw [if_neg hc, if_neg hc']
      cases st with
      | selErr => rfl
      | wait dt readable =>
        simp only []
        unfold regularTop
        rw [tick_setEnv, ei_regular e (tick s dt)]
        cases hr : regular (tick s dt) with
        | err x s2 => rfl
        | ok u s2 =>
          simp only [Res.mapS_ok]
          cases readable with
          | none => exact ih e s2
          | some o =>
            simp only []
            rw [ei_recvStep o e s2]
            cases hr2 : recvStep o s2 with
            | err x s3 => rfl
            | ok go s3 =>
              cases go with
              | true => exact ih e s3
              | false => rfl

theorem ei_runBody (env : List EnvStep) : EnvIrrel (runBody env) :=
  ei_iff.mpr (fun e => (ei_runRel e).runBodyL (ei_iff.mp (ei_loop env) e))

theorem ei_yieldConnected (proxy : Bool) : EnvIrrel (yieldConnected proxy) :=
  ei_iff.mpr (fun e => (ei_runRel e).yieldConnected proxy)

theorem EnvIrrel.env_eq {m : M α} (h : EnvIrrel m) (s : Sys) : (m s).state.env = s.env := by
  have h1 := h s.env s
  have h2 : setEnv s.env s = s := rfl
  rw [h2] at h1
  cases hm : m s with
  | ok a s' => rw [hm] at h1; simp only [Res.mapS_ok, Res.ok.injEq, true_and] at h1; rw [h1]; rfl
  | err x s' => rw [hm] at h1; simp only [Res.mapS_err, Res.err.injEq, true_and] at h1; rw [h1]; rfl

theorem EnvIrrel.env_ok {m : M α} (h : EnvIrrel m) {s s' : Sys} {a : α} (hs : m s = .ok a s') : s'.env = s.env := by
  have := h.env_eq s; rw [hs] at this; exact this

theorem EnvIrrel.env_err {m : M α} (h : EnvIrrel m) {s s' : Sys} {x : Exn} (hs : m s = .err x s') : s'.env = s.env := by
  have := h.env_eq s; rw [hs] at this; exact this

theorem ei_runL {l : M Unit} (hl : EnvIrrel l) : EnvIrrel (runL l) :=
  ei_iff.mpr (fun e => (ei_runRel e).runL (ei_iff.mp hl e))

theorem afterConnect_eq_L (proxy : Bool) (s : Sys) : afterConnect proxy s = afterConnectL (loop s.env) proxy true s := by
  unfold afterConnect afterConnectL
  have h0 : modS (fun s => { s with sockOpen := true }) s = .ok () { s with sockOpen := true } := rfl
  rw [bind_ok h0, bind_ok h0]
  rw [getS_bind]
  rw [getS_bind]
  obtain ⟨r, s1, hw⟩ := write_returns s.cfg.request none { s with sockOpen := true }
  have e1 : s1.env = s.env := (ei_write _ _).env_ok (s := { s with sockOpen := true }) hw
  rw [bind_ok hw, bind_ok hw]
  split
  · rfl
  · cases hy : yieldConnected proxy s1 with
    | err x s2 => rw [bind_err hy, bind_err hy]
    | ok u s2 =>
      have e2 : s2.env = s1.env := (ei_yieldConnected proxy).env_ok hy
      rw [bind_ok hy, bind_ok hy]
      have h3 : modS (fun s => { s with selOpen := true }) s2 = .ok () { s2 with selOpen := true } := rfl
      rw [bind_ok h3, bind_ok h3, runLoop_eq_L]
      show runLoopL (loop s2.env) _ = _
      rw [e2, e1]

theorem run_eq_runL (s : Sys) : run s = runL (loop s.env) s := by
  unfold run runL
  cases hy : yieldEv .connecting s with
  | err x s1 => rw [bind_err hy, bind_err hy]
  | ok u s1 =>
    have e1 : s1.env = s.env := (ei_yieldEv _).env_ok hy
    rw [bind_ok hy, bind_ok hy]
    rw [getS_bind, getS_bind]
    cases hc : s1.cfg.connect with
    | socketFail => rfl
    | otherFail => rfl
    | ok proxy => simp only []; rw [afterConnect_eq_L, e1]
    | selFail proxy => rfl

end Lomond.Core.Monitor
