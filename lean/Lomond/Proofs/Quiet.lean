/-
  `Quiet`: steps that leave the compression contexts alone.

  `Quiet s s'` says: the negotiated configuration, the decompress switch, the compressed history
  and the delivered count are the same in `s'` as in `s`, the trace only grew, and — when nothing
  is negotiated — no compressed frame (`Obs.wrz`) was written.  It is proved, by composition, for
  every function of the core model from the socket write up to the dispatch of one message to the
  application (`onMessage`), *including everything the application does in reaction* (sends,
  pings, close, …) and the timers that run after the event.  The only places of the model that are
  not `Quiet` are `inflateMessage` (a compressed message advances the context) and the handshake
  response (which sets the configuration).

  Same structure as Proofs/Step.lean.
-/
import Lomond.Proofs.Step
namespace Lomond.Core
open Lomond

def NoWrz (l : List Obs) : Prop := ∀ op pl, Obs.wrz op pl ∉ l

theorem noWrz_nil : NoWrz [] := fun _ _ h => by cases h

theorem noWrz_append {a b : List Obs} (ha : NoWrz a) (hb : NoWrz b) : NoWrz (a ++ b) := by
  intro op pl hm
  rcases List.mem_append.mp hm with h | h
  · exact ha op pl h
  · exact hb op pl h

structure Quiet (s s' : Sys) : Prop where
  comp : s'.compression = s.compression
  dec : s'.decompress = s.decompress
  hist : s'.inflHist = s.inflHist
  out : s'.inflOut = s.inflOut
  tr : ∃ l, s'.trace = l ++ s.trace ∧ (s.compression = none → NoWrz l)

theorem quiet_po : PO Quiet where
  refl s := ⟨rfl, rfl, rfl, rfl, [], rfl, fun _ => noWrz_nil⟩
  trans := by
    intro a b c h1 h2
    obtain ⟨l1, e1, n1⟩ := h1.tr
    obtain ⟨l2, e2, n2⟩ := h2.tr
    refine ⟨h2.comp.trans h1.comp, h2.dec.trans h1.dec, h2.hist.trans h1.hist, h2.out.trans h1.out,
      l2 ++ l1, by rw [e2, e1, List.append_assoc], fun hc => ?_⟩
    exact noWrz_append (n2 (h1.comp.trans hc)) (n1 hc)

theorem quiet_same {s s' : Sys} (hc : s'.compression = s.compression)
    (hd : s'.decompress = s.decompress) (hh : s'.inflHist = s.inflHist) (ho : s'.inflOut = s.inflOut)
    (ht : s'.trace = s.trace) : Quiet s s' :=
  ⟨hc, hd, hh, ho, [], ht, fun _ => noWrz_nil⟩

theorem quiet_cons {s s' : Sys} (o : Obs) (hc : s'.compression = s.compression)
    (hd : s'.decompress = s.decompress) (hh : s'.inflHist = s.inflHist) (ho : s'.inflOut = s.inflOut)
    (ht : s'.trace = o :: s.trace) (hz : s.compression = none → ∀ op pl, o ≠ .wrz op pl) : Quiet s s' :=
  ⟨hc, hd, hh, ho, [o], ht, fun hn op pl hm => hz hn op pl (List.mem_singleton.mp hm).symm⟩

theorem quiet_leaves : TimerLeaves Quiet :=
  { quiet_po with
    sockClose := fun s _ => quiet_cons _ rfl rfl rfl rfl rfl (fun _ _ _ h => nomatch h)
    key := fun s => quiet_same rfl rfl rfl rfl rfl
    wr := fun s d o _ _ _ ho => quiet_cons o rfl rfl rfl rfl rfl (fun _ op pl h => by
      subst h; rcases ho with h | h <;> cases h)
    wrz := fun s op pl o _ _ _ hc _ => quiet_cons o rfl rfl rfl rfl rfl (fun hn => by
      rw [hn] at hc; cases hc)
    closeSent := fun s => quiet_same rfl rfl rfl rfl rfl
    res := fun s r => quiet_cons _ rfl rfl rfl rfl rfl (fun _ _ _ h => nomatch h)
    abandon := fun s w => quiet_same rfl rfl rfl rfl rfl
    ev := fun s e => quiet_cons _ rfl rfl rfl rfl rfl (fun _ _ _ h => nomatch h)
    polled := fun s => quiet_same rfl rfl rfl rfl rfl
    pinged := fun s _ _ => quiet_same rfl rfl rfl rfl rfl
    becameReady := fun s => quiet_same rfl rfl rfl rfl rfl
    gotPong := fun s => quiet_same rfl rfl rfl rfl rfl
    disconnected := fun s => quiet_same rfl rfl rfl rfl rfl }

theorem quiet_onMessage_z (m : Msg) : Spec Quiet (onMessage m) :=
  spec_onMessage quiet_po m
    (fun c r => spec_onClose quiet_po c r (quiet_leaves.feedYield _ _) (quiet_leaves.feedYield _ _)
      (quiet_leaves.wsClose _ _)
      (fun _ => quiet_same rfl rfl rfl rfl rfl) (fun _ => quiet_same rfl rfl rfl rfl rfl))
    (fun e _ => quiet_leaves.feedYield true e)

/-- **a control frame with RSV1=0 (or any control frame when nothing is negotiated)**: parsing it
    into a message, handing it to the application (which may send, ping, close, …), answering a
    Ping, running the timers — none of it touches the compression contexts -/
theorem quiet_onFrame_control (f : Frame) (s : Sys) (hc : f.isControl = true)
    (h : f.rsv1 = 0 ∨ s.decompress = false) : Quiet s (onFrame f s).state := by
  unfold onFrame
  simp only [hc, if_true]
  have := Pong.bind_state_rel quiet_po (m := buildMessage [f]) quiet_onMessage_z s
  rwa [buildMessage_plain_state f [] s h] at this

/-- a data frame: a non-final fragment is only stored; the frame that completes an
    **uncompressed** message (first fragment RSV1=0) delivers it — the contexts are untouched -/
theorem quiet_onDataFrame_plain (f : Frame) (s : Sys)
    (h : (∀ g ∈ (s.frames ++ [f]).head?, g.rsv1 = 0) ∨ s.decompress = false) :
    Quiet s (onDataFrame f s).state := by
  unfold onDataFrame
  rw [getS_bind]
  split
  · exact quiet_po.refl _
  · split
    · exact quiet_po.refl _
    · rw [modS_bind]
      split
      · rw [getS_bind]
        simp only []
        -- the list is not empty: its head decides whether the message is inflated
        cases hfs : s.frames ++ [f] with
        | nil => simp at hfs
        | cons g gs =>
          have hg : g.rsv1 = 0 ∨ ({ s with frames := g :: gs } : Sys).decompress = false :=
            h.imp (fun h => h g (by rw [hfs]; rfl)) id
          have := Pong.bind_state_rel quiet_po (m := buildMessage (g :: gs))
            (fun m => spec_bind quiet_po (quiet_onMessage_z m)
              (fun _ => spec_modS (fun s => quiet_same (s' := { s with frames := [] }) rfl rfl rfl rfl rfl)))
            { s with frames := g :: gs }
          rw [buildMessage_plain_state g gs _ hg] at this
          exact quiet_po.trans (b := { s with frames := g :: gs }) (quiet_same rfl rfl rfl rfl rfl) this
      · exact quiet_same rfl rfl rfl rfl rfl

end Lomond.Core
