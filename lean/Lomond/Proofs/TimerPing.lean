/-
  The ping timeout over a whole connection (C15): the invariant `UI` with slack (`_last_pong` is the
  newest sign of life on the trace, `UW`; not overdue by more than the slack, `Ufresh`; the newest event
  is not Unresponsive, `NU`) and the clause `EU` make the timer an instance of `Timer` (`timerU`);
  `iu_top` turns `_ForceDisconnect('ping-timeout')` into the rules `UnrespHi`, `UNext`, `TickU`, `EndU`.
  Result: `finU_runAll`.
-/
import Lomond.Proofs.TimerClose
namespace Lomond.Core.TimerRun
open Lomond Lomond.Core Lomond.Core.Lift Lomond.Core.Pong Lomond.Core.Timers Lomond.Core.LiftX

def newestEv : List Obs → Option Event
  | [] => none
  | .ev e :: _ => some e
  | _ :: t => newestEv t

/-- **the Unresponsive rule with its upper bound**: every Unresponsive event happens after Ready with
    the ping timeout enabled, more than `pt` after the newest sign of life, and — when `hi` — at most
    `pt + D` after it -/
def UnrespHi (pt D : Nat) (hi : Bool) : List Obs → Prop
  | [] => True
  | o :: t => (o = .ev .unresponsive → pt ≠ 0 ∧ readyAt t ≠ none ∧ lastAlive t + pt < sessOf t ∧
      (hi = true → sessOf t ≤ lastAlive t + pt + D)) ∧ UnrespHi pt D hi t

/-- **nothing but `Disconnected('ping-timeout', graceful=False)` follows Unresponsive** -/
def UNext : List Obs → Prop
  | [] => True
  | o :: t => (∀ e, o = .ev e → newestEv t = some .unresponsive → e = .disconnected "ping-timeout" false) ∧ UNext t

/-- **the loop never goes back to `selector.wait` with the ping timeout overdue** (and clock marks
    do not run backwards) -/
def TickU (pt : Nat) : List Obs → Prop
  | [] => True
  | o :: t => (∀ n, o.tmTickVal = some n → clockOf t ≤ n ∧
      (pt ≠ 0 → readyAt t ≠ none → sessOf t ≤ lastAlive t + pt)) ∧ TickU pt t

def unrespAt (pt D : Nat) (hi : Bool) (o : Obs) (t : List Obs) : Prop :=
  o = .ev .unresponsive → pt ≠ 0 ∧ readyAt t ≠ none ∧ lastAlive t + pt < sessOf t ∧
    (hi = true → sessOf t ≤ lastAlive t + pt + D)

theorem unrespHi_hist (pt D : Nat) (hi : Bool) : IsHist (UnrespHi pt D hi) (unrespAt pt D hi) :=
  hist_of_rec trivial (fun _ _ => Iff.rfl)

def unextAt (o : Obs) (t : List Obs) : Prop :=
  ∀ e, o = .ev e → newestEv t = some .unresponsive → e = .disconnected "ping-timeout" false

theorem unext_hist : IsHist UNext unextAt := hist_of_rec trivial (fun _ _ => Iff.rfl)

def tickUAt (pt : Nat) (o : Obs) (t : List Obs) : Prop :=
  ∀ n, o.tmTickVal = some n → clockOf t ≤ n ∧ (pt ≠ 0 → readyAt t ≠ none → sessOf t ≤ lastAlive t + pt)

theorem tickU_hist (pt : Nat) : IsHist (TickU pt) (tickUAt pt) := hist_of_rec trivial (fun _ _ => Iff.rfl)

theorem unrespHi_ignores (pt D : Nat) (hi : Bool) : Ignores (UnrespHi pt D hi) (fun o => o ≠ .ev .unresponsive) :=
  (unrespHi_hist pt D hi).ignores (fun _ _ ho e => absurd e ho)

theorem tickU_ignores (pt : Nat) : Ignores (TickU pt) (fun o => o.tmTickVal = none) :=
  (tickU_hist pt).ignores (fun o t ho n hn => by rw [ho] at hn; cases hn)

theorem ne_unresp_of_neutral {o : Obs} (h : o.tmNeutral = true) : o ≠ .ev .unresponsive := by
  intro e; subst e; cases h

theorem newestEv_cons_nonEv {o : Obs} (t : List Obs) (h : ∀ e, o ≠ .ev e) : newestEv (o :: t) = newestEv t := by
  cases o <;> first | rfl | exact absurd rfl (h _)

def Plain (o : Obs) : Prop := (∀ e, o ≠ .ev e) ∧ o.tmTickVal = none

theorem newestEv_append_plain (l tr : List Obs) (hl : ∀ o ∈ l, Plain o) : newestEv (l ++ tr) = newestEv tr :=
  Ignores.append (fun _ t ho => newestEv_cons_nonEv t ho.1) l tr hl

theorem unext_ignores : Ignores UNext (fun o => ∀ e, o ≠ .ev e) :=
  unext_hist.ignores (fun _ _ ho e he => absurd he (ho e))

theorem reaction_appends (e : Event) (s : Sys) :
    ∃ l, (yieldEv e s).state.trace = l ++ .ev e :: s.trace ∧ ∀ o ∈ l, Neutral o ∧ Plain o := by
  obtain ⟨l, el, n⟩ := (quietP_doActs _ (Core.pushEv e s)).trace
  obtain ⟨l', el', n'⟩ := (Monitor.keeps_doActs _ (Core.pushEv e s)).trace
  cases List.append_cancel_right (el'.symm.trans el)
  exact ⟨l, el, fun o ho => ⟨n o ho, ⟨fun e' he' => (by have := n' o ho; rw [he'] at this; cases this),
    ((neutral_iff o).mp (n o ho)).1⟩⟩⟩

theorem unext_append (l t : List Obs) (hl : ∀ o ∈ l, o ≠ .ev .unresponsive) (h : UNext t)
    (hn : newestEv t ≠ some .unresponsive) :
    UNext (l ++ t) ∧ newestEv (l ++ t) ≠ some .unresponsive := by
  induction l with
  | nil => exact ⟨h, hn⟩
  | cons o r ih =>
    obtain ⟨h1, h2⟩ := ih (fun o ho => hl o (List.mem_cons_of_mem _ ho))
    rw [List.cons_append]
    refine ⟨⟨fun e _ hx => absurd hx h2, h1⟩, ?_⟩
    cases o with
    | ev e =>
      show some e ≠ some .unresponsive
      intro hx
      cases hx
      exact hl _ List.mem_cons_self rfl
    | _ => exact h2

/-- the ping-timeout facts that hold in **every** state of a connection -/
structure UW (hi : Bool) (cfg0 : Cfg) (s : Sys) : Prop where
  alive : s.lastPong = lastAlive s.trace
  uhi : UnrespHi cfg0.pingTimeout cfg0.poll hi s.trace
  unext : UNext s.trace
  tok : TickU cfg0.pingTimeout s.trace
  nd : discAny s.trace = false

theorem UW.cons {hi : Bool} {cfg0 : Cfg} {s s' : Sys} {o : Obs} (h : UW hi cfg0 s) (e : s'.trace = o :: s.trace)
    (ha : s'.lastPong = lastAlive (o :: s.trace))
    (hu : unrespAt cfg0.pingTimeout cfg0.poll hi o s.trace) (hn : unextAt o s.trace)
    (ht : tickUAt cfg0.pingTimeout o s.trace)
    (hd : isDiscEv o = false) : UW hi cfg0 s' := by
  refine ⟨by rw [ha, e], ?_, ?_, ?_, ?_⟩ <;> rw [e]
  · exact ⟨hu, h.uhi⟩
  · exact ⟨hn, h.unext⟩
  · exact ⟨ht, h.tok⟩
  · simp only [discAny, List.any_cons, hd, Bool.false_or]; exact h.nd

/-- **the ping timeout is not overdue** by more than the slack `sl` -/
def Ufresh (cfg0 : Cfg) (sl : Nat) (s : Sys) : Prop :=
  cfg0.pingTimeout ≠ 0 → readyAt s.trace ≠ none → sessOf s.trace ≤ lastAlive s.trace + cfg0.pingTimeout + sl

/-- the newest event is not Unresponsive: the ping timeout has not fired -/
def NU (s : Sys) : Prop := newestEv s.trace ≠ some .unresponsive

/-- the ping-timeout invariant with slack `sl`: clock invariant, the facts of every state, not overdue by
    more than `sl`, Unresponsive not yielded -/
structure UI (hi : Bool) (cfg0 : Cfg) (env0 : List EnvStep) (sl : Nat) (s : Sys) : Prop where
  b : Base cfg0 env0 s
  w : UW hi cfg0 s
  f : Ufresh cfg0 sl s
  nu : NU s

def RU (hi : Bool) (cfg0 : Cfg) (env0 : List EnvStep) (sl : Nat) (s s' : Sys) : Prop :=
  UI hi cfg0 env0 sl s → UI hi cfg0 env0 sl s'

section PingTimeoutInv
variable {hi : Bool} {cfg0 : Cfg} {env0 : List EnvStep} {sl : Nat}

set_option linter.unusedVariables false in
theorem discAny_append_neutral (l t : List Obs) (h : ∀ o ∈ l, Obs.tmNeutral o = true)
    (hd : ∀ o ∈ l, isDiscEv o = false) : discAny (l ++ t) = discAny t :=
  Ignores.append (fun o t ho => by simp only [discAny, List.any_cons, ho, Bool.false_or]) l t hd

/-- the ping-timeout facts through a step the timers do not see that yields no `Disconnected`; what
    `UNext` says of the new entries depends on the newest event and is left to the caller -/
theorem UW.ext {s s' : Sys} (h : UW hi cfg0 s) (q : QuietP s s') (e : Ext NoDiscEv s s') (hn : UNext s'.trace) :
    UW hi cfg0 s' := by
  obtain ⟨l, el, n⟩ := q.trace
  refine ⟨?_, ?_, hn, ?_, by rw [discAny_ext e]; exact h.nd⟩
  · rw [q.lastPong, el, lastAlive_neutral.append l _ n]; exact h.alive
  · rw [el, (unrespHi_ignores _ _ _).append l _ (fun o ho => ne_unresp_of_neutral (n o ho))]; exact h.uhi
  · rw [el, (tickU_ignores _).append l _ (fun o ho => ((neutral_iff o).mp (n o ho)).1)]; exact h.tok

theorem UI.quiet {s s' : Sys} (h : UI hi cfg0 env0 sl s) (q : QuietP s s') (e : Ext NoDiscEv s s') :
    UI hi cfg0 env0 sl s' := by
  obtain ⟨l, el, n⟩ := q.trace
  obtain ⟨u1, u2⟩ := unext_append l s.trace (fun o ho => ne_unresp_of_neutral (n o ho)) h.w.unext h.nu
  refine ⟨h.b.quiet q, h.w.ext q e (el ▸ u1), ?_, by show newestEv s'.trace ≠ _; rw [el]; exact u2⟩
  intro hp hr
  rw [el, readyAt_neutral.append l _ n] at hr
  rw [el, sessOf_append_neutral l _ n, lastAlive_neutral.append l _ n]
  exact h.f hp hr

theorem ru_of_quiet {m : M α} (hq : Spec QuietP m) (he : Spec (Ext NoDiscEv) m) : Spec (RU hi cfg0 env0 sl) m :=
  fun s h => h.quiet (hq s) (he s)

theorem UI.same {s s' : Sys} (h : UI hi cfg0 env0 sl s) (e1 : s'.cfg = s.cfg) (e2 : s'.env = s.env)
    (e3 : s'.now = s.now) (e4 : s'.startTime = s.startTime) (e5 : s'.ready = s.ready)
    (e6 : s'.lastPong = s.lastPong) (e10 : s'.trace = s.trace) : UI hi cfg0 env0 sl s' := by
  refine ⟨⟨e1.trans h.b.cfg, e2.trans h.b.env, by rw [e3, e10]; exact h.b.now, by rw [e4, e10]; exact h.b.start,
    by rw [e5, e4]; exact h.b.rdy⟩, ⟨by rw [e6, e10]; exact h.w.alive, by rw [e10]; exact h.w.uhi,
    by rw [e10]; exact h.w.unext, by rw [e10]; exact h.w.tok, by rw [e10]; exact h.w.nd⟩, ?_, ?_⟩
  · unfold Ufresh; rw [e10]; exact h.f
  · unfold NU; rw [e10]; exact h.nu

end PingTimeoutInv

section PingTimeoutSteps
variable {hi : Bool} {cfg0 : Cfg} {env0 : List EnvStep} {sl : Nat}

theorem UI.pushEv {s : Sys} (h : UI hi cfg0 env0 sl s) (e : Event) (h1 : (Obs.ev e).tmIsReady = false)
    (h2 : (Obs.ev e).tmIsPong = false) (h3 : e ≠ .unresponsive) (h4 : isDiscEv (.ev e) = false) :
    UI hi cfg0 env0 sl (pushEv e s) := by
  have hs : sessOf (.ev e :: s.trace) = sessOf s.trace := sessOf_cons_of _ rfl h1
  have hr : readyAt (.ev e :: s.trace) = readyAt s.trace := readyAt_cons_of _ h1
  have ha : lastAlive (.ev e :: s.trace) = lastAlive s.trace := lastAlive_cons_of _ h1 h2
  have hne : Obs.ev e ≠ .ev .unresponsive := fun hx => h3 (by cases hx; rfl)
  refine ⟨⟨h.b.cfg, h.b.env, ?_, ?_, h.b.rdy⟩,
    h.w.cons (o := .ev e) rfl (ha.symm ▸ h.w.alive) (fun hx => absurd hx hne) (fun _ _ hx => absurd hx h.nu)
      (fun n hn => by cases hn) h4, ?_, ?_⟩
  · show s.now = clockOf (.ev e :: s.trace)
    rw [clockOf_cons_of _ rfl]; exact h.b.now
  · show s.startTime = readyAt (.ev e :: s.trace)
    rw [hr]; exact h.b.start
  · intro hp hrr
    show sessOf (.ev e :: s.trace) ≤ lastAlive (.ev e :: s.trace) + _ + _
    rw [hs, ha]
    exact h.f hp (by rw [← hr]; exact hrr)
  · show some e ≠ some .unresponsive
    intro hx; cases hx; exact h3 rfl

theorem ru_doActs (as : List Act) : Spec (RU hi cfg0 env0 sl) (doActs as) :=
  ru_of_quiet (quietP_doActs as) (ext_doActs timers_noDisc as)

theorem ru_yieldEv (e : Event) (h1 : (Obs.ev e).tmIsReady = false) (h2 : (Obs.ev e).tmIsPong = false)
    (h3 : e ≠ .unresponsive) (h4 : isDiscEv (.ev e) = false) : Spec (RU hi cfg0 env0 sl) (yieldEv e) := by
  intro s hs
  rw [yieldEv_eq]
  exact ru_doActs _ _ (hs.pushEv e h1 h2 h3 h4)

theorem ru_checkPoll : Spec (RU hi cfg0 env0 sl) checkPoll :=
  spec_checkPoll (Monitor.pres_po _) (fun s h => h.same rfl rfl rfl rfl rfl rfl rfl)
    (ru_yieldEv _ rfl rfl (fun h => by cases h) rfl)

theorem ru_checkAutoPing : Spec (RU hi cfg0 env0 sl) checkAutoPing :=
  ru_of_quiet quietP_checkAutoPing (ext_atYield timers_noDisc).calls.checkAutoPing

theorem ru_checkCloseTimeout : Spec (RU hi cfg0 env0 sl) checkCloseTimeout :=
  ru_of_quiet quietP_checkCloseTimeout (spec_checkCloseTimeout (ext_po _))

theorem UI.tick {s : Sys} (h : UI hi cfg0 env0 0 s) (dt : Nat) : UI hi cfg0 env0 dt (tick s dt) := by
  by_cases h0 : dt = 0
  · subst h0; rw [Core.tick_zero]; exact h
  · have hb := h.b.tick dt
    rw [tick_pos s dt h0] at hb ⊢
    refine ⟨hb, h.w.cons (o := .tick (s.now + dt)) rfl ((lastAlive_tick _ _).symm ▸ h.w.alive) (fun hx => by cases hx)
      (fun e hx => by cases hx) ?_ rfl, ?_, ?_⟩
    · intro n hn
      cases hn
      rw [← h.b.now]
      exact ⟨by omega, fun hp hr => by have := h.f hp hr; omega⟩
    · intro hp hr
      show sessOf (.tick (s.now + dt) :: s.trace) ≤ lastAlive (.tick (s.now + dt) :: s.trace) + _ + dt
      rw [lastAlive_tick]
      have h1 := h.f hp (by rw [← readyAt_tick (s.now + dt) s.trace]; exact hr)
      have h2 := sessOf_tick_le (n := s.now + dt) s.trace (Nat.le_of_eq (by rw [h.b.now]))
      omega
    · exact h.nu

/-- the newest event is Unresponsive: the ping timeout has fired -/
def LastU (s : Sys) : Prop := newestEv s.trace = some .unresponsive

def PtOutU (hi : Bool) (cfg0 : Cfg) (env0 : List EnvStep) (sl : Nat) : Res Unit → Prop
  | .ok _ s' => UI hi cfg0 env0 0 s'
  | .err x s' => Base cfg0 env0 s' ∧ UW hi cfg0 s' ∧ LastU s' ∧ sl ≠ 0 ∧
      (x = .genExit ∨ x = .forceDisconnect "ping-timeout")

theorem checkPingTimeout_U {s : Sys} (h : UI hi cfg0 env0 sl s) (hsl : hi = true → sl ≤ cfg0.poll) :
    PtOutU hi cfg0 env0 sl (checkPingTimeout s) := by
  by_cases hd : pingTimeoutDue s
  · rw [checkPingTimeout_fires s hd]
    obtain ⟨hp, hgt⟩ := hd
    rw [h.b.cfg] at hp hgt
    rw [h.b.sess, h.w.alive] at hgt
    have hrdy : readyAt s.trace ≠ none := by
      intro hn
      have : sessOf s.trace = 0 := by unfold sessOf; rw [hn]
      omega
    have hf := h.f hp hrdy
    have pw : UW hi cfg0 (Core.pushEv .unresponsive s) :=
      h.w.cons (o := .ev .unresponsive) rfl
        ((lastAlive_cons_of (o := .ev .unresponsive) s.trace rfl rfl).symm ▸ h.w.alive)
        (fun _ => ⟨hp, hrdy, by omega, fun hhi => by have := hsl hhi; omega⟩)
        (fun e he hx => absurd hx h.nu) (fun n hn => by cases hn) rfl
    -- the reaction appends no event
    obtain ⟨l, el, nl⟩ := reaction_appends .unresponsive s
    have q : QuietP (Core.pushEv .unresponsive s) (yieldEv .unresponsive s).state := quietP_doActs _ _
    have e2 : Ext NoDiscEv (Core.pushEv .unresponsive s) (yieldEv .unresponsive s).state :=
      ext_doActs timers_noDisc _ _
    have keep : Base cfg0 env0 (yieldEv .unresponsive s).state ∧ UW hi cfg0 (yieldEv .unresponsive s).state ∧
        LastU (yieldEv .unresponsive s).state :=
      ⟨(show Base cfg0 env0 (Core.pushEv .unresponsive s) from ⟨h.b.cfg, h.b.env, h.b.now, h.b.start, h.b.rdy⟩).quiet q,
        pw.ext q e2 (by rw [el]; exact (unext_ignores.append_iff l _ (fun o ho => (nl o ho).2.1)).mpr pw.unext),
        by show newestEv _ = _; rw [el, newestEv_append_plain l _ (fun o ho => (nl o ho).2)]; rfl⟩
    cases hy : yieldEv .unresponsive s with
    | ok u s2 => rw [hy] at keep; rw [bind_ok hy]; exact ⟨keep.1, keep.2.1, keep.2.2, by omega, Or.inr rfl⟩
    | err x s2 =>
      rw [hy] at keep; rw [bind_err hy]
      exact ⟨keep.1, keep.2.1, keep.2.2, by omega, Or.inl (Monitor.yieldEv_err_genExit hy)⟩
  · rw [checkPingTimeout_quiet s hd]
    refine ⟨h.b, h.w, ?_, h.nu⟩
    intro hp hr
    have : ¬ (sessionTime s - s.lastPong > s.cfg.pingTimeout) := fun hx => hd ⟨by rw [h.b.cfg]; exact hp, hx⟩
    rw [h.b.cfg, h.b.sess, h.w.alive] at this
    omega

end PingTimeoutSteps

section PingTimeoutRegular
variable {hi : Bool} {cfg0 : Cfg} {env0 : List EnvStep}

theorem checkCloseTimeout_cases (s : Sys) :
    checkCloseTimeout s = .ok () s ∨ checkCloseTimeout s = .err (.forceDisconnect "close-timeout") s := by
  by_cases hd : closeTimeoutDue s
  · exact Or.inr (checkCloseTimeout_fires s hd)
  · exact Or.inl (checkCloseTimeout_quiet s hd)

/-- what an exception in flight says about the ping timeout: `_ForceDisconnect('ping-timeout')` only
    right after Unresponsive; every other exception but an abandonment leaves the invariant intact -/
def EU (cfg0 : Cfg) (y : Exn) (s : Sys) : Prop :=
  (y = .forceDisconnect "ping-timeout" → LastU s) ∧
  (y ≠ .forceDisconnect "ping-timeout" → y ≠ .genExit → Ufresh cfg0 0 s ∧ NU s)

def XU (hi : Bool) (cfg0 : Cfg) (env0 : List EnvStep) : Exn → Sys → Prop :=
  XGen (fun s => Base cfg0 env0 s ∧ UW hi cfg0 s) (EU cfg0)

theorem boring_ne_pto {x : Exn} (hb : x.boring = true) : x ≠ .forceDisconnect "ping-timeout" := by
  intro e; subst e; cases hb

theorem boring_ne_genExit {x : Exn} (hb : x.boring = true) : x ≠ .genExit := by
  intro e; subst e; cases hb

theorem EU.of_ui {y : Exn} {s : Sys} (h : UI hi cfg0 env0 0 s) (h3 : y ≠ .forceDisconnect "ping-timeout") :
    EU cfg0 y s := ⟨fun e => absurd e h3, fun _ _ => ⟨h.f, h.nu⟩⟩

theorem EU.genExit (s : Sys) : EU cfg0 .genExit s := ⟨fun e => (by cases e), fun _ h => absurd rfl h⟩

theorem regular_tick_U {s : Sys} (h : UI hi cfg0 env0 0 s) (dt : Nat) (hdt : hi = true → dt ≤ cfg0.poll) :
    RegSat (UI hi cfg0 env0 0) (fun s => Base cfg0 env0 s ∧ UW hi cfg0 s) (EU cfg0) (· = .forceDisconnect "ping-timeout") dt
      (regular (tick s dt)) := by
  have ht := h.tick dt
  generalize tick s dt = st at ht
  refine regular_gen (I1 := UI hi cfg0 env0 dt) (I2 := UI hi cfg0 env0 dt) (I3 := UI hi cfg0 env0 0) st
    (fun hr' => ⟨ht.b, ht.w, fun _ hrr => absurd (ht.b.notReady hr').1 hrr, ht.nu⟩) (ru_checkPoll st ht)
    (fun s1 h1 => ⟨rfl, ⟨h1.b, h1.w⟩, EU.genExit _, fun e => ⟨e ▸ h1, fun h => by cases h⟩⟩) ru_checkAutoPing
    (fun s2 h2 => ?_) (fun s3 h3 => ?_)
  · have h3 := checkPingTimeout_U h2 hdt
    cases e3 : checkPingTimeout s2 with
    | ok u3 s3 => rw [e3] at h3; exact h3
    | err x s3 =>
      rw [e3] at h3
      obtain ⟨a, b, c, d0, d⟩ := h3
      intro _
      refine ⟨?_, ⟨a, b⟩, ?_, fun e => absurd e d0⟩
      · rcases d with rfl | rfl <;> rfl
      · rcases d with rfl | rfl
        · exact EU.genExit _
        · exact ⟨fun _ => c, fun h => absurd rfl h⟩
  · rcases checkCloseTimeout_cases s3 with e4 | e4
    · rw [e4]; exact h3
    · rw [e4]; exact ⟨rfl, ⟨h3.b, h3.w⟩, EU.of_ui h3 (fd_ne (by decide)), fun _ => ⟨h3, fd_ne (by decide)⟩⟩

theorem UI.ready {s : Sys} (h : UI hi cfg0 env0 0 s) (a : Option Http.Str) (b : Bool) :
    UI hi cfg0 env0 0 (Core.pushEv (.ready a b) (readyState s)) := by
  refine ⟨h.b.ready a b,
    h.w.cons (o := .ev (.ready a b)) rfl (lastAlive_ready a b s.trace).symm (fun hx => by cases hx)
      (fun _ _ hx => absurd hx h.nu) (fun n hn => by cases hn) rfl, ?_, ?_⟩
  · intro hp hrr
    show sessOf (.ev (.ready a b) :: s.trace) ≤ _
    rw [sessOf_ready]; omega
  · show some (Event.ready a b) ≠ some .unresponsive
    intro hx; cases hx

theorem UI.pong {s : Sys} (h : UI hi cfg0 env0 0 s) (d : Bytes) :
    UI hi cfg0 env0 0 (Core.pushEv (.pong d) { s with lastPong := sessionTime s }) := by
  refine ⟨⟨h.b.cfg, h.b.env, h.b.now, h.b.start, h.b.rdy⟩,
    h.w.cons (o := .ev (.pong d)) rfl (by rw [lastAlive_pong, ← h.b.sess]; rfl) (fun hx => by cases hx)
      (fun _ _ hx => absurd hx h.nu) (fun n hn => by cases hn) rfl, ?_, ?_⟩
  · intro hp hrr
    show sessOf (.ev (.pong d) :: s.trace) ≤ lastAlive (.ev (.pong d) :: s.trace) + _ + 0
    rw [sessOf_pong, lastAlive_pong]; omega
  · show some (Event.pong d) ≠ some .unresponsive
    intro hx; cases hx

theorem onEvent_push_U {e : Event} (hf : isFeedEvent e = true) {s s1 : Sys} {u : Unit} (h : UI hi cfg0 env0 0 s)
    (hE : onEvent e s = .ok u s1) : UI hi cfg0 env0 0 (Core.pushEv e s1) := by
  cases e with
  | ready a b => simp only [onEvent] at hE; cases hE; exact h.ready a b
  | pong d => simp only [onEvent] at hE; cases hE; exact h.pong d
  | ping d =>
    have h1 : UI hi cfg0 env0 0 s1 :=
      h.quiet ((quietP_onEvent _ rfl rfl).ok hE) ((ext_onEvent timers_noDisc _).ok hE)
    exact h1.pushEv _ rfl rfl (fun hx => by cases hx) rfl
  | _ =>
    first
      | (simp [isFeedEvent] at hf; done)
      | (simp only [onEvent] at hE; cases hE; exact h.pushEv _ rfl rfl (fun hx => by cases hx) rfl)

end PingTimeoutRegular

section PingTimeoutTimer
variable {hi : Bool} {cfg0 : Cfg} {env0 : List EnvStep}

theorem timerU : Timer hi cfg0.poll (UI hi cfg0 env0 0) (fun _ => True) (fun s => Base cfg0 env0 s ∧ UW hi cfg0 s) (EU cfg0)
    (· = .forceDisconnect "ping-timeout") where
  w := fun s h => ⟨h.b, h.w⟩
  eOf := fun x s h _ hn => EU.of_ui h hn
  back := fun x s hb hw he => by
    obtain ⟨f, nu⟩ := he.2 (boring_ne_pto hb) (boring_ne_genExit hb)
    exact ⟨⟨hw.1, hw.2, f, nu⟩, trivial⟩
  own := fun x h => Or.inl h
  inert := fun s s' h hs => hs.same h.inert.cfg h.inert.env h.inert.now h.inert.startTime h.inert.ready
    h.inert.lastPong h.inert.trace
  closeSocket := ru_of_quiet quietP_closeSocket (ext_closeSocket timers_noDisc)
  wsClose := fun c r => ru_of_quiet (quietP_wsClose c r) (ext_wsClose timers_noDisc c r)
  onDisconnect := ru_of_quiet quietP_onDisconnect (ext_onDisconnect timers_noDisc)
  acts := fun e s h => by rw [yieldEv_eq]; exact ru_doActs _ _ h
  reg := fun dt s hdt _ hs => regular_tick_U hs dt hdt

theorem iu_leaves : LeavesX (fun s => UI hi cfg0 env0 0 s ∧ True) (XU hi cfg0 env0) :=
  timerU.leaves .none
    (timerU.onClose .none (fun _ _ _ _ hf hE h => onEvent_push_U hf h hE)
      (fun _ _ _ h _ => h.same rfl rfl rfl rfl rfl rfl rfl) (fun _ _ _ h _ => h.same rfl rfl rfl rfl rfl rfl rfl))
    (fun _ _ _ _ hf _ hE h => onEvent_push_U hf h hE)

theorem iu_loop (env : List EnvStep) (h : hi = true → EnvBound cfg0.poll env) :
    SpecX (fun s => UI hi cfg0 env0 0 s ∧ True) (XU hi cfg0 env0) (loop env) :=
  timerU.loop .none iu_leaves env h

end PingTimeoutTimer

structure TraceU (hi : Bool) (cfg0 : Cfg) (tr : List Obs) : Prop where
  uhi : UnrespHi cfg0.pingTimeout cfg0.poll hi tr
  unext : UNext tr
  tok : TickU cfg0.pingTimeout tr

theorem traceU_append_plain {hi : Bool} {cfg0 : Cfg} (l : List Obs) {tr : List Obs} (hl : ∀ o ∈ l, Plain o)
    (h : TraceU hi cfg0 tr) : TraceU hi cfg0 (l ++ tr) :=
  ⟨((unrespHi_ignores _ _ _).append_iff l _ (fun o ho => (hl o ho).1 _)).mpr h.uhi,
   (unext_ignores.append_iff l _ (fun o ho => (hl o ho).1)).mpr h.unext,
   ((tickU_ignores _).append_iff l _ (fun o ho => (hl o ho).2)).mpr h.tok⟩

theorem traceU_cons_ev {hi : Bool} {cfg0 : Cfg} {e : Event} {tr : List Obs} (he : e ≠ .unresponsive)
    (hok : newestEv tr = some .unresponsive → e = .disconnected "ping-timeout" false)
    (h : TraceU hi cfg0 tr) : TraceU hi cfg0 (.ev e :: tr) :=
  ⟨(unrespHi_ignores _ _ _ _ _ (fun hx => he (by cases hx; rfl))).mpr h.uhi,
   ⟨fun e' he' hx => (by cases he'; exact hok hx), h.unext⟩, (tickU_ignores _ _ _ rfl).mpr h.tok⟩

theorem newestEv_mem {tr : List Obs} {e : Event} (h : newestEv tr = some e) : Obs.ev e ∈ tr := by
  induction tr with
  | nil => cases h
  | cons o t ih =>
    cases o with
    | ev e' =>
      have : e' = e := by simpa [newestEv] using h
      subst this; exact List.mem_cons_self
    | _ => exact List.mem_cons_of_mem _ (ih h)

theorem closeYield_shape (e : Event) (s : Sys) :
    ∃ l1 l2, ((do closeSocket; yieldEv e : M Unit) s).state.trace = l2 ++ .ev e :: (l1 ++ s.trace) ∧
      (∀ o ∈ l1, Plain o) ∧ (∀ o ∈ l2, Plain o) := by
  obtain ⟨l1, e1, p1⟩ := sockClosed_shape s
  rw [bind_ok (closeSocket_eq s)]
  obtain ⟨l2, el2, p2⟩ := reaction_appends e (sockClosed s)
  exact ⟨l1, l2, by rw [el2, e1], fun o ho => by rw [p1 o ho]; exact ⟨fun e h => (nomatch h), rfl⟩,
    fun o ho => (p2 o ho).2⟩

/-- the loop lived through a `selector.wait` that ended (clock mark `n`) more than `pt` after the
    newest sign of life, and no Pong (or Ready) has been seen since -/
def PastU (pt : Nat) (tr : List Obs) : Prop :=
  ∃ l n t, tr = l ++ .tick n :: t ∧ readyAt t ≠ none ∧
    (∀ o ∈ l, o.tmIsReady = false ∧ o.tmIsPong = false) ∧ lastAlive t + pt < sessOf (.tick n :: t)

theorem pastU_of_cons {pt : Nat} {o : Obs} {tr : List Obs} (h : o.tmTickVal = none) (hp : PastU pt (o :: tr)) :
    PastU pt tr := by
  obtain ⟨l, n, t, e, hr, hl, hge⟩ := hp
  cases l with
  | nil =>
    simp only [List.nil_append, List.cons.injEq] at e
    rw [e.1] at h; cases h
  | cons x l2 =>
    simp only [List.cons_append, List.cons.injEq] at e
    exact ⟨l2, n, t, e.2, hr, fun o ho => hl o (List.mem_cons_of_mem _ ho), hge⟩

theorem pastU_of_append {pt : Nat} (l : List Obs) {tr : List Obs} (hl : ∀ o ∈ l, o.tmTickVal = none)
    (hp : PastU pt (l ++ tr)) : PastU pt tr :=
  drop_prefix (fun _ _ ho => pastU_of_cons ho) l tr hl hp

theorem tickU_clockMono (pt : Nat) (tr : List Obs) (h : TickU pt tr) : ClockMono tr :=
  ((tickU_hist pt tr).mp h).mono (fun _ _ x n hn => (x n hn).1)

theorem not_pastU {cfg0 : Cfg} {tr : List Obs} (htok : TickU cfg0.pingTimeout tr)
    (hf : cfg0.pingTimeout ≠ 0 → readyAt tr ≠ none → sessOf tr ≤ lastAlive tr + cfg0.pingTimeout + 0)
    (hp : cfg0.pingTimeout ≠ 0) : ¬ PastU cfg0.pingTimeout tr := by
  intro ⟨l, n, t, e, hr, hl, hge⟩
  subst e
  have h1 : readyAt (l ++ .tick n :: t) ≠ none := by
    rw [Ignores.append (fun _ t ho => readyAt_cons_of t ho) l _ (fun o ho => (hl o ho).1), readyAt_tick]; exact hr
  have h2 := hf hp h1
  rw [Ignores.append (fun _ t ho => lastAlive_cons_of t ho.1 ho.2) l _ hl, lastAlive_tick] at h2
  have := sessOf_mono' l _ (tickU_clockMono _ _ htok) (fun o ho => (hl o ho).1)
  omega

/-- **the connection is over once the loop has lived through a wait that ended past the ping
    deadline** (and no Pong arrived after it): Unresponsive and the forced
    `Disconnected('ping-timeout')` were yielded — unless the application abandoned the iterator at
    that `_regular()` (no `Disconnected` at all) -/
def EndU (cfg0 : Cfg) (tr : List Obs) : Prop :=
  cfg0.pingTimeout ≠ 0 → PastU cfg0.pingTimeout tr →
    (Obs.ev .unresponsive ∈ tr ∧ ptoD ∈ tr) ∨ discAny tr = false

def FinU (hi : Bool) (cfg0 : Cfg) (s : Sys) : Prop := TraceU hi cfg0 s.trace ∧ EndU cfg0 s.trace

section PingTimeoutRun
variable {hi : Bool} {cfg0 : Cfg} {env0 : List EnvStep}

theorem UW.traceU {s : Sys} (h : UW hi cfg0 s) : TraceU hi cfg0 s.trace := ⟨h.uhi, h.unext, h.tok⟩

theorem UI.fin {s : Sys} (h : UI hi cfg0 env0 0 s) : FinU hi cfg0 s :=
  ⟨h.w.traceU, fun hp hpast => absurd hpast (not_pastU h.w.tok h.f hp)⟩

theorem finU_cons {o : Obs} {s s' : Sys} (ho : Plain o) (e : s'.trace = o :: s.trace) (h : FinU hi cfg0 s) :
    FinU hi cfg0 s' := by
  rw [FinU, e]
  refine ⟨traceU_append_plain [o] (forall_mem_one ho) h.1, fun hp hpast => ?_⟩
  rcases h.2 hp (pastU_of_cons ho.2 hpast) with h1 | h1
  · exact Or.inl ⟨List.mem_cons_of_mem _ h1.1, List.mem_cons_of_mem _ h1.2⟩
  · refine Or.inr ?_
    have : isDiscEv o = false := by cases o <;> first | rfl | exact absurd rfl (ho.1 _)
    simp only [discAny, List.any_cons, this, Bool.false_or]; exact h1

theorem finU_closeYield (k : String) (g : Bool) (s : Sys) (ht : TraceU hi cfg0 s.trace)
    (hok : newestEv s.trace = some .unresponsive → Event.disconnected k g = .disconnected "ping-timeout" false)
    (hend : cfg0.pingTimeout ≠ 0 → PastU cfg0.pingTimeout s.trace →
      k = "ping-timeout" ∧ g = false ∧ Obs.ev .unresponsive ∈ s.trace) :
    FinU hi cfg0 ((do closeSocket; yieldEv (.disconnected k g) : M Unit) s).state := by
  obtain ⟨l1, l2, e, p1, p2⟩ := closeYield_shape (.disconnected k g) s
  rw [FinU, e]
  refine ⟨traceU_append_plain l2 p2 (traceU_cons_ev (fun h => by cases h)
    (by rw [newestEv_append_plain l1 _ p1]; exact hok) (traceU_append_plain l1 p1 ht)), ?_⟩
  intro hp hpast
  have h1 : PastU cfg0.pingTimeout s.trace := by
    have := pastU_of_append l2 (fun o ho => (p2 o ho).2) hpast
    have := pastU_of_cons (o := .ev (.disconnected k g)) rfl this
    exact pastU_of_append l1 (fun o ho => (p1 o ho).2) this
  obtain ⟨hk, hg, hun⟩ := hend hp h1
  subst hk; subst hg
  exact Or.inl ⟨List.mem_append_right _ (List.mem_cons_of_mem _ (List.mem_append_right _ hun)),
    List.mem_append_right _ List.mem_cons_self⟩

theorem fin_endSomeU (x : Exn) (s : Sys) (h : XU hi cfg0 env0 x s) (hno : ∀ z, x ≠ .outer z) :
    FinU hi cfg0 (onLoopEnd (some x) s).state := by
  have hp := h.e hno
  obtain ⟨hb, hw⟩ := h.1
  rcases onLoopEnd_some_cases x s hno (h.kind hno) with ⟨hx, e⟩ | ⟨k, e, hx⟩
  · rw [e]
    rcases hx with rfl | rfl
    · exact ⟨hw.traceU, fun _ _ => Or.inr hw.nd⟩
    · obtain ⟨f, _⟩ := hp.2 (fun e => by cases e) (fun e => by cases e)
      exact ⟨hw.traceU, fun hpt hpast => absurd hpast (not_pastU hw.tok f hpt)⟩
  · rw [e]
    have quietCase : x ≠ .forceDisconnect "ping-timeout" → x ≠ .genExit →
        FinU hi cfg0 ((do closeSocket; yieldEv (.disconnected k false) : M Unit) s).state := by
      intro h1 h2
      obtain ⟨f, nu⟩ := hp.2 h1 h2
      exact finU_closeYield k false s hw.traceU (fun hx => absurd hx nu)
        (fun hpt hpast => absurd hpast (not_pastU hw.tok f hpt))
    rcases hx with rfl | ⟨hb, _⟩
    · by_cases hk : k = "ping-timeout"
      · subst hk
        exact finU_closeYield _ false s hw.traceU (fun _ => rfl)
          (fun _ _ => ⟨rfl, rfl, newestEv_mem (hp.1 rfl)⟩)
      · exact quietCase (fd_ne hk) (fun e => by cases e)
    · exact quietCase (boring_ne_pto hb) (boring_ne_genExit hb)

theorem iu_yieldEv (e : Event) (h1 : (Obs.ev e).tmIsReady = false) (h2 : (Obs.ev e).tmIsPong = false)
    (h3 : e ≠ .unresponsive) (h4 : isDiscEv (.ev e) = false) (s : Sys) (hs : UI hi cfg0 env0 0 s ∧ True) :
    Sat (fun s => UI hi cfg0 env0 0 s ∧ True) (XU hi cfg0 env0) (yieldEv e s) :=
  sat_yieldEv (I := fun s => UI hi cfg0 env0 0 s ∧ True) ⟨ru_yieldEv e h1 h2 h3 h4 s hs.1, trivial⟩
    (fun _ h => XGen.of_plain rfl ⟨h.1.b, h.1.w⟩ (EU.genExit _))

theorem iu_top : TopX (fun s => UI hi cfg0 env0 0 s ∧ True) (XU hi cfg0 env0) (FinU hi cfg0) env0 where
  envEq := fun s hs => hs.1.b.env
  iFin := fun s hs => hs.1.fin
  xFin := fun s hx => ⟨hx.1.2.traceU, fun _ _ => Or.inr hx.1.2.nd⟩
  yieldTop := by
    intro e he
    rcases he with rfl | ⟨k, rfl⟩
    · exact iu_yieldEv _ rfl rfl (fun h => by cases h) rfl
    · exact iu_yieldEv _ rfl rfl (fun h => by cases h) rfl
  yieldConn := fun p s hs _ _ _ _ => iu_yieldEv _ rfl rfl (fun h => by cases h) rfl s hs
  sockSet := fun s hs => ⟨hs.1.same rfl rfl rfl rfl rfl rfl rfl, trivial⟩
  writeReq := fun s hs _ _ => ⟨ru_of_quiet (quietP_write _ _) (ext_write timers_noDisc _ _) s hs.1, trivial⟩
  selSet := fun b s hs => ⟨hs.1.same rfl rfl rfl rfl rfl rfl rfl, trivial⟩
  endNone := fun s hs => finU_closeYield "closed" true s hs.1.w.traceU (fun hx => absurd hx hs.1.nu)
    (fun hpt hpast => absurd hpast (not_pastU hs.1.w.tok hs.1.f hpt))
  endSome := fin_endSomeU
  finSel := by
    intro s h
    unfold selClose
    split
    · exact finU_cons (o := .selClose) ⟨fun e he => (by cases he), rfl⟩ rfl h
    · exact h
  finSock := by
    intro s h
    unfold closeSocket
    split
    · exact finU_cons (o := .sockClose) ⟨fun e he => (by cases he), rfl⟩ rfl h
    · exact h
  finInc := fun s h => finU_cons (o := .incomplete) ⟨fun e he => (by cases he), rfl⟩ rfl h

theorem iu_init (cfg : Cfg) (react : React) (env : List EnvStep) :
    UI hi cfg env 0 { cfg := cfg, react := react, env := env } ∧ True :=
  ⟨⟨⟨rfl, rfl, rfl, rfl, by simp⟩, ⟨rfl, trivial, trivial, trivial, rfl⟩, fun _ h => absurd rfl h,
    fun h => (by cases h)⟩, trivial⟩

/-- **the ping-timeout rules hold for the trace of every connection** -/
theorem finU_runAll (hi : Bool) (cfg : Cfg) (react : React) (env : List EnvStep)
    (h : hi = true → EnvBound cfg.poll env) : FinU hi cfg (runAll cfg react env) :=
  topx_runAll iu_leaves iu_top (iu_loop env h) cfg react (iu_init cfg react env)

end PingTimeoutRun

end Lomond.Core.TimerRun
