/-
  C11 for the general socket without write failures, variant `compressUnderLock`: the invariant of
  `Proofs/ThreadsZ.lean` (compression object, thread-local payload, the peer's view of the wire) holds
  for every number of chunks per `sendall`.  The loop over the chunks before the last one
  (`write1`) is what the two-chunk model does not have: it changes neither the compression object nor
  the complete frames on the wire.
-/
import Lomond.Proofs.ThreadsN
import Lomond.Proofs.ThreadsNW
import Lomond.Proofs.ThreadsZ
import Lomond.Proofs.ThreadsDead

namespace Lomond.Threads
open Lomond

def Env.NoFail (env : Env) : Prop := ∀ t i, env.failAt t i = none

theorem step_w2 (v : Variant) (cfg : Cfg) (s : State) (t : Tid) (c : Cur) (f : FrameSrc) (r : List Step)
    (hc : (s.th t).current v cfg = some c) (hr : c.rest = .write2 f :: r) :
    step v cfg s t =
      setTh s t (settle (s.th t) (exec v t (.write2 f) r s.sh c).2) (exec v t (.write2 f) r s.sh c).1 := by
  unfold step
  rw [hc]
  simp only [hr, blockedOn]
  rfl

theorem zpos_w1_w2 (f : FrameSrc) (r r2 : List Step) : zpos (.write2 f :: r2) = zpos (.write1 f :: r) := rfl

theorem zLive_stepN (env : Env) (hnf : env.NoFail) (v : Variant) (cfg : Cfg) (s : State) (t : Tid)
    (hvz : v.compressUnderLock = true) (B : BaseN v cfg s) (Z : ZLive v cfg s)
    (hns : s.sh.sockShut = false) :
    ZLive v cfg (stepN env v cfg s t) := by
  rcases stepN_split env v cfg s t with ⟨ha, e⟩ | ⟨c, st, r, p, hc, hr, hwst, hv, o, e⟩
  · rw [e]; exact zLive_stepLC v cfg s t hvz B.L B.C B.P Z hns fun f r h => by rw [h] at ha; cases ha
  · have hh := current_not_halted hc
    have d : disc (st :: r) = true := hv ▸ B.L.disc t
    -- the socket does not fail: the last chunk is the `write2` of the two-chunk model; the chunks before it change
    -- neither the compression object nor the complete frames on the wire
    have key : ((∃ f, st = .write2 f) ∧ stepN env v cfg s t = step v cfg s t) ∨
        (p.2.rest ≠ [] ∧ zpos p.2.rest = zpos (st :: r) ∧
          frames p.1.wire = frames s.sh.wire ∧ p.1.zpend = s.sh.zpend ∧ p.1.zctx = s.sh.zctx ∧ p.2.zout = c.zout ∧
          p.2.idx = c.idx) := by
      cases o with
      | fail _ _ _ hf =>
        rcases hf with hs | ⟨_, hf⟩
        · rw [hns] at hs; cases hs
        · rw [hnf] at hf; cases hf
      | fin f _ _ _ =>
        refine Or.inl ⟨⟨f, rfl⟩, ?_⟩
        rw [e, step_w2 v cfg s t c f r hc hr]
        simp [exec, hns]
      | skip f _ _ _ _ =>
        obtain ⟨_, r2, rfl⟩ := disc_w1 d
        exact Or.inr ⟨by simp, rfl, rfl, rfl, rfl, rfl, rfl⟩
      | stay f _ _ _ _ => exact Or.inr ⟨by simp, rfl, frames_w1 _ _ rfl, rfl, rfl, rfl, rfl⟩
      | adv f _ _ _ _ _ =>
        obtain ⟨_, r2, rfl⟩ := disc_w1 d
        exact Or.inr ⟨by simp, rfl, frames_w1 _ _ rfl, rfl, rfl, rfl, rfl⟩
    rcases key with ⟨⟨f, rfl⟩, e2⟩ | ⟨hne, hzp, hfr, hzpend, hzctx, hzout, hi⟩
    · rw [e2]
      exact zLive_stepLC v cfg s t hvz B.L B.C B.P Z hns fun f' r' h => by rw [hv] at h; cases h
    · rw [e]
      have hview : view v cfg (settle (s.th t) p.2) = p.2.rest := view_settle_ne v cfg _ _ hh hne
      constructor
      · obtain ⟨ms, h1, h2⟩ := Z.dec
        refine ⟨ms, by rw [setTh_sh, hfr]; exact h1, ?_⟩
        intro x hx; rw [prog_after]; exact h2 x hx
      · intro u c2 call2 hc2 hcall2
        rw [prog_after] at hcall2
        rw [setTh_sh, hfr]
        by_cases hu : u = t
        · subst hu
          rw [setTh_same, current_settle v cfg _ _ hh hne] at hc2
          cases hc2
          rw [hi] at hcall2
          have := Z.at_ u c call2 hc hcall2
          rw [hr] at this
          rw [hzp]
          exact ZAt_congr hzpend hzctx hzout this
        · rw [setTh_other _ _ _ _ _ hu] at hc2
          exact ZAt_congr hzpend hzctx rfl (Z.at_ u c2 call2 hc2 hcall2)
      · intro hall
        rw [setTh_sh, hfr, hzpend, hzctx]
        apply Z.idle
        intro u
        by_cases hu : u = t
        · subst hu
          have := hall u
          rw [setTh_same, hview, hzp] at this
          rw [hv]; exact this
        · have := hall u
          rwa [setTh_other _ _ _ _ _ hu] at this

theorem zInv_stepN (env : Env) (hnf : env.NoFail) (v : Variant) (cfg : Cfg) (s : State) (t : Tid)
    (hvz : v.compressUnderLock = true) (B : BaseN v cfg s) (Z : ZInv v cfg s) :
    ZInv v cfg (stepN env v cfg s t) := by
  cases hsx : s.sh.sockShut with
  | false => exact (zLive_stepN env hnf v cfg s t hvz B (Z.live hsx) hsx).inv
  | true =>
    -- on a shut socket the wire is frozen
    obtain ⟨hw, hsh⟩ := stepN_shut env v cfg s t hsx
    refine ⟨?_, fun hn => by rw [hsh] at hn; cases hn⟩
    obtain ⟨ms, h1, h2⟩ := Z.dec
    refine ⟨ms, by rw [hw]; exact h1, ?_⟩
    intro x hx; rw [stepN_prog]; exact h2 x hx

theorem zInv_reach (env : Env) (hnf : env.NoFail) (v : Variant) (cfg : Cfg) (progs : Tid → List Call)
    (hvz : v.compressUnderLock = true) (sched : List Tid) : ZInv v cfg (runN env v cfg (init progs) sched) :=
  (runN_keeps (I := fun s => BaseN v cfg s ∧ ZInv v cfg s)
    (fun s t h => ⟨baseN_step env v cfg s t h.1, zInv_stepN env hnf v cfg s t hvz h.1 h.2⟩) (init progs) sched
    ⟨baseN_fresh v cfg (fresh_init progs), zInv_init v cfg progs⟩).2

end Lomond.Threads
