/-
  Every fair schedule completes.

  Part 1 is generic: a scheduler-driven transition system (`FairSys`: a step function per thread id, a predicate "this
  thread can move now", an invariant, a natural-number measure that every moving entry strictly decreases, no deadlock)
  — no schedule has more moving entries than the measure of its start state, every FAIR infinite schedule reaches a state
  in which all threads are done and stays there, and a schedule in which every window of `w` consecutive entries names
  every thread (round-robin: `w = n`) is done after `w * measure` entries.

  Part 2 instantiates it with the thread model of `Model/Threads.lean` (`step`, `enabled`, the measure `smeasure` of
  `Proofs/ThreadsTerm.lean`, the invariant `LockInv ∧ NE ∧ IdleFrom n`).
-/
import Lomond.Proofs.ThreadsTerm

namespace Lomond.Threads
open Lomond

/-- a transition system driven by a scheduler, with a progress measure -/
structure FairSys (S : Type) where
  /-- one schedule entry -/
  next : S → Tid → S
  /-- the entry would move the thread -/
  en : S → Tid → Bool
  inv : S → Prop
  /-- all threads have finished -/
  done : S → Prop
  μ : S → Nat
  n : Nat
  inv_next : ∀ s t, inv s → inv (next s t)
  idle : ∀ s t, en s t = false → next s t = s
  dec : ∀ s t, inv s → en s t = true → t < n ∧ μ (next s t) < μ s
  /-- no deadlock -/
  live : ∀ s, inv s → ¬ done s → ∃ u, en s u = true
  quiet : ∀ s t, done s → en s t = false

namespace FairSys
variable {S : Type} (P : FairSys S)

def exec (s : S) (sched : List Tid) : S := sched.foldl P.next s

/-- the entries of a schedule that move a thread -/
def moving : S → List Tid → Nat
  | _, [] => 0
  | s, t :: r => (if P.en s t = true then 1 else 0) + moving (P.next s t) r

def pref (f : Nat → Tid) (k : Nat) : List Tid := (List.range k).map f

def reach (s : S) (f : Nat → Tid) (k : Nat) : S := P.exec s (pref f k)

theorem μ_next_le (s : S) (t : Tid) (I : P.inv s) : P.μ (P.next s t) ≤ P.μ s := by
  cases h : P.en s t with
  | false => rw [P.idle s t h]; exact Nat.le_refl _
  | true => exact Nat.le_of_lt (P.dec s t I h).2

theorem inv_exec (s : S) (sched : List Tid) (I : P.inv s) : P.inv (P.exec s sched) := by
  induction sched generalizing s with
  | nil => exact I
  | cons t _ ih => exact ih _ (P.inv_next s t I)

/-- **no livelock**: moving entries + what is left at the end ≤ what was left at the start -/
theorem moving_le (s : S) (sched : List Tid) (I : P.inv s) :
    P.moving s sched + P.μ (P.exec s sched) ≤ P.μ s := by
  induction sched generalizing s with
  | nil => simp [moving, exec]
  | cons t r ih =>
    have h := ih (P.next s t) (P.inv_next s t I)
    simp only [moving, exec, List.foldl_cons] at h ⊢
    cases he : P.en s t with
    | false =>
      rw [P.idle s t he] at h ⊢
      simp only [Bool.false_eq_true, if_false]
      omega
    | true =>
      have := (P.dec s t I he).2
      simp only [if_true]
      omega

theorem reach_zero (s : S) (f : Nat → Tid) : P.reach s f 0 = s := rfl

theorem reach_succ (s : S) (f : Nat → Tid) (k : Nat) :
    P.reach s f (k + 1) = P.next (P.reach s f k) (f k) := by
  simp [reach, exec, pref, List.range_succ, List.map_append, List.foldl_append]

theorem inv_reach (s : S) (f : Nat → Tid) (k : Nat) (I : P.inv s) : P.inv (P.reach s f k) :=
  P.inv_exec s _ I

theorem μ_add_le (s : S) (f : Nat → Tid) (I : P.inv s) (k d : Nat) :
    P.μ (P.reach s f (k + d)) ≤ P.μ (P.reach s f k) := by
  induction d with
  | zero => exact Nat.le_refl _
  | succ d ih =>
    rw [← Nat.add_assoc, reach_succ]
    exact Nat.le_trans (P.μ_next_le _ _ (P.inv_reach s f _ I)) ih

theorem μ_mono (s : S) (f : Nat → Tid) (I : P.inv s) {k k' : Nat} (h : k ≤ k') :
    P.μ (P.reach s f k') ≤ P.μ (P.reach s f k) := by
  obtain ⟨d, rfl⟩ := Nat.exists_eq_add_of_le h
  exact P.μ_add_le s f I k d

theorem same_or_less (s : S) (f : Nat → Tid) (I : P.inv s) (k d : Nat) :
    P.reach s f (k + d) = P.reach s f k ∨ P.μ (P.reach s f (k + d)) < P.μ (P.reach s f k) := by
  induction d with
  | zero => exact Or.inl rfl
  | succ d ih =>
    rw [← Nat.add_assoc, reach_succ]
    cases he : P.en (P.reach s f (k + d)) (f (k + d)) with
    | false => rw [P.idle _ _ he]; exact ih
    | true =>
      have h1 := (P.dec _ _ (P.inv_reach s f _ I) he).2
      have h2 := P.μ_add_le s f I k d
      exact Or.inr (by omega)

theorem progress (s : S) (f : Nat → Tid) (I : P.inv s) (k d : Nat) (u : Tid)
    (hu : P.en (P.reach s f k) u = true) (hf : f (k + d) = u) :
    P.μ (P.reach s f (k + d + 1)) < P.μ (P.reach s f k) := by
  rw [reach_succ, hf]
  rcases P.same_or_less s f I k d with e | h
  · rw [e]; exact (P.dec _ _ (P.inv_reach s f _ I) hu).2
  · exact Nat.lt_of_le_of_lt (P.μ_next_le _ _ (P.inv_reach s f _ I)) h

theorem done_stays (s : S) (f : Nat → Tid) (k : Nat) (h : P.done (P.reach s f k)) (d : Nat) :
    P.reach s f (k + d) = P.reach s f k := by
  induction d with
  | zero => rfl
  | succ d ih =>
    rw [← Nat.add_assoc, reach_succ, ih]
    exact P.idle _ _ (P.quiet _ _ h)

theorem done_from (s : S) (f : Nat → Tid) (k : Nat) (h : P.done (P.reach s f k)) (k' : Nat) (hk : k ≤ k') :
    P.done (P.reach s f k') ∧ P.reach s f k' = P.reach s f k := by
  obtain ⟨d, rfl⟩ := Nat.exists_eq_add_of_le hk
  rw [P.done_stays s f k h d]
  exact ⟨h, rfl⟩

def Fair (n : Nat) (f : Nat → Tid) : Prop := ∀ u, u < n → ∀ k, ∃ j, k ≤ j ∧ f j = u

theorem fair_aux (s : S) (f : Nat → Tid) (I : P.inv s) (hf : Fair P.n f) :
    ∀ m k, P.μ (P.reach s f k) < m → ∃ N, P.done (P.reach s f N) := by
  intro m
  induction m with
  | zero => intro k h; omega
  | succ m ih =>
    intro k h
    by_cases hd : P.done (P.reach s f k)
    · exact ⟨k, hd⟩
    · obtain ⟨u, hu⟩ := P.live _ (P.inv_reach s f k I) hd
      have hun := (P.dec _ _ (P.inv_reach s f k I) hu).1
      obtain ⟨j, hj, hfj⟩ := hf u hun k
      obtain ⟨d, rfl⟩ := Nat.exists_eq_add_of_le hj
      have := P.progress s f I k d u hu hfj
      exact ih (k + d + 1) (by omega)

/-- **every fair schedule completes**, and stays complete -/
theorem fair_completes (s : S) (f : Nat → Tid) (I : P.inv s) (hf : Fair P.n f) :
    ∃ N, ∀ N', N ≤ N' → P.done (P.reach s f N') ∧ P.reach s f N' = P.reach s f N := by
  obtain ⟨N, hN⟩ := P.fair_aux s f I hf (P.μ (P.reach s f 0) + 1) 0 (Nat.lt_succ_self _)
  exact ⟨N, fun N' h => P.done_from s f N hN N' h⟩

def WindowFair (n w : Nat) (f : Nat → Tid) : Prop := ∀ k u, u < n → ∃ j, k ≤ j ∧ j < k + w ∧ f j = u

theorem window_step (s : S) (f : Nat → Tid) (I : P.inv s) (w : Nat) (hf : WindowFair P.n w f) (k : Nat)
    (hd : ¬ P.done (P.reach s f k)) : P.μ (P.reach s f (k + w)) < P.μ (P.reach s f k) := by
  obtain ⟨u, hu⟩ := P.live _ (P.inv_reach s f k I) hd
  have hun := (P.dec _ _ (P.inv_reach s f k I) hu).1
  obtain ⟨j, hj, hjw, hfj⟩ := hf k u hun
  obtain ⟨d, rfl⟩ := Nat.exists_eq_add_of_le hj
  have h1 := P.progress s f I k d u hu hfj
  have h2 := P.μ_mono s f I (show k + d + 1 ≤ k + w by omega)
  omega

theorem window_aux (s : S) (f : Nat → Tid) (I : P.inv s) (w : Nat) (hf : WindowFair P.n w f) (i : Nat) :
    P.done (P.reach s f (w * i)) ∨ P.μ (P.reach s f (w * i)) + i ≤ P.μ s := by
  induction i with
  | zero => right; simp [reach_zero]
  | succ i ih =>
    rw [Nat.mul_succ]
    by_cases hd : P.done (P.reach s f (w * i))
    · left; rw [P.done_stays s f _ hd w]; exact hd
    · right
      rcases ih with h | h
      · exact absurd h hd
      · have := P.window_step s f I w hf (w * i) hd
        omega

/-- **a window-fair schedule (round-robin: `w = n`) is complete after `w * measure` entries** -/
theorem window_completes (s : S) (f : Nat → Tid) (I : P.inv s) (w : Nat) (hf : WindowFair P.n w f) :
    P.done (P.reach s f (w * P.μ s)) := by
  rcases P.window_aux s f I w hf (P.μ s) with h | h
  · exact h
  · apply Classical.byContradiction
    intro hd
    have := P.window_step s f I w hf _ hd
    omega

end FairSys

theorem roundRobin_windowFair (n : Nat) : FairSys.WindowFair n n (fun j => j % n) := by
  intro k u hu
  have hn : 0 < n := by omega
  have hr : k % n < n := Nat.mod_lt k hn
  have hk : n * (k / n) + k % n = k := Nat.div_add_mod k n
  generalize hq : n * (k / n) = a at hk
  by_cases h : k % n ≤ u
  · refine ⟨a + u, by omega, by omega, ?_⟩
    show (a + u) % n = u
    rw [← hq, Nat.mul_add_mod, Nat.mod_eq_of_lt hu]
  · refine ⟨a + n + u, by omega, by omega, ?_⟩
    show (a + n + u) % n = u
    have e : a + n + u = n * (k / n + 1) + u := by rw [Nat.mul_add, Nat.mul_one, hq]
    rw [e, Nat.mul_add_mod, Nat.mod_eq_of_lt hu]

theorem windowFair_fair (n w : Nat) (f : Nat → Tid) (h : FairSys.WindowFair n w f) : FairSys.Fair n f := by
  intro u hu k
  obtain ⟨j, h1, _, h3⟩ := h k u hu
  exact ⟨j, h1, h3⟩

/-- the invariants the termination argument needs; all hold in every state reachable from `init` / `initPre` -/
def TermInv (v : Variant) (cfg : Cfg) (n : Nat) (s : State) : Prop := LockInv v cfg s ∧ NE s ∧ IdleFrom n s

theorem step_not_enabled (v : Variant) (cfg : Cfg) (s : State) (t : Tid) (h : enabled v cfg s t = false) :
    step v cfg s t = s := by
  unfold enabled at h
  unfold step
  cases hc : (s.th t).current v cfg with
  | none => rfl
  | some c =>
    rw [hc] at h
    simp only [Bool.not_eq_false'] at h
    simp only
    cases hr : c.rest with
    | nil => rfl
    | cons st r => simp only [h, if_true]

theorem step_enabled_ne (v : Variant) (cfg : Cfg) (s : State) (u : Tid) (N : NE s)
    (hu : enabled v cfg s u = true) : step v cfg s u ≠ s := by
  intro e
  have := (tmeasure_step v cfg s u N hu).1
  rw [e] at this
  exact Nat.lt_irrefl _ this

def termSys (v : Variant) (cfg : Cfg) (n : Nat) : FairSys State where
  next := step v cfg
  en := enabled v cfg
  inv := TermInv v cfg n
  done := fun s => ∀ t, (s.th t).current v cfg = none
  μ := smeasure v cfg n
  n := n
  inv_next := fun s t ⟨L, N, I⟩ => ⟨lockInv_step v cfg s t L, ne_step v cfg s t N, idle_step n v cfg s t I⟩
  idle := step_not_enabled v cfg
  dec := fun s t ⟨_, N, I⟩ h =>
    have hlt := enabled_lt v cfg n s t I h
    ⟨hlt, smeasure_step v cfg n s t N hlt h⟩
  live := fun s ⟨L, _, _⟩ h => by
    obtain ⟨t, ht⟩ := Classical.not_forall.mp h
    exact someone_can_move L t ht
  quiet := fun s t h => by
    unfold enabled
    rw [h t]

theorem termSys_exec (v : Variant) (cfg : Cfg) (n : Nat) (s : State) (sched : List Tid) :
    (termSys v cfg n).exec s sched = run v cfg s sched := rfl

theorem termSys_reach (v : Variant) (cfg : Cfg) (n : Nat) (s : State) (f : Nat → Tid) (k : Nat) :
    (termSys v cfg n).reach s f k = run v cfg s ((List.range k).map f) := rfl

/-- the entries of a schedule at which the thread named can move (= the entries that change the state:
    `step_enabled_ne`, `step_not_enabled`) -/
def movingEntries (v : Variant) (cfg : Cfg) : State → List Tid → Nat
  | _, [] => 0
  | s, t :: r => (if enabled v cfg s t = true then 1 else 0) + movingEntries v cfg (step v cfg s t) r

theorem termSys_moving (v : Variant) (cfg : Cfg) (n : Nat) (s : State) (sched : List Tid) :
    (termSys v cfg n).moving s sched = movingEntries v cfg s sched := by
  induction sched generalizing s with
  | nil => rfl
  | cons t r ih =>
    simp only [FairSys.moving, movingEntries]
    rw [ih]
    rfl

end Lomond.Threads
