/-
  Every plain frame the library hands to `sendall` inside a connection — on behalf of the
  application (`send_*`, `close`) or on its own (auto-ping, auto-pong, the Close echo, the Close that
  follows a protocol error) — is `Frame.build op payload key` for a data/control opcode, a key
  drawn from the key source, and a control payload of at most 125 bytes (repaired `close()`):
  what each step of Proofs/SendMoves writes (`Move.wire`, `Connect.wire`), hence what a whole
  connection writes (`runAll_writes`).
-/
import Lomond.Proofs.SendMoves
namespace Lomond.Core
open Lomond

/-- `bytes` is a frame built by `Frame.build` (default flags) with a key from the key source, one
    of the five opcodes the client uses, and a control payload within the RFC 6455 §5.5 bound -/
def GoodFrame (cfg : Cfg) (bytes : Bytes) : Prop :=
  ∃ op payload k, Frame.build op payload (cfg.maskKey k) = some bytes ∧
    (op = 1 ∨ op = 2 ∨ op = 8 ∨ op = 9 ∨ op = 10) ∧ (8 ≤ op → payload.length ≤ 125)

theorem Move.wire {L : Prop} {s s' : Sys} (h : Move L s s') : s'.cfg = s.cfg ∧ ∃ l, s'.trace = l ++ s.trace ∧
    (s.cfg.v.closeArgs = true → ∀ bytes, Obs.wr bytes ∈ l → GoodFrame s.cfg bytes) := by
  have frame {op : Nat} {pl : Bytes} {c : Option Bytes} {r : ActRes} {s1 : Sys} (h : sendFrame op pl c s = .ok r s1)
      (hop : op = 1 ∨ op = 2 ∨ op = 8 ∨ op = 9 ∨ op = 10) (hctl : s.cfg.v.closeArgs = true → 8 ≤ op → pl.length ≤ 125) :
      s1.cfg = s.cfg ∧ ∃ l, s1.trace = l ++ s.trace ∧
        (s.cfg.v.closeArgs = true → ∀ bytes, Obs.wr bytes ∈ l → GoodFrame s.cfg bytes) := by
    obtain ⟨r', s', l, h', ht, -, hwr, -⟩ := sendFrame_trace op pl c s
    cases h.symm.trans h'
    exact ⟨((step_sendFrame op pl c).ok h).cfg, l, ht, fun hv bytes hm =>
      ⟨op, pl, s.keyCtr, (hwr bytes hm).2, hop, hctl hv⟩⟩
  cases h with
  | idle h =>
    obtain ⟨l, ht, hl⟩ := h.ext
    exact ⟨h.cfg, l, ht, fun _ _ hm => nomatch hl _ hm⟩
  | lib _ h hop hl => exact frame h (by simp only [Gen.opPing, Gen.opPong] at hop; omega) (fun _ _ => hl)
  | close h hl =>
    -- `closing` and `sentCloseTime` are neither `cfg` nor `trace`
    have f := frame h (.inr (.inr (.inl rfl))) (fun hv _ => hl hv)
    exact f
  | call h hop hs =>
    obtain ⟨hc, l, ht, hg⟩ := frame h (by omega) (fun _ h8 => by omega)
    exact ⟨hc, _ :: l, congrArg _ ht, fun hv bytes hm => hg hv bytes (by simpa using hm)⟩
  | res r => exact ⟨rfl, [.res r], rfl, fun _ _ hm => by simp at hm⟩

/-- the upgrade request is written by `session.write(self.websocket.build_request())` -/
theorem Connect.wire {s s' : Sys} (h : Connect s s') : s'.cfg = s.cfg ∧ ∃ l, s'.trace = l ++ s.trace ∧
    ∀ bytes, Obs.wr bytes ∈ l → bytes = s.cfg.request := by
  obtain ⟨r, h⟩ := h
  obtain ⟨r', s'', h', hc, -, -, -, -, -, hcase⟩ := KS.write_out s.cfg.request none { s with sockOpen := true }
  cases h.symm.trans h'
  rcases hcase with ⟨ht, -⟩ | ⟨-, -, ⟨ht, -⟩ | ⟨ht, -⟩⟩
  · exact ⟨hc, [], ht, nofun⟩
  · exact ⟨hc, [_], ht, fun bytes hm => by simpa [wrObs] using hm⟩
  · exact ⟨hc, [_], ht, fun bytes hm => by simp at hm⟩

theorem runAll_writes (cfg : Cfg) (react : React) (env : List EnvStep) (hv : cfg.v.closeArgs = true) :
    ∀ bytes, Obs.wr bytes ∈ (runAll cfg react env).trace → GoodFrame cfg bytes ∨ bytes = cfg.request := by
  let I (s : Sys) : Prop := s.cfg = cfg ∧ ∀ bytes, Obs.wr bytes ∈ s.trace → GoodFrame cfg bytes ∨ bytes = cfg.request
  have grow {s s' : Sys} {l : List Obs} (hi : I s) (hc : s'.cfg = s.cfg) (ht : s'.trace = l ++ s.trace)
      (hl : ∀ bytes, Obs.wr bytes ∈ l → GoodFrame cfg bytes ∨ bytes = cfg.request) : I s' :=
    ⟨hc.trans hi.1, fun bytes hm => by
      rw [ht] at hm
      exact (List.mem_append.mp hm).elim (hl bytes) (hi.2 bytes)⟩
  have step {L : Prop} {s s' : Sys} (hi : I s) (m : Move L s s') : I s' := by
    obtain ⟨hc, l, ht, hg⟩ := m.wire
    exact grow hi hc ht fun bytes hm => .inl (hi.1 ▸ hg (hi.1 ▸ hv) bytes hm)
  have h := (conn_runAll cfg react env).keeps (I := I) (J := I) step step
    (fun hi c => by
      obtain ⟨hc, l, ht, hg⟩ := c.wire
      exact grow hi hc ht fun bytes hm => .inr (hi.1 ▸ hg bytes hm))
    ⟨rfl, fun _ hm => nomatch hm⟩
  exact (h.elim id id).2

end Lomond.Core
