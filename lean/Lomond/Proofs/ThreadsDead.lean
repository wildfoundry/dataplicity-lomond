/-
  The dead socket (`sockShut = true`).  Once the loop thread has executed `sockClose` (`shutdown(); close()` under the
  write lock) no schedule entry of either model (`Model/Threads.lean`, `Model/ThreadsN.lean`) changes the wire, and the
  socket stays shut; a write step executed on the shut socket is a `TransportFail` (`Err.transport`) that moves its thread
  on to the release; a send that starts afterwards fails (`send_after_shut_of_fresh`).
-/
import Lomond.Proofs.Threads

namespace Lomond.Threads
open Lomond

theorem stepN_shut (env : Env) (v : Variant) (cfg : Cfg) (s : State) (t : Tid) (hs : s.sh.sockShut = true) :
    (stepN env v cfg s t).sh.wire = s.sh.wire ∧ (stepN env v cfg s t).sh.sockShut = true := by
  rcases stepN_entry env v cfg s t with e | ⟨c, st, r, _, _, _, _, _, e⟩ <;> rw [e]
  · exact ⟨rfl, hs⟩
  · have w := execN_writes env v t st r s.sh c
    have hsh : (execN env v t st r s.sh c).1.sockShut = true := by
      rw [(execN_frame env v t st r s.sh c).1]
      show (exec v t st r s.sh c).1.sockShut = true
      rw [exec_shut, hs]; rfl
    refine ⟨?_, hsh⟩
    rw [setTh_sh]
    generalize (execN env v t st r s.sh c).1.wire = w' at w
    generalize (execN env v t st r s.sh c).2.wrote = f' at w
    -- a chunk is written only on a socket that is not shut
    cases w with
    | none => rfl
    | part _ h => rw [hs] at h; cases h
    | last _ h => rw [hs] at h; cases h

theorem runN_shut (env : Env) (v : Variant) (cfg : Cfg) (s : State) (sched : List Tid) (hs : s.sh.sockShut = true) :
    (runN env v cfg s sched).sh.wire = s.sh.wire ∧ (runN env v cfg s sched).sh.sockShut = true :=
  runN_keeps (I := fun s' => s'.sh.wire = s.sh.wire ∧ s'.sh.sockShut = true)
    (fun s' t h => ⟨(stepN_shut env v cfg s' t h.2).1.trans h.1, (stepN_shut env v cfg s' t h.2).2⟩) s sched ⟨rfl, hs⟩

theorem not_blocked_at_write {sh : Shared} {c : Cur} {st : Step} {r : List Step} (hr : c.rest = st :: r)
    (hw : isWrite st = true) : blockedOn sh c = false := by
  unfold blockedOn; rw [hr]
  cases st <;> first | rfl | cases hw

theorem stepN_dead_write (env : Env) (v : Variant) (cfg : Cfg) (s : State) (t : Tid) (c : Cur) (st : Step) (r : List Step)
    (hc : (s.th t).current v cfg = some c) (hr : c.rest = st :: r) (hw : isWrite st = true)
    (hs : s.sh.sockShut = true) :
    stepN env v cfg s t = setTh s t (settle (s.th t) { c with rest := toRelease r, err := some .transport }) s.sh := by
  unfold stepN
  rw [hc]
  simp only [hr, not_blocked_at_write hr hw, Bool.false_eq_true, if_false]
  cases st <;> simp only [isWrite] at hw <;> (try cases hw) <;> simp [execN, execW1, execW2, failWrite, hs]

/-- while the wire stays what it was, a call that had not written has not written when it returns, and a send raised:
    from `MsgInv` (which calls are on the wire) and `CallInv` (a send without an error wrote) -/
theorem not_written_stays (v : Variant) (cfg : Cfg) (s₀ s : State) (M₀ : MsgInv v cfg s₀) (M : MsgInv v cfg s)
    (C : CallInv v cfg s) (hwire : s.sh.wire = s₀.sh.wire) (t : Tid) (i : Nat) (r : Result)
    (h0 : ¬ wroteAt (s₀.th t) i) (hr : (s.th t).results[i]? = some r) :
    r.wrote = false ∧ ∀ call, (s.th t).prog[i]? = some call → call.isSend = true → r.err ≠ none := by
  have hw : r.wrote = false := by
    cases hx : r.wrote with
    | false => rfl
    | true =>
      have h1 : i ∈ idxs s.sh.wire t := (M.mem t i).mpr (Or.inl ⟨r, hr, hx⟩)
      rw [hwire] at h1
      exact absurd ((M₀.mem t i).mp h1) h0
  refine ⟨hw, ?_⟩
  intro call hcall hsend he
  obtain ⟨call2, hc2, _, h3⟩ := C.res t i r hr
  rw [hcall] at hc2; cases hc2
  rw [h3 hsend he] at hw; cases hw

theorem not_started_not_written (v : Variant) (cfg : Cfg) (s : State) (M : MsgInv v cfg s) (t : Tid) (i : Nat)
    (hcur : (s.th t).cur = none) (hpc : (s.th t).pc ≤ i) : ¬ wroteAt (s.th t) i := by
  rintro (⟨r, hr, _⟩ | ⟨c, hc, _⟩)
  · have := M.len t
    rw [List.getElem?_eq_none (by omega)] at hr; cases hr
  · rw [hcur] at hc; cases hc

/-- **A send that starts after the socket has been shut fails** — on every socket, from any fresh start: after `pre` the
    socket is shut and thread `t` is between two calls, `i` of which it has not reached; if call `i` is a send method and
    returns during `post`, it raised an error and wrote nothing -/
theorem send_after_shut_of_fresh (env : Env) (v : Variant) (cfg : Cfg) {s₁ : State} (F : Fresh s₁)
    (pre post : List Tid) (t : Tid) (i : Nat) (r : Result) (call : Call) :
    let s₀ := runN env v cfg s₁ pre
    let s := runN env v cfg s₀ post
    s₀.sh.sockShut = true → (s₀.th t).cur = none → (s₀.th t).pc ≤ i →
    (s.th t).results[i]? = some r → (s₁.th t).prog[i]? = some call → call.isSend = true →
      r.err ≠ none ∧ r.wrote = false := by
  intro s₀ s hs hcur hpc hr hcall hsend
  have B₀ : BaseN v cfg s₀ := baseN_run env v cfg _ pre (baseN_fresh v cfg F)
  have B : BaseN v cfg s := baseN_run env v cfg _ post B₀
  obtain ⟨h1, h2⟩ := not_written_stays v cfg s₀ s B₀.M B.M B.C (runN_shut env v cfg s₀ post hs).1 t i r
    (not_started_not_written v cfg s₀ B₀.M t i hcur hpc) hr
  exact ⟨h2 call (by rw [runN_prog, runN_prog]; exact hcall) hsend, h1⟩

end Lomond.Threads
