/-
  Lifting for statements about which exception ends a computation and in what state (`SpecX I X`,
  Proofs/Logic.lean).  `LeavesX I X` lists what is asked of the leaves; it yields `PipeX I X`
  (Proofs/Pipe.lean) for the receive pipeline and `liftx_loop` for the session loop.  Unlike
  `Lift.Leaves`, bookkeeping (`InertF`) keeps `closing` / `closed`, and `onClose` / `onDisconnect` are
  leaves.  `TopX`, `topx_run`, `topx_runAll` carry a final-state property through `run()`, as an instance
  (`FinX`) of the outline of Proofs/RunRule.lean.
-/
import Lomond.Proofs.Raises
import Lomond.Proofs.Monitor
import Lomond.Proofs.RunRule
import Lomond.Proofs.EnvIrrel
namespace Lomond.Core.LiftX
open Lomond Lomond.Core Lomond.Core.Lift

variable {I : Sys → Prop} {X Q : Exn → Sys → Prop}

structure LeavesX (I : Sys → Prop) (X : Exn → Sys → Prop) : Prop where
  inert : ∀ s s', InertF s s' → I s → I s'
  /-- an `Exception`-class error raised by the library's own checks leaves the invariant intact … -/
  boring : ∀ x s, Exn.boring x = true → I s → X x s
  /-- … and that is all `X` says about it (the `except` clauses of `feed` run on from there) -/
  unboring : ∀ x s, Exn.boring x = true → X x s → I s
  forced : ∀ s, I s → X (.forceDisconnect "forced") s
  scriptEnd : ∀ s, I s → X .scriptEnd s
  unwrap : ∀ y s, X (.outer y) s → X y s
  closeSocket : SpecX I X closeSocket
  wsClose : ∀ c r, SpecX I X (wsClose c r)
  onDisconnect : SpecX I X onDisconnect
  onClose : ∀ c r, SpecX I X (onClose c r)
  feedYield : ∀ b e, isFeedEvent e = true → (∀ c r, e ≠ .closing c r) → (∀ c r, e ≠ .closed c r) →
    SpecX I X (feedYield b e)

section Pipe
variable (T : LeavesX I X)
include T

theorem liftx_checkCloseCode (c : Option Nat) : SpecX I X (checkCloseCode c) :=
  specx_checkCloseCode T.boring c

omit T in
theorem sat_of_eq {r r' : Res α} (e : r = r') (h : Sat I X r') : Sat I X r := e ▸ h

theorem liftx_feedHandler (x : Exn) (s1 : Sys) (hx : X x s1) : Sat I X (feedHandler x s1 : Res Unit) := by
  have hy : ∀ m c, SpecX I X (feedYield false (.protocolError m c)) := fun m c =>
    T.feedYield _ _ rfl (fun _ _ h => by cases h) (fun _ _ h => by cases h)
  unfold feedHandler
  split
  · exact specx_bind (hy _ _) (fun _ => specx_throwE T.forced) s1 (T.unboring _ _ rfl hx)
  · exact specx_bind (hy _ _) (fun _ => specx_throwE T.forced) s1 (T.unboring _ _ rfl hx)
  · exact specx_bind (hy _ _) (fun _ => specx_bind (T.wsClose _ _) (fun r => specx_bind (specx_argError T.boring r)
      (fun _ => specx_throwE T.forced))) s1 (T.unboring _ _ rfl hx)
  · exact hx

theorem liftx_unwrapOuter (x : Exn) (s1 : Sys) (hx : X x s1) : Sat I X (unwrapOuter x s1 : Res Unit) := by
  unfold unwrapOuter
  split
  · exact T.unwrap _ _ hx
  · exact hx

theorem LeavesX.pipe : PipeX I X where
  inert := T.inert
  boring := T.boring
  handler := liftx_feedHandler T
  reject := fun _ => specx_bind T.onDisconnect (fun _ =>
    specx_bind (T.feedYield true _ rfl (fun _ _ h => by cases h) (fun _ _ h => by cases h)) (fun _ => specx_pure _))
  onClose := T.onClose
  feedYield := T.feedYield true

theorem liftx_loop (P : EnvStep → Prop)
    (hTick : ∀ dt rd s, P (.wait dt rd) → I s → s.closed = false → Sat I X (regular (tick s dt)))
    (env : List EnvStep) (hP : ∀ st ∈ env, P st) : SpecX I X (loop env) :=
  specx_loop (fun s hs _ => T.scriptEnd s hs) (fun s hs => T.boring _ s rfl hs)
    (pipe_recvStep T.pipe (liftx_unwrapOuter T) T.boring) P hTick env hP

end Pipe

def SatF (I Fin : Sys → Prop) : Res α → Prop
  | .ok _ s => I s
  | .err _ s => Fin s

/-- what has to be known about the steps of `run()` outside the session loop; `Fin` is what is
    claimed of every final state (however the connection ended) -/
structure TopX (I : Sys → Prop) (X : Exn → Sys → Prop) (Fin : Sys → Prop) (env0 : List EnvStep) : Prop where
  envEq : ∀ s, I s → s.env = env0
  iFin : ∀ s, I s → Fin s
  /-- the application abandoned the iterator -/
  xFin : ∀ s, X .genExit s → Fin s
  yieldTop : ∀ e, (e = .connecting ∨ ∃ k, e = .connectFail k) → SpecX I X (yieldEv e)
  /-- `Connected` is yielded after the upgrade request was written: the socket is open and the
      websocket neither closing nor closed -/
  yieldConn : ∀ p s, I s → s.sockOpen = true → s.closing = false → s.closed = false → s.ready = false →
    Sat I X (yieldEv (.connected p) s)
  sockSet : ∀ s, I s → I { s with sockOpen := true }
  writeReq : ∀ s, I s → s.sockOpen = true → s.ready = false → I (write s.cfg.request none s).state
  selSet : ∀ b s, I s → I { s with selOpen := b }
  endNone : ∀ s, I s → Fin (onLoopEnd none s).state
  endSome : ∀ x s, X x s → (∀ z, x ≠ .outer z) → Fin (onLoopEnd (some x) s).state
  finSel : ∀ s, Fin s → Fin (selClose s).state
  finSock : ∀ s, Fin s → Fin (closeSocket s).state
  finInc : ∀ s, Fin s → Fin { s with trace := .incomplete :: s.trace }

variable {Fin : Sys → Prop} {env0 : List EnvStep}

theorem modS_bindx (f : Sys → Sys) (k : Unit → M α) (s : Sys) : (modS f >>= k) s = k () (f s) := modS_bind f k s

theorem closeSocket_is_ok (s : Sys) : closeSocket s = .ok () (closeSocket s).state := by rw [closeSocket_eq]; rfl

theorem selClose_is_ok (s : Sys) : selClose s = .ok () (selClose s).state := by rw [selClose_eq]; rfl

theorem write_is_ok (d : Bytes) (z : Option (Nat × Bytes)) (s : Sys) :
    ∃ r, write d z s = .ok r (write d z s).state := by
  obtain ⟨r, s', e⟩ := write_returns d z s
  exact ⟨r, by rw [e]; rfl⟩

theorem write_accepted {d : Bytes} {z : Option (Nat × Bytes)} {s s' : Sys} {r : ActRes}
    (h : write d z s = .ok r s') (hr : ¬ wsError r = true) :
    s'.sockOpen = true ∧ s'.closing = false ∧ s'.closed = false :=
  write_elim (P := fun q => ∀ r s', q = .ok r s' → ¬ wsError r = true →
      s'.sockOpen = true ∧ s'.closing = false ∧ s'.closed = false) d z s
    (fun r0 hr0 r s' e hr => by
      cases e; exact absurd (by rcases hr0 with ⟨rfl, _⟩ | ⟨rfl, _⟩ | ⟨rfl, _⟩ <;> decide) hr)
    (fun h1 h2 h3 r0 o _ r s' e _ => by cases e; exact ⟨h1, h3, h2⟩) r s' h hr

theorem topx_yield_fin (U : TopX I X Fin env0) {e : Event} {s : Sys} (h : Sat I X (yieldEv e s)) :
    Fin (yieldEv e s).state := by
  cases hy : yieldEv e s with
  | ok u s2 => rw [hy] at h; exact U.iFin s2 h
  | err x s2 =>
    rw [hy] at h
    have := Monitor.yieldEv_err_genExit hy
    subst this
    exact U.xFin s2 h

theorem loop_not_outer (env : List EnvStep) (s : Sys) (x : Exn) (s' : Sys) (h : loop env s = .err x s') :
    ∀ z, x ≠ .outer z := by
  intro z e
  subst e
  rcases Monitor.raises_loop env s _ s' h with h0 | ⟨h0, _⟩
  · exact h0
  · cases h0

end Lomond.Core.LiftX

/-! ### `run()`: one instance of its proof outline

  `FinX`: every final state satisfies `Fin`, and when `run()` ends by exhausting the environment script
  the exception left the session loop in a state `s2` with `X .scriptEnd s2`, followed by event-free
  clean-up only.  `topx_run` and `topx_run_scriptEnd` are its two halves. -/

namespace Lomond.Core.MonitorGen
open Lomond Lomond.Core Lomond.Core.Lift Lomond.Core.LiftX Lomond.Core.Monitor

theorem closeYield_err_genExit {e : Event} {s s' : Sys} {x : Exn}
    (h : (do closeSocket; yieldEv e : M Unit) s = .err x s') : x = .genExit := by
  rcases raises_closeYield (se := False) e s x s' h with ⟨hx, _⟩ | ⟨_, hf⟩
  · exact hx
  · exact hf.elim

/-- `s'` is `s` after releasing the socket and / or the selector: nothing else changed on the trace -/
def Released (s s' : Sys) : Prop :=
  Keeps s s' ∧ ∃ l, s'.trace = l ++ s.trace ∧ ∀ o ∈ l, o = Obs.sockClose ∨ o = Obs.selClose

theorem released_closeSocket (s : Sys) : Released s (closeSocket s).state := by
  refine ⟨keeps_closeSocket s, ?_⟩
  obtain ⟨l, e, hl⟩ := sockClosed_shape s
  rw [closeSocket_eq, e]; exact ⟨l, rfl, fun o ho => Or.inl (hl o ho)⟩

theorem released_selClose (s : Sys) : Released s (selClose s).state := by
  refine ⟨keeps_selClose s, ?_⟩
  obtain ⟨l, e, hl⟩ := selClosed_shape s
  rw [selClose_eq, e]; exact ⟨l, rfl, fun o ho => Or.inr (hl o ho)⟩

theorem Released.trans {a b c : Sys} (h1 : Released a b) (h2 : Released b c) : Released a c := by
  obtain ⟨k1, l1, e1, n1⟩ := h1
  obtain ⟨k2, l2, e2, n2⟩ := h2
  exact ⟨keeps_po.trans k1 k2, ext_trans ⟨l1, e1, n1⟩ ⟨l2, e2, n2⟩⟩

theorem Released.refl (s : Sys) : Released s s := ⟨keeps_po.refl s, [], rfl, fun o ho => by cases ho⟩

theorem onLoopEnd_scriptEnd {r : Option Exn} {s s' : Sys} (h : onLoopEnd r s = .err .scriptEnd s') :
    r = some .scriptEnd ∧ s' = s := by
  have key : ∀ e : Event, (do closeSocket; yieldEv e : M Unit) s = .err .scriptEnd s' → False := by
    intro e he; have := closeYield_err_genExit he; cases this
  cases r with
  | none => exact (key _ h).elim
  | some y =>
    cases y with
    | scriptEnd => cases h; exact ⟨rfl, rfl⟩
    | genExit => cases h
    | outer z => cases h
    | parse m => exact (key _ h).elim
    | protocol m => exact (key _ h).elim
    | critical m => exact (key _ h).elim
    | forceDisconnect k => exact (key _ h).elim
    | socketFail k => exact (key _ h).elim
    | other k => exact (key _ h).elim

variable {I : Sys → Prop} {X : Exn → Sys → Prop} {Fin : Sys → Prop} {env0 : List EnvStep}

theorem _root_.Lomond.Core.LiftX.SpecX.tri {I : Sys → Prop} {X : Exn → Sys → Prop} {m : M α} (h : SpecX I X m) :
    Tri I m (fun _ => I) X := h

def FinX (X : Exn → Sys → Prop) (Fin : Sys → Prop) (x : Exn) (s' : Sys) : Prop :=
  Fin s' ∧ (x = .scriptEnd → ∃ s2, X .scriptEnd s2 ∧ Released s2 s')

theorem FinX.of_genExit {x : Exn} {s : Sys} (h : Fin s) (e : x = .genExit) : FinX X Fin x s :=
  ⟨h, fun e' => by subst e; cases e'⟩

theorem FinX.step {x : Exn} {s s' : Sys} (h : FinX X Fin x s) (hf : Fin s') (hr : Released s s') :
    FinX X Fin x s' :=
  ⟨hf, fun e => (h.2 e).elim fun s2 h2 => ⟨s2, h2.1, h2.2.trans hr⟩⟩

theorem tri_fin_genExit {A : Sys → Prop} {m : M Unit} (hf : ∀ s, A s → Fin (m s).state)
    (hg : ∀ s x s', m s = .err x s' → x = .genExit) : Tri A m (fun _ => Fin) (FinX X Fin) :=
  ((tri_state.2 hf).and (tri_raises (P := fun _ => True) (fun s x s' _ h => hg s x s' h))).weaken
    (fun _ h => ⟨h, trivial⟩) (fun _ _ h => h.1) (fun _ _ h => FinX.of_genExit h.1 h.2)

section TopErr
variable (T : LeavesX I X) (U : TopX I X Fin env0)
include T U

omit T in
/-- an event yielded outside the session loop: the application either resumes the iterator (the
    invariant holds, `ready` is as before) or abandons it (`run()` is over) -/
theorem tri_yield_genExit {e : Event} {A : Sys → Prop} {b : Bool} (h : ∀ s, A s → Sat I X (yieldEv e s))
    (hb : ∀ s, A s → s.ready = b) :
    Tri A (yieldEv e) (fun _ s => I s ∧ s.ready = b) (fun x s => Fin s ∧ x = .genExit) := by
  intro s hs
  have h1 := h s hs
  have hk := yieldEv_keeps e s
  cases hy : yieldEv e s with
  | ok u s1 => rw [hy] at h1 hk; exact ⟨h1, hk.ready.trans (hb s hs)⟩
  | err x s1 =>
    rw [hy] at h1
    have := yieldEv_err_genExit hy
    subst this
    exact ⟨U.xFin s1 h1, rfl⟩

omit T in
theorem tri_runLoopL_finX {l : M Unit}
    (hl : Tri I l (fun _ => I) (fun x s => X x s ∧ ∀ z, x ≠ .outer z)) :
    Tri I (runLoopL l) (fun _ => Fin) (FinX X Fin) :=
  tri_runLoopL (Xe := FinX X Fin) hl
    (tri_fin_genExit U.endNone (fun s x s' h => closeYield_err_genExit h))
    (fun x => ((tri_state.2 (fun s h => U.endSome x s h.1 h.2)).and
      (tri_raises (P := fun s => X x s) (X := fun y s' => y = .scriptEnd → ∃ s2, X .scriptEnd s2 ∧ Released s2 s')
        (fun s y s' hs h e => by
          subst e
          obtain ⟨hr, e2⟩ := onLoopEnd_scriptEnd h
          cases hr; subst e2
          exact ⟨_, hs, Released.refl _⟩))).weaken (fun _ h => ⟨h, h.1⟩) (fun _ _ h => h.1) (fun _ _ h => h))
    (tri_noRaise selClose_ne_err U.finSel)
    (fun x => (tri_runFinally x (W := FinX X Fin x)
      (fun s h => h.step (U.finSock s h.1) (released_closeSocket s))
      (fun s h => h.step (U.finSel s h.1) (released_selClose s))).weaken (fun _ h => h) (fun _ _ h => h)
      (fun y s h => by obtain ⟨rfl, h2⟩ := h; exact h2))

omit T in
theorem tri_yieldConnected_finX (proxy : Bool) :
    Tri (fun s => I s ∧ s.ready = false ∧ s.sockOpen = true ∧ s.closing = false ∧ s.closed = false)
      (yieldConnected proxy) (fun _ => I) (FinX X Fin) :=
  tri_yieldConnected proxy (Y := fun _ x s => Fin s ∧ x = .genExit)
    (fun _ => (tri_yield_genExit U (b := false)
      (fun s h => U.yieldConn proxy s h.1.1 h.1.2.2.1 h.1.2.2.2.1 h.1.2.2.2.2 h.1.2.1) (fun _ h => h.1.2.1)).weaken
      (fun _ h => h) (fun _ _ h => h.1) (fun _ _ h => h))
    (fun _ _ s _ h => FinX.of_genExit (U.finSock s h.1) h.2) (fun _ _ _ _ h => FinX.of_genExit h.1 h.2)

theorem tri_afterConnectL_finX {l : M Unit}
    (hl : Tri I l (fun _ => I) (fun x s => X x s ∧ ∀ z, x ≠ .outer z)) (proxy sel : Bool) :
    Tri (fun s => I s ∧ s.ready = false) (afterConnectL l proxy sel) (fun _ => Fin) (FinX X Fin) :=
  tri_afterConnectL proxy sel (A' := fun s => I s ∧ s.ready = false ∧ s.sockOpen = true)
    (B := fun r s => I s ∧ s.ready = false ∧
      (¬ wsError r = true → s.sockOpen = true ∧ s.closing = false ∧ s.closed = false))
    (fun s h => ⟨U.sockSet s h.1, h.2, rfl⟩)
    (fun s0 => tri_noRaise_ok (write_ne_err _ _) (fun s r s' h hw => by
      obtain ⟨⟨hi, hrd, hso⟩, rfl⟩ := h
      have h2 := U.writeReq s hi hso hrd
      have hk := keeps_write s.cfg.request none s
      rw [hw] at h2 hk
      exact ⟨h2, hk.ready.trans hrd, write_accepted hw⟩))
    (fun r _ => tri_fin_genExit (fun s h => tri_state.1 (tri_bind (B := fun _ => I)
        (T.closeSocket.tri.of_noRaise noRaise_closeSocket)
        (fun _ => tri_state.2 (fun s h => topx_yield_fin U (U.yieldTop _ (Or.inr ⟨_, rfl⟩) s h)))) s h.1)
      (fun s x s' h => closeYield_err_genExit h))
    (fun r hne => (tri_yieldConnected_finX U proxy).pre (fun s h => ⟨h.1, h.2.1, h.2.2 hne⟩))
    (fun s h => U.selSet sel s h) (tri_runLoopL_finX U hl)

theorem tri_runL_finX {l : M Unit} (hl : Tri I l (fun _ => I) (fun x s => X x s ∧ ∀ z, x ≠ .outer z)) :
    Tri (fun s => I s ∧ s.ready = false) (runL l) (fun _ => Fin) (FinX X Fin) :=
  tri_runL (A1 := fun s => I s ∧ s.ready = false)
    ((tri_yield_genExit U (fun s h => U.yieldTop _ (Or.inl rfl) s h.1) (fun s h => h.2)).weaken
      (fun _ h => h) (fun _ _ h => h) (fun _ _ h => FinX.of_genExit h.1 h.2))
    (fun k => tri_fin_genExit (fun s h => topx_yield_fin U (U.yieldTop _ (Or.inr ⟨k, rfl⟩) s h.1.1))
      (fun s x s' h => yieldEv_err_genExit h))
    (fun p => (tri_afterConnectL_finX T U hl p true).pre (fun _ h => h.1))
    (fun p => (tri_afterConnectL_finX T U
      (tri_throwE (fun s h => ⟨T.boring _ s rfl h, fun z e => by cases e⟩)) p false).pre (fun _ h => h.1))

theorem tri_run_finX (hloop : SpecX I X (loop env0)) :
    Tri (fun s => I s ∧ s.ready = false) run (fun _ => Fin) (FinX X Fin) := by
  intro s hs
  rw [run_eq_runL, U.envEq s hs.1]
  exact tri_runL_finX T U ((hloop.tri.and
    (tri_raises (P := fun _ => True) (fun s x s' _ h => loop_not_outer env0 s x s' h))).weaken
      (fun _ h => ⟨h, trivial⟩) (fun _ _ h => h.1) (fun _ _ h => h)) s hs

theorem topx_run_scriptEnd (hloop : SpecX I X (loop env0)) (s : Sys) (hs : I s) (hrd : s.ready = false)
    {s' : Sys} (h : run s = .err .scriptEnd s') : ∃ s2, X .scriptEnd s2 ∧ Released s2 s' :=
  ((tri_run_finX T U hloop).err ⟨hs, hrd⟩ h).2 rfl

end TopErr

end Lomond.Core.MonitorGen

namespace Lomond.Core.LiftX
open Lomond Lomond.Core Lomond.Core.Lift Lomond.Core.MonitorGen

variable {I : Sys → Prop} {X : Exn → Sys → Prop} {Fin : Sys → Prop} {env0 : List EnvStep}

section Top
variable (T : LeavesX I X) (U : TopX I X Fin env0)
include T U

/-- `yield Connected` (inside the `try` in the repaired code): either the invariant holds
    afterwards, or `run()` is over and the final state is fine -/
theorem topx_yieldConnected (proxy : Bool) (s : Sys) (hs : I s) (hso : s.sockOpen = true)
    (hcg : s.closing = false) (hcd : s.closed = false) (hrd : s.ready = false) :
    SatF I Fin (yieldConnected proxy s) := by
  have h := tri_yieldConnected_finX U proxy s ⟨hs, hrd, hso, hcg, hcd⟩
  cases hy : yieldConnected proxy s with
  | ok u s1 => rw [hy] at h; exact h
  | err x s1 => rw [hy] at h; exact h.1

theorem topx_run (hloop : SpecX I X (loop env0)) (s : Sys) (hs : I s) (hrd : s.ready = false) :
    Fin (run s).state :=
  tri_state.1 ((tri_run_finX T U hloop).weaken (fun _ h => h) (fun _ _ h => h) (fun _ _ h => h.1)) s ⟨hs, hrd⟩

theorem topx_runAll (hloop : SpecX I X (loop env0)) (cfg : Cfg) (react : React)
    (h0 : I { cfg := cfg, react := react, env := env0 }) : Fin (runAll cfg react env0) :=
  runAll_of_run cfg react env0 (topx_run T U hloop _ h0 rfl) U.finSock U.finInc

end Top

end Lomond.Core.LiftX
