/-
  Dynamic-Huffman blocks (BTYPE=10) written by the reference encoder, the parts shared by both
  forms of header: the tables `mkHuff` builds from complete code lengths decode the encoder's
  canonical code words (Proofs/InflateCanon.lean), and `readClLens` stores the 3-bit lengths of
  the code-length code in the order of `clOrder`.  The header itself: Proofs/InflateRle.lean.
-/
import Lomond.Proofs.InflateCanon
import Lomond.Proofs.InflateSym
namespace Lomond.Inflate
open Lomond Lomond.DeflEnc Lomond.Deflate

theorem foldl_range_congr (f g : Nat → Nat → Nat) (n a0 : Nat) (h : ∀ a l, l < n → f a l = g a l) :
    (List.range n).foldl f a0 = (List.range n).foldl g a0 := by
  induction n with
  | zero => rfl
  | succ n ih =>
    rw [List.range_succ, List.foldl_append, List.foldl_append, ih fun a l hl => h a l (Nat.lt_succ_of_lt hl)]
    exact h _ n (Nat.lt_succ_self n)

theorem kraftTo_le (c : Nat → Nat) (n : Nat) :
    (List.range n).foldl (fun a l => a + c l * 2 ^ (14 - l)) 0 ≤ (List.range n).foldl (fun a l => a + c l) 0 * 2 ^ 14 := by
  induction n with
  | zero => exact Nat.zero_le _
  | succ n ih =>
    rw [kraftTo_succ (fun l => c l * 2 ^ (14 - l)), kraftTo_succ c, Nat.add_mul]
    have hp : 2 ^ (14 - n) ≤ 2 ^ 14 := Nat.pow_le_pow_right Nat.zero_lt_two (Nat.sub_le 14 n)
    exact Nat.add_le_add ih (Nat.mul_le_mul_left _ hp)

theorem used_kraft (lens : List Nat) :
    (List.range 15).foldl (fun a l => a + (countLens lens).getD (l + 1) 0 * 2 ^ (14 - l)) 0 = kraft lens := by
  rw [kraft]
  exact foldl_range_congr _ _ 15 0 fun a l hl => by rw [countLens_getD lens _ (by omega)]

theorem classify_complete_iff (lens : List Nat) (isCodes : Bool) :
    classify (countLens lens) isCodes = some .complete ↔ kraft lens = 2 ^ 15 := by
  have htot := kraftTo_le (fun l => (countLens lens).getD (l + 1) 0) 15
  rw [used_kraft] at htot
  unfold classify
  simp only [used_kraft]
  generalize (List.range 15).foldl (fun a l => a + (countLens lens).getD (l + 1) 0) 0 = total at htot
  constructor
  · intro h
    by_cases h0 : total = 0
    · rw [if_pos h0] at h; cases h
    by_cases h1 : kraft lens > 2 ^ 15
    · rw [if_neg h0, if_pos h1] at h; cases h
    by_cases h2 : kraft lens = 2 ^ 15
    · exact h2
    rw [if_neg h0, if_neg h1, if_neg h2] at h
    split at h <;> cases h
  · intro hk
    rw [if_neg (by intro h0; rw [h0, hk] at htot; omega)]
    simp [hk]

theorem mkHuff_complete (lens : List Nat) (isCodes : Bool) (hk : kraft lens = 2 ^ 15) :
    ∃ h, mkHuff lens.toArray isCodes = some h ∧ h.shape = .complete := by
  simp only [mkHuff, (classify_complete_iff lens isCodes).mpr hk]
  exact ⟨_, rfl, rfl⟩

theorem mkHuff_complete_kraft (lens : List Nat) (isCodes : Bool) (h : Huff) (hm : mkHuff lens.toArray isCodes = some h)
    (hsh : h.shape = .complete) : kraft lens = 2 ^ 15 := by
  unfold mkHuff at hm
  simp only [] at hm
  split at hm
  · cases hm
  · rename_i sh hc
    simp only [Option.some.injEq] at hm
    subst hm
    simp only at hsh
    subst hsh
    exact (classify_complete_iff lens isCodes).mp hc

theorem code_canon (lens : List Nat) (isCodes : Bool) (h : Huff) (hm : mkHuff lens.toArray isCodes = some h)
    (hsh : h.shape = .complete) (h15 : ∀ l ∈ lens, l ≤ 15) :
    Code h (canonCode lens) (fun s => 1 ≤ lens.getD s 0) where
  dec := by
    intro inp pos s r hs hr
    rw [decode_complete h hsh, hr, goL_canonWord _ _ lens (mkHuff_canon lens.toArray isCodes h hm)
      (Nat.le_of_eq (mkHuff_complete_kraft lens isCodes h hm hsh)) h15 s r hs]
    simp [rdOf, canonCode]
  pos := by
    intro s hs
    simpa [canonCode] using hs

/-- the values stored one after the other at the places `clOrder` names, from place `j` on -/
def setAll : Nat → List Nat → Array Nat → Array Nat
  | _, [], acc => acc
  | j, v :: vs, acc => setAll (j + 1) vs (acc.set! (Inflate.clOrder.getD j 0) v)

/-- `readClLens` stores the values in the order of `clOrder` -/
theorem readClLens_spec {inp : Array Nat} (hwf : ∀ x ∈ inp.toList, x < 256) (vals : List Nat)
    (hv : ∀ v ∈ vals, v < 8) (j pos : Nat) (acc : Array Nat) (r : List Bool) (hp : pos ≤ 8 * inp.size)
    (h : Rest inp pos = vals.flatMap (bitsLE 3) ++ r) :
    readClLens inp vals.length j pos acc = .ok (setAll j vals acc) (pos + 3 * vals.length) := by
  induction vals generalizing j pos acc with
  | nil => simp [readClLens, setAll]
  | cons v vs ih =>
    simp only [List.flatMap_cons, List.append_assoc] at h
    have hb := bits_spec hwf (by decide) (hv v (by simp)) hp h
    have hbd := rest_bound h (by simp [bitsLE])
    simp only [bitsLE_length] at hbd
    have := ih (fun v' h' => hv v' (by simp [h'])) (j + 1) (pos + 3) (acc.set! (Inflate.clOrder.getD j 0) v)
      (by omega) (by simpa using rest_append h)
    simp only [List.length_cons, readClLens, hb, this, setAll]
    congr 1
    omega

theorem bitsLE_concat (n m a b : Nat) (ha : a < 2 ^ n) : bitsLE (n + m) (a + 2 ^ n * b) = bitsLE n a ++ bitsLE m b := by
  rw [bitsLE_add, ← bitsLE_mod n (a + 2 ^ n * b)]
  have h1 : (a + 2 ^ n * b) % 2 ^ n = a := by
    rw [Nat.add_mul_mod_self_left, Nat.mod_eq_of_lt ha]
  have h2 : (a + 2 ^ n * b) / 2 ^ n = b := by
    rw [Nat.add_mul_div_left _ _ (Nat.two_pow_pos n), Nat.div_eq_of_lt ha, Nat.zero_add]
  rw [h1, h2]

end Lomond.Inflate
