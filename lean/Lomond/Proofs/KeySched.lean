/-
  The masking-key schedule of a connection.  Every `sendFrame` of the core model draws the key
  `cfg.maskKey s.keyCtr` and advances `keyCtr`; while the connection accepts writes the counter moves
  in step with the trace: the frame written after the entries `older` is built with the key of index
  `ZFrame.keyIdx older` = (earlier writes and refused application calls) − 1 (the first write is the
  upgrade request, which draws no key).  Proved step by step (`Move.keyRel`, `Move.preRel`) and so
  for a whole connection (`runAll_si`).

  Hypothesis `Small react`: the application never passes a payload of 2^63 bytes or more (no Python
  object is that long: `len` ≤ `sys.maxsize`).  For such a payload the model draws a key before
  `Frame.build` fails, the source fails before `make_masking_key()`; the case is dead code in
  CPython (`# pragma: no cover` in frame.py) and is excluded rather than modelled.
-/
import Lomond.Proofs.SendMoves
namespace Lomond.Core.KS
open Lomond Lomond.ZFrame

/-- what is known of a write entry made with key index `k` -/
def TagAt (cfg : Cfg) (k : Nat) : Obs → Prop
  | .wr bytes => ∃ op payload, Frame.build op payload (cfg.maskKey k) = some bytes
  | .wrFail bytes => bytes = [] ∨ ∃ op payload, Frame.build op payload (cfg.maskKey k) = some bytes
  | .wrz op _ => op = 1 ∨ op = 2
  | _ => True

/-- new entries `l` (newest first) made from a state whose key counter was `k` -/
def Tags (cfg : Cfg) (k : Nat) : List Obs → Prop
  | [] => True
  | o :: l => Tags cfg k l ∧ TagAt cfg (k + nKeys l) o

theorem isWrite_drawsKey {o : Obs} (h : isWrite o = true) : drawsKey o = true := by
  simp [drawsKey, h]

theorem tagAt_nonwrite (cfg : Cfg) (k : Nat) {o : Obs} (h : isWrite o = false) : TagAt cfg k o := by
  cases o <;> simp [isWrite] at h <;> trivial

theorem nKeys_nil : nKeys [] = 0 := rfl
theorem nWrites_nil : nWrites [] = 0 := rfl

theorem nKeys_cons (o : Obs) (l : List Obs) : nKeys (o :: l) = nKeys l + (if drawsKey o then 1 else 0) := by
  simp [nKeys, List.countP_cons]

theorem nWrites_cons (o : Obs) (l : List Obs) : nWrites (o :: l) = nWrites l + (if isWrite o then 1 else 0) := by
  simp [nWrites, List.countP_cons]

theorem nKeys_append (a b : List Obs) : nKeys (a ++ b) = nKeys a + nKeys b := by
  simp [nKeys, List.countP_append]

theorem nWrites_append (a b : List Obs) : nWrites (a ++ b) = nWrites a + nWrites b := by
  simp [nWrites, List.countP_append]

theorem nWrites_le_nKeys (l : List Obs) : nWrites l ≤ nKeys l := by
  induction l with
  | nil => simp [nWrites, nKeys]
  | cons o l ih =>
    rw [nKeys_cons, nWrites_cons]
    by_cases h : isWrite o = true
    · simp [h, isWrite_drawsKey h]; exact ih
    · simp [h]; omega

theorem tags_noWrites (cfg : Cfg) (k : Nat) (l : List Obs) (h : nWrites l = 0) : Tags cfg k l := by
  induction l with
  | nil => trivial
  | cons o l ih =>
    rw [nWrites_cons] at h
    have ho : isWrite o = false := by
      cases hw : isWrite o
      · rfl
      · simp [hw] at h
    exact ⟨ih (by omega), tagAt_nonwrite cfg _ ho⟩

/-- configuration and application unchanged; writability is never regained; a write among the new
    entries means the start state was writable; while writable, the key counter has advanced by
    the number of key-drawing entries; every new entry is tagged with its slot of the schedule -/
structure KeyRel (s s' : Sys) : Prop where
  cfg : s'.cfg = s.cfg
  react : s'.react = s.react
  live : Live s' → Live s
  ext : ∃ l, s'.trace = l ++ s.trace ∧ (nWrites l ≠ 0 → Live s) ∧
    (Live s' → s'.keyCtr = s.keyCtr + nKeys l) ∧ Tags s.cfg s.keyCtr l

theorem keyRel_quiet (s s' : Sys) (l : List Obs) (hc : s'.cfg = s.cfg) (hr : s'.react = s.react)
    (ht : s'.trace = l ++ s.trace) (hk : s'.keyCtr = s.keyCtr) (hl : Live s' → Live s)
    (hn : nKeys l = 0) : KeyRel s s' := by
  have hw : nWrites l = 0 := by have := nWrites_le_nKeys l; omega
  exact ⟨hc, hr, hl, l, ht, fun h => absurd hw h, fun _ => by rw [hk, hn]; rfl, tags_noWrites _ _ _ hw⟩

theorem nKeys_idle (l : List Obs) (h : ∀ o ∈ l, o.idle = true) : nKeys l = 0 := by
  induction l with
  | nil => rfl
  | cons o l ih =>
    rw [nKeys_cons, ih fun x hx => h x (List.mem_cons_of_mem _ hx)]
    have := h o List.mem_cons_self
    cases o <;> first | rfl | cases this

theorem keyRel_idle {s s' : Sys} (h : Idle s s') : KeyRel s s' :=
  let ⟨l, ht, hl⟩ := h.ext
  keyRel_quiet s s' l h.cfg h.react ht h.keyCtr (fun hs => ⟨h.sock hs.1, h.flags hs.2.1 hs.2.2⟩) (nKeys_idle l hl)

theorem sentObs_tag {s : Sys} {op : Nat} {pl : Bytes} {c : Option Bytes} {o : Obs} {r : ActRes}
    (hop : c.isSome = true → op = 1 ∨ op = 2) (h : SentObs s op pl c o r) :
    isWrite o = true ∧ TagAt s.cfg s.keyCtr o := by
  cases c with
  | none =>
    obtain ⟨bytes, hb, ⟨ho, -⟩ | ⟨ho, -⟩⟩ := h
    · subst ho; exact ⟨rfl, op, pl, hb⟩
    · subst ho; exact ⟨rfl, Or.inr ⟨op, pl, hb⟩⟩
  | some plain =>
    rcases h with ⟨ho, -⟩ | ⟨ho, -⟩
    · subst ho; exact ⟨rfl, hop rfl⟩
    · subst ho; exact ⟨rfl, Or.inl rfl⟩

/-- `sendFrame` in any state, in the terms of `KeyRel` (the counter clause only for payloads
    `Frame.build` accepts) -/
theorem sendFrame_weak (op : Nat) (pl : Bytes) (c : Option Bytes) (s : Sys)
    (hop : c.isSome = true → op = 1 ∨ op = 2) :
    ∃ r s', sendFrame op pl c s = .ok r s' ∧ s'.cfg = s.cfg ∧ s'.react = s.react ∧
      s'.sockOpen = s.sockOpen ∧ s'.closed = s.closed ∧ s'.closing = s.closing ∧
      (isRefusal (.res r) = true → ¬ Live s) ∧
      ∃ l, s'.trace = l ++ s.trace ∧ (nWrites l ≠ 0 → Live s) ∧ Tags s.cfg s.keyCtr l ∧
        (Live s → (c = none → pl.length < 2 ^ 63) → s'.keyCtr = s.keyCtr + nKeys l) := by
  obtain ⟨r, s', h, a1, a2, a3, a4, a5, a6, hcase⟩ := sendFrame_out op pl c s
  refine ⟨r, s', h, a1, a2, a3, a4, a5, ?_, ?_⟩
  · intro hr
    rcases hcase with ⟨-, hn, -⟩ | ⟨-, -, -, rfl⟩ | ⟨-, hr', -⟩
    · exact hn
    · cases hr
    · rw [hr] at hr'; cases hr'
  · rcases hcase with ⟨ht, hn, -⟩ | ⟨ht, hc, hbig, -⟩ | ⟨hl, -, o, ht, ho⟩
    · exact ⟨[], ht, fun h => absurd rfl h, trivial, fun hl => absurd hl hn⟩
    · exact ⟨[], ht, fun h => absurd rfl h, trivial, fun _ hs => by have := hs hc; omega⟩
    · obtain ⟨hw, htag⟩ := sentObs_tag hop ho
      refine ⟨[o], ht, fun _ => hl, ⟨trivial, htag⟩, fun _ _ => ?_⟩
      rw [a6, nKeys_cons, nKeys_nil, isWrite_drawsKey hw]; rfl

theorem live_congr {s s' : Sys} (h1 : s'.sockOpen = s.sockOpen) (h2 : s'.closed = s.closed)
    (h3 : s'.closing = s.closing) : Live s' ↔ Live s := by
  unfold Live; rw [h1, h2, h3]

theorem keyRel_sendFrame {op : Nat} {pl : Bytes} {c : Option Bytes} {s s' : Sys} {r : ActRes}
    (h : sendFrame op pl c s = .ok r s') (hop : c.isSome = true → op = 1 ∨ op = 2)
    (hs : c = none → pl.length < 2 ^ 63) : KeyRel s s' ∧ (isRefusal (.res r) = true → ¬ Live s') := by
  obtain ⟨r', s'', h', a1, a2, a3, a4, a5, hr, l, ht, hw, htag, hk⟩ := sendFrame_weak op pl c s hop
  cases h.symm.trans h'
  have hlv := live_congr a3 a4 a5
  exact ⟨⟨a1, a2, hlv.mp, l, ht, hw, fun hl => hk (hlv.mp hl) hs, htag⟩, fun h hl => hr h (hlv.mp hl)⟩

theorem KeyRel.res {s s1 : Sys} (hk : KeyRel s s1) (r : ActRes) (hr : isRefusal (.res r) = true → ¬ Live s1) :
    KeyRel s (resState s1 r) := by
  obtain ⟨l, ht, hw, hc, htag⟩ := hk.ext
  refine ⟨hk.cfg, hk.react, hk.live, .res r :: l, congrArg _ ht, fun hn => hw ?_, fun hl => ?_, htag, trivial⟩
  · rwa [nWrites_cons, show isWrite (.res r) = false from rfl] at hn
  · have hnr : isRefusal (.res r) = false := Bool.eq_false_iff.mpr fun h => hr h hl
    show s1.keyCtr = _
    rw [hc hl, nKeys_cons]
    simp [drawsKey, isWrite, hnr]

/-- the entry `o` written after the entries `older`: the first write of a connection is the
    upgrade request; every later write entry is tagged with key index `keyIdx older` -/
def SchedAt (cfg : Cfg) (older : List Obs) (o : Obs) : Prop :=
  if nWrites older = 0 then (isWrite o = true → o = .wr cfg.request ∨ o = .wrFail cfg.request)
  else TagAt cfg (keyIdx older) o

/-- every entry of a trace (newest first) sits in its slot of the key schedule -/
def Sched (cfg : Cfg) : List Obs → Prop
  | [] => True
  | o :: older => Sched cfg older ∧ SchedAt cfg older o

theorem schedAt_nonwrite (cfg : Cfg) (older : List Obs) {o : Obs} (h : isWrite o = false) :
    SchedAt cfg older o := by
  unfold SchedAt
  split
  · intro hw; rw [h] at hw; cases hw
  · exact tagAt_nonwrite cfg _ h

theorem sched_nonwrites (cfg : Cfg) (T l : List Obs) (h : Sched cfg T) (hl : nWrites l = 0) :
    Sched cfg (l ++ T) := by
  induction l with
  | nil => exact h
  | cons o l ih =>
    rw [nWrites_cons] at hl
    have ho : isWrite o = false := by
      cases hw : isWrite o
      · rfl
      · simp [hw] at hl
    exact ⟨ih (by omega), schedAt_nonwrite cfg _ ho⟩

theorem sched_tags (cfg : Cfg) (T l : List Obs) (k : Nat) (h : Sched cfg T) (hw : nWrites T ≠ 0)
    (hk : k + 1 = nKeys T) (ht : Tags cfg k l) : Sched cfg (l ++ T) := by
  induction l with
  | nil => exact h
  | cons o l ih =>
    obtain ⟨ha, hb⟩ := ht
    refine ⟨ih ha, ?_⟩
    show SchedAt cfg (l ++ T) o
    unfold SchedAt
    have : nWrites (l ++ T) ≠ 0 := by rw [nWrites_append]; omega
    rw [if_neg this]
    have e : keyIdx (l ++ T) = k + nKeys l := by unfold keyIdx; rw [nKeys_append]; omega
    rw [e]; exact hb

/-- the schedule invariant, a state invariant of a connection with a socket: the trace so far obeys the schedule, and while the connection
    accepts writes the request has been written and the key counter is the next slot -/
def SI (s : Sys) : Prop :=
  Sched s.cfg s.trace ∧ (Live s → nWrites s.trace ≠ 0 ∧ s.keyCtr + 1 = nKeys s.trace)

theorem si_step {s s' : Sys} (h : SI s) (hk : KeyRel s s') : SI s' := by
  obtain ⟨l, ht, hw, hc, htag⟩ := hk.ext
  constructor
  · rw [hk.cfg, ht]
    by_cases h0 : nWrites l = 0
    · exact sched_nonwrites _ _ _ h.1 h0
    · obtain ⟨h1, h2⟩ := h.2 (hw h0)
      exact sched_tags _ _ _ _ h.1 h1 h2 htag
  · intro hl
    obtain ⟨h1, h2⟩ := h.2 (hk.live hl)
    rw [ht, nWrites_append, nKeys_append, hc hl]
    exact ⟨by omega, by omega⟩

/-- from a state without a socket: still no socket, and while the websocket is neither closed nor
    closing the key counter has advanced by the number of key-drawing entries (the refusals) -/
structure PreRel (s s' : Sys) : Prop where
  sock : s'.sockOpen = false
  ext : ∃ l, s'.trace = l ++ s.trace ∧
    (s'.closed = false → s'.closing = false →
      (s.closed = false ∧ s.closing = false) ∧ s'.keyCtr = s.keyCtr + nKeys l)

theorem sendFrame_noSock {op : Nat} {pl : Bytes} {c : Option Bytes} {s s' : Sys} {r : ActRes}
    (h : sendFrame op pl c s = .ok r s') (hso : s.sockOpen = false) :
    s'.sockOpen = false ∧ s'.trace = s.trace ∧ s'.closed = s.closed ∧ s'.closing = s.closing ∧
    ((c = none → pl.length < 2 ^ 63) → isRefusal (.res r) = true ∧ s'.keyCtr = s.keyCtr + 1) := by
  obtain ⟨r', s'', h', -, -, a3, a4, a5, a6, hcase⟩ := sendFrame_out op pl c s
  cases h.symm.trans h'
  rcases hcase with ⟨ht, -, hr⟩ | ⟨ht, hc, hbig, -⟩ | ⟨hl, -, -⟩
  · exact ⟨a3.trans hso, ht, a4, a5, fun _ => ⟨hr, a6⟩⟩
  · exact ⟨a3.trans hso, ht, a4, a5, fun hs => by have := hs hc; omega⟩
  · rw [hl.1] at hso; cases hso

/-- the invariant before the socket exists: nothing written yet, no socket, and the key counter
    counts the refused calls -/
def Pre (s : Sys) : Prop :=
  s.sockOpen = false ∧ nWrites s.trace = 0 ∧ (s.closed = false → s.closing = false → s.keyCtr = nKeys s.trace)

theorem refusal_wsError {r : ActRes} (h : isRefusal (.res r) = true) : wsError r = true := by
  cases r <;> simp [isRefusal] at h <;> simp [wsError]

theorem si_writeRequest (s : Sys) (hp : Pre s) (hsi : SI s) :
    SI (write s.cfg.request none { s with sockOpen := true }).state := by
  obtain ⟨r, s', hw, a1, a2, a3, a4, a5, a6, hcase⟩ := write_out s.cfg.request none { s with sockOpen := true }
  rw [hw]
  simp only [Res.state_ok]
  rcases hcase with ⟨ht, hn, -⟩ | ⟨hl, -, ht⟩
  · refine ⟨by rw [a1, ht]; exact hsi.1, fun hl => absurd ((live_congr a3 a4 a5).mp hl) hn⟩
  · have hT : nWrites s.trace = 0 := hp.2.1
    have hk : s.keyCtr = nKeys s.trace := hp.2.2 hl.2.1 hl.2.2
    have key : ∀ o : Obs, isWrite o = true → (o = .wr s.cfg.request ∨ o = .wrFail s.cfg.request) →
        s'.trace = o :: s.trace → SI s' := by
      intro o ho hreq hto
      refine ⟨?_, fun _ => ?_⟩
      · rw [a1, hto]
        refine ⟨hsi.1, ?_⟩
        unfold SchedAt
        rw [if_pos hT]; exact fun _ => hreq
      · rw [hto, nWrites_cons, nKeys_cons, ho, isWrite_drawsKey ho, a6]
        show _ ∧ s.keyCtr + 1 = _
        exact ⟨by simp, by rw [hk]; simp⟩
    rcases ht with ⟨ht, -⟩ | ⟨ht, -⟩
    · exact key _ rfl (Or.inl rfl) ht
    · exact key _ rfl (Or.inr rfl) ht

theorem pre_notLive {s : Sys} (hp : Pre s) : ¬ Live s := fun hl => by
  have := hp.1; rw [hl.1] at this; cases this

theorem pre_si (s : Sys) (hp : Pre s) : SI s :=
  ⟨by have := sched_nonwrites s.cfg [] s.trace trivial hp.2.1; simpa using this,
   fun hl => absurd hl (pre_notLive hp)⟩

theorem pre_step {s s' : Sys} (hp : Pre s) (hk : KeyRel s s') (hr : PreRel s s') : Pre s' := by
  obtain ⟨l, ht, hw, -, -⟩ := hk.ext
  obtain ⟨l', ht', hc⟩ := hr.ext
  have hll : l' = l := List.append_cancel_right (ht'.symm.trans ht)
  subst hll
  have hnl : ¬ Live s := pre_notLive hp
  have hw0 : nWrites l' = 0 := Classical.byContradiction fun h => hnl (hw h)
  refine ⟨hr.sock, by rw [ht, nWrites_append, hw0, hp.2.1], fun c1 c2 => ?_⟩
  obtain ⟨⟨b1, b2⟩, hk'⟩ := hc c1 c2
  rw [hk', hp.2.2 b1 b2, ht, nKeys_append]; omega

theorem _root_.Lomond.Core.Move.keyRel {L : Prop} {s s' : Sys} (h : Move L s s') (hsm : Small s.react) :
    KeyRel s s' := by
  cases h with
  | idle h => exact keyRel_idle h
  | lib _ h hop hl => exact (keyRel_sendFrame h nofun (fun _ => by omega)).1
  | @close s1 pl r t h hl =>
    -- no bound on the payload is needed: the websocket is closing afterwards, so nothing is said of the counter
    obtain ⟨r', s'', h', a1, a2, -, -, -, -, l, ht, hw, htag, -⟩ := sendFrame_weak Gen.opClose pl none s nofun
    cases h.symm.trans h'
    exact ⟨a1, a2, (fun hl => by cases hl.2.2), l, ht, hw, (fun hl => by cases hl.2.2), htag⟩
  | @call s1 op pl c r h hop hs =>
    obtain ⟨hk, hr⟩ := keyRel_sendFrame h
      (fun hc => by rcases hop with h | h | ⟨-, h, -⟩; exact .inl h; exact .inr h; rw [h] at hc; cases hc) (hs hsm)
    exact hk.res r hr
  | res r hr => exact keyRel_quiet _ _ [.res r] rfl rfl rfl rfl id (by simp [nKeys, drawsKey, isWrite, hr])

/-- one step of the application before there is a socket: refusals only, each drawing a key -/
theorem _root_.Lomond.Core.Move.preRel {s s' : Sys} (h : Move False s s') (hsm : Small s.react)
    (hs : s.sockOpen = false) : PreRel s s' := by
  cases h with
  | idle h =>
    obtain ⟨l, ht, hl⟩ := h.ext
    have hso : s'.sockOpen = false := Bool.eq_false_iff.mpr fun hso => by rw [h.sock hso] at hs; cases hs
    exact ⟨hso, l, ht, fun c1 c2 => ⟨h.flags c1 c2, by rw [h.keyCtr, nKeys_idle l hl]; rfl⟩⟩
  | lib hL => exact hL.elim
  | @close s1 pl r t h hl =>
    obtain ⟨h1, h2, -⟩ := sendFrame_noSock h hs
    exact ⟨h1, [], h2, fun _ c2 => by cases c2⟩
  | @call s1 op pl c r h hop hs' =>
    obtain ⟨h1, h2, h3, h4, h5⟩ := sendFrame_noSock h hs
    obtain ⟨hr, hk⟩ := h5 (hs' hsm)
    refine ⟨h1, [.res r], congrArg _ h2, fun c1 c2 => ⟨⟨h3 ▸ c1, h4 ▸ c2⟩, ?_⟩⟩
    show s1.keyCtr = _
    rw [hk, nKeys_cons, nKeys_nil]
    simp [drawsKey, hr]
  | res r hr =>
    refine ⟨hs, [.res r], rfl, fun c1 c2 => ⟨⟨c1, c2⟩, ?_⟩⟩
    show s.keyCtr = s.keyCtr + nKeys [.res r]
    rw [nKeys_cons, nKeys_nil]
    simp [drawsKey, isWrite, hr]

theorem sched_closeSocket (s : Sys) (h : Sched s.cfg s.trace) :
    (match closeSocket s with | .ok _ s' => s' | .err _ s' => s').cfg = s.cfg ∧
    Sched s.cfg (match closeSocket s with | .ok _ s' => s' | .err _ s' => s').trace := by
  rw [closeSocket_eq]
  rcases sockClosed_cases s with ⟨_, e⟩ | ⟨_, e⟩ <;> rw [e]
  · exact ⟨rfl, h, schedAt_nonwrite _ _ rfl⟩
  · exact ⟨rfl, h⟩

/-- the invariant holds of the final state of a whole connection: `Pre` until `Connect`, `SI`
    from then on -/
theorem runAll_si (cfg : Cfg) (react : React) (env : List EnvStep) (hsm : Small react) :
    (runAll cfg react env).cfg = cfg ∧ SI (runAll cfg react env) := by
  let I (s : Sys) : Prop := s.cfg = cfg ∧ s.react = react ∧ Pre s
  let J (s : Sys) : Prop := s.cfg = cfg ∧ s.react = react ∧ SI s
  have h := (conn_runAll cfg react env).keeps (I := I) (J := J)
    (fun {s s'} ⟨hc, hr, hp⟩ m =>
      have hk := m.keyRel (hr ▸ hsm)
      ⟨hk.cfg.trans hc, hk.react.trans hr, pre_step hp hk (m.preRel (hr ▸ hsm) hp.1)⟩)
    (fun {s s'} ⟨hc, hr, hi⟩ m =>
      have hk := m.keyRel (hr ▸ hsm)
      ⟨hk.cfg.trans hc, hk.react.trans hr, si_step hi hk⟩)
    (fun {s s'} ⟨hc, hr, hp⟩ ⟨r, hw⟩ => by
      have hst := (step_write _ _).ok hw
      have := si_writeRequest s hp (pre_si s hp)
      rw [hw] at this
      exact ⟨hst.cfg.trans hc, hst.react.trans hr, this⟩)
    ⟨rfl, rfl, rfl, rfl, fun _ _ => rfl⟩
  rcases h with ⟨hc, -, hp⟩ | ⟨hc, -, hi⟩
  · exact ⟨hc, pre_si _ hp⟩
  · exact ⟨hc, hi⟩

theorem runAll_sched (cfg : Cfg) (react : React) (env : List EnvStep) (hsm : Small react) :
    (runAll cfg react env).cfg = cfg ∧ Sched cfg (runAll cfg react env).trace := by
  obtain ⟨h1, h2⟩ := runAll_si cfg react env hsm
  have h3 := h2.1
  generalize (runAll cfg react env).cfg = c at h1 h3
  subst h1
  exact ⟨rfl, h3⟩

end Lomond.Core.KS
