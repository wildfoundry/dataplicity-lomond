/-
  What `closeSocket`, `selClose`, `_close_socket(); yield` and the `except`/`else` clauses of `run()` do to
  the socket and selector flags (the leaf facts under Proofs/Once.lean's `Out`).
-/
import Lomond.Proofs.Step
namespace Lomond.Core
open Lomond

theorem closeSocket_state (s : Sys) :
    (closeSocket s).state.sockOpen = false ∧ (closeSocket s).state.selOpen = s.selOpen := by
  obtain ⟨l, e, _⟩ := sockClosed_shape s
  rw [closeSocket_eq, e]; exact ⟨rfl, rfl⟩

theorem closeSocket_ok (s : Sys) : ∃ s', closeSocket s = .ok () s' := ⟨_, closeSocket_eq s⟩

theorem selClose_state (s : Sys) :
    (selClose s).state.selOpen = false ∧ (selClose s).state.sockOpen = s.sockOpen := by
  obtain ⟨l, e, _⟩ := selClosed_shape s
  rw [selClose_eq, e]; exact ⟨rfl, rfl⟩

theorem Step.sock_false {s s' : Sys} (h : Step s s') (hs : s.sockOpen = false) : s'.sockOpen = false :=
  h.sockMono hs

theorem closeThenYield (e : Event) (s : Sys) :
    ((do closeSocket; yieldEv e : M Unit) s).state.sockOpen = false := by
  rw [bind_ok (closeSocket_eq s)]
  exact (step_yieldEv e _).sockMono (sockClosed_sockOpen s)

/-- when `onLoopEnd` returns, the socket is closed (it re-raises what is not an `Exception`:
    abandonment, end of script; that is handled by `runFinally`) -/
theorem onLoopEnd_sock {r : Option Exn} {s s' : Sys} {a : Unit} (h : onLoopEnd r s = .ok a s') :
    s'.sockOpen = false := by
  unfold onLoopEnd at h
  split at h
  all_goals first
    | exact (congrArg (·.state.sockOpen) h).symm.trans (closeThenYield _ s)
    | cases h

end Lomond.Core
