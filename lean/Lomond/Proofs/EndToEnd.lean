/-
  Whole connections `runAll cfg react env` in terms of `WebSocket.feed` on the frames.  The environment is a
  list of reads, all `wait 0` (the clock does not advance between them), of a byte stream `reply ++ stream`;
  the application only *sends* (`SendOnly`).  Between two library steps that return normally the invariant
  `I` holds, under which `_regular()` is the identity; so the session loop over such reads is
  `WebSocket.feed` of the concatenation (`loop_reads_flat`, from C02's `SegLoop.loop_reads_flatten`), and
  `bridge_one` puts `run()` before the loop (namespace `HRun`: `run_startG`, `run_start'`), the handshake
  read and `run()` after the loop around it; `stream_then_eof` ends the script with the end of stream.
  `IdleG`, `AfterItemsG`, `feed_items_G`: the state between two messages and a conforming prefix fed from it
  (what PrefixRun, EndToEndText and ZAny build on; `Idle` is the case without extension).
-/
import Lomond.Proofs.DeliveryGenParse
import Lomond.Proofs.HandshakeCore
import Lomond.Proofs.TimerInv
import Lomond.Proofs.RunAll
import Lomond.Proofs.SegmentationLoop
import Lomond.Proofs.Quiet
namespace Lomond.Core.E2E
open Lomond Lomond.Core

/-- all events of a trace, newest first (`Monitor.histOf`) -/
abbrev hist (tr : List Obs) : List Event := Monitor.histOf tr

theorem hist_cons_ev (e : Event) (t : List Obs) : hist (.ev e :: t) = e :: hist t := rfl

theorem hist_cons_nonEv (o : Obs) (t : List Obs) (h : Obs.isEv o = false) : hist (o :: t) = hist t := by
  cases o <;> first | (simp [Obs.isEv] at h; done) | rfl

theorem delivered_cons_nonEv (o : Obs) (t : List Obs) (h : Obs.isEv o = false) : delivered (o :: t) = delivered t := by
  cases o <;> first | (simp [Obs.isEv] at h; done) | rfl

theorem hist_append (a b : List Obs) : hist (a ++ b) = hist a ++ hist b := by
  simp [hist, Monitor.histOf, List.filterMap_append]

theorem hist_nonEv (l : List Obs) (h : ∀ o ∈ l, Obs.isEv o = false) : hist l = [] := by
  have := Ignores.append (f := hist) hist_cons_nonEv l [] h
  rwa [List.append_nil] at this

theorem events_eq_hist (tr : List Obs) : Monitor.events tr = (hist tr).reverse := by
  simp [Monitor.events, hist, Monitor.histOf, List.filterMap_reverse]

theorem delivered_append (a b : List Obs) : delivered (a ++ b) = delivered a ++ delivered b := by
  simp [delivered, List.filterMap_append]

theorem delivered_cons_ev (e : Event) (t : List Obs) (h : e ≠ .poll) : delivered (.ev e :: t) = e :: delivered t := by
  simp [delivered, h]

theorem delivered_nonEv (l : List Obs) (h : ∀ o ∈ l, Obs.isEv o = false) : delivered l = [] := by
  have := Ignores.append (f := delivered) delivered_cons_nonEv l [] h
  rwa [List.append_nil] at this

def NotPoll (o : Obs) : Prop := o ≠ .ev .poll

theorem delivered_eq_hist (l : List Obs) (h : ∀ o ∈ l, NotPoll o) : delivered l = hist l := by
  induction l with
  | nil => rfl
  | cons o r ih =>
    have ho := h o List.mem_cons_self
    have hr := ih (fun o' ho' => h o' (List.mem_cons_of_mem _ ho'))
    cases o with
    | ev e =>
      have : e ≠ .poll := fun he => ho (by rw [he])
      rw [delivered_cons_ev e r this, hist_cons_ev, hr]
    | _ => rw [delivered_cons_nonEv _ r rfl, hist_cons_nonEv _ r rfl]; exact hr

/-- when no Poll was added, the `delivered` bookkeeping of C01 describes *all* events -/
theorem hist_of_delivered {tr tr' l : List Obs} {X : List Event} (ht : tr' = l ++ tr)
    (hl : ∀ o ∈ l, NotPoll o) (hd : delivered tr' = X ++ delivered tr) : hist tr' = X ++ hist tr := by
  subst ht
  rw [delivered_append] at hd
  have := List.append_cancel_right hd
  rw [hist_append, ← delivered_eq_hist l hl, this]

theorem delivered_of_hist (tr : List Obs) : delivered tr = (hist tr).filter (fun e => e ≠ .poll) := by
  induction tr with
  | nil => rfl
  | cons o r ih =>
    cases o with
    | ev e =>
      by_cases he : e = .poll
      · subst he
        have e1 : delivered (.ev .poll :: r) = delivered r := rfl
        rw [e1, hist_cons_ev, List.filter_cons]; simp [ih]
      · rw [delivered_cons_ev e r he, hist_cons_ev, List.filter_cons]; simp [he, ih]
    | _ => rw [delivered_cons_nonEv _ r rfl, hist_cons_nonEv _ r rfl]; exact ih

/-- `yield event` when the application's reaction *to this history* is send-only: returns normally; apart
    from the event itself only counters and non-event trace entries change -/
theorem yieldEv_send_at (e : Event) (s : Sys) (h : ∀ a ∈ s.react (e :: s.hist), isSendAct a = true) :
    ∃ s', yieldEv e s = .ok () s' ∧ Keep (pushEv e s) s' ∧ s'.hist = e :: s.hist := by
  have hk := keep_doActs (s.react (e :: s.hist)) h (pushEv e s)
  have hm := (Monitor.yieldEv_keeps e s).hist
  cases hr : doActs (s.react (e :: s.hist)) (pushEv e s) with
  | ok u s' =>
    rw [hr] at hk
    rw [yieldEv_eq, hr] at hm
    exact ⟨s', by rw [yieldEv_eq, hr], hk, hm⟩
  | err x s' => obtain ⟨_, w, hw⟩ := Monitor.raises_doActs _ hr; cases h _ hw

theorem yieldEv_send (e : Event) (s : Sys) (h : SendOnly s.react) :
    ∃ s', yieldEv e s = .ok () s' ∧ Keep (pushEv e s) s' :=
  let ⟨s', h1, h2, _⟩ := yieldEv_send_at e s (h _); ⟨s', h1, h2⟩

/-- frozen clock, send-only application: the socket is open unless the websocket is closed, the
    session clock reads 0, and `_poll_start` is set (to 0) exactly when `ready` -/
structure I (s : Sys) : Prop where
  app : SendOnly s.react
  poll : 0 < s.cfg.poll
  sock : s.sockOpen = true ∨ s.closed = true
  nr : s.ready = false → s.startTime = none ∧ s.pollStart = none
  rd : s.ready = true → s.startTime = some s.now ∧ s.pollStart = some 0

/-- the same between `_on_event` and `_regular()`: right after Ready the Poll timer is still unset -/
structure K (s : Sys) : Prop where
  app : SendOnly s.react
  poll : 0 < s.cfg.poll
  sock : s.sockOpen = true ∨ s.closed = true
  nr : s.ready = false → s.startTime = none ∧ s.pollStart = none
  rd : s.ready = true → s.startTime = some s.now ∧ (s.pollStart = none ∨ s.pollStart = some 0)

theorem I.k {s : Sys} (h : I s) : K s :=
  ⟨h.app, h.poll, h.sock, h.nr, fun hr => ⟨(h.rd hr).1, Or.inr (h.rd hr).2⟩⟩

theorem K.time0 {s : Sys} (h : K s) : sessionTime s = 0 := by
  unfold sessionTime
  cases hr : s.ready with
  | false => rw [(h.nr hr).1]
  | true => rw [(h.rd hr).1]; simp

theorem I.time0 {s : Sys} (h : I s) : sessionTime s = 0 := h.k.time0

theorem noTimeout_of_time0 {s : Sys} (h : sessionTime s = 0) : NoTimeout s := by
  refine ⟨Or.inr (by omega), ?_⟩
  by_cases hc : s.cfg.closeTimeout = 0
  · exact Or.inl hc
  · exact Or.inr (fun ct _ => by omega)

theorem I.good {s : Sys} (h : I s) : Good s := ⟨h.app.quiet, noTimeout_of_time0 h.time0⟩
theorem K.good {s : Sys} (h : K s) : Good s := ⟨h.app.quiet, noTimeout_of_time0 h.time0⟩

/-- the three timers that write or raise are not due at session time 0 -/
theorem timers_quiet (s : Sys) (ht : sessionTime s = 0) :
    (checkAutoPing >>= fun _ => (checkPingTimeout >>= fun _ => checkCloseTimeout)) s = .ok () s := by
  have h1 : ¬ Timers.pingDue s := by unfold Timers.pingDue; omega
  have h2 : ¬ Timers.pingTimeoutDue s := by unfold Timers.pingTimeoutDue; omega
  have h3 : ¬ Timers.closeTimeoutDue s := by
    unfold Timers.closeTimeoutDue
    rintro ⟨h0, ct, _, hge⟩
    omega
  rw [bind_ok (Timers.checkAutoPing_quiet s h1), bind_ok (Timers.checkPingTimeout_quiet s h2)]
  exact Timers.checkCloseTimeout_quiet s h3

theorem regular_id {s : Sys} (h : I s) : regular s = .ok () s := by
  cases hr : s.ready with
  | false => exact regular_not_ready s hr
  | true =>
    rw [Timers.regular_ready s hr]
    have hp := (h.rd hr).2
    have hq : checkPoll s = .ok () s :=
      Timers.checkPoll_quiet s 0 hp (by rw [h.time0]; exact h.poll)
    rw [bind_ok hq]
    exact timers_quiet s h.time0

theorem I.of_keep {s s' : Sys} (k : Keep s s') (h : I s) : I s' :=
  ⟨by rw [k.react]; exact h.app, by rw [k.cfg]; exact h.poll, by rw [k.sockOpen, k.closed]; exact h.sock,
   fun hr => by rw [k.startTime, k.pollStart]; exact h.nr (k.ready ▸ hr),
   fun hr => by rw [k.startTime, k.pollStart, k.now]; exact h.rd (k.ready ▸ hr)⟩

theorem K.of_keep {s s' : Sys} (k : Keep s s') (h : K s) : K s' :=
  ⟨by rw [k.react]; exact h.app, by rw [k.cfg]; exact h.poll, by rw [k.sockOpen, k.closed]; exact h.sock,
   fun hr => by rw [k.startTime, k.pollStart]; exact h.nr (k.ready ▸ hr),
   fun hr => by rw [k.startTime, k.pollStart, k.now]; exact h.rd (k.ready ▸ hr)⟩

theorem K.push {s : Sys} (e : Event) (h : K s) : K (pushEv e s) := ⟨h.app, h.poll, h.sock, h.nr, h.rd⟩
theorem I.push {s : Sys} (e : Event) (h : I s) : I (pushEv e s) := ⟨h.app, h.poll, h.sock, h.nr, h.rd⟩

theorem Keep.ext {s s' : Sys} (k : Keep s s') : Ext NotPoll s s' := by
  obtain ⟨l, e, n, _⟩ := k.trace
  refine ⟨l, e, fun o ho hp => ?_⟩
  have := n o ho
  rw [hp] at this
  simp [Obs.isEv] at this

theorem I.of_poll {s s3 : Sys} (h : K s) (hr : s.ready = true) (kk : Keep (pushEv .poll (Timers.pollMark s)) s3) : I s3 := by
  refine ⟨by rw [kk.react]; exact h.app, by rw [kk.cfg]; exact h.poll, by rw [kk.sockOpen, kk.closed]; exact h.sock,
    fun x => ?_, fun _ => ?_⟩
  · rw [kk.ready] at x
    have x' : s.ready = false := x
    rw [hr] at x'; cases x'
  · rw [kk.startTime, kk.pollStart, kk.now]
    exact ⟨(h.rd hr).1, by show some (sessionTime s) = some 0; rw [h.time0]⟩

theorem regular_K {s s' : Sys} (h : K s) (hr : regular s = .ok () s') :
    I s' ∧ s'.ready = s.ready ∧ ((s.ready = false ∨ s.pollStart = some 0) → s' = s) := by
  cases hrd : s.ready with
  | false =>
    rw [regular_not_ready s hrd] at hr
    cases hr
    exact ⟨⟨h.app, h.poll, h.sock, h.nr, fun x => by rw [hrd] at x; cases x⟩, hrd, fun _ => rfl⟩
  | true =>
    obtain ⟨hst, hps⟩ := h.rd hrd
    rcases hps with hps | hps
    ·
      rw [Timers.regular_ready s hrd] at hr
      have hf : checkPoll s = yieldEv .poll (Timers.pollMark s) := Timers.checkPoll_fires s (Or.inl hps)
      obtain ⟨s3, hy, kk⟩ := yieldEv_send .poll (Timers.pollMark s) h.app
      rw [bind_ok (hf.trans hy)] at hr
      have i3 : I s3 := .of_poll h hrd kk
      rw [timers_quiet s3 i3.time0] at hr
      cases hr
      exact ⟨i3, kk.ready.trans hrd, fun x => by rcases x with x | x <;> simp_all⟩
    · have i : I s := ⟨h.app, h.poll, h.sock, h.nr, fun _ => ⟨hst, hps⟩⟩
      rw [regular_id i] at hr
      cases hr
      exact ⟨i, hrd, fun _ => rfl⟩

def OkSpec (R : Sys → Sys → Prop) (m : M α) : Prop := ∀ s a s', m s = .ok a s' → R s s'

variable {R : Sys → Sys → Prop}

theorem okspec_ite (c : Prop) [Decidable c] {m k : M α} (hm : OkSpec R m) (hk : OkSpec R k) :
    OkSpec R (if c then m else k) := by
  split <;> assumption

def Z (s s' : Sys) : Prop := I s → I s' ∧ (s.ready = true → s'.ready = true ∧ Ext NotPoll s s')

theorem z_po : PO Z where
  refl s := fun h => ⟨h, fun hr => ⟨hr, (ext_po NotPoll).refl s⟩⟩
  trans := by
    intro a b c h1 h2 ha
    obtain ⟨hb, e1⟩ := h1 ha
    obtain ⟨hc, e2⟩ := h2 hb
    refine ⟨hc, fun hr => ?_⟩
    obtain ⟨rb, x1⟩ := e1 hr
    obtain ⟨rc, x2⟩ := e2 rb
    exact ⟨rc, (ext_po NotPoll).trans x1 x2⟩

theorem z_of_keep {s s' : Sys} (k : Keep s s') : Z s s' :=
  fun h => ⟨h.of_keep k, fun hr => ⟨k.ready.trans hr, k.ext⟩⟩

theorem z_fields {s s' : Sys} (h1 : s'.react = s.react) (h2 : s'.cfg = s.cfg) (h3 : s'.sockOpen = s.sockOpen)
    (h4 : s.closed = true → s'.closed = true) (h5 : s'.ready = s.ready) (h6 : s'.startTime = s.startTime)
    (h7 : s'.now = s.now) (h8 : s'.pollStart = s.pollStart) (h9 : s'.trace = s.trace) : Z s s' := by
  intro hi
  refine ⟨⟨by rw [h1]; exact hi.app, by rw [h2]; exact hi.poll, ?_, ?_, ?_⟩, fun hr => ⟨h5.trans hr, ext_same h9⟩⟩
  · rcases hi.sock with x | x
    · exact Or.inl (h3.trans x)
    · exact Or.inr (h4 x)
  · intro hr; rw [h6, h8]; exact hi.nr (h5 ▸ hr)
  · intro hr; rw [h6, h8, h7]; exact hi.rd (h5 ▸ hr)

theorem z_wsClose (c : Option Nat) (r : Arg) : OkSpec Z (wsClose c r) :=
  SegLoop.ok_of_spec (spec_wsClose z_po c r (fun pl s => z_of_keep (keep_sendFrame _ pl none s))
    (fun _ => z_fields rfl rfl rfl id rfl rfl rfl rfl rfl))

theorem neutral_notPoll {o : Obs} (h : Obs.tmNeutral o = true) : NotPoll o := by
  intro e; subst e; simp [Obs.tmNeutral, Obs.tmIsPoll] at h

theorem z_onDisconnect : OkSpec Z onDisconnect := by
  intro s a s' h hi
  obtain ⟨s1, h1⟩ := closeSocket_ok s
  have q := Timers.quietP_closeSocket.ok h1
  have st := step_closeSocket.ok h1
  unfold onDisconnect at h
  rw [bind_ok h1] at h
  have e : modS (fun s => { s with closing := false, closed := true }) s1
      = .ok () { s1 with closing := false, closed := true } := rfl
  rw [e] at h
  cases h
  obtain ⟨l, el, nl⟩ := q.trace
  refine ⟨⟨by show SendOnly s1.react; rw [st.react]; exact hi.app, by show 0 < s1.cfg.poll; rw [st.cfg]; exact hi.poll,
    Or.inr rfl, fun hr => ?_, fun hr => ?_⟩, fun hr => ⟨q.ready.trans hr, l, el, fun o ho => neutral_notPoll (nl o ho)⟩⟩
  · show s1.startTime = none ∧ s1.pollStart = none
    rw [q.startTime, q.pollStart]; exact hi.nr (q.ready ▸ hr)
  · show s1.startTime = some s1.now ∧ s1.pollStart = some 0
    rw [q.startTime, q.pollStart, q.now]; exact hi.rd (q.ready ▸ hr)

theorem onEvent_K (e : Event) {s s1 : Sys} (hi : I s) (h : onEvent e s = .ok () s1) :
    K s1 ∧ (s.ready = true → s1.ready = true ∧ s1.pollStart = some 0) ∧ Ext NotPoll s s1 := by
  have same : ∀ s1 : Sys, Keep s s1 → K s1 ∧ (s.ready = true → s1.ready = true ∧ s1.pollStart = some 0) ∧ Ext NotPoll s s1 :=
    fun s1 k => ⟨(hi.of_keep k).k, fun hr => ⟨k.ready.trans hr, k.pollStart.trans (hi.rd hr).2⟩, k.ext⟩
  cases e with
  | ready a b =>
    rw [Timers.onEvent_ready] at h
    cases h
    refine ⟨⟨hi.app, hi.poll, hi.sock, fun hr => (by cases hr), fun _ => ⟨rfl, ?_⟩⟩, fun hr => ⟨rfl, (hi.rd hr).2⟩, ext_same rfl⟩
    show s.pollStart = none ∨ s.pollStart = some 0
    cases hr : s.ready with
    | false => exact Or.inl (hi.nr hr).2
    | true => exact Or.inr (hi.rd hr).2
  | ping d =>
    simp only [onEvent] at h
    repeat' split at h
    all_goals first
      | (cases h <;> done)
      | (cases h; exact same _ (keep_po.refl _))
      | (rename_i heq; cases h; exact same _ ((keep_sendFrame _ _ _).ok heq))
  | pong d =>
    simp only [onEvent] at h
    cases h
    exact same _ ⟨rfl, rfl, rfl, rfl, rfl, rfl, rfl, rfl, rfl, rfl, rfl, rfl, rfl, rfl, fun _ => rfl, ⟨[], rfl, by simp, by simp⟩⟩
  | _ =>
    simp only [onEvent] at h
    cases h
    exact same _ (keep_po.refl _)

/-- **a `yield` inside `WebSocket.feed`**, as a whole: `_on_event`, the hand-over, the
    application's sends, `_regular()` -/
theorem z_feedYield (b : Bool) (e : Event) (he : Lift.isFeedEvent e = true) : OkSpec Z (feedYield b e) := by
  intro s a s' h hi
  obtain ⟨s1, s2, h1, h2, h3⟩ := feedYield_ok_inv h
  obtain ⟨k1, r1, x1⟩ := onEvent_K e hi h1
  obtain ⟨s2', hy, kk⟩ := yieldEv_send e s1 k1.app
  rw [hy] at h2
  cases h2
  have k2 : K s2 := K.of_keep kk (k1.push e)
  obtain ⟨i', rr, hid⟩ := regular_K k2 h3
  refine ⟨i', fun hr => ?_⟩
  obtain ⟨r1a, r1b⟩ := r1 hr
  have hp2 : s2.pollStart = some 0 := kk.pollStart.trans r1b
  have e2 : s' = s2 := hid (Or.inr hp2)
  subst e2
  refine ⟨kk.ready.trans r1a, ?_⟩
  have hne : NotPoll (.ev e) := by
    intro hh
    cases hh
    simp [Lift.isFeedEvent] at he
  have xp : Ext NotPoll s1 (pushEv e s1) := ext_one hne rfl
  exact (ext_po NotPoll).trans x1 ((ext_po NotPoll).trans xp kk.ext)

theorem z_leaves : SegLoop.OkLeaves Z where
  po := z_po
  inert := fun _ _ h hc => z_fields h.react h.cfg h.sockOpen hc h.ready h.startTime h.now h.pollStart h.trace
  onDisconnect := z_onDisconnect
  wsClose := z_wsClose
  feedYield := z_feedYield

theorem z_feedLoop (data : Bytes) : OkSpec Z (feedLoop data) := SegLoop.ok_feedLoop z_leaves data

theorem z_wsFeed (data : Bytes) : OkSpec Z (wsFeed data) := SegLoop.ok_wsFeed z_leaves data

/-- the environment script "these chunks arrive one after the other, the clock standing still" -/
def reads (chunks : List Bytes) : List EnvStep := chunks.map (fun c => .wait 0 (some (.data c)))

theorem loop_wait_data (dt : Nat) (c : Bytes) (rest : List EnvStep) (s s2 : Sys)
    (hc : s.closed = false) (hr : regular (tick s dt) = .ok () s2) (hso : s2.sockOpen = true) (hne : c ≠ []) :
    loop (.wait dt (some (.data c)) :: rest) s =
      match wsFeed c s2 with
      | .ok _ s3 => loop rest s3
      | .err x s3 => .err x s3 := by
  have hrs : recvStep (.data c) s2 =
      match wsFeed c s2 with
      | .ok _ s' => .ok true s'
      | .err x s' => .err x s' := by
    unfold recvStep
    simp only [hso, not_true_eq_false, if_false, hne]
    cases wsFeed c s2 <;> rfl
  have hrt : regularTop (tick s dt) = .ok () s2 := hr
  rw [loop]
  simp only [hc, Bool.false_eq_true, if_false, hrt, hrs]
  cases wsFeed c s2 <;> rfl

theorem I.segInv {s : Sys} (h : I s) : SegLoop.Inv s :=
  ⟨h.poll, fun hi hm => by have := h.app hi _ hm; simp [isSendAct] at this, h.sock⟩

/-- **the loop over `wait 0` reads is `WebSocket.feed` of their concatenation**: C02's `SegLoop.loop_reads_flatten`
    makes the burst one read, and from an `I` state `_regular()` does nothing in front of it -/
theorem loop_reads_flat (chunks : List Bytes) (hne : ∀ c ∈ chunks, c ≠ []) (rest : List EnvStep) (s : Sys)
    (hi : I s) (hh : HdrInv s) :
    loop (reads chunks ++ rest) s =
      match wsFeed chunks.flatten s with
      | .ok _ s' => loop rest s'
      | .err y s' => .err y s' := by
  cases chunks with
  | nil => show loop rest s = _; rw [List.flatten_nil, wsFeed_nil s hh]
  | cons c cs =>
    by_cases hc : s.closed = true
    · rw [loop_closed _ s hc, wsFeed_closed s _ hc]
      exact (loop_closed _ s hc).symm
    · have hso : s.sockOpen = true := hi.sock.resolve_right hc
      exact (SegLoop.loop_reads_flatten 0 c cs rest s hi.segInv hne).trans
        (loop_wait_data 0 _ rest s s (by simpa using hc) (by rw [tick_zero]; exact regular_id hi) hso
          (SegLoop.flatten_ne_nil_of_head (hne c List.mem_cons_self)))

theorem hist_keep {s s' : Sys} (k : Keep s s') : hist s'.trace = hist s.trace := by
  obtain ⟨l, e, n, _⟩ := k.trace
  rw [e, hist_append, hist_nonEv l n]; rfl

/-- the state in which the session loop starts: socket and selector open, upgrade request written,
    `Connecting` and `Connected` yielded, nothing received yet -/
structure AtLoop (cfg : Cfg) (react : React) (env : List EnvStep) (proxy : Bool) (s : Sys) : Prop where
  i : I s
  cfg : s.cfg = cfg
  react : s.react = react
  env : s.env = env
  ready : s.ready = false
  closed : s.closed = false
  closing : s.closing = false
  sock : s.sockOpen = true
  sel : s.selOpen = true
  p : s.p = {}
  frames : s.frames = []
  hist : hist s.trace = [.connected proxy, .connecting]

/-- what neither a `yield` to an application that does not leave the loop, nor the steps of `run()`
    in front of the loop touch: configuration, application, script, `closed`, the Ready flag, the
    clock, the Poll timer, parser and fragment list -/
structure Kept (s s' : Sys) : Prop where
  cfg : s'.cfg = s.cfg
  react : s'.react = s.react
  env : s'.env = s.env
  closed : s'.closed = s.closed
  ready : s'.ready = s.ready
  startTime : s'.startTime = s.startTime
  now : s'.now = s.now
  pollStart : s'.pollStart = s.pollStart
  p : s'.p = s.p
  frames : s'.frames = s.frames

theorem Kept.trans {a b c : Sys} (h1 : Kept a b) (h2 : Kept b c) : Kept a c :=
  ⟨h2.cfg.trans h1.cfg, h2.react.trans h1.react, h2.env.trans h1.env, h2.closed.trans h1.closed,
    h2.ready.trans h1.ready, h2.startTime.trans h1.startTime, h2.now.trans h1.now,
    h2.pollStart.trans h1.pollStart, h2.p.trans h1.p, h2.frames.trans h1.frames⟩

theorem Kept.of_keep {s s' : Sys} (k : Keep s s') : Kept s s' :=
  ⟨k.cfg, k.react, k.env, k.closed, k.ready, k.startTime, k.now, k.pollStart, k.p, k.frames⟩

theorem Kept.pushEv (e : Event) (s : Sys) : Kept s (pushEv e s) := ⟨rfl, rfl, rfl, rfl, rfl, rfl, rfl, rfl, rfl, rfl⟩

theorem Kept.selOpen (b : Bool) (s : Sys) : Kept s { s with selOpen := b } := ⟨rfl, rfl, rfl, rfl, rfl, rfl, rfl, rfl, rfl, rfl⟩

end Lomond.Core.E2E
namespace Lomond.Core.HRun
open Lomond Lomond.Core Lomond.Core.E2E

/-- the trace when the loop starts: `Connecting`, results of the application's calls (there is no socket yet),
    the upgrade request, `Connected`, the application's reaction (its own sends) -/
def StartTrace (cfg : Cfg) (proxy : Bool) (t : List Obs) : Prop :=
  ∃ a b, t = a ++ .ev (.connected proxy) :: .wr cfg.request :: (b ++ [.ev .connecting]) ∧
    (∀ o ∈ a, Obs.isEv o = false) ∧ (∀ o ∈ b, Obs.isRes o = true)

/-- the application reacts to `Connecting` and to `Connected` by sending (anything), nothing else -/
def QuietStart (react : React) (proxy : Bool) : Prop :=
  (∀ a ∈ react [.connecting], isSendAct a = true) ∧ (∀ a ∈ react [.connected proxy, .connecting], isSendAct a = true)

theorem SendOnly.quietStart {react : React} (h : SendOnly react) (proxy : Bool) : QuietStart react proxy :=
  ⟨h _, h _⟩

/-- the state in which the session loop starts (no assumption on the application's later behaviour) -/
structure AtLoopG (cfg : Cfg) (react : React) (env : List EnvStep) (proxy : Bool) (s : Sys) : Prop where
  cfg : s.cfg = cfg
  react : s.react = react
  env : s.env = env
  ready : s.ready = false
  closed : s.closed = false
  closing : s.closing = false
  sock : s.sockOpen = true
  sel : s.selOpen = true
  p : s.p = {}
  hist : hist s.trace = [.connected proxy, .connecting]

def requestSent (s : Sys) : Sys :=
  let s2 : Sys := { s with sockOpen := true }
  { s2 with writeCtr := s2.writeCtr + 1, trace := .wr s2.cfg.request :: s2.trace }

theorem kept_requestSent (s : Sys) : Kept s (requestSent s) := ⟨rfl, rfl, rfl, rfl, rfl, rfl, rfl, rfl, rfl, rfl⟩

/-- **`run()` up to the loop, the computation alone** (any application): the `yield` of Connecting
    returns in `s1` with the websocket neither closing nor closed, the upgrade request goes out, the
    `yield` of Connected returns in `s4`; what is left of `run()` is the loop from `s4` with the
    selector open -/
theorem run_start_eq (cfg : Cfg) (react : React) (env : List EnvStep) (proxy : Bool) {s1 s4 : Sys}
    (h1 : yieldEv .connecting { cfg := cfg, react := react, env := env } = .ok () s1)
    (hcc : s1.cfg.connect = .ok proxy) (hcl : s1.closed = false) (hcg : s1.closing = false)
    (hwc : s1.cfg.writeFails s1.writeCtr = false)
    (h4 : yieldEv (.connected proxy) (requestSent s1) = .ok () s4) (henv : s4.env = env) :
    run { cfg := cfg, react := react, env := env } =
      tryC (do runBody env; selClose) runFinally { s4 with selOpen := true } := by
  let s2 : Sys := { s1 with sockOpen := true }
  let s3 : Sys := { s2 with writeCtr := s2.writeCtr + 1, trace := .wr s2.cfg.request :: s2.trace }
  have hwr : write s2.cfg.request none s2 = .ok .ok s3 := write_accept _ none s2 ⟨rfl, hcl, hcg, hwc⟩
  have h4' : yieldEv (.connected proxy) s3 = .ok () s4 := h4
  have hyc : yieldConnected proxy s3 = .ok () s4 := by
    unfold yieldConnected
    rw [getS_bind]
    split
    · exact tryC_ok h4'
    · exact h4'
  unfold run
  rw [bind_ok h1, getS_bind]
  simp only [hcc]
  unfold afterConnect
  rw [bind_ok (show modS (fun s => { s with sockOpen := true }) s1 = .ok () s2 from rfl),
    getS_bind, bind_ok hwr]
  have hwe : wsError ActRes.ok = false := by decide
  simp only [hwe, Bool.false_eq_true, if_false]
  rw [bind_ok hyc, modS_bind]
  unfold runLoop
  rw [getS_bind]
  show tryC (do runBody s4.env; selClose) runFinally _ = _
  rw [henv]

theorem run_startG (cfg : Cfg) (react : React) (env : List EnvStep) (proxy : Bool)
    (hc : cfg.connect = .ok proxy) (hw : cfg.writeFails 0 = false) (hq : QuietStart react proxy) :
    ∃ sA, AtLoopG cfg react env proxy sA ∧ StartTrace cfg proxy sA.trace ∧
      run { cfg := cfg, react := react, env := env } = tryC (do runBody env; selClose) runFinally sA ∧
      sA.startTime = none ∧ sA.pollStart = none ∧ sA.frames = [] ∧ sA.sentCloseTime = none ∧
      sA.inflHist = [] ∧ sA.inflOut = 0 := by
  let s0 : Sys := { cfg := cfg, react := react, env := env }
  obtain ⟨s1, h1, k1, hh1⟩ := E2E.yieldEv_send_at .connecting s0 hq.1
  have hcc : s1.cfg.connect = .ok proxy := by rw [k1.cfg]; exact hc
  let s2 : Sys := { s1 with sockOpen := true }
  have hwc : s2.cfg.writeFails s2.writeCtr = false := by
    show s1.cfg.writeFails s1.writeCtr = false
    rw [k1.cfg, k1.wctr rfl]; exact hw
  let s3 : Sys := { s2 with writeCtr := s2.writeCtr + 1, trace := .wr s2.cfg.request :: s2.trace }
  have ha3 : ∀ a ∈ s3.react (.connected proxy :: s3.hist), isSendAct a = true := by
    show ∀ a ∈ s1.react (.connected proxy :: s1.hist), isSendAct a = true
    rw [k1.react, hh1]; exact hq.2
  obtain ⟨s4, h4, k4, _⟩ := E2E.yieldEv_send_at (.connected proxy) s3 ha3
  let sA : Sys := { s4 with selOpen := true }
  have kA : Kept s0 sA :=
    ((((Kept.pushEv _ s0).trans (.of_keep k1)).trans (kept_requestSent s1)).trans
      ((Kept.pushEv _ s3).trans (.of_keep k4))).trans (Kept.selOpen true s4)
  have q1 : Quiet s0 s1 := (quiet_leaves.yieldEv .connecting).ok h1
  have q4 : Quiet s3 s4 := (quiet_leaves.yieldEv (.connected proxy)).ok h4
  refine ⟨sA, ⟨kA.cfg, kA.react, kA.env, kA.ready, kA.closed, ?_, ?_, rfl, kA.p, ?_⟩, ?_, ?_, kA.startTime,
    kA.pollStart, kA.frames, ?_, ?_, ?_⟩
  · show s4.closing = false; rw [k4.closing]; show s1.closing = false; rw [k1.closing]; rfl
  · show s4.sockOpen = true; rw [k4.sockOpen]; rfl
  · show hist s4.trace = _
    rw [hist_keep k4]
    show hist (.ev (.connected proxy) :: .wr s2.cfg.request :: s1.trace) = _
    rw [hist_cons_ev, hist_cons_nonEv _ _ rfl, hist_keep k1]
    rfl
  · obtain ⟨l1, e1, n1, r1⟩ := k1.trace
    obtain ⟨l4, e4, n4, _⟩ := k4.trace
    have hreq : s2.cfg.request = cfg.request := by show s1.cfg.request = _; rw [k1.cfg]; rfl
    refine ⟨l4, l1, ?_, n4, r1 rfl⟩
    show s4.trace = _
    rw [e4]
    show l4 ++ .ev (.connected proxy) :: .wr s2.cfg.request :: s1.trace = _
    rw [e1, hreq]
    rfl
  · exact run_start_eq cfg react env proxy h1 hcc k1.closed k1.closing hwc h4 kA.env
  · show s4.sentCloseTime = none; rw [k4.sentCloseTime]; show s1.sentCloseTime = none; rw [k1.sentCloseTime]; rfl
  · show s4.inflHist = []; rw [q4.hist]; show s1.inflHist = []; rw [q1.hist]
  · show s4.inflOut = 0; rw [q4.out]; show s1.inflOut = 0; rw [q1.out]

theorem run_start' (cfg : Cfg) (react : React) (env : List EnvStep) (proxy : Bool)
    (hc : cfg.connect = .ok proxy) (hw : cfg.writeFails 0 = false) (hp : 0 < cfg.poll) (ha : SendOnly react) :
    ∃ sA, AtLoop cfg react env proxy sA ∧ StartTrace cfg proxy sA.trace ∧
      run { cfg := cfg, react := react, env := env } = tryC (do runBody env; selClose) runFinally sA ∧
      sA.sentCloseTime = none ∧ sA.inflHist = [] ∧ sA.inflOut = 0 := by
  obtain ⟨sA, hA, hst, hrun, h1, h2, h3, h456⟩ := run_startG cfg react env proxy hc hw (SendOnly.quietStart ha proxy)
  exact ⟨sA, ⟨⟨by rw [hA.react]; exact ha, by rw [hA.cfg]; exact hp, Or.inl hA.sock, fun _ => ⟨h1, h2⟩,
    fun h => by rw [hA.ready] at h; cases h⟩, hA.cfg, hA.react, hA.env, hA.ready, hA.closed, hA.closing, hA.sock,
    hA.sel, hA.p, h3, hA.hist⟩, hst, hrun, h456⟩

end Lomond.Core.HRun
namespace Lomond.Core.E2E
open Lomond Lomond.Core

/-- **Ready, the computation alone** (any application): `_on_ready` starts the session clock; the
    `yield` of Ready returns in `s2`, still ready and with the Poll timer unset; the first Poll is
    due at once and its `yield` returns in `s3` at session time 0, where no other timer is due -/
theorem feedYield_ready_eq (b : Bool) (a : Option Http.Str) (c : Bool) (s : Sys) {s2 s3 : Sys}
    (h2 : yieldEv (.ready a c) (Timers.readyState s) = .ok () s2) (r2 : s2.ready = true)
    (ps2 : s2.pollStart = none) (h3 : yieldEv .poll (Timers.pollMark s2) = .ok () s3)
    (t3 : sessionTime s3 = 0) : feedYield b (.ready a c) s = .ok () s3 := by
  unfold feedYield
  apply tryC_ok
  rw [bind_ok (Timers.onEvent_ready a c s), bind_ok h2, Timers.regular_ready s2 r2,
    bind_ok ((Timers.checkPoll_fires s2 (Or.inl ps2)).trans h3)]
  exact timers_quiet s3 t3

theorem feedYield_ready_keep (b : Bool) (a : Option Http.Str) (c : Bool) (s : Sys) (hi : I s)
    (hr : s.ready = false) :
    ∃ s2 s3, feedYield b (.ready a c) s = .ok () s3 ∧ Keep (pushEv (.ready a c) (Timers.readyState s)) s2 ∧
      Keep (pushEv .poll (Timers.pollMark s2)) s3 ∧ I s3 := by
  obtain ⟨s2, h2, kk2⟩ := yieldEv_send (.ready a c) (Timers.readyState s) hi.app
  have k2 : K s2 := K.of_keep kk2 (K.push _ ⟨hi.app, hi.poll, hi.sock, fun x => (by cases x), fun _ => ⟨rfl, Or.inl (hi.nr hr).2⟩⟩)
  obtain ⟨s3, h3, kk3⟩ := yieldEv_send .poll (Timers.pollMark s2) k2.app
  have i3 : I s3 := .of_poll k2 kk2.ready kk3
  exact ⟨s2, s3, feedYield_ready_eq b a c s h2 kk2.ready (kk2.pollStart.trans (hi.nr hr).2) h3 i3.time0, kk2, kk3, i3⟩

theorem feedYield_ready (b : Bool) (a : Option Http.Str) (c : Bool) (s : Sys) (hi : I s) (hr : s.ready = false) :
    ∃ s', feedYield b (.ready a c) s = .ok () s' ∧ I s' ∧ s'.ready = true ∧
      hist s'.trace = .poll :: .ready a c :: hist s.trace ∧
      s'.cfg = s.cfg ∧ s'.react = s.react ∧ s'.sockOpen = s.sockOpen ∧ s'.selOpen = s.selOpen ∧
      s'.closed = s.closed ∧ s'.closing = s.closing ∧ s'.p = s.p ∧ s'.frames = s.frames := by
  obtain ⟨s2, s3, h, kk2, kk3, i3⟩ := feedYield_ready_keep b a c s hi hr
  refine ⟨s3, h, i3, kk3.ready.trans kk2.ready, ?_, kk3.cfg.trans kk2.cfg, kk3.react.trans kk2.react,
    kk3.sockOpen.trans kk2.sockOpen, kk3.selOpen.trans kk2.selOpen, kk3.closed.trans kk2.closed,
    kk3.closing.trans kk2.closing, kk3.p.trans kk2.p, kk3.frames.trans kk2.frames⟩
  rw [hist_keep kk3]
  show hist (.ev .poll :: s2.trace) = _
  rw [hist_cons_ev, hist_keep kk2]
  rfl

/-- an upgrade reply that `on_response` accepts without extension: the block ends with its first
    CRLF CRLF and fits the 16 KiB limit (cf. `C10.C10_ready_iff`, `C10_header_limit`) -/
structure GoodReply (cfg : Cfg) (reply : Bytes) (proto : Option Http.Str) : Prop where
  sep : ∃ i, findSep Gen.headerSep reply = some i ∧ i + 4 = reply.length
  len : reply.length ≤ Gen.headerMax
  ok : Http.onResponse cfg.v.strictAccept cfg.challenge (Http.parseResponse reply)
        = .ok { protocol := proto, deflate := none }

/-- an upgrade reply that `on_response` accepts, negotiating permessage-deflate with the
    configuration `dz` (`none`: no extension): the block ends with its first CRLF CRLF and fits the
    16 KiB limit -/
structure GoodReplyG (cfg : Cfg) (reply : Bytes) (proto : Option Http.Str) (dz : Option Http.DeflateCfg) : Prop where
  sep : ∃ i, findSep Gen.headerSep reply = some i ∧ i + 4 = reply.length
  len : reply.length ≤ Gen.headerMax
  ok : Http.onResponse cfg.v.strictAccept cfg.challenge (Http.parseResponse reply)
        = .ok { protocol := proto, deflate := dz }

theorem GoodReply.toG {cfg : Cfg} {reply : Bytes} {proto : Option Http.Str} (h : GoodReply cfg reply proto) :
    GoodReplyG cfg reply proto none := ⟨h.sep, h.len, h.ok⟩

/-- the state after the handshake: Ready and the first Poll yielded, parser at the first frame
    boundary, no extension -/
structure AtReady (cfg : Cfg) (react : React) (proxy : Bool) (proto : Option Http.Str) (s : Sys) : Prop where
  i : I s
  cfg : s.cfg = cfg
  react : s.react = react
  ready : s.ready = true
  closed : s.closed = false
  closing : s.closing = false
  sock : s.sockOpen = true
  sel : s.selOpen = true
  frames : s.frames = []
  between : Between s.p
  comp : s.p.compression = false
  hist : hist s.trace = [.poll, .ready proto false, .connected proxy, .connecting]

/-- the state after the handshake: Ready and the first Poll yielded, parser at the first frame
    boundary, the extension switched on exactly when negotiated, inflate context empty -/
structure AtReadyG (cfg : Cfg) (react : React) (proxy : Bool) (proto : Option Http.Str)
    (dz : Option Http.DeflateCfg) (s : Sys) : Prop where
  i : I s
  cfg : s.cfg = cfg
  react : s.react = react
  ready : s.ready = true
  closed : s.closed = false
  closing : s.closing = false
  sock : s.sockOpen = true
  sel : s.selOpen = true
  frames : s.frames = []
  between : Between s.p
  comp : s.p.compression = dz.isSome
  pic : s.p.isCompressed = false
  zcfg : s.compression = dz
  zdec : s.decompress = dz.isSome
  zhist : s.inflHist = []
  zout : s.inflOut = 0
  hist : hist s.trace = [.poll, .ready proto dz.isSome, .connected proxy, .connecting]

theorem AtReadyG.toReady {cfg : Cfg} {react : React} {proxy : Bool} {proto : Option Http.Str} {s : Sys}
    (h : AtReadyG cfg react proxy proto none s) : AtReady cfg react proxy proto s :=
  ⟨h.i, h.cfg, h.react, h.ready, h.closed, h.closing, h.sock, h.sel, h.frames, h.between, h.comp, h.hist⟩

theorem wsFeed_accept_reply (reply stream : Bytes) (s : Sys) (hc : s.p.cont = .header) (hbuf : s.p.buf = [])
    (hcl : s.closed = false) {i : Nat} (hsep : findSep Gen.headerSep reply = some i) (hil : i + 4 = reply.length)
    (hlen : reply.length ≤ Gen.headerMax) (acc : Http.Accepted)
    (hok : Http.onResponse s.cfg.v.strictAccept s.cfg.challenge (Http.parseResponse reply) = .ok acc) {s3 : Sys}
    (h3 : feedYield true (.ready acc.protocol acc.deflate.isSome) (HRun.readyPrep acc (headerDone s)) = .ok () s3)
    (hcl3 : s3.closed = false) (hp3 : s3.p.cont ≠ .header) :
    wsFeed (reply ++ stream) s = wsFeed stream { s3 with parsedResponse := true } := by
  have hsome : findSep Gen.headerSep (s.p.buf ++ (reply ++ stream)) = some i := by
    rw [hbuf, List.nil_append]
    exact findSep_append _ _ _ _ hsep
  have et : (s.p.buf ++ (reply ++ stream)).take (i + 4) = reply := by
    rw [hbuf, List.nil_append, hil]; exact List.take_left' rfl
  have ed : (s.p.buf ++ (reply ++ stream)).drop (i + 4) = stream := by
    rw [hbuf, List.nil_append, hil]; exact List.drop_left' rfl
  rw [wsFeed_accept (reply ++ stream) s hc hcl i acc hsome (by rw [hil]; exact hlen) (by rw [et]; exact hok) h3 hcl3 hp3,
    ed]

/-- **the handshake read**, extension negotiated or not: feeding `reply ++ stream` at the start of
    the loop is Ready, the first Poll, then feeding `stream` to the frame parser from the
    post-handshake state `s4`; the close timer is as it was.  `AtReady` does not speak of the
    inflate context: with no extension granted it holds whatever that context was. -/
theorem handshake_read {cfg : Cfg} {react : React} {env : List EnvStep} {proxy : Bool} {sA : Sys}
    (hA : AtLoop cfg react env proxy sA) {reply : Bytes} {proto : Option Http.Str} {dz : Option Http.DeflateCfg}
    (hg : GoodReplyG cfg reply proto dz) :
    ∃ s4, (sA.inflHist = [] → sA.inflOut = 0 → AtReadyG cfg react proxy proto dz s4) ∧
      (dz = none → AtReady cfg react proxy proto s4) ∧ s4.sentCloseTime = sA.sentCloseTime ∧
      ∀ stream, wsFeed (reply ++ stream) sA = wsFeed stream s4 := by
  obtain ⟨i, hsep, hil⟩ := hg.sep
  have hc : sA.p.cont = .header := by rw [hA.p]
  have hbuf : sA.p.buf = [] := by rw [hA.p]
  let s1 : Sys := HRun.readyPrep ⟨proto, dz⟩ (headerDone sA)
  have i1 : I s1 := ⟨hA.i.app, hA.i.poll, hA.i.sock, hA.i.nr, hA.i.rd⟩
  obtain ⟨s2, s3, h3, kk2, kk3, i3⟩ := feedYield_ready_keep true proto dz.isSome s1 i1 hA.ready
  have q3 : Quiet s1 s3 := (quiet_leaves.feedYield true (.ready proto dz.isSome)).ok h3
  have hp3 : s3.p = { cont := .hdr2, remPred := 1, utf8 := false, buf := [], compression := dz.isSome } := by
    rw [kk3.p.trans kk2.p]
    show (if dz.isSome then { (headerDone sA).p with compression := true } else (headerDone sA).p) = _
    unfold headerDone
    simp only []
    rw [hA.p]
    cases dz <;> rfl
  let s4 : Sys := { s3 with parsedResponse := true }
  -- the fields of the state in which Ready is yielded, reduced once by `simp only`: left to unification in
  -- the steps below, each costs a failed comparison of whole states per layer of update
  let s0 : Sys := pushEv (.ready proto dz.isSome) (Timers.readyState s1)
  have f0 : s0.cfg = sA.cfg ∧ s0.react = sA.react ∧ s0.closed = sA.closed ∧ s0.closing = sA.closing ∧
      s0.sockOpen = sA.sockOpen ∧ s0.selOpen = sA.selOpen ∧ s0.frames = sA.frames ∧
      s0.sentCloseTime = sA.sentCloseTime := by
    simp only [s0, s1, pushEv, Timers.readyState, HRun.readyPrep, headerDone, and_self]
  obtain ⟨f1, f2, f3, f4, f5, f6, f7, f8⟩ := f0
  have hi4 : I s4 := ⟨i3.app, i3.poll, i3.sock, i3.nr, i3.rd⟩
  have hcf : s4.cfg = cfg := (kk3.cfg.trans kk2.cfg).trans (f1.trans hA.cfg)
  have hre : s4.react = react := (kk3.react.trans kk2.react).trans (f2.trans hA.react)
  have hrd : s4.ready = true := kk3.ready.trans kk2.ready
  have hcl : s4.closed = false := (kk3.closed.trans kk2.closed).trans (f3.trans hA.closed)
  have hcg : s4.closing = false := (kk3.closing.trans kk2.closing).trans (f4.trans hA.closing)
  have hso : s4.sockOpen = true := (kk3.sockOpen.trans kk2.sockOpen).trans (f5.trans hA.sock)
  have hse : s4.selOpen = true := (kk3.selOpen.trans kk2.selOpen).trans (f6.trans hA.sel)
  have hfr : s4.frames = [] := (kk3.frames.trans kk2.frames).trans (f7.trans hA.frames)
  have hbet : Between s4.p := by show Between s3.p; rw [hp3]; exact ⟨⟨rfl, rfl, rfl, rfl⟩, rfl, rfl⟩
  have hcomp : s4.p.compression = dz.isSome := by show s3.p.compression = _; rw [hp3]
  have hh : hist s4.trace = [.poll, .ready proto dz.isSome, .connected proxy, .connecting] := by
    show hist s3.trace = _
    rw [hist_keep kk3]
    show hist (.ev .poll :: s2.trace) = _
    rw [hist_cons_ev, hist_keep kk2]
    show _ :: _ :: hist sA.trace = _
    rw [hA.hist]
  refine ⟨s4, fun hih hio => ⟨hi4, hcf, hre, hrd, hcl, hcg, hso, hse, hfr, hbet, hcomp, ?_, ?_, ?_, ?_, ?_, hh⟩,
    fun hz => ?_, (kk3.sentCloseTime.trans kk2.sentCloseTime).trans f8, fun stream => ?_⟩
  · show s3.p.isCompressed = _; rw [hp3]
  · show s3.compression = dz; rw [q3.comp]; rfl
  · show s3.decompress = dz.isSome; rw [q3.dec]; rfl
  · show s3.inflHist = []; rw [q3.hist]; exact hih
  · show s3.inflOut = 0; rw [q3.out]; exact hio
  · subst hz
    exact ⟨hi4, hcf, hre, hrd, hcl, hcg, hso, hse, hfr, hbet, hcomp, hh⟩
  · exact wsFeed_accept_reply reply stream sA hc hbuf hA.closed hsep hil hg.len ⟨proto, dz⟩
      (by rw [hA.cfg]; exact hg.ok) h3 hcl (by rw [hp3]; simp)

/-- what `run()` still records once the loop has ended -/
def TailObs (e : Event) (o : Obs) : Prop :=
  o = .ev e ∨ o = .sockClose ∨ o = .selClose ∨ Obs.isRes o = true

theorem closeSocket_trace (s : Sys) :
    ∃ s2 l, closeSocket s = .ok () s2 ∧ s2.sockOpen = false ∧ s2.react = s.react ∧ s2.selOpen = s.selOpen ∧
      s2.trace = l ++ s.trace ∧ ∀ o ∈ l, o = .sockClose := by
  obtain ⟨l, e, hl⟩ := sockClosed_shape s
  exact ⟨_, l, closeSocket_eq s, by rw [e], by rw [e], by rw [e], by rw [e], hl⟩

theorem selClose_trace (s : Sys) :
    ∃ s2 l, selClose s = .ok () s2 ∧ s2.trace = l ++ s.trace ∧ ∀ o ∈ l, o = .selClose := by
  obtain ⟨l, e, hl⟩ := selClosed_shape s
  exact ⟨_, l, selClose_eq s, by rw [e], hl⟩

/-- `closeSocket; yield e` with a send-only application, then `selector.close()`: socket and selector are
    closed, the trace grows by `post` — the socket being closed (if it was open), the event, results of the
    application's calls (no write: there is no socket), the selector being closed -/
theorem close_yield_sel (e : Event) (s1 : Sys) (ha : SendOnly s1.react) :
    ∃ sF post, (do (do closeSocket; yieldEv e : M Unit); selClose : M Unit) s1 = .ok () sF ∧
      sF.trace = post ++ s1.trace ∧ hist post = [e] ∧ (∀ o ∈ post, TailObs e o) ∧
      sF.sockOpen = false ∧ sF.selOpen = false ∧ sF.ready = s1.ready ∧
      (s1.sockOpen = false → ∀ o ∈ post, o ≠ .sockClose) := by
  have hs2 : ∃ l2, (sockClosed s1).trace = l2 ++ s1.trace ∧ (∀ o ∈ l2, o = .sockClose) ∧
      (s1.sockOpen = false → l2 = []) ∧ (sockClosed s1).sockOpen = false ∧ (sockClosed s1).react = s1.react ∧
      (sockClosed s1).ready = s1.ready := by
    rcases sockClosed_cases s1 with ⟨h, e⟩ | ⟨h, e⟩ <;> rw [e]
    · exact ⟨[.sockClose], rfl, by simp, (fun h' => by rw [h'] at h; cases h), rfl, rfl, rfl⟩
    · exact ⟨[], rfl, by simp, (fun _ => rfl), h, rfl, rfl⟩
  obtain ⟨l2, t2, n2, hl2, so2, re2, hr2⟩ := hs2
  obtain ⟨s3, h3, kk⟩ := yieldEv_send e (sockClosed s1) (by rw [re2]; exact ha)
  obtain ⟨l3, t3, n3, r3⟩ := kk.trace
  obtain ⟨l4, e4, n4⟩ := selClosed_shape s3
  refine ⟨selClosed s3, l4 ++ l3 ++ .ev e :: l2, ?_, ?_, ?_, ?_, ?_, by rw [e4], ?_, ?_⟩
  · rw [bind_ok (show (do closeSocket; yieldEv e : M Unit) s1 = .ok () s3 by
      rw [bind_ok (closeSocket_eq s1)]; exact h3)]
    exact selClose_eq s3
  · rw [e4]
    show l4 ++ s3.trace = _
    rw [t3]
    show l4 ++ (l3 ++ .ev e :: (sockClosed s1).trace) = _
    rw [t2]; simp
  · have e4 : hist l4 = [] := hist_nonEv l4 (fun o ho => by rw [n4 o ho]; rfl)
    have e3 : hist l3 = [] := hist_nonEv l3 n3
    have e2 : hist l2 = [] := hist_nonEv l2 (fun o ho => by rw [n2 o ho]; rfl)
    rw [hist_append, hist_append, e4, e3, hist_cons_ev, e2]; rfl
  · intro o ho
    simp only [List.mem_append, List.mem_cons] at ho
    rcases ho with (ho | ho) | ho | ho
    · exact Or.inr (Or.inr (Or.inl (n4 o ho)))
    · exact Or.inr (Or.inr (Or.inr (r3 so2 o ho)))
    · exact Or.inl ho
    · exact Or.inr (Or.inl (n2 o ho))
  · rw [e4]; show s3.sockOpen = false; rw [kk.sockOpen]; exact so2
  · rw [e4]; show s3.ready = _; rw [kk.ready]; exact hr2
  · intro hs o ho hoc
    rw [hl2 hs] at ho
    simp only [List.mem_append, List.mem_cons, List.not_mem_nil, or_false] at ho
    rcases ho with (ho | ho) | ho
    · rw [n4 o ho] at hoc; cases hoc
    · have := r3 so2 o ho; rw [hoc] at this; cases this
    · rw [ho] at hoc; cases hoc

theorem finish_with {env : List EnvStep} {sA s1 : Sys} {e : Event} (ha : SendOnly s1.react)
    (hb : runBody env sA = (do closeSocket; yieldEv e : M Unit) s1) :
    ∃ sF post, tryC (do runBody env; selClose) runFinally sA = .ok () sF ∧
      sF.trace = post ++ s1.trace ∧ hist post = [e] ∧ (∀ o ∈ post, TailObs e o) ∧
      sF.sockOpen = false ∧ sF.selOpen = false ∧ sF.ready = s1.ready ∧
      (s1.sockOpen = false → ∀ o ∈ post, o ≠ .sockClose) := by
  obtain ⟨sF, post, h, r⟩ := close_yield_sel e s1 ha
  refine ⟨sF, post, tryC_ok ?_, r⟩
  cases hr : (do closeSocket; yieldEv e : M Unit) s1 with
  | ok u s3 =>
    rw [bind_ok hr] at h
    rw [bind_ok (hb.trans hr)]
    exact h
  | err x s3 => rw [bind_err hr] at h; cases h

/-- **the loop ended with an exception that `run()` handles**: the socket is closed,
    `Disconnected(kind, graceful=False)` is yielded, the selector is closed, `run()` returns -/
theorem finish_err (env : List EnvStep) (sA s1 : Sys) (y : Exn) (k : String) (hl : loop env sA = .err y s1)
    (hy : y = .forceDisconnect k ∨ y = .socketFail k ∨ y = .other k) (ha : SendOnly s1.react) :
    ∃ sF post, tryC (do runBody env; selClose) runFinally sA = .ok () sF ∧
      sF.trace = post ++ s1.trace ∧ hist post = [.disconnected k false] ∧
      (∀ o ∈ post, TailObs (.disconnected k false) o) ∧
      sF.sockOpen = false ∧ sF.selOpen = false ∧ sF.ready = s1.ready ∧
      (s1.sockOpen = false → ∀ o ∈ post, o ≠ .sockClose) :=
  finish_with ha (by rw [runBody_of_loop_err env sA s1 y hl]; rcases hy with rfl | rfl | rfl <;> rfl)

/-- **the loop ended normally** (`else:` clause): graceful `Disconnected('closed')` -/
theorem finish_ok (env : List EnvStep) (sA s1 : Sys) (hl : loop env sA = .ok () s1) (ha : SendOnly s1.react) :
    ∃ sF post, tryC (do runBody env; selClose) runFinally sA = .ok () sF ∧
      sF.trace = post ++ s1.trace ∧ hist post = [.disconnected "closed" true] ∧
      (∀ o ∈ post, TailObs (.disconnected "closed" true) o) ∧
      sF.sockOpen = false ∧ sF.selOpen = false ∧ sF.ready = s1.ready ∧
      (s1.sockOpen = false → ∀ o ∈ post, o ≠ .sockClose) :=
  finish_with ha (by rw [runBody_of_loop_okV env sA s1 hl]; rfl)

theorem sessionTime_keep {s s' : Sys} (k : Keep s s') : sessionTime s' = sessionTime s := by
  unfold sessionTime; rw [k.startTime, k.now]

theorem hist_tick (s : Sys) (dt : Nat) : hist (tick s dt).trace = hist s.trace := by
  unfold tick
  by_cases h0 : dt = 0
  · simp [h0]
  · simp only [h0, ne_eq, not_false_eq_true, if_true]
    exact hist_cons_nonEv _ _ rfl

/-- `_regular()` after `dt` ticks from a ready `I` state, neither time-out being due: a Poll iff
    `dt ≥ poll`, possibly an automatic Ping (a write, not an event), nothing else -/
theorem regular_tick (s : Sys) (dt : Nat) (hi : I s) (hr : s.ready = true)
    (hpt : s.cfg.pingTimeout = 0 ∨ dt ≤ s.cfg.pingTimeout) (hct : s.cfg.closeTimeout = 0 ∨ dt < s.cfg.closeTimeout) :
    ∃ s6, regular (tick s dt) = .ok () s6 ∧
      hist s6.trace = (if s.cfg.poll ≤ dt then [.poll] else []) ++ hist s.trace ∧
      s6.closed = s.closed ∧ s6.closing = s.closing ∧ s6.react = s.react := by
  obtain ⟨hst, hps⟩ := hi.rd hr
  have ht : sessionTime (tick s dt) = dt := by
    unfold sessionTime tick
    simp only [hst]
    omega
  have hpoll : ∃ s1, checkPoll (tick s dt) = .ok () s1 ∧ sessionTime s1 = dt ∧
      hist s1.trace = (if s.cfg.poll ≤ dt then [.poll] else []) ++ hist s.trace ∧
      s1.closed = s.closed ∧ s1.closing = s.closing ∧ s1.react = s.react ∧ s1.cfg = s.cfg := by
    by_cases hd : s.cfg.poll ≤ dt
    · have hf := Timers.checkPoll_fires (tick s dt) (Or.inr ⟨0, hps, by rw [ht]; exact hd⟩)
      obtain ⟨s1, hy, kk⟩ := yieldEv_send .poll (Timers.pollMark (tick s dt)) hi.app
      refine ⟨s1, hf.trans hy, (sessionTime_keep kk).trans ht, ?_, kk.closed, kk.closing, kk.react, kk.cfg⟩
      rw [hist_keep kk]
      show hist (.ev .poll :: (tick s dt).trace) = _
      rw [hist_cons_ev, hist_tick]
      simp [hd]
    · have hq := Timers.checkPoll_quiet (tick s dt) 0 hps (by rw [ht]; show dt - 0 < s.cfg.poll; omega)
      exact ⟨tick s dt, hq, ht, by rw [hist_tick]; simp [hd], rfl, rfl, rfl, rfl⟩
  obtain ⟨s1, h1, t1, hh1, c1, g1, r1, cf1⟩ := hpoll
  have hping : ∃ s2, checkAutoPing s1 = .ok () s2 ∧ sessionTime s2 = dt ∧ hist s2.trace = hist s1.trace ∧
      s2.closed = s1.closed ∧ s2.closing = s1.closing ∧ s2.react = s1.react ∧ s2.cfg = s1.cfg := by
    by_cases hd : Timers.pingDue s1
    · rw [Timers.checkAutoPing_fires s1 hd]
      obtain ⟨a, s2, hsf⟩ := sendFrame_returns Gen.opPing [] none (Timers.pingMark s1)
      have kk := (keep_sendFrame Gen.opPing [] none).ok hsf
      exact ⟨s2, by rw [bind_ok hsf]; rfl, (sessionTime_keep kk).trans t1,
        hist_keep (s := Timers.pingMark s1) kk, kk.closed, kk.closing, kk.react, kk.cfg⟩
    · exact ⟨s1, Timers.checkAutoPing_quiet s1 hd, t1, rfl, rfl, rfl, rfl, rfl⟩
  obtain ⟨s2, h2, t2, hh2, c2, g2, r2, cf2⟩ := hping
  have h3 : ¬ Timers.pingTimeoutDue s2 := by
    unfold Timers.pingTimeoutDue
    rw [t2, cf2, cf1]
    rcases hpt with h | h <;> omega
  have h4 : ¬ Timers.closeTimeoutDue s2 := by
    unfold Timers.closeTimeoutDue
    rw [t2, cf2, cf1]
    rintro ⟨h0, ct, _, hge⟩
    rcases hct with h | h <;> omega
  refine ⟨s2, ?_, hh2.trans hh1, c2.trans c1, g2.trans g1, r2.trans r1⟩
  rw [Timers.regular_ready (tick s dt) hr, bind_ok h1, bind_ok h2, bind_ok (Timers.checkPingTimeout_quiet s2 h3)]
  exact Timers.checkCloseTimeout_quiet s2 h4

/-- the cycle in which `recv` returns `b''` -/
theorem loop_eof (dt : Nat) (rest : List EnvStep) (s s6 : Sys) (hc : s.closed = false)
    (hr : regular (tick s dt) = .ok () s6) :
    loop (.wait dt (some .eof) :: rest) s =
      if ¬ s6.closing ∧ ¬ s6.closed then .err (.socketFail "connection-lost") s6 else .ok () s6 := by
  have hrt : regularTop (tick s dt) = .ok () s6 := hr
  have hrs : recvStep .eof s6 = onEof s6 := by
    unfold recvStep
    by_cases h : s6.sockOpen = true <;> simp [h]
  rw [loop]
  simp only [hc, Bool.false_eq_true, if_false, hrt, hrs]
  unfold onEof
  by_cases h : ¬ s6.closing = true ∧ ¬ s6.closed = true
  · rw [if_pos h, if_pos h]
  · rw [if_neg h, if_neg h]

structure Setup (cfg : Cfg) (react : React) (proxy : Bool) : Prop where
  conn : cfg.connect = .ok proxy
  req : cfg.writeFails 0 = false
  poll : 0 < cfg.poll
  app : SendOnly react

/-- **Bridge.**  The connection comes up, the upgrade request is written, the server's bytes
    `reply ++ stream` arrive in the reads `chunks` (any segmentation, clock standing still) followed
    by any further script `rest`.  Then `run()` is: Connecting, Connected, [handshake: Ready, Poll],
    then the session loop, which equals `WebSocket.feed stream` from the post-handshake state `s4`
    followed by the loop over `rest` — and an exception out of `feed` ends the loop. -/
theorem bridge_one {cfg : Cfg} {react : React} {proxy : Bool} (hs : Setup cfg react proxy)
    {reply : Bytes} {proto : Option Http.Str} {dz : Option Http.DeflateCfg} (hg : GoodReplyG cfg reply proto dz)
    (chunks : List Bytes) (stream : Bytes) (rest : List EnvStep)
    (hne : ∀ c ∈ chunks, c ≠ []) (hflat : chunks.flatten = reply ++ stream) :
    ∃ sA s4, AtReadyG cfg react proxy proto dz s4 ∧ s4.sentCloseTime = none ∧
      run { cfg := cfg, react := react, env := reads chunks ++ rest }
        = tryC (do runBody (reads chunks ++ rest); selClose) runFinally sA ∧
      loop (reads chunks ++ rest) sA =
        match wsFeed stream s4 with
        | .ok _ s' => loop rest s'
        | .err y s' => .err y s' := by
  obtain ⟨sA, hA, _, hrun, hsct, hih, hio⟩ :=
    HRun.run_start' cfg react (reads chunks ++ rest) proxy hs.conn hs.req hs.poll hs.app
  obtain ⟨s4, h4, _, hs4, hfeed⟩ := handshake_read hA hg
  refine ⟨sA, s4, h4 hih hio, hs4.trans hsct, hrun, ?_⟩
  rw [loop_reads_flat chunks hne rest sA hA.i (hdrInv_fresh sA hA.p), hflat, hfeed stream]

/-- **end-of-stream ends the loop**: `Disconnected('connection-lost')` unless a closing handshake is
    under way, then graceful `Disconnected('closed')` -/
theorem finish_eof {env : List EnvStep} {sA s6 : Sys} (hcl : s6.closed = false) (ha : SendOnly s6.react)
    (hloop : loop env sA =
      if ¬ s6.closing ∧ ¬ s6.closed then .err (.socketFail "connection-lost") s6 else .ok () s6) :
    ∃ sF post, tryC (do runBody env; selClose) runFinally sA = .ok () sF ∧ sF.trace = post ++ s6.trace ∧
      hist post = [if s6.closing then .disconnected "closed" true else .disconnected "connection-lost" false] := by
  cases hg : s6.closing with
  | false =>
    have hc : ¬ s6.closing = true ∧ ¬ s6.closed = true := by rw [hg, hcl]; simp
    rw [if_pos hc] at hloop
    obtain ⟨sF, post, h, t, hh, _⟩ := finish_err _ sA s6 _ "connection-lost" hloop (Or.inr (Or.inl rfl)) ha
    exact ⟨sF, post, h, t, hh⟩
  | true =>
    have hc : ¬ (¬ s6.closing = true ∧ ¬ s6.closed = true) := by rw [hg]; simp
    rw [if_neg hc] at hloop
    obtain ⟨sF, post, h, t, hh, _⟩ := finish_ok _ sA s6 hloop ha
    exact ⟨sF, post, h, t, hh⟩

/-- **the connection from a ready state to its end**, when the read `stream` is fed in the state
    `s4` and the script ends with a wait of `dt` and end-of-stream: the states after the stream
    (`s5`), after the last `_regular()` (`s6`) and at the end of `run()` (`sF`), with what each adds -/
theorem stream_eof_from {cfg : Cfg} {react : React} (ha : SendOnly react)
    {env : List EnvStep} {sA s4 s5 : Sys} (i4 : I s4) (hr4 : s4.ready = true) (hcfg : s4.cfg = cfg)
    (hre : s4.react = react) (hcl : s4.closed = false) (hb : Between s4.p)
    (hrun : run { cfg := cfg, react := react, env := env } = tryC (do runBody env; selClose) runFinally sA)
    {stream : Bytes} {dt : Nat}
    (hloop : loop env sA =
      match wsFeed stream s4 with
      | .ok _ s' => loop [.wait dt (some .eof)] s'
      | .err y s' => .err y s')
    (hfl : feedLoop stream s4 = .ok true s5) (hcl5 : s5.closed = false)
    (hpt : cfg.pingTimeout = 0 ∨ dt ≤ cfg.pingTimeout) (hct : cfg.closeTimeout = 0 ∨ dt < cfg.closeTimeout) :
    ∃ s6 sF post, wsFeed stream s4 = .ok () s5 ∧ I s5 ∧ Ext NotPoll s4 s5 ∧
      regular (tick s5 dt) = .ok () s6 ∧
      hist s6.trace = (if cfg.poll ≤ dt then [.poll] else []) ++ hist s5.trace ∧
      runAll cfg react env = sF ∧ sF.trace = post ++ s6.trace ∧
      hist post = [if s5.closing then .disconnected "closed" true else .disconnected "connection-lost" false] := by
  have hnh : s4.p.cont ≠ .header := hb.b.notHeader
  have hws : wsFeed stream s4 = .ok () s5 :=
    wsFeed_of_feedBody_ok _ s4 s5 hcl (by rw [feedBody_frames _ _ hnh, hfl])
  obtain ⟨i5, hz⟩ := z_wsFeed _ s4 () s5 hws i4
  obtain ⟨r5, hext⟩ := hz hr4
  have hcf5 : s5.cfg = cfg := ((step_wsFeed _).ok hws).cfg.trans hcfg
  have hre5 : s5.react = react := ((step_wsFeed _).ok hws).react.trans hre
  obtain ⟨s6, hreg, hh6, hcl6, hcg6, hre6⟩ :=
    regular_tick s5 dt i5 r5 (by rw [hcf5]; exact hpt) (by rw [hcf5]; exact hct)
  rw [hws] at hloop
  simp only [] at hloop
  rw [loop_eof dt [] s5 s6 hcl5 hreg] at hloop
  have ha6 : SendOnly s6.react := by rw [hre6, hre5]; exact ha
  obtain ⟨sF, post, hF, tF, hhF⟩ := finish_eof (hcl6.trans hcl5) ha6 hloop
  rw [hcg6] at hhF
  exact ⟨s6, sF, post, hws, i5, hext, hreg, by rw [hh6, hcf5], Monitor.runAll_ok (hrun.trans hF), tF, hhF⟩

/-- the same from the post-handshake state, with the events of the stream.  `hfl`, `hdel`: what
    `feedLoop` makes of the stream (C01). -/
theorem stream_then_eof {cfg : Cfg} {react : React} {proxy : Bool} {proto : Option Http.Str} (ha : SendOnly react)
    {env : List EnvStep} {sA s4 s5 : Sys} (h4 : AtReady cfg react proxy proto s4)
    (hrun : run { cfg := cfg, react := react, env := env } = tryC (do runBody env; selClose) runFinally sA)
    {stream : Bytes} {dt : Nat}
    (hloop : loop env sA =
      match wsFeed stream s4 with
      | .ok _ s' => loop [.wait dt (some .eof)] s'
      | .err y s' => .err y s')
    {evs : List Event} (hfl : feedLoop stream s4 = .ok true s5)
    (hdel : delivered s5.trace = evs ++ delivered s4.trace) (hcl5 : s5.closed = false)
    (hpt : cfg.pingTimeout = 0 ∨ dt ≤ cfg.pingTimeout) (hct : cfg.closeTimeout = 0 ∨ dt < cfg.closeTimeout) :
    ∃ s6 sF post, wsFeed stream s4 = .ok () s5 ∧ I s5 ∧ hist s5.trace = evs ++ hist s4.trace ∧
      regular (tick s5 dt) = .ok () s6 ∧
      hist s6.trace = (if cfg.poll ≤ dt then [.poll] else []) ++ hist s5.trace ∧
      runAll cfg react env = sF ∧ sF.trace = post ++ s6.trace ∧
      hist post = [if s5.closing then .disconnected "closed" true else .disconnected "connection-lost" false] := by
  obtain ⟨s6, sF, post, h1, h2, ⟨l, el, nl⟩, h3⟩ :=
    stream_eof_from ha h4.i h4.ready h4.cfg h4.react h4.closed h4.between hrun hloop hfl hcl5 hpt hct
  exact ⟨s6, sF, post, h1, h2, hist_of_delivered el nl hdel, h3⟩

theorem bytewise_flatten (d : Bytes) : (d.map (fun b => [b])).flatten = d := by
  induction d <;> simp_all

theorem bytewise_ne (d : Bytes) : ∀ c ∈ d.map (fun b => [b]), c ≠ [] := by
  intro c hc
  obtain ⟨b, _, rfl⟩ := List.mem_map.mp hc
  simp

/-- the `yield ProtocolError(...)` of the `except` clauses returns normally: the application only
    sends, no timer is due -/
theorem feedYield_pe_send (msg : String) (crit : Bool) (s1 : Sys) (hi : I s1) :
    ∃ s', feedYield false (.protocolError msg crit) s1 = .ok () s' ∧ Keep (pushEv (.protocolError msg crit) s1) s' := by
  obtain ⟨s', hy, kk⟩ := yieldEv_send (.protocolError msg crit) s1 hi.app
  refine ⟨s', ?_, kk⟩
  unfold feedYield
  apply tryC_ok
  rw [bind_ok (show onEvent (.protocolError msg crit) s1 = .ok () s1 from rfl), bind_ok hy]
  exact regular_id (I.of_keep kk (hi.push _))

theorem closeWrite_hist {msg : String} {crit : Bool} {cw : List Obs} (h : CloseWrite msg crit cw) : hist cw = [] := by
  rcases h with rfl | ⟨_, _, _, _, rfl | rfl⟩ <;> rfl

/-- an open, not-closing websocket between two messages, no extension, in an `I` state: the state
    after the handshake and after every complete message -/
structure Idle (cfg : Cfg) (react : React) (s : Sys) : Prop where
  i : I s
  ready : s.ready = true
  hcfg : s.cfg = cfg
  hreact : s.react = react
  closed : s.closed = false
  closing : s.closing = false
  frames : s.frames = []
  between : Between s.p
  comp : s.p.compression = false

theorem AtReady.idle {cfg : Cfg} {react : React} {proxy : Bool} {proto : Option Http.Str} {s : Sys}
    (h : AtReady cfg react proxy proto s) : Idle cfg react s :=
  ⟨h.i, h.ready, h.cfg, h.react, h.closed, h.closing, h.frames, h.between, h.comp⟩

/-- an open, not-closing websocket between two messages in an `I` state; `c` = the parser's
    `_compression` switch -/
structure IdleG (cfg : Cfg) (react : React) (c : Bool) (s : Sys) : Prop where
  i : I s
  ready : s.ready = true
  hcfg : s.cfg = cfg
  hreact : s.react = react
  closed : s.closed = false
  closing : s.closing = false
  frames : s.frames = []
  between : Between s.p
  comp : s.p.compression = c

theorem AtReadyG.idle {cfg : Cfg} {react : React} {proxy : Bool} {proto : Option Http.Str}
    {dz : Option Http.DeflateCfg} {s : Sys}
    (h : AtReadyG cfg react proxy proto dz s) : IdleG cfg react dz.isSome s :=
  ⟨h.i, h.ready, h.cfg, h.react, h.closed, h.closing, h.frames, h.between, h.comp⟩

theorem IdleG.toIdle {cfg : Cfg} {react : React} {s : Sys} (h : IdleG cfg react false s) : Idle cfg react s :=
  ⟨h.i, h.ready, h.hcfg, h.hreact, h.closed, h.closing, h.frames, h.between, h.comp⟩

theorem Idle.toG {cfg : Cfg} {react : React} {s : Sys} (h : Idle cfg react s) : IdleG cfg react false s :=
  ⟨h.i, h.ready, h.hcfg, h.hreact, h.closed, h.closing, h.frames, h.between, h.comp⟩

/-- the state after a conforming prefix: idle again, all events (Polls included) accounted for, the
    inflate context untouched (the prefix is sent uncompressed) -/
structure AfterItemsG (cfg : Cfg) (react : React) (c : Bool) (s4 sp : Sys) (evs : List Event) : Prop where
  idle : IdleG cfg react c sp
  hist : hist sp.trace = evs.reverse ++ hist s4.trace

/-- C01's `feed_items` from an idle state, with the invariant and the exact event list, extension
    negotiated or not: the items are uncompressed (RSV1 = 0) messages and control frames -/
theorem feed_items_G {cfg : Cfg} {react : React} {c : Bool} {s4 : Sys}
    (h4 : IdleG cfg react c s4) (items : List Item) (hok : ∀ it ∈ items, it.Ok) :
    ∃ sp, feedLoop (wireBytes (items.flatMap Item.wire)) s4 = .ok true sp ∧
      AfterItemsG cfg react c s4 sp (items.flatMap Item.events) := by
  have hnh : s4.p.cont ≠ .header := h4.between.b.notHeader
  obtain ⟨p', hpar, hb⟩ := parses_items s4.cfg.v items s4.p h4.between hok
  obtain ⟨sp, hfl, r, _, v, hp'⟩ := feed_frames eater_good s4 ⟨h4.i.good, h4.closed⟩ hnh hpar
    (by unfold DG.view; rw [h4.frames]; exact eat_plain eater_good items hok ⟨s4.inflHist, s4.inflOut⟩)
  obtain ⟨ip, hz⟩ := z_feedLoop _ s4 true sp hfl h4.i
  obtain ⟨rp, l, el, nl⟩ := hz h4.ready
  exact ⟨sp, hfl, ⟨ip, rp, r.cfg.trans h4.hcfg, r.react.trans h4.hreact, r.closed.trans h4.closed,
    r.closing.trans h4.closing, congrArg DG.View.frames v, by rw [hp']; exact hb,
    by rw [hp', ParsesB.comp hpar]; exact h4.comp⟩, hist_of_delivered el nl r.evs⟩

end Lomond.Core.E2E
