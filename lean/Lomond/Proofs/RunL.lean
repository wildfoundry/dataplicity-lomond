/-
  `run()` with the session loop abstracted: `runL l` is `run` in which the loop over the stored
  script (`loop s.env`) is replaced by an arbitrary computation `l`.  `run s = runL (loop s.env) s`
  (`run_eq_runL`, Proofs/EnvIrrel.lean); the theorems about `run` are proved about `runL l` from a
  specification of `l` and instantiated with `loop env`.  `Same` (configuration and application
  unchanged) is the first relation carried through (`same_leaves`, a `RunLeaves`).
-/
import Lomond.Proofs.Step
namespace Lomond.Core.Monitor
open Lomond Lomond.Core

def runBodyL (l : M Unit) : M Unit := do
  let r : Option Exn ← tryC (do l; pure none) (fun x => pure (some x))
  onLoopEnd r

def runLoopL (l : M Unit) : M Unit := tryC (do runBodyL l; selClose) runFinally

/-- `afterConnect` with the loop abstracted; `sel = false`, `l = throwE (.other "error")` is
    `afterConnectNoSel` (the selector's constructor raised: `selector` stays `None`) -/
def afterConnectL (l : M Unit) (proxy : Bool) (sel : Bool) : M Unit := do
  modS fun s => { s with sockOpen := true }
  let s ← getS
  let r ← write s.cfg.request
  if wsError r then do
    closeSocket
    yieldEv (.connectFail "request-failed")
  else do
    yieldConnected proxy
    modS fun s => { s with selOpen := sel }
    runLoopL l

def runL (l : M Unit) : M Unit := do
  yieldEv .connecting
  let s ← getS
  match s.cfg.connect with
  | .socketFail => yieldEv (.connectFail "connect-failed")
  | .otherFail => yieldEv (.connectFail "connect-failed")
  | .ok proxy => afterConnectL l proxy true
  | .selFail proxy => afterConnectL (throwE (.other "error")) proxy false

theorem runLoopNoSel_eq_L : runLoopNoSel = runLoopL (throwE (.other "error")) := rfl

theorem afterConnectNoSel_eq_L (proxy : Bool) :
    afterConnectNoSel proxy = afterConnectL (throwE (.other "error")) proxy false := rfl

theorem runBody_eq (env : List EnvStep) : runBody env = runBodyL (loop env) := rfl

theorem runLoop_eq_L (s : Sys) : runLoop s = runLoopL (loop s.env) s := rfl

theorem captured (l : M Unit) (s : Sys) :
    (∃ s1, l s = .ok () s1 ∧
      tryC (do l; pure none : M (Option Exn)) (fun x => pure (some x)) s = .ok none s1) ∨
    (∃ x s1, l s = .err x s1 ∧
      tryC (do l; pure none : M (Option Exn)) (fun x => pure (some x)) s = .ok (some x) s1) := by
  cases hl : l s with
  | ok a s1 =>
    have hb : (do l; pure none : M (Option Exn)) s = .ok none s1 := by rw [bind_ok hl]; rfl
    exact Or.inl ⟨s1, rfl, tryC_ok hb⟩
  | err x s1 =>
    have hb : (do l; pure none : M (Option Exn)) s = .err x s1 := bind_err hl
    exact Or.inr ⟨x, s1, rfl, by rw [tryC_err hb]; rfl⟩

variable {R : Sys → Sys → Prop}

theorem spec_runLoopL (po : PO R) {l : M Unit} (hl : Spec R l) (hend : ∀ r, Spec R (onLoopEnd r))
    (hsel : Spec R selClose) (hfin : ∀ x, Spec R (runFinally x)) : Spec R (runLoopL l) :=
  spec_tryC po (spec_bind po (spec_bind po
    (spec_tryC po (spec_bind po hl (fun _ => spec_pure po _)) (fun _ => spec_pure po _)) hend)
    (fun _ => hsel)) hfin

theorem _root_.Lomond.Core.RunLeaves.runLoopL (L : RunLeaves R) {l : M Unit} (hl : Spec R l) :
    Spec R (runLoopL l) :=
  spec_runLoopL L.toPO hl L.onLoopEnd L.selClose L.runFinally

theorem _root_.Lomond.Core.RunLeaves.afterConnectL (L : RunLeaves R) {l : M Unit} (hl : Spec R l)
    (proxy sel : Bool) : Spec R (afterConnectL l proxy sel) :=
  spec_afterConnectK L.toPO proxy sel L.sockOpened (fun _ => L.write _) L.closeSocket (L.yieldEv _)
    (spec_yieldConnected L.toPO proxy (L.yieldEv _) L.closeSocket) (fun s => L.selSet s sel) (L.runLoopL hl)

theorem _root_.Lomond.Core.RunLeaves.runL (L : RunLeaves R) {l : M Unit} (hl : Spec R l) : Spec R (runL l) := by
  unfold Monitor.runL
  refine spec_bind L.toPO (L.yieldEv _) (fun _ => spec_getS_bind L.toPO (fun s => ?_))
  split
  · exact L.yieldEv _
  · exact L.yieldEv _
  · exact L.afterConnectL hl _ true
  · exact L.afterConnectL (spec_throwE L.toPO _) _ false

def Same (s s' : Sys) : Prop := s'.cfg = s.cfg ∧ s'.react = s.react

theorem same_po : PO Same where
  refl _ := ⟨rfl, rfl⟩
  trans h1 h2 := ⟨h2.1.trans h1.1, h2.2.trans h1.2⟩

theorem same_of_step {m : M α} (h : Spec Step m) : Spec Same m := fun s => ⟨(h s).cfg, (h s).react⟩

theorem same_leaves : RunLeaves Same :=
  { same_po with
    sockClose := fun _ _ => ⟨rfl, rfl⟩
    key := fun _ => ⟨rfl, rfl⟩
    wr := fun _ _ _ _ _ _ _ => ⟨rfl, rfl⟩
    wrz := fun _ _ _ _ _ _ _ _ _ => ⟨rfl, rfl⟩
    closeSent := fun _ => ⟨rfl, rfl⟩
    res := fun _ _ => ⟨rfl, rfl⟩
    abandon := fun _ _ => ⟨rfl, rfl⟩
    ev := fun _ _ => ⟨rfl, rfl⟩
    polled := fun _ => ⟨rfl, rfl⟩
    pinged := fun _ _ _ => ⟨rfl, rfl⟩
    becameReady := fun _ => ⟨rfl, rfl⟩
    gotPong := fun _ => ⟨rfl, rfl⟩
    disconnected := fun _ => ⟨rfl, rfl⟩
    closeAcked := fun _ => ⟨rfl, rfl⟩
    inflated := fun _ _ _ => ⟨rfl, rfl⟩
    pushed := fun _ _ => ⟨rfl, rfl⟩
    delivered := fun _ => ⟨rfl, rfl⟩
    parsed := fun _ => ⟨rfl, rfl⟩
    accepted := fun _ _ => ⟨rfl, rfl⟩
    parser := fun _ _ _ => ⟨rfl, rfl⟩
    ticked := fun _ _ => ⟨rfl, rfl⟩
    selClosed := fun _ _ => ⟨rfl, rfl⟩
    sockOpened := fun _ => ⟨rfl, rfl⟩
    selSet := fun _ _ => ⟨rfl, rfl⟩ }

end Lomond.Core.Monitor
