/-
  What a run-level timer has to supply (`Timer`): the invariant `I` that holds after every `_regular()`
  that returned, the facts `W` that survive every exception, its clause `E` about the exception in
  flight (`XGen W E`: one `.outer` wrapper looked through, never doubly wrapped), the time-out `Own` it
  raises itself, and one statement about `_regular()` after a clock advance (`RegSat`).  How far a timer
  may be overdue right after a `selector.wait` (the slack of `CI`, `UI`, `PI`) lives inside each
  instance's proof of that statement.  The result-aware lifting of `Proofs/LiftX.lean` through
  `feedYield`, `_on_close` and the session loop then follows once, for `I ∧ A` with `A` holding between
  the leaves of the pipeline only (`Between`).
-/
import Lomond.Proofs.LiftX
import Lomond.Proofs.TimerInv
namespace Lomond.Core.TimerRun
open Lomond Lomond.Core Lomond.Core.Lift Lomond.Core.Pong Lomond.Core.Timers Lomond.Core.LiftX

theorem checkPoll_err {s s' : Sys} {x : Exn} (h : checkPoll s = .err x s') : x = .genExit := by
  by_cases hd : pollDue s
  · rw [checkPoll_fires s hd] at h
    exact Monitor.yieldEv_err_genExit h
  · obtain ⟨p0, hps, hlt⟩ := not_pollDue hd
    rw [checkPoll_quiet s p0 hps hlt] at h
    cases h

theorem checkPingTimeout_err {s s' : Sys} {x : Exn} (h : checkPingTimeout s = .err x s') :
    x = .genExit ∨ x = .forceDisconnect "ping-timeout" := by
  unfold checkPingTimeout at h
  rw [getS_bind] at h
  split at h
  · cases hy : yieldEv .unresponsive s with
    | ok u s1 => rw [bind_ok hy] at h; cases h; exact Or.inr rfl
    | err y s1 => rw [bind_err hy] at h; cases h; exact Or.inl (Monitor.yieldEv_err_genExit hy)
  · cases h

theorem regular_gen {I1 I2 I3 : Sys → Prop} {Out : Res Unit → Prop} (st : Sys)
    (hnr : st.ready = false → Out (.ok () st))
    (h1 : I1 (checkPoll st).state) (hx1 : ∀ s1, I1 s1 → Out (.err .genExit s1))
    (h2 : ∀ s1, I1 s1 → I2 (checkAutoPing s1).state)
    (h3 : ∀ s2, I2 s2 → match checkPingTimeout s2 with
      | .ok _ s3 => I3 s3
      | .err x s3 => x = .genExit ∨ x = .forceDisconnect "ping-timeout" → Out (.err x s3))
    (h4 : ∀ s3, I3 s3 → Out (checkCloseTimeout s3)) : Out (regular st) := by
  by_cases hr : st.ready = true
  · rw [regular_ready st hr]
    cases e1 : checkPoll st with
    | err x s1 =>
      rw [e1] at h1; rw [bind_err e1, checkPoll_err e1]
      exact hx1 s1 h1
    | ok u1 s1 =>
      rw [e1] at h1; rw [bind_ok e1]
      have h2' := h2 s1 h1
      cases e2 : checkAutoPing s1 with
      | err x s2 => exact absurd e2 (Monitor.noRaise_checkAutoPing s1 x s2)
      | ok u2 s2 =>
        rw [e2] at h2'; rw [bind_ok e2]
        have h3' := h3 s2 h2'
        cases e3 : checkPingTimeout s2 with
        | err x s3 => rw [e3] at h3'; rw [bind_err e3]; exact h3' (checkPingTimeout_err e3)
        | ok u3 s3 => rw [e3] at h3'; rw [bind_ok e3]; exact h4 s3 h3'
  · have hr' : st.ready = false := by simpa using hr
    rw [regular_not_ready st hr']
    exact hnr hr'

/-- outcome of `feedYield`: the invariant `I` survives either way; an exception comes out wrapped and is
    one of the library's own errors, an abandonment, or one of those (`K`) that `_regular()` raises with
    `I` intact; inside `feed`'s `try` (`b`) the websocket has been closed -/
def FeedOut (I : Sys → Prop) (K : Exn → Prop) (b : Bool) : Res Unit → Prop
  | .ok _ s' => I s'
  | .err y s' => I s' ∧ (b = true → s'.closed = true) ∧
      ∃ x, y = .outer x ∧ (x.boring = true ∨ x = .genExit ∨ K x)

theorem feedYield_gen {I : Sys → Prop} {K : Exn → Prop} (b : Bool) (e : Event) {s : Sys} (h : I s)
    (hdisc : ∀ s1, I s1 → I (onDisconnect s1).state)
    (hpush : ∀ u s1, onEvent e s = .ok u s1 → I (pushEv e s1))
    (hacts : ∀ s1, I (pushEv e s1) → I (yieldEv e s1).state)
    (hreg : ∀ s2, I s2 → match regular s2 with
      | .ok _ s3 => I s3
      | .err x s3 => I s3 ∧ (x = .genExit ∨ K x)) :
    FeedOut I K b (feedYield b e s) := by
  have handler : ∀ x s1, I s1 → (x.boring = true ∨ x = .genExit ∨ K x) →
      FeedOut I K b ((do (if b then onDisconnect else pure ()); throwE (.outer x) : M Unit) s1) := by
    intro x s1 h1 hx
    cases b with
    | true =>
      simp only [if_true]
      obtain ⟨s2, hd, hcl⟩ := Monitor.onDisconnect_ok s1
      have h2 := hdisc s1 h1
      rw [hd] at h2
      rw [bind_ok hd]
      exact ⟨h2, fun _ => hcl, x, rfl, hx⟩
    | false =>
      simp only [Bool.false_eq_true, if_false]
      rw [bind_ok (show (pure () : M Unit) s1 = .ok () s1 from rfl)]
      exact ⟨h1, fun hb => (by cases hb), x, rfl, hx⟩
  cases hE : onEvent e s with
  | err x s1 =>
    obtain ⟨rfl, hs1⟩ := onEvent_err hE
    rw [feedYield_onEvent_err b e s s1 _ hE, hs1]
    exact handler _ s h (Or.inl rfl)
  | ok u s1 =>
    have hB := hacts s1 (hpush u s1 hE)
    unfold feedYield
    cases hy : yieldEv e s1 with
    | err x s2 =>
      rw [hy] at hB
      have hb1 : (do onEvent e; yieldEv e; regular : M Unit) s = .err x s2 := by
        rw [bind_ok hE, bind_err hy]
      rw [tryC_err hb1]
      exact handler x s2 hB (Or.inr (Or.inl (Monitor.yieldEv_err_genExit hy)))
    | ok u2 s2 =>
      rw [hy] at hB
      have hR := hreg s2 hB
      cases hr : regular s2 with
      | ok u3 s3 =>
        rw [hr] at hR
        have hb1 : (do onEvent e; yieldEv e; regular : M Unit) s = .ok () s3 := by
          rw [bind_ok hE, bind_ok hy, hr]
        rw [tryC_ok hb1]
        exact hR
      | err x s3 =>
        rw [hr] at hR
        have hb1 : (do onEvent e; yieldEv e; regular : M Unit) s = .err x s3 := by
          rw [bind_ok hE, bind_ok hy, hr]
        rw [tryC_err hb1]
        exact handler x s3 hR.1 (Or.inr hR.2)

/-- the exception really in flight: the `.outer` wrapper that `feedYield` puts on is removed -/
def _root_.Lomond.Core.Exn.core : Exn → Exn
  | .outer y => y
  | y => y

/-- `GeneratorExit`, the end of the script, `_ForceDisconnect`: raised as they are, never wrapped -/
def _root_.Lomond.Core.Exn.plain : Exn → Bool
  | .genExit | .scriptEnd | .forceDisconnect _ => true
  | _ => false

/-- the exceptions after which `run()` just goes on to its `Disconnected`: the library's own errors,
    the end of the script, a `_ForceDisconnect` that is not a time-out -/
def _root_.Lomond.Core.Exn.calm (y : Exn) : Prop :=
  y.boring = true ∨ y = .scriptEnd ∨ ∃ k, y = .forceDisconnect k ∧ k ≠ "close-timeout" ∧ k ≠ "ping-timeout"

/-- what an exception `y` in flight says, for any of the timers: it is not a wrapped one, the timer's
    own clause `E`, and `.other` / `.socketFail` carry the reason of a library error -/
def PGen (E : Exn → Sys → Prop) (y : Exn) (s : Sys) : Prop :=
  (∀ z, y ≠ .outer z) ∧ E y s ∧ ∀ k, y = .other k ∨ y = .socketFail k → y.boring = true

/-- what is known of the state an exception leaves behind: `W`, and `PGen E` of the exception really in flight -/
def XGen (W : Sys → Prop) (E : Exn → Sys → Prop) (x : Exn) (s : Sys) : Prop := W s ∧ PGen E x.core s

theorem fd_ne {a b : String} (h : a ≠ b) : Exn.forceDisconnect a ≠ .forceDisconnect b :=
  fun e => h (Exn.forceDisconnect.inj e)

theorem not_outer_of_boring {x : Exn} (h : x.boring = true) : ∀ z, x ≠ .outer z := by
  intro z e; subst e; cases h

theorem not_calm_genExit : ¬ Exn.genExit.calm := by
  intro h; rcases h with h | h | ⟨k, h, _⟩ <;> cases h

theorem not_calm_pto : ¬ (Exn.forceDisconnect "ping-timeout").calm := by
  intro h
  rcases h with h | h | ⟨k, h, _, h3⟩
  · cases h
  · cases h
  · cases h; exact h3 rfl

theorem not_calm_cto : ¬ (Exn.forceDisconnect "close-timeout").calm := by
  intro h
  rcases h with h | h | ⟨k, h, h2, _⟩
  · cases h
  · cases h
  · cases h; exact h2 rfl

theorem onLoopEnd_some_cases (x : Exn) (s : Sys) (hno : ∀ z, x ≠ .outer z)
    (hk : ∀ k, x = .other k ∨ x = .socketFail k → x.boring = true) :
    ((x = .genExit ∨ x = .scriptEnd) ∧ onLoopEnd (some x) s = .err x s) ∨
    ∃ k, onLoopEnd (some x) s = (do closeSocket; yieldEv (.disconnected k false) : M Unit) s ∧
      (x = .forceDisconnect k ∨ (x.boring = true ∧ k ≠ "close-timeout" ∧ k ≠ "ping-timeout")) := by
  have lib : ∀ k, (k != "close-timeout" && k != "ping-timeout") = true → k ≠ "close-timeout" ∧ k ≠ "ping-timeout" := by
    intro k h; simpa using h
  cases x with
  | forceDisconnect k => exact Or.inr ⟨k, rfl, Or.inl rfl⟩
  | socketFail k => exact Or.inr ⟨k, rfl, Or.inr ⟨hk k (Or.inr rfl), lib k (hk k (Or.inr rfl))⟩⟩
  | other k => exact Or.inr ⟨k, rfl, Or.inr ⟨hk k (Or.inl rfl), lib k (hk k (Or.inl rfl))⟩⟩
  | protocol m => exact Or.inr ⟨"error", rfl, Or.inr ⟨rfl, by decide, by decide⟩⟩
  | critical m => exact Or.inr ⟨"error", rfl, Or.inr ⟨rfl, by decide, by decide⟩⟩
  | parse m => exact Or.inr ⟨"error", rfl, Or.inr ⟨rfl, by decide, by decide⟩⟩
  | genExit => exact Or.inl ⟨Or.inl rfl, rfl⟩
  | scriptEnd => exact Or.inl ⟨Or.inr rfl, rfl⟩
  | outer y => exact absurd rfl (hno y)

/-- `yield` only ever raises the application's abandonment -/
theorem sat_yieldEv {I : Sys → Prop} {X : Exn → Sys → Prop} {e : Event} {s : Sys} (h : I (yieldEv e s).state)
    (hx : ∀ s', I s' → X .genExit s') : Sat I X (yieldEv e s) := by
  cases hy : yieldEv e s with
  | ok u s' => rw [hy] at h; exact h
  | err x s' => rw [hy] at h; rw [Monitor.yieldEv_err_genExit hy]; exact hx s' h

section XGenSec
variable {W : Sys → Prop} {E : Exn → Sys → Prop} {x : Exn} {s : Sys}

omit W E s in
theorem core_of_not_outer (h : ∀ z, x ≠ .outer z) : x.core = x := by
  cases x <;> first | rfl | exact absurd rfl (h _)

theorem XGen.unwrap {y : Exn} (h : XGen W E (.outer y) s) : XGen W E y s :=
  ⟨h.1, by rw [core_of_not_outer (x := y) h.2.1]; exact h.2⟩

theorem XGen.outer_of_boring (hb : x.boring = true) (hw : W s) (he : E x s) : XGen W E (.outer x) s :=
  ⟨hw, not_outer_of_boring hb, he, fun _ _ => hb⟩

theorem XGen.outer_of_plain (hp : x.plain = true) (hw : W s) (he : E x s) : XGen W E (.outer x) s :=
  ⟨hw, fun z e => (by subst e; cases hp), he, fun k h => (by rcases h with rfl | rfl <;> cases hp)⟩

theorem XGen.of_boring (hb : x.boring = true) (hw : W s) (he : E x s) : XGen W E x s :=
  (XGen.outer_of_boring hb hw he).unwrap

theorem XGen.of_plain (hp : x.plain = true) (hw : W s) (he : E x s) : XGen W E x s :=
  (XGen.outer_of_plain hp hw he).unwrap

theorem XGen.e (h : XGen W E x s) (hno : ∀ z, x ≠ .outer z) : E x s := by
  have h2 := h.2.2.1
  rwa [core_of_not_outer hno] at h2

theorem XGen.kind (h : XGen W E x s) (hno : ∀ z, x ≠ .outer z) :
    ∀ k, x = .other k ∨ x = .socketFail k → x.boring = true := by
  have h2 := h.2.2.2
  rwa [core_of_not_outer hno] at h2

end XGenSec

/-- how `_regular()` may end after a `selector.wait` of `dt` ticks: normally with the slack used up;
    with a `_ForceDisconnect` or an abandonment in flight and the timer's clause for it — and when no
    time has passed (`_regular()` inside `feedYield`) the invariant still holds and the time-out is
    not the timer's own -/
def RegSat (I : Sys → Prop) (W : Sys → Prop) (E : Exn → Sys → Prop) (Own : Exn → Prop) (dt : Nat) :
    Res Unit → Prop
  | .ok _ s' => I s'
  | .err x s' => x.plain = true ∧ W s' ∧ E x s' ∧ (dt = 0 → I s' ∧ ¬ Own x)

/-- an invariant `A` that holds only between the leaves of the pipeline, not inside them (the close
    timer's "once `Closed` was yielded the websocket is closed" is broken between the hand-over of
    `Closed` and the flag update that follows it): it holds whenever the websocket is closed, and the
    leaves other than the hand-over of `Closed` keep it -/
structure Between (A : Sys → Prop) : Prop where
  closed : ∀ s, s.closed = true → A s
  inert : ∀ s s', InertF s s' → A s → A s'
  closeSocket : ∀ s, A s → A (Core.closeSocket s).state
  wsClose : ∀ c r s, A s → A (Core.wsClose c r s).state
  onDisconnect : ∀ s, A s → A (Core.onDisconnect s).state
  feed : ∀ b e s, isFeedEvent e = true → (∀ c r, e ≠ .closed c r) → A s → A (Core.feedYield b e s).state
  closing : ∀ s, A s → A { s with closing := true }
  reg : ∀ dt s, A s → A (regular (tick s dt)).state

theorem Between.none : Between (fun _ => True) :=
  ⟨fun _ _ => trivial, fun _ _ _ _ => trivial, fun _ _ => trivial, fun _ _ _ _ => trivial, fun _ _ => trivial,
    fun _ _ _ _ _ _ => trivial, fun _ _ => trivial, fun _ _ _ => trivial⟩

/-- `hi`: the upper bounds are wanted, and every wait is then assumed to last at most `D` (the poll
    interval); `I`: the invariant after every `_regular()` that returned; `A`: see `Between`; `W`: what
    survives every exception; `E x s`: what the exception `x` in flight says of the state `s` it leaves;
    `Own`: the time-out this timer raises itself -/
structure Timer (hi : Bool) (D : Nat) (I : Sys → Prop) (A : Sys → Prop) (W : Sys → Prop)
    (E : Exn → Sys → Prop) (Own : Exn → Prop) : Prop where
  w : ∀ s, I s → W s
  /-- an exception that is not the timer's own time-out leaves the invariant intact, and that is
      what `E` says of it … -/
  eOf : ∀ x s, I s → A s → ¬ Own x → E x s
  /-- … and all it says when it is one of the library's own errors -/
  back : ∀ x s, x.boring = true → W s → E x s → I s ∧ A s
  own : ∀ x, Own x → x = .forceDisconnect "ping-timeout" ∨ x = .forceDisconnect "close-timeout"
  inert : ∀ s s', InertF s s' → I s → I s'
  closeSocket : ∀ s, I s → I (Core.closeSocket s).state
  wsClose : ∀ c r s, I s → I (Core.wsClose c r s).state
  onDisconnect : ∀ s, I s → I (Core.onDisconnect s).state
  acts : ∀ e s, I (pushEv e s) → I (yieldEv e s).state
  reg : ∀ dt s, (hi = true → dt ≤ D) → ((A s ∧ s.closed = false) ∨ dt = 0) → I s →
    RegSat I W E Own dt (regular (tick s dt))

section Kit
variable {hi : Bool} {D : Nat} {I : Sys → Prop} {A W : Sys → Prop} {E : Exn → Sys → Prop} {Own : Exn → Prop}
variable (T : Timer hi D I A W E Own)
include T

theorem Timer.notOwn {x : Exn} (h : x.boring = true ∨ x = .genExit ∨ x = .scriptEnd ∨ x = .forceDisconnect "forced") :
    ¬ Own x := by
  intro ho
  rcases T.own x ho with rfl | rfl <;> rcases h with h | h | h | h <;> first | cases h | exact fd_ne (by decide) h

theorem Timer.xOuter {x : Exn} {s : Sys} (h : I s) (a : A s)
    (hx : x.boring = true ∨ x = .genExit ∨ (x.plain = true ∧ ¬ Own x)) : XGen W E (.outer x) s := by
  rcases hx with hb | rfl | ⟨hp, hn⟩
  · exact XGen.outer_of_boring hb (T.w s h) (T.eOf x s h a (T.notOwn (Or.inl hb)))
  · exact XGen.outer_of_plain rfl (T.w s h) (T.eOf _ s h a (T.notOwn (Or.inr (Or.inl rfl))))
  · exact XGen.outer_of_plain hp (T.w s h) (T.eOf x s h a hn)

/-- the timer's own time-out never strikes inside `feedYield`: no time has passed since the last
    `_regular()` -/
theorem Timer.feedOut (b : Bool) {e : Event} {s : Sys} (h : I s)
    (hpush : ∀ u s1, onEvent e s = .ok u s1 → I (pushEv e s1)) :
    FeedOut (I) (fun x => x.plain = true ∧ ¬ Own x) b (feedYield b e s) := by
  refine feedYield_gen b e h T.onDisconnect hpush (fun s1 h1 => T.acts e s1 h1) (fun s2 h2 => ?_)
  have hR := T.reg 0 s2 (fun _ => Nat.zero_le _) (Or.inr rfl) h2
  rw [Core.tick_zero] at hR
  cases hr : regular s2 with
  | ok u s3 => rw [hr] at hR; exact hR
  | err x s3 => rw [hr] at hR; exact ⟨(hR.2.2.2 rfl).1, Or.inr ⟨hR.1, (hR.2.2.2 rfl).2⟩⟩

theorem Timer.feedYield (B : Between A) (b : Bool) (e : Event) (hf : isFeedEvent e = true) (hcl : ∀ c r, e ≠ .closed c r)
    (hpush : ∀ u s s1, onEvent e s = .ok u s1 → I s → I (pushEv e s1)) :
    SpecX (fun s => I s ∧ A s) (XGen W E) (feedYield b e) := by
  intro s hs
  have h1 := T.feedOut b hs.1 (fun u s1 hE => hpush u s s1 hE hs.1)
  have ha := B.feed b e s hf hcl hs.2
  cases hr : Core.feedYield b e s with
  | ok u s' => rw [hr] at h1 ha; exact ⟨h1, ha⟩
  | err y s' =>
    rw [hr] at h1 ha
    obtain ⟨h2, _, x, rfl, hx⟩ := h1
    exact T.xOuter h2 ha hx

theorem Timer.xBoring {x : Exn} {s : Sys} (hb : x.boring = true) (hs : I s ∧ A s) : XGen W E x s :=
  XGen.of_boring hb (T.w s hs.1) (T.eOf x s hs.1 hs.2 (T.notOwn (Or.inl hb)))

/-- `_on_close`: the websocket flags change with the `Closed` / `Closing` event on the trace -/
theorem Timer.onClose (B : Between A) (hpush : ∀ e u s s1, isFeedEvent e = true → onEvent e s = .ok u s1 → I s → I (pushEv e s1))
    (hclosed : ∀ c r s, I s → Obs.ev (.closed c r) ∈ s.trace → I { s with closing := false, closed := true })
    (hclosing : ∀ c r s, I s → Obs.ev (.closing c r) ∈ s.trace → I { s with closing := true })
    (c : Option Nat) (r : List Nat) : SpecX (fun s => I s ∧ A s) (XGen W E) (onClose c r) := by
  have mem : ∀ e s u s1, isFeedEvent e = true → Core.feedYield true e s = .ok u s1 → Obs.ev e ∈ s1.trace := by
    intro e s u s1 hf hr
    cases hE : onEvent e s with
    | err x s0 =>
      obtain ⟨s2, hd, _⟩ := Monitor.onDisconnect_ok s0
      rw [feedYield_onEvent_err true e s s0 x hE] at hr
      simp only [if_true] at hr
      rw [bind_ok hd] at hr; cases hr
    | ok u0 s0 =>
      obtain ⟨l, el⟩ := feedYield_trace true e s s0 hE
      rw [hr] at el
      rw [show s1.trace = _ from el]; simp
  unfold Core.onClose
  refine specx_bind ?_ (fun _ => specx_getS_bind (fun s0 => ?_))
  · exact specx_checkCloseCode (I := fun s => I s ∧ A s) (X := XGen W E) (fun x s hb hs => T.xBoring hb hs) c
  · split
    · exact specx_pure _
    · split
      · -- `Closed` is handed over with `A` suspended; the flag update (or `on_disconnect`) restores it
        intro s hs
        have h1 := T.feedOut true hs.1 (fun u s1 hE => hpush (.closed c r) u s s1 rfl hE hs.1)
        cases hr : Core.feedYield true (.closed c r) s with
        | err y s1 =>
          rw [hr] at h1; rw [bind_err hr]
          obtain ⟨h2, hcl, x, rfl, hx⟩ := h1
          exact T.xOuter h2 (B.closed s1 (hcl rfl)) hx
        | ok u s1 =>
          rw [hr] at h1; rw [bind_ok hr]
          exact ⟨hclosed c r s1 h1 (mem _ s u s1 rfl hr), B.closed _ rfl⟩
      · intro s hs
        have h1 := T.feedYield B true (.closing c r) rfl (fun _ _ h => by cases h) (fun u s s1 => hpush _ u s s1 rfl) s hs
        cases hr : Core.feedYield true (.closing c r) s with
        | err y s1 => rw [hr] at h1; rw [bind_err hr]; exact h1
        | ok u s1 =>
          rw [hr] at h1; rw [bind_ok hr]
          have h2 := T.wsClose c (.str r) s1 h1.1
          have a2 := B.wsClose c (.str r) s1 h1.2
          obtain ⟨l, el⟩ := (step_wsClose c (.str r) s1).traceExt
          have hm : Obs.ev (.closing c r) ∈ (Core.wsClose c (.str r) s1).state.trace := by
            rw [el]; exact List.mem_append_right _ (mem _ s u s1 rfl hr)
          cases hw : Core.wsClose c (.str r) s1 with
          | err x s2 => exact absurd hw (Monitor.noRaise_wsClose c (.str r) s1 x s2)
          | ok rr s2 =>
            rw [hw] at h2 a2 hm
            rw [bind_ok hw]
            unfold raiseIfArgError
            split
            · exact T.xBoring rfl ⟨h2, a2⟩
            · rw [bind_ok (show (pure () : M Unit) s2 = .ok () s2 from rfl)]
              exact ⟨hclosing c r s2 h2 hm, B.closing s2 a2⟩

theorem Timer.leaves (B : Between A) (hclose : ∀ c r, SpecX (fun s => I s ∧ A s) (XGen W E) (Core.onClose c r))
    (hpush : ∀ e u s s1, isFeedEvent e = true → (∀ c r, e ≠ .closed c r) → onEvent e s = .ok u s1 → I s →
      I (pushEv e s1)) : LeavesX (fun s => I s ∧ A s) (XGen W E) where
  inert := fun s s' h hs => ⟨T.inert s s' h hs.1, B.inert s s' h hs.2⟩
  boring := fun _ _ hb hs => T.xBoring hb hs
  unboring := fun x s hb hx => T.back x s hb hx.1 (hx.e (not_outer_of_boring hb))
  forced := fun s hs => XGen.of_plain rfl (T.w s hs.1)
    (T.eOf _ s hs.1 hs.2 (T.notOwn (Or.inr (Or.inr (Or.inr rfl)))))
  scriptEnd := fun s hs => XGen.of_plain rfl (T.w s hs.1)
    (T.eOf _ s hs.1 hs.2 (T.notOwn (Or.inr (Or.inr (Or.inl rfl)))))
  unwrap := fun _ _ h => h.unwrap
  closeSocket := tri_noRaise Monitor.noRaise_closeSocket
    (fun s hs => ⟨T.closeSocket s hs.1, B.closeSocket s hs.2⟩)
  wsClose := fun c r => tri_noRaise (Monitor.noRaise_wsClose c r)
    (fun s hs => ⟨T.wsClose c r s hs.1, B.wsClose c r s hs.2⟩)
  onDisconnect := tri_noRaise Monitor.noRaise_onDisconnect
    (fun s hs => ⟨T.onDisconnect s hs.1, B.onDisconnect s hs.2⟩)
  onClose := hclose
  feedYield := fun b e hf _ hcl => T.feedYield B b e hf hcl (fun u s s1 => hpush e u s s1 hf hcl)

theorem Timer.tick_regular (B : Between A) (dt : Nat) (hdt : hi = true → dt ≤ D) (s : Sys) (hs : I s ∧ A s) (hcl : s.closed = false) :
    Sat (fun s => I s ∧ A s) (XGen W E) (regular (tick s dt)) := by
  have h1 := T.reg dt s hdt (Or.inl ⟨hs.2, hcl⟩) hs.1
  have ha := B.reg dt s hs.2
  cases hr : regular (tick s dt) with
  | ok u s' => rw [hr] at h1 ha; exact ⟨h1, ha⟩
  | err x s' => rw [hr] at h1; exact XGen.of_plain h1.1 h1.2.1 h1.2.2.1

theorem Timer.loop (B : Between A) (L : LeavesX (fun s => I s ∧ A s) (XGen W E)) (env : List EnvStep)
    (h : hi = true → EnvBound D env) : SpecX (fun s => I s ∧ A s) (XGen W E) (loop env) :=
  liftx_loop L (fun st => hi = true → ∀ dt rd, st = .wait dt rd → dt ≤ D)
    (fun dt rd s hP hs hcl => T.tick_regular B dt (fun hhi => hP hhi dt rd rfl) s hs hcl) env
    (fun _ hst hhi dt rd e => h hhi dt rd (e ▸ hst))

end Kit

theorem sat_and_true {I : Sys → Prop} {X : Exn → Sys → Prop} {r : Res α} (h : Sat I X r) :
    Sat (fun s => I s ∧ True) X r := by
  cases r with
  | ok a s => exact ⟨h, trivial⟩
  | err x s => exact h

end Lomond.Core.TimerRun
