/-
  The program logic over the core monad.  `Tri P m Q X`: from a state satisfying `P`, `m` returns `a`
  in a state satisfying `Q a`, or raises `x` in a state satisfying `X x`; the rules for the monad
  operations are proved for it.  `SpecX I X m` is the case of one invariant (`Tri I m (fun _ => I) X`
  by unfolding), and `Spec R m` (every final state, normal or exceptional, is `R`-related to the
  start state) is, for a preorder `R`, the instance `I = R s0`, `X = fun _ => R s0` for every `s0`
  (`spec_iff`); statements about normal returns only are the instances with `X` trivial
  (`specx_normal_iff`).
-/
import Lomond.Model.Core
deriving instance DecidableEq for Except

namespace Lomond.Core
open Lomond

def Res.state : Res α → Sys
  | .ok _ s => s
  | .err _ s => s

@[simp] theorem Res.state_ok (a : α) (s : Sys) : (Res.ok a s).state = s := rfl
@[simp] theorem Res.state_err (x : Exn) (s : Sys) : (Res.err x s : Res α).state = s := rfl

def Spec (R : Sys → Sys → Prop) (m : M α) : Prop := ∀ s, R s (m s).state

structure PO (R : Sys → Sys → Prop) : Prop where
  refl : ∀ s, R s s
  trans : ∀ {a b c}, R a b → R b c → R a c

theorem bind_ok {m : M α} {f : α → M β} {s s1 : Sys} {a : α} (h : m s = .ok a s1) :
    (m >>= f) s = f a s1 := by
  show M.bind m f s = _; unfold M.bind; rw [h]

theorem bind_err {m : M α} {f : α → M β} {s s1 : Sys} {x : Exn} (h : m s = .err x s1) :
    (m >>= f) s = .err x s1 := by
  show M.bind m f s = _; unfold M.bind; rw [h]

theorem tryC_ok {m : M α} {hd : Exn → M α} {s s1 : Sys} {a : α} (h : m s = .ok a s1) :
    tryC m hd s = .ok a s1 := by unfold tryC; rw [h]

theorem tryC_err {m : M α} {hd : Exn → M α} {s s1 : Sys} {x : Exn} (h : m s = .err x s1) :
    tryC m hd s = hd x s1 := by unfold tryC; rw [h]

theorem pure_apply (a : α) (s : Sys) : (pure a : M α) s = .ok a s := rfl

theorem getS_bind (k : Sys → M β) (s : Sys) : (getS >>= k) s = k s s := rfl

theorem modS_bind (f : Sys → Sys) (k : Unit → M β) (s : Sys) : (modS f >>= k) s = k () (f s) := rfl

theorem modS_ok_inv {f : Sys → Sys} {s s' : Sys} (h : modS f s = .ok () s') : s' = f s := by
  unfold modS at h; cases h; rfl

theorem bind_ok_inv {m : M α} {k : α → M β} {s s' : Sys} {b : β} (h : (m >>= k) s = .ok b s') :
    ∃ a s1, m s = .ok a s1 ∧ k a s1 = .ok b s' := by
  cases hm : m s with
  | err x s1 => rw [bind_err hm] at h; cases h
  | ok a s1 => rw [bind_ok hm] at h; exact ⟨a, s1, rfl, h⟩

theorem bind_congr_ok {m : M α} {f1 f2 : α → M β} {s : Sys}
    (h : ∀ a s1, m s = .ok a s1 → f1 a s1 = f2 a s1) : (m >>= f1) s = (m >>= f2) s := by
  cases hm : m s with
  | ok a s1 => rw [bind_ok hm, bind_ok hm]; exact h a s1 hm
  | err x s1 => rw [bind_err hm, bind_err hm]

theorem bind_congr_at {m1 m2 : M α} {f : α → M β} {s : Sys} (h : m1 s = m2 s) :
    (m1 >>= f) s = (m2 >>= f) s := by
  show M.bind m1 f s = M.bind m2 f s
  unfold M.bind; rw [h]

theorem tryC_congr_at {m1 m2 : M α} {hd : Exn → M α} {s : Sys} (h : m1 s = m2 s) :
    tryC m1 hd s = tryC m2 hd s := by
  unfold tryC; rw [h]

def NeverOk (m : M α) : Prop := ∀ s, ∃ y s', m s = .err y s'

theorem neverOk_throwE (x : Exn) : NeverOk (throwE x : M α) := fun s => ⟨x, s, rfl⟩

theorem neverOk_bind_right {m : M α} {k : α → M β} (hk : ∀ a, NeverOk (k a)) : NeverOk (m >>= k) := by
  intro s
  cases hm : m s with
  | ok a s1 => rw [bind_ok hm]; exact hk a s1
  | err x s1 => exact ⟨x, s1, bind_err hm⟩

theorem tryC_ok_inv {m : M α} {h : Exn → M α} (hh : ∀ x, NeverOk (h x)) {s s' : Sys} {a : α}
    (e : tryC m h s = .ok a s') : m s = .ok a s' := by
  cases hm : m s with
  | ok b s1 => rw [tryC_ok hm] at e; exact e
  | err x s1 =>
    rw [tryC_err hm] at e
    obtain ⟨y, s2, h2⟩ := hh x s1
    rw [h2] at e; cases e

def Tri (P : Sys → Prop) (m : M α) (Q : α → Sys → Prop) (X : Exn → Sys → Prop) : Prop :=
  ∀ s, P s → match m s with | .ok a s' => Q a s' | .err x s' => X x s'

section Rules
variable {P P' : Sys → Prop} {Q Q' : α → Sys → Prop} {X X' Y : Exn → Sys → Prop}

theorem Tri.ok {m : M α} (h : Tri P m Q X) {s s' : Sys} {a : α} (hs : P s) (e : m s = .ok a s') :
    Q a s' := by
  have := h s hs; rw [e] at this; exact this

theorem Tri.err {m : M α} (h : Tri P m Q X) {s s' : Sys} {x : Exn} (hs : P s) (e : m s = .err x s') :
    X x s' := by
  have := h s hs; rw [e] at this; exact this

theorem Tri.weaken {m : M α} (h : Tri P m Q X) (hp : ∀ s, P' s → P s) (hq : ∀ a s, Q a s → Q' a s)
    (hx : ∀ x s, X x s → X' x s) : Tri P' m Q' X' := by
  intro s hs
  have h1 := h s (hp s hs)
  cases hm : m s with
  | ok a s1 => rw [hm] at h1; exact hq a s1 h1
  | err x s1 => rw [hm] at h1; exact hx x s1 h1

theorem Tri.pre {m : M α} (h : Tri P m Q X) (hp : ∀ s, P' s → P s) : Tri P' m Q X :=
  fun s hs => h s (hp s hs)

theorem tri_pure {a : α} (h : ∀ s, P s → Q a s) : Tri P (pure a : M α) Q X := fun s hs => h s hs

theorem tri_throwE {x : Exn} (h : ∀ s, P s → X x s) : Tri P (throwE x : M α) Q X := fun s hs => h s hs

theorem tri_bind {m : M α} {f : α → M β} {B : α → Sys → Prop} {Q : β → Sys → Prop}
    (hm : Tri P m B X) (hf : ∀ a, Tri (B a) (f a) Q X) : Tri P (m >>= f) Q X := by
  intro s hs
  have h1 := hm s hs
  cases hms : m s with
  | ok a s1 => rw [hms] at h1; rw [bind_ok hms]; exact hf a s1 h1
  | err x s1 => rw [hms] at h1; rw [bind_err hms]; exact h1

theorem tri_getS_bind {f : Sys → M α} (h : ∀ s0, Tri (fun s => P s ∧ s = s0) (f s0) Q X) :
    Tri P (getS >>= f) Q X := fun s hs => h s s ⟨hs, rfl⟩

theorem tri_modS {f : Sys → Sys} {Q : Unit → Sys → Prop} (h : ∀ s, P s → Q () (f s)) :
    Tri P (modS f) Q X := fun s hs => h s hs

theorem tri_liftE {r : Except Exn α} (hq : ∀ a s, r = .ok a → P s → Q a s) (hx : ∀ x s, r = .error x → P s → X x s) :
    Tri P (liftE r) Q X := by
  intro s hs
  unfold liftE
  cases r with
  | ok a => exact hq a s rfl hs
  | error x => exact hx x s rfl hs

theorem tri_ite (c : Prop) [Decidable c] {m k : M α} (hm : c → Tri P m Q X) (hk : ¬ c → Tri P k Q X) :
    Tri P (if c then m else k) Q X := by
  split
  · exact hm ‹_›
  · exact hk ‹_›

theorem tri_tryC {m : M α} {h : Exn → M α} (hm : Tri P m Q Y) (hh : ∀ x, Tri (Y x) (h x) Q X) :
    Tri P (tryC m h) Q X := by
  intro s hs
  have h1 := hm s hs
  cases hms : m s with
  | ok a s1 => rw [hms] at h1; rw [tryC_ok hms]; exact h1
  | err x s1 => rw [hms] at h1; rw [tryC_err hms]; exact hh x s1 h1

theorem tri_state {m : M α} {Q' : Sys → Prop} :
    Tri P m (fun _ => Q') (fun _ => Q') ↔ ∀ s, P s → Q' (m s).state := by
  constructor <;> intro h s hs <;> have h1 := h s hs <;> cases hm : m s <;> rw [hm] at h1 <;> exact h1

theorem tri_noRaise_ok {m : M α} (hn : ∀ s x s', m s ≠ .err x s') (h : ∀ s a s', P s → m s = .ok a s' → Q a s') :
    Tri P m Q X := by
  intro s hs
  cases hm : m s with
  | ok a s1 => exact h s a s1 hs hm
  | err x s1 => exact absurd hm (hn s x s1)

theorem tri_noRaise {m : M α} {Q' : Sys → Prop} (hn : ∀ s x s', m s ≠ .err x s') (h : ∀ s, P s → Q' (m s).state) :
    Tri P m (fun _ => Q') X :=
  tri_noRaise_ok hn fun s _ _ hs e => by have h1 := h s hs; rw [e] at h1; exact h1

theorem Tri.of_noRaise {m : M α} (h : Tri P m Q X) (hn : ∀ s x s', m s ≠ .err x s') : Tri P m Q X' :=
  tri_noRaise_ok hn (fun _ _ _ hs e => h.ok hs e)

theorem Tri.and {m : M α} (h : Tri P m Q X) (h' : Tri P' m Q' X') :
    Tri (fun s => P s ∧ P' s) m (fun a s => Q a s ∧ Q' a s) (fun x s => X x s ∧ X' x s) := by
  intro s hs
  cases hm : m s with
  | ok a s1 => exact ⟨h.ok hs.1 hm, h'.ok hs.2 hm⟩
  | err x s1 => exact ⟨h.err hs.1 hm, h'.err hs.2 hm⟩

theorem tri_raises {m : M α} (h : ∀ s x s', P s → m s = .err x s' → X x s') : Tri P m (fun _ _ => True) X := by
  intro s hs
  cases hm : m s with
  | ok a s1 => trivial
  | err x s1 => exact h s x s1 hs hm

end Rules

namespace LiftX

-- A trap: `Sat` is a `match`, so applying a lemma that concludes `Sat I X (m a s)` makes the elaborator reduce `m a s` as
-- far as it goes.  That is stuck at once while `a` and `s` are variables and runs the model when `a` is a literal
-- (`feedHeader_spec` in MonitorLoop.lean generalizes the parser's output first for this reason).
def Sat (I : Sys → Prop) (X : Exn → Sys → Prop) : Res α → Prop
  | .ok _ s => I s
  | .err x s => X x s

def SpecX (I : Sys → Prop) (X : Exn → Sys → Prop) (m : M α) : Prop := ∀ s, I s → Sat I X (m s)

variable {I : Sys → Prop} {X Q : Exn → Sys → Prop}

theorem sat_ok {a : α} {s : Sys} (h : I s) : Sat I X (Res.ok a s) := h
theorem sat_err {x : Exn} {s : Sys} (h : X x s) : Sat I X (Res.err x s : Res α) := h

theorem specx_pure (a : α) : SpecX I X (pure a : M α) := tri_pure (a := a) (Q := fun _ => I) (X := X) fun _ h => h

theorem specx_throwE {x : Exn} (h : ∀ s, I s → X x s) : SpecX I X (throwE x : M α) :=
  tri_throwE (α := α) (Q := fun _ => I) h

theorem specx_bind {m : M α} {f : α → M β} (hm : SpecX I X m) (hf : ∀ a, SpecX I X (f a)) :
    SpecX I X (m >>= f) := tri_bind hm hf

theorem specx_getS_bind {f : Sys → M α} (h : ∀ s, SpecX I X (f s)) : SpecX I X (getS >>= f) :=
  tri_getS_bind fun s0 => Tri.pre (h s0) fun _ hs => hs.1

theorem specx_modS {f : Sys → Sys} (h : ∀ s, I s → I (f s)) : SpecX I X (modS f) :=
  tri_modS (Q := fun _ => I) (X := X) h

theorem specx_liftE {r : Except Exn α} (h : ∀ x s, r = .error x → I s → X x s) : SpecX I X (liftE r) :=
  tri_liftE (Q := fun _ => I) (fun _ _ _ hs => hs) h

theorem specx_ite (c : Prop) [Decidable c] {m k : M α} (hm : SpecX I X m) (hk : SpecX I X k) :
    SpecX I X (if c then m else k) := tri_ite c (fun _ => hm) (fun _ => hk)

theorem specx_tryC {m : M α} {h : Exn → M α} (hm : SpecX I Q m)
    (hh : ∀ x s1, Q x s1 → Sat I X (h x s1)) : SpecX I X (tryC m h) := tri_tryC hm hh

theorem SpecX.ok {m : M α} (h : SpecX I X m) {s s' : Sys} {a : α} (hs : I s) (e : m s = .ok a s') : I s' :=
  Tri.ok (Q := fun _ => I) h hs e

theorem SpecX.err {m : M α} (h : SpecX I X m) {s s' : Sys} {x : Exn} (hs : I s) (e : m s = .err x s') :
    X x s' :=
  Tri.err (Q := fun _ => I) h hs e

theorem Sat.state {P : Sys → Prop} {r : Res α} (h : Sat P (fun _ => P) r) : P r.state := by
  cases r <;> exact h

theorem sat_of_state {P : Sys → Prop} {r : Res α} (h : P r.state) : Sat P (fun _ => P) r := by
  cases r <;> exact h

theorem specx_normal_iff {m : M α} :
    SpecX I (fun _ _ => True) m ↔ ∀ s a s', I s → m s = .ok a s' → I s' := by
  constructor
  · intro h s a s' hs e; exact h.ok hs e
  · intro h s hs
    cases e : m s with
    | ok a s' => exact h s a s' hs e
    | err x s' => trivial

end LiftX

open LiftX

variable {R : Sys → Sys → Prop}

theorem spec_iff (po : PO R) {m : M α} : Spec R m ↔ ∀ s0, SpecX (R s0) (fun _ => R s0) m :=
  ⟨fun h _ s hs => sat_of_state (po.trans hs (h s)), fun h s => (h s s (po.refl s)).state⟩

theorem spec_pure (po : PO R) (a : α) : Spec R (pure a : M α) := fun s => po.refl s

theorem bind_at (po : PO R) {m : M α} {f : α → M β} {s : Sys}
    (hm : R s (m s).state) (hf : ∀ a s1, m s = .ok a s1 → R s1 (f a s1).state) :
    R s ((m >>= f) s).state := by
  cases hms : m s with
  | ok a s1 =>
    rw [bind_ok hms]
    rw [hms] at hm
    exact po.trans hm (hf a s1 hms)
  | err x s1 => rw [bind_err hms]; rw [hms] at hm; exact hm

theorem spec_bind (po : PO R) {m : M α} {f : α → M β} (hm : Spec R m) (hf : ∀ a, Spec R (f a)) :
    Spec R (m >>= f) := fun s => bind_at po (hm s) (fun a s1 _ => hf a s1)

theorem spec_seq (po : PO R) {m : M α} {k : M β} (hm : Spec R m) (hk : Spec R k) :
    Spec R (do let _ ← m; k) := spec_bind po hm (fun _ => hk)

theorem tryC_at (po : PO R) {m : M α} {h : Exn → M α} {s : Sys} (hm : R s (m s).state)
    (hh : ∀ x s1, m s = .err x s1 → R s1 (h x s1).state) : R s (tryC m h s).state := by
  cases hms : m s with
  | ok a s1 => rw [tryC_ok hms]; rw [hms] at hm; exact hm
  | err x s1 => rw [tryC_err hms]; rw [hms] at hm; exact po.trans hm (hh x s1 hms)

theorem spec_tryC (po : PO R) {m : M α} {h : Exn → M α} (hm : Spec R m) (hh : ∀ x, Spec R (h x)) :
    Spec R (tryC m h) := fun s => tryC_at po (hm s) (fun x s1 _ => hh x s1)

theorem spec_getS (po : PO R) : Spec R getS := fun s => po.refl s
theorem spec_throwE (po : PO R) (x : Exn) : Spec R (throwE x : M α) := fun s => po.refl s
theorem spec_modS {f : Sys → Sys} (h : ∀ s, R s (f s)) : Spec R (modS f) := fun s => h s
theorem spec_liftE (po : PO R) (r : Except Exn α) : Spec R (liftE r) := by
  intro s; unfold liftE; cases r <;> exact po.refl s

theorem spec_ite (c : Prop) [Decidable c] {m k : M α} (hm : Spec R m) (hk : Spec R k) :
    Spec R (if c then m else k) := by
  split <;> assumption

theorem Spec.ok {m : M α} (h : Spec R m) {s s' : Sys} {a : α} (e : m s = .ok a s') : R s s' := by
  have := h s; rw [e] at this; exact this
theorem Spec.err {m : M α} (h : Spec R m) {s s' : Sys} {x : Exn} (e : m s = .err x s') : R s s' := by
  have := h s; rw [e] at this; exact this

theorem Pong.bind_state_rel {R : Sys → Sys → Prop} (po : PO R) {m : M α} {k : α → M β}
    (hk : ∀ a, Spec R (k a)) (s : Sys) : R (m s).state ((m >>= k) s).state := by
  cases hm : m s with
  | ok a s1 => rw [bind_ok hm]; exact hk a s1
  | err x s1 => rw [bind_err hm]; exact po.refl _

theorem Pong.tryC_state_rel {R : Sys → Sys → Prop} (po : PO R) {m : M α} {h : Exn → M α}
    (hh : ∀ x, Spec R (h x)) (s : Sys) : R (m s).state (tryC m h s).state := by
  cases hm : m s with
  | ok a s1 => rw [tryC_ok hm]; exact po.refl _
  | err x s1 => rw [tryC_err hm]; exact hh x s1

end Lomond.Core
