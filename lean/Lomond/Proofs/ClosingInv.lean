/-
  C08, run level: the relation `Cl` of Proofs/Closing.lean holds across every turn of a connection
  (`Turn.cl`), hence across every function of the core model up to `run` (`cl_yields`), and the
  invariant `Inv` holds at the end of every connection whose upgrade request does not look like a
  Close frame.
-/
import Lomond.Proofs.Turn
namespace Lomond.Core
open Lomond Lomond.Core.Pong

theorem Called.cl {s s' : Sys} (h : Called s s') : Cl s s' := by
  have token (r : ActRes) (a : Sys) : Cl a (resState a r) := Cl.of_ext [.res r] rfl rfl id
  cases h with
  | res r _ => exact token r s
  | send h hop _ _ => exact cl_po.trans ((cl_sendFrame _ _ _ ⟨by omega, by omega⟩).ok h) (token _ _)
  | close _ _ h _ => exact cl_po.trans ((weff_sendFrame_ok (by decide) h).cl_closing _) (token _ _)
  | sessionClose => exact cl_po.trans (cl_closeSocket.ok (closeSocket_eq s)) (token _ _)

theorem Turn.cl {L : Prop} {s s' : Sys} (h : Turn L s s') : Cl s s' := by
  have push (e : Event) (a b : Sys) (ht : b.trace = a.trace) (hk : Shut a → Shut b) : Cl a (pushEv e b) :=
    Cl.of_ext [.ev e] (by show _ :: b.trace = _; rw [ht]; rfl) rfl hk
  cases h with
  | silent h => exact Cl.of_ext [] h.trace rfl (fun hs => by unfold Shut at *; rw [h.closing, h.closed]; exact hs)
  | tick dt => exact cl_tick s dt
  | polled => exact Cl.of_ext [] rfl rfl id
  | pinged _ _ => exact Cl.of_ext [] rfl rfl id
  | ev e _ => exact push e s s rfl id
  | ready p d => exact push _ s _ rfl id
  | pong d => exact push _ s _ rfl id
  | autoPong d _ _ _ h => exact cl_po.trans ((cl_sendFrame _ _ _ ⟨by decide, by decide⟩).ok h) (push _ _ _ rfl id)
  | autoPing _ h => exact (cl_sendFrame _ _ _ ⟨by decide, by decide⟩).ok h
  | called h => exact h.cl
  | abandon w => exact Cl.of_ext [] rfl rfl id
  | libClose _ _ _ h _ => exact (weff_sendFrame_ok (by decide) h).cl_closing _
  | sockClosed _ => exact cl_closeSocket.ok (closeSocket_eq s)
  | closedSet _ => exact Cl.of_ext [] rfl rfl (fun _ => Or.inr rfl)
  | closeAcked _ => exact Cl.of_ext [] rfl rfl (fun _ => Or.inl rfl)
  | selClosed _ => exact Cl.of_ext [.selClose] rfl rfl id
  | incomplete => exact Cl.of_ext [.incomplete] rfl rfl id

theorem cl_yields : Yields Cl := .ofTurn cl_po Turn.cl

/-- **the invariant holds at the end of every connection**.  The upgrade request is the only thing
    written that is not a frame: the invariant needs it not to look like a Close frame (the real
    one starts with `GET `). -/
theorem runAll_inv (cfg : Cfg) (react : React) (env : List EnvStep) (hreq : isCloseBytes cfg.request = false) :
    Inv (runAll cfg react env) := by
  let I (s : Sys) : Prop := s.cfg = cfg ∧ Inv s
  have step {L : Prop} {s s' : Sys} (hi : I s) (m : Turn L s s') : I s' := ⟨m.same.1.trans hi.1, m.cl.inv hi.2⟩
  have h := (runAll_turns cfg react env).keeps (I := I) (J := I) step step
    (fun {s s'} hi ⟨r, hw⟩ => by
      have w := weff_write s.cfg.request none { s with sockOpen := true }
      rw [hw, show closeLike s.cfg.request none = false from by
        simp only [closeLike, Bool.or_false]; rw [hi.1]; exact hreq] at w
      exact ⟨((step_write _ _).ok hw).cfg.trans hi.1, w.cl.inv hi.2⟩)
    ⟨rfl, rfl, fun h => by cases h⟩
  exact (h.elim id id).2

end Lomond.Core
