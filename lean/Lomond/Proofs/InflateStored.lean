/-
  A stored block written by the reference encoder is read back by `Inflate.stored`.
-/
import Lomond.Proofs.InflateBits
namespace Lomond.Inflate
open Lomond Lomond.DeflEnc

theorem bitsLE16 (v : Nat) : bitsLE 16 v = bitsOf [v % 256, v / 256] := by
  rw [show (16 : Nat) = 8 + 8 from rfl, bitsLE_add, bitsOf_cons, bitsOf_cons, bitsOf_nil, List.append_nil]
  congr 1
  exact (bitsLE_mod 8 v).symm

theorem pad_length (off : Nat) : (pad off).length = (8 - off % 8) % 8 := by simp [pad]

theorem pad_congr (a b : Nat) (h : a % 8 = b % 8) : pad a = pad b := by simp [pad, h]

theorem stored_spec {inp : Array Nat} (hwf : ∀ x ∈ inp.toList, x < 256) {p0 off : Nat} {data : Bytes}
    {r : List Bool} (out : Array Nat) (hdata : ∀ x ∈ data, x < 256) (hlen : data.length ≤ 65535)
    (hp : p0 % 8 = off % 8)
    (h : Rest inp p0 = pad off ++ (bitsLE 16 data.length ++ (bitsLE 16 (65535 - data.length) ++ (bitsOf data ++ r)))) :
    stored inp p0 out = .done (p0 + (pad off).length + 32 + 8 * data.length) (out ++ data.toArray) := by
  have hpl := pad_length off
  have hi : p0 + (pad off).length = 8 * ((p0 + 7) / 8) := by omega
  have h1 := rest_append h
  rw [hi, bitsLE16, bitsLE16, ← List.append_assoc, ← bitsOf_append, ← List.append_assoc, ← bitsOf_append] at h1
  have hb : ∀ x ∈ [data.length % 256, data.length / 256] ++ [(65535 - data.length) % 256, (65535 - data.length) / 256] ++ data,
      x < 256 := by
    intro x hx
    simp only [List.mem_append, List.mem_cons, List.not_mem_nil, or_false] at hx
    rcases hx with ((h | h) | (h | h)) | h
    · exact h ▸ Nat.mod_lt _ (by decide)
    · exact h ▸ Nat.div_lt_of_lt_mul (by omega)
    · exact h ▸ Nat.mod_lt _ (by decide)
    · exact h ▸ Nat.div_lt_of_lt_mul (by omega)
    · exact hdata x h
  obtain ⟨tl, hd, _⟩ := rest_bytes hwf hb h1
  generalize hI : (p0 + 7) / 8 = i at hd hi
  have hsz : inp.size = i + 4 + data.length + tl.length := by
    have := congrArg List.length hd
    simp at this
    omega
  have g : ∀ k, inp.getD (i + k) 0 = (inp.toList.drop i).getD k 0 := by
    intro k
    rw [← getD_toList]
    simp [List.getD_eq_getElem?_getD, List.getElem?_drop]
  have g0 : inp.getD i 0 = data.length % 256 := by
    have := g 0
    rw [hd] at this
    simpa using this
  have g1 : inp.getD (i + 1) 0 = data.length / 256 := by rw [g 1, hd]; rfl
  have g2 : inp.getD (i + 2) 0 = (65535 - data.length) % 256 := by rw [g 2, hd]; rfl
  have g3 : inp.getD (i + 3) 0 = (65535 - data.length) / 256 := by rw [g 3, hd]; rfl
  have hex : inp.extract (i + 4) (i + 4 + data.length) = data.toArray := by
    apply Array.toList_inj.mp
    rw [Array.toList_extract, List.extract_eq_take_drop, ← List.drop_drop, hd]
    simp
  unfold stored
  simp only [hI, g0, g1, g2, g3, Nat.mod_add_div']
  -- their `%` and `/` would only slow `omega` down
  clear g0 g1 g2 g3 hb
  rw [if_pos (by omega), if_neg (by omega), if_pos (by omega), hex]
  congr 1
  omega

end Lomond.Inflate
