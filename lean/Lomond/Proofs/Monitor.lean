/-
  The event-sequence monitor of C07 and what ties the library's state to the events emitted so far.

  * `Mon.step` / `Mon.run`: the monitor automaton of the property text, over the list of events
    (oldest first); `phaseOf` computes the same thing on a trace (newest first).
  * `Keeps`: steps that emit no event, do not touch `ready` / the parser position, and close the
    socket only with a `sockClose` observation (all "leaf" operations); `keeps_<fn>` for the leaves.
    Such a step preserves `SockInv` (a closed socket was closed with a `sockClose` observation),
    `termOK` (every terminal event has a `sockClose` before it), `HI` (`hist` is the events of the
    trace) and `NoInc` (no `incomplete` observation).
  * The state predicates `P3` ("Ready was emitted"), `G2` ("Connected but not Ready, and
    `ready = false`"), `U`, `E3`, `Spec3` speak of `Mon`'s phase and are kept by `Keeps` steps
    (`Keeps.g`, `E3.handler`); no proof uses them.  The pass over the session loop
    (Proofs/MonitorLoop.lean) is made for the stricter monitor `Mon'` and has its own: `AtReady` (of
    which its `feedLoop_p3` speaks), `Await`, `At .unresp`, `RaisedR`.
-/
import Lomond.Proofs.Raises
import Lomond.Proofs.TraceFold
import Lomond.Proofs.Segmentation
namespace Lomond.Core.Monitor
open Lomond Lomond.Core

inductive Phase
  | start        -- nothing yielded yet
  | connecting   -- `Connecting` yielded
  | connected    -- `Connected` yielded, `Ready` not yet
  | ready        -- `Ready` yielded
  | unresp       -- `Unresponsive` yielded (ping time-out): only the terminal event may follow
  | done         -- the terminal event (`ConnectFail` / `Disconnected`) yielded
  deriving DecidableEq, Repr

/-- one step of the monitor; `none` = the sequence is ill-formed -/
def Mon.step : Phase → Event → Option Phase
  | .start, .connecting => some .connecting
  | .connecting, .connectFail _ => some .done
  | .connecting, .connected _ => some .connected
  | .connected, .ready _ _ => some .ready
  | .connected, .rejected _ => some .connected
  | .connected, .protocolError _ _ => some .connected
  | .connected, .disconnected _ _ => some .done
  | .ready, .text _ => some .ready
  | .ready, .binary _ => some .ready
  | .ready, .ping _ => some .ready
  | .ready, .pong _ => some .ready
  | .ready, .closing _ _ => some .ready
  | .ready, .closed _ _ => some .ready
  | .ready, .poll => some .ready
  | .ready, .unresponsive => some .unresp
  | .ready, .protocolError _ _ => some .ready
  | .ready, .disconnected _ _ => some .done
  | .unresp, .disconnected _ _ => some .done
  | _, _ => none

/-- run the monitor over a list of events, oldest first -/
def Mon.run (ph : Phase) : List Event → Option Phase
  | [] => some ph
  | e :: r => (Mon.step ph e).bind (fun q => Mon.run q r)

def Obs.quiet : Obs → Bool
  | .ev _ => false
  | .incomplete => false
  | _ => true

theorem Obs.quiet.isEv {o : Obs} (h : Obs.quiet o = true) : Obs.isEv o = false := by
  cases o <;> first | rfl | cases h

theorem Obs.quiet.ne {o : Obs} (h : Obs.quiet o = true) : o ≠ .incomplete := by
  intro e; subst e; cases h

def Obs.event? : Obs → Option Event
  | .ev e => some e
  | _ => none

/-- the events of a trace, oldest first -/
def events (tr : List Obs) : List Event := tr.reverse.filterMap Obs.event?

/-- the events of a trace, newest first -/
def histOf (tr : List Obs) : List Event := tr.filterMap Obs.event?

/-- the monitor's phase after a trace (newest first) -/
def phaseOf : List Obs → Option Phase
  | [] => some .start
  | .ev e :: r => (phaseOf r).bind (fun p => Mon.step p e)
  | _ :: r => phaseOf r

theorem Mon.run_append (ph : Phase) (a b : List Event) :
    Mon.run ph (a ++ b) = (Mon.run ph a).bind (fun q => Mon.run q b) := by
  induction a generalizing ph with
  | nil => rfl
  | cons e r ih =>
    simp only [List.cons_append, Mon.run]
    cases Mon.step ph e with
    | none => rfl
    | some q => simp only [Option.bind_some]; exact ih q

theorem events_cons_ev (e : Event) (tr : List Obs) : events (.ev e :: tr) = events tr ++ [e] := by
  simp [events, Obs.event?]

theorem events_cons_nonEv (o : Obs) (tr : List Obs) (h : Obs.isEv o = false) : events (o :: tr) = events tr := by
  cases o <;> first | (simp [Obs.isEv] at h; done) | simp [events, Obs.event?]

theorem phaseOf_eq_run (tr : List Obs) : phaseOf tr = Mon.run .start (events tr) := by
  induction tr with
  | nil => rfl
  | cons o r ih =>
    cases o with
    | ev e =>
      rw [events_cons_ev, Mon.run_append, ← ih]
      simp only [phaseOf]
      cases phaseOf r with
      | none => rfl
      | some p => simp only [Option.bind_some, Mon.run]; cases Mon.step p e <;> rfl
    | _ => rw [events_cons_nonEv _ _ rfl]; exact ih

theorem mem_histOf {e : Event} {tr : List Obs} : e ∈ histOf tr ↔ Obs.ev e ∈ tr := by
  simp only [histOf, List.mem_filterMap]
  constructor
  · rintro ⟨o, ho, he⟩
    cases o <;> simp [Obs.event?] at he
    subst he; exact ho
  · exact fun h => ⟨_, h, rfl⟩

theorem mem_events {e : Event} {tr : List Obs} : e ∈ events tr ↔ Obs.ev e ∈ tr := by
  rw [events, List.filterMap_reverse, List.mem_reverse]; exact mem_histOf

theorem phaseOf_ignores : Ignores phaseOf (fun o => Obs.quiet o = true) :=
  fun o t h => by cases o <;> first | rfl | cases h

def Event.isTerminal : Event → Bool
  | .connectFail _ => true
  | .disconnected _ _ => true
  | _ => false

theorem Mon.step_terminal {p q : Phase} {e : Event} (h : Mon.step p e = some q) (ht : Event.isTerminal e = true) :
    q = .done := by
  cases p <;> cases e <;> first | (cases ht; done) | (cases h; done) | (cases h; rfl)

theorem Mon.step_done (e : Event) : Mon.step .done e = none := by
  cases e <;> rfl

def Obs.isTerm : Obs → Bool
  | .ev e => Event.isTerminal e
  | _ => false

/-- every terminal event of the trace (newest first) is preceded by a `sockClose` -/
def termOK : List Obs → Prop := Hist (fun o pre => Obs.isTerm o = true → Obs.sockClose ∈ pre)

theorem termOK_of_noTerminal (tr : List Obs) (h : ∀ e, Obs.ev e ∈ tr → Event.isTerminal e = false) : termOK tr := by
  induction tr with
  | nil => trivial
  | cons o r ih =>
    refine ⟨?_, ih (fun e he => h e (List.mem_cons_of_mem _ he))⟩
    intro ht
    cases o with
    | ev e => have := h e List.mem_cons_self; simp [Obs.isTerm] at ht; rw [ht] at this; cases this
    | _ => cases ht

theorem termOK_ignores : Ignores termOK (fun o => Obs.quiet o = true) :=
  IsHist.ignores (fun _ => Iff.rfl) (fun o _ h ht => by cases o <;> first | cases ht | cases h)

theorem termOK_split {tr : List Obs} (h : termOK tr) (post pre : List Obs) (e : Event)
    (hs : tr = post ++ .ev e :: pre) (ht : Event.isTerminal e = true) : Obs.sockClose ∈ pre := by
  subst hs; exact Hist.at (φ := fun o pre => Obs.isTerm o = true → Obs.sockClose ∈ pre) h ht

structure Keeps (s s' : Sys) : Prop where
  ready : s'.ready = s.ready
  cont : s'.p.cont = s.p.cont
  hist : s'.hist = s.hist
  trace : ∃ l, s'.trace = l ++ s.trace ∧ ∀ o ∈ l, Obs.quiet o = true
  sock : s'.sockOpen = s.sockOpen ∨ (s'.sockOpen = false ∧ Obs.sockClose ∈ s'.trace)

theorem keeps_po : PO Keeps where
  refl s := ⟨rfl, rfl, rfl, ⟨[], rfl, fun _ h => by cases h⟩, Or.inl rfl⟩
  trans := by
    intro a b c h1 h2
    obtain ⟨l2, e2, _⟩ := h2.trace
    refine ⟨h2.ready.trans h1.ready, h2.cont.trans h1.cont, h2.hist.trans h1.hist,
      ext_trans h1.trace h2.trace, ?_⟩
    · rcases h2.sock with h | ⟨h, hm⟩
      · rcases h1.sock with h' | ⟨h', hm'⟩
        · exact Or.inl (h.trans h')
        · refine Or.inr ⟨h.trans h', ?_⟩
          rw [e2]; exact List.mem_append_right _ hm'
      · exact Or.inr ⟨h, hm⟩

theorem keeps_same {s s' : Sys} (hr : s'.ready = s.ready) (hc : s'.p.cont = s.p.cont) (hh : s'.hist = s.hist)
    (ht : s'.trace = s.trace) (hs : s'.sockOpen = s.sockOpen) : Keeps s s' :=
  ⟨hr, hc, hh, ⟨[], ht, fun _ h => nomatch h⟩, Or.inl hs⟩

theorem keeps_cons {s s' : Sys} (o : Obs) (hq : Obs.quiet o = true) (hr : s'.ready = s.ready)
    (hc : s'.p.cont = s.p.cont) (hh : s'.hist = s.hist) (ht : s'.trace = o :: s.trace)
    (hs : s'.sockOpen = s.sockOpen) : Keeps s s' :=
  ⟨hr, hc, hh, ⟨[o], ht, fun o' h => by rw [List.mem_singleton.mp h]; exact hq⟩, Or.inl hs⟩

theorem keeps_closeSocket : Spec Keeps closeSocket :=
  spec_closeSocket keeps_po (fun s _ =>
    ⟨rfl, rfl, rfl, ⟨[_], rfl, fun o h => by rw [List.mem_singleton.mp h]; rfl⟩, Or.inr ⟨rfl, List.mem_cons_self⟩⟩)

theorem keeps_write (d : Bytes) (z : Option (Nat × Bytes)) : Spec Keeps (write d z) :=
  spec_write keeps_po d z (fun s o _ _ _ ho => keeps_cons o (by
    rcases ho with rfl | rfl
    · rfl
    · cases z <;> rfl) rfl rfl rfl rfl rfl)

theorem keeps_sendFrame (op : Nat) (pl : Bytes) (c : Option Bytes) : Spec Keeps (sendFrame op pl c) :=
  spec_sendFrame keeps_po op pl c (fun _ => keeps_same rfl rfl rfl rfl rfl) (fun d => keeps_write d _)

theorem keeps_sendData (op : Nat) (pl : Bytes) (c : Bool) : Spec Keeps (sendData op pl c) :=
  spec_sendData op pl c (keeps_sendFrame _ _ _) (fun s _ => keeps_sendFrame _ _ _ s)

theorem keeps_wsClose (c : Option Nat) (r : Arg) : Spec Keeps (wsClose c r) :=
  spec_wsClose keeps_po c r (fun pl => keeps_sendFrame _ pl none) (fun _ => keeps_same rfl rfl rfl rfl rfl)

theorem keeps_doAct (a : Act) : Spec Keeps (doAct a) :=
  spec_doAct keeps_po a (fun op pl c _ => keeps_sendData op pl c) (fun op pl _ _ => keeps_sendFrame op pl none)
    (fun c r _ => keeps_wsClose c r) (fun _ => keeps_closeSocket) (fun _ _ => keeps_cons _ rfl rfl rfl rfl rfl rfl) (fun _ _ _ => keeps_same rfl rfl rfl rfl rfl)

theorem keeps_selClose : Spec Keeps selClose :=
  spec_selClose keeps_po (fun _ _ => keeps_cons _ rfl rfl rfl rfl rfl rfl)

theorem keeps_doActs (as : List Act) : Spec Keeps (doActs as) :=
  spec_doActs keeps_po as (fun a _ => keeps_doAct a)

def SockInv (s : Sys) : Prop :=
  (s.sockOpen = false → Obs.sockClose ∈ s.trace) ∧ Obs.incomplete ∉ s.trace ∧ s.hist = histOf s.trace

def P3 (s : Sys) : Prop := phaseOf s.trace = some .ready ∧ SockInv s

def G2 (s : Sys) : Prop := phaseOf s.trace = some .connected ∧ s.ready = false ∧ SockInv s

def G (s : Sys) : Prop := G2 s ∨ P3 s

def Acc (s : Sys) : Prop := ∃ ph, phaseOf s.trace = some ph ∧ ph ≠ .start

/-- preservation of a state predicate, as a relation for `Spec` -/
def Pres (I : Sys → Prop) (s s' : Sys) : Prop := I s → I s'

theorem pres_po (I : Sys → Prop) : PO (Pres I) where
  refl _ := id
  trans h1 h2 := fun h => h2 (h1 h)

theorem Keeps.ignores {α : Sort _} {f : List Obs → α} {s s' : Sys} (k : Keeps s s')
    (h : Ignores f (fun o => Obs.quiet o = true)) : f s'.trace = f s.trace := by
  obtain ⟨l, e, n⟩ := k.trace
  rw [e]; exact h.append l _ n

theorem Keeps.phase {s s' : Sys} (h : Keeps s s') : phaseOf s'.trace = phaseOf s.trace := h.ignores phaseOf_ignores

def NoInc (s : Sys) : Prop := Obs.incomplete ∉ s.trace

/-- the history the application is shown is the list of events yielded so far -/
def HI (s : Sys) : Prop := s.hist = histOf s.trace

theorem histOf_ignores : Ignores histOf (fun o => Obs.quiet o = true) :=
  fun o t h => by cases o <;> first | rfl | cases h

theorem Keeps.hi {s s' : Sys} (h : Keeps s s') (hs : HI s) : HI s' := by
  unfold HI
  rw [h.hist, h.ignores histOf_ignores]; exact hs

theorem Keeps.noInc {s s' : Sys} (h : Keeps s s') (hs : NoInc s) : NoInc s' := by
  obtain ⟨l, e, n⟩ := h.trace
  intro hm; rw [e] at hm
  rcases List.mem_append.mp hm with h1 | h1
  · exact Obs.quiet.ne (n _ h1) rfl
  · exact hs h1

theorem Keeps.sockInv {s s' : Sys} (h : Keeps s s') (hs : SockInv s) : SockInv s' := by
  refine ⟨?_, h.noInc hs.2.1, h.hi hs.2.2⟩
  intro hf
  rcases h.sock with h1 | ⟨_, hm⟩
  · obtain ⟨l, e, _⟩ := h.trace
    rw [e]; exact List.mem_append_right _ (hs.1 (h1 ▸ hf))
  · exact hm

theorem Keeps.p3 {s s' : Sys} (h : Keeps s s') (hs : P3 s) : P3 s' :=
  ⟨h.phase.trans hs.1, h.sockInv hs.2⟩

theorem Keeps.g2 {s s' : Sys} (h : Keeps s s') (hs : G2 s) : G2 s' :=
  ⟨h.phase.trans hs.1, h.ready.trans hs.2.1, h.sockInv hs.2.2⟩

theorem Keeps.g {s s' : Sys} (h : Keeps s s') (hs : G s) : G s' :=
  hs.elim (fun a => Or.inl (h.g2 a)) (fun a => Or.inr (h.p3 a))

theorem Keeps.termOK {s s' : Sys} (h : Keeps s s') (hs : termOK s.trace) : termOK s'.trace := by
  rw [h.ignores termOK_ignores]; exact hs

theorem P3.g {s : Sys} (h : P3 s) : G s := Or.inr h
theorem G.acc {s : Sys} (h : G s) : Acc s :=
  h.elim (fun a => ⟨_, a.1, by decide⟩) (fun a => ⟨_, a.1, by decide⟩)

theorem yieldEv_keeps (e : Event) (s : Sys) : Keeps (pushEv e s) (yieldEv e s).state := by
  rw [yieldEv_eq]; exact keeps_doActs _ _

theorem noInc_pushEv (e : Event) (s : Sys) (h : NoInc s) : NoInc (pushEv e s) := by
  intro hm
  rcases List.mem_cons.mp hm with h1 | h1
  · cases h1
  · exact h h1

theorem hi_pushEv (e : Event) (s : Sys) (h : HI s) : HI (pushEv e s) := by
  unfold HI at h ⊢
  show e :: s.hist = histOf (.ev e :: s.trace)
  rw [h]; rfl

theorem sockInv_pushEv (e : Event) (s : Sys) (h : SockInv s) : SockInv (pushEv e s) :=
  ⟨fun hf => List.mem_cons_of_mem _ (h.1 hf), noInc_pushEv e s h.2.1, hi_pushEv e s h.2.2⟩

theorem keeps_checkAutoPing : Spec Keeps checkAutoPing :=
  spec_checkAutoPing keeps_po (fun _ _ _ => keeps_same rfl rfl rfl rfl rfl) (keeps_sendFrame _ _ _)

def U (s : Sys) : Prop := phaseOf s.trace = some .unresp ∧ SockInv s

theorem Keeps.u {s s' : Sys} (h : Keeps s s') (hs : U s) : U s' :=
  ⟨h.phase.trans hs.1, h.sockInv hs.2⟩

/-- exceptions for which the `except` clauses of `WebSocket.feed` emit nothing -/
def Silent (x : Exn) : Prop :=
  match x with
  | .parse _ => False
  | .critical _ => False
  | .protocol _ => False
  | _ => True

/-- an exceptional exit after `Ready`: either nothing special, or `Unresponsive` has just been emitted
    and the exception in flight (`_ForceDisconnect`, or `GeneratorExit` from the application) is one
    that `feed` passes on silently -/
def E3 (x : Exn) (s : Sys) : Prop := P3 s ∨ (U s ∧ Silent x)

def Res.sat3 (r : Res α) (Q : Sys → Prop) (E : Exn → Sys → Prop) : Prop :=
  match r with
  | .ok _ s' => Q s'
  | .err x s' => E x s'

def Spec3 (m : M α) : Prop := ∀ s, P3 s → Res.sat3 (m s) P3 E3

theorem spec3_ite (c : Prop) [Decidable c] {m k : M α} (hm : Spec3 m) (hk : Spec3 k) :
    Spec3 (if c then m else k) := by split <;> assumption

theorem keeps_onEvent (e : Event) (he : ∀ a b, e ≠ .ready a b) : Spec Keeps (onEvent e) :=
  spec_onEvent keeps_po e (fun p d h => absurd h (he p d)) (fun _ _ _ => keeps_same rfl rfl rfl rfl rfl)
    (fun d _ _ s _ => keeps_sendFrame _ d none s)

theorem keeps_onDisconnect : Spec Keeps onDisconnect :=
  spec_onDisconnect keeps_po keeps_closeSocket (fun _ => keeps_same rfl rfl rfl rfl rfl)

theorem pres_feedYield_handler (I : Sys → Prop) (hk : ∀ s s', Keeps s s' → I s → I s') (b : Bool) (x : Exn) :
    Spec (Pres I) (do (if b then onDisconnect else pure ()); throwE (.outer x) : M Unit) := by
  refine spec_bind (pres_po I) ?_ (fun _ => spec_throwE (pres_po I) _)
  split
  · exact fun s hs => hk _ _ (keeps_onDisconnect s) hs
  · exact spec_pure (pres_po I) _

theorem feedYield_handler_res (b : Bool) (x : Exn) (s : Sys) :
    ∃ s', (do (if b then onDisconnect else pure ()); throwE (.outer x) : M Unit) s = .err (.outer x) s' ∧ Keeps s s' := by
  cases b with
  | true =>
    simp only [if_true]
    cases hd : onDisconnect s with
    | err z s2 => exact absurd hd (noRaise_onDisconnect _ _ _)
    | ok u s2 => exact ⟨s2, by rw [bind_ok hd]; rfl, keeps_onDisconnect.ok hd⟩
  | false =>
    simp only [Bool.false_eq_true, if_false]
    exact ⟨s, rfl, keeps_po.refl s⟩

theorem E3.handler {x : Exn} {s s' : Sys} (h : E3 x s) (k : Keeps s s') : E3 (.outer x) s' :=
  h.elim (fun a => Or.inl (k.p3 a)) (fun a => Or.inr ⟨k.u a.1, trivial⟩)

theorem keeps_buildMessage (fs : List Frame) : Spec Keeps (buildMessage fs) :=
  spec_buildMessage keeps_po fs (fun j =>
    spec_inflateMessage keeps_po j (fun _ _ _ => keeps_same rfl rfl rfl rfl rfl))

theorem onDisconnect_ok (s : Sys) : ∃ s', onDisconnect s = .ok () s' ∧ s'.closed = true :=
  ⟨_, onDisconnect_eq s, rfl⟩

theorem feedHandler_not_ok (x : Exn) (s : Sys) (u : Unit) (s' : Sys) : feedHandler x s ≠ .ok u s' := by
  obtain ⟨y, s1, h⟩ := feedHandler_never_ok x s
  rw [h]; intro e; cases e

theorem tick_keeps (s : Sys) (dt : Nat) : Keeps s (tick s dt) := by
  unfold tick
  refine ⟨rfl, rfl, rfl, ?_, Or.inl rfl⟩
  simp only []
  split
  · exact ⟨[_], rfl, fun o h => by simp only [List.mem_singleton] at h; subst h; rfl⟩
  · exact ⟨[], rfl, fun _ h => by cases h⟩

end Lomond.Core.Monitor
