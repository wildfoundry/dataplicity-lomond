/-
  C01 / C02, the session loop with the clock running.  Environment scripts here are *timed*: every
  cycle of the loop waits `dt` ticks and then either has nothing to read or reads a non-empty chunk
  (`TStep`, `tscript`).  From a `Mid` state (the time-insensitive invariant `DG.TG`, no Close yet)
  the loop over such a script whose bytes parse into the expected frames (and, last, possibly the
  server's Close) delivers exactly the expected events, whatever the cuts and whatever the waits
  (`timed_frames`).  `tail_loop`: the idle cycles and the end of stream after the last read.
-/
import Lomond.Proofs.DeliveryGen
import Lomond.Proofs.EndToEnd
namespace Lomond.Core.DG
open Lomond Lomond.Core Lomond.Core.E2E

/-- the state after the server's Close has been answered: `Closing` delivered, the echo written
    (or its write failed), the websocket closing, the close timer armed *now* -/
structure Closed1 (c : CloseF) (s s' : Sys) : Prop where
  cfg : s'.cfg = s.cfg
  react : s'.react = s.react
  closed : s'.closed = false
  closing : s'.closing = true
  sct : s'.sentCloseTime = some (sessionTime s')
  evs : delivered s'.trace = c.event :: delivered s.trace
  sock : s'.sockOpen = s.sockOpen
  sel : s'.selOpen = s.selOpen
  p : s'.p = s.p
  vw : view s' = view s

theorem onOut_close_T (c : CloseF) (hc : c.Ok) (s : Sys) (g : TG s) (hcg : s.closing = false) :
    ∃ s', onOut (.frame c.wire.frame) s = .ok true s' ∧ Closed1 c s s' := by
  obtain ⟨s', h, e⟩ := onOut_close c hc s g.good g.closed hcg
  obtain ⟨s1, h1, so, se⟩ := e.mid
  have f1 : Fix s s1 := fix_feedYield (fun _ _ hh => by cases hh) g.app h1
  exact ⟨s', h, e.own.cfg, e.react, e.closed, e.closing, e.sct, e.evs, so.trans f1.sockOpen, se.trans f1.selOpen,
    e.own.p, e.own.view⟩

/-- one cycle of the loop: the selector returns after `dt` ticks, with nothing to read (`none`) or
    with a read of these bytes -/
abbrev TStep := Nat × Option Bytes

def tstep : TStep → EnvStep
  | (dt, none) => .wait dt none
  | (dt, some c) => .wait dt (some (.data c))

def tscript (l : List TStep) : List EnvStep := l.map tstep

def tbytes : List TStep → Bytes
  | [] => []
  | (_, none) :: l => tbytes l
  | (_, some c) :: l => c ++ tbytes l

/-- no read is empty (`recv` returning `b''` is the end of the stream) -/
def TNonEmpty (l : List TStep) : Prop := ∀ dt c, (dt, some c) ∈ l → c ≠ []

def EndsRead : List TStep → Prop
  | [] => True
  | [(_, some _)] => True
  | [(_, none)] => False
  | _ :: x :: l => EndsRead (x :: l)

def tnonEmptyB (l : List TStep) : Bool :=
  l.all (fun x => match x.2 with | some c => !c.isEmpty | none => true)

def endsReadB : List TStep → Bool
  | [] => true
  | [(_, some _)] => true
  | [(_, none)] => false
  | _ :: x :: l => endsReadB (x :: l)

theorem TNonEmpty.of_b {l : List TStep} (h : tnonEmptyB l = true) : TNonEmpty l := by
  intro dt c hm hc
  unfold tnonEmptyB at h
  have := List.all_eq_true.mp h (dt, some c) hm
  simp [hc] at this

theorem EndsRead.of_b : ∀ {l : List TStep}, endsReadB l = true → EndsRead l
  | [], _ => trivial
  | [(_, some _)], _ => trivial
  | [(_, none)], h => by simp [endsReadB] at h
  | (_, none) :: x :: l, h => EndsRead.of_b (l := x :: l) h
  | (_, some _) :: x :: l, h => EndsRead.of_b (l := x :: l) h

theorem TNonEmpty.tail {x : TStep} {l : List TStep} (h : TNonEmpty (x :: l)) : TNonEmpty l :=
  fun dt c hm => h dt c (List.mem_cons_of_mem _ hm)

theorem EndsRead.tail {x : TStep} {l : List TStep} (h : EndsRead (x :: l)) : EndsRead l := by
  cases l with
  | nil => trivial
  | cons y r =>
    obtain ⟨dt, o⟩ := x
    cases o <;> exact h

theorem tbytes_append (a b : List TStep) : tbytes (a ++ b) = tbytes a ++ tbytes b := by
  induction a with
  | nil => rfl
  | cons x r ih =>
    obtain ⟨dt, o⟩ := x
    cases o with
    | none => simpa [tbytes] using ih
    | some c => simp [tbytes, ih]

theorem tbytes_ne_nil (l : List TStep) (h0 : l ≠ []) (hne : TNonEmpty l) (he : EndsRead l) : tbytes l ≠ [] := by
  induction l with
  | nil => exact (h0 rfl).elim
  | cons x r ih =>
    obtain ⟨dt, o⟩ := x
    cases o with
    | some c =>
      intro e
      have : c = [] := (List.append_eq_nil_iff.mp (show c ++ tbytes r = [] from e)).1
      exact hne dt c List.mem_cons_self this
    | none =>
      cases r with
      | nil => exact he.elim
      | cons y r' => exact ih (by simp) hne.tail he

theorem delivered_tick (s : Sys) (dt : Nat) : delivered (tick s dt).trace = delivered s.trace := by
  unfold tick
  by_cases h : dt = 0
  · simp [h]
  · simp only [h, ne_eq, not_false_eq_true, if_true]
    rfl

/-- what a cycle of the loop leaves alone; `es`: the events delivered in it -/
structure StepT (es : List Event) (s s' : Sys) : Prop where
  cfg : s'.cfg = s.cfg
  react : s'.react = s.react
  sel : s'.selOpen = s.selOpen
  evs : delivered s'.trace = es ++ delivered s.trace

theorem StepT.refl (s : Sys) : StepT [] s s := ⟨rfl, rfl, rfl, rfl⟩

theorem StepT.trans {e1 e2 : List Event} {a b c : Sys} (h1 : StepT e1 a b) (h2 : StepT e2 b c) :
    StepT (e2 ++ e1) a c :=
  ⟨h2.cfg.trans h1.cfg, h2.react.trans h1.react, h2.sel.trans h1.sel, by rw [h2.evs, h1.evs, List.append_assoc]⟩

theorem StepT.trans0 {es : List Event} {a b c : Sys} (h1 : StepT [] a b) (h2 : StepT es b c) : StepT es a c := by
  simpa using h1.trans h2

/-- between two cycles of the loop, frames phase, the server's Close not yet received -/
structure Mid (z : ZP) (s : Sys) : Prop where
  g : TG s
  z : ZOk z s
  ncg : s.closing = false
  nh : s.p.cont ≠ .header

theorem regular_mid (z : ZP) (dt : Nat) (s : Sys) (m : Mid z s) :
    ∃ s2, regular (tick s dt) = .ok () s2 ∧ Mid z s2 ∧ view s2 = view s ∧ s2.p = s.p ∧ StepT [] s s2 := by
  obtain ⟨s2, hr, c2, f2, q2⟩ := regular_T s dt m.g
  refine ⟨s2, hr, ⟨(m.g.tick dt).of_fix f2, ⟨?_, ?_, ?_⟩, ?_, ?_⟩, ?_, c2.p, ⟨f2.cfg, f2.react, f2.selOpen, ?_⟩⟩
  · rw [f2.cfg]; exact m.z.infl
  · rw [q2.comp]; exact m.z.comp
  · rw [q2.dec]; exact m.z.dec
  · rw [f2.closing]; exact m.ncg
  · rw [c2.p]; exact m.nh
  · unfold view; rw [c2.frames, q2.hist, q2.out]; rfl
  · rw [c2.evs, delivered_tick]

theorem idle_step (z : ZP) (dt : Nat) (rest : List EnvStep) (s : Sys) (m : Mid z s) :
    ∃ s2, loop (.wait dt none :: rest) s = loop rest s2 ∧ Mid z s2 ∧ view s2 = view s ∧ s2.p = s.p ∧
      StepT [] s s2 := by
  obtain ⟨s2, hr, m2, v2, p2, st⟩ := regular_mid z dt s m
  refine ⟨s2, ?_, m2, v2, p2, st⟩
  rw [SegLoop.loop_wait dt none rest s m.g.closed, hr]

/-- a cycle that reads `c`, the frames completed in it being `F1` (not the server's Close) -/
theorem read_step (z : ZP) (dt : Nat) (c : Bytes) (hne : c ≠ []) (rest : List EnvStep) (s : Sys) (m : Mid z s)
    (F1 : List Frame) (e1 : List Event) (v1 : View) (he : EatSeq (TGz z) RelT F1 e1 (view s) v1)
    (hpe : (pRun s.cfg.v s.p c).err = none)
    (hpo : (pRun s.cfg.v s.p c).outs.map (·.2) = F1.map Out.frame) :
    ∃ s3, loop (.wait dt (some (.data c)) :: rest) s = loop rest s3 ∧ Mid z s3 ∧ view s3 = v1 ∧
      s3.p = (pRun s.cfg.v s.p c).p ∧ StepT e1 s s3 := by
  obtain ⟨s2, hr, m2, v2, p2, st2⟩ := regular_mid z dt s m
  have hfold := feedLoop_eq_fold c s2 m2.nh
  rw [st2.cfg, p2] at hfold
  obtain ⟨s', hcons, r', ⟨g', z'⟩, v'⟩ := consume_eatSeq (eater_tg z) F1 e1 (view s) v1 he _ hpo
    (pRun s.cfg.v s.p c).fin [] s2 ⟨m2.g, m2.z⟩ v2
  rw [List.append_nil] at hcons
  have hfl : feedLoop c s2 = .ok true { s' with p := (pRun s.cfg.v s.p c).p } := by
    rw [hfold, hcons]
    exact fin_ok _ hpe s'
  have hws : wsFeed c s2 = .ok () { s' with p := (pRun s.cfg.v s.p c).p } :=
    wsFeed_of_feedBody_ok _ s2 _ m2.g.closed (by rw [feedBody_frames _ _ m2.nh, hfl])
  refine ⟨{ s' with p := (pRun s.cfg.v s.p c).p }, ?_, ⟨⟨g'.app, g'.pt, g'.ct, g'.sock, g'.closed⟩,
    ⟨z'.infl, z'.comp, z'.dec⟩, ?_, ?_⟩, v', rfl, ?_⟩
  · rw [E2E.loop_wait_data dt c rest s s2 m.g.closed hr m2.g.sock hne, hws]
  · show s'.closing = false
    rw [r'.fix.closing]; exact m2.ncg
  · exact ((step_feedLoop c).ok hfl).contNH m2.nh
  · exact st2.trans0 ⟨r'.fix.cfg, r'.fix.react, r'.fix.selOpen, r'.evs⟩

structure AfterClose (c : CloseF) (es : List Event) (s s' : Sys) : Prop where
  st : StepT (c.event :: es) s s'
  closed : s'.closed = false
  closing : s'.closing = true
  sct : s'.sentCloseTime = some (sessionTime s')
  app : SendOnly s'.react
  pt : s'.cfg.pingTimeout = 0

/-- the cycle that reads the end of the stream: the frames `F1`, then the server's Close -/
theorem read_step_close (z : ZP) (dt : Nat) (c : Bytes) (hne : c ≠ []) (rest : List EnvStep) (s : Sys) (m : Mid z s)
    (F1 : List Frame) (e1 : List Event) (v1 : View) (he : EatSeq (TGz z) RelT F1 e1 (view s) v1)
    (cf : CloseF) (hcf : cf.Ok)
    (hpe : (pRun s.cfg.v s.p c).err = none)
    (hpo : (pRun s.cfg.v s.p c).outs.map (·.2) = (F1 ++ [cf.wire.frame]).map Out.frame) :
    ∃ s3, loop (.wait dt (some (.data c)) :: rest) s = loop rest s3 ∧ AfterClose cf e1 s s3 ∧
      s3.p = (pRun s.cfg.v s.p c).p := by
  obtain ⟨s2, hr, m2, v2, p2, st2⟩ := regular_mid z dt s m
  have hfold := feedLoop_eq_fold c s2 m2.nh
  rw [st2.cfg, p2] at hfold
  rw [List.map_append] at hpo
  obtain ⟨o1, o2, ho, hm1, hm2⟩ := List.map_eq_append_iff.mp hpo
  obtain ⟨x, rest2, rfl, hx, hrest2⟩ := List.map_eq_cons_iff.mp hm2
  have : rest2 = [] := by simpa using hrest2
  subst this
  obtain ⟨pc, o⟩ := x
  simp only at hx
  subst hx
  obtain ⟨s', hcons, r', ⟨g', z'⟩, v'⟩ := consume_eatSeq (eater_tg z) F1 e1 (view s) v1 he o1 hm1
    (pRun s.cfg.v s.p c).fin [(pc, .frame cf.wire.frame)] s2 ⟨m2.g, m2.z⟩ v2
  obtain ⟨s'', hcl, cl⟩ := onOut_close_T cf hcf { s' with p := pc } ⟨g'.app, g'.pt, g'.ct, g'.sock, g'.closed⟩
    (by show s'.closing = false; rw [r'.fix.closing]; exact m2.ncg)
  have hfl : feedLoop c s2 = .ok true { s'' with p := (pRun s.cfg.v s.p c).p } := by
    rw [hfold, ho, hcons]
    simp only [consume]
    rw [hcl]
    exact fin_ok _ hpe s''
  have hws : wsFeed c s2 = .ok () { s'' with p := (pRun s.cfg.v s.p c).p } :=
    wsFeed_of_feedBody_ok _ s2 _ m2.g.closed (by rw [feedBody_frames _ _ m2.nh, hfl])
  refine ⟨{ s'' with p := (pRun s.cfg.v s.p c).p }, ?_, ⟨?_, cl.closed, cl.closing, cl.sct, ?_, ?_⟩, rfl⟩
  · rw [E2E.loop_wait_data dt c rest s s2 m.g.closed hr m2.g.sock hne, hws]
  · have h1 : StepT e1 s2 s' := ⟨r'.fix.cfg, r'.fix.react, r'.fix.selOpen, r'.evs⟩
    have h2 : StepT [cf.event] s' { s'' with p := (pRun s.cfg.v s.p c).p } := ⟨cl.cfg, cl.react, cl.sel, cl.evs⟩
    exact st2.trans0 (by simpa using h1.trans h2)
  · show SendOnly s''.react
    rw [cl.react]; exact g'.app
  · show s''.cfg.pingTimeout = 0
    rw [cl.cfg]; exact g'.pt

def closeFrames : Option CloseF → List Frame
  | none => []
  | some c => [c.wire.frame]

def closeEvents : Option CloseF → List Event
  | none => []
  | some c => [c.event]

/-- the state after the last read -/
def Fin (z : ZP) (cl : Option CloseF) (es : List Event) (vE : View) (s sE : Sys) : Prop :=
  match cl with
  | none => Mid z sE ∧ view sE = vE ∧ StepT es s sE
  | some c => AfterClose c es s sE

theorem split_tail {α : Type} {F1 F2 fs cf : List α} (h : F1 ++ F2 = fs ++ cf) (hne : F2 ≠ [])
    (hcf : cf.length ≤ 1) : ∃ F2', F2 = F2' ++ cf ∧ fs = F1 ++ F2' := by
  cases cf with
  | nil => exact ⟨F2, by simp, by simpa using h.symm⟩
  | cons x r =>
    have : r = [] := by
      cases r with
      | nil => rfl
      | cons y r' => simp at hcf
    subst this
    have e2 : F2 = F2.dropLast ++ [F2.getLast hne] := (List.dropLast_concat_getLast hne).symm
    rw [e2, ← List.append_assoc] at h
    obtain ⟨h1, h2⟩ := List.append_inj' h rfl
    refine ⟨F2.dropLast, ?_, h1.symm⟩
    rw [← h2]; exact e2

/-- Delivery for every segmentation and every timing (frames phase).  `l` is any timed script
    (idle cycles and non-empty reads in any order, any waits) that ends with a read; its bytes
    parse (from the parser state of `s`) without error into the frames `fs` followed by the
    server's Close frame if `cl = some c`, ending at a frame boundary; `fs` are steps of the
    consumer from the view of `s` yielding the events `es`.  Then the loop runs through the whole
    of `l` and goes on with `rest` from a state `sE` in which exactly `es` (then `Closing`) have been
    delivered. -/
theorem timed_frames (z : ZP) (l : List TStep) (hne : TNonEmpty l) (hend : EndsRead l)
    (s : Sys) (m : Mid z s) (fs : List Frame) (es : List Event) (vE : View) (he : EatSeq (TGz z) RelT fs es (view s) vE)
    (cl : Option CloseF) (hcl : ∀ c, cl = some c → c.Ok)
    (hpe : (pRun s.cfg.v s.p (tbytes l)).err = none)
    (hpo : (pRun s.cfg.v s.p (tbytes l)).outs.map (·.2) = (fs ++ closeFrames cl).map Out.frame)
    (hpb : Boundary (pRun s.cfg.v s.p (tbytes l)).p)
    (rest : List EnvStep) :
    ∃ sE, loop (tscript l ++ rest) s = loop rest sE ∧ Fin z cl es vE s sE ∧
      sE.p = (pRun s.cfg.v s.p (tbytes l)).p := by
  induction l generalizing s fs es with
  | nil =>
    simp only [tbytes, pRun_nil] at hpo hpb ⊢
    have hnil : fs ++ closeFrames cl = [] := by simpa using hpo.symm
    obtain ⟨hfs, hcf⟩ := List.append_eq_nil_iff.mp hnil
    subst hfs
    obtain ⟨rfl, rfl⟩ := he
    cases cl with
    | some c => simp [closeFrames] at hcf
    | none => exact ⟨s, rfl, ⟨m, rfl, StepT.refl s⟩, rfl⟩
  | cons x l' ih =>
    obtain ⟨dt, o⟩ := x
    cases o with
    | none =>
      obtain ⟨s2, hloop, m2, v2, p2, st2⟩ := idle_step z dt (tscript l' ++ rest) s m
      have hb : tbytes ((dt, none) :: l') = tbytes l' := rfl
      rw [hb] at hpe hpo hpb ⊢
      obtain ⟨sE, hE, fE, pE⟩ := ih hne.tail hend.tail s2 m2 fs es (by rw [v2]; exact he)
        (by rw [st2.cfg, p2]; exact hpe) (by rw [st2.cfg, p2]; exact hpo) (by rw [st2.cfg, p2]; exact hpb)
      refine ⟨sE, ?_, ?_, by rw [pE, st2.cfg, p2]⟩
      · show loop (.wait dt none :: (tscript l' ++ rest)) s = _
        rw [hloop, hE]
      · cases cl with
        | none =>
          obtain ⟨a, b, c⟩ := fE
          exact ⟨a, b, st2.trans0 c⟩
        | some cf =>
          exact ⟨st2.trans0 fE.st, fE.closed, fE.closing, fE.sct, fE.app, fE.pt⟩
    | some c =>
      have hc : c ≠ [] := hne dt c List.mem_cons_self
      have hb : tbytes ((dt, some c) :: l') = c ++ tbytes l' := rfl
      rw [hb] at hpe hpo hpb ⊢
      obtain ⟨e1, e2, e3, e4⟩ := pRun_append_ok s.cfg.v s.p c (tbytes l') hpe
      rw [e3] at hpo
      rw [e4] at hpb ⊢
      cases l' with
      | nil =>
        simp only [tbytes, pRun_nil, List.append_nil] at hpo hpb ⊢
        cases cl with
        | none =>
          simp only [closeFrames, List.append_nil] at hpo
          obtain ⟨s3, hloop, m3, v3, p3, st3⟩ := read_step z dt c hc (tscript [] ++ rest) s m fs es vE he e1 hpo
          exact ⟨s3, hloop, ⟨m3, v3, st3⟩, p3⟩
        | some cf =>
          exact read_step_close z dt c hc (tscript [] ++ rest) s m fs es vE he cf (hcl cf rfl) e1 hpo
      | cons y r =>
        have hy : tbytes (y :: r) ≠ [] := tbytes_ne_nil _ (by simp) hne.tail hend
        have ho2 : (pRun s.cfg.v (pRun s.cfg.v s.p c).p (tbytes (y :: r))).outs ≠ [] := by
          intro e
          exact pRun_silent_not_boundary _ _ _ hy e e2 hpb
        rw [List.map_append] at hpo
        obtain ⟨F1, F2, hF, hm1, hm2⟩ := List.map_eq_append_iff.mp hpo.symm
        have hF2 : F2 ≠ [] := by
          intro e; subst e
          apply ho2
          simpa using hm2.symm
        obtain ⟨F2', hF2', hfs⟩ := split_tail hF.symm hF2
          (by cases cl <;> simp [closeFrames])
        subst hfs
        obtain ⟨x1, x2, v1, he1, he2, rfl⟩ := eatSeq_split he
        obtain ⟨s3, hloop, m3, v3, p3, st3⟩ := read_step z dt c hc (tscript (y :: r) ++ rest) s m F1 x1 v1 he1 e1 hm1.symm
        obtain ⟨sE, hE, fE, pE⟩ := ih hne.tail hend s3 m3 F2' x2 (by rw [v3]; exact he2)
          (by rw [st3.cfg, p3]; exact e2) (by rw [st3.cfg, p3, ← hF2']; exact hm2.symm) (by rw [st3.cfg, p3]; exact hpb)
        refine ⟨sE, ?_, ?_, by rw [pE, st3.cfg, p3]⟩
        · show loop (.wait dt (some (.data c)) :: (tscript (y :: r) ++ rest)) s = _
          rw [hloop, hE]
        · cases cl with
          | none =>
            obtain ⟨a, b, c'⟩ := fE
            exact ⟨a, b, st3.trans c'⟩
          | some cf =>
            exact ⟨by simpa using st3.trans fE.st, fE.closed, fE.closing, fE.sct, fE.app, fE.pt⟩

/-- `B` ticks may still pass without the close timer (if armed) falling due -/
structure TailOK (B : Nat) (s : Sys) : Prop where
  app : SendOnly s.react
  pt : s.cfg.pingTimeout = 0
  closed : s.closed = false
  ct : s.cfg.closeTimeout = 0 ∨ s.sentCloseTime = none ∨
    ∃ tC, s.sentCloseTime = some tC ∧ sessionTime s + B < tC + s.cfg.closeTimeout

theorem tail_step (B dt : Nat) (hdt : dt ≤ B) (s : Sys) (h : TailOK B s) :
    ∃ s2, regular (tick s dt) = .ok () s2 ∧ TailOK (B - dt) s2 ∧ StepT [] s s2 ∧ s2.closing = s.closing := by
  have hle := (Timers.sessionTime_tick s dt).2
  have g : Good (tick s dt) := by
    refine ⟨h.app.quiet, Or.inl h.pt, ?_⟩
    rcases h.ct with h0 | h0 | ⟨tC, h1, h2⟩
    · exact Or.inl h0
    · exact Or.inr (fun ct hc => by rw [show (tick s dt).sentCloseTime = s.sentCloseTime from rfl, h0] at hc; cases hc)
    · refine Or.inr (fun ct hc => ?_)
      have e : (tick s dt).sentCloseTime = s.sentCloseTime := rfl
      rw [e, h1] at hc
      cases hc
      show sessionTime (tick s dt) < tC + s.cfg.closeTimeout
      omega
  obtain ⟨_, s2, hr, c2⟩ := tot_regular (tick s dt) g
  have f2 : Fix (tick s dt) s2 := (fixr_regular).ok hr h.app
  refine ⟨s2, hr, ⟨by rw [f2.react]; exact h.app, by rw [f2.cfg]; exact h.pt, by rw [f2.closed]; exact h.closed, ?_⟩,
    ⟨f2.cfg, f2.react, f2.selOpen, by rw [c2.evs, delivered_tick]⟩, f2.closing⟩
  rw [f2.cfg, f2.sentCloseTime, f2.sessionTime]
  rcases h.ct with h0 | h0 | ⟨tC, h1, h2⟩
  · exact Or.inl h0
  · exact Or.inr (Or.inl h0)
  · refine Or.inr (Or.inr ⟨tC, h1, ?_⟩)
    show sessionTime (tick s dt) + (B - dt) < tC + s.cfg.closeTimeout
    omega

def idles (ws : List Nat) : List EnvStep := ws.map (fun dt => .wait dt none)

/-- the idle cycles and the end of the stream: no event but Polls; the loop ends with
    `connection-lost` if the websocket is not closing, normally otherwise -/
theorem tail_loop (ws : List Nat) (dtE : Nat) (B : Nat) (hB : ws.sum + dtE ≤ B) (s : Sys) (h : TailOK B s) :
    ∃ s6, loop (idles ws ++ [.wait dtE (some .eof)]) s =
        (if ¬ s6.closing ∧ ¬ s6.closed then .err (.socketFail "connection-lost") s6 else .ok () s6) ∧
      StepT [] s s6 ∧ s6.closing = s.closing ∧ s6.closed = false ∧ SendOnly s6.react := by
  induction ws generalizing s B with
  | nil =>
    obtain ⟨s6, hr, t6, st, cg⟩ := tail_step B dtE (by simpa using hB) s h
    exact ⟨s6, E2E.loop_eof dtE [] s s6 h.closed hr, st, cg, t6.closed, t6.app⟩
  | cons dt r ih =>
    have hsum : dt + (r.sum + dtE) ≤ B := by simpa [Nat.add_assoc] using hB
    obtain ⟨s2, hr, t2, st2, cg2⟩ := tail_step B dt (by omega) s h
    obtain ⟨s6, hl, st6, cg6, cl6, a6⟩ := ih (B - dt) (by omega) s2 t2
    refine ⟨s6, ?_, ?_, cg6.trans cg2, cl6, a6⟩
    · show loop (.wait dt none :: (idles r ++ [.wait dtE (some .eof)])) s = _
      rw [SegLoop.loop_wait dt none _ s h.closed, hr]
      exact hl
    · exact st2.trans0 st6

end Lomond.Core.DG
