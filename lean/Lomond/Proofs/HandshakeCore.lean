/-
  C10, core side: the header phase of `Parser.feed` (16 KiB limit), what the
  application's reaction to an event can and cannot do (`ActRel`), and the consequences of a refused
  handshake (`Rejected`, or `ProtocolError` for an oversize header block) in `WebSocket.feed`.
-/
import Lomond.Proofs.FindSep
import Lomond.Proofs.Segmentation
namespace Lomond.Core
open Lomond Lomond.Http

/-! ### the header phase of `Parser.feed` (`_ReadUntil(b'\r\n\r\n', max_bytes=16 KiB)`) -/

theorem headerTooLong_iff (n : Nat) : headerTooLong n = true ↔ n > Gen.headerMax := by
  simp [headerTooLong, Gen.headerMaxIsNone]

def headerDone (s : Sys) : Sys :=
  { s with p := { s.p with cont := .hdr2, remPred := 1, utf8 := false, buf := [] } }

theorem feedBody_unterminated_long (s : Sys) (data : Bytes) (hc : s.p.cont = .header)
    (hnone : findSep Gen.headerSep (s.p.buf ++ data) = none) (hlen : (s.p.buf ++ data).length > Gen.headerMax) :
    feedBody data s = .err (.parse "expected separator") { s with p := deadParser s.p } := by
  rw [feedBody_header _ _ hc, feedHeader_eq]
  unfold hdrStep
  simp only [hnone, (headerTooLong_iff _).mpr hlen, if_true]

theorem feedBody_unterminated_short (s : Sys) (data : Bytes) (hc : s.p.cont = .header)
    (hnone : findSep Gen.headerSep (s.p.buf ++ data) = none) (hlen : (s.p.buf ++ data).length ≤ Gen.headerMax) :
    feedBody data s = .ok () { s with p := { s.p with buf := s.p.buf ++ data } } := by
  rw [feedBody_header _ _ hc, feedHeader_eq]
  unfold hdrStep
  have : headerTooLong (s.p.buf ++ data).length = false := by
    cases h : headerTooLong (s.p.buf ++ data).length with
    | false => rfl
    | true => have := (headerTooLong_iff _).mp h; omega
  simp only [hnone, this, Bool.false_eq_true, if_false]

theorem feedBody_terminated_long (s : Sys) (data : Bytes) (i : Nat) (hc : s.p.cont = .header)
    (hsome : findSep Gen.headerSep (s.p.buf ++ data) = some i) (hlen : i + 4 > Gen.headerMax) :
    feedBody data s = .err (.parse "expected separator") { s with p := deadParser s.p } := by
  rw [feedBody_header _ _ hc, feedHeader_eq]
  unfold hdrStep
  have : headerTooLong (i + Gen.headerSep.length) = true := (headerTooLong_iff _).mpr (by simpa [Gen.headerSep] using hlen)
  simp only [hsome, this, if_true]

/-- a complete header block within the limit: the block (terminator included) is handed to
    `Response`/`on_response` (`onOut (.header …)`), the rest of the read goes on to the frame parser -/
theorem feedBody_terminated_ok (s : Sys) (data : Bytes) (i : Nat) (hc : s.p.cont = .header)
    (hsome : findSep Gen.headerSep (s.p.buf ++ data) = some i) (hlen : i + 4 ≤ Gen.headerMax) :
    feedBody data s =
      (do let go ← onOut (.header ((s.p.buf ++ data).take (i + 4)))
          if go then do
            let _ ← feedLoop ((s.p.buf ++ data).drop (i + 4))
            pure ()
          else pure () : M Unit) (headerDone s) := by
  rw [feedBody_header _ _ hc, feedHeader_eq]
  unfold hdrStep
  have : headerTooLong (i + Gen.headerSep.length) = false := by
    cases h : headerTooLong (i + Gen.headerSep.length) with
    | false => rfl
    | true => have := (headerTooLong_iff _).mp h; simp [Gen.headerSep] at this; omega
  simp only [hsome, this, Bool.false_eq_true, if_false, resume, hc]
  rfl

namespace HRun

/-- the state in which `Ready` is yielded: compression switched on as negotiated -/
def readyPrep (acc : Http.Accepted) (s : Sys) : Sys :=
  { s with compression := acc.deflate, decompress := acc.deflate.isSome,
           p := if acc.deflate.isSome then { s.p with compression := true } else s.p }

theorem onOut_accept (s : Sys) (data : Bytes) (acc : Http.Accepted)
    (hok : Http.onResponse s.cfg.v.strictAccept s.cfg.challenge (Http.parseResponse data) = .ok acc) :
    onOut (.header data) s =
      (do feedYield true (.ready acc.protocol acc.deflate.isSome)
          modS (fun s => { s with parsedResponse := true })
          notClosed : M Bool) (readyPrep acc s) := by
  unfold onOut readyPrep
  simp only [bind, M.bind, getS, hok, modS]

end HRun

/-- **the read that completes an accepted header block**, for any application: when the `yield`
    of Ready (with the `_regular()` after it) returns normally in `s3` with the websocket still open,
    the rest of the read goes to the frame parser from `s3` -/
theorem wsFeed_accept (c : Bytes) (s : Sys) (hc : s.p.cont = .header) (hcl : s.closed = false) (i : Nat)
    (acc : Http.Accepted) (hsome : findSep Gen.headerSep (s.p.buf ++ c) = some i) (hlen : i + 4 ≤ Gen.headerMax)
    (hok : Http.onResponse s.cfg.v.strictAccept s.cfg.challenge
      (Http.parseResponse ((s.p.buf ++ c).take (i + 4))) = .ok acc)
    {s3 : Sys}
    (h3 : feedYield true (.ready acc.protocol acc.deflate.isSome) (HRun.readyPrep acc (headerDone s)) = .ok () s3)
    (hcl3 : s3.closed = false) (hp3 : s3.p.cont ≠ .header) :
    wsFeed c s = wsFeed ((s.p.buf ++ c).drop (i + 4)) { s3 with parsedResponse := true } := by
  have hfb := feedBody_terminated_ok s c i hc hsome hlen
  let s4 : Sys := { s3 with parsedResponse := true }
  have hout : onOut (.header ((s.p.buf ++ c).take (i + 4))) (headerDone s) = .ok true s4 := by
    rw [HRun.onOut_accept (headerDone s) _ acc hok, bind_ok h3]
    have hb : (!s3.closed) = true := by rw [hcl3]; rfl
    exact congrArg (fun b => Res.ok b s4) hb
  rw [bind_ok hout] at hfb
  simp only [if_true] at hfb
  have hcl4 : s4.closed = false := hcl3
  show wsFeed c s = wsFeed _ s4
  rw [wsFeed_eq, wsFeed_eq _ s4]
  simp only [hcl, hcl4, Bool.false_eq_true, if_false]
  rw [hfb, feedBody_frames _ s4 hp3]
  cases h : feedLoop ((s.p.buf ++ c).drop (i + 4)) s4 with
  | ok a s' => rw [bind_ok h]; rfl
  | err x s' => rw [bind_err h]

def Obs.isRes : Obs → Bool
  | .res _ => true
  | _ => false

/-- what an application call (`send_*`, `close`, `session.close`) can do to the system: it never
    produces an event, never re-opens the socket, never touches the flags `ready`/`closed`;
    and once the websocket is closed and the socket gone it only reports results -/
structure ActRel (s s' : Sys) : Prop where
  ready : s'.ready = s.ready
  react : s'.react = s.react
  cfg : s'.cfg = s.cfg
  closed : s'.closed = s.closed
  sock : s.sockOpen = false → s'.sockOpen = false
  trace : ∃ t, s'.trace = t ++ s.trace ∧ (∀ o ∈ t, o.isEv = false) ∧
    (s.closed = true → s.sockOpen = false → ∀ o ∈ t, o.isRes = true)

theorem ActRel.refl (s : Sys) : ActRel s s :=
  ⟨rfl, rfl, rfl, rfl, id, [], rfl, by simp, by simp⟩

theorem ActRel.trans {a b c : Sys} (h1 : ActRel a b) (h2 : ActRel b c) : ActRel a c := by
  obtain ⟨t1, e1, n1, d1⟩ := h1.trace
  obtain ⟨t2, e2, n2, d2⟩ := h2.trace
  refine ⟨h2.ready.trans h1.ready, h2.react.trans h1.react, h2.cfg.trans h1.cfg, h2.closed.trans h1.closed,
    fun h => h2.sock (h1.sock h), t2 ++ t1, by rw [e2, e1, List.append_assoc], ?_, ?_⟩
  · intro o ho; simp only [List.mem_append] at ho
    rcases ho with ho | ho
    · exact n2 o ho
    · exact n1 o ho
  · intro hc hs o ho; simp only [List.mem_append] at ho
    rcases ho with ho | ho
    · exact d2 (h1.closed.trans hc) (h1.sock hs) o ho
    · exact d1 hc hs o ho

theorem ActRel.of_same (s s' : Sys) (h1 : s'.ready = s.ready) (h2 : s'.react = s.react) (h3 : s'.cfg = s.cfg)
    (h4 : s'.closed = s.closed) (h5 : s'.sockOpen = s.sockOpen) (h6 : s'.trace = s.trace) : ActRel s s' :=
  ⟨h1, h2, h3, h4, fun h => by rw [h5]; exact h, [], by simp [h6], by simp, by simp⟩

theorem actRel_po : PO ActRel := ⟨ActRel.refl, ActRel.trans⟩

theorem ActRel.entry (s : Sys) (o : Obs) (ho : o.isEv = false) (hc : s.closed = false) (n : Nat) :
    ActRel s { s with writeCtr := n, trace := o :: s.trace } :=
  ⟨rfl, rfl, rfl, rfl, id, [o], rfl, fun _ h => List.mem_singleton.mp h ▸ ho,
    fun h => by rw [hc] at h; cases h⟩

theorem rel_write (d : Bytes) (z : Option (Nat × Bytes)) : Spec ActRel (write d z) :=
  spec_write actRel_po d z (fun s o _ hc _ ho =>
    ActRel.entry s o (by cases o <;> first | rfl | cases wrObs_isWrite ho) hc _)

theorem rel_sendFrame (o : Nat) (pl : Bytes) (c : Option Bytes) : Spec ActRel (sendFrame o pl c) :=
  spec_sendFrame actRel_po o pl c (fun _ => ActRel.of_same _ _ rfl rfl rfl rfl rfl rfl) (fun d => rel_write d _)

theorem rel_closeSocket : Spec ActRel closeSocket :=
  spec_closeSocket actRel_po (fun s ho =>
    ⟨rfl, rfl, rfl, rfl, fun _ => rfl, [.sockClose], rfl, by simp [Obs.isEv], by simp [ho]⟩)

theorem rel_wsClose (c : Option Nat) (r : Arg) : Spec ActRel (wsClose c r) :=
  spec_wsClose actRel_po c r (rel_sendFrame _ · none) (fun _ => ActRel.of_same _ _ rfl rfl rfl rfl rfl rfl)

theorem rel_doAct (a : Act) : Spec ActRel (doAct a) :=
  calls_doAct actRel_po rel_sendFrame (fun _ _ _ => rel_wsClose _ _) (fun _ => rel_closeSocket)
    (fun _ r => ⟨rfl, rfl, rfl, rfl, id, [.res r], rfl, fun _ h => List.mem_singleton.mp h ▸ rfl,
      fun _ _ _ h => List.mem_singleton.mp h ▸ rfl⟩)
    (fun _ _ _ => ActRel.of_same _ _ rfl rfl rfl rfl rfl rfl)

theorem doActs_rel (acts : List Act) : Spec ActRel (doActs acts) :=
  spec_doActs actRel_po acts (fun a _ => rel_doAct a)

theorem yieldEv_rel (e : Event) (s : Sys) : ActRel (pushEv e s) (yieldEv e s).state := by
  rw [yieldEv_eq]
  exact doActs_rel _ _

/-- an event that `_on_event` ignores, yielded before Ready: the application reacts, nothing else
    happens; if the application's reaction raised (or it abandoned the loop) the exception is
    re-raised in `run()` after `WebSocket.feed`'s generator has been finalised -/
theorem feedYield_quiet (inTry : Bool) (e : Event) (s : Sys) (he : onEvent e s = .ok () s) (hr : s.ready = false) :
    ∃ s', ActRel (pushEv e s) s' ∧
      (feedYield inTry e s = .ok () s' ∨
       ∃ x, feedYield inTry e s = (do (if inTry then onDisconnect else pure ())
                                      throwE (.outer x) : M Unit) s') := by
  have hrel := yieldEv_rel e s
  unfold feedYield
  cases hy : yieldEv e s with
  | ok u s' =>
    rw [hy] at hrel
    simp only [Res.state_ok] at hrel
    have hr' : s'.ready = false := by rw [hrel.ready]; exact hr
    refine ⟨s', hrel, Or.inl ?_⟩
    apply tryC_ok
    rw [bind_ok he, bind_ok hy]
    exact regular_not_ready s' hr'
  | err x s' =>
    rw [hy] at hrel
    simp only [Res.state_err] at hrel
    refine ⟨s', hrel, Or.inr ⟨x, ?_⟩⟩
    apply tryC_err
    rw [bind_ok he, bind_err hy]

structure RejectedOutcome (s s' : Sys) (reason : Str) : Prop where
  closed : s'.closed = true
  sock : s'.sockOpen = false
  ready : s'.ready = false
  trace : ∃ t, s'.trace = t ++ .ev (.rejected reason) :: ((if s.sockOpen then [Obs.sockClose] else []) ++ s.trace) ∧
    ∀ o ∈ t, o.isRes = true

theorem onDisconnect_dead (s : Sys) (hs : s.sockOpen = false) :
    onDisconnect s = .ok () { s with closing := false, closed := true } := by
  rw [onDisconnect_eq]
  rcases sockClosed_cases s with ⟨ho, _⟩ | ⟨_, e⟩
  · rw [hs] at ho; cases ho
  · rw [e]

theorem onOut_rejected (s : Sys) (data : Bytes) (reason : Str) (hr : s.ready = false)
    (herr : onResponse s.cfg.v.strictAccept s.cfg.challenge (parseResponse data) = .error reason) :
    ∃ s', RejectedOutcome s s' reason ∧
      (onOut (.header data) s = .ok false s' ∨ ∃ x, onOut (.header data) s = .err (.outer x) s') := by
  -- the state in which Rejected is yielded
  let s2 : Sys := { s with parsedResponse := true, sockOpen := false, closing := false, closed := true,
                           trace := (if s.sockOpen then [Obs.sockClose] else []) ++ s.trace }
  have hs2 : onDisconnect { s with parsedResponse := true } = .ok () s2 := by
    simp only [bind, M.bind, modS, onDisconnect, closeSocket, s2]
    cases h : s.sockOpen <;> simp
  have hs2sock : s2.sockOpen = false := rfl
  have hs2ready : s2.ready = false := hr
  have hs2trace : s2.trace = (if s.sockOpen then [Obs.sockClose] else []) ++ s.trace := rfl
  obtain ⟨s', hrel, hres⟩ := feedYield_quiet true (.rejected reason) s2 rfl hs2ready
  obtain ⟨t, ht, _, hdead⟩ := hrel.trace
  have hy_closed : (pushEv (.rejected reason) s2).closed = true := rfl
  have hy_sock : (pushEv (.rejected reason) s2).sockOpen = false := hs2sock
  have hout : RejectedOutcome s s' reason :=
    ⟨by rw [hrel.closed]; rfl, hrel.sock hy_sock, by rw [hrel.ready]; exact hs2ready,
     t, by rw [ht]; simp [pushEv, hs2trace], hdead hy_closed hy_sock⟩
  have hunf : onOut (.header data) s =
      (do feedYield true (.rejected reason); pure false : M Bool) s2 := by
    unfold onOut
    simp only [bind, M.bind, getS, herr, modS, hs2]
  rcases hres with hok | ⟨x, herr2⟩
  · refine ⟨s', hout, Or.inl ?_⟩
    rw [hunf, bind_ok hok]; rfl
  · -- the reaction raised: `except GeneratorExit: self.on_disconnect()` (a no-op now), re-raised in run()
    have hs'sock : s'.sockOpen = false := hout.sock
    refine ⟨{ s' with closing := false, closed := true }, ⟨rfl, hs'sock, hout.ready, hout.trace⟩, Or.inr ⟨x, ?_⟩⟩
    rw [hunf]
    have : feedYield true (.rejected reason) s2 = .err (.outer x) { s' with closing := false, closed := true } := by
      rw [herr2]
      simp only [if_true]
      rw [bind_ok (onDisconnect_dead s' hs'sock)]
      rfl
    rw [bind_err this]

/-- `WebSocket.feed(data)` when `data` completes a header block that `on_response` refuses -/
theorem wsFeed_rejected (s : Sys) (data : Bytes) (i : Nat) (reason : Str)
    (hc : s.p.cont = .header) (hclosed : s.closed = false) (hready : s.ready = false)
    (hsome : findSep Gen.headerSep (s.p.buf ++ data) = some i) (hlen : i + 4 ≤ Gen.headerMax)
    (herr : onResponse s.cfg.v.strictAccept s.cfg.challenge (parseResponse ((s.p.buf ++ data).take (i + 4))) = .error reason) :
    ∃ s', RejectedOutcome s s' reason ∧ (wsFeed data s = .ok () s' ∨ ∃ x, wsFeed data s = .err x s') := by
  have hfb := feedBody_terminated_ok s data i hc hsome hlen
  obtain ⟨s', hout, hres⟩ := onOut_rejected (headerDone s) ((s.p.buf ++ data).take (i + 4)) reason hready herr
  refine ⟨s', ⟨hout.closed, hout.sock, hout.ready, hout.trace⟩, ?_⟩
  rw [wsFeed_eq]
  simp only [hclosed, Bool.false_eq_true, if_false]
  rcases hres with h | ⟨x, h⟩
  · left
    have hb : feedBody data s = .ok () s' := by rw [hfb, bind_ok h]; rfl
    rw [hb]; rfl
  · right
    have hb : feedBody data s = .err (.outer x) s' := by rw [hfb, bind_err h]
    exact ⟨x, by rw [hb]; rfl⟩

/-- `WebSocket.feed(data)` when the header block exceeds the limit: one critical ProtocolError is
    yielded (the application may react), then the connection is forced down -/
theorem wsFeed_header_too_long (s s0 : Sys) (data : Bytes) (hclosed : s.closed = false) (hready : s0.ready = false)
    (herr : feedBody data s = .err (.parse "expected separator") s0) :
    ∃ s' x, ActRel (pushEv (.protocolError "expected separator" true) s0) s' ∧ wsFeed data s = .err x s' := by
  obtain ⟨s', hrel, hres⟩ := feedYield_quiet false (.protocolError "expected separator" true) s0 rfl hready
  rw [wsFeed_eq]
  simp only [hclosed, Bool.false_eq_true, if_false, herr, wsWrap]
  have hfh : feedHandler (.parse "expected separator") s0 =
      (feedYield false (.protocolError "expected separator" true) >>= fun _ => throwE (.forceDisconnect "forced")) s0 := rfl
  rcases hres with h | ⟨x, h⟩
  · exact ⟨s', .forceDisconnect "forced", hrel, by rw [hfh, bind_ok h]; rfl⟩
  · exact ⟨s', x, hrel, by rw [hfh, bind_err (by rw [h]; rfl)]; rfl⟩

theorem closeSocket_spec (s : Sys) : ∃ s', closeSocket s = .ok () s' ∧ s'.sockOpen = false ∧ ActRel s s' :=
  ⟨_, closeSocket_eq s, sockClosed_sockOpen s, by have := rel_closeSocket s; rwa [closeSocket_eq] at this⟩

theorem selClose_spec (s : Sys) : ∃ s', selClose s = .ok () s' ∧ s'.sockOpen = s.sockOpen ∧ s'.selOpen = false ∧
    ∃ t, s'.trace = t ++ s.trace ∧ ∀ o ∈ t, o.isEv = false := by
  obtain ⟨l, e, hl⟩ := selClosed_shape s
  exact ⟨_, selClose_eq s, by rw [e], by rw [e], l, by rw [e], fun o ho => by rw [hl o ho]; rfl⟩

end Lomond.Core
