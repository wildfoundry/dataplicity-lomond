/-
  C14 for one Ping and from any state.  The three states `_on_event` leaves for a received Ping;
  `PongsAccounted` — every Pong frame on the trace is directly followed by the token of the call that
  wrote it or by the Ping event it answers — which is the predicate of Properties/C14.lean and is kept
  by every turn of a connection (`Turn.rp`) whatever the configuration (the run-level grammar `Good` of
  Proofs/PongTrace.lean says more — which Pings had to be answered — under hypotheses on the
  configuration); and `CtrlBound`: the parser delivers no control frame over 125 bytes (variant `ctrlLen`, D1).
-/
import Lomond.Proofs.Turn
import Lomond.Proofs.Monitor
namespace Lomond.Core.Pong
open Lomond Lomond.Core Lomond.Core.Lift

theorem onEvent_ping_sent (d : Bytes) (s : Sys) (hap : s.cfg.autoPong = true) (hlen : d.length ≤ 125)
    (hso : s.sockOpen = true) (hcg : s.closing = false) (hcd : s.closed = false)
    (hw : s.cfg.writeFails s.writeCtr = false) :
    onEvent (.ping d) s = .ok () (pongSent s (pongBytes d (s.cfg.maskKey s.keyCtr))) :=
  onEvent_ping_elim (P := fun q => q = .ok () (pongSent s (pongBytes d (s.cfg.maskKey s.keyCtr)))) d s
    (fun h => by rw [hap] at h; cases h) (fun _ h => absurd hlen (Nat.not_le_of_gt h))
    (fun _ _ hn => absurd ⟨hso, hcg, hcd⟩ hn)
    (fun _ _ _ o ho => by
      cases ho with
      | fail _ hf => rw [hw] at hf; cases hf
      | wr _ => rfl)

theorem onEvent_ping_failed (d : Bytes) (s : Sys) (hap : s.cfg.autoPong = true) (hlen : d.length ≤ 125)
    (hso : s.sockOpen = true) (hcg : s.closing = false) (hcd : s.closed = false)
    (hw : s.cfg.writeFails s.writeCtr = true) :
    onEvent (.ping d) s = .ok () (pongFailed s (pongBytes d (s.cfg.maskKey s.keyCtr))) :=
  onEvent_ping_elim (P := fun q => q = .ok () (pongFailed s (pongBytes d (s.cfg.maskKey s.keyCtr)))) d s
    (fun h => by rw [hap] at h; cases h) (fun _ h => absurd hlen (Nat.not_le_of_gt h))
    (fun _ _ hn => absurd ⟨hso, hcg, hcd⟩ hn)
    (fun _ _ _ o ho => by
      cases ho with
      | fail _ _ => rfl
      | wr hf => rw [hw] at hf; cases hf)

theorem onEvent_ping_skipped (d : Bytes) (s : Sys) (hap : s.cfg.autoPong = true) (hlen : d.length ≤ 125)
    (hun : s.sockOpen = false ∨ s.closing = true ∨ s.closed = true) :
    onEvent (.ping d) s = .ok () (pongSkipped s) :=
  onEvent_ping_elim (P := fun q => q = .ok () (pongSkipped s)) d s
    (fun h => by rw [hap] at h; cases h) (fun _ h => absurd hlen (Nat.not_le_of_gt h)) (fun _ _ _ => rfl)
    (fun _ _ ho => by
      rcases hun with h | h | h
      · rw [ho.1] at h; cases h
      · rw [ho.2.1] at h; cases h
      · rw [ho.2.2] at h; cases h)

/-- **Every Pong frame in the trace (newest first) is accounted for**: a `.wr b` whose first byte
    is `0x8A` (FIN + opcode Pong) is immediately followed either by the result token `.res _` of the
    application call that wrote it, or by the event `Ping d` with `b` the Pong frame built for that
    very payload `d` — the latter only when automatic pongs are enabled (`auto`).  In particular
    the newest entry is never an unaccounted Pong. -/
def PongsAccounted (auto : Bool) (tr : List Obs) : Prop :=
  ∀ pre b post, tr = pre ++ .wr b :: post → b.head? = some (128 + Gen.opPong) →
    (∃ pre' r, pre = pre' ++ [.res r]) ∨
    (auto = true ∧ ∃ pre' d key, pre = pre' ++ [.ev (.ping d)] ∧ Frame.build Gen.opPong d key = some b)

theorem acc_nil (auto : Bool) : PongsAccounted auto [] := by
  intro pre b post h; cases pre <;> cases h

theorem acc_cons {auto : Bool} {t : List Obs} (o : Obs) (h : PongsAccounted auto t)
    (ho : ∀ b, o = .wr b → b.head? ≠ some (128 + Gen.opPong)) : PongsAccounted auto (o :: t) := by
  intro pre b post e hb
  cases pre with
  | nil => simp only [List.nil_append, List.cons.injEq] at e; exact absurd hb (ho b e.1)
  | cons x pre'' =>
    simp only [List.cons_append, List.cons.injEq] at e
    rcases h pre'' b post e.2 hb with ⟨p, r, hp⟩ | ⟨ha, p, d, key, hp, hk⟩
    · exact Or.inl ⟨x :: p, r, by rw [hp]; rfl⟩
    · exact Or.inr ⟨ha, x :: p, d, key, by rw [hp]; rfl, hk⟩

/-- two more entries, the newer not a Pong frame; if the older is one, the newer accounts for it -/
theorem acc_cons2 {auto : Bool} {t : List Obs} (x y : Obs) (h : PongsAccounted auto t)
    (hx : ∀ b, x = .wr b → b.head? ≠ some (128 + Gen.opPong))
    (hy : ∀ b, y = .wr b → b.head? = some (128 + Gen.opPong) →
      (∃ r, x = .res r) ∨
      (auto = true ∧ ∃ d key, x = .ev (.ping d) ∧ Frame.build Gen.opPong d key = some b)) :
    PongsAccounted auto (x :: y :: t) := by
  intro pre b post e hb
  cases pre with
  | nil => simp only [List.nil_append, List.cons.injEq] at e; exact absurd hb (hx b e.1)
  | cons x' pre1 =>
    simp only [List.cons_append, List.cons.injEq] at e
    cases pre1 with
    | nil =>
      simp only [List.nil_append, List.cons.injEq] at e
      rcases hy b e.2.1 hb with ⟨r, hr⟩ | ⟨ha, d, key, hd, hk⟩
      · exact Or.inl ⟨[], r, by rw [← e.1, hr]; rfl⟩
      · exact Or.inr ⟨ha, [], d, key, by rw [← e.1, hd]; rfl, hk⟩
    | cons y' pre2 =>
      simp only [List.cons_append, List.cons.injEq] at e
      rcases h pre2 b post e.2.2 hb with ⟨p, r', hp⟩ | ⟨ha, p, d', key', hp, hk'⟩
      · exact Or.inl ⟨x' :: y' :: p, r', by rw [hp]; rfl⟩
      · exact Or.inr ⟨ha, x' :: y' :: p, d', key', by rw [hp]; rfl, hk'⟩

def PongInv (s : Sys) : Prop := PongsAccounted s.cfg.autoPong s.trace

def RP (s s' : Sys) : Prop := PongInv s → PongInv s'

theorem rp_po : PO RP := Monitor.pres_po _

theorem rp_of_trace_eq {s s' : Sys} (h : s'.trace = s.trace) (hc : s'.cfg = s.cfg) : RP s s' := by
  intro h0; unfold PongInv; rw [h, hc]; exact h0

theorem pongInv_of {s s' : Sys} (hc : s'.cfg = s.cfg) (ht : PongsAccounted s.cfg.autoPong s'.trace) :
    PongInv s' := by
  unfold PongInv; rw [hc]; exact ht

theorem rp_cons {s s' : Sys} (o : Obs) (hc : s'.cfg = s.cfg) (ht : s'.trace = o :: s.trace)
    (ho : ∀ b, o = .wr b → b.head? ≠ some (128 + Gen.opPong)) : RP s s' :=
  fun h => pongInv_of hc (by rw [ht]; exact acc_cons o h ho)

theorem rp_token {s s1 : Sys} (r : ActRes) (eff : ApiEff s s1) : RP s (resState s1 r) := by
  intro hacc
  refine pongInv_of (s := s) eff.cfg ?_
  show PongsAccounted s.cfg.autoPong (.res r :: s1.trace)
  rcases eff.trace with ht | ⟨o, ht, _⟩
  · rw [ht]; exact acc_cons _ hacc (by intro b e; cases e)
  · rw [ht]; exact acc_cons2 _ _ hacc (by intro b e; cases e) (fun _ _ _ => Or.inl ⟨r, rfl⟩)

theorem rp_closeSocket : Spec RP closeSocket :=
  spec_closeSocket rp_po (fun s _ => rp_cons .sockClose rfl rfl (by intro b e; cases e))

theorem rp_sendFrame (op : Nat) (pl : Bytes) (c : Option Bytes) (hop : op ≠ Gen.opPong) :
    Spec RP (sendFrame op pl c) := by
  intro s
  rcases sendFrame_obs op pl c s with ⟨r, e, _⟩ | ⟨_, r, o, d, z, e, hf, ho⟩
  · rw [e]; exact rp_of_trace_eq rfl rfl
  · rw [e]
    refine rp_cons o rfl rfl ?_
    intro b eb hh
    subst eb
    cases ho
    cases hf with
    | frame hb =>
      rw [build_head _ _ _ _ hb] at hh
      exact hop (by simpa using hh)

theorem pongInv_pushEv_other (e : Event) (s : Sys) (h : PongInv s) : PongInv (pushEv e s) :=
  rp_cons (s := s) (s' := pushEv e s) (.ev e) rfl rfl (by intro b h; cases h) h

/-- `_on_event` followed by handing the event to the application keeps every Pong accounted for:
    the only library write that is a Pong is the one for this very Ping event, and it exists only
    when automatic pongs are enabled -/
theorem onEvent_push_acc {e : Event} {s s1 : Sys} (h : onEvent e s = .ok () s1)
    (hacc : PongInv s) : PongInv (pushEv e s1) := by
  cases e with
  | ping d =>
    refine onEvent_ping_elim (P := fun q => q = .ok () s1 → PongInv (pushEv (.ping d) s1)) d s ?_ ?_ ?_ ?_ h
    · intro _ e; cases e; exact pongInv_pushEv_other _ _ hacc
    · intro _ _ e; cases e
    · intro _ _ _ e; cases e; exact pongInv_pushEv_other _ _ (rp_of_trace_eq rfl rfl hacc)
    · intro hauto hlen _ o ho e
      cases e
      refine pongInv_of (s := s) rfl ?_
      show PongsAccounted s.cfg.autoPong (.ev (.ping d) :: o :: s.trace)
      cases ho with
      | fail _ _ => exact acc_cons _ (acc_cons _ hacc (by intro b h; cases h)) (by intro b h; cases h)
      | wr _ =>
        unfold PongInv at hacc
        rw [hauto] at hacc ⊢
        exact acc_cons2 _ _ hacc (by intro b e; cases e)
          (fun b e _ => Or.inr ⟨rfl, d, _, rfl, by cases e; exact build_pong d _ hlen⟩)
  | _ => simp only [onEvent] at h; cases h; exact pongInv_pushEv_other _ _ hacc

theorem rp_tick (s : Sys) (dt : Nat) : RP s (tick s dt) := by
  by_cases hd : dt = 0
  · subst hd; exact id
  · rw [tick_pos s dt hd]; exact rp_cons _ rfl rfl (by intro b e; cases e)

theorem _root_.Lomond.Core.Turn.rp {L : Prop} {s s' : Sys} (h : Turn L s s') : RP s s' := by
  cases h with
  | silent h => exact rp_of_trace_eq h.trace h.cfg
  | tick dt => exact rp_tick s dt
  | polled => exact rp_of_trace_eq rfl rfl
  | pinged _ _ => exact rp_of_trace_eq rfl rfl
  | ev e h => exact onEvent_push_acc h
  | ready p d => exact onEvent_push_acc (e := .ready p d) rfl
  | pong d => exact onEvent_push_acc (e := .pong d) rfl
  | autoPong d _ ha hl h => exact onEvent_push_acc (onEvent_autoPong ha hl h)
  | autoPing _ h => exact (rp_sendFrame _ _ _ (by decide)).ok h
  | called h =>
    obtain ⟨s1, r, rfl, eff⟩ := h.eff
    exact rp_token r eff
  | abandon w => exact rp_of_trace_eq rfl rfl
  | libClose _ _ _ h _ => exact rp_po.trans ((rp_sendFrame _ _ _ (by decide)).ok h) (rp_of_trace_eq rfl rfl)
  | sockClosed _ => exact rp_closeSocket.ok (closeSocket_eq s)
  | closedSet _ => exact rp_of_trace_eq rfl rfl
  | closeAcked _ => exact rp_of_trace_eq rfl rfl
  | selClosed _ => exact rp_cons .selClose rfl rfl nofun
  | incomplete => exact rp_cons .incomplete rfl rfl nofun

theorem rp_yields : Yields RP := .ofTurn rp_po Turn.rp

/-- while a control frame's payload is being read, what was read plus what is awaited is ≤ 125 -/
def CtrlBound (p : PState) : Prop :=
  ∀ f, p.cont = .payload f → f.isControl = true → p.buf.length + p.remPred + 1 ≤ 125

def OutBound (o : Option Out) : Prop :=
  ∀ f, o = some (.frame f) → f.isControl = true → f.payload.length ≤ 125

theorem validateFrame_cases (v : Variant) (c : Bool) (f : Frame) (len : Nat) :
    (∃ msg, validateFrame v c f len = .error (.protocol msg)) ∨
    (validateFrame v c f len = .ok () ∧ ¬ (v.ctrlLen = true ∧ f.isControl = true ∧ len > 125)) := by
  have key : ∀ p : Prop, [Decidable p] →
      (∃ msg, (if p then .error (.protocol "reserved bits set")
        else if isReservedOp f.opcode = true then .error (.protocol "opcode is reserved")
        else if f.fin = 0 ∧ f.isControl = true then .error (.protocol "control frames may not be fragmented")
        else if v.ctrlLen = true ∧ f.isControl = true ∧ len > 125 then
          .error (.protocol "control frames must be <= 125 bytes in length")
        else .ok () : Except Exn Unit) = .error (.protocol msg)) ∨
      ((if p then .error (.protocol "reserved bits set")
        else if isReservedOp f.opcode = true then .error (.protocol "opcode is reserved")
        else if f.fin = 0 ∧ f.isControl = true then .error (.protocol "control frames may not be fragmented")
        else if v.ctrlLen = true ∧ f.isControl = true ∧ len > 125 then
          .error (.protocol "control frames must be <= 125 bytes in length")
        else .ok () : Except Exn Unit) = .ok () ∧ ¬ (v.ctrlLen = true ∧ f.isControl = true ∧ len > 125)) := by
    intro p _
    split
    · exact Or.inl ⟨_, rfl⟩
    · split
      · exact Or.inl ⟨_, rfl⟩
      · split
        · exact Or.inl ⟨_, rfl⟩
        · split
          · exact Or.inl ⟨_, rfl⟩
          · rename_i hn; exact Or.inr ⟨rfl, hn⟩
  exact key _

theorem validateFrame_ctrl (v : Variant) (hv : v.ctrlLen = true) (c : Bool) (f : Frame) (len : Nat)
    (h : validateFrame v c f len = .ok ()) : f.isControl = true → len ≤ 125 := by
  intro hc
  rcases validateFrame_cases v c f len with ⟨msg, e⟩ | ⟨_, hn⟩
  · rw [e] at h; cases h
  · exact Nat.le_of_not_lt (fun hl => hn ⟨hv, hc, hl⟩)

theorem validateFrame_err (v : Variant) (c : Bool) (f : Frame) (len : Nat) (x : Exn)
    (h : validateFrame v c f len = .error x) : ∃ msg, x = .protocol msg := by
  rcases validateFrame_cases v c f len with ⟨msg, e⟩ | ⟨e, _⟩
  · rw [e] at h; cases h; exact ⟨msg, rfl⟩
  · rw [e] at h; cases h

/-- the length rule is applied as soon as the length is known: an oversize control frame is
    rejected by `gotMask`, before a single payload byte is read -/
theorem gotMask_rejects_oversize_control (v : Variant) (hv : v.ctrlLen = true) (p : PState)
    (b0 len : Nat) (key : Option Bytes) (hop : b0 % 16 ≥ 8) (hlen : len > 125) :
    ∃ msg, gotMask v p b0 len key = .error (.protocol msg) := by
  unfold gotMask
  simp only []
  split
  · rename_i x hx
    obtain ⟨msg, rfl⟩ := validateFrame_err _ _ _ _ _ hx
    exact ⟨msg, rfl⟩
  · rename_i hx
    have := validateFrame_ctrl v hv _ _ _ hx (by simp [Frame.isControl]; exact hop)
    omega

theorem frameDone_ctrl (v : Variant) (p : PState) (f : Frame) (r : PState × Option Out)
    (h : frameDone v p f = .ok r) (hf : f.isControl = true → f.payload.length ≤ 125) :
    CtrlBound r.1 ∧ OutBound r.2 := by
  unfold frameDone at h
  split at h
  · cases h
  · cases h
    refine ⟨?_, ?_⟩
    · intro f' hc; simp at hc
    · intro f' hc; simp only [Option.some.injEq, Out.frame.injEq] at hc; subst hc; exact hf

theorem gotMask_ctrl (v : Variant) (hv : v.ctrlLen = true) (p : PState) (b0 len : Nat)
    (key : Option Bytes) (r : PState × Option Out) (h : gotMask v p b0 len key = .ok r) :
    CtrlBound r.1 ∧ OutBound r.2 := by
  unfold gotMask at h
  simp only [] at h
  split at h
  · cases h
  · rename_i hval
    have hb := validateFrame_ctrl v hv _ _ _ hval
    split at h
    · cases h
      refine ⟨?_, ?_⟩
      · intro f' hc hctl
        simp only [Cont.payload.injEq] at hc
        subst hc
        have := hb hctl
        simp only [List.length_nil]
        omega
      · intro f' hc; cases hc
    · exact frameDone_ctrl _ _ _ _ h (by intro _; simp)

theorem gotLength_ctrl (v : Variant) (hv : v.ctrlLen = true) (p : PState) (b0 : Nat) (m : Bool)
    (len : Nat) (r : PState × Option Out) (h : gotLength v p b0 m len = .ok r) :
    CtrlBound r.1 ∧ OutBound r.2 := by
  unfold gotLength at h
  split at h
  · cases h
  · split at h
    · cases h
      exact ⟨by intro f hc; simp at hc, by intro f hc; cases hc⟩
    · exact gotMask_ctrl v hv _ _ _ _ _ h

theorem resume_ctrl (v : Variant) (hv : v.ctrlLen = true) (p : PState) (bytes : Bytes)
    (r : PState × Option Out) (h : resume v p bytes = .ok r)
    (hb : ∀ f, p.cont = .payload f → f.isControl = true → bytes.length ≤ 125) :
    CtrlBound r.1 ∧ OutBound r.2 := by
  unfold resume at h
  simp only [] at h
  split at h
  · cases h
    exact ⟨by intro f hc; simp at hc, by intro f hc; cases hc⟩
  · split at h
    · cases h
      exact ⟨by intro f hc; simp at hc, by intro f hc; cases hc⟩
    · split at h
      · cases h
        exact ⟨by intro f hc; simp at hc, by intro f hc; cases hc⟩
      · exact gotLength_ctrl v hv _ _ _ _ _ h
  · exact gotLength_ctrl v hv _ _ _ _ _ h
  · exact gotLength_ctrl v hv _ _ _ _ _ h
  · exact gotMask_ctrl v hv _ _ _ _ _ h
  · rename_i f hcont
    refine frameDone_ctrl _ _ _ _ h ?_
    intro hctl
    exact hb f hcont hctl

theorem biteBytes_ctrl (v : Variant) (hv : v.ctrlLen = true) (p : PState) (chunk : Bytes)
    (r : PState × Option Out) (h : biteBytes v p chunk = .ok r)
    (hp : CtrlBound p) (hc : chunk.length ≤ p.remPred + 1) :
    CtrlBound r.1 ∧ OutBound r.2 := by
  rw [biteBytes_eq] at h
  split at h
  · cases h
  · split at h
    · cases h
      refine ⟨?_, by intro f hc; cases hc⟩
      intro f hcont hctl
      have := hp f hcont hctl
      simp only [partialState, List.length_append]
      omega
    · refine resume_ctrl v hv _ _ _ h ?_
      intro f hcont hctl
      have := hp f hcont hctl
      simp only [List.length_append]
      omega

end Lomond.Core.Pong
