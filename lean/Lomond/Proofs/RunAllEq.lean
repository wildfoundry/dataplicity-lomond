/-
  `runAll` (a whole connection) on each way `run()` can end.  Needs only `Res.state` (Proofs/Logic.lean).  (The step
  from a property of the final state of `run()` to the whole connection is `runAll_of_run`,
  Proofs/SpecGen.lean.)
-/
import Lomond.Proofs.Logic
namespace Lomond.Core.Monitor
open Lomond Lomond.Core

def initSys (cfg : Cfg) (react : React) (env : List EnvStep) : Sys := { cfg := cfg, react := react, env := env }

section
variable {cfg : Cfg} {react : React} {env : List EnvStep} {s : Sys}

theorem runAll_ok (h : run (initSys cfg react env) = .ok () s) : runAll cfg react env = s := by
  unfold initSys at h; unfold runAll; simp only [h]

/-- the generator was finalised; out of a `with ws:` block `session.close()` follows -/
theorem runAll_genExit (h : run (initSys cfg react env) = .err .genExit s) :
    runAll cfg react env = if s.abandonedWith then (closeSocket s).state else s := by
  unfold initSys at h; unfold runAll; simp only [h]
  split
  · cases closeSocket s <;> rfl
  · rfl

theorem runAll_scriptEnd (h : run (initSys cfg react env) = .err .scriptEnd s) :
    runAll cfg react env = { s with trace := .incomplete :: s.trace } := by
  unfold initSys at h; unfold runAll; simp only [h]

end

end Lomond.Core.Monitor
