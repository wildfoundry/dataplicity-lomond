/-
  Applications that only send (`SendOnly`), and what a send call can do to the state (`Keep`):
  nothing but counters and non-event trace entries.
-/
import Lomond.Proofs.DeliveryCalm
import Lomond.Proofs.HandshakeCore
namespace Lomond.Core.E2E
open Lomond Lomond.Core

def isSendAct : Act → Bool
  | .sendText _ _ => true
  | .sendBinary _ _ => true
  | .sendPing _ => true
  | .sendPong _ => true
  | _ => false

/-- the application reacts to events by sending (text, binary, ping, pong; any arguments, valid
    or not), never by closing, dropping the socket or leaving the loop -/
def SendOnly (r : React) : Prop := ∀ h, ∀ a ∈ r h, isSendAct a = true

theorem SendOnly.quiet {r : React} (h : SendOnly r) : QuietApp r := by
  intro hi a ha
  have := h hi a ha
  cases a <;> first | rfl | (simp [isSendAct] at this)

/-- what a send call leaves alone; with the socket gone it does not even write (`wctr`), and only
    results go on the trace -/
structure Keep (s s' : Sys) : Prop where
  cfg : s'.cfg = s.cfg
  react : s'.react = s.react
  env : s'.env = s.env
  sockOpen : s'.sockOpen = s.sockOpen
  selOpen : s'.selOpen = s.selOpen
  closed : s'.closed = s.closed
  closing : s'.closing = s.closing
  ready : s'.ready = s.ready
  startTime : s'.startTime = s.startTime
  now : s'.now = s.now
  pollStart : s'.pollStart = s.pollStart
  sentCloseTime : s'.sentCloseTime = s.sentCloseTime
  p : s'.p = s.p
  frames : s'.frames = s.frames
  wctr : s.sockOpen = false → s'.writeCtr = s.writeCtr
  trace : ∃ l, s'.trace = l ++ s.trace ∧ (∀ o ∈ l, Obs.isEv o = false) ∧
    (s.sockOpen = false → ∀ o ∈ l, Obs.isRes o = true)

theorem keep_po : PO Keep where
  refl s := ⟨rfl, rfl, rfl, rfl, rfl, rfl, rfl, rfl, rfl, rfl, rfl, rfl, rfl, rfl, fun _ => rfl,
    ⟨[], rfl, by simp, by simp⟩⟩
  trans := by
    intro a b c h1 h2
    obtain ⟨l1, e1, n1, r1⟩ := h1.trace
    obtain ⟨l2, e2, n2, r2⟩ := h2.trace
    refine ⟨h2.cfg.trans h1.cfg, h2.react.trans h1.react, h2.env.trans h1.env, h2.sockOpen.trans h1.sockOpen,
      h2.selOpen.trans h1.selOpen, h2.closed.trans h1.closed, h2.closing.trans h1.closing,
      h2.ready.trans h1.ready, h2.startTime.trans h1.startTime, h2.now.trans h1.now,
      h2.pollStart.trans h1.pollStart, h2.sentCloseTime.trans h1.sentCloseTime,
      h2.p.trans h1.p, h2.frames.trans h1.frames,
      fun h => (h2.wctr (h1.sockOpen.trans h)).trans (h1.wctr h), ?_⟩
    refine ⟨l2 ++ l1, by rw [e2, e1, List.append_assoc], ?_, ?_⟩
    · intro o ho
      rcases List.mem_append.mp ho with h | h
      · exact n2 o h
      · exact n1 o h
    · intro hs o ho
      rcases List.mem_append.mp ho with h | h
      · exact r2 (h1.sockOpen.trans hs) o h
      · exact r1 hs o h

theorem keep_wrote (s : Sys) (o : Obs) (ho : o.isWrite = true) (hs : CanSend s) : Keep s (wrote s (some o)) := by
  have hn : ¬ s.sockOpen = false := by rw [hs.1]; exact Bool.noConfusion
  refine ⟨rfl, rfl, rfl, rfl, rfl, rfl, rfl, rfl, rfl, rfl, rfl, rfl, rfl, rfl, fun h => (hn h).elim,
    [o], rfl, ?_, fun h => (hn h).elim⟩
  intro o' ho'
  cases List.mem_singleton.mp ho'
  cases o <;> first | rfl | cases ho

theorem keep_write (d : Bytes) (z : Option (Nat × Bytes)) : Spec Keep (write d z) :=
  spec_write keep_po d z (fun s o h1 h2 h3 ho => keep_wrote s o (wrObs_isWrite ho) ⟨h1, h2, h3⟩)

theorem keep_sendFrame (op : Nat) (pl : Bytes) (c : Option Bytes) : Spec Keep (sendFrame op pl c) :=
  spec_sendFrame keep_po op pl c
    (fun _ => ⟨rfl, rfl, rfl, rfl, rfl, rfl, rfl, rfl, rfl, rfl, rfl, rfl, rfl, rfl, fun _ => rfl, [], rfl,
      fun _ h => absurd h List.not_mem_nil, fun _ _ h => absurd h List.not_mem_nil⟩)
    (fun d => keep_write d _)

theorem keep_res (s : Sys) (r : ActRes) : Keep s { s with trace := .res r :: s.trace } :=
  ⟨rfl, rfl, rfl, rfl, rfl, rfl, rfl, rfl, rfl, rfl, rfl, rfl, rfl, rfl, fun _ => rfl, [.res r], rfl,
    fun _ h => List.mem_singleton.mp h ▸ rfl, fun _ _ h => List.mem_singleton.mp h ▸ rfl⟩

theorem keep_doAct (a : Act) (ha : isSendAct a = true) : Spec Keep (doAct a) :=
  calls_doAct keep_po keep_sendFrame (fun _ _ h => by subst h; cases ha) (fun h => by subst h; cases ha)
    keep_res (fun _ h => by subst h; cases ha)

theorem keep_doActs (as : List Act) (h : ∀ a ∈ as, isSendAct a = true) : Spec Keep (doActs as) :=
  spec_doActs keep_po as (fun a ha => keep_doAct a (h a ha))

end Lomond.Core.E2E
