/-
  The consumer half of delivery, one frame at a time, for any class `Y` of open states closed under a
  `yield` inside `feed` (`Eater Y R`; `R es s s'` is what a step that hands the events `es`, newest
  first, to the application guarantees).  What the stream and message layers do with a frame besides
  the yield (the fragment list, `Message.build`, the inflate context) is deterministic and is done
  here once (`eat_event`, `eat_more`, `eat_fin`); `feed_frames` joins it with the parser half.
  From other files: `Own` (fields no yield assigns), `consume`, `feedLoop_eq_fold` (DeliveryKeep), `ParsesB`
  (DeliveryWire), `Good`, `Rel`, `tot_feedYield` (DeliveryCalm).  Namespace `DG` holds the definitions about
  whole streams (extension, view, items with compressed messages, timed scripts) that later files share.
-/
import Lomond.Proofs.DeliveryKeep
import Lomond.Proofs.DeliveryCalm
import Lomond.Proofs.DeliveryWire
namespace Lomond.Core.DG
open Lomond Lomond.Core

/-- the inflate context: the compressed history fed so far, the number of bytes delivered -/
structure ICtx where
  hist : Bytes
  out : Nat
  deriving DecidableEq, Repr

/-- what the stream / message layers keep between two frames -/
structure View where
  frames : List Frame
  ic : ICtx

def view (s : Sys) : View := ⟨s.frames, ⟨s.inflHist, s.inflOut⟩⟩

/-- the negotiated extension: the inflater and the configuration (`none`: nothing negotiated) -/
structure ZP where
  infl : Nat → Bytes → Option Bytes
  dc : Option Http.DeflateCfg

structure ZOk (z : ZP) (s : Sys) : Prop where
  infl : s.cfg.inflate = z.infl
  comp : s.compression = z.dc
  dec : s.decompress = z.dc.isSome

/-- `Deflate.decompress` on the joined payload of a message, as a function of the context -/
def inflPure (z : ZP) (c : ICtx) (joined : Bytes) : Option (Bytes × ICtx) :=
  match z.infl ((z.dc.map (·.decompressWbits)).getD 15) (c.hist ++ joined ++ [0, 0, 0xff, 0xff]) with
  | none => none
  | some out =>
    if (z.dc.map (·.resetDecompress)).getD false then some (out.drop c.out, ⟨[], 0⟩)
    else some (out.drop c.out, ⟨c.hist ++ joined ++ [0, 0, 0xff, 0xff], out.length⟩)

/-- the payload `Message.build` decodes: inflated iff the first frame has RSV1 and the extension is on -/
def buildPure (z : ZP) (c : ICtx) (first : Frame) (joined : Bytes) : Option (Bytes × ICtx) :=
  if first.rsv1 ≠ 0 ∧ z.dc.isSome = true then inflPure z c joined else some (joined, c)

theorem inflateMessage_eq (z : ZP) (s : Sys) (hz : ZOk z s) (j : Bytes) :
    inflateMessage j s = match inflPure z ⟨s.inflHist, s.inflOut⟩ j with
      | none => .err (.critical "unable to decompress payload") s
      | some (o, c') => .ok o { s with inflHist := c'.hist, inflOut := c'.out } := by
  unfold inflPure inflateMessage
  rw [← hz.infl, ← hz.comp]
  simp only []
  cases s.cfg.inflate ((s.compression.map (·.decompressWbits)).getD 15) (s.inflHist ++ j ++ [0, 0, 0xff, 0xff]) with
  | none => rfl
  | some out => simp only []; split <;> rfl

theorem buildMessage_pure (z : ZP) (first : Frame) (tl : List Frame) (s : Sys) (hz : ZOk z s)
    (pl : Bytes) (c' : ICtx)
    (h : buildPure z ⟨s.inflHist, s.inflOut⟩ first ((first :: tl).map (·.payload)).flatten = some (pl, c'))
    (m : Msg) (hm : msgOfPayload first.opcode pl = .ok m) :
    buildMessage (first :: tl) s = .ok m { s with inflHist := c'.hist, inflOut := c'.out } := by
  unfold buildMessage
  simp only []
  rw [getS_bind]
  unfold buildPure at h
  by_cases hc : first.rsv1 ≠ 0 ∧ z.dc.isSome = true
  · have hc' : first.rsv1 ≠ 0 ∧ s.decompress = true := ⟨hc.1, by rw [hz.dec]; exact hc.2⟩
    rw [if_pos hc] at h
    rw [if_pos hc', bind_ok ((inflateMessage_eq z s hz _).trans (by rw [h]))]
    unfold liftE; rw [hm]
  · have hc' : ¬ (first.rsv1 ≠ 0 ∧ s.decompress = true) := by rw [hz.dec]; exact hc
    rw [if_neg hc] at h
    cases h
    rw [if_neg hc']
    rw [bind_ok (pure_apply _ s)]
    unfold liftE; rw [hm]

end Lomond.Core.DG

namespace Lomond.Core
open Lomond Lomond.Core.DG

theorem Own.view {s s' : Sys} (o : Own s s') : view s' = view s := by
  unfold DG.view; rw [o.frames, o.hist, o.out]

/-- `s` with the parser state and the consumer's view (fragment list, inflate context) replaced -/
def setOwn (s : Sys) (p : PState) (v : View) : Sys :=
  { s with p := p, frames := v.frames, inflHist := v.ic.hist, inflOut := v.ic.out }

/-- `Y`: a class of open states; `R es`: what handing the events `es` over guarantees; the class has
    to supply `yield` only, the other fields say that `R` composes and ignores what the consumer owns -/
structure Eater (Y : Sys → Prop) (R : List Event → Sys → Sys → Prop) : Prop where
  refl : ∀ {s}, Y s → R [] s s
  trans : ∀ {e1 e2 a b c}, R e1 a b → R e2 b c → R (e2 ++ e1) a c
  inv : ∀ {es s s'}, Y s → R es s s' → Y s'
  isOpen : ∀ {s}, Y s → s.closed = false
  yield : ∀ e, Deliverable e → ∀ s, Y s → ∃ s', feedYield true e s = .ok () s' ∧ R [e] s s'
  /-- neither `Y` nor `R` looks at the parser, the fragment list or the inflate context -/
  setY : ∀ {s}, Y s → ∀ p v, Y (setOwn s p v)
  setR : ∀ {es s s'}, R es s s' → ∀ p v p' v', R es (setOwn s p v) (setOwn s' p' v')

variable {Y : Sys → Prop} {R : List Event → Sys → Sys → Prop}

/-- frame `f` from any `Y` state with view `c`: `WebSocket.feed` goes on (`true`), exactly the events
    `es` (newest first) are delivered, the parser is not touched -/
def Eat1 (Y : Sys → Prop) (R : List Event → Sys → Sys → Prop) (f : Frame) (es : List Event) (c c' : View) : Prop :=
  ∀ s, Y s → view s = c → ∃ s', onOut (.frame f) s = .ok true s' ∧ R es s s' ∧ view s' = c' ∧ s'.p = s.p

def EatSeq (Y : Sys → Prop) (R : List Event → Sys → Sys → Prop) : List Frame → List Event → View → View → Prop
  | [], es, c, c' => es = [] ∧ c = c'
  | f :: fs, es, c, c' => ∃ e1 e2 c1, Eat1 Y R f e1 c c1 ∧ EatSeq Y R fs e2 c1 c' ∧ es = e2 ++ e1

theorem eatSeq_nil (c : View) : EatSeq Y R [] [] c c := ⟨rfl, rfl⟩

theorem eatSeq_one {f : Frame} {es : List Event} {c c' : View} (h : Eat1 Y R f es c c') :
    EatSeq Y R [f] es c c' := ⟨es, [], c', h, ⟨rfl, rfl⟩, rfl⟩

theorem eatSeq_append {a b : List Frame} {e1 e2 : List Event} {c0 c1 c2 : View}
    (h1 : EatSeq Y R a e1 c0 c1) (h2 : EatSeq Y R b e2 c1 c2) : EatSeq Y R (a ++ b) (e2 ++ e1) c0 c2 := by
  induction a generalizing e1 c0 with
  | nil =>
    obtain ⟨rfl, rfl⟩ := h1
    simpa using h2
  | cons f r ih =>
    obtain ⟨x1, x2, cm, hf, hr, rfl⟩ := h1
    exact ⟨x1, e2 ++ x2, cm, hf, ih hr, by simp⟩

theorem eatSeq_split {a b : List Frame} {es : List Event} {c0 c2 : View}
    (h : EatSeq Y R (a ++ b) es c0 c2) :
    ∃ e1 e2 c1, EatSeq Y R a e1 c0 c1 ∧ EatSeq Y R b e2 c1 c2 ∧ es = e2 ++ e1 := by
  induction a generalizing es c0 with
  | nil => exact ⟨[], es, c0, eatSeq_nil c0, h, by simp⟩
  | cons f r ih =>
    obtain ⟨x1, x2, cm, hf, hr, rfl⟩ := h
    obtain ⟨y1, y2, cn, ha, hb, rfl⟩ := ih hr
    exact ⟨y1 ++ x1, y2, cn, ⟨x1, y1, cm, hf, ha, rfl⟩, hb, by simp⟩

theorem onOut_frame_of {f : Frame} {s s' : Sys} (h : onFrame f s = .ok () s') (hc : s'.closed = false) :
    onOut (.frame f) s = .ok true s' := by
  show (do onFrame f; notClosed : M Bool) s = _
  rw [bind_ok h, notClosed_eq, hc]
  rfl

theorem eat_event (E : Eater Y R) (f : Frame) (hctl : f.isControl = true) (e : Event) (hd : Deliverable e)
    (hb : ∀ s, ∃ msg, buildMessage [f] s = .ok msg s ∧ onMessage msg = feedYield true e) (vw : View) :
    Eat1 Y R f [e] vw vw := by
  intro s g hv
  obtain ⟨msg, hb1, hb2⟩ := hb s
  obtain ⟨s', h, r⟩ := E.yield e hd s g
  have o : Own s s' := (own_leaves.feedYield true e).ok h
  have hf : onFrame f s = .ok () s' := by
    unfold onFrame
    simp only [hctl, if_true]
    rw [bind_ok hb1, hb2]
    exact h
  exact ⟨s', onOut_frame_of hf (E.isOpen (E.inv g r)), r, o.view.trans hv, o.p⟩

theorem eat_more (E : Eater Y R) (f : Frame) (vw : View) (hfin : f.fin = 0) (hctl : f.isControl = false)
    (hcont : f.isContinuation = true ↔ vw.frames ≠ []) :
    Eat1 Y R f [] vw ⟨vw.frames ++ [f], vw.ic⟩ := by
  intro s g hv
  subst hv
  exact ⟨_, onOut_data_more f s (E.isOpen g) hfin hctl hcont,
    E.setR (E.refl g) s.p (view s) s.p ⟨s.frames ++ [f], (view s).ic⟩, rfl, rfl⟩

theorem eat_fin (E : Eater Y R) (f : Frame) (vw : View) (hfin : f.fin ≠ 0) (hctl : f.isControl = false)
    (hcont : f.isContinuation = true ↔ vw.frames ≠ [])
    (first : Frame) (tl : List Frame) (hfr : vw.frames ++ [f] = first :: tl) (ic' : ICtx) (m : Msg)
    (hbm : ∀ s, Y s → (⟨s.inflHist, s.inflOut⟩ : ICtx) = vw.ic →
      buildMessage (first :: tl) s = .ok m { s with inflHist := ic'.hist, inflOut := ic'.out })
    (e : Event) (he : onMessage m = feedYield true e) (hd : Deliverable e) :
    Eat1 Y R f [e] vw ⟨[], ic'⟩ := by
  intro s g hv
  subst hv
  let s0 : Sys := setOwn s s.p ⟨s.frames ++ [f], (view s).ic⟩
  let s1 : Sys := setOwn s s.p ⟨s.frames ++ [f], ic'⟩
  obtain ⟨s2, h2, r⟩ := E.yield e hd s1 (E.setY g _ _)
  have o : Own s1 s2 := (own_leaves.feedYield true e).ok h2
  have hbm' : buildMessage s0.frames s0 = .ok m s1 := by
    show buildMessage ((view s).frames ++ [f]) s0 = _
    rw [hfr]
    exact hbm s0 (E.setY g _ _) rfl
  have hf : onFrame f s = .ok () { s2 with frames := [] } := by
    rw [onFrame_data f s hctl hcont, if_pos hfin]
    show (getS >>= _) s0 = _
    rw [getS_bind, bind_ok hbm', he, bind_ok h2]
    rfl
  have r' : R [e] s { s2 with frames := [] } :=
    E.setR r s.p (view s) s2.p ⟨[], ⟨s2.inflHist, s2.inflOut⟩⟩
  refine ⟨{ s2 with frames := [] }, onOut_frame_of hf (E.isOpen (E.inv g r')), r', ?_, o.p⟩
  show View.mk [] ⟨s2.inflHist, s2.inflOut⟩ = _
  rw [o.hist, o.out]
  rfl

/-- the steps of `fs`, each from whatever parser state its frame is handed over with -/
theorem consume_eatSeq (E : Eater Y R) (fs : List Frame) (es : List Event) (c c' : View)
    (h : EatSeq Y R fs es c c') (pouts : List (PState × Out)) (hm : pouts.map (·.2) = fs.map Out.frame)
    (fin : Sys → Res Bool) (more : List (PState × Out)) (s : Sys) (g : Y s) (hv : view s = c) :
    ∃ s', consume fin (pouts ++ more) s = consume fin more s' ∧ R es s s' ∧ Y s' ∧ view s' = c' := by
  induction fs generalizing es c pouts s with
  | nil =>
    obtain ⟨rfl, rfl⟩ := h
    have : pouts = [] := by simpa using hm
    subst this
    exact ⟨s, rfl, E.refl g, g, hv⟩
  | cons f r ih =>
    obtain ⟨e1, e2, c1, hf, hr, rfl⟩ := h
    obtain ⟨x, rest, rfl, hx, hrest⟩ := List.map_eq_cons_iff.mp hm
    obtain ⟨p1, o⟩ := x
    simp only at hx
    subst hx
    obtain ⟨s1, h1, r1, v1, _⟩ := hf (setOwn s p1 (view s)) (E.setY g _ _) hv
    have r1' : R e1 s s1 := E.setR r1 s.p (view s) s1.p (view s1)
    obtain ⟨s2, h2, r2, g2, v2⟩ := ih e2 c1 hr rest hrest s1 (E.inv g r1') v1
    refine ⟨s2, ?_, E.trans r1' r2, g2, v2⟩
    show consume fin ((p1, Out.frame f) :: (rest ++ more)) s = _
    simp only [consume]
    rw [show ({ s with p := p1 } : Sys) = setOwn s p1 (view s) from rfl, h1]
    exact h2

theorem feed_frames (E : Eater Y R) {data : Bytes} {fs : List Frame} {p' : PState} (s : Sys) (g : Y s)
    (hnh : s.p.cont ≠ .header) (hpar : ParsesB s.cfg.v s.p data fs p') {es : List Event} {c' : View}
    (he : EatSeq Y R fs es (view s) c') :
    ∃ s', feedLoop data s = .ok true s' ∧ R es s s' ∧ Y s' ∧ view s' = c' ∧ s'.p = p' := by
  obtain ⟨he1, ho1, hpp1⟩ := hpar.run
  obtain ⟨s1, hcs, r1, g1, v1⟩ := consume_eatSeq E fs es _ _ he _ ho1 (pRun s.cfg.v s.p data).fin [] s g rfl
  rw [List.append_nil] at hcs
  refine ⟨setOwn s1 p' (view s1), ?_, E.setR r1 s.p (view s) p' (view s1), E.setY g1 _ _, v1, rfl⟩
  rw [feedLoop_eq_fold _ s hnh, hcs]
  simp only [consume]
  rw [fin_ok _ he1, hpp1]
  rfl

theorem eater_good : Eater (fun s => Good s ∧ s.closed = false) Rel where
  refl _ := Rel.refl _
  trans := Rel.trans
  inv g r := ⟨r.good g.1, r.closed.trans g.2⟩
  isOpen g := g.2
  yield e hd s g := by
    obtain ⟨_, s', h, c⟩ := tot_feedYield true e hd s g.1
    exact ⟨s', h, c.cfg, c.react, c.closed, c.closing, c.nt, c.evs⟩
  setY g _ _ := ⟨⟨g.1.quiet, g.1.nt⟩, g.2⟩
  setR r _ _ _ _ := ⟨r.cfg, r.react, r.closed, r.closing, r.nt, r.evs⟩

end Lomond.Core
