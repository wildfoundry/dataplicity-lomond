/-
  C08 (closing handshake).  What a Close frame and a data frame are on the trace, and the predicate
  `quiet` (nothing is handed to `sendall` after a Close frame); the relation `Cl` (the invariant
  `Inv` is kept, `closing ∨ closed` never drops back) for the calls at a `yield` — the lift to
  `run()` and to a whole connection is in Proofs/ClosingInv.lean.  Then the handshake step by step,
  computed exactly: `close()` writes one Close frame (`wsClose_open`), sends once closing are refused
  (`doAct_send_refused`), the echo of the server's Close (`onClose_echo`, `closeFromPayload_echo`), EOF
  while closing is no error (`recvStep_eof_shut`), the graceful end (`onLoopEnd_none_eq`).  Namespace
  `Ex`: data for the examples of the Properties files (configuration, upgrade reply, states, scripts).
-/
import Lomond.Proofs.Violation
import Lomond.Proofs.Calls
import Lomond.Proofs.FrameCodec
namespace Lomond.Core
open Lomond

/-- the opcode nibble of the first header byte is 8 (Close) -/
def isCloseBytes : Bytes → Bool
  | b :: _ => b % 16 == 8
  | [] => false

/-- the opcode nibble of the first header byte is 0, 1 or 2 (continuation, text, binary) -/
def isDataBytes : Bytes → Bool
  | b :: _ => decide (b % 16 ≤ 2)
  | [] => false

/-- a Close frame handed to `sendall` (successfully **or not**: a failed `sendall` may have put
    part of it on the wire) -/
def Obs.isClose : Obs → Bool
  | .wr d => isCloseBytes d
  | .wrFail d => isCloseBytes d
  | .wrz op _ => op == 8
  | _ => false

def Obs.isCloseWr : Obs → Bool
  | .wr d => isCloseBytes d
  | .wrz op _ => op == 8
  | _ => false

/-- a data frame written successfully (uncompressed: opcode 0/1/2; compressed frames are data) -/
def Obs.isDataWr : Obs → Bool
  | .wr d => isDataBytes d
  | .wrz _ _ => true
  | _ => false

theorem Obs.isClose_isWrite {o : Obs} (h : o.isClose = true) : o.isWrite = true := by
  cases o <;> simp_all [Obs.isClose, Obs.isWrite]

theorem Obs.isCloseWr_isClose {o : Obs} (h : o.isCloseWr = true) : o.isClose = true := by
  cases o <;> simp_all [Obs.isClose, Obs.isCloseWr]

theorem Obs.isDataWr_isWrite {o : Obs} (h : o.isDataWr = true) : o.isWrite = true := by
  cases o <;> simp_all [Obs.isDataWr, Obs.isWrite]

def hasClose (tr : List Obs) : Bool := tr.any Obs.isClose

def noWrite (l : List Obs) : Bool := l.all (fun o => !o.isWrite)

/-- newest first: every write is preceded by no Close frame, i.e. **nothing is handed to
    `sendall` after a Close frame** -/
def quiet : List Obs → Bool
  | [] => true
  | o :: tr => (!o.isWrite || !hasClose tr) && quiet tr

theorem hasClose_cons (o : Obs) (tr : List Obs) : hasClose (o :: tr) = (o.isClose || hasClose tr) := by
  simp [hasClose]

theorem hasClose_append_noWrite (l tr : List Obs) (h : noWrite l = true) :
    hasClose (l ++ tr) = hasClose tr := by
  induction l with
  | nil => rfl
  | cons o l ih =>
    simp only [noWrite, List.all_cons, Bool.and_eq_true, Bool.not_eq_true'] at h
    have ho : o.isClose = false := by
      cases hc : o.isClose
      · rfl
      · have := Obs.isClose_isWrite hc; rw [h.1] at this; cases this
    rw [List.cons_append, hasClose_cons, ho, Bool.false_or]
    exact ih (by simpa [noWrite] using h.2)

theorem quiet_append_noWrite (l tr : List Obs) (h : noWrite l = true) :
    quiet (l ++ tr) = quiet tr := by
  induction l with
  | nil => rfl
  | cons o l ih =>
    simp only [noWrite, List.all_cons, Bool.and_eq_true, Bool.not_eq_true'] at h
    rw [List.cons_append, quiet, h.1]
    simp only [Bool.not_false, Bool.true_or, Bool.true_and]
    exact ih (by simpa [noWrite] using h.2)

theorem quiet_count (tr : List Obs) (h : quiet tr = true) : (tr.filter Obs.isClose).length ≤ 1 := by
  induction tr with
  | nil => simp
  | cons o tr ih =>
    simp only [quiet, Bool.and_eq_true, Bool.or_eq_true, Bool.not_eq_true'] at h
    cases hc : o.isClose
    · simp only [List.filter_cons, hc]; exact ih h.2
    · have hw := Obs.isClose_isWrite hc
      have hn : hasClose tr = false := by
        rcases h.1 with h1 | h1
        · rw [hw] at h1; cases h1
        · exact h1
      have : tr.filter Obs.isClose = [] := by
        rw [List.filter_eq_nil_iff]
        intro a ha hca
        have : hasClose tr = true := by
          simp only [hasClose, List.any_eq_true]; exact ⟨a, ha, hca⟩
        rw [hn] at this; cases this
      simp [hc, this]

theorem quiet_after (a : List Obs) (c : Obs) (b : List Obs) (h : quiet (a ++ c :: b) = true)
    (hc : c.isClose = true) : ∀ o ∈ a, o.isWrite = false := by
  induction a with
  | nil => intro o ho; cases ho
  | cons x a ih =>
    simp only [List.cons_append, quiet, Bool.and_eq_true, Bool.or_eq_true, Bool.not_eq_true'] at h
    have hh : hasClose (a ++ c :: b) = true := by
      simp only [hasClose, List.any_eq_true]; exact ⟨c, by simp, hc⟩
    intro o ho
    rcases List.mem_cons.mp ho with rfl | ho
    · rcases h.1 with h1 | h1
      · exact h1
      · rw [hh] at h1; cases h1
    · exact ih h.2 o ho

theorem quiet_oldest_first (tr : List Obs) (h : quiet tr = true) :
    (tr.reverse.filter Obs.isClose).length ≤ 1 ∧
    ∀ pre c post, tr.reverse = pre ++ c :: post → c.isClose = true → ∀ o ∈ post, o.isWrite = false := by
  refine ⟨?_, ?_⟩
  · rw [List.filter_reverse, List.length_reverse]; exact quiet_count tr h
  · intro pre c post e hc o ho
    have e2 : tr = post.reverse ++ c :: pre.reverse := by
      have := congrArg List.reverse e
      simpa using this
    rw [e2] at h
    exact quiet_after _ _ _ h hc o (by simpa using ho)

/-- **the invariant**: nothing was handed to `sendall` after a Close frame, and if a Close frame
    was handed to `sendall` then the websocket is closing or closed -/
def Inv (s : Sys) : Prop :=
  quiet s.trace = true ∧ (hasClose s.trace = true → s.closing = true ∨ s.closed = true)

def Shut (s : Sys) : Prop := s.closing = true ∨ s.closed = true

/-- what every library step guarantees: the invariant is kept, and "closing or closed" never
    drops back -/
structure Cl (s s' : Sys) : Prop where
  inv : Inv s → Inv s'
  keep : Shut s → Shut s'

theorem cl_po : PO Cl where
  refl _ := ⟨id, id⟩
  trans := fun h1 h2 => ⟨fun h => h2.inv (h1.inv h), fun h => h2.keep (h1.keep h)⟩

theorem Cl.of_ext {s s' : Sys} (l : List Obs) (ht : s'.trace = l ++ s.trace) (hl : noWrite l = true)
    (hk : Shut s → Shut s') : Cl s s' := by
  refine ⟨?_, hk⟩
  intro ⟨hq, hc⟩
  refine ⟨?_, ?_⟩
  · rw [ht, quiet_append_noWrite l _ hl]; exact hq
  · intro h
    rw [ht, hasClose_append_noWrite l _ hl] at h
    exact hk (hc h)

/-- effect of one `session.write` on what C08 looks at; `cl` = the bytes are a Close frame -/
structure WEff (cl : Bool) (s s' : Sys) : Prop where
  closing : s'.closing = s.closing
  closed : s'.closed = s.closed
  tr : s'.trace = s.trace ∨
       (s.closing = false ∧ s.closed = false ∧ ∃ o, s'.trace = o :: s.trace ∧ (o.isClose = true → cl = true))

theorem Inv.noClose {s : Sys} (h : Inv s) (h1 : s.closing = false) (h2 : s.closed = false) :
    hasClose s.trace = false := by
  cases hc : hasClose s.trace
  · rfl
  · rcases h.2 hc with h3 | h3
    · rw [h1] at h3; cases h3
    · rw [h2] at h3; cases h3

theorem WEff.cl {s s' : Sys} (h : WEff false s s') : Cl s s' := by
  refine ⟨?_, ?_⟩
  · intro hi
    rcases h.tr with e | ⟨h1, h2, o, e, ho⟩
    · refine ⟨by rw [e]; exact hi.1, ?_⟩
      intro hc; rw [e] at hc
      have := hi.2 hc
      unfold Shut at *
      rw [h.closing, h.closed]; exact this
    · have hn := hi.noClose h1 h2
      have hoc : o.isClose = false := by
        cases hx : o.isClose
        · rfl
        · cases ho hx
      refine ⟨?_, ?_⟩
      · rw [e, quiet, hn]; simp [hi.1]
      · intro hc; rw [e, hasClose_cons, hoc, hn] at hc; cases hc
  · intro hs; unfold Shut at *; rw [h.closing, h.closed]; exact hs

theorem WEff.cl_closing {cl : Bool} {s s1 : Sys} (h : WEff cl s s1) (t : Option Nat) :
    Cl s { s1 with closing := true, sentCloseTime := t } := by
  refine ⟨?_, fun _ => Or.inl rfl⟩
  intro hi
  refine ⟨?_, fun _ => Or.inl rfl⟩
  show quiet s1.trace = true
  rcases h.tr with e | ⟨h1, h2, o, e, _⟩
  · rw [e]; exact hi.1
  · have hn := hi.noClose h1 h2
    rw [e, quiet, hn]; simp [hi.1]

def closeLike (data : Bytes) (z : Option (Nat × Bytes)) : Bool :=
  isCloseBytes data ||
  match z with
  | none => false
  | some (op, _) => op == 8

theorem weff_write (d : Bytes) (z : Option (Nat × Bytes)) (s : Sys) :
    WEff (closeLike d z) s (write d z s).state := by
  refine write_elim (P := fun q => WEff (closeLike d z) s q.state) d z s (fun _ _ => ⟨rfl, rfl, Or.inl rfl⟩)
    (fun _ h2 h3 r o ho => ⟨rfl, rfl, Or.inr ⟨h3, h2, o, rfl, fun h => ?_⟩⟩)
  rcases ho with ⟨_, rfl, _⟩ | ⟨_, rfl, _⟩
  · simp [closeLike, show isCloseBytes d = true from h]
  · rcases z with _ | ⟨op, plain⟩
    · simp [closeLike, show isCloseBytes d = true from h]
    · simp [closeLike, show (op == 8) = true from h]

theorem build_first_byte (op : Nat) (pl key bs : Bytes) (h : Frame.build op pl key = some bs) :
    ∃ r, bs = (128 + op) :: r := ⟨_, (build_inv h).2⟩

theorem isCloseBytes_build (op : Nat) (pl key bs : Bytes) (hop : op < 16)
    (h : Frame.build op pl key = some bs) : isCloseBytes bs = (op == 8) := by
  obtain ⟨r, rfl⟩ := build_first_byte op pl key bs h
  unfold isCloseBytes
  have : (128 + op) % 16 = op := by omega
  simp only [this]

theorem weff_sendFrame (op : Nat) (pl : Bytes) (c : Option Bytes) (hop : op < 16) (s : Sys) :
    WEff (op == 8) s (sendFrame op pl c s).state := by
  refine sendFrame_elim (P := fun q => WEff (op == 8) s q.state) op pl c s (fun _ _ => ⟨rfl, rfl, Or.inl rfl⟩)
    (fun d z hf => ?_)
  have := weff_write d z (keyDrawn s)
  rw [show closeLike d z = (op == 8) from by
    rcases hf with ⟨hb⟩ | ⟨_⟩
    · simp only [closeLike, Bool.or_false]; exact isCloseBytes_build _ _ _ _ hop hb
    · simp [closeLike, isCloseBytes]] at this
  exact ⟨this.closing, this.closed, this.tr⟩

theorem cl_closeSocket : Spec Cl closeSocket :=
  spec_closeSocket cl_po (fun _ _ => Cl.of_ext [.sockClose] rfl rfl id)

theorem cl_write (d : Bytes) (z : Option (Nat × Bytes)) (h : closeLike d z = false) : Spec Cl (write d z) := by
  intro s; have := weff_write d z s; rw [h] at this; exact this.cl

theorem cl_sendFrame (op : Nat) (pl : Bytes) (c : Option Bytes) (hop : op < 16 ∧ op ≠ 8) :
    Spec Cl (sendFrame op pl c) := by
  intro s; have := weff_sendFrame op pl c hop.1 s
  rw [show (op == 8) = false from by simp [hop.2]] at this; exact this.cl

theorem weff_sendFrame_ok {op : Nat} {pl : Bytes} {c : Option Bytes} (hop : op < 16) {s s' : Sys} {r : ActRes}
    (h : sendFrame op pl c s = .ok r s') : WEff (op == 8) s s' := by
  have := weff_sendFrame op pl c hop s; rw [h] at this; exact this

theorem cl_wsClose (c : Option Nat) (r : Arg) : Spec Cl (wsClose c r) := fun s =>
  wsClose_elim (P := fun q => Cl s q.state) c r s (fun _ => cl_po.refl s) (fun _ _ _ _ => cl_po.refl s)
    (fun _ _ _ _ _ _ _ _ e => (weff_sendFrame_ok (by decide) e).cl_closing _)

theorem cl_log (o : Obs) (h : o.isWrite = false) : Spec Cl (log o) := by
  intro s; unfold log modS
  exact Cl.of_ext [o] rfl (by simp [noWrite, h]) id

/-- the relation holds across everything at a `yield`: only `close()` writes a Close frame, and it
    marks the websocket as closing -/
theorem cl_atYield : AtYield Cl (fun _ => True) where
  po := cl_po
  closeSocket := cl_closeSocket
  send := fun op pl c h => cl_sendFrame op pl c (by rcases h with rfl | rfl | rfl | rfl <;> decide)
  wsClose := cl_wsClose
  logged := fun s r => Cl.of_ext [.res r] rfl rfl id
  abandoned := fun s w => Cl.of_ext [] rfl rfl id
  yielded := fun e _ s => Cl.of_ext [.ev e] rfl rfl id
  poll := trivial
  unresponsive := trivial
  pollMarked := fun s t => Cl.of_ext [] rfl rfl id
  pingMarked := fun s n => Cl.of_ext [] rfl rfl id
  readied := fun s => Cl.of_ext [] rfl rfl id
  ponged := fun s t => Cl.of_ext [] rfl rfl id
  disconnected := fun s => Cl.of_ext [] rfl rfl (fun _ => Or.inr rfl)

theorem cl_sendData (op : Nat) (pl : Bytes) (c : Bool) (hop : op < 16 ∧ op ≠ 8) : Spec Cl (sendData op pl c) := by
  intro s; unfold sendData; split <;> exact cl_sendFrame _ _ _ hop s

theorem cl_tick (s : Sys) (dt : Nat) : Cl s (tick s dt) := by
  unfold tick
  by_cases h : dt ≠ 0
  · exact Cl.of_ext [.tick (s.now + dt)] (by simp [h]) rfl id
  · exact Cl.of_ext [] (by simp [h]) rfl id

theorem cl_selClose : Spec Cl selClose := spec_selClose cl_po (fun _ _ => Cl.of_ext [.selClose] rfl rfl id)

/-- `argBytes` (`reasonBytes_eq`), under the name the statements of C08 use -/
def reasonBytes : Arg → Option Bytes
  | .bytes b => some b
  | .str cps => some (encodeReplace cps)
  | .other => none

def CloseArgsOk (code : Option Nat) (rb : Bytes) : Prop :=
  (∀ c, code = some c → c < 65536) ∧ (buildClosePayload code rb).length ≤ 125

/-- the Close frame for a payload of at most 125 bytes -/
def closeFrame (payload key : Bytes) : Bytes :=
  136 :: (128 + payload.length) :: (key ++ maskPayload key payload)

theorem build_close (payload key : Bytes) (h : payload.length ≤ 125) :
    Frame.build Gen.opClose payload key = some (closeFrame payload key) := by
  unfold Frame.build buildHeader byte0 closeFrame
  have : payload.length < 126 := by omega
  simp [this, Gen.opClose]

/-- `CanSend`, with the conjuncts in the order the statements of C08 use -/
def Open (s : Sys) : Prop := s.sockOpen = true ∧ s.closing = false ∧ s.closed = false

theorem Open.not_shut {s : Sys} (ho : Open s) (hs : Shut s) : False := by
  rcases hs with h | h
  · rw [ho.2.1] at h; cases h
  · rw [ho.2.2] at h; cases h

theorem reasonBytes_eq (r : Arg) : reasonBytes r = argBytes r := by cases r <;> rfl

theorem wsClose_open (code : Option Nat) (reason : Arg) (rb : Bytes) (s : Sys)
    (hr : reasonBytes reason = some rb) (ha : CloseArgsOk code rb) (ho : Open s)
    (hw : s.cfg.writeFails s.writeCtr = false) :
    wsClose code reason s =
      .ok .ok { s with keyCtr := s.keyCtr + 1, writeCtr := s.writeCtr + 1,
                       trace := .wr (closeFrame (buildClosePayload code rb) (s.cfg.maskKey s.keyCtr)) :: s.trace,
                       closing := true, sentCloseTime := some (sessionTime s) } :=
  wsClose_accept code reason rb _ s ⟨ho.1, ho.2.2, ho.2.1, hw⟩ ((reasonBytes_eq reason).symm.trans hr) ha.1 ha.2
    (build_close _ _ ha.2)

/-- what `session.write` answers once the websocket is closing or closed -/
def refusal (s : Sys) : ActRes :=
  if s.sockOpen = false then .wsUnavailable else if s.closed then .wsClosed else .wsClosing

theorem refusal_wsError (s : Sys) : wsError (refusal s) = true := by
  unfold refusal wsError; splits <;> simp

theorem refusal_closing (s : Sys) (h1 : s.sockOpen = true) (h2 : s.closed = false) : refusal s = .wsClosing := by
  simp [refusal, h1, h2]

theorem refusal_closed (s : Sys) (h1 : s.sockOpen = true) (h2 : s.closed = true) : refusal s = .wsClosed := by
  simp [refusal, h1, h2]

theorem write_refused (d : Bytes) (z : Option (Nat × Bytes)) (s : Sys) (h : Shut s) :
    write d z s = .ok (refusal s) s := by
  unfold write refusal
  cases h1 : s.sockOpen <;> cases h2 : s.closed <;> cases h3 : s.closing <;> simp_all [Shut]

theorem sendFrame_refused (op : Nat) (pl : Bytes) (c : Option Bytes) (s : Sys) (h : Shut s) :
    ∃ r, sendFrame op pl c s = .ok r { s with keyCtr := s.keyCtr + 1 } ∧ r ≠ .ok ∧
      (pl.length < 2 ^ 63 → r = refusal s) := by
  have hne : refusal s ≠ .ok := fun e => by
    have := refusal_wsError s; rw [e] at this; simp [wsError] at this
  refine sendFrame_elim (P := fun q => ∃ r, q = .ok r { s with keyCtr := s.keyCtr + 1 } ∧ r ≠ .ok ∧
      (pl.length < 2 ^ 63 → r = refusal s)) op pl c s
    (fun _ hb => ⟨.valueError, rfl, by simp, fun hl => absurd ((build_none op pl _ 1 0 0 0).mp hb) (Nat.not_le.2 hl)⟩)
    (fun d z _ => ⟨refusal s, write_refused d z (keyDrawn s) h, hne, fun _ => rfl⟩)

theorem sendData_refused (op : Nat) (pl : Bytes) (c : Bool) (s : Sys) (h : Shut s) :
    ∃ r, sendData op pl c s = .ok r { s with keyCtr := s.keyCtr + 1 } ∧ r ≠ .ok ∧
      (pl.length < 2 ^ 63 → r = refusal s) := by
  unfold sendData
  split
  · obtain ⟨r, e, h1, h2⟩ := sendFrame_refused op [] (some pl) s h
    exact ⟨r, e, h1, fun _ => h2 (by simp)⟩
  · exact sendFrame_refused op pl none s h

/-- `isSendAct` (`CR.isSend_eq`), under the name the statements of C08 use -/
def Act.isSend : Act → Bool
  | .sendText _ _ => true
  | .sendBinary _ _ => true
  | .sendPing _ => true
  | .sendPong _ => true
  | _ => false

/-- a send call whose arguments the API accepts (right type, encodable, a frame can be built) -/
def Act.sendOk : Act → Bool
  | .sendText (.str cps) _ => !hasSurrogate cps && decide ((Utf8.encode cps).length < 2 ^ 63)
  | .sendBinary (.bytes b) _ => decide (b.length < 2 ^ 63)
  | .sendPing (.bytes b) => decide (b.length ≤ 125)
  | .sendPong (.bytes b) => decide (b.length ≤ 125)
  | _ => false

/-- the frame a send call puts on the wire from state `s` (`none`: the call is rejected) -/
def Act.sent (a : Act) (s : Sys) : Option Obs :=
  let key := s.cfg.maskKey s.keyCtr
  let data (op : Nat) (pl : Bytes) (c : Bool) : Option Obs :=
    if c ∧ s.compression.isSome then some (.wrz op pl) else (Frame.build op pl key).map .wr
  match a with
  | .sendText (.str cps) c => if hasSurrogate cps then none else data Gen.opText (Utf8.encode cps) c
  | .sendBinary (.bytes b) c => data Gen.opBinary b c
  | .sendPing (.bytes b) => if b.length > 125 then none else (Frame.build Gen.opPing b key).map .wr
  | .sendPong (.bytes b) => if b.length > 125 then none else (Frame.build Gen.opPong b key).map .wr
  | _ => none

theorem sendData_open (op : Nat) (pl : Bytes) (c : Bool) (s : Sys) (o : Obs) (ho : Open s)
    (hw : s.cfg.writeFails s.writeCtr = false)
    (hb : (if c ∧ s.compression.isSome then some (Obs.wrz op pl)
           else (Frame.build op pl (s.cfg.maskKey s.keyCtr)).map Obs.wr) = some o) :
    sendData op pl c s =
      .ok .ok { s with keyCtr := s.keyCtr + 1, writeCtr := s.writeCtr + 1, trace := o :: s.trace } := by
  split at hb
  · rename_i hc
    cases hb
    exact sendData_compressed op pl c s ⟨ho.1, ho.2.2, ho.2.1, hw⟩ hc
  · rename_i hc
    cases hf : Frame.build op pl (s.cfg.maskKey s.keyCtr) with
    | none => rw [hf] at hb; cases hb
    | some frame =>
      rw [hf] at hb; cases hb
      exact sendData_plain op pl frame c s ⟨ho.1, ho.2.2, ho.2.1, hw⟩ hc hf

theorem Act.wrongType_sendOk {a : Act} (h : a.wrongType = true) : a.sendOk = false ∧ ∀ s, a.sent s = none := by
  cases a with
  | sendText arg c => cases arg <;> first | exact ⟨rfl, fun _ => rfl⟩ | cases h
  | sendBinary arg c => cases arg <;> first | exact ⟨rfl, fun _ => rfl⟩ | cases h
  | sendPing arg => cases arg <;> first | exact ⟨rfl, fun _ => rfl⟩ | cases h
  | sendPong arg => cases arg <;> first | exact ⟨rfl, fun _ => rfl⟩ | cases h
  | _ => cases h

/-- a send call is refused by the API itself (wrong type, surrogates, over-long control payload), or
    it is `session.send` / `send_compressed` of one frame; Ping and Pong never ask for compression -/
theorem doAct_send (a : Act) (hs : a.isSend = true) :
    (∃ r, r ≠ .ok ∧ doAct a = logRes (pure r) ∧ a.sendOk = false ∧ ∀ s, a.sent s = none) ∨
    (∃ op pl c, doAct a = logRes (sendData op pl c) ∧ (a.sendOk = true → pl.length < 2 ^ 63) ∧
      ∀ s, a.sent s = if c ∧ s.compression.isSome then some (Obs.wrz op pl)
                      else (Frame.build op pl (s.cfg.maskKey s.keyCtr)).map Obs.wr) := by
  have ctrl : ∀ op pl, sendFrame op pl none = sendData op pl false := by
    intro op pl; funext s; simp [sendData]
  rcases doAct_body a with ⟨w, rfl⟩ | ⟨m, hm, e⟩
  · cases hs
  rw [e]
  cases hm with
  | wrongType h => exact .inl ⟨_, by decide, rfl, Act.wrongType_sendOk h⟩
  | surrogate cps c h => exact .inl ⟨_, by decide, rfl, by simp [Act.sendOk, h], fun s => by simp [Act.sent, h]⟩
  | text cps c h => exact .inr ⟨_, _, c, rfl, by simp [Act.sendOk, h], fun s => by simp [Act.sent, h]⟩
  | binary b c => exact .inr ⟨_, _, c, rfl, by simp [Act.sendOk], fun s => rfl⟩
  | pingLong b h => exact .inl ⟨_, by decide, rfl, by simp [Act.sendOk]; omega, fun s => by simp [Act.sent, h]⟩
  | ping b h => exact .inr ⟨_, _, false, by rw [ctrl], by omega, fun s => by simp [Act.sent, Nat.not_lt.2 h]⟩
  | pongLong b h => exact .inl ⟨_, by decide, rfl, by simp [Act.sendOk]; omega, fun s => by simp [Act.sent, h]⟩
  | pong b h => exact .inr ⟨_, _, false, by rw [ctrl], by omega, fun s => by simp [Act.sent, Nat.not_lt.2 h]⟩
  | close _ _ => cases hs
  | sessionClose => cases hs

/-- **every send call made once the websocket is closing or closed fails and puts nothing on the
    wire**: the call's result `r` (logged as `.res r`) is never `ok`, the only change of state is
    the consumed masking key, and for acceptable arguments the result is the WebSocketError
    `refusal s` (`WebSocketClosing`, `WebSocketClosed`, or `WebSocketUnavailable` without socket) -/
theorem doAct_send_refused (a : Act) (hs : a.isSend = true) (s : Sys) (h : Shut s) :
    ∃ r k, doAct a s = .ok () { s with keyCtr := k, trace := .res r :: s.trace } ∧ r ≠ .ok ∧
      (a.sendOk = true → r = refusal s) := by
  rcases doAct_send a hs with ⟨r, hr, e, hno, _⟩ | ⟨op, pl, c, e, hlt, _⟩ <;> rw [e]
  · exact ⟨r, s.keyCtr, rfl, hr, fun h => by rw [hno] at h; cases h⟩
  · obtain ⟨r, e1, h1, h2⟩ := sendData_refused op pl c s h
    exact ⟨r, s.keyCtr + 1, logRes_ok e1, h1, fun hk => h2 (hlt hk)⟩

/-- **while the websocket is open (in particular during the `Closing` event) a send call is
    written**: one frame, result `ok`, and the websocket stays open -/
theorem doAct_send_open (a : Act) (s : Sys) (o : Obs) (ho : Open s)
    (hw : s.cfg.writeFails s.writeCtr = false) (hsent : a.sent s = some o) :
    doAct a s = .ok () { s with keyCtr := s.keyCtr + 1, writeCtr := s.writeCtr + 1,
                                 trace := .res .ok :: o :: s.trace } := by
  have hs : a.isSend = true := by
    cases a <;> first | rfl | simp [Act.sent] at hsent
  rcases doAct_send a hs with ⟨_, _, _, _, hn⟩ | ⟨op, pl, c, e, _, hst⟩
  · rw [hn s] at hsent; cases hsent
  · rw [e]
    exact logRes_ok (sendData_open op pl c s o ho hw (by rw [← hst s]; exact hsent))

/-- what `run()`/`feed` do when the application's handling of an event raises -/
def afterYield (inTry : Bool) (x : Exn) : M Unit := do
  (if inTry then onDisconnect else pure ())
  throwE (.outer x)

/-- `pushEv`, under the name the statements of C08 use -/
def handed (e : Event) (s1 : Sys) : Sys := { s1 with trace := .ev e :: s1.trace, hist := e :: s1.hist }

theorem feedYield_eq (inTry : Bool) (e : Event) (s s1 : Sys) (h : onEvent e s = .ok () s1) :
    feedYield inTry e s = tryC reactThenRegular (afterYield inTry) (handed e s1) := by
  unfold feedYield tryC
  have : (do onEvent e; yieldEv e; regular : M Unit) s = reactThenRegular (handed e s1) := by
    rw [bind_ok h]; rfl
  rw [this]; rfl

theorem feedYield_err (e : Event) (s s' : Sys) (x : Exn) (h : feedYield true e s = .err x s') :
    s'.closed = true ∧ s'.closing = false := by
  unfold feedYield tryC at h
  cases hb : (do onEvent e; yieldEv e; regular : M Unit) s with
  | ok a s1 => rw [hb] at h; cases h
  | err y s1 =>
    rw [hb] at h
    simp only [if_true] at h
    rw [bind_ok (onDisconnect_eq s1)] at h
    cases h
    exact ⟨rfl, rfl⟩

def msgEvent : Msg → Option Event
  | .text t => some (.text t)
  | .binary d => some (.binary d)
  | .ping d => some (.ping d)
  | .pong d => some (.pong d)
  | _ => none

/-- a close code the client accepts (`code not in Status.invalid_codes`) -/
def ValidCode (code : Option Nat) : Prop := ∀ c, code = some c → isInvalidCode c = false

theorem checkCloseCode_ok (code : Option Nat) (h : ValidCode code) (s : Sys) :
    checkCloseCode code s = .ok () s := by
  unfold checkCloseCode
  cases code with
  | none => rfl
  | some c => simp [h c rfl]; rfl

/-- server closes first: the `Closing` event, then the echo -/
theorem onClose_open_eq (code : Option Nat) (reason : List Nat) (s : Sys) (hv : ValidCode code)
    (hcg : s.closing = false) (hcd : s.closed = false) :
    onClose code reason s =
      (do feedYield true (.closing code reason)
          let r ← wsClose code (.str reason)
          raiseIfArgError r
          modS fun s => { s with closing := true } : M Unit) s := by
  unfold onClose
  rw [bind_ok (checkCloseCode_ok code hv s), getS_bind]
  simp [hcg, hcd]

/-- client closed first: the `Closed` event, then `closed := true` -/
theorem onClose_closing_eq (code : Option Nat) (reason : List Nat) (s : Sys) (hv : ValidCode code)
    (hcg : s.closing = true) (hcd : s.closed = false) :
    onClose code reason s =
      (do feedYield true (.closed code reason)
          modS fun s => { s with closing := false, closed := true } : M Unit) s := by
  unfold onClose
  rw [bind_ok (checkCloseCode_ok code hv s), getS_bind]
  simp [hcg, hcd]

/-- the `Closing` event is handed to the application while the websocket is still open:
    whatever it sends in that reaction is accepted (`doAct_send_open`) -/
theorem closing_event_open (code : Option Nat) (reason : List Nat) (s : Sys) (ho : Open s) :
    feedYield true (.closing code reason) s
        = tryC reactThenRegular (afterYield true) (handed (.closing code reason) s) ∧
    Open (handed (.closing code reason) s) :=
  ⟨feedYield_eq true _ s s rfl, ho⟩

/-- **the echo**: after the `Closing` event has been handled (and the application has not itself
    closed), exactly one Close frame with the received code and reason is written and the
    websocket is closing -/
theorem onClose_echo (code : Option Nat) (reason : List Nat) (s s1 : Sys) (hv : ValidCode code)
    (hcg : s.closing = false) (hcd : s.closed = false)
    (hy : feedYield true (.closing code reason) s = .ok () s1)
    (ho : Open s1) (hw : s1.cfg.writeFails s1.writeCtr = false)
    (ha : CloseArgsOk code (encodeReplace reason)) :
    onClose code reason s =
      .ok () { s1 with keyCtr := s1.keyCtr + 1, writeCtr := s1.writeCtr + 1,
                       trace := .wr (closeFrame (buildClosePayload code (encodeReplace reason))
                                      (s1.cfg.maskKey s1.keyCtr)) :: s1.trace,
                       closing := true, sentCloseTime := some (sessionTime s1) } := by
  rw [onClose_open_eq code reason s hv hcg hcd, bind_ok hy,
      bind_ok (wsClose_open code (.str reason) _ s1 rfl ha ho hw)]
  rfl

/-- if the application itself called `close()` while handling `Closing` (or the websocket got
    closed), no second Close frame is written -/
theorem onClose_echo_skipped (code : Option Nat) (reason : List Nat) (s s1 : Sys) (hv : ValidCode code)
    (hcg : s.closing = false) (hcd : s.closed = false)
    (hy : feedYield true (.closing code reason) s = .ok () s1) (hs : Shut s1) :
    onClose code reason s = .ok () { s1 with closing := true } := by
  rw [onClose_open_eq code reason s hv hcg hcd, bind_ok hy, bind_ok (wsClose_noop code (.str reason) s1 hs.symm)]
  rfl

theorem beBytes2_beVal (a b : Nat) (ha : a < 256) (hb : b < 256) : beBytes 2 (beVal [a, b]) = [a, b] := by
  simp only [beVal, List.foldl, beBytes, List.nil_append, List.cons_append]
  congr 1
  · omega
  · congr 1; omega

/-- **what is echoed is what was received**: the code and reason `Close.from_payload` extracts
    from a received Close payload rebuild exactly that payload; no surrogate, code < 65536 -/
theorem closeFromPayload_echo (payload : Bytes) (hwf : Bytes.WF payload) (code : Option Nat) (reason : List Nat)
    (h : closeFromPayload payload = .ok (.close code reason)) :
    buildClosePayload code (encodeReplace reason) = payload ∧ hasSurrogate reason = false ∧
      (∀ c, code = some c → c < 65536) := by
  unfold closeFromPayload at h
  split at h
  · cases h
  · split at h
    · rename_i h1 h2
      simp only [] at h
      split at h
      · cases h
      · split at h
        · cases h
        · rename_i cps hdec
          cases h
          obtain ⟨henc, hsc⟩ := Utf8.encode_decode _ _ hdec
          have hns : hasSurrogate reason = false := by
            rw [hasSurrogate_false_iff]
            intro c hc
            have := hsc c hc
            simp only [Utf8.isScalar, Bool.or_eq_true, Bool.and_eq_true, decide_eq_true_eq] at this
            omega
          match payload, h2, hwf, henc with
          | a :: b :: rest, _, hwf, henc =>
            have ha : a < 256 := hwf a (by simp)
            have hb : b < 256 := hwf b (by simp)
            refine ⟨?_, hns, ?_⟩
            · rw [encodeReplace_eq _ hns, henc]
              simp only [buildClosePayload, List.take, List.drop]
              rw [beBytes2_beVal a b ha hb]; rfl
            · intro c hc
              cases hc
              simp only [List.take, beVal, List.foldl]
              omega
    · rename_i h1 h2
      cases h
      have : payload = [] := by
        cases payload with
        | nil => rfl
        | cons a r => simp only [List.length_cons] at h1 h2; omega
      subst this
      exact ⟨rfl, rfl, fun c hc => by cases hc⟩

theorem onEof_shut (s : Sys) (h : Shut s) : onEof s = .ok false s := by
  unfold onEof
  rcases h with h | h <;> simp [h]

/-- **EOF (or a dead socket) during the closing handshake is not an error** -/
theorem recvStep_eof_shut (s : Sys) (h : Shut s) : recvStep .eof s = .ok false s := by
  unfold recvStep
  split
  · exact onEof_shut s h
  · exact onEof_shut s h

theorem loop_eof_shut (dt : Nat) (rest : List EnvStep) (s s2 : Sys) (hcd : s.closed = false)
    (hreg : regularTop (tick s dt) = .ok () s2) (hs : Shut s2) :
    loop (.wait dt (some .eof) :: rest) s = .ok () s2 := by
  unfold loop
  simp only [hcd, hreg, recvStep_eof_shut s2 hs]
  simp

theorem loop_step_closed (dt : Nat) (o : RecvOutcome) (rest : List EnvStep) (s s2 s3 : Sys) (b : Bool)
    (hcd : s.closed = false) (hreg : regularTop (tick s dt) = .ok () s2)
    (hrecv : recvStep o s2 = .ok b s3) (h3 : s3.closed = true) :
    loop (.wait dt (some o) :: rest) s = .ok () s3 := by
  unfold loop
  simp only [hcd, hreg, hrecv]
  cases b
  · simp
  · simp [loop_closed rest s3 h3]

/-- **the graceful end**: the socket is closed, then `Disconnected('closed', graceful=True)` is
    handed to the application -/
theorem onLoopEnd_none_eq (s : Sys) :
    onLoopEnd none s =
      doActs (s.react (.disconnected "closed" true :: s.hist))
        (handed (.disconnected "closed" true) (sockClosed s)) := by
  show (closeSocket >>= fun _ => yieldEv (.disconnected "closed" true)) s = _
  rw [bind_ok (closeSocket_eq s), yieldEv_eq]
  unfold sockClosed handed
  split <;> rfl

theorem onLoopEnd_none_state (s : Sys) :
    (onLoopEnd none s).state.sockOpen = false ∧
    ∃ l, (onLoopEnd none s).state.trace = l ++ .ev (.disconnected "closed" true) :: (sockClosed s).trace := by
  rw [onLoopEnd_none_eq]
  have st := step_doActs (s.react (.disconnected "closed" true :: s.hist))
    (handed (.disconnected "closed" true) (sockClosed s))
  exact ⟨st.sockMono (sockClosed_sockOpen s), st.traceExt⟩

/-- `close()` before the upgrade request is written (at `Connecting`): the request is refused,
    the connection attempt ends with `ConnectFail('request-failed')`, nothing is written -/
theorem afterConnect_shut (proxy : Bool) (s : Sys) (h : Shut s) :
    afterConnect proxy s =
      (do closeSocket; yieldEv (.connectFail "request-failed") : M Unit) { s with sockOpen := true } := by
  unfold afterConnect
  rw [modS_bind]
  rw [getS_bind]
  rw [bind_ok (write_refused s.cfg.request none { s with sockOpen := true } h)]
  simp only [refusal_wsError, if_true]

theorem onOut_close_frame (f : Frame) (hop : f.opcode = 8) (code : Option Nat) (reason : List Nat)
    (hp : closeFromPayload f.payload = .ok (.close code reason)) (s : Sys)
    (hz : f.rsv1 = 0 ∨ s.decompress = false) :
    onOut (.frame f) s = (do onClose code reason; notClosed : M Bool) s := by
  unfold onOut onFrame
  have hctl : f.isControl = true := by simp [Frame.isControl, hop]
  simp only [hctl, if_true]
  show ((buildMessage [f] >>= fun m => onMessage m) >>= fun _ => notClosed) s = _
  have : (buildMessage [f] >>= fun m => onMessage m) s = onClose code reason s := by
    rw [bind_ok (show buildMessage [f] s = .ok (.close code reason) s by rw [buildMessage_closeV f hop s hz, hp]; rfl)]; rfl
  exact bind_congr_at this

/-- **client closed first, then the server's Close arrives**: whatever happens while the `Closed`
    event is handled, the websocket ends up closed, and `WebSocket.feed` stops iterating -/
theorem onClose_when_closing (code : Option Nat) (reason : List Nat) (s : Sys) (hv : ValidCode code)
    (hcg : s.closing = true) (hcd : s.closed = false) :
    feedYield true (.closed code reason) s
        = tryC reactThenRegular (afterYield true) (handed (.closed code reason) s) ∧
    (∀ s1, feedYield true (.closed code reason) s = .ok () s1 →
        onClose code reason s = .ok () { s1 with closing := false, closed := true }) ∧
    (onClose code reason s).state.closed = true ∧ (onClose code reason s).state.closing = false := by
  refine ⟨feedYield_eq true _ s s rfl, ?_, ?_⟩
  · intro s1 hy
    rw [onClose_closing_eq code reason s hv hcg hcd, bind_ok hy]; rfl
  · rw [onClose_closing_eq code reason s hv hcg hcd]
    cases hy : feedYield true (.closed code reason) s with
    | ok a s1 => rw [bind_ok hy]; exact ⟨rfl, rfl⟩
    | err x s1 => rw [bind_err hy]; exact feedYield_err _ _ _ _ hy

theorem onOut_close_when_closing (f : Frame) (hop : f.opcode = 8) (code : Option Nat) (reason : List Nat)
    (hp : closeFromPayload f.payload = .ok (.close code reason)) (s : Sys)
    (hz : f.rsv1 = 0 ∨ s.decompress = false) (hv : ValidCode code)
    (hcg : s.closing = true) (hcd : s.closed = false) :
    (onOut (.frame f) s).state.closed = true ∧ ∀ b s', onOut (.frame f) s = .ok b s' → b = false := by
  rw [onOut_close_frame f hop code reason hp s hz]
  obtain ⟨_, _, h3, _⟩ := onClose_when_closing code reason s hv hcg hcd
  cases hc : onClose code reason s with
  | ok a s1 =>
    rw [hc] at h3
    rw [bind_ok hc]
    simp only [Res.state_ok] at h3
    unfold notClosed
    simp [h3]
  | err x s1 =>
    rw [hc] at h3
    rw [bind_err hc]
    exact ⟨h3, fun b s' h => by cases h⟩

/-- `close()` without a socket (before `Connected`): `WebSocketUnavailable` is swallowed, nothing is
    written, the websocket is closing -/
theorem wsClose_no_socket (code : Option Nat) (reason : Arg) (rb : Bytes) (s : Sys)
    (hr : reasonBytes reason = some rb) (ha : CloseArgsOk code rb)
    (hso : s.sockOpen = false) (hcg : s.closing = false) (hcd : s.closed = false) :
    ∃ s', wsClose code reason s = .ok .ok s' ∧ s'.trace = s.trace ∧ s'.closing = true := by
  have hlen : ¬ (buildClosePayload code rb).length > 125 := Nat.not_lt_of_le ha.2
  have hsend : sendFrame Gen.opClose (buildClosePayload code rb) none s
      = .ok .wsUnavailable { s with keyCtr := s.keyCtr + 1 } := by
    unfold sendFrame
    simp only [build_close _ _ ha.2]
    unfold write; simp [hso]
  rw [wsClose_live code reason s hcd hcg, ← reasonBytes_eq, hr]
  simp only [codeTooBig_false.2 ha.1, hlen, hsend, Bool.false_eq_true, or_self, and_false, if_false]
  exact ⟨_, rfl, rfl, rfl⟩

namespace Ex

/-- `HTTP/1.1 101 Switching Protocols` / `Upgrade: websocket` / `Connection: Upgrade` /
    `Sec-WebSocket-Accept: abc` -/
def resp : Bytes :=
  [72, 84, 84, 80, 47, 49, 46, 49, 32, 49, 48, 49, 32, 83, 119, 105, 116, 99, 104, 105, 110, 103, 32, 80, 114, 111, 116,
   111, 99, 111, 108, 115, 13, 10, 85, 112, 103, 114, 97, 100, 101, 58, 32, 119, 101, 98, 115, 111, 99, 107, 101, 116, 13,
   10, 67, 111, 110, 110, 101, 99, 116, 105, 111, 110, 58, 32, 85, 112, 103, 114, 97, 100, 101, 13, 10, 83, 101, 99, 45,
   87, 101, 98, 83, 111, 99, 107, 101, 116, 45, 65, 99, 99, 101, 112, 116, 58, 32, 97, 98, 99, 13, 10, 13, 10]

/-- request `GET`, expected accept value `abc`, no automatic pings -/
def cfg : Cfg := { challenge := [97, 98, 99], request := [71, 69, 84], pingRate := 0 }

/-- a connected websocket in the frames phase -/
def opened (react : React := fun _ => []) : Sys :=
  { cfg := cfg, react := react, env := [], sockOpen := true, p := { cont := .hdr2, remPred := 1 } }

def closing (react : React := fun _ => []) : Sys := { opened react with closing := true }

/-- client closes at `Ready` (then tries to send, and later to send and close again) -/
def reactClient : React := fun hist =>
  match hist with
  | .ready _ _ :: _ => [.close (some 1000) (.bytes [98, 121, 101]), .sendBinary (.bytes [1]) false]
  | .text _ :: _ => [.sendText (.str [104]) false, .close (some 1001) (.bytes [])]
  | _ => []

/-- handshake reply, Text `hi`, the server's Close 1000 -/
def envClient : List EnvStep :=
  [.wait 0 (some (.data resp)), .wait 1 (some (.data [0x81, 2, 104, 105])), .wait 1 (some (.data [0x88, 2, 3, 232]))]

/-- sends during `Closing`, and once more at `Disconnected` -/
def reactServer : React := fun hist =>
  match hist with
  | .closing _ _ :: _ => [.sendBinary (.bytes [7]) false]
  | .disconnected _ _ :: _ => [.sendBinary (.bytes [9]) false]
  | _ => []

/-- handshake reply, the server's Close 1000 `ok`, EOF -/
def envServer : List EnvStep :=
  [.wait 0 (some (.data resp)), .wait 1 (some (.data [0x88, 4, 3, 232, 111, 107])), .wait 1 (some .eof)]

/-- handshake reply, the server's empty Close, EOF -/
def envServerEmpty : List EnvStep :=
  [.wait 0 (some (.data resp)), .wait 1 (some (.data [0x88, 0])), .wait 1 (some .eof)]

/-- answers a Text with a Text -/
def reactText : React := fun hist =>
  match hist with
  | .text _ :: _ => [.sendText (.str [111]) false]
  | _ => []

/-- closes at `Connecting` -/
def reactEarly : React := fun hist =>
  match hist with
  | [.connecting] => [.close (some 1000) (.bytes [])]
  | _ => []

/-- the server's Close 1000 without reason, as a parsed frame -/
def closeFrame1000 : Frame := { opcode := 8, payload := [3, 232] }

end Ex

end Lomond.Core
