/-
  C12 for the general socket, variant `closeAtomic`: every `close()` that has returned leaves the
  connection closing or closed — its write may have succeeded, failed at any chunk (`TransportFail`
  swallowed by `_send_close`) or never been attempted.  At the end: the close invariants along every run from a fresh
  state (`closeN_reach`), and the statements of C12 for every socket read off them.
-/
import Lomond.Proofs.ThreadsNC

namespace Lomond.Threads
open Lomond

/-- a `closing = True` that stands outside the lock is still ahead (the one `WebSocket.close` executes
    after `_send_close` has returned, whatever happened to the write) -/
def owes : List Step → Bool
  | [] => false
  | .setClosing true :: r => !holds r || owes r
  | _ :: r => owes r

def Call.isClose : Call → Bool
  | .close _ _ => true
  | .onClose _ _ => true
  | _ => false

theorem compile_owes (v : Variant) (cfg : Cfg) (call : Call) (h : call.isClose = true) :
    owes (compile v cfg call) = true := by
  cases call <;> simp only [Call.isClose] at h <;> try cases h
  all_goals
    simp only [compile, closeBody, writeProg, checks]
    (repeat' split) <;> rfl

theorem owes_cons (st : Step) (r : List Step) (h : st ≠ .setClosing true) : owes (st :: r) = owes r := by
  cases st <;> first | rfl | skip
  rename_i b; cases b <;> first | rfl | exact absurd rfl h

/-- leaving the critical section through the release does not skip the store outside the lock -/
theorem owes_toRelease (r : List Step) (h : holds r = true) : owes (toRelease r) = owes r := by
  induction r with
  | nil => rfl
  | cons s r ih =>
    cases s with
    | release => rfl
    | acquire => simp [holds] at h
    | setClosing b =>
      have h' : holds r = true := by simpa [holds] using h
      cases b with
      | true => simp only [toRelease, owes, h', Bool.not_true, Bool.false_or]; exact ih h'
      | false => simp only [toRelease, owes]; exact ih h'
    | _ => simp only [toRelease, owes]; exact ih (by simpa [holds] using h)

def flag (sh : Shared) : Prop := sh.closing = true ∨ sh.closed = true

theorem exec_rest_noflag (v : Variant) (t : Tid) (st : Step) (r : List Step) (sh : Shared) (c : Cur)
    (h1 : sh.closing = false) (h2 : sh.closed = false) (hw : isWrite st = false) :
    (exec v t st r sh c).2.rest = r ∨ ((exec v t st r sh c).2.rest = toRelease r ∧ inOnly st = true) ∨
      (∃ a, st = .brIfErr a) := by
  cases st <;> first | (cases hw; done) | (simp [exec, h1, h2, inOnly] <;> (try split) <;> simp)

theorem owes_noSC (r : List Step) (h : noSC r = true) : owes r = false := by
  induction r with
  | nil => rfl
  | cons s r ih =>
    simp only [noSC, List.all_cons, Bool.and_eq_true] at h
    have h2 : noSC r = true := h.2
    cases s with
    | setClosing b => cases b <;> first | exact ih h2 | (have := h.1; simp at this)
    | _ => exact ih h2

structure KInv (v : Variant) (cfg : Cfg) (s : State) : Prop where
  kcur : ∀ (t : Tid) (c : Cur) (call : Call), (s.th t).current v cfg = some c → (s.th t).prog[c.idx]? = some call →
    call.isClose = true → flag s.sh ∨ owes c.rest = true
  kres : ∀ (t : Tid) (i : Nat) (r : Result) (call : Call), (s.th t).results[i]? = some r → (s.th t).prog[i]? = some call →
    call.isClose = true → flag s.sh

theorem kInv_fresh (v : Variant) (cfg : Cfg) {s : State} (F : Fresh s) : KInv v cfg s := by
  constructor
  · intro t c call hc hcall hcl
    rcases current_cases hc with h | ⟨_, call2, hp, rfl⟩
    · rw [F.cur] at h; cases h
    · simp only at hcall
      rw [hp] at hcall; cases hcall
      exact Or.inr (compile_owes v cfg call hcl)
  · intro t i r call h; rw [F.results] at h; simp at h

theorem kInv_after (v : Variant) (cfg : Cfg) (s : State) (t : Tid) (c : Cur) (p : Shared × Cur)
    (M : MsgInv v cfg s) (K : KInv v cfg s) (hc : (s.th t).current v cfg = some c)
    (hi : p.2.idx = c.idx)
    (hstable : flag s.sh → flag p.1)
    (hself : ∀ call, (s.th t).prog[c.idx]? = some call → call.isClose = true → flag p.1 ∨ owes p.2.rest = true) :
    KInv v cfg (setTh s t (settle (s.th t) p.2) p.1) := by
  have hh := current_not_halted hc
  have hidx := (cur_facts M hc).1
  constructor
  · intro u c2 call hc2 hcall hcl
    rw [setTh_sh]
    rw [prog_after] at hcall
    by_cases hu : u = t
    · subst hu
      rw [setTh_same] at hc2
      rcases current_cases hc2 with h | ⟨_, call4, hp4, rfl⟩
      · obtain ⟨_, rfl⟩ := settle_cur _ _ _ h
        rw [hi] at hcall; exact hself call hcall hcl
      · simp only at hcall ⊢
        rw [settle_prog] at hp4
        rw [hp4] at hcall; cases hcall
        exact Or.inr (compile_owes v cfg call hcl)
    · rw [setTh_other _ _ _ _ _ hu] at hc2
      rcases K.kcur u c2 call hc2 hcall hcl with h | h
      · exact Or.inl (hstable h)
      · exact Or.inr h
  · intro u i r call hr hcall hcl
    rw [setTh_sh]
    rw [prog_after] at hcall
    by_cases hu : u = t
    · subst hu
      rw [setTh_same] at hr
      rcases (settle_results_iff _ _ _ _).mp hr with h | ⟨hfin, hi0, _⟩
      · exact hstable (K.kres u i r call h hcall hcl)
      · have hieq : i = c.idx := by have := M.len u; omega
        rw [hieq] at hcall
        rcases hself call hcall hcl with h | h
        · exact h
        · rw [hfin] at h; cases h
    · rw [setTh_other _ _ _ _ _ hu] at hr
      exact hstable (K.kres u i r call hr hcall hcl)

theorem flag_stable (v : Variant) (t : Tid) (st : Step) (r : List Step) (sh : Shared) (c : Cur)
    (hclear : atClear (st :: r) = true → sh.closed = true) (h : flag sh) : flag (exec v t st r sh c).1 := by
  obtain ⟨h1, h2⟩ := exec_flags v t st r sh c
  unfold flag
  rw [h1, h2]
  cases st with
  | setClosed => exact Or.inr rfl
  | setClosing b =>
    cases b with
    | true => exact Or.inl rfl
    | false => exact Or.inr (hclear rfl)
  | _ => exact h

theorem kInv_stepN (env : Env) (v : Variant) (cfg : Cfg) (s : State) (t : Tid) (B : BaseN v cfg s)
    (I : CInvN v cfg s) (K : KInv v cfg s) (hva : v.closeAtomic = true) :
    KInv v cfg (stepN env v cfg s t) := by
  rcases stepN_entry env v cfg s t with e | ⟨c, st, r, hc, hr, _, _, hv, e⟩
  · rw [e]; exact K
  · rw [e]
    have d : disc (st :: r) = true := hv ▸ B.L.disc t
    have hclear : atClear (st :: r) = true → s.sh.closed = true := fun h => I.i1 t (by rw [hv]; exact h)
    have hfl : flag s.sh → flag (execN env v t st r s.sh c).1 := by
      intro h; rw [(execN_frame env v t st r s.sh c).1]; exact flag_stable v t st r s.sh c hclear h
    refine kInv_after v cfg s t c _ B.M K hc (execN_frame env v t st r s.sh c).2 hfl ?_
    intro call hcall hcl
    rcases K.kcur t c call hc hcall hcl with h | h
    · exact Or.inl (hfl h)
    · rw [hr] at h
      by_cases hst : st = .setClosing true
      · subst hst; exact Or.inl (Or.inl rfl)
      · rw [owes_cons st r hst] at h
        cases h1 : s.sh.closing with
        | true => exact Or.inl (hfl (Or.inl h1))
        | false =>
          cases h2 : s.sh.closed with
          | true => exact Or.inl (hfl (Or.inr h2))
          | false =>
            right
            cases hw : isWrite st with
            | true =>
              rcases movesN_write (execN_moves env v t st r s.sh c) hw with e3 | e3 | e3 <;> rw [e3]
              · exact h
              · rw [owes_toRelease r (disc_write d hw)]; exact h
              · rw [owes_cons st r hst]; exact h
            | false =>
              rw [execN_not_write env v t st r s.sh c hw]
              rcases exec_rest_noflag v t st r s.sh c h1 h2 hw with e3 | ⟨e3, hin⟩ | ⟨a, e3⟩
              · rw [e3]; exact h
              · rw [e3, owes_toRelease r]
                · exact h
                · have := inOnly_holds d hin
                  cases st <;> simp only [inOnly] at hin <;> first | (cases hin; done) | simpa [holds] using this
              · -- the branch after the request write: no `close()` program contains it
                subst e3
                have cd : cdisc (Step.brIfErr a :: r) = true := hv ▸ B.P.cdisc hva t
                simp only [cdisc, cNext, Bool.and_eq_true] at cd
                rw [owes_noSC r cd.1.2] at h; cases h

theorem closeN_reach (env : Env) (v : Variant) (cfg : Cfg) {s : State} (F : Fresh s) (hva : v.closeAtomic = true)
    (sched : List Tid) :
    BaseN v cfg (runN env v cfg s sched) ∧ CInvN v cfg (runN env v cfg s sched) ∧ KInv v cfg (runN env v cfg s sched) :=
  runN_keeps (I := fun s => BaseN v cfg s ∧ CInvN v cfg s ∧ KInv v cfg s)
    (fun s t h => ⟨baseN_step env v cfg s t h.1, cInvN_stepN env v cfg s t hva h.1 h.2.1,
      kInv_stepN env v cfg s t h.1 h.2.1 h.2.2 hva⟩) s sched ⟨baseN_fresh v cfg F, cInvN_fresh v cfg F, kInv_fresh v cfg F⟩

/-- **C12 for every socket, from any fresh state**: at most one complete Close frame, nothing after its last chunk, a
    finished send wrote its complete frame iff it raised no error -/
theorem one_whole_close_of_fresh (env : Env) (v : Variant) (hv : v.closeAtomic = true) (cfg : Cfg) {s₀ : State}
    (F : Fresh s₀) (sched : List Tid) :
    let s := runN env v cfg s₀ sched
    closeCount s.sh.wire ≤ 1 ∧
    (∀ pre post x, s.sh.wire = pre ++ x :: post → x.second = true → isClose x = true → post = []) ∧
    (∀ (t : Tid) (i : Nat) (r : Result), (s.th t).results[i]? = some r →
      ∃ call, (s₀.th t).prog[i]? = some call ∧ (r.err ≠ none → r.wrote = false) ∧
        (call.isSend = true → (r.wrote = true ↔ r.err = none))) := by
  intro s
  obtain ⟨B, I, _⟩ := closeN_reach env v cfg F hv sched
  exact ⟨nawc_count _ I.i5, fun pre post x => nawc_spec _ I.i5 pre post x,
    B.results_sound (runN_prog env v cfg s₀ sched)⟩

theorem close_ends_closing_of_fresh (env : Env) (v : Variant) (hv : v.closeAtomic = true) (cfg : Cfg) {s₀ : State}
    (F : Fresh s₀) (sched : List Tid) (t : Tid)
    (i : Nat) (r : Result) (call : Call) :
    let s := runN env v cfg s₀ sched
    (s.th t).results[i]? = some r → (s₀.th t).prog[i]? = some call → call.isClose = true →
      s.sh.closing = true ∨ s.sh.closed = true := by
  intro s hr hcall hcl
  exact (closeN_reach env v cfg F hv sched).2.2.kres t i r call hr (by rw [runN_prog]; exact hcall) hcl

end Lomond.Threads
