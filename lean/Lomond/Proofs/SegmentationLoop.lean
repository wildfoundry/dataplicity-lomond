/-
  C02 at the level of the session loop (`Core.loop`, `runBody`): two reads `a`, `b` without the clock moving in
  between are one read `a ++ b` (`loop_two_reads`), hence `loop_segmentation` for bursts of reads.  Between two
  reads, unlike between two bites of one read (`wsFeed_cut`), `selector.wait` returns, `_regular()` runs, the loop
  tests `websocket.is_closed` and `_recv` tests that the socket exists.  None of it shows: `_regular()` is the
  identity on a `Settled` state, which every returning `_regular()` (poll > 0) and `feed` leave behind; a closed
  websocket ignores what is fed; the socket is gone with the websocket open only after `session.close()`.
-/
import Lomond.Proofs.Segmentation
import Lomond.Proofs.PingGrid
import Lomond.Proofs.Monitor
import Lomond.Proofs.Calls
namespace Lomond.Core.SegLoop
open Lomond Lomond.Core Lomond.Core.Lift Lomond.Core.Pong Lomond.Core.Timers

/-- every field `_regular()` looks at is unchanged -/
structure TK (s s' : Sys) : Prop where
  cfg : s'.cfg = s.cfg
  ready : s'.ready = s.ready
  pollStart : s'.pollStart = s.pollStart
  nextPing : s'.nextPing = s.nextPing
  lastPong : s'.lastPong = s.lastPong
  startTime : s'.startTime = s.startTime
  now : s'.now = s.now
  sentCloseTime : s'.sentCloseTime = s.sentCloseTime

theorem tk_po : PO TK where
  refl _ := ⟨rfl, rfl, rfl, rfl, rfl, rfl, rfl, rfl⟩
  trans h1 h2 := ⟨h2.cfg.trans h1.cfg, h2.ready.trans h1.ready, h2.pollStart.trans h1.pollStart,
    h2.nextPing.trans h1.nextPing, h2.lastPong.trans h1.lastPong, h2.startTime.trans h1.startTime,
    h2.now.trans h1.now, h2.sentCloseTime.trans h1.sentCloseTime⟩

theorem TK.sessionTime {s s' : Sys} (h : TK s s') : sessionTime s' = sessionTime s := by
  unfold Core.sessionTime; rw [h.startTime, h.now]

theorem tk_sendFrame (op : Nat) (pl : Bytes) (c : Option Bytes) : Spec TK (sendFrame op pl c) :=
  spec_sendFrame tk_po op pl c (fun _ => ⟨rfl, rfl, rfl, rfl, rfl, rfl, rfl, rfl⟩)
    (fun d => spec_write tk_po d _ (fun _ _ _ _ _ _ => ⟨rfl, rfl, rfl, rfl, rfl, rfl, rfl, rfl⟩))

theorem tk_onDisconnect : Spec TK onDisconnect :=
  spec_onDisconnect tk_po (spec_closeSocket tk_po (fun _ _ => ⟨rfl, rfl, rfl, rfl, rfl, rfl, rfl, rfl⟩))
    (fun _ => ⟨rfl, rfl, rfl, rfl, rfl, rfl, rfl, rfl⟩)

/-- `_regular()` has nothing to do.  `quiet` only once the websocket is ready: before that `_regular()`
    is not run at all; `poll > 0`, because with `poll = 0` a Poll event is due at every evaluation -/
structure Settled (s : Sys) : Prop where
  poll : 0 < s.cfg.poll
  quiet : s.ready = true →
    (∃ p, s.pollStart = some p ∧ sessionTime s - p < s.cfg.poll) ∧
    ¬ pingDue s ∧ ¬ pingTimeoutDue s ∧ ¬ closeTimeoutDue s

theorem regular_settled (s : Sys) (h : Settled s) : regular s = .ok () s := by
  by_cases hr : s.ready = true
  · obtain ⟨⟨p, hp, hlt⟩, h2, h3, h4⟩ := h.quiet hr
    rw [regular_ready s hr, bind_ok (checkPoll_quiet s p hp hlt), bind_ok (checkAutoPing_quiet s h2),
      bind_ok (checkPingTimeout_quiet s h3)]
    exact checkCloseTimeout_quiet s h4
  · exact regular_not_ready s (by simpa using hr)

theorem settled_of_tk {s s' : Sys} (k : TK s s') (h : Settled s) : Settled s' := by
  refine ⟨by rw [k.cfg]; exact h.poll, fun hr => ?_⟩
  obtain ⟨⟨p, hp, hlt⟩, h2, h3, h4⟩ := h.quiet (k.ready ▸ hr)
  have ht := k.sessionTime
  refine ⟨⟨p, by rw [k.pollStart]; exact hp, by rw [ht, k.cfg]; exact hlt⟩, ?_, ?_, ?_⟩
  · unfold pingDue at *; rw [ht, k.cfg, k.nextPing]; exact h2
  · unfold pingTimeoutDue at *; rw [ht, k.cfg, k.lastPong]; exact h3
  · unfold closeTimeoutDue at *; rw [ht, k.cfg, k.sentCloseTime]; exact h4

theorem checkPoll_post {s sa : Sys} (hp : 0 < s.cfg.poll) (h : checkPoll s = .ok () sa) :
    (∃ p, sa.pollStart = some p ∧ sessionTime sa - p < sa.cfg.poll) ∧ sa.cfg = s.cfg ∧
      sa.ready = s.ready := by
  by_cases hd : pollDue s
  · rw [checkPoll_fires s hd, yieldEv_eq] at h
    have q : QuietP (pushEv .poll (pollMark s)) sa := (quietP_doActs _).ok h
    have hps : sa.pollStart = some (sessionTime s) := q.pollStart
    have hst : sa.startTime = s.startTime := q.startTime
    have hnow : sa.now = s.now := q.now
    have hcfg : sa.cfg = s.cfg := q.cfg
    have ht : sessionTime sa = sessionTime s := by unfold Core.sessionTime; rw [hst, hnow]
    exact ⟨⟨_, hps, by rw [ht, hcfg]; omega⟩, hcfg, q.ready⟩
  · obtain ⟨p0, hps, hlt⟩ := not_pollDue hd
    rw [checkPoll_quiet s p0 hps hlt] at h
    cases h
    exact ⟨⟨p0, hps, hlt⟩, rfl, rfl⟩

theorem checkAutoPing_post {s sb : Sys} (h : checkAutoPing s = .ok () sb) :
    ¬ pingDue sb ∧ sb.cfg = s.cfg ∧ sb.ready = s.ready ∧ sb.pollStart = s.pollStart ∧
      sessionTime sb = sessionTime s := by
  by_cases hd : pingDue s
  · rw [checkAutoPing_fires s hd] at h
    obtain ⟨_, s1, h1, h2⟩ := bind_ok_inv h
    have e : s1 = sb := by cases h2; rfl
    subst e
    have k : TK (pingMark s) s1 := (tk_sendFrame _ _ _).ok h1
    have ht : sessionTime s1 = sessionTime s := k.sessionTime
    have hc : s1.cfg = s.cfg := k.cfg
    refine ⟨?_, hc, k.ready, k.pollStart, ht⟩
    intro hd1
    obtain ⟨hr, hgt⟩ := hd1
    have hn : s1.nextPing = ceilDiv (sessionTime s) s.cfg.pingRate * s.cfg.pingRate := k.nextPing
    have := le_ceilDiv_mul (sessionTime s) s.cfg.pingRate (Nat.pos_of_ne_zero hd.1)
    rw [ht, hn] at hgt
    omega
  · rw [checkAutoPing_quiet s hd] at h
    cases h
    exact ⟨hd, rfl, rfl, rfl, rfl⟩

theorem checkPingTimeout_post {s sc : Sys} (h : checkPingTimeout s = .ok () sc) :
    ¬ pingTimeoutDue s ∧ sc = s := by
  by_cases hd : pingTimeoutDue s
  · obtain ⟨_, _, x, s1, he⟩ := checkPingTimeout_due s hd
    rw [he] at h; cases h
  · rw [checkPingTimeout_quiet s hd] at h
    cases h; exact ⟨hd, rfl⟩

theorem checkCloseTimeout_post {s sd : Sys} (h : checkCloseTimeout s = .ok () sd) :
    ¬ closeTimeoutDue s ∧ sd = s := by
  by_cases hd : closeTimeoutDue s
  · rw [checkCloseTimeout_fires s hd] at h; cases h
  · rw [checkCloseTimeout_quiet s hd] at h
    cases h; exact ⟨hd, rfl⟩

/-- a returning `_regular()` has just yielded the Poll that was due, sent the Ping that was due, and
    found no timeout expired -/
theorem regular_establishes {s s' : Sys} (hp : 0 < s.cfg.poll) (h : regular s = .ok () s') :
    Settled s' := by
  by_cases hr : s.ready = true
  · rw [regular_ready s hr] at h
    obtain ⟨_, sa, ha, h1⟩ := bind_ok_inv h
    obtain ⟨_, sb, hb, h2⟩ := bind_ok_inv h1
    obtain ⟨_, sc, hc, h3⟩ := bind_ok_inv h2
    obtain ⟨⟨p, hps, hlt⟩, hcfga, hra⟩ := checkPoll_post hp ha
    obtain ⟨hnd, hcfgb, hrb, hpsb, htb⟩ := checkAutoPing_post hb
    obtain ⟨hnt, e1⟩ := checkPingTimeout_post hc
    subst e1
    obtain ⟨hnc, e2⟩ := checkCloseTimeout_post h3
    subst e2
    refine ⟨by rw [hcfgb, hcfga]; exact hp, fun _ => ⟨⟨p, by rw [hpsb]; exact hps, ?_⟩, hnd, hnt, hnc⟩⟩
    rw [htb, hcfgb]; exact hlt
  · have hr' : s.ready = false := by simpa using hr
    rw [regular_not_ready s hr'] at h
    cases h
    exact ⟨hp, fun h1 => absurd h1 hr⟩

/-! `Proofs/Lift.lean` lifts a relation that holds for *every* final state.  `Settled` (and "the
  socket exists unless the websocket is closed") only hold when the step *returns*: an exception
  may leave `_regular()` half-way.  Between two reads only normal returns matter, so here the
  relation is required along `.ok` results only; exception handlers of the pipeline
  (`feedHandler`, `unwrapOuter`, the finaliser of `feedYield`) always re-raise. -/

def OkSpec (R : Sys → Sys → Prop) (m : M α) : Prop := ∀ s a s', m s = .ok a s' → R s s'

section lift
variable {R : Sys → Sys → Prop}

theorem ok_of_spec {m : M α} (h : Spec R m) : OkSpec R m := fun _ _ _ e => h.ok e

structure OkLeaves (R : Sys → Sys → Prop) : Prop where
  po : PO R
  inert : ∀ s s', Inert s s' → (s.closed = true → s'.closed = true) → R s s'
  onDisconnect : OkSpec R onDisconnect
  wsClose : ∀ c r, OkSpec R (wsClose c r)
  feedYield : ∀ b e, Lift.isFeedEvent e = true → OkSpec R (feedYield b e)

theorem okSpec_iff (po : PO R) {m : M α} : OkSpec R m ↔ ∀ s0, LiftX.SpecX (R s0) (fun _ _ => True) m :=
  ⟨fun h _ => LiftX.specx_normal_iff.mpr fun s a s' hs e => po.trans hs (h s a s' e),
   fun h s _ _ e => (h s).ok (po.refl s) e⟩

theorem OkLeaves.pipe (T : OkLeaves R) (s0 : Sys) : LiftX.PipeX (R s0) (fun _ _ => True) where
  inert := fun s s' h hs => T.po.trans hs (T.inert s s' h.inert (fun hc => h.closed.trans hc))
  boring := fun _ _ _ _ => trivial
  handler := fun x s _ => by
    obtain ⟨y, s', e⟩ := feedHandler_never_ok x s
    rw [e]; trivial
  reject := fun _ => LiftX.specx_bind ((okSpec_iff T.po).mp T.onDisconnect s0) (fun _ =>
    LiftX.specx_bind ((okSpec_iff T.po).mp (T.feedYield true _ rfl) s0) (fun _ => LiftX.specx_pure _))
  onClose := fun c r => LiftX.specx_onClose (fun _ _ _ _ => trivial) c r
    ((okSpec_iff T.po).mp (T.feedYield _ _ rfl) s0) ((okSpec_iff T.po).mp (T.feedYield _ _ rfl) s0)
    ((okSpec_iff T.po).mp (T.wsClose _ _) s0)
    (fun s hs => T.po.trans hs (T.inert _ _ (by constructor <;> rfl) (fun _ => rfl)))
    (fun s hs => T.po.trans hs (T.inert _ _ (by constructor <;> rfl) id))
  feedYield := fun e he _ _ => (okSpec_iff T.po).mp (T.feedYield true e he) s0

theorem ok_feedLoop (T : OkLeaves R) (data : Bytes) : OkSpec R (feedLoop data) :=
  (okSpec_iff T.po).mpr fun s0 => LiftX.pipe_feedLoop (T.pipe s0) data

theorem ok_wsFeed (T : OkLeaves R) (data : Bytes) : OkSpec R (wsFeed data) :=
  (okSpec_iff T.po).mpr fun s0 => LiftX.pipe_wsFeed (T.pipe s0) (fun x s _ => by
    obtain ⟨y, e⟩ := unwrapOuter_err x s
    rw [e]; trivial) data

end lift

def RS (s s' : Sys) : Prop := Settled s → Settled s'

theorem rs_po : PO RS := Monitor.pres_po _

/-- sending our Close now does not make the close timeout due now (`close_timeout` is 0 =
    disabled, or at least one tick) -/
theorem settled_markClosing (s : Sys) (h : Settled s) : Settled (markClosing s) := by
  refine ⟨h.poll, fun hr => ?_⟩
  obtain ⟨⟨p, hp, hlt⟩, h2, h3, h4⟩ := h.quiet hr
  refine ⟨⟨p, hp, hlt⟩, h2, h3, ?_⟩
  rintro ⟨h0, ct, hct, hge⟩
  have e1 : some (sessionTime s) = some ct := hct
  have e2 : sessionTime (markClosing s) = sessionTime s := rfl
  have e3 : (markClosing s).cfg.closeTimeout = s.cfg.closeTimeout := rfl
  simp only [Option.some.injEq] at e1
  rw [e2, e3] at hge
  rw [e3] at h0
  omega

theorem rs_wsClose (c : Option Nat) (r : Arg) : Spec RS (wsClose c r) :=
  spec_wsClose rs_po c r (fun _ s hs => settled_of_tk (tk_sendFrame _ _ _ s) hs) settled_markClosing

theorem rs_feedYield (inTry : Bool) (e : Event) : OkSpec RS (feedYield inTry e) := by
  intro s a s' h hs
  obtain ⟨s1, s2, h1, h2, h3⟩ := feedYield_ok_inv h
  have c1 : s1.cfg = s.cfg := ((step_leaves.onEvent e).ok h1).cfg
  have c2 : s2.cfg = s1.cfg := ((step_yieldEv e).ok h2).cfg
  exact regular_establishes (by rw [c2, c1]; exact hs.poll) h3

theorem rs_leaves : OkLeaves RS where
  po := rs_po
  inert := fun _ _ h _ hs => settled_of_tk
    ⟨h.cfg, h.ready, h.pollStart, h.nextPing, h.lastPong, h.startTime, h.now, h.sentCloseTime⟩ hs
  onDisconnect := ok_of_spec (fun s hs => settled_of_tk (tk_onDisconnect s) hs)
  wsClose := fun c r => ok_of_spec (rs_wsClose c r)
  feedYield := fun b e _ => rs_feedYield b e

/-- whatever `feed` does after the last `_regular()` of a read — parser and stream bookkeeping, the
    Close it answers a Close with, the state flags — leaves `_regular()` with nothing to do at the
    same clock value -/
theorem wsFeed_settled {d : Bytes} {s s' : Sys} (hs : Settled s) (h : wsFeed d s = .ok () s') :
    Settled s' := ok_wsFeed rs_leaves d s () s' h hs

/-- the application never calls `session.close()` -/
def NoSessionClose (r : React) : Prop := ∀ h, Act.sessionClose ∉ r h

structure K (b : Bool) (s s' : Sys) : Prop where
  p : s'.p = s.p
  closed : s'.closed = s.closed
  react : s'.react = s.react
  cfg : s'.cfg = s.cfg
  sock : b = true → s'.sockOpen = s.sockOpen

theorem k_po : PO (K true) where
  refl _ := ⟨rfl, rfl, rfl, rfl, fun _ => rfl⟩
  trans h1 h2 := ⟨h2.p.trans h1.p, h2.closed.trans h1.closed, h2.react.trans h1.react,
    h2.cfg.trans h1.cfg, fun hb => (h2.sock hb).trans (h1.sock hb)⟩

theorem k_write (d : Bytes) (z : Option (Nat × Bytes)) : Spec (K true) (write d z) :=
  spec_write k_po d z (fun _ _ _ _ _ _ => ⟨rfl, rfl, rfl, rfl, fun _ => rfl⟩)

theorem k_sendFrame (op : Nat) (pl : Bytes) (c : Option Bytes) : Spec (K true) (sendFrame op pl c) :=
  spec_sendFrame k_po op pl c (fun _ => ⟨rfl, rfl, rfl, rfl, fun _ => rfl⟩) (fun d => k_write d _)

theorem k_wsClose (c : Option Nat) (r : Arg) : Spec (K true) (wsClose c r) :=
  spec_wsClose k_po c r (k_sendFrame _ · none) (fun _ => ⟨rfl, rfl, rfl, rfl, fun _ => rfl⟩)

theorem k_doActs (as : List Act) (h : ∀ a ∈ as, a ≠ .sessionClose) : Spec (K true) (doActs as) :=
  spec_doActs k_po as (fun a ha => calls_doAct k_po k_sendFrame (fun _ _ _ => k_wsClose _ _)
    (fun e => absurd e (h a ha)) (fun _ _ => ⟨rfl, rfl, rfl, rfl, fun _ => rfl⟩)
    (fun _ _ _ => ⟨rfl, rfl, rfl, rfl, fun _ => rfl⟩))

/-- what `yield` and `_regular()` keep depends on what the application does when it is handed an event -/
def Under (A : React → Prop) (R : Sys → Sys → Prop) (s s' : Sys) : Prop := A s.react → R s s'

section under
variable {A : React → Prop} {R : Sys → Sys → Prop}

theorem under_po (po : PO R) (hr : ∀ {s s'}, R s s' → s'.react = s.react) : PO (Under A R) where
  refl s := fun _ => po.refl s
  trans := by
    intro x y z h1 h2 ha
    have k1 := h1 ha
    exact po.trans k1 (h2 (by rw [hr k1]; exact ha))

theorem under_of {m : M α} (h : Spec R m) : Spec (Under A R) m := fun s _ => h s

theorem under_yieldEv (po : PO R) (hpush : ∀ e s, R s (pushEv e s))
    (hacts : ∀ r, A r → ∀ h, Spec R (doActs (r h))) (e : Event) : Spec (Under A R) (yieldEv e) := by
  intro s ha
  rw [yieldEv_eq]
  exact po.trans (hpush e s) (hacts _ ha _ _)

theorem under_regular (po : PO (Under A R)) (hy : ∀ e, Spec (Under A R) (yieldEv e))
    (polled : ∀ s, R s { s with pollStart := some (sessionTime s) })
    (pinged : ∀ s, R s { s with nextPing := ceilDiv (sessionTime s) s.cfg.pingRate * s.cfg.pingRate })
    (ping : Spec R (sendFrame Gen.opPing [] none)) : Spec (Under A R) regular :=
  spec_regular po (spec_checkPoll po (fun s _ => polled s) (hy _))
    (spec_checkAutoPing po (fun s _ _ _ => pinged s) (under_of ping)) (spec_checkPingTimeout po (hy _))

end under

abbrev KR : Sys → Sys → Prop := Under NoSessionClose (K true)

theorem kr_po : PO KR := under_po k_po (·.react)

theorem kr_yieldEv (e : Event) : Spec KR (yieldEv e) :=
  under_yieldEv k_po (fun _ _ => ⟨rfl, rfl, rfl, rfl, fun _ => rfl⟩)
    (fun _ hn h => k_doActs _ (fun _ ha e1 => hn h (e1 ▸ ha))) e

/-- `_regular()` touches neither the parser nor the `closed` flag, and gives up the socket only if
    the application calls `session.close()` at the Poll or Unresponsive event -/
theorem kr_regular : Spec KR regular :=
  under_regular kr_po kr_yieldEv (fun _ => ⟨rfl, rfl, rfl, rfl, fun _ => rfl⟩)
    (fun _ => ⟨rfl, rfl, rfl, rfl, fun _ => rfl⟩) (k_sendFrame _ _ _)

theorem k_onEvent (e : Event) : Spec (K true) (onEvent e) :=
  spec_onEvent k_po e (fun _ _ _ _ => ⟨rfl, rfl, rfl, rfl, fun _ => rfl⟩)
    (fun _ _ _ => ⟨rfl, rfl, rfl, rfl, fun _ => rfl⟩) (fun _ _ _ s _ => k_sendFrame _ _ _ s)

theorem k_tick (s : Sys) (dt : Nat) : K true s (tick s dt) := by unfold tick; exact ⟨rfl, rfl, rfl, rfl, fun _ => rfl⟩

/-- `_recv` can still read: the socket exists, or the websocket is closed (and the loop ends) -/
def SockOK (s : Sys) : Prop := s.sockOpen = true ∨ s.closed = true

def Good (s : Sys) : Prop := NoSessionClose s.react ∧ SockOK s

def RG (s s' : Sys) : Prop := Good s → Good s'

theorem rg_po : PO RG := Monitor.pres_po _

theorem good_of_k {s s' : Sys} (k : K true s s') (h : Good s) : Good s' := by
  refine ⟨by rw [k.react]; exact h.1, ?_⟩
  unfold SockOK; rw [k.sock rfl, k.closed]; exact h.2

theorem rg_feedYield (inTry : Bool) (e : Event) : OkSpec RG (feedYield inTry e) := by
  intro s a s' h hg
  obtain ⟨s1, s2, h1, h2, h3⟩ := feedYield_ok_inv h
  have k1 : KR s s1 := (under_of (k_onEvent e)).ok h1
  have k2 : KR s1 s2 := (kr_yieldEv e).ok h2
  have k3 : KR s2 s' := kr_regular.ok h3
  exact good_of_k (kr_po.trans k1 (kr_po.trans k2 k3) hg.1) hg

theorem rg_leaves : OkLeaves RG where
  po := rg_po
  inert := by
    intro s s' h hc hg
    refine ⟨by rw [h.react]; exact hg.1, ?_⟩
    rcases hg.2 with h1 | h1
    · exact Or.inl (by rw [h.sockOpen]; exact h1)
    · exact Or.inr (hc h1)
  onDisconnect := by
    intro s a s' h hg
    exact ⟨by rw [((step_onDisconnect).ok h).react]; exact hg.1, Or.inr (onDisconnect_closed h)⟩
  wsClose := fun c r => ok_of_spec (fun s hg => good_of_k (k_wsClose c r s) hg)
  feedYield := fun b e _ => rg_feedYield b e

/-- **the socket outlives the read unless the websocket got closed**, for an application that
    never calls `session.close()`: within `WebSocket.feed` the library gives the socket up only in
    `on_disconnect()`, which also marks the websocket closed -/
theorem wsFeed_good {d : Bytes} {s s' : Sys} (hg : Good s) (h : wsFeed d s = .ok () s') : Good s' :=
  ok_wsFeed rg_leaves d s () s' h hg

theorem loop_selErr (rest : List EnvStep) (s : Sys) (hc : s.closed = false) :
    loop (.selErr :: rest) s = .err (.other "error") s := by
  unfold loop
  simp only [hc, Bool.false_eq_true, if_false]

theorem loop_wait (dt : Nat) (rd : Option RecvOutcome) (rest : List EnvStep) (s : Sys)
    (hc : s.closed = false) :
    loop (.wait dt rd :: rest) s =
      match regular (tick s dt) with
      | .err x s2 => .err x s2
      | .ok _ s2 =>
        match rd with
        | none => loop rest s2
        | some o =>
          match recvStep o s2 with
          | .err x s3 => .err x s3
          | .ok true s3 => loop rest s3
          | .ok false s3 => .ok () s3 := by
  rw [loop]
  simp only [hc, Bool.false_eq_true, if_false, regularTop]
  rfl

theorem recvStep_data (bs : Bytes) (s : Sys) (ho : s.sockOpen = true) (hne : bs ≠ []) :
    recvStep (.data bs) s =
      match wsFeed bs s with
      | .ok _ s' => .ok true s'
      | .err x s' => .err x s' := by
  unfold recvStep
  simp only [ho, not_true_eq_false, if_false, hne]
  rfl

theorem recvStep_noSock (o : RecvOutcome) (s : Sys) (ho : s.sockOpen = false) :
    recvStep o s = onEof s := by
  unfold recvStep
  simp only [ho, Bool.false_eq_true, not_false_eq_true, if_true]

theorem recvStep_true_inv {o : RecvOutcome} {s s' : Sys} (h : recvStep o s = .ok true s') :
    ∃ bs, wsFeed bs s = .ok () s' := by
  unfold recvStep onEof at h
  repeat' split at h
  all_goals first
    | (cases h <;> done)
    | (rename_i heq; cases h; exact ⟨_, heq⟩)

/-- **Two reads without the clock moving in between are one read.**  `dt` (the time the *first*
    `selector.wait` took) is arbitrary; the second wait returns at once.  The reads are non-empty because
    `recv` returning `b''` means end of stream.  `hsock`: if the first read's `feed` returns with the
    websocket still open, the socket still exists — i.e. the application did not call `session.close()`
    while handling the events of `a` (after which `_recv` reads nothing more: the bytes of `b` could not
    be received at all). -/
theorem loop_two_reads (dt : Nat) (a b : Bytes) (rest : List EnvStep) (s : Sys)
    (hp : 0 < s.cfg.poll) (ha : a ≠ []) (hb : b ≠ [])
    (hsock : ∀ s2 s3, regular (tick s dt) = .ok () s2 → wsFeed a s2 = .ok () s3 →
      s3.closed = false → s3.sockOpen = true) :
    loop (.wait dt (some (.data a)) :: .wait 0 (some (.data b)) :: rest) s =
      loop (.wait dt (some (.data (a ++ b))) :: rest) s := by
  by_cases hc : s.closed = true
  · rw [loop_closed _ _ hc, loop_closed _ _ hc]
  · have hc' : s.closed = false := by simpa using hc
    rw [loop_wait _ _ _ _ hc', loop_wait _ _ _ _ hc']
    cases hr : regular (tick s dt) with
    | err x s2 => rfl
    | ok u s2 =>
      simp only
      have hs2 : Settled s2 := regular_establishes (s := tick s dt) hp hr
      by_cases ho : s2.sockOpen = true
      · have hab : a ++ b ≠ [] := by simp [ha]
        rw [recvStep_data a s2 ho ha, recvStep_data (a ++ b) s2 ho hab, wsFeed_cut a b s2]
        cases hf : wsFeed a s2 with
        | err x s3 => rfl
        | ok u3 s3 =>
          simp only
          by_cases hc3 : s3.closed = true
          · rw [loop_closed _ _ hc3, wsFeed_closed s3 b hc3]
            simp only
            rw [loop_closed _ _ hc3]
          · have hc3' : s3.closed = false := by simpa using hc3
            have ho3 : s3.sockOpen = true := hsock s2 s3 hr hf hc3'
            have hs3 : Settled s3 := wsFeed_settled hs2 hf
            rw [loop_wait 0 _ rest s3 hc3', tick_zero, regular_settled s3 hs3]
            simp only
            rw [recvStep_data b s3 ho3 hb]
      · have ho' : s2.sockOpen = false := by simpa using ho
        rw [recvStep_noSock _ s2 ho', recvStep_noSock _ s2 ho']
        cases he : onEof s2 with
        | err x s3 => rfl
        | ok go s3 =>
          cases go with
          | false => rfl
          | true => exfalso; unfold onEof at he; split at he <;> cases he

structure Inv (s : Sys) : Prop where
  poll : 0 < s.cfg.poll
  good : Good s

theorem inv_regular_tick {s s2 : Sys} {dt : Nat} (h : Inv s) (hr : regular (tick s dt) = .ok () s2) :
    Inv s2 := by
  have k : K true s s2 :=
    k_po.trans (k_tick s dt) (kr_regular.ok hr h.good.1)
  exact ⟨by rw [k.cfg]; exact h.poll, good_of_k k h.good⟩

theorem inv_wsFeed {s s' : Sys} {d : Bytes} (h : Inv s) (hf : wsFeed d s = .ok () s') : Inv s' :=
  ⟨by rw [((step_wsFeed d).ok hf).cfg]; exact h.poll, wsFeed_good h.good hf⟩

theorem loop_two_reads_inv (dt : Nat) (a b : Bytes) (rest : List EnvStep) (s : Sys)
    (h : Inv s) (ha : a ≠ []) (hb : b ≠ []) :
    loop (.wait dt (some (.data a)) :: .wait 0 (some (.data b)) :: rest) s =
      loop (.wait dt (some (.data (a ++ b))) :: rest) s := by
  refine loop_two_reads dt a b rest s h.poll ha hb (fun s2 s3 hr hf hc3 => ?_)
  have g3 := (inv_wsFeed (inv_regular_tick h hr) hf).good
  rcases g3.2 with h1 | h1
  · exact h1
  · rw [hc3] at h1; cases h1

theorem loop_cons_congr (st : EnvStep) (e1 e2 : List EnvStep) (s : Sys) (hI : Inv s)
    (h : ∀ s', Inv s' → loop e1 s' = loop e2 s') : loop (st :: e1) s = loop (st :: e2) s := by
  by_cases hc : s.closed = true
  · rw [loop_closed _ _ hc, loop_closed _ _ hc]
  · have hc' : s.closed = false := by simpa using hc
    cases st with
    | selErr => rw [loop_selErr _ _ hc', loop_selErr _ _ hc']
    | wait dt rd =>
      rw [loop_wait _ _ _ _ hc', loop_wait _ _ _ _ hc']
      cases hr : regular (tick s dt) with
      | err x s2 => rfl
      | ok u s2 =>
        simp only
        have I2 : Inv s2 := inv_regular_tick hI hr
        cases rd with
        | none => exact h s2 I2
        | some o =>
          simp only
          cases hrs : recvStep o s2 with
          | err x s3 => rfl
          | ok go s3 =>
            cases go with
            | false => rfl
            | true =>
              simp only
              obtain ⟨bs, hf⟩ := recvStep_true_inv hrs
              exact h s3 (inv_wsFeed I2 hf)

theorem loop_prefix_congr (pre e1 e2 : List EnvStep) (s : Sys) (hI : Inv s)
    (h : ∀ s', Inv s' → loop e1 s' = loop e2 s') : loop (pre ++ e1) s = loop (pre ++ e2) s := by
  induction pre generalizing s with
  | nil => exact h s hI
  | cons st pre ih =>
    exact loop_cons_congr st _ _ s hI (fun s' hI' => ih s' hI')

def reads (cs : List Bytes) : List EnvStep := cs.map (fun c => EnvStep.wait 0 (some (.data c)))

/-- the first wait of a burst may take any time `dt`; the following ones return at once -/
def readsAt (dt : Nat) : List Bytes → List EnvStep
  | [] => []
  | c :: cs => .wait dt (some (.data c)) :: reads cs

theorem readsAt_zero (cs : List Bytes) : readsAt 0 cs = reads cs := by
  cases cs <;> rfl

theorem flatten_ne_nil_of_head {c : Bytes} {cs : List Bytes} (h : c ≠ []) : (c :: cs).flatten ≠ [] := by
  intro e
  rw [List.flatten_cons] at e
  exact h (List.append_eq_nil_iff.mp e).1

theorem loop_reads_flatten (dt : Nat) (c : Bytes) (cs : List Bytes) (rest : List EnvStep) (s : Sys)
    (hI : Inv s) (hne : ∀ x ∈ c :: cs, x ≠ []) :
    loop (.wait dt (some (.data c)) :: (reads cs ++ rest)) s =
      loop (.wait dt (some (.data (c :: cs).flatten)) :: rest) s := by
  induction cs generalizing dt c s with
  | nil => simp [reads]
  | cons c' cs' ih =>
    have hne' : ∀ x ∈ c' :: cs', x ≠ [] := fun x hx => hne x (List.mem_cons_of_mem _ hx)
    have h1 : loop (.wait dt (some (.data c)) :: (reads (c' :: cs') ++ rest)) s =
        loop (.wait dt (some (.data c)) :: .wait 0 (some (.data (c' :: cs').flatten)) :: rest) s :=
      loop_cons_congr _ _ _ s hI (fun s' hI' => ih 0 c' s' hI' hne')
    rw [h1, loop_two_reads_inv dt c _ rest s hI (hne c List.mem_cons_self)
      (flatten_ne_nil_of_head (hne' c' List.mem_cons_self))]
    rfl

/-- **Segmentation independence of the session loop.**  Two bursts of non-empty reads carrying the
    same bytes drive `run()`'s loop to the same result from every state satisfying `Inv`. -/
theorem loop_segmentation (dt : Nat) (cs₁ cs₂ : List Bytes) (rest : List EnvStep) (s : Sys) (hI : Inv s)
    (hne₁ : ∀ x ∈ cs₁, x ≠ []) (hne₂ : ∀ x ∈ cs₂, x ≠ []) (h : cs₁.flatten = cs₂.flatten) :
    loop (readsAt dt cs₁ ++ rest) s = loop (readsAt dt cs₂ ++ rest) s := by
  cases cs₁ with
  | nil =>
    cases cs₂ with
    | nil => rfl
    | cons c₂ t₂ => exact absurd h.symm (flatten_ne_nil_of_head (hne₂ c₂ List.mem_cons_self))
  | cons c₁ t₁ =>
    cases cs₂ with
    | nil => exact absurd h (flatten_ne_nil_of_head (hne₁ c₁ List.mem_cons_self))
    | cons c₂ t₂ =>
      exact (loop_reads_flatten dt c₁ t₁ rest s hI hne₁).trans
        (h ▸ (loop_reads_flatten dt c₂ t₂ rest s hI hne₂).symm)

theorem runBody_congr {e1 e2 : List EnvStep} {s : Sys} (h : loop e1 s = loop e2 s) :
    runBody e1 s = runBody e2 s := by
  unfold runBody
  exact bind_congr_at (tryC_congr_at (bind_congr_at h))

end Lomond.Core.SegLoop
