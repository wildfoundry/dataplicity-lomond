/-
  The session loop against the monitor, in one pass.

  The pass is made for `Mon'`, the stricter of the two monitors (after `Rejected` nothing but the
  terminal `Disconnected`); `Mon`, the monitor of the property text, is its image under `Phase'.proj`
  (`Mon'.run_proj`); `Mon'` and `Phase'.proj` are defined here, in namespace `MonitorGen`, the pass
  in namespace `Strict`.  `At q s`: `Mon'` is in phase `q` after the trace of `s`, and `SockInv s`.

  * after `Ready` (`AtReady`): everything inside `feed` keeps the phase on a normal return; an
    exceptional one leaves `RaisedR` (still ready, or `Unresponsive` just emitted and the exception one
    that `feed`'s `except` clauses pass on silently);
  * before it (`Await`: `Connected` emitted, `ready = false`): `onOut (.header _)` goes to `AtReady`
    (accepted upgrade) or to the phase `rejected` with the websocket closed;
  * the phases `unresp` and `rejected` behave alike (`Last`): only the terminal event may follow, and
    an exception in flight is `Silent`.
-/
import Lomond.Proofs.Monitor

namespace Lomond.Core.MonitorGen
open Lomond Lomond.Core Lomond.Core.Monitor

/-- phases of the stricter monitor: `rejected` = the upgrade was refused, only the terminal event may
    follow -/
inductive Phase'
  | start | connecting | connected | rejected | ready | unresp | done
  deriving DecidableEq, Repr

/-- one step of the stricter monitor: as `Mon.step`, except that `Rejected` leads to a phase of its own
    in which only `Disconnected` is accepted (so: no `Ready`, no second `Rejected`, no `ProtocolError`
    after `Rejected`) -/
def Mon'.step : Phase' → Event → Option Phase'
  | .start, .connecting => some .connecting
  | .connecting, .connectFail _ => some .done
  | .connecting, .connected _ => some .connected
  | .connected, .ready _ _ => some .ready
  | .connected, .rejected _ => some .rejected
  | .connected, .protocolError _ _ => some .connected
  | .connected, .disconnected _ _ => some .done
  | .rejected, .disconnected _ _ => some .done
  | .ready, .text _ => some .ready
  | .ready, .binary _ => some .ready
  | .ready, .ping _ => some .ready
  | .ready, .pong _ => some .ready
  | .ready, .closing _ _ => some .ready
  | .ready, .closed _ _ => some .ready
  | .ready, .poll => some .ready
  | .ready, .unresponsive => some .unresp
  | .ready, .protocolError _ _ => some .ready
  | .ready, .disconnected _ _ => some .done
  | .unresp, .disconnected _ _ => some .done
  | _, _ => none

def Mon'.run (ph : Phase') : List Event → Option Phase'
  | [] => some ph
  | e :: r => (Mon'.step ph e).bind (fun q => Mon'.run q r)

def Mon'.accepts (evs : List Event) : Prop := ∃ ph, Mon'.run .start evs = some ph
def Mon'.complete (evs : List Event) : Prop := Mon'.run .start evs = some .done

def phaseOf' : List Obs → Option Phase'
  | [] => some .start
  | .ev e :: r => (phaseOf' r).bind (fun p => Mon'.step p e)
  | _ :: r => phaseOf' r

theorem Mon'.run_append (ph : Phase') (a b : List Event) :
    Mon'.run ph (a ++ b) = (Mon'.run ph a).bind (fun q => Mon'.run q b) := by
  induction a generalizing ph with
  | nil => rfl
  | cons e r ih =>
    simp only [List.cons_append, Mon'.run]
    cases Mon'.step ph e with
    | none => rfl
    | some q => simp only [Option.bind_some]; exact ih q

theorem phaseOf'_eq_run (tr : List Obs) : phaseOf' tr = Mon'.run .start (events tr) := by
  induction tr with
  | nil => rfl
  | cons o r ih =>
    cases o with
    | ev e =>
      rw [events_cons_ev, Mon'.run_append, ← ih]
      simp only [phaseOf']
      cases phaseOf' r with
      | none => rfl
      | some p => simp only [Option.bind_some, Mon'.run]; cases Mon'.step p e <;> rfl
    | _ => rw [events_cons_nonEv _ _ rfl]; exact ih

def Phase'.proj : Phase' → Phase
  | .start => .start | .connecting => .connecting | .connected => .connected | .rejected => .connected
  | .ready => .ready | .unresp => .unresp | .done => .done

theorem Mon'.step_proj {p q : Phase'} {e : Event} (h : Mon'.step p e = some q) :
    Mon.step p.proj e = some q.proj := by
  cases p <;> cases e <;> simp [Mon'.step] at h <;> subst h <;> rfl

theorem Mon'.run_proj {p q : Phase'} {l : List Event} (h : Mon'.run p l = some q) :
    Mon.run p.proj l = some q.proj := by
  induction l generalizing p with
  | nil => cases h; rfl
  | cons e r ih =>
    simp only [Mon'.run] at h
    cases hs : Mon'.step p e with
    | none => rw [hs] at h; cases h
    | some p1 =>
      rw [hs] at h; simp only [Option.bind_some] at h
      simp only [Mon.run, Mon'.step_proj hs, Option.bind_some]
      exact ih h

theorem Mon'.run_split {p0 ph : Phase'} {a b : List Event} {e : Event} (h : Mon'.run p0 (a ++ e :: b) = some ph) :
    ∃ p q, Mon'.run p0 a = some p ∧ Mon'.step p e = some q ∧ Mon'.run q b = some ph := by
  rw [Mon'.run_append] at h
  cases ha : Mon'.run p0 a with
  | none => rw [ha] at h; cases h
  | some p =>
    rw [ha] at h; simp only [Option.bind_some, Mon'.run] at h
    cases hs : Mon'.step p e with
    | none => rw [hs] at h; cases h
    | some q => rw [hs] at h; exact ⟨p, q, rfl, hs, h⟩

theorem Mon'.step_done (e : Event) : Mon'.step .done e = none := by cases e <;> rfl

theorem Mon'.run_done {l : List Event} {q : Phase'} (h : Mon'.run .done l = some q) : l = [] := by
  cases l with
  | nil => rfl
  | cons e r => simp only [Mon'.run, Mon'.step_done] at h; cases h

/-- **after `Rejected` the only possible next event is the terminal `Disconnected`** -/
theorem Mon'.after_rejected {p0 ph : Phase'} {a b : List Event} {r : Http.Str}
    (h : Mon'.run p0 (a ++ .rejected r :: b) = some ph) : b = [] ∨ ∃ k g, b = [.disconnected k g] := by
  obtain ⟨p, q, _, hs, hb⟩ := Mon'.run_split h
  have hq : q = .rejected := by cases p <;> simp [Mon'.step] at hs; exact hs.symm
  subst hq
  cases b with
  | nil => exact Or.inl rfl
  | cons e r' =>
    right
    simp only [Mon'.run] at hb
    cases hs2 : Mon'.step .rejected e with
    | none => rw [hs2] at hb; cases hb
    | some q2 =>
      rw [hs2] at hb; simp only [Option.bind_some] at hb
      cases e <;> simp [Mon'.step] at hs2
      subst hs2
      rename_i k g
      exact ⟨k, g, by rw [Mon'.run_done hb]⟩

/-- **`Rejected` is accepted only in the phase `connected`** (after `Connected`, before `Ready`, and not
    after another `Rejected`) -/
theorem Mon'.rejected_phase {p q : Phase'} {r : Http.Str} (h : Mon'.step p (.rejected r) = some q) :
    p = .connected ∧ q = .rejected := by
  cases p <;> simp [Mon'.step] at h
  exact ⟨rfl, h.symm⟩

def _root_.Lomond.Core.Event.isRej : Event → Bool
  | .rejected _ => true
  | _ => false

theorem phaseOf'_ignores : Ignores phaseOf' (fun o => Obs.quiet o = true) :=
  fun o t h => by cases o <;> first | rfl | cases h

theorem phaseOf_of' {tr : List Obs} {q : Phase'} (h : phaseOf' tr = some q) : phaseOf tr = some q.proj := by
  rw [phaseOf'_eq_run] at h
  rw [phaseOf_eq_run]; exact Mon'.run_proj h

end Lomond.Core.MonitorGen

namespace Lomond.Core.Strict
open Lomond Lomond.Core Lomond.Core.Monitor Lomond.Core.MonitorGen Lomond.Core.LiftX

def At (q : Phase') (s : Sys) : Prop := phaseOf' s.trace = some q ∧ SockInv s

theorem _root_.Lomond.Core.Monitor.Keeps.phase' {s s' : Sys} (h : Keeps s s') :
    phaseOf' s'.trace = phaseOf' s.trace := h.ignores phaseOf'_ignores

theorem _root_.Lomond.Core.Monitor.Keeps.at {q : Phase'} {s s' : Sys} (h : Keeps s s') (hs : At q s) : At q s' :=
  ⟨h.phase'.trans hs.1, h.sockInv hs.2⟩

theorem At.push {p q : Phase'} {s : Sys} (hs : At p s) (e : Event) (he : Mon'.step p e = some q) :
    At q (pushEv e s) :=
  ⟨by show (phaseOf' s.trace).bind (fun p => Mon'.step p e) = some q
      rw [hs.1]; exact he, sockInv_pushEv e s hs.2⟩

/-- `yield e`: the monitor steps, whatever the application does in reaction -/
theorem At.yield {p q : Phase'} {s : Sys} (hs : At p s) (e : Event) (he : Mon'.step p e = some q) :
    At q (yieldEv e s).state :=
  (yieldEv_keeps e s).at (hs.push e he)

abbrev AtReady (s : Sys) : Prop := At .ready s

def Await (s : Sys) : Prop := At .connected s ∧ s.ready = false

def Live (s : Sys) : Prop := Await s ∨ AtReady s

def Last (s : Sys) : Prop := At .unresp s ∨ At .rejected s

def RaisedR (x : Exn) (s : Sys) : Prop := AtReady s ∨ (At .unresp s ∧ Silent x)

def RaisedL (x : Exn) (s : Sys) : Prop := Live s ∨ (Last s ∧ Silent x)

def Mid (s : Sys) : Prop := Live s ∨ Last s

/-- the loop invariant: before `Ready` an open websocket's parser is in the header state, after it
    never; after `Rejected` the websocket is closed -/
def InvL (s : Sys) : Prop :=
  (Await s ∧ (s.closed = false → s.p.cont = .header)) ∨ (AtReady s ∧ s.p.cont ≠ .header) ∨
  (At .rejected s ∧ s.closed = true)

theorem _root_.Lomond.Core.Monitor.Keeps.await {s s' : Sys} (h : Keeps s s') (hs : Await s) : Await s' :=
  ⟨h.at hs.1, h.ready.trans hs.2⟩

theorem RaisedR.loop {x : Exn} {s : Sys} (h : RaisedR x s) : RaisedL x s :=
  h.elim (fun a => Or.inl (Or.inr a)) (fun a => Or.inr ⟨Or.inl a.1, a.2⟩)

theorem RaisedL.mid {x : Exn} {s : Sys} (h : RaisedL x s) : Mid s := h.elim Or.inl (fun a => Or.inr a.1)

theorem InvL.mid {s : Sys} (h : InvL s) : Mid s := by
  rcases h with h | h | h
  · exact Or.inl (Or.inl h.1)
  · exact Or.inl (Or.inr h.1)
  · exact Or.inr (Or.inr h.1)

theorem rdy_of_pres {m : M α} (h : Spec (Pres AtReady) m) : SpecX AtReady RaisedR m := fun s hs => by
  have := h s hs
  cases hm : m s with
  | ok a s' => rw [hm] at this; exact this
  | err x s' => rw [hm] at this; exact Or.inl this

theorem rdy_of_keeps {m : M α} (h : Spec Keeps m) : SpecX AtReady RaisedR m := rdy_of_pres (fun s hs => (h s).at hs)

theorem rdy_modS {f : Sys → Sys} (h : ∀ s, Keeps s (f s)) : SpecX AtReady RaisedR (modS f) := rdy_of_keeps (spec_modS h)

theorem rdy_throwE (x : Exn) : SpecX AtReady RaisedR (throwE x : M α) := specx_throwE (fun _ hs => Or.inl hs)

theorem pres_rdy_yieldEv (e : Event) (he : Mon'.step .ready e = some .ready) : Spec (Pres AtReady) (yieldEv e) :=
  fun _ hs => hs.yield e he

theorem pres_await_yieldEv (e : Event) (he : Mon'.step .connected e = some .connected) :
    Spec (Pres Await) (yieldEv e) :=
  fun s hs => ⟨hs.1.yield e he, (yieldEv_keeps e s).ready.trans hs.2⟩

theorem pres_rdy_checkPoll : Spec (Pres AtReady) checkPoll :=
  spec_checkPoll (pres_po AtReady) (fun _ => Keeps.at (keeps_same rfl rfl rfl rfl rfl)) (pres_rdy_yieldEv _ rfl)

theorem rdy_checkPingTimeout : SpecX AtReady RaisedR checkPingTimeout := by
  unfold checkPingTimeout
  refine specx_getS_bind (fun s0 => ?_)
  simp only []
  split
  · intro s hs
    have hu : At .unresp (yieldEv .unresponsive s).state := hs.yield _ rfl
    cases hr : yieldEv .unresponsive s with
    | err x s1 =>
      rw [hr] at hu; rw [bind_err hr]
      have := yieldEv_err_genExit hr; subst this
      exact Or.inr ⟨hu, trivial⟩
    | ok u s1 => rw [hr] at hu; rw [bind_ok hr]; exact Or.inr ⟨hu, trivial⟩
  · exact specx_pure _

theorem rdy_regular : SpecX AtReady RaisedR regular := by
  unfold regular
  refine specx_getS_bind (fun s => ?_)
  split
  · exact specx_bind (rdy_of_pres pres_rdy_checkPoll) (fun _ => specx_bind (rdy_of_keeps keeps_checkAutoPing)
      (fun _ => specx_bind rdy_checkPingTimeout (fun _ => rdy_of_keeps (spec_checkCloseTimeout keeps_po))))
  · exact specx_pure _

theorem pres_await_regular : Spec (Pres Await) regular := by
  intro s hs; rw [regular_not_ready s hs.2]; exact hs

theorem step_notReady {p : Phase'} {e : Event} (h : Mon'.step p e = some p) : ∀ a b, e ≠ .ready a b := by
  intro a b hh; subst hh
  cases p <;> cases h

theorem RaisedR.handler {x : Exn} {s s' : Sys} (h : RaisedR x s) (k : Keeps s s') : RaisedR (.outer x) s' :=
  h.elim (fun a => Or.inl (k.at a)) (fun a => Or.inr ⟨k.at a.1, trivial⟩)

/-- `feedYield` once its body is known: the finalisation at the `yield` is an event-free step -/
theorem feedYield_of_body (b : Bool) (e : Event) (s : Sys)
    (h1 : Sat AtReady RaisedR ((do onEvent e; yieldEv e; regular : M Unit) s)) : Sat AtReady RaisedR (feedYield b e s) := by
  unfold feedYield
  cases hi : (do onEvent e; yieldEv e; regular : M Unit) s with
  | ok u s1 => rw [hi] at h1; rw [tryC_ok hi]; exact h1
  | err x s1 =>
    rw [hi] at h1; rw [tryC_err hi]
    obtain ⟨s2, h2, k2⟩ := feedYield_handler_res b x s1
    rw [h2]; exact RaisedR.handler h1 k2

theorem rdy_feedYield (b : Bool) (e : Event) (he : Mon'.step .ready e = some .ready) : SpecX AtReady RaisedR (feedYield b e) :=
  fun s hs => feedYield_of_body b e s
    (specx_bind (rdy_of_keeps (keeps_onEvent e (step_notReady he))) (fun _ =>
      specx_bind (rdy_of_pres (pres_rdy_yieldEv e he)) (fun _ => rdy_regular)) s hs)

theorem pres_await_feedYield (b : Bool) (e : Event) (he : Mon'.step .connected e = some .connected) :
    Spec (Pres Await) (feedYield b e) := by
  unfold feedYield
  refine spec_tryC (pres_po Await) ?_ (fun x => pres_feedYield_handler Await (fun _ _ h => h.await) b x)
  exact spec_bind (pres_po Await) (fun s hs => (keeps_onEvent e (step_notReady he) s).await hs) (fun _ =>
    spec_bind (pres_po Await) (pres_await_yieldEv e he) (fun _ => pres_await_regular))

theorem feedYield_ready (a : Option Http.Str) (d : Bool) (s : Sys) (hs : Await s) :
    Sat AtReady RaisedR (feedYield true (.ready a d) s) := by
  have h1 : onEvent (.ready a d) s = .ok () { s with lastPong := 0, nextPing := 0, startTime := some s.now, ready := true } := rfl
  generalize hs1 : ({ s with lastPong := 0, nextPing := 0, startTime := some s.now, ready := true } : Sys) = s1 at h1
  have ha1 : At .connected s1 := by rw [← hs1]; exact hs.1
  have hy : AtReady (yieldEv (.ready a d) s1).state := ha1.yield _ rfl
  refine feedYield_of_body true _ s ?_
  rw [bind_ok h1]
  cases hyr : yieldEv (.ready a d) s1 with
  | err x s2 => rw [hyr] at hy; rw [bind_err hyr]; exact Or.inl hy
  | ok u s2 => rw [hyr] at hy; rw [bind_ok hyr]; exact rdy_regular s2 hy

/-- an event that `_on_event` ignores, yielded before `Ready`: the application reacts, `_regular()`
    does nothing; if the reaction raised, `feed` is finalised and the exception goes on wrapped -/
theorem feedYield_pre (b : Bool) (e : Event) (s : Sys) (he : onEvent e s = .ok () s) (hr : s.ready = false) :
    Keeps (Core.pushEv e s) (feedYield b e s).state ∧ ∀ x s', feedYield b e s = .err x s' → ∃ y, x = .outer y := by
  have k := yieldEv_keeps e s
  unfold feedYield
  cases hy : yieldEv e s with
  | ok u s1 =>
    rw [hy] at k
    have hr1 : s1.ready = false := k.ready.trans hr
    have e1 : (do onEvent e; yieldEv e; regular : M Unit) s = .ok () s1 := by
      rw [bind_ok he, bind_ok hy]; exact regular_not_ready s1 hr1
    rw [tryC_ok e1]
    exact ⟨k, fun x s' h => by cases h⟩
  | err x s1 =>
    rw [hy] at k
    have e1 : (do onEvent e; yieldEv e; regular : M Unit) s = .err x s1 := by
      rw [bind_ok he, bind_err hy]
    rw [tryC_err e1]
    obtain ⟨s2, h2, k2⟩ := feedYield_handler_res b x s1
    rw [h2]
    exact ⟨keeps_po.trans k k2, fun y s' h => by cases h; exact ⟨x, rfl⟩⟩

theorem feedYield_rejected (r : Http.Str) (s : Sys) (hs : Await s) :
    Sat (At .rejected) (fun x s' => At .rejected s' ∧ Silent x) (feedYield true (.rejected r) s) := by
  obtain ⟨k, hx⟩ := feedYield_pre true (.rejected r) s rfl hs.2
  have h := k.at (hs.1.push (.rejected r) rfl)
  cases hr : feedYield true (.rejected r) s with
  | ok u s1 => rw [hr] at h; exact h
  | err x s1 =>
    rw [hr] at h
    obtain ⟨y, rfl⟩ := hx x s1 hr
    exact ⟨h, trivial⟩

theorem rdy_onClose (c : Option Nat) (r : List Nat) : SpecX AtReady RaisedR (onClose c r) := by
  unfold onClose
  refine specx_bind (rdy_of_keeps (spec_checkCloseCode keeps_po c)) (fun _ => ?_)
  refine specx_getS_bind (fun s => ?_)
  split
  · exact specx_pure _
  · split
    · refine specx_bind (rdy_feedYield _ _ rfl) (fun _ => rdy_modS ?_); intro s; exact keeps_same rfl rfl rfl rfl rfl
    · refine specx_bind (rdy_feedYield _ _ rfl) (fun _ => specx_bind (rdy_of_keeps (keeps_wsClose _ _)) (fun r =>
        specx_bind (rdy_of_keeps (spec_raiseIfArgError keeps_po r)) (fun _ => rdy_modS ?_)))
      intro s; exact keeps_same rfl rfl rfl rfl rfl

theorem rdy_onMessage (m : Msg) : SpecX AtReady RaisedR (onMessage m) := by
  unfold onMessage
  split <;> first | exact rdy_onClose _ _ | exact rdy_feedYield _ _ rfl | exact specx_pure _

theorem rdy_onDataFrame (f : Frame) : SpecX AtReady RaisedR (onDataFrame f) := by
  unfold onDataFrame
  refine specx_getS_bind (fun s => ?_)
  split
  · exact rdy_throwE _
  · split
    · exact rdy_throwE _
    · refine specx_bind (rdy_modS ?_) (fun _ => ?_)
      · intro s; exact keeps_same rfl rfl rfl rfl rfl
      · split
        · refine specx_getS_bind (fun s => specx_bind (rdy_of_keeps (keeps_buildMessage _)) (fun m =>
            specx_bind (rdy_onMessage m) (fun _ => rdy_modS ?_)))
          intro s; exact keeps_same rfl rfl rfl rfl rfl
        · exact specx_pure _

theorem rdy_onFrame (f : Frame) : SpecX AtReady RaisedR (onFrame f) := by
  unfold onFrame
  split
  · exact specx_bind (rdy_of_keeps (keeps_buildMessage _)) (fun m => rdy_onMessage m)
  · exact rdy_onDataFrame _

theorem rdy_onOut_frame (f : Frame) : SpecX AtReady RaisedR (onOut (.frame f)) := by
  unfold onOut
  exact specx_bind (rdy_onFrame _) (fun _ => rdy_of_keeps (spec_notClosed keeps_po))

theorem feedLoop_p3 (data : Bytes) (s : Sys) (hs : AtReady s) (hc : s.p.cont ≠ .header) :
    Sat AtReady RaisedR (feedLoop data s) := by
  induction h : data.length using Nat.strongRecOn generalizing data s with
  | _ n ih =>
    rw [feedLoop]
    by_cases hd : data = []
    · simp only [hd, dite_true]; exact hs
    · simp only [hd, dite_false]
      have hlt : (data.drop (s.p.remPred + 1)).length < n := by
        have : data.length ≠ 0 := fun hl => hd (List.eq_nil_of_length_eq_zero hl)
        simp only [List.length_drop]; omega
      cases hb : biteBytes s.cfg.v s.p (data.take (s.p.remPred + 1)) with
      | error x => exact Or.inl hs
      | ok r =>
        obtain ⟨p', out⟩ := r
        have hc1 : p'.cont ≠ .header := (biteBytes_res hb).2.2.2 hc
        have hs' : AtReady { s with p := p' } := hs
        cases out with
        | none => exact ih _ hlt _ _ hs' hc1 rfl
        | some o =>
          simp only
          cases o with
          | header d => exact nomatch (biteBytes_res hb).2.2.1 hc _ rfl
          | frame f =>
            have ho := rdy_onOut_frame f { s with p := p' } hs'
            have hst := step_onOut (.frame f) { s with p := p' }
            cases hr : onOut (.frame f) { s with p := p' } with
            | err x s2 => rw [hr] at ho; exact ho
            | ok go s2 =>
              rw [hr] at ho hst
              cases go with
              | true => exact ih _ hlt _ _ ho (hst.contNH hc1) rfl
              | false => exact ho

/-- an accepted upgrade emits `Ready`; a rejected one emits `Rejected` with the websocket closed
    and stops the feed -/
theorem onOut_header_at (data : Bytes) (o : Out) (e : o = .header data) (s : Sys) (hs : Await s) :
    match onOut o s with
    | .ok true s' => AtReady s'
    | .ok false s' => (At .rejected s' ∧ s'.closed = true) ∨ AtReady s'
    | .err x s' => RaisedL x s' := by
  subst e
  unfold onOut
  simp only []
  rw [getS_bind]
  cases hresp : Http.onResponse s.cfg.v.strictAccept s.cfg.challenge (Http.parseResponse data) with
  | error reason =>
    simp only []
    rw [modS_bind]
    have hs1 : Await { s with parsedResponse := true } := hs
    obtain ⟨s2, h2, hc2⟩ := onDisconnect_ok { s with parsedResponse := true }
    have hs2 : Await s2 := ((keeps_onDisconnect).ok h2).await hs1
    rw [bind_ok h2]
    have hy := feedYield_rejected reason s2 hs2
    have hst := step_feedYield true (.rejected reason) s2
    cases hr : feedYield true (.rejected reason) s2 with
    | err x s3 => rw [hr] at hy; rw [bind_err hr]; exact Or.inr ⟨Or.inr hy.1, hy.2⟩
    | ok u s3 =>
      rw [hr] at hy hst; rw [bind_ok hr]
      exact Or.inl ⟨hy, hst.closedMono hc2⟩
  | ok acc =>
    simp only []
    rw [modS_bind]
    have key : ∀ s1, Await s1 →
        match (do feedYield true (.ready acc.protocol acc.deflate.isSome)
                  modS fun s => { s with parsedResponse := true }
                  notClosed : M Bool) s1 with
        | .ok true s' => AtReady s'
        | .ok false s' => (At .rejected s' ∧ s'.closed = true) ∨ AtReady s'
        | .err x s' => RaisedL x s' := by
      intro s1 hg1
      have hy := feedYield_ready acc.protocol acc.deflate.isSome s1 hg1
      cases hr : feedYield true (.ready acc.protocol acc.deflate.isSome) s1 with
      | err x s2 => rw [hr] at hy; rw [bind_err hr]; exact RaisedR.loop hy
      | ok u s2 =>
        rw [hr] at hy; rw [bind_ok hr, modS_bind]
        have hs3 : AtReady { s2 with parsedResponse := true } := hy
        show match notClosed { s2 with parsedResponse := true } with
          | .ok true s' => AtReady s'
          | .ok false s' => (At .rejected s' ∧ s'.closed = true) ∨ AtReady s'
          | .err x s' => RaisedL x s'
        unfold notClosed
        cases s2.closed
        · exact hs3
        · exact Or.inr hs3
    exact key _ hs

theorem afterHeader_spec (rest d : Bytes) (out : Option Out) (e : out = some (.header d)) (s : Sys)
    (hs : Await s) (hc : s.p.cont ≠ .header) : Sat InvL RaisedL (afterHeader rest out s) := by
  obtain ⟨o, eo, rfl⟩ : ∃ o, o = Out.header d ∧ out = some o := ⟨_, rfl, e⟩
  have ho := onOut_header_at d o eo s hs
  have hst := step_onOut o s
  unfold Sat afterHeader
  simp only []
  cases hr : onOut o s with
  | err x s2 => rw [hr] at ho; rw [bind_err hr]; exact ho
  | ok go s2 =>
    rw [hr] at ho hst; rw [bind_ok hr]
    have hc2 : s2.p.cont ≠ .header := hst.contNH hc
    cases go with
    | false =>
      simp only [Bool.false_eq_true, if_false]
      rcases ho with h1 | h1
      · exact Or.inr (Or.inr h1)
      · exact Or.inr (Or.inl ⟨h1, hc2⟩)
    | true =>
      simp only [if_true]
      have hl := feedLoop_p3 rest s2 ho hc2
      have hst2 := step_feedLoop rest s2
      cases hr2 : feedLoop rest s2 with
      | err x s3 => rw [hr2] at hl; rw [bind_err hr2]; exact RaisedR.loop hl
      | ok b s3 =>
        rw [hr2] at hl hst2; rw [bind_ok hr2]
        exact Or.inr (Or.inl ⟨hl, hst2.contNH hc2⟩)

theorem feedHeader_spec (data : Bytes) (s : Sys) (hs : Await s) (hc : s.p.cont = .header) :
    Sat InvL RaisedL (feedHeader data s) := by
  unfold feedHeader
  simp only []
  cases hf : findSep Gen.headerSep (s.p.buf ++ data) with
  | none =>
    simp only []
    split
    · exact Or.inl (Or.inl hs)
    · exact Or.inl ⟨hs, fun _ => hc⟩
  | some i =>
    simp only []
    split
    · exact Or.inl (Or.inl hs)
    · obtain ⟨p', e, hc1⟩ := resume_header_out s.cfg.v s.p ((s.p.buf ++ data).take (i + Gen.headerSep.length)) hc
      -- with the literal `some (.header _)` in place of `out`, applying `afterHeader_spec` makes the elaborator
      -- reduce `afterHeader … s` (through `onOut` into the HTTP parser) to see whether `Sat …` is a function type
      generalize ho : some (Out.header ((s.p.buf ++ data).take (i + Gen.headerSep.length))) = out at e
      rw [e]
      exact afterHeader_spec _ _ out ho.symm { s with p := p' } hs (by rw [hc1]; nofun)

theorem feedBody_spec (data : Bytes) (s : Sys) (hs : InvL s) (hcl : s.closed = false) :
    Sat InvL RaisedL (feedBody data s) := by
  generalize hr : feedBody data s = r
  unfold feedBody at hr
  split at hr
  · rename_i hc
    subst hr
    rcases hs with ⟨h1, _⟩ | ⟨_, h2⟩ | ⟨_, h2⟩
    · exact feedHeader_spec data s h1 hc
    · exact absurd hc h2
    · rw [hcl] at h2; cases h2
  · rename_i hc
    rcases hs with ⟨_, h2⟩ | ⟨h1, _⟩ | ⟨_, h2⟩
    · exact absurd (h2 hcl) hc
    · have hl := feedLoop_p3 data s h1 hc
      have hst := step_feedLoop data s
      cases hr2 : feedLoop data s with
      | err x s2 => rw [hr2] at hl hr; subst hr; exact RaisedR.loop hl
      | ok b s2 => rw [hr2] at hl hst hr; subst hr; exact Or.inr (Or.inl ⟨hl, hst.contNH hc⟩)
    · rw [hcl] at h2; cases h2

theorem pres_await_feedHandler (x : Exn) : Spec (Pres Await) (feedHandler x) :=
  spec_feedHandler (pres_po Await) x (fun _ _ => pres_await_feedYield _ _ rfl)
    (fun _ s hs => (keeps_wsClose _ _ s).await hs)

theorem rdy_feedHandler (x : Exn) : SpecX AtReady RaisedR (feedHandler x) := by
  unfold feedHandler
  split
  · exact specx_bind (rdy_feedYield _ _ rfl) (fun _ => rdy_throwE _)
  · exact specx_bind (rdy_feedYield _ _ rfl) (fun _ => rdy_throwE _)
  · exact specx_bind (rdy_feedYield _ _ rfl) (fun _ => specx_bind (rdy_of_keeps (keeps_wsClose _ _)) (fun r =>
      specx_bind (rdy_of_keeps (spec_raiseIfArgError keeps_po r)) (fun _ => rdy_throwE _)))
  · exact rdy_throwE _

/-- the `except` clauses of `feed` after an exceptional exit of its body: after `Unresponsive` and
    after `Rejected` they are silent -/
theorem feedHandler_spec (x : Exn) (s : Sys) (h : RaisedL x s) {y : Exn} {s' : Sys}
    (hr : feedHandler x s = .err y s') : RaisedL y s' := by
  rcases h with (h | h) | ⟨hu, hx⟩
  · have := pres_await_feedHandler x s h
    rw [hr] at this; exact Or.inl (Or.inl this)
  · have := rdy_feedHandler x s h
    rw [hr] at this; exact RaisedR.loop this
  · unfold feedHandler at hr
    cases x <;> first | exact hx.elim | (cases hr; exact Or.inr ⟨hu, hx⟩)

theorem wsFeed_spec (data : Bytes) (s : Sys) (hs : InvL s) : Sat InvL (fun _ => Mid) (wsFeed data s) := by
  generalize hres : wsFeed data s = res
  unfold wsFeed at hres
  split at hres
  · subst hres; exact hs
  · rename_i hcl
    have hcl' : s.closed = false := by cases h : s.closed <;> simp_all
    have hb := feedBody_spec data s hs hcl'
    cases hr : feedBody data s with
    | ok u s1 =>
      rw [hr] at hb
      rw [tryC_ok (tryC_ok hr)] at hres; subst hres; exact hb
    | err x s1 =>
      rw [hr] at hb
      cases hr2 : feedHandler x s1 with
      | ok u s2 => exact absurd hr2 (feedHandler_not_ok x s1 u s2)
      | err y s2 =>
        have hh := feedHandler_spec x s1 hb hr2
        have h1 : tryC (feedBody data) feedHandler s = .err y s2 := by rw [tryC_err hr]; exact hr2
        obtain ⟨z, hz⟩ := unwrapOuter_err y s2
        rw [tryC_err h1, hz] at hres; subst hres; exact hh.mid

theorem onEof_spec (s : Sys) (hs : InvL s) : Sat InvL (fun _ => Mid) (onEof s) := by
  generalize hres : onEof s = res
  unfold onEof at hres
  split at hres
  · subst hres; exact hs.mid
  · subst hres; exact hs

theorem recvStep_spec (o : RecvOutcome) (s : Sys) (hs : InvL s) : Sat InvL (fun _ => Mid) (recvStep o s) := by
  generalize hres : recvStep o s = res
  unfold recvStep at hres
  split at hres
  · subst hres; exact onEof_spec s hs
  · split at hres
    · subst hres; exact hs.mid
    · subst hres; exact hs.mid
    · subst hres; exact onEof_spec s hs
    · split at hres
      · subst hres; exact onEof_spec s hs
      · rename_i bs _
        have h := wsFeed_spec bs s hs
        cases hr : wsFeed bs s with
        | ok u s1 => rw [hr] at h hres; subst hres; exact h
        | err x s1 => rw [hr] at h hres; subst hres; exact h

theorem _root_.Lomond.Core.Monitor.Keeps.invLoop {s s' : Sys} (h : Keeps s s') (hc : s'.closed = s.closed)
    (hs : InvL s) : InvL s' := by
  rcases hs with ⟨h1, h2⟩ | ⟨h1, h2⟩ | ⟨h1, h2⟩
  · exact Or.inl ⟨h.await h1, fun hf => by rw [h.cont]; exact h2 (hc ▸ hf)⟩
  · exact Or.inr (Or.inl ⟨h.at h1, by rw [h.cont]; exact h2⟩)
  · exact Or.inr (Or.inr ⟨h.at h1, hc.trans h2⟩)

theorem regular_invL (s : Sys) (hs : InvL s) (hcl : s.closed = false) :
    Sat InvL (fun _ => Mid) (regular s) := by
  rcases hs with ⟨h1, h2⟩ | ⟨h1, h2⟩ | ⟨_, h2⟩
  · rw [regular_not_ready s h1.2]; exact Or.inl ⟨h1, h2⟩
  · have hp := rdy_regular s h1
    have hst := step_regular s
    cases hr : regular s with
    | ok u s1 => rw [hr] at hp hst; exact Or.inr (Or.inl ⟨hp, hst.contNH h2⟩)
    | err x s1 => rw [hr] at hp; exact (RaisedR.loop hp).mid
  · rw [hcl] at h2; cases h2

/-- **the session loop emits only events the stricter monitor accepts between `Connected` and the
    terminal event**; after `Unresponsive` and after `Rejected` nothing at all -/
theorem loop_spec (env : List EnvStep) (s : Sys) (hs : InvL s) : Mid (loop env s).state := by
  induction env generalizing s with
  | nil => unfold loop; split <;> exact hs.mid
  | cons st rest ih =>
    unfold loop
    split
    · exact hs.mid
    · rename_i hcl
      split
      · exact hs.mid
      · rename_i dt readable
        have h0 : InvL (tick s dt) := (tick_keeps s dt).invLoop rfl hs
        have hcl' : (tick s dt).closed = false := by
          show s.closed = false
          cases h : s.closed <;> simp_all
        have h1 := regular_invL (tick s dt) h0 hcl'
        unfold regularTop
        split
        · rename_i x s2 hr; rw [hr] at h1; exact h1
        · rename_i u s2 hr; rw [hr] at h1
          split
          · exact ih s2 h1
          · rename_i o
            have h2 := recvStep_spec o s2 h1
            split
            · rename_i x s3 hr2; rw [hr2] at h2; exact h2
            · rename_i s3 hr2; rw [hr2] at h2; exact ih s3 h2
            · rename_i s3 hr2; rw [hr2] at h2; exact InvL.mid h2

theorem Mid.notDone {s : Sys} (h : Mid s) :
    ∃ q, At q s ∧ q ≠ .done ∧ q ≠ .start ∧ ∀ k g, Mon'.step q (.disconnected k g) = some .done := by
  rcases h with (h | h) | h | h
  · exact ⟨_, h.1, by decide, by decide, fun _ _ => rfl⟩
  · exact ⟨_, h, by decide, by decide, fun _ _ => rfl⟩
  · exact ⟨_, h, by decide, by decide, fun _ _ => rfl⟩
  · exact ⟨_, h, by decide, by decide, fun _ _ => rfl⟩

end Lomond.Core.Strict
