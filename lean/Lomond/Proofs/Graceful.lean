/-
  Why the websocket is `closing` / `closed`: on every *normal* exit of every library step, if one of
  the two flags is set then a `Closing`, `Closed` or `Rejected` event has been delivered, or the
  application called `close()` in reaction to a history it was really shown (`J`).  (On exceptional
  exits the flags may also have been set by `feed`'s `except GeneratorExit`; those exits end the
  loop with `graceful=False`.)  For the session loop: it ends normally only with the websocket
  closing or closed (`loop_ok_closing`), hence only with such a cause (`loop_ok_cause`).
-/
import Lomond.Proofs.Monitor
namespace Lomond.Core.Monitor
open Lomond Lomond.Core

/-- events showing that the server started the closing handshake, or that the upgrade was rejected -/
def Event.closeCause : Event → Bool
  | .closing _ _ => true
  | .closed _ _ => true
  | .rejected _ => true
  | _ => false

/-- an observable cause for a closing/closed websocket in the event history `h` (newest first): such
    an event was delivered, or the application `r` called `close()` at a history `h'` it was shown -/
def CauseH (r : React) (h : List Event) : Prop :=
  (∃ e ∈ h, Event.closeCause e = true) ∨ (∃ h', h' <:+ h ∧ ∃ c a, Act.close c a ∈ r h')

theorem CauseH.mono {r : React} {h h' : List Event} (hs : h <:+ h') (hc : CauseH r h) : CauseH r h' := by
  rcases hc with ⟨e, he, hce⟩ | ⟨h1, h1s, hcl⟩
  · exact Or.inl ⟨e, hs.subset he, hce⟩
  · exact Or.inr ⟨h1, h1s.trans hs, hcl⟩

/-- the application is `r0`; if the websocket is closing or closed there is an observable cause -/
def J (r0 : React) (s : Sys) : Prop :=
  s.react = r0 ∧ ((s.closing = true ∨ s.closed = true) → CauseH r0 s.hist)

def JH (r0 : React) (h0 : List Event) (s : Sys) : Prop := J r0 s ∧ h0 <:+ s.hist

def OkPres (I : Sys → Prop) (m : M α) : Prop := ∀ s a s', I s → m s = .ok a s' → I s'

variable {I : Sys → Prop}

theorem okPres_pure (a : α) : OkPres I (pure a : M α) := by
  intro s b s' hi h; cases h; exact hi

theorem okPres_throwE (x : Exn) : OkPres I (throwE x : M α) := by
  intro s b s' hi h; cases h

theorem okPres_liftE (r : Except Exn α) : OkPres I (liftE r) := by
  intro s b s' hi h; unfold liftE at h; cases r <;> cases h; exact hi

theorem okPres_bind {m : M α} {f : α → M β} (hm : OkPres I m) (hf : ∀ a, OkPres I (f a)) : OkPres I (m >>= f) :=
  LiftX.specx_normal_iff.mp (LiftX.specx_bind (LiftX.specx_normal_iff.mpr hm) (fun a => LiftX.specx_normal_iff.mpr (hf a)))

theorem okPres_getS_bind {f : Sys → M α} (h : ∀ s, OkPres I (f s)) : OkPres I (getS >>= f) := by
  intro s b s' hi hh
  exact h s s b s' hi hh

theorem okPres_modS {f : Sys → Sys} (h : ∀ s, I s → I (f s)) : OkPres I (modS f) := by
  intro s b s' hi hh; cases hh; exact h s hi

theorem okPres_ite (c : Prop) [Decidable c] {m k : M α} (hm : OkPres I m) (hk : OkPres I k) :
    OkPres I (if c then m else k) := by split <;> assumption

/-! ### steps that touch neither the flags nor the history -/

structure Quiet (s s' : Sys) : Prop where
  hist : s'.hist = s.hist
  closing : s'.closing = s.closing
  closed : s'.closed = s.closed
  react : s'.react = s.react

theorem quiet_po : PO Quiet where
  refl _ := ⟨rfl, rfl, rfl, rfl⟩
  trans h1 h2 := ⟨h2.hist.trans h1.hist, h2.closing.trans h1.closing, h2.closed.trans h1.closed, h2.react.trans h1.react⟩

variable {r0 : React} {h0 : List Event}

theorem Quiet.j {s s' : Sys} (h : Quiet s s') (hj : J r0 s) : J r0 s' := by
  refine ⟨h.react.trans hj.1, fun hc => ?_⟩
  rw [h.hist]; exact hj.2 (by rw [← h.closing, ← h.closed]; exact hc)

theorem Quiet.jh {s s' : Sys} (h : Quiet s s') (hj : JH r0 h0 s) : JH r0 h0 s' :=
  ⟨h.j hj.1, by rw [h.hist]; exact hj.2⟩

theorem okPres_of_quiet {m : M α} (h : Spec Quiet m) : OkPres (JH r0 h0) m := by
  intro s a s' hi hr
  exact (h.ok hr).jh hi

theorem quiet_closeSocket : Spec Quiet closeSocket := spec_closeSocket quiet_po (fun _ _ => ⟨rfl, rfl, rfl, rfl⟩)

theorem quiet_write (d : Bytes) (z : Option (Nat × Bytes)) : Spec Quiet (write d z) :=
  spec_write quiet_po d z (fun _ _ _ _ _ _ => ⟨rfl, rfl, rfl, rfl⟩)

theorem quiet_sendFrame (op : Nat) (pl : Bytes) (c : Option Bytes) : Spec Quiet (sendFrame op pl c) :=
  spec_sendFrame quiet_po op pl c (fun _ => ⟨rfl, rfl, rfl, rfl⟩) (fun d => quiet_write d _)

theorem quiet_sendData (op : Nat) (pl : Bytes) (c : Bool) : Spec Quiet (sendData op pl c) :=
  spec_sendData op pl c (quiet_sendFrame _ _ _) (fun s _ => quiet_sendFrame _ _ _ s)

theorem quiet_checkAutoPing : Spec Quiet checkAutoPing :=
  spec_checkAutoPing quiet_po (fun _ _ _ => ⟨rfl, rfl, rfl, rfl⟩) (quiet_sendFrame _ _ _)

theorem quiet_checkCloseTimeout : Spec Quiet checkCloseTimeout := spec_checkCloseTimeout quiet_po

theorem quiet_onEvent (e : Event) : Spec Quiet (onEvent e) :=
  spec_onEvent quiet_po e (fun _ _ _ _ => ⟨rfl, rfl, rfl, rfl⟩) (fun _ _ _ => ⟨rfl, rfl, rfl, rfl⟩)
    (fun d _ _ s _ => quiet_sendFrame _ d none s)

theorem quiet_checkCloseCode (c : Option Nat) : Spec Quiet (checkCloseCode c) := spec_checkCloseCode quiet_po c

theorem quiet_raiseIfArgError (r : ActRes) : Spec Quiet (raiseIfArgError r) := spec_raiseIfArgError quiet_po r

theorem wsClose_ok {c : Option Nat} {r : Arg} {s s' : Sys} {res : ActRes} (h : wsClose c r s = .ok res s') :
    s'.hist = s.hist ∧ s'.react = s.react ∧ s'.closed = s.closed :=
  have po : PO (fun s s' : Sys => s'.hist = s.hist ∧ s'.react = s.react ∧ s'.closed = s.closed) :=
    ⟨fun _ => ⟨rfl, rfl, rfl⟩, fun h1 h2 => ⟨h2.1.trans h1.1, h2.2.1.trans h1.2.1, h2.2.2.trans h1.2.2⟩⟩
  (spec_wsClose po c r
    (fun pl s => ⟨(quiet_sendFrame _ pl none s).hist, (quiet_sendFrame _ pl none s).react,
      (quiet_sendFrame _ pl none s).closed⟩)
    (fun _ => ⟨rfl, rfl, rfl⟩)).ok h

theorem wsClose_j {c : Option Nat} {r : Arg} {s s' : Sys} {res : ActRes} (hj : JH r0 h0 s)
    (hc : CauseH r0 s.hist) (h : wsClose c r s = .ok res s') : JH r0 h0 s' := by
  obtain ⟨e1, e2, e3⟩ := wsClose_ok h
  exact ⟨⟨e2.trans hj.1.1, fun _ => by rw [e1]; exact hc⟩, by rw [e1]; exact hj.2⟩

theorem doAct_j (a : Act) (s s' : Sys) (hj : JH r0 h0 s) (hask : ∃ h', h' <:+ s.hist ∧ a ∈ r0 h')
    (h : doAct a s = .ok () s') : JH r0 h0 s' ∧ s'.hist = s.hist := by
  -- every call but `close()` and the abandonment is `Quiet`
  have q : (∀ c r, a ≠ .close c r) → (∀ w, a ≠ .abandon w) → JH r0 h0 s' ∧ s'.hist = s.hist := by
    intro h1 h2
    have := (spec_doAct quiet_po a (fun op pl c _ => quiet_sendData op pl c) (fun op pl _ _ => quiet_sendFrame op pl none)
      (fun c r e => absurd e (h1 c r)) (fun _ => quiet_closeSocket) (fun s r => ⟨rfl, rfl, rfl, rfl⟩)
      (fun w e => absurd e (h2 w))).ok h
    exact ⟨this.jh hj, this.hist⟩
  cases a with
  | close code reason =>
    -- `close(code, reason)`: the application asked for it at a history it was shown
    have h : logRes (wsClose code reason) s = .ok () s' := h
    unfold logRes at h
    cases hw : wsClose code reason s with
    | err x s1 => rw [bind_err hw] at h; cases h
    | ok r s1 =>
      rw [bind_ok hw] at h
      have hl : log (.res r) s1 = .ok () { s1 with trace := .res r :: s1.trace } := rfl
      rw [hl] at h; cases h
      obtain ⟨h', hs', hm⟩ := hask
      have hc : CauseH r0 s.hist := Or.inr ⟨h', hs', code, reason, hm⟩
      have := wsClose_j hj hc hw
      exact ⟨this, (wsClose_ok hw).1⟩
  | abandon w => cases h
  | _ => exact q (fun _ _ e => nomatch e) (fun _ e => nomatch e)

theorem doActs_j (as : List Act) (s s' : Sys) (hj : JH r0 h0 s) (hask : ∀ a ∈ as, ∃ h', h' <:+ s.hist ∧ a ∈ r0 h')
    (h : doActs as s = .ok () s') : JH r0 h0 s' ∧ s'.hist = s.hist := by
  induction as generalizing s with
  | nil => cases h; exact ⟨hj, rfl⟩
  | cons a r ih =>
    unfold doActs at h
    cases ha : doAct a s with
    | err x s1 => rw [bind_err ha] at h; cases h
    | ok u s1 =>
      rw [bind_ok ha] at h
      obtain ⟨hj1, hh1⟩ := doAct_j a s s1 hj (hask a List.mem_cons_self) ha
      obtain ⟨hj2, hh2⟩ := ih s1 hj1 (fun b hb => by rw [hh1]; exact hask b (List.mem_cons_of_mem _ hb)) h
      exact ⟨hj2, hh2.trans hh1⟩

/-- `yield e`: the event enters the history; if it is itself a cause, `J` holds from here on -/
theorem yieldEv_j (e : Event) (s s' : Sys) (hr : s.react = r0) (hs : h0 <:+ s.hist)
    (hj : Event.closeCause e = true ∨ J r0 s) (h : yieldEv e s = .ok () s') :
    JH r0 h0 s' ∧ s'.hist = e :: s.hist := by
  rw [yieldEv_eq] at h
  have hp : JH r0 h0 (pushEv e s) := by
    refine ⟨⟨hr, fun hc => ?_⟩, hs.trans (List.suffix_cons e s.hist)⟩
    rcases hj with hce | hj
    · exact Or.inl ⟨e, List.mem_cons_self, hce⟩
    · exact (hj.2 hc).mono (List.suffix_cons e s.hist)
  have := doActs_j (r0 := r0) (h0 := h0) _ (pushEv e s) s' hp (fun a ha => ⟨e :: s.hist, List.suffix_refl _, by rw [← hr]; exact ha⟩) h
  exact ⟨this.1, this.2⟩

theorem okPres_yieldEv (e : Event) : OkPres (JH r0 h0) (yieldEv e) := by
  intro s u s' hi h
  exact (yieldEv_j e s s' hi.1.1 hi.2 (Or.inr hi.1) h).1

theorem okPres_checkPoll : OkPres (JH r0 h0) checkPoll := by
  unfold checkPoll
  refine okPres_getS_bind (fun s => ?_)
  simp only []
  splits
  all_goals first
    | exact okPres_pure _
    | exact okPres_bind (okPres_modS (fun s hi => hi)) (fun _ => okPres_yieldEv _)

theorem okPres_checkPingTimeout : OkPres (JH r0 h0) checkPingTimeout := by
  unfold checkPingTimeout
  refine okPres_getS_bind (fun s => ?_)
  simp only []
  split
  · exact okPres_bind (okPres_yieldEv _) (fun _ => okPres_throwE _)
  · exact okPres_pure _

theorem okPres_regular : OkPres (JH r0 h0) regular := by
  unfold regular
  refine okPres_getS_bind (fun s => ?_)
  split
  · exact okPres_bind okPres_checkPoll (fun _ => okPres_bind (okPres_of_quiet quiet_checkAutoPing)
      (fun _ => okPres_bind okPres_checkPingTimeout (fun _ => okPres_of_quiet quiet_checkCloseTimeout)))
  · exact okPres_pure _

/-- an event yielded from `feed`: on a normal return `J` holds and the event is in the history — also
    when `J` did not hold before but the event is itself a cause (`Rejected` after `on_disconnect()`) -/
theorem feedYield_j (b : Bool) (e : Event) (s s' : Sys) (hr : s.react = r0) (hs : h0 <:+ s.hist)
    (hj : Event.closeCause e = true ∨ J r0 s) (h : feedYield b e s = .ok () s') :
    JH r0 h0 s' ∧ e ∈ s'.hist := by
  obtain ⟨s1, s2, h1, h2, hi⟩ := feedYield_ok_inv h
  have q1 := (quiet_onEvent e).ok h1
  have hj1 : Event.closeCause e = true ∨ J r0 s1 := hj.elim Or.inl (fun j => Or.inr (q1.j j))
  obtain ⟨hj2, hh2⟩ := yieldEv_j (h0 := h0) e s1 s2 (q1.react.trans hr) (by rw [q1.hist]; exact hs) hj1 h2
  have hj2' : JH r0 (e :: s1.hist) s2 := ⟨hj2.1, by rw [hh2]; exact List.suffix_refl _⟩
  have hj3 := okPres_regular s2 _ s' hj2' hi
  have hj3' := okPres_regular s2 _ s' hj2 hi
  exact ⟨hj3', hj3.2.subset List.mem_cons_self⟩

theorem okPres_feedYield (b : Bool) (e : Event) : OkPres (JH r0 h0) (feedYield b e) := by
  intro s u s' hi h
  exact (feedYield_j b e s s' hi.1.1 hi.2 (Or.inr hi.1) h).1

theorem raiseIfArgError_ok {r : ActRes} {s s' : Sys} (h : raiseIfArgError r s = .ok () s') : s' = s := by
  unfold raiseIfArgError at h
  split at h
  · cases h
  · cases h; rfl

theorem okPres_onClose (c : Option Nat) (r : List Nat) : OkPres (JH r0 h0) (onClose c r) := by
  unfold onClose
  refine okPres_bind (okPres_of_quiet (quiet_checkCloseCode c)) (fun _ => okPres_getS_bind (fun s0 => ?_))
  split
  · exact okPres_pure _
  · split
    · -- `Closed`: the server's Close answers ours
      intro s u s' hi h
      cases h1 : feedYield true (.closed c r) s with
      | err x s1 => rw [bind_err h1] at h; cases h
      | ok u1 s1 =>
        rw [bind_ok h1] at h; cases h
        obtain ⟨hj1, hm⟩ := feedYield_j (h0 := h0) true (.closed c r) s s1 hi.1.1 hi.2 (Or.inr hi.1) h1
        exact ⟨⟨hj1.1.1, fun _ => Or.inl ⟨_, hm, rfl⟩⟩, hj1.2⟩
    · -- `Closing`: the server's Close is echoed
      intro s u s' hi h
      cases h1 : feedYield true (.closing c r) s with
      | err x s1 => rw [bind_err h1] at h; cases h
      | ok u1 s1 =>
        rw [bind_ok h1] at h
        obtain ⟨hj1, hm⟩ := feedYield_j (h0 := h0) true (.closing c r) s s1 hi.1.1 hi.2 (Or.inr hi.1) h1
        have hc1 : CauseH r0 s1.hist := Or.inl ⟨_, hm, rfl⟩
        cases h2 : wsClose c (.str r) s1 with
        | err x s2 => rw [bind_err h2] at h; cases h
        | ok res s2 =>
          rw [bind_ok h2] at h
          have hj2 := wsClose_j hj1 hc1 h2
          have hh2 := (wsClose_ok h2).1
          cases h3 : raiseIfArgError res s2 with
          | err x s3 => rw [bind_err h3] at h; cases h
          | ok u3 s3 =>
            rw [bind_ok h3] at h; cases h
            have := raiseIfArgError_ok h3; subst this
            exact ⟨⟨hj2.1.1, fun _ => by show CauseH r0 s3.hist; rw [hh2]; exact hc1⟩, hj2.2⟩

theorem onDisconnect_quietish (s s' : Sys) (h : onDisconnect s = .ok () s') :
    s'.hist = s.hist ∧ s'.react = s.react := by
  have q := quiet_closeSocket.ok (closeSocket_eq s)
  rw [onDisconnect_eq] at h; cases h
  exact ⟨q.hist, q.react⟩

/-! ### the receive pipeline

  `JH` along the normal exits of everything up to `loop` is an instance of the pipeline lifting
  (Proofs/Pipe.lean).  For the exceptional side it is enough to know `XJ`: the exception is one that
  `feed`'s `except` clauses pass on silently, or `JH` still holds (the library's own checks raise
  before anything was changed). -/

def XJ (r0 : React) (h0 : List Event) (x : Exn) (s : Sys) : Prop := Silent x ∨ JH r0 h0 s

open LiftX

theorem specx_of_okPres {X : Exn → Sys → Prop} {m : M α} (hok : OkPres I m)
    (herr : ∀ s x s', I s → m s = .err x s' → X x s') : SpecX I X m := by
  intro s hs
  cases hm : m s with
  | ok a s' => exact hok s a s' hs hm
  | err x s' => exact herr s x s' hs hm

/-- an exception at a `yield` of `feed` arrives wrapped -/
theorem raises_feedYield_silent (b : Bool) (e : Event) : Raises (fun x _ => Silent x) (feedYield b e) := by
  intro s y s' h
  unfold feedYield at h
  cases hi : (do onEvent e; yieldEv e; regular : M Unit) s with
  | ok u s1 => rw [tryC_ok hi] at h; cases h
  | err x s1 =>
    rw [tryC_err hi] at h
    obtain ⟨s2, h2, _⟩ := feedYield_handler_res b x s1
    rw [h2] at h; cases h; trivial

theorem raises_raiseIfArgError_silent (r : ActRes) : Raises (fun x _ => Silent x) (raiseIfArgError r) := by
  unfold raiseIfArgError
  split
  · exact raises_throwE (fun _ => trivial)
  · exact raises_pure _

/-- an exception of `_on_close` that `feed` handles comes from the check of the close code, before
    anything was changed -/
theorem onClose_err {c : Option Nat} {r : List Nat} {s s' : Sys} {x : Exn} (h : onClose c r s = .err x s') :
    Silent x ∨ s' = s := by
  unfold onClose at h
  cases h1 : checkCloseCode c s with
  | err y s1 =>
    rw [bind_err h1] at h; cases h
    exact Or.inr ((spec_checkCloseCode (R := fun s s' => s' = s) ⟨fun _ => rfl, fun a b => b.trans a⟩ c).err h1)
  | ok u s1 =>
    rw [bind_ok h1] at h
    refine Or.inl (raises_bind (P := fun x _ => Silent x) raises_getS (fun s0 => ?_) s1 x s' h)
    split
    · exact raises_pure _
    · split
      · exact raises_bind (raises_feedYield_silent _ _) (fun _ => raises_modS _)
      · exact raises_bind (raises_feedYield_silent _ _) (fun _ => raises_bind (noRaise_wsClose _ _).raises
          (fun r => raises_bind (raises_raiseIfArgError_silent r) (fun _ => raises_modS _)))

theorem raises_feedHandler_silent (x : Exn) : Raises (fun y _ => Silent y) (feedHandler x) := by
  unfold feedHandler
  split
  · exact raises_bind (raises_feedYield_silent _ _) (fun _ => raises_throwE (fun _ => trivial))
  · exact raises_bind (raises_feedYield_silent _ _) (fun _ => raises_throwE (fun _ => trivial))
  · exact raises_bind (raises_feedYield_silent _ _) (fun _ => raises_bind (noRaise_wsClose _ _).raises
      (fun r => raises_bind (raises_raiseIfArgError_silent r) (fun _ => raises_throwE (fun _ => trivial))))
  · rename_i h1 h2 h3
    exact raises_throwE (fun _ => by
      cases x <;> first | trivial | exact absurd rfl (h1 _) | exact absurd rfl (h2 _) | exact absurd rfl (h3 _))

theorem jh_pipe : PipeX (JH r0 h0) (XJ r0 h0) where
  inert := fun _ _ h hj => Quiet.jh ⟨h.inert.hist, h.closing, h.closed, h.inert.react⟩ hj
  boring := fun _ _ _ hs => Or.inr hs
  handler := fun x s _ => by
    cases hr : feedHandler x s with
    | ok u s' => exact absurd hr (feedHandler_not_ok x s u s')
    | err y s' => exact Or.inl (raises_feedHandler_silent x s y s' hr)
  reject := fun reason => specx_of_okPres (α := Bool)
    (fun s b s' hi h => by
      -- `on_disconnect()` first, then the `Rejected` event, which is the cause
      obtain ⟨s2, h2, _⟩ := onDisconnect_ok s
      obtain ⟨e1, e2⟩ := onDisconnect_quietish _ _ h2
      rw [bind_ok h2] at h
      cases h3 : feedYield true (.rejected reason) s2 with
      | err x s3 => rw [bind_err h3] at h; cases h
      | ok u s3 =>
        rw [bind_ok h3] at h; cases h
        exact (feedYield_j (h0 := h0) true (.rejected reason) s2 _ (e2.trans hi.1.1) (by rw [e1]; exact hi.2)
          (Or.inl rfl) h3).1)
    (fun s x s' _ h => Or.inl (raises_bind (P := fun x _ => Silent x) noRaise_onDisconnect.raises (fun _ =>
      raises_bind (raises_feedYield_silent _ _) (fun _ => raises_pure _)) s x s' h))
  onClose := fun c r => specx_of_okPres (okPres_onClose c r)
    (fun s x s' hs h => (onClose_err h).elim Or.inl (fun e => Or.inr (e ▸ hs)))
  feedYield := fun e _ _ _ => specx_of_okPres (okPres_feedYield true e)
    (fun s x s' _ h => Or.inl (raises_feedYield_silent true e s x s' h))

theorem okPres_loop (env : List EnvStep) : OkPres (JH r0 h0) (loop env) := by
  have hl : SpecX (JH r0 h0) (fun _ _ => True) (loop env) :=
    specx_loop (fun _ _ _ => trivial) (fun _ _ => trivial)
      (pipe_recvStep jh_pipe (fun x s _ => by obtain ⟨y, hy⟩ := unwrapOuter_err x s; rw [hy]; trivial)
        (fun _ _ _ _ => trivial))
      (fun _ => True) (fun dt _ s _ hi _ => specx_of_okPres okPres_regular (fun _ _ _ _ _ => trivial) (tick s dt) hi)
      env (fun _ _ => trivial)
  exact specx_normal_iff.mp hl

/-- the loop ends normally only when the websocket is closed, or at an end-of-stream that arrives
    while the closing handshake is under way -/
theorem loop_ok_closing (env : List EnvStep) (s s' : Sys) (h : loop env s = .ok () s') :
    s'.closed = true ∨ s'.closing = true := by
  induction env generalizing s with
  | nil =>
    unfold loop at h
    split at h
    · rename_i hc; cases h; exact Or.inl hc
    · cases h
  | cons st rest ih =>
    unfold loop at h
    split at h
    · rename_i hc; cases h; exact Or.inl hc
    · split at h
      · cases h
      · unfold regularTop at h
        split at h
        · cases h
        · split at h
          · exact ih _ h
          · split at h
            · cases h
            · exact ih _ h
            · rename_i o s3 hr
              cases h
              -- `recvStep` returns `false` only through `onEof`
              have heof : ∀ s0 : Sys, onEof s0 = .ok false s' → s'.closed = true ∨ s'.closing = true := by
                intro s0 h0
                unfold onEof at h0
                split at h0
                · cases h0
                · rename_i hn
                  cases h0
                  cases hcl : s'.closed
                  · cases hcg : s'.closing
                    · exact absurd ⟨by simp [hcg], by simp [hcl]⟩ hn
                    · exact Or.inr rfl
                  · exact Or.inl rfl
              unfold recvStep at hr
              split at hr
              · exact heof _ hr
              · split at hr
                · cases hr
                · cases hr
                · exact heof _ hr
                · split at hr
                  · exact heof _ hr
                  · split at hr
                    · cases hr
                    · cases hr

/-- the loop ends normally only with an observable cause for the closing handshake -/
theorem loop_ok_cause (env : List EnvStep) (s s' : Sys) (hj : J r0 s) (h : loop env s = .ok () s') :
    CauseH r0 s'.hist := by
  have hj' := okPres_loop (r0 := r0) (h0 := []) env s () s' ⟨hj, List.nil_suffix⟩ h
  have hc := loop_ok_closing env s s' h
  exact hj'.1.2 (hc.elim Or.inr Or.inl)

end Lomond.Core.Monitor
