/-
  Big-endian integers (`struct.pack` with `!H` / `!Q`, the words of SHA-1): `beBytes n v` has `n` bytes, each a
  byte, and `beVal` reads back `v` truncated to the width.
-/
import Lomond.Model.Basic
namespace Lomond

theorem beBytes_length (n v : Nat) : (beBytes n v).length = n := by
  induction n generalizing v with
  | zero => rfl
  | succ n ih => simp [beBytes, ih]

theorem beVal_snoc (l : Bytes) (b : Nat) : beVal (l ++ [b]) = beVal l * 256 + b := by
  simp [beVal, List.foldl_append]

/-- `struct.unpack` after `struct.pack`: the value, truncated to the width -/
theorem beVal_beBytes_mod (n v : Nat) : beVal (beBytes n v) = v % 256 ^ n := by
  induction n generalizing v with
  | zero => simp [beBytes, beVal]; omega
  | succ n ih =>
    rw [beBytes, beVal_snoc, ih, Nat.pow_succ, Nat.mul_comm (256 ^ n) 256, Nat.mod_mul]
    omega

/-- `struct.unpack` inverts `struct.pack` on values that fit -/
theorem beVal_beBytes (n v : Nat) (h : v < 256 ^ n) : beVal (beBytes n v) = v := by
  rw [beVal_beBytes_mod, Nat.mod_eq_of_lt h]

theorem beBytes_wf (n v : Nat) : Bytes.WF (beBytes n v) := by
  induction n generalizing v with
  | zero => intro b hb; cases hb
  | succ n ih =>
    intro b hb
    simp only [beBytes, List.mem_append, List.mem_singleton] at hb
    rcases hb with hb | hb
    · exact ih _ b hb
    · omega

end Lomond
