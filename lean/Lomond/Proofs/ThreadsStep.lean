/-
  One schedule entry, described once, for the general socket of `Model/ThreadsN.lean` (`stepN_entry`): how the program
  pointer moves (`Moves`, `MovesN`), what happens to each shared object (`exec_sh`, `execN_frame`), what is written
  (`Writes`), the error register (`exec_err`, `execN_err`).  The two-chunk socket of `Model/Threads.lean` is the instance
  `Env.two` (`step_cases`).  What every entry keeps holds along every run (`runN_keeps`); the runs start in a `Fresh` state.
-/
import Lomond.Proofs.ThreadsProg

namespace Lomond.Threads
open Lomond

/-- how a step moves the thread's program pointer -/
inductive Moves (v : Variant) : Step → List Step → List Step → Prop
  | next (st r) : Moves v st r r
  | ret (st r) : (st = .retIfClosed ∨ st = .retIfClosing) → Moves v st r (afterClose r)
  | fail (st r) : (st = .chkSock ∨ st = .chkClosed ∨ st = .chkClosing ∨ st = .chkBoth ∨ isWrite st = true) →
      Moves v st r (toRelease r)
  | alt (a r) : Moves v (.brIfClosing a) r (altSteps v a)
  | altErr (a r) : Moves v (.brIfErr a) r (altSteps v a)

theorem exec_moves (v : Variant) (t : Tid) (st : Step) (r : List Step) (sh : Shared) (c : Cur) :
    Moves v st r (exec v t st r sh c).2.rest := by
  cases st <;> simp only [exec, failWrite] <;> (repeat' split) <;>
    first
    | exact Moves.next _ _
    | exact Moves.ret _ _ (Or.inl rfl)
    | exact Moves.ret _ _ (Or.inr rfl)
    | exact Moves.fail _ _ (Or.inl rfl)
    | exact Moves.fail _ _ (Or.inr (Or.inl rfl))
    | exact Moves.fail _ _ (Or.inr (Or.inr (Or.inl rfl)))
    | exact Moves.fail _ _ (Or.inr (Or.inr (Or.inr (Or.inl rfl))))
    | exact Moves.fail _ _ (Or.inr (Or.inr (Or.inr (Or.inr rfl))))
    | exact Moves.alt _ _
    | exact Moves.altErr _ _

theorem exec_sh (v : Variant) (t : Tid) (st : Step) (r : List Step) (sh : Shared) (c : Cur) :
    (exec v t st r sh c).1 =
      { closing := match st with | .setClosing b => b | _ => sh.closing
        closed := match st with | .setClosed => true | _ => sh.closed
        sockOpen := match st with | .setSockNone => false | .setSock => true | _ => sh.sockOpen
        sockShut := match st with | .sockClose => true | _ => sh.sockShut
        lock := match st with | .acquire => some t | .release => none | _ => sh.lock
        wire := match st with
          | .write1 f => if sh.sockShut = true then sh.wire else sh.wire ++ [⟨t, c.idx, false, descOf f c⟩]
          | .write2 f => if sh.sockShut = true then sh.wire else sh.wire ++ [⟨t, c.idx, true, descOf f c⟩]
          | _ => sh.wire
        zpend := match st with | .compress d => sh.zpend ++ d | .flush => [] | .zreset => [] | _ => sh.zpend
        zctx := match st with | .flush => sh.zctx ++ sh.zpend | .zreset => [] | _ => sh.zctx
        closeTime := match st with | .setCloseTime => some t | _ => sh.closeTime
        dctx := match st with | .inflate d => sh.dctx ++ d | .dreset => [] | _ => sh.dctx } := by
  cases st <;> simp only [exec, failWrite] <;> (repeat' split) <;> rfl

theorem moves_eq {v : Variant} {st : Step} {r r' : List Step} (m : Moves v st r r') :
    r' = r ∨ ((st = .retIfClosed ∨ st = .retIfClosing) ∧ r' = afterClose r) ∨
      ((st = .chkSock ∨ st = .chkClosed ∨ st = .chkClosing ∨ st = .chkBoth ∨ isWrite st = true) ∧ r' = toRelease r) ∨
      (∃ a, (st = .brIfClosing a ∨ st = .brIfErr a) ∧ r' = altSteps v a) := by
  cases m with
  | next => exact Or.inl rfl
  | ret _ _ h => exact Or.inr (Or.inl ⟨h, rfl⟩)
  | fail _ _ h => exact Or.inr (Or.inr (Or.inl ⟨h, rfl⟩))
  | alt a _ => exact Or.inr (Or.inr (Or.inr ⟨a, Or.inl rfl, rfl⟩))
  | altErr a _ => exact Or.inr (Or.inr (Or.inr ⟨a, Or.inr rfl, rfl⟩))

theorem moves_disc {v : Variant} {st : Step} {r r' : List Step} (m : Moves v st r r')
    (d : disc (st :: r) = true) : disc r' = true := by
  have dt := disc_tail d
  cases m with
  | next => exact dt
  | ret _ _ _ => exact disc_suffix (afterClose_suffix r) dt
  | fail _ _ _ => exact disc_suffix (toRelease_suffix r) dt
  | alt a _ => exact alt_disc v a
  | altErr a _ => exact alt_disc v a

def holdsAfter (st : Step) (r : List Step) : Bool :=
  match st with
  | .acquire => true
  | .release => false
  | _ => holds r

theorem moves_holds {v : Variant} {st : Step} {r r' : List Step} (m : Moves v st r r')
    (d : disc (st :: r) = true) : holds r' = holdsAfter st r := by
  cases m with
  | next =>
    cases st <;> simp only [holdsAfter] <;>
      simp only [disc, Bool.and_eq_true] at d <;> simp_all
  | ret _ _ h =>
    have dt := disc_tail d
    rw [holds_afterClose r dt]
    rcases h with h | h <;> subst h <;>
      simp only [disc, outOnly, Bool.and_eq_true] at d <;> simp_all [holdsAfter]
  | fail _ _ h =>
    have : holds r = true := by
      rcases h with h | h | h | h | h
      iterate 4 (subst h; simp only [disc, outOnly, inOnly, Bool.and_eq_true] at d; simp_all)
      cases st <;> simp only [isWrite] at h <;> (try cases h) <;>
        (simp only [disc, Bool.and_eq_true] at d; simp_all)
    rw [holds_toRelease r this]
    rcases h with h | h | h | h | h
    iterate 4 (subst h; simp [holdsAfter, this])
    cases st <;> simp only [isWrite] at h <;> (try cases h) <;> simp [holdsAfter, this]
  | alt a _ | altErr a _ =>
    rw [alt_holds]
    simp only [disc, outOnly, Bool.and_eq_true] at d
    simp_all [holdsAfter]

theorem moves_headW2 {v : Variant} {st : Step} {r r' : List Step} (m : Moves v st r r')
    (d : disc (st :: r) = true) (h : headW2 r' = true) : ∃ f, st = .write1 f ∧ r' = r := by
  cases m with
  | next =>
    simp only [disc, Bool.and_eq_true] at d
    have h2 := d.2
    rw [h] at h2
    cases st <;> first | exact ⟨_, rfl, rfl⟩ | cases h2
  | ret _ _ _ => rw [headW2_afterClose r (disc_tail d)] at h; cases h
  | fail _ _ _ => rw [headW2_toRelease] at h; cases h
  | alt a _ => rw [alt_headW2] at h; cases h
  | altErr a _ => rw [alt_headW2] at h; cases h

/-- two chunks, no failure (the `Env` defaults) -/
def Env.two : Env := {}

theorem execN_default (v : Variant) (t : Tid) (st : Step) (r : List Step) (sh : Shared) (c : Cur) :
    execN Env.two v t st r sh c = exec v t st r sh c := by
  cases st <;> simp [execN, execW1, execW2, exec, Env.two] <;> split <;> rfl

theorem stepN_default (v : Variant) (cfg : Cfg) (s : State) (t : Tid) :
    stepN Env.two v cfg s t = step v cfg s t := by
  unfold stepN step
  simp only [execN_default]
  rfl

/-- **`Model/Threads.lean` is the instance "two chunks, no failure"** of the general socket -/
theorem runN_default (v : Variant) (cfg : Cfg) (s : State) (sched : List Tid) :
    runN Env.two v cfg s sched = run v cfg s sched := by
  unfold runN run
  induction sched generalizing s with
  | nil => rfl
  | cons t r ih => simp only [List.foldl_cons, stepN_default]; exact ih _

theorem execN_not_write (env : Env) (v : Variant) (t : Tid) (st : Step) (r : List Step) (sh : Shared) (c : Cur)
    (h : isWrite st = false) : execN env v t st r sh c = exec v t st r sh c := by
  cases st <;> first | rfl | cases h

/-- how a step of the general socket moves the thread's program pointer: as in the two-chunk model, or (a `sendall`
    with chunks left) not at all -/
inductive MovesN (v : Variant) : Step → List Step → List Step → Prop
  | move {st r r'} : Moves v st r r' → MovesN v st r r'
  | stay (f r) : MovesN v (.write1 f) r (.write1 f :: r)

/-- what an entry does to the wire and to the `wrote` flag: nothing, or one more chunk of the frame of the call in
    progress (on a socket that is not shut), the last chunk setting the flag -/
inductive Writes (t : Tid) (sh : Shared) (c : Cur) : Step → List Chunk → Bool → Prop
  | none (st) : Writes t sh c st sh.wire c.wrote
  | part (f) : sh.sockShut = false → Writes t sh c (.write1 f) (sh.wire ++ [⟨t, c.idx, false, descOf f c⟩]) c.wrote
  | last (f) : sh.sockShut = false → Writes t sh c (.write2 f) (sh.wire ++ [⟨t, c.idx, true, descOf f c⟩]) true

theorem execN_moves (env : Env) (v : Variant) (t : Tid) (st : Step) (r : List Step) (sh : Shared) (c : Cur) :
    MovesN v st r (execN env v t st r sh c).2.rest := by
  cases h : isWrite st with
  | false => rw [execN_not_write env v t st r sh c h]; exact .move (exec_moves v t st r sh c)
  | true =>
    cases st <;> simp only [isWrite] at h <;> try cases h
    · simp only [execN, execW1, failWrite]
      (repeat' split) <;>
        first | exact .move (.fail _ _ (Or.inr (Or.inr (Or.inr (Or.inr rfl))))) | exact .move (.next _ _) | exact .stay _ _
    · simp only [execN, execW2, failWrite]
      (repeat' split) <;>
        first | exact .move (.fail _ _ (Or.inr (Or.inr (Or.inr (Or.inr rfl))))) | exact .move (.next _ _)

theorem execN_writes (env : Env) (v : Variant) (t : Tid) (st : Step) (r : List Step) (sh : Shared) (c : Cur) :
    Writes t sh c st (execN env v t st r sh c).1.wire (execN env v t st r sh c).2.wrote := by
  cases st <;> simp only [execN, execW1, execW2, exec, failWrite] <;> (repeat' split) <;>
    first | exact .none _ | exact .part _ (by simp_all) | exact .last _ (by simp_all)

theorem execN_frame (env : Env) (v : Variant) (t : Tid) (st : Step) (r : List Step) (sh : Shared) (c : Cur) :
    (execN env v t st r sh c).1 = { (exec v t st r sh c).1 with wire := (execN env v t st r sh c).1.wire } ∧
    (execN env v t st r sh c).2.idx = c.idx := by
  cases hw : isWrite st with
  | false =>
    rw [execN_not_write env v t st r sh c hw]
    refine ⟨rfl, ?_⟩
    cases st <;> simp only [exec] <;> (repeat' split) <;> rfl
  | true =>
    cases st <;> simp only [isWrite] at hw <;> try cases hw
    all_goals
      simp only [execN, execW1, execW2, exec, failWrite]
      (repeat' split) <;> first | exact ⟨rfl, rfl⟩ | exact ⟨trivial, rfl⟩ | exact ⟨trivial, trivial⟩

theorem movesN_to {v : Variant} {st : Step} {r r' : List Step} (m : MovesN v st r r') :
    r' <:+ st :: r ∨ ∃ a, (st = .brIfClosing a ∨ st = .brIfErr a) ∧ r' = altSteps v a := by
  cases m with
  | stay => exact Or.inl (List.suffix_refl _)
  | move m =>
    rcases moves_eq m with h | ⟨_, h⟩ | ⟨_, h⟩ | ⟨a, hst, h⟩ <;> subst h
    · exact Or.inl (List.suffix_cons _ _)
    · exact Or.inl ((afterClose_suffix r).trans (List.suffix_cons _ _))
    · exact Or.inl ((toRelease_suffix r).trans (List.suffix_cons _ _))
    · exact Or.inr ⟨a, hst, rfl⟩

theorem movesN_write {v : Variant} {st : Step} {r r' : List Step} (m : MovesN v st r r') (hw : isWrite st = true) :
    r' = r ∨ r' = toRelease r ∨ r' = st :: r := by
  cases m with
  | stay => exact Or.inr (Or.inr rfl)
  | move m =>
    rcases moves_eq m with h | ⟨h, _⟩ | ⟨_, h⟩ | ⟨a, h, _⟩
    · exact Or.inl h
    · rcases h with rfl | rfl <;> cases hw
    · exact Or.inr (Or.inl h)
    · rcases h with rfl | rfl <;> cases hw

theorem movesN_disc {v : Variant} {st : Step} {r r' : List Step} (m : MovesN v st r r')
    (d : disc (st :: r) = true) : disc r' = true := by
  cases m with
  | move m => exact moves_disc m d
  | stay => exact d

theorem movesN_holds {v : Variant} {st : Step} {r r' : List Step} (m : MovesN v st r r')
    (d : disc (st :: r) = true) : holds r' = holdsAfter st r := by
  cases m with
  | move m => exact moves_holds m d
  | stay f r => simp only [holds, holdsAfter]

@[simp] theorem setTh_sh (s : State) (t : Tid) (th : Thread) (sh : Shared) : (setTh s t th sh).sh = sh := rfl

@[simp] theorem setTh_same (s : State) (t : Tid) (th : Thread) (sh : Shared) : (setTh s t th sh).th t = th := by
  simp [setTh]

theorem setTh_other (s : State) (t u : Tid) (th : Thread) (sh : Shared) (h : u ≠ t) :
    (setTh s t th sh).th u = s.th u := by
  simp [setTh, h]

theorem view_fresh (v : Variant) (cfg : Cfg) (th : Thread) (h : th.cur = none) :
    view v cfg th = [] ∨ ∃ call, view v cfg th = compile v cfg call := by
  unfold view Thread.current
  rw [h]
  split
  · rename_i c hc
    split at hc
    · cases hc
    · simp only at hc
      split at hc
      · cases hc
      · rename_i call _
        right; refine ⟨call, ?_⟩; cases hc; rfl
  · left; rfl

theorem current_not_halted {v : Variant} {cfg : Cfg} {th : Thread} {c : Cur}
    (h : th.current v cfg = some c) : th.halted = false := by
  unfold Thread.current at h
  split at h
  · cases h
  · rename_i hn; simpa using hn

theorem settle_cases (v : Variant) (cfg : Cfg) (th : Thread) (c' : Cur) (hh : th.halted = false) :
    (c'.rest ≠ [] ∧ view v cfg (settle th c') = c'.rest ∧ (settle th c').cur = some c') ∨
    (c'.rest = [] ∧ (settle th c').cur = none) := by
  unfold settle
  by_cases h : c'.rest = []
  · right; simp [h]
  · left
    simp only [h, if_false]
    refine ⟨h, ?_, trivial⟩
    simp [view, Thread.current, hh]

theorem settle_pc_same (th : Thread) (c' : Cur) (h : c'.rest ≠ []) : (settle th c').pc = th.pc := by
  simp [settle, h]

theorem settle_pc_next (th : Thread) (c' : Cur) (h : c'.rest = []) : (settle th c').pc = th.pc + 1 := by
  simp [settle, h]

theorem settle_cur (th : Thread) (c' c2 : Cur) (h : (settle th c').cur = some c2) : c'.rest ≠ [] ∧ c2 = c' := by
  unfold settle at h
  split at h
  · cases h
  · rename_i hne; simp only at h; exact ⟨hne, (Option.some.inj h).symm⟩

theorem fresh_eq {α : Type} (v : Variant) (cfg : Cfg) (P : List Step → α) (hcomp : ∀ call, P (compile v cfg call) = P [])
    (th : Thread) (h : th.cur = none) : P (view v cfg th) = P [] := by
  rcases view_fresh v cfg th h with e | ⟨call, e⟩ <;> rw [e]
  exact hcomp call

theorem view_settle_eq {α : Type} (v : Variant) (cfg : Cfg) (P : List Step → α)
    (hcomp : ∀ call, P (compile v cfg call) = P []) (th : Thread) (c' : Cur) (hh : th.halted = false) :
    P (view v cfg (settle th c')) = P c'.rest := by
  rcases settle_cases v cfg th c' hh with ⟨_, e, _⟩ | ⟨e, hc⟩
  · rw [e]
  · rw [fresh_eq v cfg P hcomp _ hc, e]

theorem disc_after (v : Variant) (cfg : Cfg) (D : List Step → Bool) (h0 : D [] = true)
    (hcomp : ∀ call, D (compile v cfg call) = true) (s : State) (t : Tid) (p : Shared × Cur)
    (hh : (s.th t).halted = false) (hD : ∀ u, D (view v cfg (s.th u)) = true) (hp : D p.2.rest = true) (u : Tid) :
    D (view v cfg ((setTh s t (settle (s.th t) p.2) p.1).th u)) = true := by
  by_cases hu : u = t
  · subst hu
    rw [setTh_same, view_settle_eq v cfg D (fun c => (hcomp c).trans h0.symm) _ _ hh]; exact hp
  · rw [setTh_other _ _ _ _ _ hu]; exact hD u

theorem view_of_current {v : Variant} {cfg : Cfg} {th : Thread} {c : Cur}
    (h : th.current v cfg = some c) : view v cfg th = c.rest := by
  simp [view, h]

theorem stepN_entry (env : Env) (v : Variant) (cfg : Cfg) (s : State) (t : Tid) :
    stepN env v cfg s t = s ∨
    ∃ c st r, (s.th t).current v cfg = some c ∧ c.rest = st :: r ∧ blockedOn s.sh c = false ∧
      (s.th t).halted = false ∧ view v cfg (s.th t) = st :: r ∧
      stepN env v cfg s t =
        setTh s t (settle (s.th t) (execN env v t st r s.sh c).2) (execN env v t st r s.sh c).1 := by
  unfold stepN
  split
  · left; rfl
  · rename_i c hc
    split
    · left; rfl
    · rename_i st r hr
      split
      · left; rfl
      · rename_i hb
        right
        exact ⟨c, st, r, hc, hr, by simpa using hb, current_not_halted hc, by rw [view_of_current hc, hr], rfl⟩

theorem step_cases (v : Variant) (cfg : Cfg) (s : State) (t : Tid) :
    step v cfg s t = s ∨
    ∃ c st r, (s.th t).current v cfg = some c ∧ c.rest = st :: r ∧ blockedOn s.sh c = false ∧
      (s.th t).halted = false ∧ view v cfg (s.th t) = st :: r ∧
      step v cfg s t =
        setTh s t (settle (s.th t) (exec v t st r s.sh c).2) (exec v t st r s.sh c).1 := by
  have h := stepN_entry Env.two v cfg s t
  simp only [stepN_default, execN_default] at h
  exact h

theorem runN_keeps {env : Env} {v : Variant} {cfg : Cfg} {I : State → Prop}
    (h : ∀ s t, I s → I (stepN env v cfg s t)) (s : State) (sched : List Tid) (i : I s) :
    I (runN env v cfg s sched) := by
  unfold runN
  induction sched generalizing s with
  | nil => exact i
  | cons t _ ih => exact ih _ (h s t i)

theorem run_keeps {v : Variant} {cfg : Cfg} {I : State → Prop}
    (h : ∀ s t, I s → I (step v cfg s t)) (s : State) (sched : List Tid) (i : I s) : I (run v cfg s sched) :=
  runN_default v cfg s sched ▸ runN_keeps (env := Env.two) (fun s t => stepN_default v cfg s t ▸ h s t) s sched i

/-- a clause "wherever a thread stands at a `P`-position, `Q` holds of the shared objects" after an entry of `t`:
    the other threads stand where they stood, `t` stands at `p.2.rest` or between two calls -/
theorem clause_after (v : Variant) (cfg : Cfg) (P : List Step → Bool) (hcomp : ∀ call, P (compile v cfg call) = P [])
    (Q : Shared → Prop) (s : State) (t : Tid) (p : Shared × Cur) (hh : (s.th t).halted = false)
    (hother : ∀ u, u ≠ t → P (view v cfg (s.th u)) = true → Q p.1) (hself : P p.2.rest = true → Q p.1) (u : Tid)
    (hu : P (view v cfg ((setTh s t (settle (s.th t) p.2) p.1).th u)) = true) :
    Q (setTh s t (settle (s.th t) p.2) p.1).sh := by
  by_cases h : u = t
  · subst h
    rw [setTh_same, view_settle_eq v cfg P hcomp _ _ hh] at hu
    exact hself hu
  · rw [setTh_other _ _ _ _ _ h] at hu
    exact hother u h hu

/-- every thread is between two calls, at its first call; the lock is free and nothing is on the wire: `init` (the
    connected WebSocket) and `initPre` (no socket yet) -/
structure Fresh (s : State) : Prop where
  cur : ∀ t, (s.th t).cur = none
  pc : ∀ t, (s.th t).pc = 0
  results : ∀ t, (s.th t).results = []
  lock : s.sh.lock = none
  wire : s.sh.wire = []

theorem fresh_init (progs : Tid → List Call) : Fresh (init progs) := ⟨fun _ => rfl, fun _ => rfl, fun _ => rfl, rfl, rfl⟩

theorem fresh_initPre (progs : Tid → List Call) : Fresh (initPre progs) := ⟨fun _ => rfl, fun _ => rfl, fun _ => rfl, rfl, rfl⟩

theorem fresh_of_start {progs : Tid → List Call} {s : State} (h : s = init progs ∨ s = initPre progs) :
    Fresh s ∧ ∀ t, (s.th t).prog = progs t := by
  rcases h with rfl | rfl
  · exact ⟨fresh_init progs, fun _ => rfl⟩
  · exact ⟨fresh_initPre progs, fun _ => rfl⟩

theorem Fresh.at {s : State} (F : Fresh s) (v : Variant) (cfg : Cfg) {α : Type} (P : List Step → α)
    (hcomp : ∀ call, P (compile v cfg call) = P []) (t : Tid) : P (view v cfg (s.th t)) = P [] :=
  fresh_eq v cfg P hcomp _ (F.cur t)

theorem exec_lock (v : Variant) (t : Tid) (st : Step) (r : List Step) (sh : Shared) (c : Cur) :
    (exec v t st r sh c).1.lock =
      match st with
      | .acquire => some t
      | .release => none
      | _ => sh.lock := by
  rw [exec_sh]

theorem exec_wire (v : Variant) (t : Tid) (st : Step) (r : List Step) (sh : Shared) (c : Cur) :
    (exec v t st r sh c).1.wire =
      match st with
      | .write1 f => if sh.sockShut = true then sh.wire else sh.wire ++ [⟨t, c.idx, false, descOf f c⟩]
      | .write2 f => if sh.sockShut = true then sh.wire else sh.wire ++ [⟨t, c.idx, true, descOf f c⟩]
      | _ => sh.wire := by
  rw [exec_sh]

theorem exec_wire_not_write (v : Variant) (t : Tid) (st : Step) (r : List Step) (sh : Shared) (c : Cur)
    (h : isWrite st = false) : (exec v t st r sh c).1.wire = sh.wire := by
  rw [exec_wire]; cases st <;> first | rfl | cases h

theorem exec_shut (v : Variant) (t : Tid) (st : Step) (r : List Step) (sh : Shared) (c : Cur) :
    (exec v t st r sh c).1.sockShut = (sh.sockShut || decide (st = .sockClose)) := by
  rw [exec_sh]; cases st <;> simp

theorem exec_write_shut (v : Variant) (t : Tid) (st : Step) (r : List Step) (sh : Shared) (c : Cur)
    (hw : isWrite st = true) (hs : sh.sockShut = true) :
    exec v t st r sh c = (sh, { c with rest := toRelease r, err := some .transport }) := by
  cases st <;> simp only [isWrite] at hw <;> (try cases hw) <;> simp [exec, failWrite, hs]

theorem exec_idx (v : Variant) (t : Tid) (st : Step) (r : List Step) (sh : Shared) (c : Cur) :
    (exec v t st r sh c).2.idx = c.idx := by
  cases st <;> simp only [exec, failWrite] <;> (repeat' split) <;> rfl

theorem exec_zout (v : Variant) (t : Tid) (st : Step) (r : List Step) (sh : Shared) (c : Cur)
    (h : st ≠ .flush) : (exec v t st r sh c).2.zout = c.zout := by
  cases st <;> simp only [exec, failWrite] <;> (repeat' split) <;> first | rfl | exact absurd rfl h

theorem current_settle (v : Variant) (cfg : Cfg) (th : Thread) (c' : Cur) (hh : th.halted = false)
    (hr : c'.rest ≠ []) : (settle th c').current v cfg = some c' := by
  simp [settle, hr, Thread.current, hh]

theorem moves_noWrite {v : Variant} {st : Step} {r r' : List Step} (m : Moves v st r r')
    (n : noWrite r = true) : noWrite r' = true := by
  rcases moves_eq m with h | ⟨_, h⟩ | ⟨_, h⟩ | ⟨a, _, h⟩ <;> subst h
  · exact n
  · exact all_suffix (afterClose_suffix r) n
  · exact all_suffix (toRelease_suffix r) n
  · exact alt_noWrite v a

theorem movesN_noWrite {v : Variant} {st : Step} {r r' : List Step} (m : MovesN v st r r')
    (n : noWrite (st :: r) = true) : noWrite r' = true := by
  cases m with
  | move m =>
    simp only [noWrite, List.all_cons, Bool.and_eq_true] at n
    exact moves_noWrite m n.2
  | stay => exact n

theorem current_cases {v : Variant} {cfg : Cfg} {th : Thread} {c : Cur} (h : th.current v cfg = some c) :
    th.cur = some c ∨
    (th.cur = none ∧ ∃ call, th.prog[th.pc]? = some call ∧
      c = { idx := th.pc, rest := compile v cfg call }) := by
  unfold Thread.current at h
  split at h
  · cases h
  · cases hcur : th.cur with
    | some c2 => rw [hcur] at h; simp only at h; left; exact h
    | none =>
      rw [hcur] at h
      simp only at h
      cases hp : th.prog[th.pc]? with
      | none => rw [hp] at h; cases h
      | some call =>
        rw [hp] at h
        right
        exact ⟨rfl, call, rfl, (Option.some.inj h).symm⟩

theorem exec_shape (v : Variant) (t : Tid) (st : Step) (r : List Step) (sh : Shared) (c : Cur) :
    ((exec v t st r sh c).2.halt = c.halt ∧ (exec v t st r sh c).2.rest <:+ r) ∨
    ((exec v t st r sh c).2.halt = true ∧ isJump st = true ∧ ∃ a, (exec v t st r sh c).2.rest = altSteps v a) := by
  cases st <;> simp only [exec, failWrite] <;> (repeat' split) <;>
    first
    | exact Or.inl ⟨rfl, List.suffix_refl _⟩
    | exact Or.inl ⟨rfl, afterClose_suffix _⟩
    | exact Or.inl ⟨rfl, toRelease_suffix _⟩
    | exact Or.inl ⟨trivial, List.suffix_refl _⟩
    | exact Or.inl ⟨trivial, afterClose_suffix _⟩
    | exact Or.inl ⟨trivial, toRelease_suffix _⟩
    | exact Or.inr ⟨rfl, rfl, _, rfl⟩
    | exact Or.inr ⟨trivial, rfl, _, rfl⟩
    | exact Or.inr ⟨trivial, trivial, _, rfl⟩

theorem exec_err (v : Variant) (t : Tid) (st : Step) (r : List Step) (sh : Shared) (c : Cur) :
    ((exec v t st r sh c).2.err = c.err ∧ ((exec v t st r sh c).2.rest = r ∨ isJump st = true) ∧
      (exec v t st r sh c).2.wrote = (isW2 st || c.wrote)) ∨
    ((exec v t st r sh c).2.err ≠ none ∧ (inOnly st = true ∨ isWrite st = true) ∧
      (exec v t st r sh c).2.rest = toRelease r ∧ (exec v t st r sh c).2.wrote = c.wrote) := by
  cases st <;> simp only [exec, failWrite] <;> (repeat' split) <;> simp [isJump, inOnly, isWrite, isW2]

theorem execN_err (env : Env) (v : Variant) (t : Tid) (st : Step) (r : List Step) (sh : Shared) (c : Cur) :
    ((execN env v t st r sh c).2.err = c.err ∧
      ((execN env v t st r sh c).2.rest = r ∨ isJump st = true ∨ (execN env v t st r sh c).2.rest = st :: r) ∧
      (execN env v t st r sh c).2.wrote = (isW2 st || c.wrote)) ∨
    ((execN env v t st r sh c).2.err ≠ none ∧ (inOnly st = true ∨ isWrite st = true) ∧
      (execN env v t st r sh c).2.rest = toRelease r ∧ (execN env v t st r sh c).2.wrote = c.wrote ∧
      (execN env v t st r sh c).1.wire = sh.wire) := by
  cases hw : isWrite st with
  | false =>
    rw [execN_not_write env v t st r sh c hw]
    rcases exec_err v t st r sh c with ⟨h1, h2, h3⟩ | ⟨h1, h2, h3, h4⟩
    · exact Or.inl ⟨h1, h2.elim Or.inl (fun h => Or.inr (Or.inl h)), h3⟩
    · exact Or.inr ⟨h1, hw ▸ h2, h3, h4, exec_wire_not_write v t st r sh c hw⟩
  | true =>
    cases st <;> simp only [isWrite] at hw <;> try cases hw
    all_goals
      simp only [execN, execW1, execW2, failWrite]
      (repeat' split) <;> simp [isW2]

theorem settle_prog (th : Thread) (c' : Cur) : (settle th c').prog = th.prog := by
  unfold settle; split <;> rfl

theorem prog_after (s : State) (t u : Tid) (c' : Cur) (sh' : Shared) :
    ((setTh s t (settle (s.th t) c') sh').th u).prog = (s.th u).prog := by
  by_cases hu : u = t
  · subst hu; rw [setTh_same, settle_prog]
  · rw [setTh_other _ _ _ _ _ hu]

theorem current_after {v : Variant} {cfg : Cfg} {s : State} {t u : Tid} {p : Shared × Cur} {c2 : Cur}
    (hh : (s.th t).halted = false)
    (h : ((setTh s t (settle (s.th t) p.2) p.1).th u).current v cfg = some c2) :
    (u ≠ t ∧ (s.th u).current v cfg = some c2) ∨
    (u = t ∧ p.2.rest ≠ [] ∧ c2 = p.2) ∨
    (u = t ∧ p.2.rest = [] ∧ ∃ call, c2 = { idx := (settle (s.th t) p.2).pc, rest := compile v cfg call }) := by
  by_cases hu : u = t
  · subst hu
    rw [setTh_same] at h
    rcases settle_cases v cfg (s.th u) p.2 hh with ⟨hne, _, _⟩ | ⟨he, hs⟩
    · rw [current_settle v cfg _ _ hh hne] at h
      exact Or.inr (Or.inl ⟨rfl, hne, (Option.some.inj h).symm⟩)
    · rcases current_cases h with h2 | ⟨_, call, _, hcc⟩
      · rw [hs] at h2; cases h2
      · exact Or.inr (Or.inr ⟨rfl, he, call, hcc⟩)
  · rw [setTh_other _ _ _ _ _ hu] at h
    exact Or.inl ⟨hu, h⟩

theorem stepN_prog (env : Env) (v : Variant) (cfg : Cfg) (s : State) (t u : Tid) :
    ((stepN env v cfg s t).th u).prog = (s.th u).prog := by
  rcases stepN_entry env v cfg s t with e | ⟨c, st, r, _, _, _, _, _, e⟩ <;> rw [e]
  exact prog_after s t u _ _

theorem runN_prog (env : Env) (v : Variant) (cfg : Cfg) (s : State) (sched : List Tid) (u : Tid) :
    ((runN env v cfg s sched).th u).prog = (s.th u).prog :=
  runN_keeps (I := fun s' => (s'.th u).prog = (s.th u).prog) (fun s' t h => (stepN_prog env v cfg s' t u).trans h)
    s sched rfl

theorem run_prog (v : Variant) (cfg : Cfg) (s : State) (sched : List Tid) (u : Tid) :
    ((run v cfg s sched).th u).prog = (s.th u).prog :=
  runN_default v cfg s sched ▸ runN_prog Env.two v cfg s sched u

theorem current_of_view {v : Variant} {cfg : Cfg} {th : Thread} {st : Step} {r : List Step}
    (h : view v cfg th = st :: r) : ∃ c, th.current v cfg = some c ∧ c.rest = st :: r := by
  unfold view at h
  split at h
  · rename_i c hc; exact ⟨c, hc, h⟩
  · cases h

end Lomond.Threads
