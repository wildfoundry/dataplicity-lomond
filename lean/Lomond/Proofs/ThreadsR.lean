/-
  C11, the receive side: the event-loop thread inflating compressed messages from the server
  (`Call.onData`, `Call.onData2`: steps `inflate`, `dpeek`, `dreset`) while other threads send.
  Those steps touch the DEcompressor (`Shared.dctx`) only, no other step touches it, and so a loop
  thread that only receives is invisible to everybody else, under every schedule.
-/
import Lomond.Proofs.Threads

namespace Lomond.Threads
open Lomond

/-- the steps of a receive: the loop thread's tests of its own `_sock` / `closed`, and the accesses to
    the decompressor -/
def isRecvStep : Step → Bool
  | .rdSock => true
  | .rdClosed => true
  | .inflate _ => true
  | .dpeek => true
  | .dreset => true
  | _ => false

def touchesD : Step → Bool
  | .inflate _ => true
  | .dreset => true
  | _ => false

def Call.isRecv : Call → Bool
  | .onData _ => true
  | .onData2 _ _ => true
  | _ => false

theorem exec_leaves_decompressor (v : Variant) (t : Tid) (st : Step) (r : List Step) (sh : Shared) (c : Cur)
    (h : touchesD st = false) : (exec v t st r sh c).1.dctx = sh.dctx := by
  rw [exec_sh]; cases st <;> first | rfl | cases h

theorem exec_recv_only_decompressor (v : Variant) (t : Tid) (st : Step) (r : List Step) (sh : Shared) (c : Cur)
    (h : isRecvStep st = true) :
    (exec v t st r sh c).1 = { sh with dctx := (exec v t st r sh c).1.dctx } ∧
      (exec v t st r sh c).2 = { c with rest := r } := by
  cases st <;> first | exact ⟨rfl, rfl⟩ | cases h

/-- no step reads the decompressor: executing a step from a shared state that differs only in the
    decompressor gives the same thread state and a shared state that differs only in the decompressor -/
theorem exec_congr_d (v : Variant) (t : Tid) (st : Step) (r : List Step) (sh : Shared) (c : Cur) (d : Bytes) :
    (exec v t st r { sh with dctx := d } c).2 = (exec v t st r sh c).2 ∧
    ∃ d', (exec v t st r { sh with dctx := d } c).1 = { (exec v t st r sh c).1 with dctx := d' } := by
  refine ⟨?_, ?_⟩
  · cases st <;> simp only [exec] <;> (repeat' split) <;> first | rfl | contradiction
  · cases st <;> simp only [exec] <;> (repeat' split) <;> first | exact ⟨_, rfl⟩ | contradiction

theorem blockedOn_congr_d (sh : Shared) (c : Cur) (d : Bytes) :
    blockedOn { sh with dctx := d } c = blockedOn sh c := by
  unfold blockedOn; split <;> rfl

theorem step_congr_d (v : Variant) (cfg : Cfg) (a b : State) (t : Tid) (d : Bytes)
    (hth : b.th t = a.th t) (hsh : b.sh = { a.sh with dctx := d }) :
    (∃ d', (step v cfg b t).sh = { (step v cfg a t).sh with dctx := d' }) ∧
    (step v cfg b t).th t = (step v cfg a t).th t ∧
    (∀ u, u ≠ t → (step v cfg b t).th u = b.th u ∧ (step v cfg a t).th u = a.th u) := by
  unfold step
  rw [hth]
  split
  · exact ⟨⟨d, hsh⟩, hth, fun u _ => ⟨rfl, rfl⟩⟩
  · rename_i c _
    split
    · exact ⟨⟨d, hsh⟩, hth, fun u _ => ⟨rfl, rfl⟩⟩
    · rename_i st r _
      rw [hsh, blockedOn_congr_d]
      split
      · exact ⟨⟨d, hsh⟩, hth, fun u _ => ⟨rfl, rfl⟩⟩
      · obtain ⟨h2, d', h1⟩ := exec_congr_d v t st r a.sh c d
        simp only [setTh_sh, setTh_same]
        refine ⟨⟨d', h1⟩, by rw [h2], fun u hu => ⟨setTh_other _ _ _ _ _ hu, setTh_other _ _ _ _ _ hu⟩⟩

theorem compile_recv (v : Variant) (cfg : Cfg) (call : Call) (h : call.isRecv = true) :
    (compile v cfg call).all isRecvStep = true := by
  cases call <;> simp only [Call.isRecv] at h <;> try cases h
  all_goals (simp only [compile]; split <;> simp [isRecvStep])

structure OnlyRecv (v : Variant) (cfg : Cfg) (s : State) (l : Tid) : Prop where
  prog : ∀ call ∈ (s.th l).prog, call.isRecv = true
  pos : PosInv v cfg s

theorem OnlyRecv.view {v : Variant} {cfg : Cfg} {s : State} {l : Tid} (Q : OnlyRecv v cfg s l) :
    (view v cfg (s.th l)).all isRecvStep = true := by
  unfold Threads.view
  split
  · rename_i c hc
    obtain ⟨call, hp, hw, _⟩ := Q.pos.current hc
    have hall := compile_recv v cfg call (Q.prog call (List.mem_of_getElem? hp))
    rcases hw with hw | ⟨a, hb, _⟩
    · exact all_suffix hw hall
    · -- a receive has no branching step
      rcases hb with hb | hb <;> cases List.all_eq_true.mp hall _ hb
  · rfl

theorem onlyRecv_init (v : Variant) (cfg : Cfg) (progs : Tid → List Call) (l : Tid)
    (h : ∀ call ∈ progs l, call.isRecv = true) : OnlyRecv v cfg (init progs) l :=
  ⟨h, posInv_fresh v cfg (fresh_init progs)⟩

theorem onlyRecv_step (v : Variant) (cfg : Cfg) (s : State) (l t : Tid) (Q : OnlyRecv v cfg s l) :
    OnlyRecv v cfg (step v cfg s t) l := by
  rw [← stepN_default]
  exact ⟨by rw [stepN_prog]; exact Q.prog, posInv_stepN Env.two v cfg s t Q.pos⟩

theorem step_recv (v : Variant) (cfg : Cfg) (s : State) (l : Tid) (Q : OnlyRecv v cfg s l) :
    (∃ d', (step v cfg s l).sh = { s.sh with dctx := d' }) ∧ (∀ u, u ≠ l → (step v cfg s l).th u = s.th u) := by
  rcases step_cases v cfg s l with e | ⟨c, st, r, _, _, _, _, hv, e⟩
  · rw [e]; exact ⟨⟨s.sh.dctx, rfl⟩, fun _ _ => rfl⟩
  · rw [e]
    have hall := Q.view
    rw [hv] at hall
    simp only [List.all_cons, Bool.and_eq_true] at hall
    obtain ⟨h1, _⟩ := exec_recv_only_decompressor v l st r s.sh c hall.1
    exact ⟨⟨_, by rw [setTh_sh]; exact h1⟩, fun u hu => setTh_other _ _ _ _ _ hu⟩

/-- the two runs: `a` with the receiving thread `l`, `b` with `l` idle -/
structure Erased (a b : State) (l : Tid) : Prop where
  sh : ∃ d, b.sh = { a.sh with dctx := d }
  th : ∀ u, u ≠ l → b.th u = a.th u
  idle : (b.th l).prog = [] ∧ (b.th l).cur = none

theorem recv_idle_step (v : Variant) (cfg : Cfg) (b : State) (l : Tid)
    (h : (b.th l).prog = [] ∧ (b.th l).cur = none) : step v cfg b l = b := by
  unfold step Thread.current
  rw [h.2, h.1]
  split
  · rfl
  · rename_i c hc
    split at hc <;> simp at hc

theorem erased_step (v : Variant) (cfg : Cfg) (a b : State) (l t : Tid) (Q : OnlyRecv v cfg a l)
    (E : Erased a b l) : Erased (step v cfg a t) (step v cfg b t) l := by
  obtain ⟨d, hd⟩ := E.sh
  by_cases ht : t = l
  · subst ht
    obtain ⟨⟨d', h1⟩, h3⟩ := step_recv v cfg a t Q
    rw [recv_idle_step v cfg b t E.idle]
    refine ⟨⟨d, ?_⟩, fun u hu => ?_, E.idle⟩
    · rw [hd, h1]
    · rw [h3 u hu]; exact E.th u hu
  · obtain ⟨⟨d', h1⟩, h2, h3⟩ := step_congr_d v cfg a b t d (E.th t ht) hd
    refine ⟨⟨d', h1⟩, fun u hu => ?_, ?_⟩
    · by_cases hut : u = t
      · subst hut; exact h2
      · rw [(h3 u hut).1, (h3 u hut).2]; exact E.th u hu
    · rw [(h3 l (Ne.symm ht)).1]; exact E.idle

theorem erased_run (v : Variant) (cfg : Cfg) (a b : State) (l : Tid) (sched : List Tid)
    (Q : OnlyRecv v cfg a l) (E : Erased a b l) : Erased (run v cfg a sched) (run v cfg b sched) l := by
  induction sched generalizing a b with
  | nil => exact E
  | cons t _ ih => exact ih _ _ (onlyRecv_step v cfg a l t Q) (erased_step v cfg a b l t Q E)

def without (progs : Tid → List Call) (l : Tid) : Tid → List Call := fun t => if t = l then [] else progs t

theorem erased_init (progs : Tid → List Call) (l : Tid) : Erased (init progs) (init (without progs l)) l := by
  refine ⟨⟨[], rfl⟩, fun u hu => ?_, ?_⟩
  · simp [init, without, hu]
  · simp [init, without]

end Lomond.Threads
