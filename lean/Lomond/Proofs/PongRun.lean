/-
  C14, run level: the trace of every run satisfies the Pong grammar `Good` (Proofs/PongTrace.lean).
  The invariant `J` ties the websocket state to the trace — the socket is closed iff `sockClose` is on
  it; closing or closed implies `marked`; `Inv` of Proofs/Closing.lean — so that `send_pong` is refused
  exactly when the trace before the Ping event is not `usable`.  `J` holds once the upgrade request has
  been handed to `sendall` and is kept by every turn of a connection (`Turn.rj`).  Before that, from a
  state without a socket, only `calm` entries are added (`RP`); `run_from_request` joins the two parts of
  `run()` for any relation the turns keep (PongTokens uses it for `RL`).  `Fin` is what the final state
  satisfies: `Good`, and no failed `sendall` unless the configuration makes one fail (`fin_runAll`).
-/
import Lomond.Proofs.PongTrace
import Lomond.Proofs.Timers
import Lomond.Proofs.ClosingInv
namespace Lomond.Core.PongRun
open Lomond Lomond.Core Lomond.Core.Pong

def NoFail (cfg : Cfg) : Prop := ∀ k, cfg.writeFails k = false

def NoFailTr (tr : List Obs) : Prop := ∀ o ∈ tr, o.isFail = false

theorem nofail_cons {o : Obs} {t : List Obs} (ho : o.isFail = false) (h : NoFailTr t) : NoFailTr (o :: t) := by
  exact List.forall_mem_cons.mpr ⟨ho, h⟩

/-- the part of the invariant that relates state and trace -/
structure JS (auto : Bool) (s : Sys) : Prop where
  auto : s.cfg.autoPong = auto
  va : s.cfg.v.closeArgs = true
  inv : Inv s
  sc : hasSockClose s.trace = !s.sockOpen
  mkd : Shut s → marked s.trace = true
  nf : NoFail s.cfg → NoFailTr s.trace

structure J (auto : Bool) (s : Sys) : Prop where
  js : JS auto s
  good : Good auto s.trace

def RJ (auto : Bool) (s s' : Sys) : Prop := J auto s → J auto s'

theorem rj_po (auto : Bool) : PO (RJ auto) := Monitor.pres_po _

/-- the trace before the next entry shows a usable connection iff the websocket accepts writes -/
theorem JS.usable_iff {auto : Bool} {s : Sys} (h : JS auto s) : usable s.trace = true ↔ Open s := by
  unfold usable marked
  constructor
  · intro hu
    have h1 : hasSockClose s.trace = false := by
      cases hh : hasSockClose s.trace
      · rfl
      · rw [hh] at hu; cases hu
    have h2 : hasClose s.trace = false := by
      cases hh : hasClose s.trace
      · rfl
      · rw [hh] at hu; simp at hu
    have hso : s.sockOpen = true := by
      have := h.sc; rw [h1] at this
      cases hs : s.sockOpen
      · rw [hs] at this; cases this
      · rfl
    have hns : ¬ Shut s := by
      intro hs
      have := h.mkd hs
      unfold marked at this; rw [h1, h2] at this; cases this
    refine ⟨hso, ?_, ?_⟩
    · cases hc : s.closing
      · rfl
      · exact absurd (Or.inl hc) hns
    · cases hc : s.closed
      · rfl
      · exact absurd (Or.inr hc) hns
  · intro ⟨h1, h2, h3⟩
    have a : hasSockClose s.trace = false := by rw [h.sc, h1]; rfl
    have b : hasClose s.trace = false := h.inv.noClose h2 h3
    rw [a, b]; rfl

theorem JS.not_usable {auto : Bool} {s : Sys} (h : JS auto s) (hn : ¬ Open s) : usable s.trace = false := by
  cases hu : usable s.trace
  · rfl
  · exact absurd (h.usable_iff.mp hu) hn

theorem JS.same {auto : Bool} {s s' : Sys} (h : JS auto s) (hi : Inv s') (hc : s'.cfg = s.cfg)
    (ht : s'.trace = s.trace) (hso : s'.sockOpen = s.sockOpen) (hk : Shut s' → Shut s) : JS auto s' :=
  ⟨by rw [hc]; exact h.auto, by rw [hc]; exact h.va, hi, by rw [ht, hso]; exact h.sc,
   fun hs => by rw [ht]; exact h.mkd (hk hs), fun h0 => by rw [ht]; exact h.nf (hc ▸ h0)⟩

theorem JS.cons {auto : Bool} {s s' : Sys} (o : Obs) (h : JS auto s) (hi : Inv s') (hc : s'.cfg = s.cfg)
    (ht : s'.trace = o :: s.trace) (ho : o.sockCl = false) (hso : s'.sockOpen = s.sockOpen)
    (hk : Shut s' → Shut s ∨ o.isClose = true) (hf : NoFail s.cfg → o.isFail = false) : JS auto s' := by
  refine ⟨by rw [hc]; exact h.auto, by rw [hc]; exact h.va, hi, ?_, ?_, ?_⟩
  · rw [ht, hasSockClose_cons, ho, hso]; exact h.sc
  · intro hs
    rw [ht]
    rcases hk hs with h1 | h1
    · exact marked_mono _ _ (h.mkd h1)
    · rw [marked_cons, h1]; simp
  · intro h0; rw [ht]; exact nofail_cons (hf (hc ▸ h0)) (h.nf (hc ▸ h0))

theorem J.same {auto : Bool} {s s' : Sys} (h : J auto s) (hi : Inv s') (hc : s'.cfg = s.cfg)
    (ht : s'.trace = s.trace) (hso : s'.sockOpen = s.sockOpen) (hk : Shut s' → Shut s) : J auto s' :=
  ⟨h.js.same hi hc ht hso hk, by rw [ht]; exact h.good⟩

theorem J.cons {auto : Bool} {s s' : Sys} (o : Obs) (h : J auto s) (hi : Inv s') (hc : s'.cfg = s.cfg)
    (ht : s'.trace = o :: s.trace) (ho : o.sockCl = false) (hp : o.pongOut = false) (he : o.pingEv = false)
    (hso : s'.sockOpen = s.sockOpen) (hk : Shut s' → Shut s ∨ o.isClose = true)
    (hf : NoFail s.cfg → o.isFail = false := by intro _; rfl) : J auto s' :=
  ⟨h.js.cons o hi hc ht ho hso hk hf, by rw [ht]; exact .plain hp he h.good⟩

structure Keep5 (s s' : Sys) : Prop where
  cfg : s'.cfg = s.cfg
  trace : s'.trace = s.trace
  sockOpen : s'.sockOpen = s.sockOpen
  closing : s'.closing = s.closing
  closed : s'.closed = s.closed

theorem Keep5.inv {s s' : Sys} (k : Keep5 s s') (h : Inv s) : Inv s' := by
  unfold Inv at *
  rw [k.trace, k.closing, k.closed]; exact h

theorem Keep5.shut {s s' : Sys} (k : Keep5 s s') (h : Shut s') : Shut s := by
  unfold Shut at *
  rw [k.closing, k.closed] at h; exact h

theorem rj_keep5 {auto : Bool} {s s' : Sys} (k : Keep5 s s') : RJ auto s s' :=
  fun h => h.same (k.inv h.js.inv) k.cfg k.trace k.sockOpen k.shut

/-- effect of `session.send(opcode, …)` on what `J` looks at -/
structure SF (op : Nat) (strict : Bool) (s s' : Sys) : Prop where
  cfg : s'.cfg = s.cfg
  sockOpen : s'.sockOpen = s.sockOpen
  closing : s'.closing = s.closing
  closed : s'.closed = s.closed
  tr : s'.trace = s.trace ∨
       (Open s ∧ ∃ o, s'.trace = o :: s.trace ∧ o.isWrite = true ∧ (o.pongOut = true → op = 10) ∧
          (o.isClose = true → op = 8) ∧ (strict = true → op = 8 → o.isClose = true) ∧
          (NoFail s.cfg → o.isFail = false))

theorem isWrite_facts {o : Obs} (h : o.isWrite = true) : o.sockCl = false ∧ o.pingEv = false ∧ o.resTok = false := by
  cases o <;> first | exact ⟨rfl, rfl, rfl⟩ | cases h

theorem isPongBytes_build (op : Nat) (pl key bs : Bytes) (h : Frame.build op pl key = some bs)
    (hp : isPongBytes bs = true) : op = 10 := by
  obtain ⟨r, rfl⟩ := build_first_byte op pl key bs h
  simp [isPongBytes] at hp
  omega

theorem sf_refl (op : Nat) (b : Bool) (s : Sys) : SF op b s s := ⟨rfl, rfl, rfl, rfl, Or.inl rfl⟩

theorem _root_.Lomond.Core.Pong.Sendall.nofail {d : Bytes} {z : Option (Nat × Bytes)} {s : Sys} {o : Obs}
    (h : Sendall d (s.cfg.writeFails s.writeCtr) z o) (h0 : NoFail s.cfg) : o.isFail = false := by
  cases h with
  | fail _ hf => rw [h0 _] at hf; cases hf
  | wr _ => rfl
  | wrz _ _ _ => rfl

theorem sf_sendFrame (op : Nat) (pl : Bytes) (c : Option Bytes) (hop : op < 16) (s : Sys) :
    ∃ r s', sendFrame op pl c s = .ok r s' ∧ SF op c.isNone s s' := by
  rcases sendFrame_obs op pl c s with ⟨r, e, _⟩ | ⟨ho, r, o, d, z, e, hf, hs⟩
  · exact ⟨r, _, e, rfl, rfl, rfl, rfl, Or.inl rfl⟩
  · refine ⟨r, _, e, rfl, rfl, rfl, rfl, Or.inr ⟨ho, o, rfl, hs.isWrite, ?_⟩⟩
    cases hf with
    | frame hb =>
      have hcl := isCloseBytes_build op pl _ d hop hb
      have hpg : isPongBytes d = true → op = 10 := isPongBytes_build op pl _ d hb
      have hc8 : op = 8 → isCloseBytes d = true := fun h8 => by rw [hcl, h8]; rfl
      have hnf := hs.nofail
      cases hs <;> exact ⟨hpg, fun h => eq_of_beq (hcl ▸ h), fun _ => hc8, hnf⟩
    | deflated plain =>
      refine ⟨?_, ?_, (fun h => by cases h), hs.nofail⟩
      · cases hs <;> exact fun h => by cases h
      · cases hs with
        | fail _ _ => exact fun h => by cases h
        | wrz _ _ _ => exact fun h => eq_of_beq h

theorem SF.shut {op : Nat} {b : Bool} {s s' : Sys} (h : SF op b s s') (hs : Shut s') : Shut s := by
  unfold Shut at *; rw [h.closing, h.closed] at hs; exact hs

theorem JS.of_sf {auto : Bool} {op : Nat} {b : Bool} {s s' : Sys} (h : JS auto s) (f : SF op b s s')
    (hi : Inv s') : JS auto s' := by
  rcases f.tr with e | ⟨_, o, e, hw, _, hc, _, hnf⟩
  · exact h.same hi f.cfg e f.sockOpen f.shut
  · exact h.cons o hi f.cfg e (isWrite_facts hw).1 f.sockOpen (fun hs => Or.inl (f.shut hs)) hnf

theorem J.of_sf {auto : Bool} {op : Nat} {b : Bool} {s s' : Sys} (h : J auto s) (f : SF op b s s')
    (hi : Inv s') (h10 : op ≠ 10) : J auto s' := by
  refine ⟨h.js.of_sf f hi, ?_⟩
  rcases f.tr with e | ⟨_, o, e, hw, hp, _, _⟩
  · rw [e]; exact h.good
  · rw [e]
    refine .plain ?_ (isWrite_facts hw).2.1 h.good
    cases hpo : o.pongOut
    · rfl
    · exact absurd (hp hpo) h10

theorem rj_sendFrame (auto : Bool) (op : Nat) (pl : Bytes) (c : Option Bytes) (hop : op < 16) (h8 : op ≠ 8)
    (h10 : op ≠ 10) : Spec (RJ auto) (sendFrame op pl c) := by
  intro s hJ
  obtain ⟨r, s', e, f⟩ := sf_sendFrame op pl c hop s
  have hi := (cl_sendFrame op pl c ⟨hop, h8⟩ s).inv hJ.js.inv
  rw [e] at hi ⊢
  exact hJ.of_sf f hi h10

/-- what `close()` does to the fields `J` looks at -/
structure WC (s s' : Sys) (r : ActRes) : Prop where
  cfg : s'.cfg = s.cfg
  sockOpen : s'.sockOpen = s.sockOpen
  closed : s'.closed = s.closed
  tr : (s'.trace = s.trace ∧ (Shut s' → Shut s ∨ ¬ Open s)) ∨
       (Open s ∧ ∃ o, s'.trace = o :: s.trace ∧ o.isWrite = true ∧ o.isClose = true ∧ o.pongOut = false ∧
          (NoFail s.cfg → o.isFail = false))
  res : (r = .ok ∧ Shut s') ∨ ((r = .valueError ∨ r = .typeError ∨ r = .structError) ∧ s' = s)

theorem wc_closeSent {s s1 : Sys} {pl : Bytes} {r : ActRes} (h : sendFrame Gen.opClose pl none s = .ok r s1)
    (hl : pl.length ≤ 125) : WC s (markClosing s1) .ok := by
  rcases sendFrame_obs Gen.opClose pl none s with ⟨a, ea, hn⟩ | ⟨ho, a, o, d, z, ea, hf, hw⟩
  · cases h.symm.trans ea
    have hno : ¬ Open s := fun ho => by rw [build_close _ _ hl] at hn; cases hn ho
    exact ⟨rfl, rfl, rfl, Or.inl ⟨rfl, fun _ => Or.inr hno⟩, Or.inl ⟨rfl, Or.inl rfl⟩⟩
  · cases h.symm.trans ea
    cases hf with
    | frame hb =>
      refine ⟨rfl, rfl, rfl, Or.inr ⟨ho, o, rfl, hw.isWrite, ?_, ?_, hw.nofail⟩, Or.inl ⟨rfl, Or.inl rfl⟩⟩
      · have hcl : isCloseBytes d = true := isCloseBytes_build _ _ _ d (by decide) hb
        cases hw <;> exact hcl
      · have hpg : isPongBytes d = false := by
          cases h : isPongBytes d
          · rfl
          · exact absurd (isPongBytes_build _ _ _ d hb h) (by decide)
        cases hw <;> exact hpg

theorem WC.shut {s s' : Sys} {r : ActRes} (w : WC s s' r) {auto : Bool} (h : JS auto s) (hs : Shut s') :
    marked s'.trace = true := by
  rcases w.tr with ⟨e, hk⟩ | ⟨_, o, e, _, hc, _⟩
  · rw [e]
    rcases hk hs with h1 | h1
    · exact h.mkd h1
    · have := h.not_usable h1
      unfold usable at this
      cases hm : marked s.trace
      · rw [hm] at this; cases this
      · rfl
  · rw [e, marked_cons, hc]; simp

theorem J.of_wc {auto : Bool} {s s' : Sys} {r : ActRes} (h : J auto s) (w : WC s s' r) (hi : Inv s') : J auto s' := by
  have hm := w.shut h.js
  refine ⟨⟨by rw [w.cfg]; exact h.js.auto, by rw [w.cfg]; exact h.js.va, hi, ?_, hm, ?_⟩, ?_⟩
  · rcases w.tr with ⟨e, _⟩ | ⟨_, o, e, hw, _, _⟩
    · rw [e, w.sockOpen]; exact h.js.sc
    · rw [e, hasSockClose_cons, (isWrite_facts hw).1, w.sockOpen]; exact h.js.sc
  · intro h0
    rcases w.tr with ⟨e, _⟩ | ⟨_, o, e, _, _, _, hnf⟩
    · rw [e]; exact h.js.nf (w.cfg ▸ h0)
    · rw [e]; exact nofail_cons (hnf (w.cfg ▸ h0)) (h.js.nf (w.cfg ▸ h0))
  · rcases w.tr with ⟨e, _⟩ | ⟨_, o, e, hw, _, hp, _⟩
    · rw [e]; exact h.good
    · rw [e]; exact .plain hp (isWrite_facts hw).2.1 h.good

/-- an API call made by the application: never raises, keeps `JS`, adds at most one entry, which
    is not a Ping event -/
def AppM (auto : Bool) (m : M ActRes) : Prop :=
  ∀ s, J auto s → ∃ r s', m s = .ok r s' ∧ JS auto s' ∧
    (s'.trace = s.trace ∨ ∃ o, s'.trace = o :: s.trace ∧ o.pingEv = false)

theorem app_sendFrame (auto : Bool) (op : Nat) (pl : Bytes) (c : Option Bytes) (hop : op < 16) (h8 : op ≠ 8) :
    AppM auto (sendFrame op pl c) := by
  intro s hJ
  obtain ⟨r, s', e, f⟩ := sf_sendFrame op pl c hop s
  have hi := (cl_sendFrame op pl c ⟨hop, h8⟩ s).inv hJ.js.inv
  rw [e] at hi
  refine ⟨r, s', e, hJ.js.of_sf f hi, ?_⟩
  rcases f.tr with e1 | ⟨_, o, e1, hw, _⟩
  · exact Or.inl e1
  · exact Or.inr ⟨o, e1, (isWrite_facts hw).2.1⟩

theorem J.closeSocket {auto : Bool} {s : Sys} (h : J auto s) : J auto (sockClosed s) := by
  have hi : Inv (sockClosed s) := by
    have := (cl_closeSocket s).inv h.js.inv
    rw [closeSocket_eq] at this; exact this
  unfold sockClosed at hi ⊢
  split
  · rename_i ho
    rw [if_pos ho] at hi
    exact ⟨⟨h.js.auto, h.js.va, hi, rfl, fun _ => rfl, fun h0 => nofail_cons rfl (h.js.nf h0)⟩, .plain rfl rfl h.good⟩
  · exact h

theorem rj_logRes {auto : Bool} {m : M ActRes} (hm : AppM auto m) : Spec (RJ auto) (logRes m) := by
  intro s hJ
  obtain ⟨r, s1, e, js, ht⟩ := hm s hJ
  have el : logRes m s = .ok () { s1 with trace := .res r :: s1.trace } := by
    unfold logRes; rw [bind_ok e]; rfl
  rw [el]
  simp only [Res.state_ok]
  have hi := (cl_atYield.logged s1 r).inv js.inv
  refine ⟨js.cons (.res r) hi rfl rfl rfl rfl (fun h => Or.inl h) (fun _ => rfl), ?_⟩
  show Good auto (.res r :: s1.trace)
  rcases ht with e1 | ⟨o, e1, ho⟩
  · rw [e1]; exact .plain rfl rfl hJ.good
  · rw [e1]; exact .app ho hJ.good

theorem onEvent_other_keep {e : Event} {s s1 : Sys} (he : (Obs.ev e).pingEv = false)
    (h : onEvent e s = .ok () s1) : Keep5 s s1 := by
  cases e with
  | ping d => cases he
  | _ => simp only [onEvent] at h; cases h; constructor <;> rfl

/-- a Ping event that finds automatic pongs off or the connection unusable: nothing was written -/
theorem J.ping_skipped {auto : Bool} {d : Bytes} {s s1 : Sys} (hJ : J auto s) (k : Keep5 s s1)
    (hi : Inv (pushEv (.ping d) s1)) (hu : (auto && usable s.trace) = false) :
    J auto (pushEv (.ping d) s1) := by
  have hJ1 := rj_keep5 k hJ
  refine ⟨hJ1.js.cons (.ev (.ping d)) hi rfl rfl rfl rfl (fun hs => Or.inl hs) (fun _ => rfl), ?_⟩
  show Good auto (.ev (.ping d) :: s1.trace)
  rw [k.trace]; exact .skipped hu hJ.good

/-- a Ping event on a usable connection: its Pong was handed to `sendall` right before it -/
theorem J.ping_answered {auto : Bool} {d : Bytes} {s : Sys} {o : Obs} (hJ : J auto s) (ho : Open s)
    (ha : auto = true) (hp : IsPongFor d o) (hnf : NoFail s.cfg → o.isFail = false)
    (hi : Inv (pushEv (.ping d) (sentState s o))) : J auto (pushEv (.ping d) (sentState s o)) := by
  have hu : usable s.trace = true := hJ.js.usable_iff.mpr ho
  refine ⟨⟨hJ.js.auto, hJ.js.va, hi, ?_, ?_, ?_⟩, .answered ha hu hp hJ.good⟩
  · show hasSockClose (.ev (.ping d) :: o :: s.trace) = !s.sockOpen
    rw [hasSockClose_cons, hasSockClose_cons, hp.sockCl]; exact hJ.js.sc
  · intro hs; exact marked_mono _ _ (marked_mono _ _ (hJ.js.mkd hs))
  · intro h0; exact nofail_cons (o := .ev (.ping d)) rfl (nofail_cons (hnf h0) (hJ.js.nf h0))

/-- **`_on_event` followed by handing the event to the application keeps the invariant**: a Ping
    received while the websocket accepts writes is answered (Pong written, or the write failed)
    right before the event; otherwise nothing is written -/
theorem J.onEvent_push {auto : Bool} {e : Event} {s s1 : Sys} (h : onEvent e s = .ok () s1) (hJ : J auto s) :
    J auto (pushEv e s1) := by
  have hi := (cl_atYield.yielded e trivial s1).inv (((cl_atYield.calls.onEvent e).ok h).inv hJ.js.inv)
  by_cases he : (Obs.ev e).pingEv = false
  · exact (rj_keep5 (onEvent_other_keep he h) hJ).cons (.ev e) hi rfl rfl rfl rfl he rfl (fun hs => Or.inl hs)
  · cases e with
    | ping d =>
      refine onEvent_ping_elim (P := fun q => q = .ok () s1 → J auto (pushEv (.ping d) s1)) d s ?_ ?_ ?_ ?_ h
      · intro hap e; cases e
        exact hJ.ping_skipped (by constructor <;> rfl) hi (by rw [← hJ.js.auto, hap]; rfl)
      · intro _ _ e; cases e
      · intro _ _ hno e; cases e
        exact hJ.ping_skipped (by constructor <;> rfl) hi (by rw [hJ.js.not_usable hno]; simp)
      · intro hap _ ho o hw e; cases e
        refine hJ.ping_answered ho (by rw [← hJ.js.auto]; exact hap) ?_ hw.nofail hi
        cases hw with
        | fail _ _ => exact ⟨_, Or.inr rfl⟩
        | wr _ => exact ⟨_, Or.inl rfl⟩
    | _ => exact absurd rfl he

theorem rj_tick (auto : Bool) (s : Sys) (dt : Nat) : RJ auto s (tick s dt) := by
  intro h
  have hi := (cl_tick s dt).inv h.js.inv
  by_cases hd : dt = 0
  · subst hd; exact h
  · rw [tick_pos s dt hd] at hi ⊢
    exact h.cons (.tick (s.now + dt)) hi rfl rfl rfl rfl rfl rfl (fun hs => Or.inl hs)

theorem rj_checkCloseCode (auto : Bool) (c : Option Nat) : Spec (RJ auto) (checkCloseCode c) :=
  spec_checkCloseCode (rj_po auto) c

theorem _root_.Lomond.Core.Turn.rj {L : Prop} {auto : Bool} {s s' : Sys} (h : Turn L s s') : RJ auto s s' := by
  have token (r : ActRes) (a : Sys) : RJ auto a (resState a r) :=
    (rj_logRes (m := pure r) fun a h => ⟨r, a, rfl, h.js, Or.inl rfl⟩).ok (logRes_ok_wire rfl)
  have closed {s1 : Sys} {pl : Bytes} {r : ActRes} (h : sendFrame Gen.opClose pl none s = .ok r s1)
      (hl : s.cfg.v.closeArgs = true → pl.length ≤ 125) : RJ auto s (markClosing s1) := fun hJ =>
    hJ.of_wc (wc_closeSent h (hl hJ.js.va)) (((weff_sendFrame_ok (by decide) h).cl_closing _).inv hJ.js.inv)
  cases h with
  | silent h => exact rj_keep5 ⟨h.cfg, h.trace, h.sockOpen, h.closing, h.closed⟩
  | tick dt => exact rj_tick auto s dt
  | polled => exact rj_keep5 (by constructor <;> rfl)
  | pinged _ _ => exact rj_keep5 (by constructor <;> rfl)
  | ev e h => exact fun hJ => hJ.onEvent_push h
  | ready p d => exact fun hJ => hJ.onEvent_push (e := .ready p d) rfl
  | pong d => exact fun hJ => hJ.onEvent_push (e := .pong d) rfl
  | autoPong d _ ha hl h => exact fun hJ => hJ.onEvent_push (onEvent_autoPong ha hl h)
  | autoPing _ h => exact (rj_sendFrame auto _ _ _ (by decide) (by decide) (by decide)).ok h
  | called h =>
    cases h with
    | res r _ => exact token r s
    | send h hop _ _ => exact (rj_logRes (app_sendFrame auto _ _ _ (by omega) (by omega))).ok (logRes_ok_wire h)
    | close _ _ h hl => exact (rj_po auto).trans (closed h hl) (token _ _)
    | sessionClose => exact (rj_po auto).trans (fun hJ => hJ.closeSocket) (token _ _)
  | abandon w => exact rj_keep5 (by constructor <;> rfl)
  | libClose _ _ _ h hl => exact closed h hl
  | sockClosed _ => exact fun hJ => hJ.closeSocket
  -- `Shut → marked` survives: the socket is gone, so `sockClose` is on the trace, or the mark was there
  | closedSet hg =>
    intro hJ
    have hm : marked s.trace = true := by
      rcases hg with h | h
      · unfold marked; rw [hJ.js.sc, h]; rfl
      · exact hJ.js.mkd h
    exact ⟨⟨hJ.js.auto, hJ.js.va, ⟨hJ.js.inv.1, fun _ => Or.inr rfl⟩, hJ.js.sc, fun _ => hm, hJ.js.nf⟩, hJ.good⟩
  | closeAcked hs =>
    exact fun hJ =>
      ⟨⟨hJ.js.auto, hJ.js.va, ⟨hJ.js.inv.1, fun _ => Or.inl rfl⟩, hJ.js.sc, fun _ => hJ.js.mkd hs, hJ.js.nf⟩, hJ.good⟩
  | selClosed ho =>
    exact fun hJ => hJ.cons .selClose ((Turn.selClosed (L := L) ho).cl.inv hJ.js.inv) rfl rfl rfl rfl rfl rfl
      (fun hs => Or.inl hs)
  | incomplete =>
    exact fun hJ => hJ.cons .incomplete ((Turn.incomplete (L := L) s).cl.inv hJ.js.inv) rfl rfl rfl rfl rfl rfl
      (fun hs => Or.inl hs)

theorem rj_yields (auto : Bool) : Yields (RJ auto) := .ofTurn (rj_po auto) Turn.rj

def calm (o : Obs) : Bool := !o.isWrite && !o.pingEv && !o.sockCl

def Pre (s : Sys) : Prop := s.sockOpen = false

/-- from a state without a socket: still no socket, and only calm entries were added -/
def RP (s s' : Sys) : Prop :=
  Pre s → Pre s' ∧ s'.cfg = s.cfg ∧ ∃ l, s'.trace = l ++ s.trace ∧ ∀ o ∈ l, calm o = true

theorem rp_po : PO RP where
  refl _ := fun h => ⟨h, rfl, [], rfl, by simp⟩
  trans h1 h2 := fun ha =>
    ⟨(h2 (h1 ha).1).1, (h2 (h1 ha).1).2.1.trans (h1 ha).2.1, ext_trans (h1 ha).2.2 (h2 (h1 ha).1).2.2⟩

theorem rp_same {s s' : Sys} (hso : s'.sockOpen = s.sockOpen) (hc : s'.cfg = s.cfg) (ht : s'.trace = s.trace) :
    RP s s' := fun h => ⟨hso.trans h, hc, [], ht, by simp⟩

theorem rp_one {s s' : Sys} (o : Obs) (hso : s'.sockOpen = s.sockOpen) (hc : s'.cfg = s.cfg)
    (ht : s'.trace = o :: s.trace) (ho : calm o = true) : RP s s' :=
  fun h => ⟨hso.trans h, hc, [o], ht, by simp [ho]⟩

/-- without a socket `session.write` refuses, so the guarded updates of the write path do not occur -/
theorem rp_sendFrame (op : Nat) (pl : Bytes) (c : Option Bytes) : Spec RP (sendFrame op pl c) :=
  spec_sendFrame rp_po op pl c (fun s => rp_same rfl rfl rfl) (fun d =>
    spec_write rp_po d _ (fun s o ho _ _ _ hp => by rw [hp] at ho; cases ho))

theorem rp_doActs (as : List Act) : Spec RP (doActs as) :=
  spec_doActs rp_po as (fun a _ => spec_doAct rp_po a
    (fun op pl c _ => spec_sendData op pl c (rp_sendFrame op pl none) (fun s _ => rp_sendFrame op [] (some pl) s))
    (fun op pl _ _ => rp_sendFrame op pl none)
    (fun c r _ => spec_wsClose rp_po c r (fun pl => rp_sendFrame _ pl none) (fun s => rp_same rfl rfl rfl))
    (fun _ => spec_closeSocket rp_po (fun s ho hp => by rw [hp] at ho; cases ho))
    (fun s r => rp_one (.res r) rfl rfl rfl rfl) (fun w _ s => rp_same rfl rfl rfl))

theorem rp_yieldEv (e : Event) (he : (Obs.ev e).pingEv = false) : Spec RP (yieldEv e) := by
  intro s
  rw [yieldEv_eq]
  refine rp_po.trans (rp_one (s := s) (s' := pushEv e s) (.ev e) rfl rfl rfl ?_) (rp_doActs _ _)
  simp only [calm, he]; rfl

theorem not_write_facts {o : Obs} (h : o.isWrite = false) : o.pongOut = false ∧ o.isFail = false := by
  cases o <;> first | exact ⟨rfl, rfl⟩ | cases h

theorem and_not_facts {a b : Bool} (h : (!a && !b) = true) : a = false ∧ b = false := by
  cases a <;> cases b <;> first | exact ⟨rfl, rfl⟩ | cases h

theorem good_of_calm (auto : Bool) (t : List Obs) (h : ∀ o ∈ t, (!o.isWrite && !o.pingEv) = true) : Good auto t :=
  Good.of_plain auto t (fun o ho =>
    ⟨(not_write_facts (and_not_facts (h o ho)).1).1, (and_not_facts (h o ho)).2⟩)

/-- the upgrade request (the only thing handed to `sendall` that is not a frame) does not look
    like a Close or a Pong frame — the real one starts with `GET ` -/
def ReqPlain (cfg : Cfg) : Prop := isCloseBytes cfg.request = false ∧ isPongBytes cfg.request = false

theorem calm_facts {o : Obs} (h : calm o = true) : o.isWrite = false ∧ o.pingEv = false ∧ o.sockCl = false := by
  unfold calm at h
  cases h1 : o.isWrite <;> cases h2 : o.pingEv <;> cases h3 : o.sockCl <;> simp_all

theorem calm_noWrite (t : List Obs) (h : ∀ o ∈ t, calm o = true) : noWrite t = true := by
  unfold noWrite
  rw [List.all_eq_true]
  intro o ho; rw [(calm_facts (h o ho)).1]; rfl

theorem calm_hasClose (t : List Obs) (h : ∀ o ∈ t, calm o = true) : hasClose t = false := by
  have := hasClose_append_noWrite t [] (calm_noWrite t h)
  rw [List.append_nil] at this; rw [this]; rfl

theorem calm_quiet (t : List Obs) (h : ∀ o ∈ t, calm o = true) : quiet t = true := by
  have := quiet_append_noWrite t [] (calm_noWrite t h)
  rw [List.append_nil] at this; rw [this]; rfl

theorem calm_hasSockClose (t : List Obs) (h : ∀ o ∈ t, calm o = true) : hasSockClose t = false := by
  unfold hasSockClose
  cases hh : t.any Obs.sockCl
  · rfl
  · rw [List.any_eq_true] at hh
    obtain ⟨o, ho, hs⟩ := hh
    rw [(calm_facts (h o ho)).2.2] at hs; cases hs

theorem calm_nofail (t : List Obs) (h : ∀ o ∈ t, calm o = true) : NoFailTr t := by
  intro o ho
  have := (calm_facts (h o ho)).1
  cases o <;> first | rfl | cases this

def Fin (auto : Bool) (s : Sys) : Prop := Good auto s.trace ∧ (NoFail s.cfg → NoFailTr s.trace)

theorem J.fin {auto : Bool} {s : Sys} (h : J auto s) : Fin auto s := ⟨h.good, h.js.nf⟩

/-- **`run()` up to the upgrade request, once.**  A property `P` of the final state holds if it
    holds of every state whose trace has neither a write nor a Ping event (no socket was obtained,
    or the request was refused), and of every state `R`-reachable from the state in which the
    request has just been handed to `sendall` on the fresh socket -/
theorem run_from_request {R : Sys → Sys → Prop} (T : AroundLoop R) (hloop : ∀ env, Spec R (loop env))
    {P : Sys → Prop} (cfg : Cfg) (react : React) (env : List EnvStep)
    (hq : ∀ s : Sys, (∀ o ∈ s.trace, (!o.isWrite && !o.pingEv) = true) → P s)
    (hw : ∀ (s1 : Sys) (o : Obs) (s' : Sys), Pre s1 → (∀ x ∈ s1.trace, calm x = true) → s1.cfg = cfg →
      Open { s1 with sockOpen := true } → Sendall s1.cfg.request (s1.cfg.writeFails s1.writeCtr) none o →
      R (wrote { s1 with sockOpen := true } (some o)) s' → P s') :
    P (run { cfg := cfg, react := react, env := env }).state := by
  have qcalm : ∀ {o : Obs}, calm o = true → (!o.isWrite && !o.pingEv) = true := fun h => by
    obtain ⟨h1, h2, _⟩ := calm_facts h; rw [h1, h2]; rfl
  have hfail : ∀ (msg : String) (s : Sys), Pre s → (∀ o ∈ s.trace, (!o.isWrite && !o.pingEv) = true) →
      P (yieldEv (.connectFail msg) s).state := by
    intro msg s hp hs
    obtain ⟨_, _, l, el, hl⟩ := rp_yieldEv (.connectFail msg) rfl s hp
    refine hq _ (fun o ho => ?_)
    rw [el] at ho
    rcases List.mem_append.mp ho with h | h
    · exact qcalm (hl o h)
    · exact hs o h
  have h1 := rp_yieldEv .connecting rfl { cfg := cfg, react := react, env := env } rfl
  unfold run
  cases hy : yieldEv .connecting { cfg := cfg, react := react, env := env } with
  | err x s1 =>
    rw [hy] at h1
    obtain ⟨_, _, l, el, hl⟩ := h1
    rw [bind_err hy]
    simp only [Res.state_err] at el ⊢
    exact hq _ (by rw [el]; exact fun o ho => qcalm (hl o (by simpa using ho)))
  | ok u s1 =>
    rw [hy] at h1
    obtain ⟨pre1, hcfg, l, el, hl⟩ := h1
    simp only [Res.state_ok] at pre1 hcfg el
    have hc1 : ∀ o ∈ s1.trace, calm o = true := by
      rw [el]; intro o ho; exact hl o (by simpa using ho)
    rw [bind_ok hy, getS_bind]
    have hconn : ∀ B : M Unit, Spec R B →
        P ((modS (fun s => { s with sockOpen := true }) >>= fun _ => getS >>= fun s =>
          write s.cfg.request >>= fun r =>
            if wsError r = true then (do closeSocket; yieldEv (.connectFail "request-failed") : M Unit) else B) s1).state := by
      intro B hB
      rw [modS_bind,
        getS_bind]
      rcases write_obs s1.cfg.request none { s1 with sockOpen := true } with ⟨hno, _⟩ | ⟨ho, r, o, e, hwo⟩
      · -- the application called `close()` at `Connecting`: the request is refused
        have hs : Shut { s1 with sockOpen := true } := by
          by_cases h2 : s1.closing = true
          · exact Or.inl h2
          · by_cases h3 : s1.closed = true
            · exact Or.inr h3
            · exact absurd ⟨rfl, by simpa using h2, by simpa using h3⟩ hno
        rw [bind_ok (write_refused _ _ _ hs), if_pos (refusal_wsError _)]
        show P ((closeSocket >>= fun _ => yieldEv (.connectFail "request-failed")) _).state
        rw [bind_ok (closeSocket_eq _)]
        have e3 : sockClosed { s1 with sockOpen := true } = { s1 with sockOpen := false, trace := .sockClose :: s1.trace } := by
          unfold sockClosed; simp
        rw [e3]
        exact hfail _ _ rfl (List.forall_mem_cons.mpr ⟨rfl, fun o h => qcalm (hc1 o h)⟩)
      · rw [bind_ok e]
        refine hw s1 o _ pre1 hc1 hcfg ho hwo ?_
        split
        · exact spec_bind T.po T.closeSocket (fun _ => T.yieldEv _ rfl) _
        · exact hB _
    cases hcn : s1.cfg.connect with
    | socketFail => exact hfail _ s1 pre1 (fun o ho => qcalm (hc1 o ho))
    | otherFail => exact hfail _ s1 pre1 (fun o ho => qcalm (hc1 o ho))
    | ok proxy => exact hconn _ (run_afterK T (run_runLoop T hloop) proxy true)
    | selFail proxy => exact hconn _ (run_afterK T (run_runLoopNoSel T) proxy false)

theorem J.after_request {auto : Bool} {s1 : Sys} {o : Obs} (hva : s1.cfg.v.closeArgs = true)
    (hc : ∀ x ∈ s1.trace, calm x = true) (ha : s1.cfg.autoPong = auto) (hreq : ReqPlain s1.cfg) (ho : Open { s1 with sockOpen := true })
    (hw : Sendall s1.cfg.request (s1.cfg.writeFails s1.writeCtr) none o) :
    J auto (wrote { s1 with sockOpen := true } (some o)) := by
  have hoc : o.isClose = false ∧ o.pongOut = false ∧ o.isWrite = true := by
    cases hw <;> exact ⟨hreq.1, hreq.2, rfl⟩
  have hcl : hasClose (o :: s1.trace) = false := by rw [hasClose_cons, hoc.1, calm_hasClose _ hc]; rfl
  refine ⟨⟨ha, hva, ⟨?_, ?_⟩, ?_, ?_, fun h0 => nofail_cons (hw.nofail h0) (calm_nofail _ hc)⟩,
    .plain hoc.2.1 (isWrite_facts hoc.2.2).2.1 (good_of_calm auto _ fun o ho => by
      obtain ⟨h1, h2, _⟩ := calm_facts (hc o ho); rw [h1, h2]; rfl)⟩
  · show quiet (o :: s1.trace) = true
    rw [quiet, calm_hasClose _ hc, calm_quiet _ hc]; simp
  · intro (h : hasClose (o :: s1.trace) = true); rw [hcl] at h; cases h
  · show hasSockClose (o :: s1.trace) = !true
    rw [hasSockClose_cons, (isWrite_facts hoc.2.2).1, calm_hasSockClose _ hc]; rfl
  · intro hs
    obtain ⟨_, h2, h3⟩ := ho
    rcases hs with h | h
    · rw [h2] at h; cases h
    · rw [h3] at h; cases h

theorem good_run (cfg : Cfg) (react : React) (env : List EnvStep) (hv : cfg.v.closeArgs = true)
    (hreq : ReqPlain cfg) :
    Fin cfg.autoPong (run { cfg := cfg, react := react, env := env }).state :=
  run_from_request (P := Fin cfg.autoPong) (rj_yields cfg.autoPong).around (rj_yields cfg.autoPong).loop
    cfg react env (fun s h => ⟨good_of_calm _ _ h, fun _ o ho => (not_write_facts (and_not_facts (h o ho)).1).2⟩)
    (fun s1 o s' pre hc hcfg ho hw hR =>
      (hR (J.after_request (by rw [hcfg]; exact hv) hc (by rw [hcfg]) (by rw [hcfg]; exact hreq) ho hw)).fin)

/-- **the trace of every connection satisfies the Pong grammar**, and contains no failed
    `sendall` unless the configuration makes one fail -/
theorem fin_runAll (cfg : Cfg) (react : React) (env : List EnvStep) (hv : cfg.v.closeArgs = true)
    (hreq : ReqPlain cfg) : Fin cfg.autoPong (runAll cfg react env) := by
  have one : ∀ (s s' : Sys) (o : Obs), s'.cfg = s.cfg → s'.trace = o :: s.trace → o.pongOut = false →
      o.pingEv = false → o.isFail = false → Fin cfg.autoPong s → Fin cfg.autoPong s' :=
    fun s s' o hc ht h1 h2 h3 hs =>
      ⟨by rw [ht]; exact .plain h1 h2 hs.1, fun h0 => by rw [ht]; exact nofail_cons h3 (hs.2 (hc ▸ h0))⟩
  exact run_runAll (Monitor.pres_po (Fin cfg.autoPong))
    (spec_closeSocket (Monitor.pres_po _) fun s _ => one s _ .sockClose rfl rfl rfl rfl rfl)
    (fun s => one s _ .incomplete rfl rfl rfl rfl rfl) cfg react env (fun _ => good_run cfg react env hv hreq)
    ⟨.nil, fun _ o ho => nomatch ho⟩

theorem good_runAll (cfg : Cfg) (react : React) (env : List EnvStep) (hv : cfg.v.closeArgs = true)
    (hreq : ReqPlain cfg) : Good cfg.autoPong (runAll cfg react env).trace :=
  (fin_runAll cfg react env hv hreq).1

theorem nofail_runAll (cfg : Cfg) (react : React) (env : List EnvStep) (hv : cfg.v.closeArgs = true)
    (hreq : ReqPlain cfg) (hnf : NoFail cfg) : NoFailTr (runAll cfg react env).trace := by
  have h := (fin_runAll cfg react env hv hreq).2
  rw [Timers.cfg_runAll] at h
  exact h hnf

end Lomond.Core.PongRun
