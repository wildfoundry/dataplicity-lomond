/-
  What the sending functions of the core model do, stated once: the vocabulary of the write path
  (`Obs.isWrite`, `wrote`, `sentState`, `CanSend`, `wrObs`, `writeOutcome`, `keyDrawn`, `FrameOut`,
  `sockClosed`, `selClosed`, `markClosing`, `argBytes`, `codeTooBig`, `pushEv`), one elimination each for
  `write`, `sendFrame`, `wsClose` (every branch with its guard, return value and final state), the
  equations `write_eq`, `wsClose_noop`, `wsClose_live`, `closeSocket_eq`, `selClose_eq` for statements
  about two runs, and application calls classified by shape (`ApiBody`, `doAct_body`, `doAct_elim`).
  Beside them the small facts about functions that do not send: `feedYield_ok_inv`, `onEvent_err`,
  `logRes_ok`, `yieldEv_eq`, `tick_zero` / `tick_pos`, `regular_not_ready`.
-/
import Lomond.Proofs.Logic
namespace Lomond.Core
open Lomond

/-- anything handed to `sendall` (successfully or not) -/
def Obs.isWrite : Obs → Bool
  | .wr _ => true
  | .wrz _ _ => true
  | .wrFail _ => true
  | _ => false

def Obs.isEv : Obs → Bool
  | .ev _ => true
  | _ => false

def wrote (s : Sys) : Option Obs → Sys
  | none => s
  | some o => { s with writeCtr := s.writeCtr + 1, trace := o :: s.trace }

def sentState (s : Sys) (o : Obs) : Sys :=
  { s with keyCtr := s.keyCtr + 1, writeCtr := s.writeCtr + 1, trace := o :: s.trace }

def CanSend (s : Sys) : Prop := s.sockOpen = true ∧ s.closed = false ∧ s.closing = false

def wrObs (d : Bytes) : Option (Nat × Bytes) → Obs
  | none => .wr d
  | some (op, plain) => .wrz op plain

theorem res_if {P : Res α → Prop} {c : Prop} [Decidable c] {a b : Res α} (ha : c → P a) (hb : ¬ c → P b) :
    P (if c then a else b) := by
  by_cases h : c
  · rw [if_pos h]; exact ha h
  · rw [if_neg h]; exact hb h

theorem wrObs_isWrite {d : Bytes} {z : Option (Nat × Bytes)} {o : Obs} (h : o = .wrFail d ∨ o = wrObs d z) :
    o.isWrite = true := by
  rcases h with rfl | rfl
  · rfl
  · cases z <;> rfl

def keyDrawn (s : Sys) : Sys := { s with keyCtr := s.keyCtr + 1 }

/-- what `session.send(op, pl)` hands to `session.write`: the frame built with the masking key, or
    (compressed send) the plain message under its opcode -/
inductive FrameOut (op : Nat) (pl key : Bytes) : Option Bytes → Bytes → Option (Nat × Bytes) → Prop
  | frame {bs : Bytes} : Frame.build op pl key = some bs → FrameOut op pl key none bs none
  | deflated (plain : Bytes) : FrameOut op pl key (some plain) [] (some (op, plain))

/-- `_close_socket()` as a state transformer -/
def sockClosed (s : Sys) : Sys :=
  if s.sockOpen then { s with sockOpen := false, trace := .sockClose :: s.trace } else s

theorem sockClosed_cases (s : Sys) :
    (s.sockOpen = true ∧ sockClosed s = { s with sockOpen := false, trace := .sockClose :: s.trace }) ∨
    (s.sockOpen = false ∧ sockClosed s = s) := by
  unfold sockClosed
  cases h : s.sockOpen
  · exact .inr ⟨rfl, rfl⟩
  · exact .inl ⟨rfl, rfl⟩

/-- the same without the case split: the flag is off, zero or one `sockClose` entries are logged -/
theorem sockClosed_shape (s : Sys) :
    ∃ l, sockClosed s = { s with sockOpen := false, trace := l ++ s.trace } ∧ ∀ o ∈ l, o = .sockClose := by
  rcases sockClosed_cases s with ⟨_, e⟩ | ⟨h, e⟩
  · exact ⟨[.sockClose], e, by simp⟩
  · exact ⟨[], by rw [e, ← h]; rfl, by simp⟩

theorem sockClosed_sockOpen (s : Sys) : (sockClosed s).sockOpen = false := by
  rcases sockClosed_cases s with ⟨_, e⟩ | ⟨h, e⟩ <;> rw [e]
  exact h

theorem closeSocket_eq (s : Sys) : closeSocket s = .ok () (sockClosed s) := by
  unfold closeSocket sockClosed; split <;> rfl

theorem onDisconnect_eq (s : Sys) :
    onDisconnect s = .ok () { sockClosed s with closing := false, closed := true } := by
  unfold onDisconnect
  rw [bind_ok (closeSocket_eq s)]; rfl

/-- `selector.close()` as a state transformer -/
def selClosed (s : Sys) : Sys :=
  if s.selOpen then { s with selOpen := false, trace := .selClose :: s.trace } else s

theorem selClosed_cases (s : Sys) :
    (s.selOpen = true ∧ selClosed s = { s with selOpen := false, trace := .selClose :: s.trace }) ∨
    (s.selOpen = false ∧ selClosed s = s) := by
  unfold selClosed
  cases h : s.selOpen
  · exact .inr ⟨rfl, rfl⟩
  · exact .inl ⟨rfl, rfl⟩

theorem selClosed_shape (s : Sys) :
    ∃ l, selClosed s = { s with selOpen := false, trace := l ++ s.trace } ∧ ∀ o ∈ l, o = .selClose := by
  rcases selClosed_cases s with ⟨_, e⟩ | ⟨h, e⟩
  · exact ⟨[.selClose], e, by simp⟩
  · exact ⟨[], by rw [e, ← h]; rfl, by simp⟩

theorem selClose_eq (s : Sys) : selClose s = .ok () (selClosed s) := by
  unfold selClose selClosed; split <;> rfl

theorem closeSocket_ne_err (s : Sys) (x : Exn) (s' : Sys) : closeSocket s ≠ .err x s' := by
  rw [closeSocket_eq]; exact fun e => nomatch e

theorem selClose_ne_err (s : Sys) (x : Exn) (s' : Sys) : selClose s ≠ .err x s' := by
  rw [selClose_eq]; exact fun e => nomatch e

/-- the outcomes of `write`: refused with the state untouched, or — on an open socket of a websocket
    neither closed nor closing — one counted `sendall`, failed or completed, logged -/
theorem write_elim {P : Res ActRes → Prop} (d : Bytes) (z : Option (Nat × Bytes)) (s : Sys)
    (hno : ∀ r, r = .wsUnavailable ∧ s.sockOpen = false ∨ r = .wsClosed ∧ s.closed = true ∨
      r = .wsClosing ∧ s.closing = true → P (.ok r s))
    (hw : s.sockOpen = true → s.closed = false → s.closing = false →
      ∀ r o, r = .transportFail ∧ o = .wrFail d ∧ s.cfg.writeFails s.writeCtr = true ∨
        r = .ok ∧ o = wrObs d z ∧ s.cfg.writeFails s.writeCtr = false →
      P (.ok r { s with writeCtr := s.writeCtr + 1, trace := o :: s.trace })) : P (write d z s) := by
  unfold write
  refine res_if (fun h1 => hno _ (Or.inl ⟨rfl, Bool.eq_false_iff.mpr h1⟩)) (fun h1 =>
    res_if (fun h2 => hno _ (Or.inr (Or.inl ⟨rfl, h2⟩))) (fun h2 =>
    res_if (fun h3 => hno _ (Or.inr (Or.inr ⟨rfl, h3⟩))) (fun h3 => ?_)))
  have g := hw (Decidable.not_not.mp h1) (Bool.eq_false_iff.mpr h2) (Bool.eq_false_iff.mpr h3)
  refine res_if (fun h4 => g _ _ (Or.inl ⟨rfl, rfl, h4⟩)) (fun h4 => ?_)
  cases z with
  | none => exact g _ _ (Or.inr ⟨rfl, rfl, Bool.eq_false_iff.mpr h4⟩)
  | some p => exact g _ _ (Or.inr ⟨rfl, rfl, Bool.eq_false_iff.mpr h4⟩)

def writeOutcome (d : Bytes) (z : Option (Nat × Bytes)) (s : Sys) : ActRes × Option Obs :=
  if ¬ s.sockOpen then (.wsUnavailable, none)
  else if s.closed then (.wsClosed, none)
  else if s.closing then (.wsClosing, none)
  else if s.cfg.writeFails s.writeCtr then (.transportFail, some (.wrFail d))
  else (.ok, some (match z with | none => .wr d | some (op, plain) => .wrz op plain))

theorem write_eq (d : Bytes) (z : Option (Nat × Bytes)) (s : Sys) :
    write d z s = .ok (writeOutcome d z s).1 (wrote s (writeOutcome d z s).2) := by
  unfold write writeOutcome
  by_cases h1 : ¬ s.sockOpen = true
  · rw [if_pos h1, if_pos h1]; rfl
  · rw [if_neg h1, if_neg h1]
    by_cases h2 : s.closed = true
    · rw [if_pos h2, if_pos h2]; rfl
    · rw [if_neg h2, if_neg h2]
      by_cases h3 : s.closing = true
      · rw [if_pos h3, if_pos h3]; rfl
      · rw [if_neg h3, if_neg h3]
        simp only []
        by_cases h4 : s.cfg.writeFails s.writeCtr = true
        · rw [if_pos h4, if_pos h4]; rfl
        · rw [if_neg h4, if_neg h4]
          cases z <;> rfl

theorem write_ne_err (d : Bytes) (z : Option (Nat × Bytes)) (s : Sys) (x : Exn) (s' : Sys) :
    write d z s ≠ .err x s' := by
  rw [write_eq]; exact fun e => nomatch e

theorem write_returns (d : Bytes) (z : Option (Nat × Bytes)) (s : Sys) : ∃ r s', write d z s = .ok r s' :=
  ⟨_, _, write_eq d z s⟩

/-- `sendFrame` draws a masking key; then the frame cannot be built (plain frames only), or what
    `FrameOut` describes is handed to `write` -/
theorem sendFrame_elim {P : Res ActRes → Prop} (op : Nat) (pl : Bytes) (c : Option Bytes) (s : Sys)
    (hbuild : c = none → Frame.build op pl (s.cfg.maskKey s.keyCtr) = none → P (.ok .valueError (keyDrawn s)))
    (hw : ∀ d z, FrameOut op pl (s.cfg.maskKey s.keyCtr) c d z → P (write d z (keyDrawn s))) : P (sendFrame op pl c s) := by
  unfold sendFrame
  cases c with
  | some plain => exact hw [] (some (op, plain)) (.deflated plain)
  | none =>
    simp only []
    cases hb : Frame.build op pl (s.cfg.maskKey s.keyCtr) with
    | some d => exact hw d none (.frame hb)
    | none => exact hbuild rfl hb

theorem sendFrame_returns (op : Nat) (pl : Bytes) (c : Option Bytes) (s : Sys) :
    ∃ r s', sendFrame op pl c s = .ok r s' :=
  sendFrame_elim (P := fun q => ∃ r s', q = .ok r s') op pl c s (fun _ _ => ⟨_, _, rfl⟩)
    (fun d z _ => write_returns d z _)

def markClosing (s : Sys) : Sys := { s with closing := true, sentCloseTime := some (sessionTime s) }

/-- the bytes `close()` hands to `build_close_payload` as the reason (`none` where `reason` has no
    `.encode`) -/
def argBytes : Arg → Option Bytes
  | .bytes b => some b
  | .str cps => some (encodeReplace cps)
  | .other => none

theorem hasSurrogate_false_iff (cps : List Nat) :
    hasSurrogate cps = false ↔ ∀ c ∈ cps, ¬ (0xD800 ≤ c ∧ c ≤ 0xDFFF) := by
  unfold hasSurrogate
  simp [List.any_eq_false]

/-- `reason.encode('utf-8', 'replace')` is plain UTF-8 for text without surrogates -/
theorem encodeReplace_eq (cps : List Nat) (h : hasSurrogate cps = false) : encodeReplace cps = Utf8.encode cps := by
  unfold encodeReplace
  congr 1
  have := (hasSurrogate_false_iff cps).mp h
  conv => rhs; rw [← List.map_id cps]
  apply List.map_congr_left
  intro c hc
  have := this c hc
  simp only [id]
  split
  · rename_i h'; exact absurd h' this
  · rfl

theorem encodeReplace_scalar (cps : List Nat) (h : ∀ c ∈ cps, Utf8.isScalar c = true) :
    encodeReplace cps = Utf8.encode cps :=
  encodeReplace_eq cps ((hasSurrogate_false_iff cps).mpr fun c hc hh => by
    have hs := h c hc
    simp [Utf8.isScalar] at hs
    omega)

/-- `close()` packs the code with `struct.pack('!H')`: 65536 and above do not fit -/
def codeTooBig : Option Nat → Bool
  | some c => decide (c ≥ 65536)
  | none => false

theorem codeTooBig_false {code : Option Nat} :
    codeTooBig code = false ↔ ∀ c, code = some c → c < 65536 := by
  cases code <;> simp [codeTooBig]

theorem wsClose_noop (code : Option Nat) (reason : Arg) (s : Sys) (h : s.closed = true ∨ s.closing = true) :
    wsClose code reason s = .ok .ok s := by
  unfold wsClose
  rcases h with h | h
  · simp [h]
  · by_cases hc : s.closed = true <;> simp [h, hc]

theorem wsClose_live (code : Option Nat) (reason : Arg) (s : Sys)
    (h1 : s.closed = false) (h2 : s.closing = false) :
    wsClose code reason s =
      match argBytes reason with
      | none => if s.cfg.v.closeArgs ∧ codeTooBig code then .ok .valueError s else .ok .typeError s
      | some rb =>
        if s.cfg.v.closeArgs ∧ (codeTooBig code ∨ (buildClosePayload code rb).length > 125) then
          .ok .valueError s
        else if codeTooBig code then .ok .structError s
        else match sendFrame Gen.opClose (buildClosePayload code rb) none s with
          | .ok _ s' => .ok .ok { s' with closing := true, sentCloseTime := some (sessionTime s') }
          | .err x s' => .err x s' := by
  unfold wsClose
  rw [h1, h2]
  cases reason <;> rfl

/-- `close()` does nothing on a websocket closed or closing; otherwise it turns its arguments down,
    or hands one Close frame, its code and payload checked, to `sendFrame` and marks the state that
    leaves as closing — whatever came of the send -/
theorem wsClose_elim {P : Res ActRes → Prop} (code : Option Nat) (reason : Arg) (s : Sys)
    (hnoop : s.closed = true ∨ s.closing = true → P (.ok .ok s))
    (harg : s.closed = false → s.closing = false →
      ∀ res, res = .valueError ∨ res = .typeError ∨ res = .structError → P (.ok res s))
    (hsend : s.closed = false → s.closing = false → ∀ rb, argBytes reason = some rb →
      (∀ c, code = some c → c < 65536) →
      (s.cfg.v.closeArgs = true → (buildClosePayload code rb).length ≤ 125) →
      ∀ r s', sendFrame Gen.opClose (buildClosePayload code rb) none s = .ok r s' →
      P (.ok .ok (markClosing s'))) : P (wsClose code reason s) := by
  by_cases h1 : s.closed = true
  · rw [wsClose_noop code reason s (.inl h1)]; exact hnoop (.inl h1)
  by_cases h2 : s.closing = true
  · rw [wsClose_noop code reason s (.inr h2)]; exact hnoop (.inr h2)
  rw [Bool.not_eq_true] at h1 h2
  rw [wsClose_live code reason s h1 h2]
  cases hrb : argBytes reason with
  | none => exact res_if (fun _ => harg h1 h2 _ (.inl rfl)) (fun _ => harg h1 h2 _ (.inr (.inl rfl)))
  | some rb =>
    refine res_if (fun _ => harg h1 h2 _ (.inl rfl)) (fun hv => res_if (fun _ => harg h1 h2 _ (.inr (.inr rfl)))
      (fun hc => ?_))
    obtain ⟨r, s', e⟩ := sendFrame_returns Gen.opClose (buildClosePayload code rb) none s
    simp only [e]
    exact hsend h1 h2 rb hrb (codeTooBig_false.1 (by simpa using hc))
      (fun hca => Nat.le_of_not_lt fun hl => hv ⟨hca, .inr hl⟩) r s' e

/-- `feedYield` (the body of `run()`'s loop over `websocket.feed(data)`) returns only when `_on_event`, the
    application and `_regular()` all returned -/
theorem feedYield_ok_inv {inTry : Bool} {e : Event} {s s' : Sys} (h : feedYield inTry e s = .ok () s') :
    ∃ s1 s2, onEvent e s = .ok () s1 ∧ yieldEv e s1 = .ok () s2 ∧ regular s2 = .ok () s' := by
  unfold feedYield at h
  have hb := tryC_ok_inv (fun _ => neverOk_bind_right (fun _ => neverOk_throwE _)) h
  obtain ⟨_, s1, h1, hb⟩ := bind_ok_inv hb
  obtain ⟨_, s2, h2, hb⟩ := bind_ok_inv hb
  exact ⟨s1, s2, h1, h2, hb⟩

/-- `_on_event` raises only `ValueError` from `send_pong` (a Ping of more than 125 bytes, automatic pongs
    on), before anything is touched -/
theorem onEvent_err {e : Event} {s s1 : Sys} {x : Exn} (h : onEvent e s = .err x s1) :
    x = .other "error" ∧ s1 = s := by
  cases e with
  | ping d =>
    simp only [onEvent] at h
    split at h
    · split at h
      · cases h; exact ⟨rfl, rfl⟩
      · obtain ⟨r, s', e⟩ := sendFrame_returns Gen.opPong d none s
        rw [e] at h; cases h
    · cases h
  | _ => simp only [onEvent] at h; cases h

theorem logRes_ok {m : M ActRes} {s s1 : Sys} {r : ActRes} (h : m s = .ok r s1) :
    logRes m s = .ok () { s1 with trace := .res r :: s1.trace } := by
  unfold logRes; rw [bind_ok h]; rfl

/-- the state in which the application sees event `e` -/
def pushEv (e : Event) (s : Sys) : Sys := { s with trace := .ev e :: s.trace, hist := e :: s.hist }

theorem yieldEv_eq (e : Event) (s : Sys) : yieldEv e s = doActs (s.react (e :: s.hist)) (pushEv e s) := rfl

def Act.wrongType : Act → Bool
  | .sendText (.str _) _ | .sendBinary (.bytes _) _ | .sendPing (.bytes _) | .sendPong (.bytes _) => false
  | .sendText _ _ | .sendBinary _ _ | .sendPing _ | .sendPong _ => true
  | _ => false

/-- the API call behind an application action, by the shape of the action: a refusal by the API
    itself (wrong type, surrogates, a control payload over 125 bytes), data with opcode 1 or 2, a
    Ping or Pong, `close()`, `session.close()`.  `doAct` logs its result. -/
inductive ApiBody : Act → M ActRes → Prop
  | wrongType {a : Act} : a.wrongType = true → ApiBody a (pure .typeError)
  | surrogate (cps : List Nat) (c : Bool) : hasSurrogate cps = true →
      ApiBody (.sendText (.str cps) c) (pure .valueError)
  | text (cps : List Nat) (c : Bool) : hasSurrogate cps = false →
      ApiBody (.sendText (.str cps) c) (sendData Gen.opText (Utf8.encode cps) c)
  | binary (b : Bytes) (c : Bool) : ApiBody (.sendBinary (.bytes b) c) (sendData Gen.opBinary b c)
  | pingLong (b : Bytes) : b.length > 125 → ApiBody (.sendPing (.bytes b)) (pure .valueError)
  | ping (b : Bytes) : b.length ≤ 125 → ApiBody (.sendPing (.bytes b)) (sendFrame Gen.opPing b none)
  | pongLong (b : Bytes) : b.length > 125 → ApiBody (.sendPong (.bytes b)) (pure .valueError)
  | pong (b : Bytes) : b.length ≤ 125 → ApiBody (.sendPong (.bytes b)) (sendFrame Gen.opPong b none)
  | close (code : Option Nat) (reason : Arg) : ApiBody (.close code reason) (wsClose code reason)
  | sessionClose : ApiBody .sessionClose (do closeSocket; pure ActRes.ok)

theorem doAct_body (a : Act) : (∃ w, a = .abandon w) ∨ ∃ m, ApiBody a m ∧ doAct a = logRes m := by
  have ctl : ∀ (b : Bytes) (k : M ActRes), (b.length > 125 → ApiBody a (pure .valueError)) →
      (b.length ≤ 125 → ApiBody a k) →
      ∃ m, ApiBody a m ∧ logRes (if b.length > 125 then pure ActRes.valueError else k) = logRes m := by
    intro b k h1 h2
    by_cases h : b.length > 125
    · exact ⟨_, h1 h, by rw [if_pos h]⟩
    · exact ⟨_, h2 (Nat.le_of_not_lt h), by rw [if_neg h]⟩
  cases a with
  | sendText arg c =>
    cases arg with
    | str cps =>
      cases h : hasSurrogate cps with
      | true => exact .inr ⟨_, .surrogate cps c h, by show logRes (if _ then _ else _) = _; rw [if_pos h]⟩
      | false =>
        exact .inr ⟨_, .text cps c h, by show logRes (if _ then _ else _) = _; rw [if_neg (Bool.eq_false_iff.mp h)]⟩
    | _ => exact .inr ⟨_, .wrongType rfl, rfl⟩
  | sendBinary arg c =>
    cases arg with
    | bytes b => exact .inr ⟨_, .binary b c, rfl⟩
    | _ => exact .inr ⟨_, .wrongType rfl, rfl⟩
  | sendPing arg =>
    cases arg with
    | bytes b => exact .inr (ctl b _ (.pingLong b) (.ping b))
    | _ => exact .inr ⟨_, .wrongType rfl, rfl⟩
  | sendPong arg =>
    cases arg with
    | bytes b => exact .inr (ctl b _ (.pongLong b) (.pong b))
    | _ => exact .inr ⟨_, .wrongType rfl, rfl⟩
  | close code reason => exact .inr ⟨_, .close code reason, rfl⟩
  | sessionClose => exact .inr ⟨_, .sessionClose, rfl⟩
  | abandon w => exact .inl ⟨w, rfl⟩

theorem doAct_elim {P : M ActRes → Prop} (a : Act)
    (hpure : ∀ r, r = .valueError ∨ r = .typeError → P (pure r))
    (hdata : ∀ op pl c, (op = Gen.opText ∧ ∃ cps, a = .sendText (.str cps) c ∧ pl = Utf8.encode cps) ∨
      (op = Gen.opBinary ∧ a = .sendBinary (.bytes pl) c) → P (sendData op pl c))
    (hctl : ∀ op pl, op = Gen.opPing ∨ op = Gen.opPong → pl.length ≤ 125 → P (sendFrame op pl none))
    (hclose : ∀ c r, a = .close c r → P (wsClose c r))
    (hsess : a = .sessionClose → P (do closeSocket; pure ActRes.ok)) :
    (∃ w, a = .abandon w) ∨ ∃ m, doAct a = logRes m ∧ P m := by
  rcases doAct_body a with h | ⟨m, hm, e⟩
  · exact .inl h
  · refine .inr ⟨m, e, ?_⟩
    cases hm with
    | wrongType _ => exact hpure _ (.inr rfl)
    | surrogate cps c _ => exact hpure _ (.inl rfl)
    | text cps c _ => exact hdata _ _ _ (.inl ⟨rfl, cps, rfl, rfl⟩)
    | binary b c => exact hdata _ _ _ (.inr ⟨rfl, rfl⟩)
    | pingLong b _ => exact hpure _ (.inl rfl)
    | ping b h => exact hctl _ b (.inl rfl) h
    | pongLong b _ => exact hpure _ (.inl rfl)
    | pong b h => exact hctl _ b (.inr rfl) h
    | close c r => exact hclose c r rfl
    | sessionClose => exact hsess rfl

theorem tick_zero (s : Sys) : tick s 0 = s := rfl

theorem tick_pos (s : Sys) (dt : Nat) (h : dt ≠ 0) :
    tick s dt = { s with now := s.now + dt, trace := .tick (s.now + dt) :: s.trace } := by simp [tick, h]

theorem regular_not_ready (s : Sys) (h : s.ready = false) : regular s = .ok () s := by
  unfold regular
  rw [getS_bind]
  simp only [h, Bool.false_eq_true, if_false]; rfl

end Lomond.Core
