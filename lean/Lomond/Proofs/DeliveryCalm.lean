/-
  C01, consumer side: total-correctness framework (`Tot`): with an application that never
  closes / abandons and with no timeout pending, every layer below `onFrame` terminates normally,
  leaves parser, fragment list and closing state alone, and appends to the trace exactly the
  events it is supposed to yield (apart from housekeeping `Poll`s).  `Rel`: what handling a whole
  message guarantees; `onFrame_data`: what `WebsocketStream.feed` does with an accepted data frame.
-/
import Lomond.Proofs.Calls
import Lomond.Proofs.Step
namespace Lomond.Core
open Lomond

/-- application calls that neither close the websocket nor abandon the event loop -/
def harmless : Act → Bool
  | .sendText _ _ => true
  | .sendBinary _ _ => true
  | .sendPing _ => true
  | .sendPong _ => true
  | .sessionClose => true
  | .close _ _ => false
  | .abandon _ => false

/-- the application may send whatever it likes (and even drop the socket) in reaction to any
    event history, but never calls `close()` and never stops iterating -/
def QuietApp (r : React) : Prop := ∀ hist, ∀ a ∈ r hist, harmless a = true

/-- neither the ping timeout nor the close timeout is due (time does not advance inside `feed`) -/
def NoTimeout (s : Sys) : Prop :=
  (s.cfg.pingTimeout = 0 ∨ sessionTime s - s.lastPong ≤ s.cfg.pingTimeout) ∧
  (s.cfg.closeTimeout = 0 ∨ ∀ ct, s.sentCloseTime = some ct → sessionTime s < ct + s.cfg.closeTimeout)

structure Good (s : Sys) : Prop where
  quiet : QuietApp s.react
  nt : NoTimeout s

/-- the events of a trace (newest first) other than housekeeping `Poll`s -/
def delivered (tr : List Obs) : List Event :=
  tr.filterMap (fun o => match o with
    | .ev e => if e = .poll then none else some e
    | _ => none)

/-- what a well-behaved step does to the state: `es` are the events it yields (newest first) -/
structure Calm (es : List Event) (s s' : Sys) : Prop where
  cfg : s'.cfg = s.cfg
  react : s'.react = s.react
  p : s'.p = s.p
  frames : s'.frames = s.frames
  closed : s'.closed = s.closed
  closing : s'.closing = s.closing
  nt : NoTimeout s → NoTimeout s'
  evs : delivered s'.trace = es ++ delivered s.trace

theorem Calm.refl (s : Sys) : Calm [] s s := ⟨rfl, rfl, rfl, rfl, rfl, rfl, id, rfl⟩

theorem Calm.trans {e1 e2 : List Event} {a b c : Sys} (h1 : Calm e1 a b) (h2 : Calm e2 b c) :
    Calm (e2 ++ e1) a c :=
  ⟨h2.cfg.trans h1.cfg, h2.react.trans h1.react, h2.p.trans h1.p, h2.frames.trans h1.frames,
   h2.closed.trans h1.closed, h2.closing.trans h1.closing, fun h => h2.nt (h1.nt h),
   by rw [h2.evs, h1.evs, List.append_assoc]⟩

theorem Calm.good {es : List Event} {s s' : Sys} (h : Calm es s s') (g : Good s) : Good s' :=
  ⟨by rw [h.react]; exact g.quiet, h.nt g.nt⟩

def Tot (es : List Event) (m : M α) : Prop :=
  ∀ s, Good s → ∃ a s', m s = .ok a s' ∧ Calm es s s'

theorem tot_pure (a : α) : Tot [] (pure a : M α) := fun s _ => ⟨a, s, rfl, Calm.refl s⟩

theorem tot_bind {e1 e2 : List Event} {m : M α} {f : α → M β} (hm : Tot e1 m) (hf : ∀ a, Tot e2 (f a)) :
    Tot (e2 ++ e1) (m >>= f) := by
  intro s g
  obtain ⟨a, s1, h1, c1⟩ := hm s g
  obtain ⟨b, s2, h2, c2⟩ := hf a s1 (c1.good g)
  exact ⟨b, s2, by rw [bind_ok h1]; exact h2, c1.trans c2⟩

theorem tot_bind0 {es : List Event} {m : M α} {f : α → M β} (hm : Tot [] m) (hf : ∀ a, Tot es (f a)) :
    Tot es (m >>= f) := by
  have := tot_bind hm hf
  simpa using this

theorem tot_bindr {es : List Event} {m : M α} {f : α → M β} (hm : Tot es m) (hf : ∀ a, Tot [] (f a)) :
    Tot es (m >>= f) := by
  have := tot_bind hm hf
  simpa using this

def TotAt (es : List Event) (m : M α) (s : Sys) : Prop :=
  Good s → ∃ a s', m s = .ok a s' ∧ Calm es s s'

theorem tot_getS {es : List Event} {f : Sys → M β} (h : ∀ s, TotAt es (f s) s) : Tot es (getS >>= f) := by
  intro s g
  obtain ⟨a, s', h1, c⟩ := h s g
  exact ⟨a, s', by rw [getS_bind]; exact h1, c⟩

theorem tot_modS {f : Sys → Sys} {es : List Event} (h : ∀ s, Calm es s (f s)) : Tot es (modS f) :=
  fun s _ => ⟨(), f s, rfl, h s⟩

theorem tot_tryC {es : List Event} {m : M α} {hd : Exn → M α} (hm : Tot es m) : Tot es (tryC m hd) := by
  intro s g
  obtain ⟨a, s1, h1, c1⟩ := hm s g
  exact ⟨a, s1, tryC_ok h1, c1⟩

/-- leaf: an explicit final state that differs from `s` in bookkeeping fields and non-event
    trace entries only -/
macro "calm_leaf" : tactic =>
  `(tactic| first
      | exact Calm.refl _
      | exact ⟨rfl, rfl, rfl, rfl, rfl, rfl, id, rfl⟩)

theorem tot_closeSocket : Tot [] closeSocket := by
  intro s _; unfold closeSocket
  split
  · exact ⟨_, _, rfl, by calm_leaf⟩
  · exact ⟨_, _, rfl, by calm_leaf⟩

theorem tot_write (d : Bytes) (z : Option (Nat × Bytes)) : Tot [] (write d z) := fun s _ =>
  write_elim (P := fun q => ∃ r s', q = .ok r s' ∧ Calm [] s s') d z s (fun r _ => ⟨r, s, rfl, Calm.refl s⟩)
    (fun _ _ _ r o ho => ⟨r, _, rfl, rfl, rfl, rfl, rfl, rfl, rfl, id, by
      have := wrObs_isWrite (ho.elim (fun a => .inl a.2.1) (fun a => .inr a.2.1))
      cases o <;> first | rfl | cases this⟩)

theorem tot_sendFrame (op : Nat) (pl : Bytes) (c : Option Bytes) : Tot [] (sendFrame op pl c) := by
  intro s g
  have ck : Calm [] s (keyDrawn s) := by calm_leaf
  refine sendFrame_elim (P := fun q => ∃ a s', q = .ok a s' ∧ Calm [] s s') op pl c s
    (fun _ _ => ⟨_, _, rfl, ck⟩) (fun d z _ => ?_)
  obtain ⟨a, s', h, c'⟩ := tot_write d z _ (ck.good g)
  exact ⟨a, s', h, by simpa using ck.trans c'⟩

theorem tot_sendData (op : Nat) (pl : Bytes) (c : Bool) : Tot [] (sendData op pl c) := by
  intro s g; unfold sendData; split <;> exact tot_sendFrame _ _ _ s g

theorem tot_logRes {m : M ActRes} (h : Tot [] m) : Tot [] (logRes m) := by
  unfold logRes
  exact tot_bind0 h (fun r => by unfold log; exact tot_modS (fun s => by calm_leaf))

theorem tot_doAct (a : Act) (ha : harmless a = true) : Tot [] (doAct a) := by
  unfold doAct
  split
  all_goals first
    | (apply tot_logRes; first
        | exact tot_pure _
        | exact tot_sendData _ _ _
        | exact tot_sendFrame _ _ _
        | (split <;> first | exact tot_pure _ | exact tot_sendData _ _ _ | exact tot_sendFrame _ _ _)
        | exact tot_bind0 tot_closeSocket (fun _ => tot_pure _))
    | (simp [harmless] at ha)

theorem tot_doActs (as : List Act) (h : ∀ a ∈ as, harmless a = true) : Tot [] (doActs as) := by
  induction as with
  | nil => exact tot_pure ()
  | cons a r ih =>
    unfold doActs
    exact tot_bind0 (tot_doAct a (h a (by simp))) (fun _ => ih (fun b hb => h b (by simp [hb])))

/-- the events a `yield` contributes to `delivered` -/
def evOf (e : Event) : List Event := if e = .poll then [] else [e]

theorem tot_yieldEv (e : Event) : Tot (evOf e) (yieldEv e) := by
  unfold yieldEv
  have h1 : Tot (evOf e) (modS fun s => { s with trace := .ev e :: s.trace, hist := e :: s.hist }) := by
    apply tot_modS
    intro s
    refine ⟨rfl, rfl, rfl, rfl, rfl, rfl, id, ?_⟩
    unfold evOf delivered
    by_cases he : e = .poll <;> simp [he]
  refine tot_bindr h1 (fun _ => ?_)
  apply tot_getS
  intro s g
  exact tot_doActs _ (g.quiet s.hist) s g


theorem evOf_poll : evOf .poll = [] := rfl

theorem tot_checkPoll : Tot [] checkPoll := by
  unfold checkPoll
  apply tot_getS
  intro s
  simp only []
  have h1 : Tot [] (modS fun s' : Sys => { s' with pollStart := some (sessionTime s) }) :=
    tot_modS (fun s' => by calm_leaf)
  have h2 : Tot [] (yieldEv .poll) := tot_yieldEv .poll
  splits
  all_goals first
    | exact tot_bind0 h1 (fun _ => h2) s
    | exact tot_pure () s

theorem tot_checkAutoPing : Tot [] checkAutoPing := by
  unfold checkAutoPing
  apply tot_getS
  intro s
  simp only []
  split
  · have h1 : Tot [] (modS fun s' : Sys =>
        { s' with nextPing := ceilDiv (sessionTime s) s'.cfg.pingRate * s'.cfg.pingRate }) :=
      tot_modS (fun s' => by calm_leaf)
    exact tot_bind0 h1 (fun _ => tot_bind0 (tot_sendFrame _ _ _) (fun _ => tot_pure ())) s
  · exact tot_pure () s

theorem tot_checkPingTimeout : Tot [] checkPingTimeout := by
  unfold checkPingTimeout
  apply tot_getS
  intro s g
  have : ¬ (s.cfg.pingTimeout ≠ 0 ∧ sessionTime s - s.lastPong > s.cfg.pingTimeout) := by
    rcases g.nt.1 with h | h <;> omega
  simp only [this, if_false]
  exact tot_pure () s g

theorem tot_checkCloseTimeout : Tot [] checkCloseTimeout := by
  unfold checkCloseTimeout
  apply tot_getS
  intro s
  simp only []
  split
  · rename_i hct
    split
    · exact tot_pure () s
    · rename_i ct hs
      intro g
      have : ¬ sessionTime s ≥ ct + s.cfg.closeTimeout := by
        rcases g.nt.2 with h | h
        · exact (hct h).elim
        · have := h ct hs; omega
      simp only [this, if_false]
      exact tot_pure () s g
  · exact tot_pure () s

theorem tot_regular : Tot [] regular := by
  unfold regular
  apply tot_getS
  intro s
  split
  · exact tot_bind0 tot_checkPoll (fun _ => tot_bind0 tot_checkAutoPing
      (fun _ => tot_bind0 tot_checkPingTimeout (fun _ => tot_checkCloseTimeout))) s
  · exact tot_pure () s


/-- the events a data / control message turns into (a Ping is answered inside `_on_event`, which
    needs its payload to fit a control frame) -/
def Deliverable (e : Event) : Prop :=
  match e with
  | .text _ => True
  | .binary _ => True
  | .pong _ => True
  | .closing _ _ => True
  | .closed _ _ => True
  | .ping d => d.length ≤ 125
  | _ => False

theorem tot_onEvent (e : Event) (h : Deliverable e) : Tot [] (onEvent e) := by
  intro s g
  unfold onEvent
  split
  · exact h.elim
  · rename_i data
    split
    · have hl : ¬ data.length > 125 := by have : data.length ≤ 125 := h; omega
      simp only [hl, if_false]
      obtain ⟨a, s', h1, c⟩ := tot_sendFrame Gen.opPong data none s g
      rw [h1]
      exact ⟨_, _, rfl, c⟩
    · exact ⟨_, _, rfl, Calm.refl s⟩
  · refine ⟨_, _, rfl, rfl, rfl, rfl, rfl, rfl, rfl, ?_, rfl⟩
    intro hn
    refine ⟨?_, hn.2⟩
    right
    show sessionTime s - sessionTime s ≤ s.cfg.pingTimeout
    omega
  · exact ⟨_, _, rfl, Calm.refl s⟩

theorem evOf_deliverable (e : Event) (h : Deliverable e) : evOf e = [e] := by
  unfold evOf
  have : e ≠ .poll := by intro he; subst he; exact h
  simp [this]

/-- **one message reaches the application**: `_on_event`, the `yield`, the application's
    reaction and `_regular()` all return normally and exactly this event is appended -/
theorem tot_feedYield (b : Bool) (e : Event) (h : Deliverable e) : Tot [e] (feedYield b e) := by
  unfold feedYield
  apply tot_tryC
  have h2 : Tot [e] (yieldEv e) := by rw [← evOf_deliverable e h]; exact tot_yieldEv e
  exact tot_bind0 (tot_onEvent e h) (fun _ => tot_bindr h2 (fun _ => tot_regular))


/-- what handling a whole message guarantees (parser and fragment list are tracked separately) -/
structure Rel (es : List Event) (s s' : Sys) : Prop where
  cfg : s'.cfg = s.cfg
  react : s'.react = s.react
  closed : s'.closed = s.closed
  closing : s'.closing = s.closing
  nt : NoTimeout s → NoTimeout s'
  evs : delivered s'.trace = es ++ delivered s.trace

theorem Rel.refl (s : Sys) : Rel [] s s := ⟨rfl, rfl, rfl, rfl, id, rfl⟩

theorem Rel.trans {e1 e2 : List Event} {a b c : Sys} (h1 : Rel e1 a b) (h2 : Rel e2 b c) :
    Rel (e2 ++ e1) a c :=
  ⟨h2.cfg.trans h1.cfg, h2.react.trans h1.react, h2.closed.trans h1.closed, h2.closing.trans h1.closing,
   fun h => h2.nt (h1.nt h), by rw [h2.evs, h1.evs, List.append_assoc]⟩

theorem Rel.good {es : List Event} {s s' : Sys} (h : Rel es s s') (g : Good s) : Good s' :=
  ⟨by rw [h.react]; exact g.quiet, h.nt g.nt⟩

theorem buildMessage_plain (first : Frame) (rest : List Frame) (s : Sys) (h : first.rsv1 = 0) :
    buildMessage (first :: rest) s =
      liftE (msgOfPayload first.opcode ((first :: rest).map (·.payload)).flatten) s :=
  buildMessage_plain_eq first rest s (.inl h)

theorem notClosed_eq (s : Sys) : notClosed s = .ok (!s.closed) s := rfl

theorem onFrame_data (f : Frame) (s : Sys) (hctl : f.isControl = false)
    (hcont : f.isContinuation = true ↔ s.frames ≠ []) :
    onFrame f s = (if f.fin ≠ 0 then
        (getS >>= fun s => buildMessage s.frames >>= fun m => onMessage m >>= fun _ => modS fun s => { s with frames := [] })
      else pure ()) { s with frames := s.frames ++ [f] } := by
  unfold onFrame
  simp only [hctl, Bool.false_eq_true, if_false]
  unfold onDataFrame
  rw [getS_bind]
  have c1 : ¬ (f.isContinuation = true ∧ s.frames = []) := by
    intro h; exact (hcont.mp h.1) h.2
  have c2 : ¬ (¬ f.isContinuation = true ∧ s.frames ≠ []) := by
    intro h; exact h.1 (hcont.mpr h.2)
  simp only [c1, c2, if_false]
  rw [modS_bind]

theorem onOut_data_more (f : Frame) (s : Sys) (hc : s.closed = false) (hfin : f.fin = 0)
    (hctl : f.isControl = false) (hcont : f.isContinuation = true ↔ s.frames ≠ []) :
    onOut (.frame f) s = .ok true { s with frames := s.frames ++ [f] } := by
  show (do onFrame f; notClosed : M Bool) s = _
  have hf : onFrame f s = .ok () { s with frames := s.frames ++ [f] } := by
    rw [onFrame_data f s hctl hcont, if_neg (by simp [hfin])]
    rfl
  rw [bind_ok hf, notClosed_eq]
  show Res.ok (!s.closed) _ = _
  rw [hc]
  rfl

end Lomond.Core
