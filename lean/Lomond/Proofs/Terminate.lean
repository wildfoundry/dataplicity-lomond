/-
  Once the transport has ended (`EnvStep.isEnd`: end-of-stream, a socket error or any other exception
  from `recv`, an exception from `selector.wait`) the session loop stops: the rest of the environment
  script is never consumed and the loop does not run out of script (`loop_end`, `loop_pre_end`,
  `run_end_cases`).  Conversely a loop that ended inside its script is unchanged by appended script
  (`loop_prefix`), and loop bodies that agree where the loop is entered give the same `run()`
  (`runBodyL_eq`, `runLoopL_agree`, `runL_agree`).
-/
import Lomond.Proofs.Raises
import Lomond.Proofs.EnvIrrel
import Lomond.Proofs.RunRule
namespace Lomond.Core.Monitor
open Lomond Lomond.Core

def EnvStep.isEnd : EnvStep → Bool
  | .selErr => true
  | .wait _ (some .eof) => true
  | .wait _ (some .sockErr) => true
  | .wait _ (some .otherErr) => true
  | _ => false

theorem ok0_not_scriptEnd {s : Sys} : ¬ Ok0 .scriptEnd s := fun h => h

theorem onEof_not_true (s : Sys) (s' : Sys) : onEof s ≠ .ok true s' := by
  unfold onEof; split <;> (intro h; cases h)

theorem recvStep_end (o : RecvOutcome) (ho : o = .eof ∨ o = .sockErr ∨ o = .otherErr) (s s' : Sys) :
    recvStep o s ≠ .ok true s' := by
  unfold recvStep
  split
  · exact onEof_not_true s s'
  · rcases ho with rfl | rfl | rfl
    · exact onEof_not_true s s'
    · intro h; cases h
    · intro h; cases h

theorem loop_end (X : EnvStep) (hX : EnvStep.isEnd X = true) (s : Sys) :
    ∀ s', loop [X] s ≠ .err .scriptEnd s' := by
  unfold loop
  split
  · exact fun s' h => by cases h
  · cases X with
    | selErr => exact fun s' h => by cases h
    | wait dt readable =>
      simp only []
      unfold regularTop
      cases hr : regular (tick s dt) with
      | err x s2 =>
        intro s' h
        cases h
        exact ok0_not_scriptEnd (raises_regular _ _ _ hr)
      | ok u s2 =>
        simp only []
        cases readable with
        | none => cases hX
        | some o =>
          have ho : o = .eof ∨ o = .sockErr ∨ o = .otherErr := by
            cases o <;> first | (cases hX; done) | simp
          simp only []
          cases hr2 : recvStep o s2 with
          | err x s3 =>
            intro s' h
            cases h
            exact ok0_not_scriptEnd (raises_recvStep _ _ _ _ hr2)
          | ok go s3 =>
            cases go with
            | true => exact absurd hr2 (recvStep_end o ho s2 s3)
            | false => exact fun s' h => by cases h

/-- **a script that ends with a transport-ending step is never exhausted** -/
theorem loop_pre_end (pre : List EnvStep) (X : EnvStep) (hX : EnvStep.isEnd X = true) (s : Sys) :
    ∀ s', loop (pre ++ [X]) s ≠ .err .scriptEnd s' := by
  induction pre generalizing s with
  | nil => exact loop_end X hX s
  | cons st pre ih =>
    simp only [List.cons_append]
    unfold loop
    split
    · exact fun s' h => by cases h
    · cases st with
      | selErr => exact fun s' h => by cases h
      | wait dt readable =>
        simp only []
        unfold regularTop
        cases hr : regular (tick s dt) with
        | err x s2 =>
          intro s' h
          cases h
          exact ok0_not_scriptEnd (raises_regular _ _ _ hr)
        | ok u s2 =>
          simp only []
          cases readable with
          | none => exact ih s2
          | some o =>
            simp only []
            cases hr2 : recvStep o s2 with
            | err x s3 =>
              intro s' h
              cases h
              exact ok0_not_scriptEnd (raises_recvStep _ _ _ _ hr2)
            | ok go s3 =>
              cases go with
              | true => exact ih s3
              | false => exact fun s' h => by cases h

theorem raises_loop_end (pre : List EnvStep) (X : EnvStep) (hX : EnvStep.isEnd X = true) :
    Raises (OkLoop False) (loop (pre ++ [X])) := by
  intro s x s' h
  rcases raises_loop _ s x s' h with h0 | ⟨rfl, _⟩
  · exact Or.inl h0
  · exact absurd h (loop_pre_end pre X hX s s')

/-- over a script ending with a transport-ending step, `run()` returns normally unless the
    application abandons the iterator (the only other way out is `GeneratorExit`) -/
theorem run_end_cases (pre : List EnvStep) (X : EnvStep) (hX : EnvStep.isEnd X = true) (s : Sys) (he : s.env = pre ++ [X]) :
    (∃ s', run s = .ok () s') ∨ (∃ s', run s = .err .genExit s' ∧ Abandons s.react) := by
  cases hr : run s with
  | ok u s' => exact Or.inl ⟨s', rfl⟩
  | err x s' =>
    rw [run_eq_runL, he] at hr
    rcases (raises_runL _ (raises_loop_end pre X hX) s x s' hr).react
      ((same_leaves.runL (same_of_step (step_loop _))).err hr).2.symm with ⟨rfl, ha⟩ | ⟨_, hf⟩
    · exact Or.inr ⟨s', rfl, ha⟩
    · exact hf.elim

/-- if the loop over `pre` ends without exhausting `pre` (websocket closed, end-of-stream, any
    exception including the ping/close time-outs), appending more script changes nothing -/
theorem loop_prefix (pre post : List EnvStep) (s : Sys) (h : ∀ s', loop pre s ≠ .err .scriptEnd s') :
    loop (pre ++ post) s = loop pre s := by
  induction pre generalizing s with
  | nil =>
    unfold loop at h
    split at h
    · rename_i hc
      simp only [List.nil_append]
      cases post <;> (unfold loop; simp only [hc, if_true])
    · exact absurd rfl (h s)
  | cons st pre ih =>
    simp only [List.cons_append]
    unfold loop at h ⊢
    split
    · rfl
    · rename_i hc
      rw [if_neg hc] at h
      cases st with
      | selErr => rfl
      | wait dt readable =>
        simp only [] at h ⊢
        unfold regularTop at h ⊢
        cases hr : regular (tick s dt) with
        | err x s2 => rfl
        | ok u s2 =>
          rw [hr] at h
          simp only [] at h ⊢
          cases readable with
          | none => exact ih s2 h
          | some o =>
            simp only [] at h ⊢
            cases hr2 : recvStep o s2 with
            | err x s3 => rfl
            | ok go s3 =>
              rw [hr2] at h
              cases go with
              | true => exact ih s3 h
              | false => rfl

theorem runBodyL_eq (l : M Unit) (s : Sys) :
    runBodyL l s = match l s with
      | .ok _ s1 => onLoopEnd none s1
      | .err x s1 => onLoopEnd (some x) s1 := by
  unfold runBodyL
  rcases captured l s with ⟨s1, hl, hc⟩ | ⟨x, s1, hl, hc⟩
  · rw [bind_ok hc, hl]
  · rw [bind_ok hc, hl]

/-- two loop bodies that agree at the state where the loop is entered give the same `run()`; if
    they disagree there, the second one ran out of script and `run()` reports that -/
theorem runLoopL_agree (l l' : M Unit) (s : Sys) (h : l s = l' s ∨ ∃ s', l' s = .err .scriptEnd s') :
    runLoopL l s = runLoopL l' s ∨ ∃ s', runLoopL l' s = .err .scriptEnd s' := by
  rcases h with h | ⟨s', h⟩
  · left
    unfold runLoopL
    have : runBodyL l s = runBodyL l' s := by rw [runBodyL_eq, runBodyL_eq, h]
    unfold tryC
    rw [bind_congr_at this]
  · right
    have hb : runBodyL l' s = .err .scriptEnd s' := by rw [runBodyL_eq, h]; rfl
    unfold runLoopL
    have : (do runBodyL l'; selClose : M Unit) s = .err .scriptEnd s' := bind_err hb
    rw [tryC_err this]
    exact runFinally_err _ _

theorem runL_agree (l l' : M Unit) (s : Sys) (h : ∀ s1, l s1 = l' s1 ∨ ∃ s', l' s1 = .err .scriptEnd s') :
    runL l s = runL l' s ∨ ∃ s', runL l' s = .err .scriptEnd s' := by
  unfold runL
  cases hy : yieldEv .connecting s with
  | err x s1 => left; rw [bind_err hy, bind_err hy]
  | ok u s1 =>
    rw [bind_ok hy, bind_ok hy, getS_bind, getS_bind]
    cases hc : s1.cfg.connect with
    | socketFail => left; rfl
    | otherFail => left; rfl
    | ok proxy =>
      simp only []
      unfold afterConnectL
      rw [modS_bind, modS_bind, getS_bind,
        getS_bind]
      obtain ⟨r, s2, hw⟩ := write_returns s1.cfg.request none { s1 with sockOpen := true }
      rw [bind_ok hw, bind_ok hw]
      split
      · left; rfl
      · cases hyc : yieldConnected proxy s2 with
        | err x s3 => left; rw [bind_err hyc, bind_err hyc]
        | ok u s3 =>
          rw [bind_ok hyc, bind_ok hyc, modS_bind, modS_bind]
          exact runLoopL_agree l l' _ (h _)
    | selFail proxy => left; rfl

end Lomond.Core.Monitor
