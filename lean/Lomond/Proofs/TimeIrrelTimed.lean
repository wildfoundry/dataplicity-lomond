/-
  Glue between `TI.freeze` (Proofs/TimeIrrel.lean) and the timed scripts of Proofs/DeliveryTimed.lean:
  a frozen timed script is a burst of reads at a standing clock (`freeze_tscript`), the shape of
  C02's segmentation theorems; frozen idle cycles vanish (`freeze_idles`).
-/
import Lomond.Proofs.TimeIrrel
import Lomond.Proofs.DeliveryTimed
namespace Lomond.Core.TI
open Lomond Lomond.Core Lomond.Core.DG

def chunks (l : List TStep) : List Bytes := l.filterMap (·.2)

theorem chunks_flatten (l : List TStep) : (chunks l).flatten = tbytes l := by
  induction l with
  | nil => rfl
  | cons x r ih =>
    obtain ⟨dt, o⟩ := x
    cases o with
    | none => simpa [chunks, tbytes] using ih
    | some c =>
      have : chunks ((dt, some c) :: r) = c :: chunks r := rfl
      rw [this, List.flatten_cons, ih]
      rfl

theorem chunks_ne (l : List TStep) (h : TNonEmpty l) : ∀ c ∈ chunks l, c ≠ [] := by
  intro c hc
  unfold chunks at hc
  obtain ⟨x, hx, he⟩ := List.mem_filterMap.mp hc
  obtain ⟨dt, o⟩ := x
  simp only at he
  subst he
  exact h dt c hx

theorem freeze_append (a b : List EnvStep) : freeze (a ++ b) = freeze a ++ freeze b := by
  induction a with
  | nil => rfl
  | cons x r ih =>
    cases x with
    | selErr => simp [freeze, ih]
    | wait dt o => cases o <;> simp [freeze, ih]

theorem freeze_tscript (l : List TStep) : freeze (tscript l) = SegLoop.readsAt 0 (chunks l) := by
  rw [SegLoop.readsAt_zero]
  induction l with
  | nil => rfl
  | cons x r ih =>
    obtain ⟨dt, o⟩ := x
    cases o with
    | none => simpa [tscript, tstep, freeze, chunks] using ih
    | some c =>
      have e1 : tscript ((dt, some c) :: r) = .wait dt (some (.data c)) :: tscript r := rfl
      have e2 : chunks ((dt, some c) :: r) = c :: chunks r := rfl
      rw [e1, e2]
      simp only [freeze, ih, SegLoop.reads, List.map_cons]

theorem freeze_idles (ws : List Nat) : freeze (idles ws) = [] := by
  induction ws with
  | nil => rfl
  | cons w r ih => simpa [idles, freeze] using ih

end Lomond.Core.TI
