/-
  Where a `GeneratorExit` that leaves `run()` comes from, and the with-block in the order Python has
  it (C13_Once).

  * Every `GeneratorExit` originates in the application's reaction at a `yield` (`doActs` reaching an
    `Act.abandon w`, which records `w` in `abandonedWith`); what runs between there and the top of
    `run()` (finalisation: `feed`'s `except GeneratorExit`, `run()`'s `finally`) touches neither the
    application, the script nor that flag.  So `abandonedWith = true` at the end means: an
    `Act.abandon true` of the application was executed.
  * `withFirst react` is the application that calls `session.close()` right before it leaves its
    with-block (what `WebSocket.__exit__` does before the generator is finalised).  For such an
    application (`ClosesFirst`) the socket is already closed when `GeneratorExit` is raised, and
    finalisation logs nothing but the selector's close.

  Instance of the result-aware lifting of Proofs/LiftX.lean.
-/
import Lomond.Proofs.LiftX
import Lomond.Proofs.RunAll
namespace Lomond.Core.WithBlock
open Lomond Lomond.Core Lomond.Core.Lift Lomond.Core.LiftX Lomond.Core.Monitor

/-- the exception is `GeneratorExit`, possibly wrapped (raised in `run()`'s frame at a `yield` of `feed`) -/
def dge : Exn → Bool
  | .outer y => dge y
  | .genExit => true
  | _ => false

theorem dge_of_boring {x : Exn} (h : x.boring = true) : dge x = false := by
  cases x <;> first | rfl | cases h

/-- the application calls `session.close()` right before each `Act.abandon true` -/
def expand : Act → List Act
  | .abandon true => [.sessionClose, .abandon true]
  | a => [a]

def withFirst (react : React) : React := fun h => (react h).flatMap expand

theorem expand_of_ne {a : Act} (h : a ≠ .abandon true) : expand a = [a] := by
  cases a with
  | abandon w => cases w with
    | true => exact absurd rfl h
    | false => rfl
  | _ => rfl

/-- every `Act.abandon true` is directly preceded by `Act.sessionClose` -/
def ClosesFirst (react : React) : Prop :=
  ∀ h pre post, react h = pre ++ .abandon true :: post → ∃ pre', pre = pre' ++ [.sessionClose]

theorem flatMap_closesFirst (l : List Act) (pre post : List Act)
    (h : l.flatMap expand = pre ++ .abandon true :: post) : ∃ pre', pre = pre' ++ [.sessionClose] := by
  induction l generalizing pre with
  | nil => simp at h
  | cons a r ih =>
    rw [List.flatMap_cons] at h
    by_cases ha : a = .abandon true
    · subst ha
      have e : expand (.abandon true) = [.sessionClose, .abandon true] := rfl
      rw [e] at h
      cases pre with
      | nil => simp at h
      | cons p0 pre1 =>
        simp only [List.cons_append, List.cons.injEq] at h
        obtain ⟨h0, h1⟩ := h
        cases pre1 with
        | nil => exact ⟨[], by simp [h0]⟩
        | cons p1 pre2 =>
          simp only [List.cons_append, List.nil_append, List.cons.injEq] at h1
          obtain ⟨h2, h3⟩ := h1
          obtain ⟨pre', hp⟩ := ih pre2 h3
          exact ⟨p0 :: p1 :: pre', by rw [hp]; rfl⟩
    · rw [expand_of_ne ha] at h
      cases pre with
      | nil =>
        simp only [List.nil_append, List.singleton_append, List.cons.injEq] at h
        exact absurd h.1 ha
      | cons p0 pre1 =>
        simp only [List.cons_append, List.cons.injEq] at h
        obtain ⟨pre', hp⟩ := ih pre1 h.2
        exact ⟨p0 :: pre', by rw [hp]; rfl⟩

theorem closesFirst_withFirst (react : React) : ClosesFirst (withFirst react) :=
  fun h pre post e => flatMap_closesFirst (react h) pre post e

theorem withFirst_of_no_with (react : React) (h : ∀ hist, Act.abandon true ∉ react hist) : withFirst react = react := by
  funext hist
  unfold withFirst
  have : ∀ l : List Act, Act.abandon true ∉ l → l.flatMap expand = l := by
    intro l hl
    induction l with
    | nil => rfl
    | cons a r ih =>
      rw [List.flatMap_cons, ih (fun hm => hl (List.mem_cons_of_mem _ hm))]
      have ha : a ≠ .abandon true := fun e => hl (by rw [e]; exact List.mem_cons_self)
      rw [expand_of_ne ha]; rfl
  exact this _ (h hist)

def afterLastRes : List Obs → List Obs
  | [] => []
  | .res _ :: _ => []
  | o :: t => o :: afterLastRes t

theorem mem_afterLastRes {o : Obs} {tr : List Obs} (h : o ∈ afterLastRes tr) : o ∈ tr := by
  induction tr with
  | nil => cases h
  | cons x t ih =>
    cases x with
    | res r => cases h
    | _ =>
      rcases List.mem_cons.mp h with h1 | h1
      · rw [h1]; exact List.mem_cons_self
      · exact List.mem_cons_of_mem _ (ih h1)

/-- finalisation found the socket closed: since the application's last call only the selector's
    close (and the model's INCOMPLETE mark) was logged -/
def OnlySel (tr : List Obs) : Prop := ∀ o ∈ afterLastRes tr, o = Obs.selClose ∨ o = Obs.incomplete

theorem onlySel_cons {o : Obs} {t : List Obs} (ho : o = .selClose ∨ o = .incomplete) (h : OnlySel t) : OnlySel (o :: t) := by
  intro x hx
  have e : afterLastRes (o :: t) = o :: afterLastRes t := by rcases ho with rfl | rfl <;> rfl
  rw [e] at hx
  rcases List.mem_cons.mp hx with h1 | h1
  · rw [h1]; exact ho
  · exact h x h1

structure Same3 (s s' : Sys) : Prop where
  env : s'.env = s.env
  react : s'.react = s.react
  aw : s'.abandonedWith = s.abandonedWith

theorem same3_po : PO Same3 where
  refl _ := ⟨rfl, rfl, rfl⟩
  trans h1 h2 := ⟨h2.env.trans h1.env, h2.react.trans h1.react, h2.aw.trans h1.aw⟩

theorem same3_closeSocket : Spec Same3 closeSocket := spec_closeSocket same3_po (fun _ _ => ⟨rfl, rfl, rfl⟩)

theorem same3_selClose : Spec Same3 selClose := spec_selClose same3_po (fun _ _ => ⟨rfl, rfl, rfl⟩)

theorem same3_write (d : Bytes) (z : Option (Nat × Bytes)) : Spec Same3 (write d z) :=
  spec_write same3_po d z (fun _ _ _ _ _ _ => ⟨rfl, rfl, rfl⟩)

theorem same3_sendFrame (op : Nat) (pl : Bytes) (c : Option Bytes) : Spec Same3 (sendFrame op pl c) :=
  spec_sendFrame same3_po op pl c (fun _ => ⟨rfl, rfl, rfl⟩) (fun d => same3_write d _)

theorem same3_wsClose (c : Option Nat) (r : Arg) : Spec Same3 (wsClose c r) :=
  spec_wsClose same3_po c r (fun pl => same3_sendFrame _ pl none) (fun _ => ⟨rfl, rfl, rfl⟩)

theorem same3_doAct (a : Act) (hna : ∀ w, a ≠ .abandon w) : Spec Same3 (doAct a) :=
  spec_doAct same3_po a
    (fun op pl c _ => spec_sendData op pl c (same3_sendFrame _ _ _) (fun s _ => same3_sendFrame _ _ _ s))
    (fun op pl _ _ => same3_sendFrame op pl none) (fun c r _ => same3_wsClose c r) (fun _ => same3_closeSocket)
    (fun _ _ => ⟨rfl, rfl, rfl⟩) (fun w e => absurd e (hna w))

theorem same3_onDisconnect : Spec Same3 onDisconnect :=
  spec_onDisconnect same3_po same3_closeSocket (fun _ => ⟨rfl, rfl, rfl⟩)

theorem doAct_sessionClose (s : Sys) :
    ∃ s1, doAct .sessionClose s = .ok () s1 ∧ s1.sockOpen = false ∧ afterLastRes s1.trace = [] := by
  have e1 : (do closeSocket; pure ActRes.ok : M ActRes) s = .ok .ok (closeSocket s).state := by
    rw [bind_ok (closeSocket_is_ok s)]; rfl
  have e2 : doAct .sessionClose s =
      .ok () { (closeSocket s).state with trace := .res .ok :: (closeSocket s).state.trace } := by
    show logRes (do closeSocket; pure ActRes.ok) s = _
    unfold logRes
    rw [bind_ok e1]; rfl
  exact ⟨_, e2, (closeSocket_state s).1, rfl⟩

section Inst
variable (react0 : React) (env0 : List EnvStep)

/-- what is known once `GeneratorExit` is in flight: which kind of abandonment it was, and — for an
    application that closes the session first — that the socket is closed and nothing but the
    selector's close was logged since -/
def Ab (s : Sys) : Prop :=
  (∃ h, Act.abandon s.abandonedWith ∈ react0 h) ∧
  (s.abandonedWith = true → ClosesFirst react0 → s.sockOpen = false ∧ OnlySel s.trace)

def IW (s : Sys) : Prop := s.env = env0 ∧ s.react = react0 ∧ s.abandonedWith = false

def XW (x : Exn) (s : Sys) : Prop :=
  s.env = env0 ∧ s.react = react0 ∧ (if dge x = true then Ab react0 s else s.abandonedWith = false)

def FinW (s : Sys) : Prop := s.abandonedWith = true → Ab react0 s

variable {react0 env0}

theorem IW.same {s s' : Sys} (h : IW react0 env0 s) (k : Same3 s s') : IW react0 env0 s' :=
  ⟨k.env.trans h.1, k.react.trans h.2.1, k.aw.trans h.2.2⟩

theorem XW.of_iw {x : Exn} {s : Sys} (h : IW react0 env0 s) (hx : dge x = false) : XW react0 env0 x s :=
  ⟨h.1, h.2.1, by rw [hx]; exact h.2.2⟩

theorem XW.iw {x : Exn} {s : Sys} (h : XW react0 env0 x s) (hx : dge x = false) : IW react0 env0 s :=
  ⟨h.1, h.2.1, by have := h.2.2; rw [hx] at this; exact this⟩

/-- finalisation steps: closing an already closed socket, closing the selector, setting websocket flags -/
structure FinStep (s s' : Sys) : Prop where
  same : Same3 s s'
  sock : s.sockOpen = false → s'.sockOpen = false
  tr : s.sockOpen = false → s'.trace = s.trace ∨ s'.trace = .selClose :: s.trace ∨ s'.trace = .incomplete :: s.trace

theorem Ab.step {s s' : Sys} (h : Ab react0 s) (k : FinStep s s') : Ab react0 s' := by
  refine ⟨by rw [k.same.aw]; exact h.1, fun ha hc => ?_⟩
  rw [k.same.aw] at ha
  obtain ⟨h1, h2⟩ := h.2 ha hc
  refine ⟨k.sock h1, ?_⟩
  rcases k.tr h1 with e | e | e
  · rw [e]; exact h2
  · rw [e]; exact onlySel_cons (Or.inl rfl) h2
  · rw [e]; exact onlySel_cons (Or.inr rfl) h2

theorem finStep_closeSocket (s : Sys) : FinStep s (closeSocket s).state := by
  refine ⟨same3_closeSocket s, fun h => (closeSocket_state s).1, fun h => Or.inl ?_⟩
  unfold closeSocket; simp [h]

theorem finStep_selClose (s : Sys) : FinStep s (selClose s).state := by
  refine ⟨same3_selClose s, fun h => (selClose_state s).2.trans h, fun h => ?_⟩
  unfold selClose
  split
  · exact Or.inr (Or.inl rfl)
  · exact Or.inl rfl

theorem finStep_onDisconnect (s : Sys) : FinStep s (onDisconnect s).state := by
  rw [onDisconnect_eq]
  have k := finStep_closeSocket s
  rw [closeSocket_eq] at k
  exact ⟨⟨k.same.env, k.same.react, k.same.aw⟩, k.sock, k.tr⟩

theorem XW.step {x : Exn} {s s' : Sys} (h : XW react0 env0 x s) (k : FinStep s s') : XW react0 env0 x s' := by
  refine ⟨k.same.env.trans h.1, k.same.react.trans h.2.1, ?_⟩
  have := h.2.2
  cases hx : dge x with
  | true => rw [hx] at this; simp only [if_true] at this ⊢; exact Ab.step this k
  | false => rw [hx] at this; simp only [Bool.false_eq_true, if_false] at this ⊢; exact k.same.aw.trans this

theorem FinW.step {s s' : Sys} (h : FinW react0 s) (k : FinStep s s') : FinW react0 s' := by
  intro ha
  rw [k.same.aw] at ha
  exact (h ha).step k

/-- the reaction `as` (the rest of `react0 h` after `pre`) run from a normal state: either it
    completes, or it reaches an `Act.abandon w` — recorded, and for `w = true` with the session closed
    right before -/
theorem doActs_origin (h : List Event) (pre as : List Act) (hsplit : react0 h = pre ++ as) (s : Sys)
    (hi : IW react0 env0 s)
    (hjc : ∀ post, as = .abandon true :: post → ClosesFirst react0 → s.sockOpen = false ∧ afterLastRes s.trace = []) :
    Sat (IW react0 env0) (XW react0 env0) (doActs as s) := by
  induction as generalizing pre s with
  | nil => exact hi
  | cons a r ih =>
    unfold doActs
    by_cases ha : ∃ w, a = .abandon w
    · obtain ⟨w, rfl⟩ := ha
      have e : doAct (.abandon w) s = .err .genExit { s with abandonedWith := w } := rfl
      rw [bind_err e]
      refine ⟨hi.1, hi.2.1, ?_⟩
      rw [show dge .genExit = true from rfl]
      refine ⟨⟨h, ?_⟩, fun hw hc => ?_⟩
      · show Act.abandon w ∈ react0 h
        rw [hsplit]; exact List.mem_append_right _ List.mem_cons_self
      · have hw' : w = true := hw
        subst hw'
        obtain ⟨h1, h2⟩ := hjc r rfl hc
        refine ⟨h1, fun o ho => ?_⟩
        have : afterLastRes ({ s with abandonedWith := true } : Sys).trace = [] := h2
        rw [this] at ho; cases ho
    · have hna : ∀ w, a ≠ .abandon w := fun w e => ha ⟨w, e⟩
      obtain ⟨s1, h1⟩ := doAct_ok_of_not_abandon a hna s
      have k1 := (same3_doAct a hna).ok h1
      rw [bind_ok h1]
      refine ih (pre ++ [a]) (by rw [hsplit]; simp) s1 (hi.same k1) ?_
      intro post hr hc
      subst hr
      obtain ⟨pre', hp⟩ := hc h (pre ++ [a]) post (by rw [hsplit]; simp)
      have ea : a = .sessionClose := by
        have := congrArg List.getLast? hp
        simpa using this
      subst ea
      obtain ⟨s2, h2, a2, b2⟩ := doAct_sessionClose s
      rw [h1] at h2; cases h2
      exact ⟨a2, b2⟩

theorem IW.push {s : Sys} (e : Event) (h : IW react0 env0 s) : IW react0 env0 (Core.pushEv e s) := h

/-- `yield e`: the origin of every `GeneratorExit` -/
theorem yieldEv_w (e : Event) : SpecX (IW react0 env0) (XW react0 env0) (yieldEv e) := by
  intro s hs
  rw [yieldEv_eq]
  have hr : s.react = react0 := hs.2.1
  rw [hr]
  refine doActs_origin (e :: s.hist) [] _ rfl _ (hs.push e) ?_
  intro post hp hc
  obtain ⟨pre', hp'⟩ := hc (e :: s.hist) [] post hp
  cases pre' <;> cases hp'

theorem specx_same3 {m : M α} (hn : NoRaise m) (h : Spec Same3 m) : SpecX (IW react0 env0) (XW react0 env0) m := by
  intro s hs
  have k := h s
  cases hm : m s with
  | ok a s' => rw [hm] at k; exact hs.same k
  | err x s' => exact absurd hm (hn s x s')

theorem throw_w {x : Exn} (hx : dge x = false) : SpecX (IW react0 env0) (XW react0 env0) (throwE x : M α) :=
  specx_throwE (fun _ hs => XW.of_iw hs hx)

theorem regular_w : SpecX (IW react0 env0) (XW react0 env0) regular := by
  unfold regular
  refine specx_getS_bind (fun s => ?_)
  split
  · refine specx_bind ?_ (fun _ => specx_bind ?_ (fun _ => specx_bind ?_ (fun _ => ?_)))
    · unfold checkPoll
      refine specx_getS_bind (fun s => ?_)
      simp only []
      splits
      all_goals first
        | exact specx_pure _
        | exact specx_bind (specx_modS (fun s hs => hs.same ⟨rfl, rfl, rfl⟩)) (fun _ => yieldEv_w _)
    · exact specx_same3 noRaise_checkAutoPing (by
        unfold checkAutoPing
        refine spec_getS_bind same3_po (fun s => ?_)
        simp only []
        split
        · exact spec_bind same3_po (spec_modS (fun s => ⟨rfl, rfl, rfl⟩)) (fun _ =>
            spec_bind same3_po (same3_sendFrame _ _ _) (fun _ => spec_pure same3_po _))
        · exact spec_pure same3_po _)
    · unfold checkPingTimeout
      refine specx_getS_bind (fun s => ?_)
      simp only []
      split
      · exact specx_bind (yieldEv_w _) (fun _ => throw_w rfl)
      · exact specx_pure _
    · unfold checkCloseTimeout
      refine specx_getS_bind (fun s => ?_)
      simp only []
      splits
      all_goals first | exact specx_pure _ | exact throw_w rfl
  · exact specx_pure _

theorem onEvent_w (e : Event) : SpecX (IW react0 env0) (XW react0 env0) (onEvent e) := by
  intro s hs
  have k := spec_onEvent same3_po e (fun _ _ _ _ => ⟨rfl, rfl, rfl⟩) (fun _ _ _ => ⟨rfl, rfl, rfl⟩)
    (fun d _ _ s _ => same3_sendFrame _ d none s) s
  cases hr : onEvent e s with
  | ok u s' => rw [hr] at k; exact hs.same k
  | err x s' =>
    rw [hr] at k
    have := (onEvent_err hr).1
    subst this
    exact XW.of_iw (hs.same k) rfl

theorem feedYield_w (b : Bool) (e : Event) : SpecX (IW react0 env0) (XW react0 env0) (feedYield b e) := by
  unfold feedYield
  refine specx_tryC (Q := XW react0 env0)
    (specx_bind (onEvent_w e) (fun _ => specx_bind (yieldEv_w e) (fun _ => regular_w))) ?_
  intro x s1 hx
  have key : ∀ s2, FinStep s1 s2 → Sat (IW react0 env0) (XW react0 env0) ((throwE (.outer x) : M Unit) s2) :=
    fun s2 k => (show XW react0 env0 (.outer x) s2 from hx.step k)
  cases b with
  | true =>
    simp only [if_true]
    rw [bind_ok (show onDisconnect s1 = .ok () (onDisconnect s1).state from by
      obtain ⟨s', h', _⟩ := onDisconnect_ok s1; rw [h']; rfl)]
    exact key _ (finStep_onDisconnect s1)
  | false =>
    simp only [Bool.false_eq_true, if_false]
    rw [bind_ok (show (pure () : M Unit) s1 = .ok () s1 from rfl)]
    exact key s1 ⟨same3_po.refl s1, id, fun _ => Or.inl rfl⟩

theorem wsClose_w (c : Option Nat) (r : Arg) : SpecX (IW react0 env0) (XW react0 env0) (wsClose c r) :=
  specx_same3 (noRaise_wsClose c r) (same3_wsClose c r)

theorem onClose_w (c : Option Nat) (r : List Nat) : SpecX (IW react0 env0) (XW react0 env0) (onClose c r) :=
  specx_onClose (I := IW react0 env0) (X := XW react0 env0) (fun _ _ hb hs => XW.of_iw hs (dge_of_boring hb)) c r (feedYield_w true _) (feedYield_w true _)
    (wsClose_w _ _) (fun _ hs => hs.same ⟨rfl, rfl, rfl⟩) (fun _ hs => hs.same ⟨rfl, rfl, rfl⟩)

theorem w_leaves : LeavesX (IW react0 env0) (XW react0 env0) where
  inert := fun _ _ h hs => hs.same ⟨h.inert.env, h.inert.react, h.inert.abandonedWith⟩
  boring := fun _ _ hb hs => XW.of_iw hs (dge_of_boring hb)
  unboring := fun _ _ hb hx => hx.iw (dge_of_boring hb)
  forced := fun _ hs => XW.of_iw hs rfl
  scriptEnd := fun _ hs => XW.of_iw hs rfl
  unwrap := fun _ _ h => h
  closeSocket := specx_same3 noRaise_closeSocket same3_closeSocket
  wsClose := wsClose_w
  onDisconnect := specx_same3 noRaise_onDisconnect same3_onDisconnect
  onClose := onClose_w
  feedYield := fun b e _ _ _ => feedYield_w b e

theorem w_loop (env : List EnvStep) : SpecX (IW react0 env0) (XW react0 env0) (loop env) :=
  liftx_loop w_leaves (fun _ => True)
    (fun dt _ s _ hs _ => regular_w (tick s dt) (hs.same ⟨rfl, rfl, rfl⟩)) env (fun _ _ => trivial)

theorem FinW.of_iw {s : Sys} (h : IW react0 env0 s) : FinW react0 s :=
  fun ha => by rw [h.2.2] at ha; cases ha

theorem closeYield_w (e : Event) (s : Sys) (hs : IW react0 env0 s) :
    FinW react0 ((do closeSocket; yieldEv e : M Unit) s).state := by
  rw [bind_ok (closeSocket_is_ok s)]
  have h := yieldEv_w e _ (hs.same (same3_closeSocket s))
  cases hy : yieldEv e (closeSocket s).state with
  | ok u s1 => rw [hy] at h; exact FinW.of_iw h
  | err x s1 =>
    rw [hy] at h
    have := yieldEv_err_genExit hy
    subst this
    have h2 := h.2.2
    rw [show dge .genExit = true from rfl] at h2
    exact fun _ => h2

theorem w_top : TopX (IW react0 env0) (XW react0 env0) (FinW react0) env0 where
  envEq := fun s hs => hs.1
  iFin := fun s hs => FinW.of_iw hs
  xFin := fun s hx _ => by
    have h2 := hx.2.2
    rw [show dge .genExit = true from rfl] at h2
    exact h2
  yieldTop := fun e _ => yieldEv_w e
  yieldConn := fun p s hs _ _ _ _ => yieldEv_w _ s hs
  sockSet := fun s hs => hs.same ⟨rfl, rfl, rfl⟩
  writeReq := fun s hs _ _ => hs.same (same3_write _ _ s)
  selSet := fun b s hs => hs.same ⟨rfl, rfl, rfl⟩
  endNone := fun s hs => closeYield_w _ s hs
  endSome := by
    intro x s hx hno
    have iw : dge x = false → IW react0 env0 s := hx.iw
    cases x with
    | genExit =>
      intro _
      have h2 := hx.2.2
      rw [show dge .genExit = true from rfl] at h2
      exact h2
    | scriptEnd => exact FinW.of_iw (iw rfl)
    | outer z => exact absurd rfl (hno z)
    | parse m => exact closeYield_w _ s (iw rfl)
    | protocol m => exact closeYield_w _ s (iw rfl)
    | critical m => exact closeYield_w _ s (iw rfl)
    | forceDisconnect k => exact closeYield_w _ s (iw rfl)
    | socketFail k => exact closeYield_w _ s (iw rfl)
    | other k => exact closeYield_w _ s (iw rfl)
  finSel := fun s h => h.step (finStep_selClose s)
  finSock := fun s h => h.step (finStep_closeSocket s)
  finInc := fun s h => h.step ⟨⟨rfl, rfl, rfl⟩, id, fun _ => Or.inr (Or.inr rfl)⟩

end Inst

/-- **where `abandonedWith = true` comes from, and what holds then** — at the end of `run()` and at
    the end of the whole connection -/
theorem finW_run (cfg : Cfg) (react : React) (env : List EnvStep) :
    FinW react (run (initSys cfg react env)).state ∧ FinW react (runAll cfg react env) :=
  ⟨topx_run w_leaves w_top (w_loop env) _ ⟨rfl, rfl, rfl⟩ rfl,
   topx_runAll w_leaves w_top (w_loop env) cfg react ⟨rfl, rfl, rfl⟩⟩

end Lomond.Core.WithBlock
