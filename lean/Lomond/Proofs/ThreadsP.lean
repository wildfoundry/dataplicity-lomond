/-
  C12 for the code without `closeAtomic`, on calm schedules (`Calm`, `calmAt`): no other thread moves while a thread is
  between the `is_closing` test of `close()` and its `closing = True` (`closeWin`), and the event loop does not complete
  a closing handshake (`closing = False; closed = True`) during the run.  The invariant `PInv` holds of `init` and along
  calm runs (`pInv_init`, `pInv_step`, `pInv_run`).  `CalmB` / `calm_of_calmB`: a decidable test for calm schedules of
  finitely many threads, used in examples; `IdleFrom n`: the threads from `n` on have nothing to do.
-/
import Lomond.Proofs.ThreadsC

namespace Lomond.Threads
open Lomond

/-- the thread is inside `close()`: past the `is_closing` test, with `closing = True` still ahead -/
def closeWin : List Step → Bool
  | [] => false
  | .retIfClosed :: _ => false
  | .retIfClosing :: _ => false
  | .setCloseTime :: _ => false
  | .setClosing true :: _ => true
  | _ :: r => closeWin r

def isW1 : Step → Bool
  | .write1 _ => true
  | _ => false

def noW1 (r : List Step) : Bool := r.all (fun s => !isW1 s)

/-- inside `close()` with the Close frame (at least its first half) already written -/
def inB (r : List Step) : Bool := closeWin r && noW1 r

/-- a schedule entry is calm: if it is effective, no *other* thread is inside a `close()` window
    and the step is not one of the two flag writes of the reply path -/
def calmAt (v : Variant) (cfg : Cfg) (s : State) (t : Tid) : Prop :=
  enabled v cfg s t = true →
    (∀ u, u ≠ t → closeWin (view v cfg (s.th u)) = false) ∧
    (∀ r, view v cfg (s.th t) ≠ .setClosing false :: r) ∧
    (∀ r, view v cfg (s.th t) ≠ .setClosed :: r)

def Calm (v : Variant) (cfg : Cfg) : State → List Tid → Prop
  | _, [] => True
  | s, t :: rest => calmAt v cfg s t ∧ Calm v cfg (step v cfg s t) rest

/-- discipline: only `close()` writes Close frames, and sets `closing` afterwards -/
def pdisc : List Step → Bool
  | [] => true
  | st :: r =>
    pdisc r &&
    (match st with
     | .write2 f => if f.op = 8 then closeWin r else true
     | .brIfClosing _ => !closeWin r
     | .brIfErr _ => !closeWin r
     | .ldClosing => false          -- the pinned `_check_writable` tests `is_closed`, then `is_closing`
     | .chkBoth => false
     | _ => true)

theorem pdisc_tail {st : Step} {r : List Step} (h : pdisc (st :: r) = true) : pdisc r = true := by
  simp only [pdisc, Bool.and_eq_true] at h; exact h.1

theorem compile_pdisc (v : Variant) (cfg : Cfg) (call : Call) (hva : v.closeAtomic = false) :
    pdisc (compile v cfg call) = true := by
  cases call <;>
    simp only [compile, sendData, closeBody, writeProg, checks, hva, Bool.false_eq_true, ↓reduceIte] <;>
    (repeat' split) <;> rfl

theorem alt_pdisc (v : Variant) (a : Alt) : pdisc (altSteps v a) = true := by
  cases a <;> simp only [altSteps, closeSocketProg] <;> (try split) <;> simp [pdisc]

theorem compile_closeWin (v : Variant) (cfg : Cfg) (call : Call) : closeWin (compile v cfg call) = false := by
  cases call <;>
    simp only [compile, sendData, closeBody, writeProg, checks] <;>
    (repeat' split) <;> rfl

theorem compile_inB (v : Variant) (cfg : Cfg) (call : Call) : inB (compile v cfg call) = false := by
  simp [inB, compile_closeWin]

theorem PosInv.pdisc {v : Variant} {cfg : Cfg} {s : State} (P : PosInv v cfg s) (hva : v.closeAtomic = false) (t : Tid) :
    pdisc (view v cfg (s.th t)) = true :=
  P.obeys ⟨rfl, fun _ _ => pdisc_tail⟩ (fun call => compile_pdisc v cfg call hva) (alt_pdisc v) t

theorem noW1_noWrite (r : List Step) (d : disc r = true) (h : headW2 r = false) (n : noW1 r = true) :
    noWrite r = true := by
  induction r with
  | nil => rfl
  | cons x r ih =>
    simp only [noW1, List.all_cons, Bool.and_eq_true] at n
    simp only [disc, Bool.and_eq_true] at d
    have hh : headW2 r = false := by
      cases hw : headW2 r with
      | false => rfl
      | true =>
        have h2 := d.2
        rw [hw] at h2
        cases x <;> first | (cases n.1; done) | cases h2
    have hx : isWrite x = false := by
      cases x <;> first | rfl | (cases n.1; done) | cases h
    show (!isWrite x && noWrite r) = true
    rw [hx]; exact ih d.1.1 hh n.2

theorem armed_noW1 (r : List Step) (h : armed r = true) : noW1 r = false := by
  induction r with
  | nil => cases h
  | cons x r ih =>
    cases x with
    | write1 f => simp [noW1, isW1]
    | release => cases h
    | acquire => cases h
    | chkSock => cases h
    | chkClosed => cases h
    | chkClosing => cases h
    | ldClosing => cases h
    | chkBoth => cases h
    | _ =>
      simp only [armed] at h
      have := ih h
      simp only [noW1] at this
      simp only [noW1, List.all_cons, isW1, Bool.not_false, Bool.true_and]
      exact this

theorem noWrite_noW1 (r : List Step) (h : noWrite r = true) : noW1 r = true := by
  induction r with
  | nil => rfl
  | cons x r ih =>
    simp only [noWrite, List.all_cons, Bool.and_eq_true] at h
    simp only [noW1, List.all_cons, Bool.and_eq_true]
    refine ⟨?_, ih h.2⟩
    cases x with
    | write1 f => simp [isWrite] at h
    | _ => rfl

def winStop : Step → Bool
  | .retIfClosed => true
  | .retIfClosing => true
  | .setCloseTime => true
  | _ => false

theorem closeWin_cons (st : Step) (r : List Step) :
    closeWin (st :: r) = (if st = .setClosing true then true else if winStop st = true then false else closeWin r) := by
  cases st with
  | setClosing b => cases b <;> simp [closeWin, winStop]
  | _ => simp [closeWin, winStop]

theorem inB_step {v : Variant} {st : Step} {r r' : List Step} (m : Moves v st r r')
    (d : disc (st :: r) = true) (pd : pdisc (st :: r) = true) (h : inB (st :: r) = true)
    (hnwr : isWrite st = false) :
    st = .setClosing true ∨ inB r' = true := by
  simp only [inB, Bool.and_eq_true] at h
  obtain ⟨hw, hn⟩ := h
  have hn' : noW1 r = true := by
    simp only [noW1, List.all_cons, Bool.and_eq_true] at hn; exact hn.2
  by_cases h1 : st = .setClosing true
  · exact Or.inl h1
  · right
    rw [closeWin_cons, if_neg h1] at hw
    have hstop : winStop st = false := by
      cases hs : winStop st with
      | false => rfl
      | true => rw [hs] at hw; simp at hw
    have hwr : closeWin r = true := by rw [hstop] at hw; simpa using hw
    rcases moves_eq m with e | ⟨hs, e⟩ | ⟨hs, e⟩ | ⟨a, hs, e⟩ <;> subst e
    · simp only [inB, Bool.and_eq_true]; exact ⟨hwr, hn'⟩
    · rcases hs with hs | hs <;> subst hs <;> cases hstop
    · exfalso
      have hs : st = .chkSock ∨ st = .chkClosed ∨ st = .chkClosing ∨ st = .chkBoth := by
        rcases hs with hs | hs | hs | hs | hs
        · exact Or.inl hs
        · exact Or.inr (Or.inl hs)
        · exact Or.inr (Or.inr (Or.inl hs))
        · exact Or.inr (Or.inr (Or.inr hs))
        · rw [hnwr] at hs; cases hs
      have hhead : headW2 r = false := by
        simp only [disc, Bool.and_eq_true] at d
        have := d.2
        rcases hs with hs | hs | hs | hs <;> subst hs <;> simpa using this
      have hnw : noWrite r = true := noW1_noWrite r (disc_tail d) hhead hn'
      simp only [disc, Bool.and_eq_true] at d
      have := d.1.2
      rcases hs with hs | hs | hs | hs <;> subst hs <;> simp [outOnly, inOnly, hnw] at this
    · rcases hs with hs | hs <;> subst hs <;>
      · simp only [pdisc, Bool.and_eq_true] at pd
        have := pd.2
        simp [hwr] at this

structure PInv (v : Variant) (cfg : Cfg) (s : State) : Prop where
  p1 : hasClose s.sh.wire = true → s.sh.closing = true ∨ ∃ u, inB (view v cfg (s.th u)) = true
  p2 : ∀ t, armed (view v cfg (s.th t)) = true → hasClose s.sh.wire = false
  p5 : nothingAfterClose s.sh.wire = true
  p6 : ∀ t c f r, (s.th t).current v cfg = some c → c.rest = .write2 f :: r →
    ∃ pre, s.sh.wire = pre ++ [⟨t, c.idx, false, descOf f c⟩] ∧ hasClose pre = false

theorem pInv_init (v : Variant) (cfg : Cfg) (progs : Tid → List Call) : PInv v cfg (init progs) := by
  constructor
  · intro h; cases h
  · intro t _; rfl
  · rfl
  · intro t c f r hc hr
    have := headW2_of_rest hc hr
    rw [fresh_eq v cfg headW2 (compile_headW2 v cfg) _ rfl] at this; cases this

theorem exec_chkClosing (v : Variant) (t : Tid) (r : List Step) (sh : Shared) (c : Cur)
    (h : sh.closing = true) : (exec v t .chkClosing r sh c).2.rest = toRelease r := by
  simp [exec, h]

theorem pInv_step (v : Variant) (cfg : Cfg) (s : State) (t : Tid) (hva : v.closeAtomic = false) (calm : calmAt v cfg s t)
    (B : Base v cfg s) (I : PInv v cfg s) : PInv v cfg (step v cfg s t) := by
  rcases step_cases v cfg s t with e | ⟨c, st, r, hc, hr, hb, hh, hv, e⟩
  · rw [e]; exact I
  · rw [e]
    obtain ⟨calm1, calm2, calm3⟩ := calm (by simp [enabled, hc, hb])
    have d : disc (st :: r) = true := hv ▸ B.L.disc t
    have pd : pdisc (st :: r) = true := hv ▸ B.P.pdisc hva t
    have ad : adisc (st :: r) = true := hv ▸ B.P.adisc t
    have m := exec_moves v t st r s.sh c
    have hi := exec_idx v t st r s.sh c
    have hnotclear : st ≠ .setClosing false := by
      intro h; subst h; exact calm2 r hv
    have hnotclosed : st ≠ .setClosed := by
      intro h; subst h; exact calm3 r hv
    have vo : ∀ (p : Shared × Cur) u, u ≠ t →
        view v cfg ((setTh s t (settle (s.th t) p.2) p.1).th u) = view v cfg (s.th u) := by
      intro p u hu; rw [setTh_other _ _ _ _ _ hu]
    have vArmed : ∀ p : Shared × Cur, armed (view v cfg ((setTh s t (settle (s.th t) p.2) p.1).th t)) = armed p.2.rest := by
      intro p; rw [setTh_same]; exact view_settle_eq v cfg armed (compile_armed v cfg) _ _ hh
    have vB : ∀ p : Shared × Cur, inB (view v cfg ((setTh s t (settle (s.th t) p.2) p.1).th t)) = inB p.2.rest := by
      intro p; rw [setTh_same]; exact view_settle_eq v cfg inB (compile_inB v cfg) _ _ hh
    have lone : holds (st :: r) = true → ∀ u, u ≠ t → holds (view v cfg (s.th u)) = false :=
      fun hl u hu => B.L.alone (hv ▸ hl) hu holds id
    -- the witness of `p1` can only be the moving thread
    have witness : ∀ u, inB (view v cfg (s.th u)) = true → u = t := by
      intro u hu
      apply Classical.byContradiction
      intro hne
      have := calm1 u hne
      simp only [inB, Bool.and_eq_true] at hu
      rw [hu.1] at this; cases this
    have p6_other : ∀ (p : Shared × Cur), p.1.wire = s.sh.wire → (∀ f, st ≠ .write1 f) → Moves v st r p.2.rest →
        ∀ u c2 f r2, ((setTh s t (settle (s.th t) p.2) p.1).th u).current v cfg = some c2 → c2.rest = .write2 f :: r2 →
          ∃ pre, p.1.wire = pre ++ [⟨u, c2.idx, false, descOf f c2⟩] ∧ hasClose pre = false := by
      intro p hw hnw1 mp u c2 f r2 hc2 hr2
      rcases current_after hh hc2 with ⟨_, hcu⟩ | ⟨_, _, rfl⟩ | ⟨_, _, call3, rfl⟩
      · rw [hw]; exact I.p6 u c2 f r2 hcu hr2
      · have : headW2 p.2.rest = true := by rw [hr2]; rfl
        obtain ⟨g, hg, _⟩ := moves_headW2 mp d this
        exact absurd hg (hnw1 g)
      · have := compile_headW2 v cfg call3
        simp only at hr2
        rw [hr2] at this; cases this
    by_cases hw1 : ∃ f, st = .write1 f
    · obtain ⟨f, rfl⟩ := hw1
      have hl : holds (Step.write1 f :: r) = true := atW_holds d rfl
      obtain ⟨r2, rfl⟩ := (disc_w1 d).2
      have hnoclose : hasClose s.sh.wire = false := I.p2 t (by rw [hv]; rfl)
      cases hsx : s.sh.sockShut with
      | true =>
        -- the socket has been shut: TransportFail, nothing written, on to the release
        have hex := exec_write_shut v t (.write1 f) (.write2 f :: r2) s.sh c rfl hsx
        have hp2 : (exec v t (Step.write1 f) (Step.write2 f :: r2) s.sh c).2.rest = toRelease (.write2 f :: r2) := by
          rw [hex]
        have hw : (exec v t (Step.write1 f) (Step.write2 f :: r2) s.sh c).1.wire = s.sh.wire := by rw [hex]
        generalize exec v t (Step.write1 f) (Step.write2 f :: r2) s.sh c = p at m hi hp2 hw
        refine ⟨?_, ?_, ?_, ?_⟩
        · intro hcw
          rw [setTh_sh, hw, hnoclose] at hcw; cases hcw
        · intro u hu
          rw [setTh_sh, hw]
          by_cases hut : u = t
          · subst hut; rw [vArmed, hp2, armed_toRelease] at hu; cases hu
          · rw [vo p u hut] at hu; exact I.p2 u hu
        · rw [setTh_sh, hw]; exact I.p5
        · intro u c2 g r3 hc2 hr3
          rw [setTh_sh]
          rcases current_after hh hc2 with ⟨_, hcu⟩ | ⟨_, _, rfl⟩ | ⟨_, _, call3, rfl⟩
          · rw [hw]; exact I.p6 u c2 g r3 hcu hr3
          · have : headW2 p.2.rest = true := by rw [hr3]; rfl
            rw [hp2, headW2_toRelease] at this; cases this
          · have := compile_headW2 v cfg call3
            simp only at hr3
            rw [hr3] at this; cases this
      | false =>
      have hp2 : (exec v t (Step.write1 f) (Step.write2 f :: r2) s.sh c).2.rest = .write2 f :: r2 := by
        simp [exec, hsx]
      have hw : (exec v t (Step.write1 f) (Step.write2 f :: r2) s.sh c).1.wire =
          s.sh.wire ++ [⟨t, c.idx, false, descOf f c⟩] := by simp [exec, hsx]
      have hz : (exec v t (Step.write1 f) (Step.write2 f :: r2) s.sh c).2.zout = c.zout := by simp [exec, hsx]
      generalize exec v t (Step.write1 f) (Step.write2 f :: r2) s.sh c = p at m hi hp2 hw hz
      have others_out : ∀ u, u ≠ t → holds (view v cfg (s.th u)) = false := lone hl
      have dt := disc_tail d
      have hnw2 : noWrite r2 = true := by
        simp only [disc, Bool.and_eq_true] at dt; exact dt.1.2.2
      refine ⟨?_, ?_, ?_, ?_⟩
      · intro hcw
        rw [setTh_sh, hw, hasClose_append, hnoclose, Bool.false_or] at hcw
        refine Or.inr ⟨t, ?_⟩
        rw [vB, hp2]
        simp only [isClose, descOf_op, decide_eq_true_eq] at hcw
        have pdt := pdisc_tail pd
        simp only [pdisc, hcw, Bool.and_eq_true] at pdt
        simp only [inB, Bool.and_eq_true]
        refine ⟨by simpa [closeWin] using pdt.2, ?_⟩
        have := noWrite_noW1 r2 hnw2
        simp only [noW1] at this
        simp only [noW1, List.all_cons, isW1, Bool.not_false, Bool.true_and]
        exact this
      · intro u hu
        by_cases hut : u = t
        · subst hut
          rw [vArmed, hp2] at hu
          simp [armed, armed_noWrite r2 hnw2] at hu
        · rw [vo p u hut] at hu
          have := armed_holds _ (B.L.disc u) hu
          rw [others_out u hut] at this; cases this
      · rw [setTh_sh, hw]; exact nac_one _ _ hnoclose
      · intro u c2 g r3 hc2 hr3
        rw [setTh_sh]
        rcases current_after hh hc2 with ⟨hu, hcu⟩ | ⟨hu, _, rfl⟩ | ⟨_, he, _⟩
        · have := headW2_holds (B.L.disc u) (headW2_of_rest hcu hr3)
          rw [others_out u hu] at this; cases this
        · subst hu
          rw [hp2] at hr3; cases hr3
          exact ⟨s.sh.wire, by rw [hw, hi, descOf_congr _ c p.2 hz], hnoclose⟩
        · rw [hp2] at he; cases he
    · by_cases hw2 : ∃ f, st = .write2 f
      · obtain ⟨f, rfl⟩ := hw2
        have hl : holds (Step.write2 f :: r) = true := atW_holds d rfl
        obtain ⟨pre, hpre, hprec⟩ := I.p6 t c f r hc hr
        -- nobody is in the middle of a frame on a shut socket
        have hsx : s.sh.sockShut = false := by
          cases hsx : s.sh.sockShut with
          | false => rfl
          | true => have := B.W.shut hsx t; rw [hv] at this; cases this
        have hp2 : (exec v t (Step.write2 f) r s.sh c).2.rest = r := by simp [exec, hsx]
        have hw : (exec v t (Step.write2 f) r s.sh c).1.wire =
            s.sh.wire ++ [⟨t, c.idx, true, descOf f c⟩] := by simp [exec, hsx]
        generalize exec v t (Step.write2 f) r s.sh c = p at m hi hp2 hw
        have others_out : ∀ u, u ≠ t → holds (view v cfg (s.th u)) = false := lone hl
        have hnw : noWrite r = true := (disc_w2 d).2
        have hwire' : p.1.wire = pre ++ [⟨t, c.idx, false, descOf f c⟩, ⟨t, c.idx, true, descOf f c⟩] := by
          rw [hw, hpre]; simp
        refine ⟨?_, ?_, ?_, ?_⟩
        · intro hcw
          rw [setTh_sh, hwire'] at hcw
          have hop : f.op = 8 := by
            have : hasClose (pre ++ [(⟨t, c.idx, false, descOf f c⟩ : Chunk), ⟨t, c.idx, true, descOf f c⟩]) =
                (hasClose pre || decide ((descOf f c).op = 8)) := by
              simp [hasClose, List.any_append, isClose]
            rw [this, hprec, descOf_op] at hcw
            simpa using hcw
          refine Or.inr ⟨t, ?_⟩
          rw [vB, hp2]
          simp only [pdisc, hop, Bool.and_eq_true] at pd
          simp only [inB, Bool.and_eq_true]
          exact ⟨by simpa using pd.2, noWrite_noW1 r hnw⟩
        · intro u hu
          by_cases hut : u = t
          · subst hut
            rw [vArmed, hp2, armed_noWrite r hnw] at hu; cases hu
          · rw [vo p u hut] at hu
            have := armed_holds _ (B.L.disc u) hu
            rw [others_out u hut] at this; cases this
        · rw [setTh_sh, hwire']
          exact nac_two pre _ _ _ hprec
        · intro u c2 g r3 hc2 hr3
          rcases current_after hh hc2 with ⟨hu, hcu⟩ | ⟨hu, _, rfl⟩ | ⟨_, _, call3, rfl⟩
          · have := headW2_holds (B.L.disc u) (headW2_of_rest hcu hr3)
            rw [others_out u hu] at this; cases this
          · rw [hp2] at hr3
            rw [hr3] at hnw
            simp [noWrite, isWrite] at hnw
          · have := compile_headW2 v cfg call3
            simp only at hr3
            rw [hr3] at this; cases this
      · have hw : (exec v t st r s.sh c).1.wire = s.sh.wire := by
          rw [exec_wire]
          cases st <;> first | rfl | exact absurd ⟨_, rfl⟩ hw1 | exact absurd ⟨_, rfl⟩ hw2
        have hcg := (exec_flags v t st r s.sh c).2
        have hchk : st = .chkClosing → s.sh.closing = true → (exec v t st r s.sh c).2.rest = toRelease r := by
          intro h1 h2; subst h1; exact exec_chkClosing v t r s.sh c h2
        generalize exec v t st r s.sh c = p at m hi hw hcg hchk
        -- `closing` never goes back to false on a calm schedule
        have hmono : s.sh.closing = true → p.1.closing = true := by
          intro h
          rw [hcg]
          cases st <;> first | exact h | skip
          rename_i b
          cases b
          · exact absurd rfl hnotclear
          · rfl
        refine ⟨?_, ?_, ?_, ?_⟩
        · intro hcw
          rw [setTh_sh, hw] at hcw
          rw [setTh_sh]
          rcases I.p1 hcw with h | ⟨u, hu⟩
          · exact Or.inl (hmono h)
          · have hut := witness u hu
            subst hut
            rw [hv] at hu
            have hnwr : isWrite st = false := by
              cases st <;> first | rfl | exact absurd ⟨_, rfl⟩ hw1 | exact absurd ⟨_, rfl⟩ hw2
            rcases inB_step m d pd hu hnwr with h | h
            · left; rw [hcg, h]
            · right; exact ⟨u, by rw [vB]; exact h⟩
        · intro u hu
          rw [setTh_sh, hw]
          by_cases hut : u = t
          · subst hut
            rw [vArmed] at hu
            rcases moves_armed m d ad hu with ⟨h1, h2⟩ | ⟨h1, _⟩
            · -- the `is_closing` test has just been passed: `closing` was false
              have h1 : st = .chkClosing := by
                rcases h1 with h1 | h1
                · exact h1
                · subst h1
                  simp only [pdisc, Bool.and_eq_true] at pd
                  have := pd.2; cases this
              subst h1
              have hclosing : s.sh.closing = false := by
                cases hx : s.sh.closing with
                | false => rfl
                | true => rw [hchk rfl hx, armed_toRelease] at hu; cases hu
              cases hcl : hasClose s.sh.wire with
              | false => rfl
              | true =>
                rcases I.p1 hcl with h | ⟨w, hwb⟩
                · rw [hclosing] at h; cases h
                · have := witness w hwb
                  subst this
                  rw [hv] at hwb
                  simp only [inB, Bool.and_eq_true] at hwb
                  have hn := hwb.2
                  simp only [noW1, List.all_cons, Bool.and_eq_true] at hn
                  rw [h2] at hu
                  have := armed_noW1 r hu
                  simp only [noW1] at this
                  rw [this] at hn; cases hn.2
            · exact I.p2 u (by rw [hv]; exact h1)
          · rw [vo p u hut] at hu; exact I.p2 u hu
        · rw [setTh_sh, hw]; exact I.p5
        · intro u c2 f r2 hc2 hr2
          rw [setTh_sh]
          exact p6_other p hw (by intro f h; exact hw1 ⟨f, h⟩) m u c2 f r2 hc2 hr2

theorem pInv_run (v : Variant) (cfg : Cfg) (s : State) (sched : List Tid) (hva : v.closeAtomic = false) (calm : Calm v cfg s sched)
    (B : Base v cfg s) (I : PInv v cfg s) : PInv v cfg (run v cfg s sched) := by
  induction sched generalizing s with
  | nil => exact I
  | cons t r ih =>
    exact ih _ calm.2 (base_step v cfg s t B) (pInv_step v cfg s t hva calm.1 B I)

/-! ### a decidable test for calm schedules of finitely many threads (used for examples) -/

def replyHead : List Step → Bool
  | .setClosing false :: _ => true
  | .setClosed :: _ => true
  | _ => false

def calmAtB (n : Nat) (v : Variant) (cfg : Cfg) (s : State) (t : Tid) : Bool :=
  !enabled v cfg s t ||
    ((List.range n).all (fun u => u == t || !closeWin (view v cfg (s.th u))) && !replyHead (view v cfg (s.th t)))

def CalmB (n : Nat) (v : Variant) (cfg : Cfg) : State → List Tid → Bool
  | _, [] => true
  | s, t :: rest => calmAtB n v cfg s t && CalmB n v cfg (step v cfg s t) rest

def IdleFrom (n : Nat) (s : State) : Prop := ∀ u, n ≤ u → (s.th u).prog = [] ∧ (s.th u).cur = none

theorem idle_view (v : Variant) (cfg : Cfg) (th : Thread) (h : th.prog = [] ∧ th.cur = none) : view v cfg th = [] := by
  unfold view Thread.current
  rw [h.1, h.2]
  split
  · rename_i c hc
    split at hc
    · cases hc
    · simp at hc
  · rfl

theorem idle_step (n : Nat) (v : Variant) (cfg : Cfg) (s : State) (t : Tid) (h : IdleFrom n s) :
    IdleFrom n (step v cfg s t) := by
  intro u hu
  rcases step_cases v cfg s t with e | ⟨c, st, r, hc, hr, _, _, _, e⟩
  · rw [e]; exact h u hu
  · by_cases hut : u = t
    · subst hut
      have := view_of_current hc
      rw [idle_view v cfg _ (h u hu), hr] at this; cases this
    · rw [e, setTh_other _ _ _ _ _ hut]; exact h u hu

theorem calm_of_calmB (n : Nat) (v : Variant) (cfg : Cfg) (s : State) (sched : List Tid)
    (hidle : IdleFrom n s) (h : CalmB n v cfg s sched = true) : Calm v cfg s sched := by
  induction sched generalizing s with
  | nil => trivial
  | cons t rest ih =>
    simp only [CalmB, Bool.and_eq_true] at h
    refine ⟨?_, ih _ (idle_step n v cfg s t hidle) h.2⟩
    intro hen
    have h1 := h.1
    simp only [calmAtB, hen, Bool.not_true, Bool.false_or, Bool.and_eq_true, List.all_eq_true,
      List.mem_range, Bool.or_eq_true, beq_iff_eq, Bool.not_eq_true'] at h1
    refine ⟨?_, ?_, ?_⟩
    · intro u hu
      by_cases hun : u < n
      · rcases h1.1 u hun with h2 | h2
        · exact absurd h2 hu
        · exact h2
      · rw [idle_view v cfg _ (hidle u (Nat.le_of_not_lt hun))]; rfl
    · intro r hr; have := h1.2; rw [hr] at this; cases this
    · intro r hr; have := h1.2; rw [hr] at this; cases this

theorem idle_init (ps : List (List Call)) : IdleFrom ps.length (init (progsOf ps)) := by
  intro u hu
  refine ⟨?_, rfl⟩
  simp [init, progsOf, List.getD, List.getElem?_eq_none hu]

end Lomond.Threads
