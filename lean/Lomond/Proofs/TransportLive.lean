/-
  C18, liveness half: with the `pending()` short-cut and a positive poll interval the loop hands every arrived byte to
  `feed` after finitely many iterations, whatever the arrival pattern.  The measure is buffered bytes + weight of the
  future arrivals + distance of the clock from the last arrival; it and the invariant `LInv` are followed move by move
  (`Moves.mu_le`, `Moves.lInv`).  That an iteration makes progress (`cycle_progress`) is the one fact that needs the
  shape of an iteration: it ends in a wait that found nothing, or in a `recv`.
-/
import Lomond.Proofs.Transport

namespace Lomond.Transport
open Lomond

def weight : List (Nat × Bytes) → Nat
  | [] => 0
  | a :: l => a.2.length + 1 + weight l

def horizon : List (Nat × Bytes) → Nat
  | [] => 0
  | a :: l => max a.1 (horizon l)

def mu (s : St) : Nat := s.sock.buffered.length + weight s.future + (horizon s.future - s.now)

theorem weight_append (a b : List (Nat × Bytes)) : weight (a ++ b) = weight a + weight b := by
  induction a with
  | nil => simp [weight]
  | cons x a ih => simp [weight, ih]; omega

theorem horizon_append (a b : List (Nat × Bytes)) : horizon (a ++ b) = max (horizon a) (horizon b) := by
  induction a with
  | nil => simp [horizon]
  | cons x a ih => simp [horizon, ih, Nat.max_assoc]

theorem weight_eq (l : List (Nat × Bytes)) : weight l = (bytesOf l).length + l.length := by
  induction l with
  | nil => rfl
  | cons x l ih => simp [weight, ih]; omega

def Drained (s : St) : Prop := s.sock.buffered = [] ∧ s.future = []

/-- everything that was ever going to arrive has been handed to `feed` -/
def Complete (s : St) : Prop := bytesOf s.log = content s

theorem Drained.complete {s : St} (h : Drained s) : Complete s := by
  simp [Complete, content, h.1, h.2]

/-- no empty TLS record is queued (`push` drops them) -/
def Sock.NE : Sock → Prop
  | .plain _ => True
  | .tls rs _ => ∀ r ∈ rs, r ≠ []

theorem Sock.push_NE (p : Bytes) {sk : Sock} (h : sk.NE) : (sk.push p).NE := by
  cases sk with
  | plain k => trivial
  | tls rs pe =>
    by_cases hp : p = []
    · subst hp; simpa [Sock.push] using h
    · have : p.isEmpty = false := by cases p <;> simp_all
      simp only [Sock.push, this, Bool.false_eq_true, ↓reduceIte]
      intro r hr
      rcases List.mem_append.mp hr with hr | hr
      · exact h r hr
      · simp at hr; subst hr; exact hp

theorem pushAll_NE {sk : Sock} (as : List (Nat × Bytes)) (h : sk.NE) : (pushAll sk as).NE := by
  induction as generalizing sk with
  | nil => exact h
  | cons a as ih => exact ih (Sock.push_NE a.2 h)

theorem Sock.recv_NE (c : Nat) {sk : Sock} (h : sk.NE) : (sk.recv c).2.NE := by
  cases sk with
  | plain k => trivial
  | tls rs p =>
    cases p with
    | nil =>
      cases rs with
      | nil => simpa [Sock.recv] using h
      | cons r rs => intro x hx; exact h x (by simp [hx])
    | cons b p => exact (by simpa [Sock.recv, Sock.NE] using h)

theorem Sock.push_pendingBytes (p : Bytes) (sk : Sock) : (sk.push p).pendingBytes = sk.pendingBytes := by
  cases sk with
  | plain k => rfl
  | tls rs pe => simp only [Sock.push]; split <;> rfl

theorem pushAll_pendingBytes (sk : Sock) (as : List (Nat × Bytes)) : (pushAll sk as).pendingBytes = sk.pendingBytes := by
  induction as generalizing sk with
  | nil => rfl
  | cons a as ih => simp [pushAll, ih, Sock.push_pendingBytes]

theorem take_cons_ne_nil {α : Type} {n : Nat} (hn : 0 < n) (b : α) (l : List α) : (b :: l).take n ≠ [] := by
  cases n with
  | zero => omega
  | succ m => simp

theorem Sock.recv_nil {c : Nat} (hc : 0 < c) {sk : Sock} (h : sk.NE) (he : (sk.recv c).1 = []) :
    sk.buffered = [] := by
  have hb := bufferSize_pos
  have hm : 0 < min c bufferSize := by omega
  cases sk with
  | plain k =>
    cases k with
    | nil => rfl
    | cons b k => exact absurd he (take_cons_ne_nil hm b k)
  | tls rs p =>
    cases p with
    | nil =>
      cases rs with
      | nil => rfl
      | cons r rs =>
        cases r with
        | nil => exact absurd rfl (h [] (by simp))
        | cons b r => exact absurd he (take_cons_ne_nil hm b r)
    | cons b p => simp only [Sock.recv] at he; exact absurd he (take_cons_ne_nil hm b p)

theorem Sock.recv_length (c : Nat) (sk : Sock) :
    (sk.recv c).1.length + (sk.recv c).2.buffered.length = sk.buffered.length := by
  have := congrArg List.length (Sock.recv_conserve c sk)
  simpa using this

theorem Sock.recv_buffered_nil (n : Nat) {sk : Sock} (h : sk.buffered = []) : (sk.recv n).2.buffered = [] := by
  have := Sock.recv_length n sk
  rw [h, List.length_nil] at this
  exact List.eq_nil_of_length_eq_zero (by omega)

theorem Sock.hup_of_readable {sk : Sock} {hup : Bool} (hr : sk.fdReadable hup = true) (hk : sk.kernel = [])
    (hne : sk.NE) : hup = true := by
  cases sk with
  | plain k => simp_all [Sock.fdReadable, Sock.kernel]
  | tls rs p =>
    cases rs with
    | nil => simpa [Sock.fdReadable] using hr
    | cons r rs =>
      have : r ≠ [] := hne r (by simp)
      simp [Sock.kernel] at hk
      exact absurd hk.1 this

/-- the loop's liveness invariant: no empty record is queued, after the peer's FIN nothing is still to
    come, and a stopped loop has nothing left to feed -/
structure LInv (s : St) : Prop where
  ne : s.sock.NE
  hup : s.hup = true → s.future = []
  stop : s.stopped = true → Drained s

theorem deliverDue_drained {s : St} (h : Drained s) : Drained (deliverDue s) := by
  refine ⟨?_, ?_⟩
  · simp [deliverDue, pushAll_buffered, h.1, h.2]
  · simp [deliverDue, h.2]

theorem deliverDue_LInv {s : St} (h : LInv s) : LInv (deliverDue s) := by
  refine ⟨pushAll_NE _ h.ne, ?_, fun hs => deliverDue_drained (h.stop hs)⟩
  intro hh
  simp only [deliverDue, Bool.or_eq_true, Bool.and_eq_true] at hh
  rcases hh with hh | hh
  · exact congrArg (List.dropWhile _) (h.hup hh)
  · show s.future.dropWhile _ = []
    simpa using hh.1

theorem init_LInv (tls : Bool) (arrivals : List (Nat × Bytes)) (eofAt : Option Nat) :
    LInv (init tls arrivals eofAt) :=
  ⟨by cases tls <;> simp [init, Sock.NE], fun h => (nomatch h), fun h => (nomatch h)⟩

theorem deliverDue_mu (s : St) :
    mu (deliverDue s) + (s.future.takeWhile (fun a => decide (a.1 ≤ s.now))).length ≤ mu s := by
  have e := List.takeWhile_append_dropWhile (p := fun a : Nat × Bytes => decide (a.1 ≤ s.now)) (l := s.future)
  have hw := congrArg weight e
  have hh := congrArg horizon e
  rw [weight_append] at hw
  rw [horizon_append] at hh
  have hq := weight_eq (s.future.takeWhile (fun a => decide (a.1 ≤ s.now)))
  simp only [mu, deliverDue, pushAll_buffered, List.length_append]
  simp only [bytesOf] at hq
  omega

theorem deliverDue_mu_le (s : St) : mu (deliverDue s) ≤ mu s := by
  have := deliverDue_mu s; omega

theorem block_pendingBytes (t : Nat) (s : St) : (block t s).2.sock.pendingBytes = s.sock.pendingBytes :=
  block_cases t s (P := fun r => r.2.sock.pendingBytes = s.sock.pendingBytes) (fun _ => rfl)
    (fun _ _ _ _ => pushAll_pendingBytes _ _) (fun _ _ => rfl)

theorem mu_now_le {s s' : St} (h0 : s.now ≤ s'.now) (h2 : s'.sock = s.sock) (h3 : s'.future = s.future) :
    mu s' ≤ mu s := by simp only [mu, h2, h3]; omega

theorem block_progress {t : Nat} (ht : 0 < t) {s : St} (hb : s.sock.buffered = [])
    (hr : s.sock.fdReadable s.hup = false) : mu (block t s).2 < mu s ∨ Drained (block t s).2 := by
  cases hf : s.future with
  | nil =>
    exact block_cases t s (P := fun r => mu r.2 < mu s ∨ Drained r.2) (fun h => by rw [hr] at h; cases h)
      (fun _ _ _ _ => .inr (deliverDue_drained ⟨hb, hf⟩)) (fun _ _ => .inr ⟨hb, hf⟩)
  | cons a l =>
    have hn : nextTime s = some a.1 := by simp [nextTime, hf]
    refine block_cases t s (P := fun r => mu r.2 < mu s ∨ Drained r.2) (fun h => by rw [hr] at h; cases h)
      ?_ ?_
    · intro t' _ ht' hle
      obtain rfl : a.1 = t' := Option.some.inj (hn.symm.trans ht')
      left
      have hd := deliverDue_mu { s with now := max s.now a.1 }
      have hlen : 0 < (List.takeWhile (fun x : Nat × Bytes => decide (x.1 ≤ max s.now a.1)) s.future).length := by
        rw [hf]
        have : a.1 ≤ max s.now a.1 := Nat.le_max_right _ _
        simp [this]
      have hm : mu { s with now := max s.now a.1 } ≤ mu s := mu_now_le (Nat.le_max_left _ _) rfl rfl
      show mu (deliverDue { s with now := max s.now a.1 }) < mu s
      simp only at hd hlen
      omega
    · intro _ hidle
      have hle := hidle _ hn
      left
      have h1 : a.1 ≤ horizon s.future := by rw [hf]; simp [horizon]; omega
      show mu { s with now := s.now + t } < mu s
      simp only [mu]
      omega

theorem mu_congr {s s' : St} (h0 : s'.now = s.now) (h2 : s'.sock = s.sock) (h3 : s'.future = s.future) :
    mu s' = mu s := by simp [mu, h0, h2, h3]

theorem Drained_congr {s s' : St} (h : Drained s) (h2 : s'.sock = s.sock) (h3 : s'.future = s.future) : Drained s' := by
  refine ⟨by rw [h2]; exact h.1, by rw [h3]; exact h.2⟩

variable {cfg : Cfg}

theorem Moves.mu_le {s s' : St} (m : Moves cfg s s') : mu s' ≤ mu s := by
  induction m with
  | refl | toks => exact Nat.le_refl _
  | trans _ _ h1 h2 => exact Nat.le_trans h2 h1
  | deliver s => exact deliverDue_mu_le s
  | advance _ _ _ _ h0 => exact mu_now_le h0 rfl rfl
  | eof s n | data s n => have := Sock.recv_length n s.sock; simp only [mu]; omega

theorem Moves.log_ext {s s' : St} (m : Moves cfg s s') : ∃ ext, s'.log = s.log ++ ext := by
  induction m with
  | refl | deliver | advance | toks | eof => exact ⟨[], (List.append_nil _).symm⟩
  | trans _ _ h1 h2 =>
    obtain ⟨e1, h1⟩ := h1
    obtain ⟨e2, h2⟩ := h2
    exact ⟨e1 ++ e2, by rw [h2, h1, List.append_assoc]⟩
  | data => exact ⟨_, rfl⟩

theorem Moves.lInv {s s' : St} (m : Moves cfg s s') (h : LInv s) : LInv s' := by
  induction m with
  | refl => exact h
  | trans _ _ h1 h2 => exact h2 (h1 h)
  | deliver => exact deliverDue_LInv h
  | advance | toks => exact ⟨h.ne, h.hup, h.stop⟩
  | data s n =>
    exact ⟨Sock.recv_NE n h.ne, h.hup, fun hs => ⟨Sock.recv_buffered_nil n (h.stop hs).1, (h.stop hs).2⟩⟩
  | eof s n hn hrd he =>
    -- nothing came back, so nothing was buffered: the descriptor was readable because the peer closed
    have hb := Sock.recv_nil hn h.ne he
    obtain ⟨hpe, hk⟩ := List.append_eq_nil_iff.mp (Sock.buffered_eq _ ▸ hb)
    have hup := Sock.hup_of_readable (hrd.resolve_right (fun h => h hpe)) hk h.ne
    exact ⟨Sock.recv_NE n h.ne, h.hup, fun _ => ⟨Sock.recv_buffered_nil n hb, h.hup hup⟩⟩

theorem selWait_idle (cfg : Cfg) (hs : cfg.shortcut = true) (hp : 0 < cfg.poll) (m : Nat) (s : St) :
    (selWait cfg m s).1 = false → mu (selWait cfg m s).2.2 < mu s ∨ Drained (selWait cfg m s).2.2 :=
  selWait_cases cfg m s (P := fun w => w.1 = false → mu w.2.2 < mu s ∨ Drained w.2.2)
    (fun tr hpe _ hf => by
      have hr := block_idle hf
      -- `mu_congr`/`Drained_congr` compare fields; a plain `exact` across `(waitReadable …).2` is a costly defeq check
      exact (block_progress hp (Sock.buffered_nil_of_not_readable hr (hpe hs)) hr).imp
        (Nat.lt_of_le_of_lt (Nat.le_of_eq (mu_congr rfl rfl rfl))) (Drained_congr · rfl rfl))
    (fun _ _ _ h => nomatch h)

theorem cycle_progress (cfg : Cfg) (hs : cfg.shortcut = true) (hp : 0 < cfg.poll) {s : St} (h : LInv s) :
    mu (cycle cfg s) < mu s ∨ Drained (cycle cfg s) := by
  have h0 := deliverDue_mu_le s
  rcases hw : selWait cfg bufferSize (deliverDue s) with ⟨ready, n, s1⟩
  obtain ⟨h1, hn, hrd⟩ : Moves cfg (deliverDue s) s1 ∧ 0 < n ∧ (ready = true → Ready s1) :=
    (hw ▸ selWait_moves cfg bufferSize_pos _ :)
  have hle := h1.mu_le
  have hL : LInv s1 := h1.lInv (deliverDue_LInv h)
  refine cycleBody_cases cfg (deliverDue s) hw (P := fun x => mu x < mu s ∨ Drained x) (fun hr => ?_)
    (fun hr he => ?_) (fun _ hd => ?_)
  · have := selWait_idle cfg hs hp bufferSize (deliverDue s) (by rw [hw]; exact hr)
    rw [hw] at this
    exact this.imp (fun h => Nat.lt_of_lt_of_le h h0) id
  · exact .inr (((Moves.eof (cfg := cfg) s1 n hn (hrd hr) he).lInv hL).stop rfl)
  · have := Sock.recv_length n s1.sock
    have : 0 < (s1.sock.recv n).1.length := List.length_pos_iff.mpr hd
    refine .inl ?_
    simp only [mu] at hle h0 ⊢
    omega

theorem exists_complete (cfg : Cfg) (hs : cfg.shortcut = true) (hp : 0 < cfg.poll) {s : St} (h : LInv s) :
    ∃ n, Complete (run cfg n s) := by
  suffices ∀ (k : Nat) (s : St), mu s < k → LInv s → ∃ n, Complete (run cfg n s) from
    this _ s (Nat.lt_succ_self _) h
  intro k
  induction k with
  | zero => intro s hk; cases hk
  | succ k ih =>
    intro s hk h
    cases hst : s.stopped with
    | true => exact ⟨0, (h.stop hst).complete⟩
    | false =>
      rcases cycle_progress cfg hs hp h with h2 | h2
      · obtain ⟨n, hn⟩ := ih (cycle cfg s) (by omega) ((cycle_moves cfg s).lInv h)
        exact ⟨n + 1, by simpa [run, hst] using hn⟩
      · exact ⟨1, by simpa [run, hst] using h2.complete⟩

theorem complete_stable {s s' : St} (hc : content s' = content s) (hl : ∃ ext, s'.log = s.log ++ ext)
    (h : Complete s) : Complete s' := by
  obtain ⟨ext, hl⟩ := hl
  unfold Complete at h ⊢
  have h' := hc
  rw [← h] at h'
  simp only [content, hl, bytesOf_append, List.append_assoc] at h'
  have h'' := List.append_cancel_left (as := bytesOf s.log) (bs := bytesOf ext ++ (s'.sock.buffered ++ bytesOf s'.future)) (cs := [])
    (by simpa using h')
  have hext : bytesOf ext = [] := (List.append_eq_nil_iff.mp h'').1
  rw [hc, ← h, hl, bytesOf_append, hext, List.append_nil]

theorem run_complete (cfg : Cfg) (n : Nat) {s : St} (h : Complete s) : Complete (run cfg n s) :=
  complete_stable (run_content cfg n s) (run_moves cfg n s).log_ext h

theorem run_of_stopped (cfg : Cfg) (n : Nat) {s : St} (h : s.stopped = true) : run cfg n s = s := by
  cases n <;> simp [run, h]

theorem run_add (cfg : Cfg) (n m : Nat) (s : St) : run cfg (n + m) s = run cfg m (run cfg n s) := by
  induction n generalizing s with
  | zero => simp [run]
  | succ n ih =>
    rw [Nat.add_right_comm]
    simp only [run]
    split
    · rename_i h; exact (run_of_stopped cfg m h).symm
    · exact ih _

end Lomond.Transport
