/-
  Termination of the thread model (`Model/Threads.lean`, two-chunk socket).

  A measure on states — for every thread the steps left in its call in progress (an early return / branch counted with
  10 extra steps, a bound on every alternative continuation: `alt_cost`) plus the steps of the calls it has not started
  — strictly decreases with every entry of a thread that can move.  With `someone_can_move` (no deadlock) this gives, from
  every state that satisfies the lock invariant, in which calls in progress have a next step (`NE`) and only finitely
  many threads have work (`IdleFrom`), a schedule that brings ALL threads to completion, of length at most the measure.
-/
import Lomond.Proofs.ThreadsPre
import Lomond.Proofs.ThreadsP

namespace Lomond.Threads
open Lomond

def jumps (r : List Step) : Nat := (r.filter isJump).length

/-- steps left, a jump counted with 10 more (no alternative continuation is longer than 10 steps) -/
def cost (r : List Step) : Nat := r.length + 10 * jumps r

theorem alt_cost (v : Variant) (a : Alt) : cost (altSteps v a) ≤ 10 := by
  cases a <;> simp only [altSteps, closeSocketProg] <;> (try split) <;> decide

theorem cost_cons (st : Step) (r : List Step) : cost (st :: r) = 1 + cost r + (if isJump st = true then 10 else 0) := by
  unfold cost jumps
  by_cases h : isJump st = true
  · simp [h]; omega
  · simp [h]; omega

theorem cost_suffix {r r' : List Step} (h : r' <:+ r) : cost r' ≤ cost r := by
  obtain ⟨q, rfl⟩ := h
  unfold cost jumps
  simp only [List.filter_append, List.length_append]
  omega

theorem compile_ne_nil (v : Variant) (cfg : Cfg) (call : Call) : compile v cfg call ≠ [] :=
  compile_start (P := fun r => r ≠ []) v cfg call fun _ _ _ => List.cons_ne_nil _ _

def progCost (v : Variant) (cfg : Cfg) : List Call → Nat
  | [] => 0
  | call :: r => cost (compile v cfg call) + progCost v cfg r

def restCost (v : Variant) (cfg : Cfg) (prog : List Call) (pc : Nat) : Nat := progCost v cfg (prog.drop pc)

theorem restCost_some (v : Variant) (cfg : Cfg) (prog : List Call) (pc : Nat) (call : Call)
    (h : prog[pc]? = some call) : restCost v cfg prog pc = cost (compile v cfg call) + restCost v cfg prog (pc + 1) := by
  obtain ⟨hlt, he⟩ := List.getElem?_eq_some_iff.mp h
  unfold restCost
  rw [List.drop_eq_getElem_cons hlt, he]
  rfl

def tmeasure (v : Variant) (cfg : Cfg) (th : Thread) : Nat :=
  match th.current v cfg with
  | none => 0
  | some c => cost c.rest + (if c.halt = true then 0 else restCost v cfg th.prog (th.pc + 1))

theorem tmeasure_settle_le (v : Variant) (cfg : Cfg) (th : Thread) (c' : Cur) (hh : th.halted = false) :
    tmeasure v cfg (settle th c') ≤
      cost c'.rest + (if c'.halt = true then 0 else restCost v cfg th.prog (th.pc + 1)) := by
  by_cases h : c'.rest = []
  · unfold tmeasure
    cases hc : (settle th c').current v cfg with
    | none => exact Nat.zero_le _
    | some c2 =>
      simp only
      rcases current_cases hc with h1 | ⟨_, call, hp, rfl⟩
      · obtain ⟨hne, _⟩ := settle_cur _ _ _ h1
        exact absurd h hne
      · have hnh := current_not_halted hc
        have hpc : (settle th c').pc = th.pc + 1 := settle_pc_next _ _ h
        have hhalt : c'.halt = false := by
          unfold settle at hnh
          simp only [h, if_true, hh, Bool.false_or] at hnh
          exact hnh
        rw [settle_prog] at hp ⊢
        rw [hpc] at hp ⊢
        simp only [hhalt, Bool.false_eq_true, if_false]
        rw [restCost_some v cfg th.prog (th.pc + 1) call hp]
        omega
  · unfold tmeasure
    rw [current_settle v cfg th c' hh h]
    simp only [settle_prog, settle_pc_same _ _ h]
    exact Nat.le_refl _

/-! ### calls in progress have a next step -/

def NE (s : State) : Prop := ∀ t c, (s.th t).cur = some c → c.rest ≠ []

theorem ne_fresh (s : State) (h : ∀ t, (s.th t).cur = none) : NE s := by
  intro t c hc; rw [h t] at hc; cases hc

theorem ne_step (v : Variant) (cfg : Cfg) (s : State) (u : Tid) (N : NE s) : NE (step v cfg s u) := by
  rcases step_cases v cfg s u with e | ⟨c, st, r, _, _, _, _, _, e⟩ <;> rw [e]
  · exact N
  · intro w c2 h
    by_cases hw : w = u
    · subst hw
      rw [setTh_same] at h
      exact (settle_cur _ _ _ h).2 ▸ (settle_cur _ _ _ h).1
    · rw [setTh_other _ _ _ _ _ hw] at h; exact N w c2 h

theorem ne_run (v : Variant) (cfg : Cfg) (s : State) (sched : List Tid) (N : NE s) : NE (run v cfg s sched) :=
  run_keeps (ne_step v cfg) s sched N

theorem ne_current {v : Variant} {cfg : Cfg} {s : State} (N : NE s) {t : Tid} {c : Cur}
    (hc : (s.th t).current v cfg = some c) : c.rest ≠ [] := by
  rcases current_cases hc with h | ⟨_, call, _, rfl⟩
  · exact N t c h
  · exact compile_ne_nil v cfg call

theorem tmeasure_step (v : Variant) (cfg : Cfg) (s : State) (u : Tid) (N : NE s)
    (he : enabled v cfg s u = true) :
    tmeasure v cfg ((step v cfg s u).th u) < tmeasure v cfg (s.th u) ∧
    ∀ w, w ≠ u → (step v cfg s u).th w = s.th w := by
  unfold enabled at he
  cases hc : (s.th u).current v cfg with
  | none => rw [hc] at he; cases he
  | some c =>
    rw [hc] at he
    simp only [Bool.not_eq_true'] at he
    have hne := ne_current N hc
    cases hr : c.rest with
    | nil => exact absurd hr hne
    | cons st r =>
      have hh := current_not_halted hc
      have e : step v cfg s u =
          setTh s u (settle (s.th u) (exec v u st r s.sh c).2) (exec v u st r s.sh c).1 := by
        unfold step
        rw [hc]
        simp only [hr, he, Bool.false_eq_true, if_false]
      rw [e]
      refine ⟨?_, fun w hw => setTh_other _ _ _ _ _ hw⟩
      rw [setTh_same]
      have hsh := exec_shape v u st r s.sh c
      generalize exec v u st r s.sh c = p at hsh
      have hle := tmeasure_settle_le v cfg (s.th u) p.2 hh
      have hm : tmeasure v cfg (s.th u) =
          cost (st :: r) + (if c.halt = true then 0 else restCost v cfg (s.th u).prog ((s.th u).pc + 1)) := by
        unfold tmeasure; rw [hc]; simp only [hr]
      rw [hm, cost_cons]
      rcases hsh with ⟨h1, h2⟩ | ⟨h1, h2, a, h3⟩
      · have := cost_suffix h2
        rw [h1] at hle
        omega
      · have := alt_cost v a
        rw [h3, h1] at hle
        simp only [h2, if_true] at hle ⊢
        omega

def sumTo (f : Nat → Nat) : Nat → Nat
  | 0 => 0
  | n + 1 => sumTo f n + f n

theorem sumTo_congr (f g : Nat → Nat) (n : Nat) (h : ∀ w, w < n → f w = g w) : sumTo f n = sumTo g n := by
  induction n with
  | zero => rfl
  | succ n ih =>
    simp only [sumTo]
    rw [ih (fun w hw => h w (by omega)), h n (by omega)]

theorem sumTo_lt (f g : Nat → Nat) (n u : Nat) (hu : u < n) (h : ∀ w, w ≠ u → f w = g w) (hlt : f u < g u) :
    sumTo f n < sumTo g n := by
  induction n with
  | zero => omega
  | succ n ih =>
    simp only [sumTo]
    by_cases hun : u = n
    · subst hun
      rw [sumTo_congr f g u (fun w hw => h w (by omega))]
      omega
    · rw [h n (fun e => hun e.symm)]
      have := ih (by omega)
      omega

def smeasure (v : Variant) (cfg : Cfg) (n : Nat) (s : State) : Nat := sumTo (fun t => tmeasure v cfg (s.th t)) n

theorem idle_run (n : Nat) (v : Variant) (cfg : Cfg) (s : State) (sched : List Tid) (h : IdleFrom n s) :
    IdleFrom n (run v cfg s sched) :=
  run_keeps (idle_step n v cfg) s sched h

theorem idle_current (v : Variant) (cfg : Cfg) (th : Thread) (h : th.prog = [] ∧ th.cur = none) :
    th.current v cfg = none := by
  cases hc : th.current v cfg with
  | none => rfl
  | some c =>
    have := view_of_current hc
    rw [idle_view v cfg th h] at this
    rcases current_cases hc with h1 | ⟨_, call, hp, _⟩
    · rw [h.2] at h1; cases h1
    · rw [h.1] at hp; simp at hp

theorem enabled_lt (v : Variant) (cfg : Cfg) (n : Nat) (s : State) (u : Tid) (I : IdleFrom n s)
    (hu : enabled v cfg s u = true) : u < n := by
  apply Classical.byContradiction
  intro hge
  exact enabled_current hu (idle_current v cfg _ (I u (Nat.le_of_not_lt hge)))

theorem smeasure_step (v : Variant) (cfg : Cfg) (n : Nat) (s : State) (u : Tid) (N : NE s) (hun : u < n)
    (hu : enabled v cfg s u = true) : smeasure v cfg n (step v cfg s u) < smeasure v cfg n s := by
  obtain ⟨h1, h2⟩ := tmeasure_step v cfg s u N hu
  exact sumTo_lt (fun t => tmeasure v cfg ((step v cfg s u).th t)) (fun t => tmeasure v cfg (s.th t)) n u hun
    (fun w hw => by simp only [h2 w hw]) h1

/-- **from every state with the lock invariant, `NE` and `IdleFrom n` there is a schedule that completes all threads**, of
    length at most the measure of the state -/
theorem exists_completing (v : Variant) (cfg : Cfg) (n : Nat) :
    ∀ (k : Nat) (s : State), LockInv v cfg s → NE s → IdleFrom n s → smeasure v cfg n s ≤ k →
      ∃ sched : List Tid, (∀ t, ((run v cfg s sched).th t).current v cfg = none) ∧ sched.length ≤ k := by
  intro k
  induction k with
  | zero =>
    intro s L N I hk
    by_cases hd : ∀ t, (s.th t).current v cfg = none
    · exact ⟨[], hd, Nat.le_refl _⟩
    · exfalso
      obtain ⟨t, ht⟩ := Classical.not_forall.mp hd
      obtain ⟨u, hu⟩ := someone_can_move L t ht
      have := smeasure_step v cfg n s u N (enabled_lt v cfg n s u I hu) hu
      omega
  | succ k ih =>
    intro s L N I hk
    by_cases hd : ∀ t, (s.th t).current v cfg = none
    · exact ⟨[], hd, Nat.zero_le _⟩
    · obtain ⟨t, ht⟩ := Classical.not_forall.mp hd
      obtain ⟨u, hu⟩ := someone_can_move L t ht
      have hlt := smeasure_step v cfg n s u N (enabled_lt v cfg n s u I hu) hu
      obtain ⟨sched, hs1, hs2⟩ := ih (step v cfg s u) (lockInv_step v cfg s u L) (ne_step v cfg s u N)
        (idle_step n v cfg s u I) (by omega)
      exact ⟨u :: sched, hs1, by simp only [List.length_cons]; omega⟩

end Lomond.Threads
