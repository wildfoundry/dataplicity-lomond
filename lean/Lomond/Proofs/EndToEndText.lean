/-
  A text message cut at one of its fragments (C05 end to end).  `CutAt m before w after done evs`: `m` is the
  frames `before`, the frame `w` of one of its fragments, then `after`; `done`, `evs`: text bytes and control
  events of `before`.  Feeding `before` reaches `AtCutG` (`feed_cut_g`); if the text stops validating in `w`
  the loop raises there (`cut_bad_g`, `cut_partial_bad_g`) or when the message is built (`cut_build_bad_g`);
  an invalid text has such a fragment (`find_cut_bad`); `feed_open_g`: a message left open (`InOpenG`).  The
  parser's `_compression` switch is a parameter (`ValMode`: when an RSV1 = 0 text is validated incrementally,
  finding D9): `CutStateG`, `AtCutG`, `InOpenG` are what the lemmas are about; `CutState`, `AtCut`, `InOpen` are
  the case `false`, tied to them by `toCut` / `toOpen`.
-/
import Lomond.Proofs.EndToEnd
import Lomond.Proofs.TextMsg
namespace Lomond.Core.E2E
open Lomond Lomond.Core

def contF (g : Frag) (fin : Bool) : WFrame := { fin := fin, opcode := 0, payload := g.payload, form := g.form }

/-- non-final continuation fragments, each preceded by its control frames -/
def midWire (r : List (List CtrlF × Frag)) : List WFrame :=
  r.flatMap (fun x => x.1.map CtrlF.wire ++ [contF x.2 false])

def midFrames (r : List (List CtrlF × Frag)) : List Frame := r.map (fun x => (contF x.2 false).frame)

theorem midWire_cons (x : List CtrlF × Frag) (r : List (List CtrlF × Frag)) :
    midWire (x :: r) = x.1.map CtrlF.wire ++ ([contF x.2 false] ++ midWire r) := by
  simp [midWire]

theorem contWire_split (r1 : List (List CtrlF × Frag)) (cs : List CtrlF) (g : Frag) (r2 : List (List CtrlF × Frag)) :
    contWire (r1 ++ (cs, g) :: r2) = midWire r1 ++ (cs.map CtrlF.wire ++ contF g r2.isEmpty :: contWire r2) := by
  induction r1 with
  | nil => rfl
  | cons x r ih =>
    obtain ⟨cs', g'⟩ := x
    have hne : (r ++ (cs, g) :: r2).isEmpty = false := by cases r <;> rfl
    have e : contWire ((cs', g') :: r ++ (cs, g) :: r2) =
        cs'.map CtrlF.wire ++ contF g' (r ++ (cs, g) :: r2).isEmpty :: contWire (r ++ (cs, g) :: r2) := rfl
    rw [e, hne, ih, midWire_cons]
    simp [contF]

theorem contPayload_split (r1 : List (List CtrlF × Frag)) (cs : List CtrlF) (g : Frag) (r2 : List (List CtrlF × Frag)) :
    contPayload (r1 ++ (cs, g) :: r2) = contPayload r1 ++ (g.payload ++ contPayload r2) := by
  simp [contPayload]

theorem contCtrls_split (r1 : List (List CtrlF × Frag)) (cs : List CtrlF) (g : Frag) (r2 : List (List CtrlF × Frag)) :
    contCtrls (r1 ++ (cs, g) :: r2) = contCtrls r1 ++ (cs ++ contCtrls r2) := by
  simp [contCtrls]

inductive CutAt (m : DataMsg) : List WFrame → WFrame → List WFrame → Bytes → List Event → Prop
  | first : CutAt m [] (m.firstW m.rest.isEmpty) (contWire m.rest) [] []
  | later (r1 : List (List CtrlF × Frag)) (cs : List CtrlF) (g : Frag) (r2 : List (List CtrlF × Frag))
      (h : m.rest = r1 ++ (cs, g) :: r2) :
      CutAt m (m.firstW false :: (midWire r1 ++ cs.map CtrlF.wire)) (contF g r2.isEmpty) (contWire r2)
        (m.first.payload ++ contPayload r1) ((contCtrls r1 ++ cs).map CtrlF.event)

theorem CutAt.wire {m : DataMsg} {before after : List WFrame} {w : WFrame} {done : Bytes} {evs : List Event}
    (h : CutAt m before w after done evs) : m.wire = before ++ w :: after := by
  cases h with
  | first => exact m.wire_eq
  | later r1 cs g r2 hr =>
    rw [m.wire_eq, hr, contWire_split]
    have : (r1 ++ (cs, g) :: r2).isEmpty = false := by cases r1 <;> rfl
    rw [this]
    simp

theorem CutAt.payload {m : DataMsg} {before after : List WFrame} {w : WFrame} {done : Bytes} {evs : List Event}
    (h : CutAt m before w after done evs) : ∃ tail, m.payload = done ++ (w.payload ++ tail) := by
  cases h with
  | first => exact ⟨contPayload m.rest, rfl⟩
  | later r1 cs g r2 hr =>
    refine ⟨contPayload r2, ?_⟩
    unfold DataMsg.payload
    rw [hr, contPayload_split]
    simp [contF]

theorem CutAt.evs_prefix {m : DataMsg} {before after : List WFrame} {w : WFrame} {done : Bytes} {evs : List Event}
    (h : CutAt m before w after done evs) : evs <+: (contCtrls m.rest).map CtrlF.event := by
  cases h with
  | first => exact List.nil_prefix
  | later r1 cs g r2 hr =>
    rw [hr, contCtrls_split]
    exact ⟨(contCtrls r2).map CtrlF.event, by simp⟩

theorem CutAt.wOk {m : DataMsg} {before after : List WFrame} {w : WFrame} {done : Bytes} {evs : List Event}
    (h : CutAt m before w after done evs) (ht : m.text = true) (hfirst : m.first.Ok) (hrest : contOk m.rest) :
    w.Ok := by
  cases h with
  | first => exact ⟨hfirst, Or.inl (Or.inr (Or.inl (by simp [DataMsg.firstW, ht])))⟩
  | later r1 cs g r2 hr => exact ⟨(hrest (cs, g) (by rw [hr]; simp)).2, Or.inl (Or.inl rfl)⟩

theorem next_comp (v : Variant) (p : PState) (w : WFrame) (d : Nat) : (w.next v p d).compression = p.compression := by
  unfold WFrame.next doneState afterHdr
  split <;> rfl

theorem contF_ok (g : Frag) (fin : Bool) (h : g.Ok) : (contF g fin).Ok := ⟨h, Or.inl (Or.inl rfl)⟩

/-- the parser in front of the fragment `w`: at a frame boundary, `w`'s payload (if any) will be
    validated incrementally, continuing from the text received so far -/
structure CutState (v : Variant) (p : PState) (w : WFrame) (done : Bytes) : Prop where
  b : Boundary p
  flag : ∀ pl : Bytes, pl ≠ [] → ({ w with payload := pl } : WFrame).flag v p = true
  dfa : Utf8.validate 0 done = some p.dfa
  comp : p.compression = false

/-- uncompressed text is validated incrementally in this parser mode: no extension negotiated, or
    the repaired per-message choice (finding D9) -/
def ValMode (v : Variant) (p : PState) : Prop := v.perMsgValidate = true ∨ p.compression = false

/-- inside an RSV1 = 0 text message that is validated incrementally -/
structure OpenG (v : Variant) (p : PState) : Prop where
  isText : p.isText = true
  ic : p.isCompressed = false
  mode : ValMode v p

theorem nv_mode (v : Variant) (p : PState) (hic : p.isCompressed = false) (hm : ValMode v p) : ¬ noValidate v p := by
  unfold noValidate
  rcases hm with h | h
  · simp [h, hic]
  · cases v.perMsgValidate <;> simp [h]

theorem OpenG.nv {v : Variant} {p : PState} (h : OpenG v p) : ¬ noValidate v p := nv_mode v p h.ic h.mode

theorem next_ic_nontext (v : Variant) (p : PState) (w : WFrame) (d : Nat) (h : w.opcode ≠ 1) :
    (w.next v p d).isCompressed = p.isCompressed := by
  unfold WFrame.next doneState
  rw [afterHdr_nontext _ _ (by show w.hdr.opcode ≠ 1; exact h)]
  rfl

theorem ValMode.next {v : Variant} {p : PState} (h : ValMode v p) (w : WFrame) (d : Nat) : ValMode v (w.next v p d) :=
  h.imp id (next_comp v p w d).trans

theorem next_openG_ctrl (v : Variant) (hk : v.keepIsText = true) (p : PState) (w : WFrame) (h8 : w.opcode ≥ 8)
    (d : Nat) (ho : OpenG v p) : OpenG v (w.next v p d) := by
  have hop : w.opcode ≠ 1 := by omega
  refine ⟨?_, (next_ic_nontext v p _ d hop).trans ho.ic, ho.mode.next w d⟩
  have hctl : w.frame.isControl = true := by simpa [Frame.isControl, WFrame.frame] using h8
  unfold WFrame.next doneState
  rw [afterHdr_nontext _ _ hop]
  have : p.resumed.isText = true := ho.isText
  simp [hk, hctl, this]

theorem next_openG_first (v : Variant) (p : PState) (m : DataMsg) (ht : m.text = true) (d : Nat)
    (hm : ValMode v p) : OpenG v ((m.firstW false).next v p d) := by
  have hop : (m.firstW false).opcode = 1 := by simp [DataMsg.firstW, ht]
  refine ⟨?_, ?_, ?_⟩
  · unfold WFrame.next doneState
    rw [afterHdr_text _ _ hop]
    simp [WFrame.frame, DataMsg.firstW]
  · unfold WFrame.next doneState
    rw [afterHdr_text _ _ hop]
  · exact hm.next _ d

theorem inside_openG (v : Variant) (hk : v.keepIsText = true) :
    Inside v (fun done p => InText v p done ∧ OpenG v p)
      (fun b => ∃ d, Utf8.validate 0 b = some d) where
  b h := h.1.b
  pre := fun ⟨d, h⟩ => validate_prefix 0 _ _ d h
  ctrl w h h8 := ⟨_, (intext_ctrl v _ w _ h.1 h8).1, (intext_ctrl v _ w _ h.1 h8).2,
    next_openG_ctrl v hk _ w h8 _ h.2⟩
  cont w h h0 := fun ⟨d0, hv⟩ => by
    obtain ⟨d, hd, hn⟩ := intext_cont v _ w _ h.1 h0 d0 hv
    refine ⟨d, hd, ?_⟩
    cases hf : w.fin with
    | true => rw [hf] at hn; exact hn
    | false =>
      rw [hf] at hn
      have hop : w.opcode ≠ 1 := by omega
      refine ⟨hn, ?_, (next_ic_nontext v _ w d hop).trans h.2.ic, h.2.mode.next w d⟩
      unfold WFrame.next doneState
      rw [afterHdr_nontext _ _ hop]
      have : PState.isText (PState.resumed _) = true := h.2.isText
      simp [WFrame.frame, hf, this]

theorem parses_ctrls_openG (v : Variant) (hk : v.keepIsText = true) (cs : List CtrlF) (p : PState) (done : Bytes)
    (hp : InText v p done) (ho : OpenG v p) (hok : ∀ c ∈ cs, c.Ok) :
    ∃ p', ParsesTo v p (cs.map CtrlF.wire) p' ∧ InText v p' done ∧ OpenG v p' := by
  exact parses_ctrls (inside_openG v hk) cs p done ⟨hp, ho⟩ hok

theorem parses_midG (v : Variant) (hk : v.keepIsText = true) (r : List (List CtrlF × Frag)) (p : PState) (done : Bytes)
    (hp : InText v p done) (ho : OpenG v p) (hok : contOk r) (d0 : Nat)
    (hval : Utf8.validate 0 (done ++ contPayload r) = some d0) :
    ∃ p', ParsesTo v p (midWire r) p' ∧ InText v p' (done ++ contPayload r) ∧ OpenG v p' := by
  induction r generalizing p done with
  | nil => exact ⟨p, parsesTo_nil v p, by simpa [contPayload] using hp, ho⟩
  | cons x r ih =>
    obtain ⟨cs, g⟩ := x
    have hx := hok (cs, g) (by simp)
    obtain ⟨p1, h1, hb1, ho1⟩ := parses_ctrls_openG v hk cs p done hp ho hx.1
    have hval' : Utf8.validate 0 ((done ++ g.payload) ++ contPayload r) = some d0 := by
      simpa [contPayload] using hval
    obtain ⟨dg, hdg⟩ := validate_prefix 0 _ _ _ hval'
    obtain ⟨d, hd, hnext, ho2⟩ :=
      (inside_openG v hk).cont (contF g false) ⟨hb1, ho1⟩ rfl ⟨dg, hdg⟩
    have h2 := parsesTo_one (v := v) hb1.b (contF_ok g false hx.2) hd
    obtain ⟨p3, h3, hb3, ho3⟩ := ih _ _ hnext ho2 (fun z hz => hok z (by simp [hz])) hval'
    refine ⟨p3, ?_, by simpa [contPayload, contF] using hb3, ho3⟩
    rw [midWire_cons]
    exact parsesTo_append h1 (parsesTo_append h2 h3)

/-- the parser in front of the fragment `w`; `c` = the `_compression` switch -/
structure CutStateG (v : Variant) (c : Bool) (p : PState) (w : WFrame) (done : Bytes) : Prop where
  b : Boundary p
  flag : ∀ pl : Bytes, pl ≠ [] → ({ w with payload := pl } : WFrame).flag v p = true
  dfa : Utf8.validate 0 done = some p.dfa
  comp : p.compression = c

theorem cutStateG_first (v : Variant) (p : PState) (m : DataMsg) (ht : m.text = true) (fin : Bool)
    (hp : Between p) (hm : ValMode v p) : CutStateG v p.compression p (m.firstW fin) [] := by
  refine ⟨hp.b, ?_, by rw [hp.dfa]; rfl, rfl⟩
  intro pl hpl
  have hop : ({ m.firstW fin with payload := pl } : WFrame).opcode = 1 := by simp [DataMsg.firstW, ht]
  have h1 := afterHdr_text p.resumed _ hop
  have hnv : ¬ noValidate v ({ p.resumed with isText := true, isCompressed := false } : PState) :=
    nv_mode v _ rfl hm
  unfold WFrame.flag valFlag
  rw [h1]
  simp [hpl, hnv, Frame.isText, WFrame.hdr, DataMsg.firstW, ht, Gen.opText]

theorem cutStateG_cont (v : Variant) (p : PState) (g : Frag) (fin : Bool) (done : Bytes)
    (hp : InText v p done) (ho : OpenG v p) : CutStateG v p.compression p (contF g fin) done := by
  have hnv : ¬ noValidate v p := ho.nv
  refine ⟨hp.b, ?_, hp.val hnv ho.isText, rfl⟩
  intro pl hpl
  have h1 : afterHdr p.resumed ({ contF g fin with payload := pl } : WFrame).hdr = p.resumed :=
    afterHdr_nontext _ _ (by simp [contF, WFrame.hdr])
  unfold WFrame.flag valFlag
  rw [h1]
  have h2 : ¬ noValidate v p.resumed := hnv
  have h3 : p.resumed.isText = true := ho.isText
  simp [hpl, h2, h3, Frame.isContinuation, Frame.isText, WFrame.hdr, contF, Gen.opContinuation, Gen.opText]

theorem parses_beforeG (v : Variant) (hk : v.keepIsText = true) (m : DataMsg) (ht : m.text = true)
    (hfirst : m.first.Ok) (hrest : contOk m.rest)
    {before after : List WFrame} {w : WFrame} {done : Bytes} {evs : List Event}
    (hcut : CutAt m before w after done evs) (d : Nat) (hval : Utf8.validate 0 done = some d)
    (p : PState) (hp : Between p) (hm : ValMode v p) :
    ∃ p', ParsesTo v p before p' ∧ CutStateG v p.compression p' w done := by
  cases hcut with
  | first => exact ⟨p, parsesTo_nil v p, cutStateG_first v p m ht _ hp hm⟩
  | later r1 cs g r2 hr =>
    have hok1 : contOk r1 := fun x hx => hrest x (by rw [hr]; simp [hx])
    have hokc : ∀ c ∈ cs, c.Ok := (hrest (cs, g) (by rw [hr]; simp)).1
    obtain ⟨d1, hd1⟩ := validate_prefix 0 _ _ _ hval
    have hwok : (m.firstW false).Ok := by
      refine ⟨hfirst, Or.inl (Or.inr (Or.inl ?_))⟩
      simp [DataMsg.firstW, ht]
    obtain ⟨dd, hd, hnext⟩ := between_text v p (m.firstW false) hp (by simp [DataMsg.firstW, ht]) d1 hd1
    simp only [DataMsg.firstW, Bool.false_eq_true, if_false] at hnext
    have h1 := parsesTo_one (v := v) hp.b hwok hd
    have ho1 := next_openG_first v p m ht dd hm
    obtain ⟨p2, h2, hb2, ho2⟩ := parses_midG v hk r1 _ _ hnext ho1 hok1 d hval
    obtain ⟨p3, h3, hb3, ho3⟩ := parses_ctrls_openG v hk cs p2 _ hb2 ho2 hokc
    have h : ParsesTo v p (m.firstW false :: (midWire r1 ++ cs.map CtrlF.wire)) p3 :=
      parsesTo_append (a := [_]) h1 (parsesTo_append h2 h3)
    exact ⟨p3, h, ParsesB.comp h ▸ cutStateG_cont v p3 g _ _ hb3 ho3⟩

theorem CutStateG.toCut {v : Variant} {p : PState} {w : WFrame} {done : Bytes} (h : CutStateG v false p w done) :
    CutState v p w done := ⟨h.b, h.flag, h.dfa, h.comp⟩

theorem firstW_frame_facts (m : DataMsg) (ht : m.text = true) (b : Bool) :
    (m.firstW b).frame.isControl = false ∧ (m.firstW b).frame.isContinuation = false ∧
    (m.firstW b).frame.opcode = 1 ∧ (m.firstW b).frame.rsv1 = 0 ∧ (m.firstW b).frame.payload = m.first.payload := by
  unfold DataMsg.firstW
  simp [ht, Frame.isControl, Frame.isContinuation, WFrame.frame, Gen.opContinuation]

theorem contF_frame_facts (g : Frag) (b : Bool) :
    (contF g b).frame.isControl = false ∧ (contF g b).frame.isContinuation = true ∧
    (contF g b).frame.payload = g.payload := by
  simp [contF, Frame.isControl, Frame.isContinuation, WFrame.frame, Gen.opContinuation]

theorem firstW_facts (m : DataMsg) (b : Bool) :
    (m.firstW b).frame.isControl = false ∧ (m.firstW b).frame.isContinuation = false := by
  unfold DataMsg.firstW
  cases m.text <;> simp [Frame.isControl, Frame.isContinuation, WFrame.frame, Gen.opContinuation]

section consumer
open DG
variable {Y : Sys → Prop} {R : List Event → Sys → Sys → Prop} (E : Eater Y R)
include E

theorem eat_first_open (m : DataMsg) (ic : ICtx) :
    Eat1 Y R (m.firstW false).frame [] ⟨[], ic⟩ ⟨[(m.firstW false).frame], ic⟩ := by
  obtain ⟨hctl, hcont⟩ := firstW_facts m false
  exact eat_more E _ ⟨[], ic⟩ (by simp [WFrame.frame, DataMsg.firstW]) hctl (by rw [hcont]; simp)

theorem eat_mid (r : List (List CtrlF × Frag)) (hok : contOk r) (first : Frame) (tl : List Frame) (ic : ICtx) :
    EatSeq Y R ((midWire r).map WFrame.frame) ((contCtrls r).map CtrlF.event).reverse ⟨first :: tl, ic⟩
      ⟨first :: (tl ++ midFrames r), ic⟩ := by
  induction r generalizing tl with
  | nil => simpa [midWire, midFrames, contCtrls] using eatSeq_nil (Y := Y) (R := R) ⟨first :: tl, ic⟩
  | cons x r ih =>
    obtain ⟨cs, g⟩ := x
    have hx := hok (cs, g) (by simp)
    have hcs := eat_ctrls E cs hx.1 ⟨first :: tl, ic⟩
    obtain ⟨hctl, hcont, _⟩ := contF_frame_facts g false
    have hmore : EatSeq Y R [(contF g false).frame] [] ⟨first :: tl, ic⟩ ⟨first :: (tl ++ [(contF g false).frame]), ic⟩ :=
      eatSeq_one (eat_more E _ ⟨first :: tl, ic⟩ (by simp [WFrame.frame, contF]) hctl (by rw [hcont]; simp))
    have hrest := ih (fun z hz => hok z (by simp [hz])) (tl ++ [(contF g false).frame])
    have := eatSeq_append hcs (eatSeq_append hmore hrest)
    simpa [midWire_cons, midFrames, contCtrls] using this

theorem eat_open (m : DataMsg) (r1 : List (List CtrlF × Frag)) (hr1 : contOk r1) (cs : List CtrlF)
    (hcs : ∀ c ∈ cs, c.Ok) (ic : ICtx) :
    EatSeq Y R ((m.firstW false :: (midWire r1 ++ cs.map CtrlF.wire)).map WFrame.frame)
      ((contCtrls r1 ++ cs).map CtrlF.event).reverse ⟨[], ic⟩ ⟨(m.firstW false).frame :: midFrames r1, ic⟩ := by
  have h1 := eatSeq_one (eat_first_open E m ic)
  have h2 := eat_mid E r1 hr1 (m.firstW false).frame [] ic
  have h3 := eat_ctrls E cs hcs ⟨(m.firstW false).frame :: ([] ++ midFrames r1), ic⟩
  have h := eatSeq_append h1 (eatSeq_append h2 h3)
  simpa [List.map_append, List.map_map] using h

end consumer

/-- what the fragment list looks like in front of `w`, and what the whole message will be made of -/
structure CutFrames (w : WFrame) (done : Bytes) (fr : List Frame) : Prop where
  cont : w.frame.isContinuation = true ↔ fr ≠ []
  ctl : w.frame.isControl = false
  whole : ∃ first tl, fr ++ [w.frame] = first :: tl ∧ first.rsv1 = 0 ∧ first.opcode = 1 ∧
    ((first :: tl).map (·.payload)).flatten = done ++ w.payload

theorem midFrames_payload (r : List (List CtrlF × Frag)) :
    ((midFrames r).map (·.payload)).flatten = contPayload r := by
  induction r with
  | nil => rfl
  | cons x r ih =>
    simp only [midFrames, List.map_cons, List.flatten_cons, contPayload] at ih ⊢
    rw [ih]
    rfl

theorem eat_before {Y : Sys → Prop} {R : List Event → Sys → Sys → Prop} (E : Eater Y R)
    (m : DataMsg) (ht : m.text = true) (hrest : contOk m.rest)
    {before after : List WFrame} {w : WFrame} {done : Bytes} {evs : List Event}
    (hcut : CutAt m before w after done evs) (ic : DG.ICtx) :
    ∃ fr, EatSeq Y R (before.map WFrame.frame) evs.reverse ⟨[], ic⟩ ⟨fr, ic⟩ ∧ CutFrames w done fr := by
  cases hcut with
  | first =>
    obtain ⟨hctl, hcont, hop, hr1, hpl⟩ := firstW_frame_facts m ht m.rest.isEmpty
    exact ⟨[], eatSeq_nil _, ⟨by rw [hcont]; simp, hctl, _, [], rfl, hr1, hop, by simp [WFrame.frame]⟩⟩
  | later r1 cs g r2 hr =>
    have hok1 : contOk r1 := fun x hx => hrest x (by rw [hr]; simp [hx])
    have hokc : ∀ c ∈ cs, c.Ok := (hrest (cs, g) (by rw [hr]; simp)).1
    obtain ⟨_, _, hop, hr1, hpl⟩ := firstW_frame_facts m ht false
    obtain ⟨hctl, hcont, hgp⟩ := contF_frame_facts g r2.isEmpty
    refine ⟨(m.firstW false).frame :: midFrames r1, eat_open E m r1 hok1 cs hokc ic, ⟨by rw [hcont]; simp, hctl,
      (m.firstW false).frame, midFrames r1 ++ [(contF g r2.isEmpty).frame], rfl, hr1, hop, ?_⟩⟩
    simp only [List.map_cons, List.map_append, List.flatten_cons, List.flatten_append, hpl, midFrames_payload,
      List.map_nil, List.flatten_nil, List.append_nil, hgp, List.append_assoc]
    rfl

/-- `AtCutG` on a connection without extension (`c = false`) -/
structure AtCut (cfg : Cfg) (react : React) (s4 sp : Sys) (w : WFrame) (done : Bytes) (evs : List Event) : Prop where
  i : I sp
  hcfg : sp.cfg = cfg
  hreact : sp.react = react
  closed : sp.closed = false
  cut : CutState cfg.v sp.p w done
  frames : CutFrames w done sp.frames
  hist : hist sp.trace = evs.reverse ++ hist s4.trace

/-- the system `sp` in front of the fragment `w` of a text message begun in `s4`: `done` are the text bytes
    and `evs` the control events received since then; `c` = the parser's `_compression` switch -/
structure AtCutG (cfg : Cfg) (react : React) (c : Bool) (s4 sp : Sys) (w : WFrame) (done : Bytes) (evs : List Event) : Prop where
  i : I sp
  hcfg : sp.cfg = cfg
  hreact : sp.react = react
  ready : sp.ready = true
  closed : sp.closed = false
  closing : sp.closing = false
  cut : CutStateG cfg.v c sp.p w done
  frames : CutFrames w done sp.frames
  hist : hist sp.trace = evs.reverse ++ hist s4.trace

/-- **feeding `before`**, extension negotiated or not: everything in front of the fragment `w` is
    parsed and consumed normally -/
theorem feed_cut_g {cfg : Cfg} {react : React} {c : Bool} {s4 : Sys}
    (h4 : IdleG cfg react c s4) (hk : cfg.v.keepIsText = true) (hm : cfg.v.perMsgValidate = true ∨ c = false)
    (m : DataMsg) (ht : m.text = true) (hfirst : m.first.Ok) (hrest : contOk m.rest)
    {before after : List WFrame} {w : WFrame} {done : Bytes} {evs : List Event}
    (hcut : CutAt m before w after done evs) (d : Nat) (hval : Utf8.validate 0 done = some d) :
    ∃ sp, feedLoop (wireBytes before) s4 = .ok true sp ∧ AtCutG cfg react c s4 sp w done evs := by
  have hnh : s4.p.cont ≠ .header := h4.between.b.notHeader
  have hmode : ValMode s4.cfg.v s4.p := by
    rw [h4.hcfg]
    rcases hm with h | h
    · exact Or.inl h
    · exact Or.inr (h4.comp.trans h)
  obtain ⟨p', hpar, hcs⟩ := parses_beforeG s4.cfg.v (by rw [h4.hcfg]; exact hk) m ht hfirst hrest hcut d hval
    s4.p h4.between hmode
  obtain ⟨fr, heat, hfr⟩ := eat_before eater_good m ht hrest hcut ⟨s4.inflHist, s4.inflOut⟩
  obtain ⟨s1, hfl, r1, _, v1, hp1⟩ := feed_frames eater_good s4 ⟨h4.i.good, h4.closed⟩ hnh
    hpar (by unfold DG.view; rw [h4.frames]; exact heat)
  obtain ⟨ip, hz⟩ := z_feedLoop _ s4 true _ hfl h4.i
  obtain ⟨rp, l, el, nl⟩ := hz h4.ready
  refine ⟨s1, hfl, ip, r1.cfg.trans h4.hcfg, r1.react.trans h4.hreact, rp, r1.closed.trans h4.closed,
    r1.closing.trans h4.closing, ?_, ?_, hist_of_delivered el nl r1.evs⟩
  · rw [hp1, ← h4.hcfg, ← h4.comp]; exact hcs
  · rw [show s1.frames = fr from congrArg DG.View.frames v1]; exact hfr

theorem AtCutG.toCut {cfg : Cfg} {react : React} {s4 sp : Sys} {w : WFrame} {done : Bytes} {evs : List Event}
    (a : AtCutG cfg react false s4 sp w done evs) : AtCut cfg react s4 sp w done evs :=
  ⟨a.i, a.hcfg, a.hreact, a.closed, a.cut.toCut, a.frames, a.hist⟩

theorem wframe_eta (w : WFrame) : ({ w with payload := w.payload } : WFrame) = w := by cases w; rfl

theorem feedLoop_parse_err (data : Bytes) (s : Sys) (hc : s.p.cont ≠ .header) (q : PState) (x : Exn)
    (h : pRun s.cfg.v s.p data = { p := q, err := some x }) : feedLoop data s = .err x { s with p := q } := by
  rw [feedLoop_eq_fold data s hc, h]
  rfl

/-- the bytes of a frame up to and including its `n`-th payload byte -/
def partialBytes (w : WFrame) (n : Nat) : Bytes := w.b0 :: lenBytes w.form w.payload.length ++ w.payload.take n

/-- a final data frame whose message cannot be built: the exception leaves `onOut` with the frame
    appended to the fragment list and nothing yielded -/
theorem onOut_data_fin_bad (f : Frame) (s : Sys) (hfin : f.fin ≠ 0)
    (hctl : f.isControl = false) (hcont : f.isContinuation = true ↔ s.frames ≠ [])
    (first : Frame) (tl : List Frame) (hfr : s.frames ++ [f] = first :: tl) (h1 : first.rsv1 = 0)
    (x : Exn) (hm : msgOfPayload first.opcode ((first :: tl).map (·.payload)).flatten = .error x) :
    onOut (.frame f) s = .err x { s with frames := s.frames ++ [f] } := by
  show (do onFrame f; notClosed : M Bool) s = _
  have hf : onFrame f s = .err x { s with frames := s.frames ++ [f] } := by
    rw [onFrame_data f s hctl hcont, if_pos hfin, getS_bind]
    have hb : buildMessage ({ s with frames := s.frames ++ [f] } : Sys).frames { s with frames := s.frames ++ [f] }
        = .err x { s with frames := s.frames ++ [f] } := by
      show buildMessage (s.frames ++ [f]) _ = _
      rw [hfr, buildMessage_plain first tl _ h1, hm]
      rfl
    rw [bind_err hb]
  rw [bind_err hf]

theorem cutG_vres {v : Variant} {c : Bool} {p : PState} {w : WFrame} {done : Bytes} (hc : CutStateG v c p w done)
    (hne : w.payload ≠ []) : vres (w.flag v p) p.dfa w.payload = Utf8.validate 0 (done ++ w.payload) := by
  rw [show w.flag v p = true from hc.flag w.payload hne]
  show Utf8.validate p.dfa w.payload = _
  exact validate_after_prefix done w.payload p.dfa hc.dfa

theorem cut_bad_g {cfg : Cfg} {react : React} {c : Bool} {s4 sp : Sys} {w : WFrame} {done : Bytes} {evs : List Event}
    (a : AtCutG cfg react c s4 sp w done evs) (hw : w.Ok) (hbad : Utf8.validate 0 (done ++ w.payload) = none)
    (tail : Bytes) :
    ∃ q, feedLoop (w.bytes ++ tail) sp = .err (.parse "invalid utf8") { sp with p := q } := by
  have hc : CutStateG sp.cfg.v c sp.p w done := by rw [a.hcfg]; exact a.cut
  have hne : w.payload ≠ [] := by
    intro h; rw [h, List.append_nil, hc.dfa] at hbad; cases hbad
  have hd : vres (w.flag sp.cfg.v sp.p) sp.p.dfa w.payload = none := by rw [cutG_vres hc hne]; exact hbad
  obtain ⟨q, hq⟩ := pRun_wire_bad sp.cfg.v sp.p hc.b w hw hd tail
  exact ⟨q, feedLoop_parse_err _ sp hc.b.notHeader q _ hq⟩

/-- fail-fast: the header of the fragment and its payload up to and including the first
    offending byte suffice -/
theorem cut_partial_bad_g {cfg : Cfg} {react : React} {c : Bool} {s4 sp : Sys} {w : WFrame} {done : Bytes}
    {evs : List Event}
    (a : AtCutG cfg react c s4 sp w done evs) (hw : w.Ok) (n : Nat) (hn : n ≤ w.payload.length) (hn0 : n ≠ 0)
    (hbad : Utf8.validate 0 (done ++ w.payload.take n) = none) :
    ∃ q, feedLoop (partialBytes w n) sp = .err (.parse "invalid utf8") { sp with p := q } := by
  have hc : CutStateG sp.cfg.v c sp.p w done := by rw [a.hcfg]; exact a.cut
  have hne : w.payload ≠ [] := by
    intro h; rw [h] at hn; simp at hn; exact hn0 hn
  have hlen : w.payload.length ≠ 0 := fun h => hne (List.eq_nil_of_length_eq_zero h)
  have hflag : valFlag sp.cfg.v (afterHdr sp.p.resumed w.hdr) w.hdr = true := by
    have := hc.flag w.payload hne
    unfold WFrame.flag at this
    simpa [hne] using this
  obtain ⟨q0, hh⟩ := pRun_header sp.cfg.v sp.p hc.b w.b0 w.payload.length w.form hw.1 (w.payload.take n)
  have hv := validate_ok sp.cfg.v sp.p.resumed.compression w hw
  rw [gotMask_eq, hdrFrame_b0 w hw.lt16, hv] at hh
  simp only [hlen, ne_eq, not_false_eq_true, if_true, PRun.push] at hh
  let ps := payloadState sp.cfg.v (afterHdr sp.p.resumed w.hdr) w.hdr w.payload.length
  have hne2 : w.payload.take n ≠ [] := by
    intro h
    have : (w.payload.take n).length = 0 := by rw [h]; rfl
    rw [List.length_take] at this
    omega
  have htake : (w.payload.take n).take (ps.remPred + 1) = w.payload.take n := by
    apply List.take_of_length_le
    show _ ≤ w.payload.length - 1 + 1
    rw [List.length_take]
    omega
  have hvr : vres ps.utf8 ps.dfa (w.payload.take n) = none := by
    have e1 : ps.utf8 = true := hflag
    have e2 : ps.dfa = sp.p.dfa := afterHdr_dfa _ _
    rw [e1, e2]
    show Utf8.validate sp.p.dfa (w.payload.take n) = none
    rw [validate_after_prefix done _ sp.p.dfa hc.dfa]
    exact hbad
  have hp2 : pRun sp.cfg.v ps (w.payload.take n) = { p := deadParser ps, err := some (.parse "invalid utf8") } := by
    rw [pRun]
    simp only [hne2, dite_false, htake]
    rw [biteBytes_eq, hvr]
  refine ⟨deadParser ps, feedLoop_parse_err _ sp hc.b.notHeader _ _ ?_⟩
  unfold partialBytes
  rw [hh]
  exact hp2

theorem cut_build_bad_g {cfg : Cfg} {react : React} {c : Bool} {s4 sp : Sys} {w : WFrame} {done : Bytes}
    {evs : List Event}
    (a : AtCutG cfg react c s4 sp w done evs) (hw : w.Ok) (hfin : w.fin = true) (d : Nat)
    (hval : Utf8.validate 0 (done ++ w.payload) = some d) (hwf : Utf8.wf (done ++ w.payload) = false)
    (tail : Bytes) :
    ∃ q, feedLoop (w.bytes ++ tail) sp =
      .err (.critical "payload contains invalid utf-8") { sp with p := q, frames := sp.frames ++ [w.frame] } := by
  have hc : CutStateG sp.cfg.v c sp.p w done := by rw [a.hcfg]; exact a.cut
  have hnh : sp.p.cont ≠ .header := hc.b.notHeader
  have hd : ∃ d', vres (w.flag sp.cfg.v sp.p) sp.p.dfa w.payload = some d' := by
    by_cases hne : w.payload = []
    · refine ⟨sp.p.dfa, ?_⟩
      have : w.flag sp.cfg.v sp.p = false := by unfold WFrame.flag; simp [hne]
      rw [this]; rfl
    · exact ⟨d, by rw [cutG_vres hc hne]; exact hval⟩
  obtain ⟨d', hd'⟩ := hd
  have hp := pRun_wire_ok sp.cfg.v sp.p hc.b w hw d' hd' tail
  obtain ⟨first, tl, hfr, hr1, hop, hpl⟩ := a.frames.whole
  have hm : msgOfPayload first.opcode ((first :: tl).map (·.payload)).flatten
      = .error (.critical "payload contains invalid utf-8") := by
    rw [hop, hpl]
    exact (msgOfPayload_text _).2.mpr hwf
  have hfin' : w.frame.fin ≠ 0 := by simp [WFrame.frame, hfin]
  have ho := onOut_data_fin_bad w.frame { sp with p := w.next sp.cfg.v sp.p d' } hfin' a.frames.ctl a.frames.cont
    first tl hfr hr1 _ hm
  refine ⟨w.next sp.cfg.v sp.p d', ?_⟩
  rw [feedLoop_eq_fold _ sp hnh, hp]
  show consume _ ((w.next sp.cfg.v sp.p d', Out.frame w.frame) :: _) sp = _
  simp only [consume]
  rw [ho]

/-- if the text stops validating somewhere in the continuation fragments, there is a first
    fragment at which it does -/
theorem split_bad (r : List (List CtrlF × Frag)) (done : Bytes) (d : Nat) (hd : Utf8.validate 0 done = some d)
    (hbad : Utf8.validate 0 (done ++ contPayload r) = none) :
    ∃ r1 cs g r2, r = r1 ++ (cs, g) :: r2 ∧ (∃ d', Utf8.validate 0 (done ++ contPayload r1) = some d') ∧
      Utf8.validate 0 ((done ++ contPayload r1) ++ g.payload) = none := by
  induction r generalizing done d with
  | nil => simp [contPayload, hd] at hbad
  | cons x r ih =>
    obtain ⟨cs, g⟩ := x
    cases hv : Utf8.validate 0 (done ++ g.payload) with
    | none => exact ⟨[], cs, g, r, rfl, ⟨d, by simpa [contPayload] using hd⟩, by simpa [contPayload] using hv⟩
    | some d2 =>
      have hbad' : Utf8.validate 0 ((done ++ g.payload) ++ contPayload r) = none := by
        simpa [contPayload] using hbad
      obtain ⟨r1, cs', g', r2, e, ⟨d', h1⟩, h2⟩ := ih _ d2 hv hbad'
      refine ⟨(cs, g) :: r1, cs', g', r2, by rw [e]; rfl, ⟨d', ?_⟩, ?_⟩
      · simpa [contPayload] using h1
      · simpa [contPayload] using h2

/-- a text payload that the incremental validator rejects: the first fragment at which it does -/
theorem find_cut_bad (m : DataMsg) (hbad : Utf8.validate 0 m.payload = none) :
    ∃ before w after done evs, CutAt m before w after done evs ∧ (∃ d, Utf8.validate 0 done = some d) ∧
      Utf8.validate 0 (done ++ w.payload) = none := by
  cases hv : Utf8.validate 0 m.first.payload with
  | none => exact ⟨_, _, _, _, _, .first, ⟨0, rfl⟩, hv⟩
  | some d =>
    obtain ⟨r1, cs, g, r2, e, hd, hb⟩ := split_bad m.rest m.first.payload d hv hbad
    exact ⟨_, _, _, _, _, .later r1 cs g r2 e, hd, hb⟩

theorem find_cut_last (m : DataMsg) :
    ∃ before w done, CutAt m before w [] done ((contCtrls m.rest).map CtrlF.event) ∧ w.fin = true ∧
      m.payload = done ++ w.payload := by
  rcases List.eq_nil_or_concat m.rest with h | ⟨r1, x, h⟩
  · have c : CutAt m [] (m.firstW m.rest.isEmpty) (contWire m.rest) [] [] := .first
    rw [h] at c
    refine ⟨[], m.firstW true, [], by rw [h]; exact c, rfl, ?_⟩
    simp [DataMsg.payload, h, contPayload, DataMsg.firstW]
  · obtain ⟨cs, g⟩ := x
    have h' : m.rest = r1 ++ (cs, g) :: [] := by rw [h]; simp
    have c := CutAt.later (m := m) r1 cs g [] h'
    refine ⟨m.firstW false :: (midWire r1 ++ cs.map CtrlF.wire), contF g true, m.first.payload ++ contPayload r1,
      ?_, rfl, ?_⟩
    · have e : contCtrls m.rest = contCtrls r1 ++ cs := by rw [h', contCtrls_split]; simp [contCtrls]
      rw [e]; exact c
    · unfold DataMsg.payload
      rw [h', contPayload_split]
      simp [contF, contPayload]

/-- the frames of a data message that is still open: a first fragment with FIN = 0, non-final
    continuation fragments each preceded by control frames, then further control frames -/
def openWire (text : Bool) (first : Frag) (r1 : List (List CtrlF × Frag)) (cs : List CtrlF) : List WFrame :=
  ({ text := text, first := first, rest := [] } : DataMsg).firstW false :: (midWire r1 ++ cs.map CtrlF.wire)

/-- `InOpenG` on a connection without extension (`c = false`) -/
structure InOpen (cfg : Cfg) (react : React) (s4 sp : Sys) (evs : List Event) : Prop where
  i : I sp
  hcfg : sp.cfg = cfg
  hreact : sp.react = react
  closed : sp.closed = false
  await : AwaitHeader sp.p
  comp : sp.p.compression = false
  frames : sp.frames ≠ []
  hist : hist sp.trace = evs.reverse ++ hist s4.trace

theorem midWire_ok (r : List (List CtrlF × Frag)) (h : contOk r) : ∀ w ∈ midWire r, w.Ok ∧ w.opcode ≠ 1 := by
  induction r with
  | nil => intro w hw; simp [midWire] at hw
  | cons x r ih =>
    obtain ⟨cs, g⟩ := x
    have hx := h (cs, g) (by simp)
    intro w hw
    rw [midWire_cons] at hw
    simp only [List.mem_append, List.mem_map, List.mem_singleton] at hw
    rcases hw with ⟨c, hc, rfl⟩ | rfl | hw
    · exact ⟨CtrlF.wire_ok (hx.1 c hc), c.wire_nontext⟩
    · exact ⟨contF_ok g false hx.2, by simp [contF]⟩
    · exact ih (fun y hy => h y (by simp [hy])) w hw

/-- the system `sp` at a frame boundary with a fragmented data message open (`frames ≠ []`), `evs` the events
    since `s4`; `c` = the parser's `_compression` switch -/
structure InOpenG (cfg : Cfg) (react : React) (c : Bool) (s4 sp : Sys) (evs : List Event) : Prop where
  i : I sp
  hcfg : sp.cfg = cfg
  hreact : sp.react = react
  closed : sp.closed = false
  await : AwaitHeader sp.p
  comp : sp.p.compression = c
  frames : sp.frames ≠ []
  hist : hist sp.trace = evs.reverse ++ hist s4.trace

/-- **feeding an open message** (after which a fragmented message is open: `frames ≠ []`),
    extension negotiated or not -/
theorem feed_open_g {cfg : Cfg} {react : React} {c : Bool} {s4 : Sys} (h4 : IdleG cfg react c s4)
    (text : Bool) (first : Frag) (r1 : List (List CtrlF × Frag)) (cs : List CtrlF)
    (hfirst : first.Ok) (hr1 : contOk r1) (hcs : ∀ c ∈ cs, c.Ok)
    (htext : text = true → cfg.v.keepIsText = true ∧ (cfg.v.perMsgValidate = true ∨ c = false) ∧
      ∃ d, Utf8.validate 0 (first.payload ++ contPayload r1) = some d) :
    ∃ sp, feedLoop (wireBytes (openWire text first r1 cs)) s4 = .ok true sp ∧
      InOpenG cfg react c s4 sp ((contCtrls r1 ++ cs).map CtrlF.event) := by
  have hnh : s4.p.cont ≠ .header := h4.between.b.notHeader
  cases text with
  | true =>
    obtain ⟨hk, hm, d, hd⟩ := htext rfl
    let g : Frag := { payload := [], form := .short }
    let m : DataMsg := { text := true, first := first, rest := r1 ++ (cs, g) :: [] }
    have hrest : contOk m.rest := by
      intro x hx
      rcases List.mem_append.mp hx with h | h
      · exact hr1 x h
      · simp at h; subst h; exact ⟨hcs, (by decide : (0 : Nat) < 126)⟩
    have hcut : CutAt m (m.firstW false :: (midWire r1 ++ cs.map CtrlF.wire)) (contF g true) (contWire [])
        (m.first.payload ++ contPayload r1) ((contCtrls r1 ++ cs).map CtrlF.event) := .later r1 cs g [] rfl
    obtain ⟨sp, hfl, a⟩ := feed_cut_g h4 hk hm m rfl hfirst hrest hcut d hd
    refine ⟨sp, hfl, a.i, a.hcfg, a.hreact, a.closed,
      a.cut.b.await, a.cut.comp, ?_, a.hist⟩
    exact a.frames.cont.mp (contF_frame_facts g true).2.1
  | false =>
    let m : DataMsg := { text := false, first := first, rest := [] }
    have hws : ∀ w ∈ openWire false first r1 cs, w.Ok ∧ w.opcode ≠ 1 := by
      intro w hw
      simp only [openWire, List.mem_cons, List.mem_append, List.mem_map] at hw
      rcases hw with rfl | hw | ⟨c, hc, rfl⟩
      · exact ⟨⟨hfirst, Or.inl (Or.inr (Or.inr rfl))⟩, by simp [DataMsg.firstW]⟩
      · exact midWire_ok r1 hr1 w hw
      · exact ⟨CtrlF.wire_ok (hcs c hc), c.wire_nontext⟩
    obtain ⟨p', hpar, hb'⟩ := parses_nontext s4.cfg.v _ s4.p h4.between hws
    obtain ⟨s1, hfl, r, _, v1, hp1⟩ := feed_frames eater_good s4 ⟨h4.i.good, h4.closed⟩ hnh hpar (by
        unfold DG.view; rw [h4.frames]
        exact eat_open eater_good m r1 hr1 cs hcs ⟨s4.inflHist, s4.inflOut⟩)
    obtain ⟨ip, hz⟩ := z_feedLoop _ s4 true _ hfl h4.i
    obtain ⟨_, l, el, nl⟩ := hz h4.ready
    refine ⟨s1, hfl, ip, r.cfg.trans h4.hcfg, r.react.trans h4.hreact, r.closed.trans h4.closed,
      by rw [hp1]; exact hb'.b.await, by rw [hp1, ParsesB.comp hpar]; exact h4.comp, ?_,
      hist_of_delivered el nl r.evs⟩
    rw [show s1.frames = _ from congrArg DG.View.frames v1]; simp

theorem InOpenG.toOpen {cfg : Cfg} {react : React} {s4 sp : Sys} {evs : List Event}
    (a : InOpenG cfg react false s4 sp evs) : InOpen cfg react s4 sp evs :=
  ⟨a.i, a.hcfg, a.hreact, a.closed, a.await, a.comp, a.frames, a.hist⟩

end Lomond.Core.E2E
