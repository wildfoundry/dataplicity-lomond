/-
  The socket's timeout mode in the composed connection (`ConnectLink.attempt`, `Inputs.blockBeforeTunnel`; property
  theorems in `Properties/C19_Timeout.lean`): when `_connect_proxy` reports `timeout` (`SilentProxy`,
  `connectProxy_timeout`), and the two ways `attempt` ends (`attempt_cases`).
-/
import Lomond.Proofs.ConnectLink
namespace Lomond.ConnectLink
open Lomond Lomond.Http Lomond.Core Lomond.Core.Monitor Lomond.Proxy

theorem readLoop_timeout_iff (reads : List ReadOutcome) :
    (readLoop reads []).2 = .error .timeout ↔ (stopKind reads = .timeout ∧ verdict (rxStop reads) = .incomplete) := by
  rw [readLoop_result reads [] findSep_nil_proxySep (Nat.zero_le _)]
  simp only [List.nil_append]
  cases hv : verdict (rxStop reads) <;> simp [resultOf]

theorem readLoop_timeout_log : ∀ (reads : List ReadOutcome) (buf : Bytes),
    (readLoop reads buf).2 = .error .timeout →
    ∃ pre, (readLoop reads buf).1 = pre ++ [.read .timeout] ∧ ∀ x ∈ pre, ∃ d, x = Io.read (.data d)
  | [], buf, _ => ⟨[], by simp [readLoop], by simp⟩
  | .timeout :: _, buf, _ => ⟨[], by simp [readLoop], by simp⟩
  | .err :: _, buf, h => by simp [readLoop] at h
  | .data d :: rest, buf, h => by
    unfold readLoop at h ⊢
    by_cases hd : d = []
    · simp [hd] at h
    · simp only [hd, if_false] at h ⊢
      cases hf : findSep Gen.proxySep (buf ++ d) with
      | none =>
        simp only [hf] at h ⊢
        by_cases hlen : (buf ++ d).length > Gen.proxyMax
        · rw [if_pos hlen] at h; simp at h
        · rw [if_neg hlen] at h ⊢
          obtain ⟨pre, e, hp⟩ := readLoop_timeout_log rest (buf ++ d) h
          refine ⟨.read (.data d) :: pre, by simp [e], fun x hx => ?_⟩
          rcases List.mem_cons.mp hx with rfl | hx
          · exact ⟨d, rfl⟩
          · exact hp x hx
      | some k =>
        simp only [hf] at h
        by_cases h1 : k + Gen.proxySep.length > Gen.proxyMax
        · simp [h1] at h
        · by_cases h2 : statusOf ((buf ++ d).take (k + Gen.proxySep.length)) = some (false, 200)
          · simp [h1, h2] at h
          · simp [h1, h2] at h

/-- **A silent proxy**: everything up to the reads goes well — the proxy URL is usable, the target has a host,
    `_connect_sock` connects to the proxy, the CONNECT request is written — and then the proxy delivers at most
    the beginning of an answer (no complete header block, not over the size limit) and says nothing more: the
    read script's first stop is a `timeout` step or its end (not EOF, not a socket error). -/
structure SilentProxy (i : Inputs) (purl : Str) : Prop where
  url : ∃ u p, parseUrl purl = some u ∧ u.port = some p
  host : i.ws.target.host ≠ none
  connect : sockOk i = true
  sent : i.writeFails 0 = false
  silent : stopKind i.reads = .timeout
  incomplete : verdict (rxStop i.reads) = .incomplete

theorem connectProxy_timeout (i : Inputs) (purl : Str) :
    ((connectProxy i.ws (proxyEnv i) purl).2 = .error .timeout ↔ SilentProxy i purl) ∧
    ((connectProxy i.ws (proxyEnv i) purl).2 = .error .timeout →
      ∃ u p req pre, parseUrl purl = some u ∧ u.port = some p ∧ connectRequestOf i.ws purl = some req ∧
        (connectProxy i.ws (proxyEnv i) purl).1 = [proxyAddr u p, .write false req true] ++ pre ++ [.read .timeout] ∧
        ∀ x ∈ pre, ∃ d, x = Io.read (.data d)) := by
  have hs := connectProxy_dialogue i.ws (proxyEnv i) purl
  have hco : (proxyEnv i).connectOk = sockOk i := rfl
  have hrd : (proxyEnv i).reads = i.reads := rfl
  have hwf : (proxyEnv i).writeFails = i.writeFails := rfl
  generalize connectProxy i.ws (proxyEnv i) purl = r at hs
  cases hs with
  | badUrl hu =>
    refine ⟨⟨fun h => (by cases h), fun h => ?_⟩, fun h => (by cases h)⟩
    obtain ⟨u, p, h1, _⟩ := h.url; rw [hu] at h1; cases h1
  | badPort u hu hp =>
    refine ⟨⟨fun h => (by cases h), fun h => ?_⟩, fun h => (by cases h)⟩
    obtain ⟨u', p, h1, h2⟩ := h.url; rw [hu] at h1; cases h1; rw [hp] at h2; cases h2
  | noConnect u p hu hp hconn =>
    refine ⟨⟨fun h => (by cases h), fun h => ?_⟩, fun h => (by cases h)⟩
    have := h.connect; rw [← hco, hconn] at this; cases this
  | noHost u p hu hp hconn hh =>
    exact ⟨⟨fun h => (by cases h), fun h => absurd hh h.host⟩, fun h => (by cases h)⟩
  | writeErr u p req hu hp hconn hreq hw =>
    refine ⟨⟨fun h => (by cases h), fun h => ?_⟩, fun h => (by cases h)⟩
    have := h.sent; rw [← hwf, hw] at this; cases this
  | readFail u p req k hu hp hconn hreq hw hl =>
    rw [hrd] at hl
    refine ⟨⟨fun h => ?_, fun h => ?_⟩, fun h => ?_⟩
    · have hk : k = .timeout := by cases h; rfl
      subst hk
      obtain ⟨h1, h2⟩ := (readLoop_timeout_iff i.reads).mp hl
      refine ⟨⟨u, p, hu, hp⟩, ?_, hco ▸ hconn, hwf ▸ hw, h1, h2⟩
      intro hh
      simp [connectRequestOf, hu, hh, buildConnect] at hreq
    · have := (readLoop_timeout_iff i.reads).mpr ⟨h.silent, h.incomplete⟩
      rw [this] at hl; cases hl; rfl
    · have hk : k = .timeout := by cases h; rfl
      subst hk
      obtain ⟨pre, e, hpre⟩ := readLoop_timeout_log i.reads [] hl
      refine ⟨u, p, req, pre, hu, hp, hreq, ?_, hpre⟩
      show [proxyAddr u p, Io.write false req true] ++ (readLoop i.reads []).1 = _
      rw [e, List.append_assoc]
  | wrapFail u p req hu hp hconn hreq hw hl hs hwr =>
    refine ⟨⟨fun h => (by cases h), fun h => ?_⟩, fun h => (by cases h)⟩
    rw [hrd] at hl
    have := (readLoop_timeout_iff i.reads).mpr ⟨h.silent, h.incomplete⟩
    rw [this] at hl; cases hl
  | up u p req hu hp hconn hreq hw hl htls =>
    refine ⟨⟨fun h => (by cases h), fun h => ?_⟩, fun h => (by cases h)⟩
    rw [hrd] at hl
    have := (readLoop_timeout_iff i.reads).mpr ⟨h.silent, h.incomplete⟩
    rw [this] at hl; cases hl

theorem silentRead_iff_timeout (i : Inputs) :
    silentRead i = true ↔ ∃ purl, proxyChoice i.ws = some purl ∧ (connectProxy i.ws (proxyEnv i) purl).2 = .error .timeout := by
  unfold silentRead
  cases hc : proxyChoice i.ws with
  | none => simp
  | some purl =>
    simp only [Option.some.injEq, exists_eq_left']
    cases hr : (connectProxy i.ws (proxyEnv i) purl).2 with
    | ok v => simp
    | error k => cases k <;> simp

theorem silentRead_iff (i : Inputs) :
    silentRead i = true ↔ ∃ purl, proxyChoice i.ws = some purl ∧ SilentProxy i purl := by
  rw [silentRead_iff_timeout]
  constructor
  · rintro ⟨purl, hc, h⟩; exact ⟨purl, hc, (connectProxy_timeout i purl).1.mp h⟩
  · rintro ⟨purl, hc, h⟩; exact ⟨purl, hc, (connectProxy_timeout i purl).1.mpr h⟩

/-- with a silent proxy `_connect()` does not return a socket: in the pinned order it raises (`socket.timeout`, caught
    by `except Exception` in `run()`), and the Proxy model's failure kind is `timeout` -/
theorem silent_not_connects (i : Inputs) (h : silentRead i = true) :
    ¬ Connects i ∧ connectResult i = .otherFail ∧ failKind i = .timeout := by
  obtain ⟨purl, hc, ht⟩ := (silentRead_iff_timeout i).mp h
  have hr : connectResult i = .otherFail := by unfold connectResult; rw [hc]; simp only [ht]
  refine ⟨fun ⟨q, hq⟩ => ?_, hr, ?_⟩
  · rw [hr] at hq; cases hq
  · unfold failKind; rw [hc]; simp only [ht]

theorem connectLog_silent (i : Inputs) (h : silentRead i = true) :
    ∃ purl u p req pre, proxyChoice i.ws = some purl ∧ parseUrl purl = some u ∧ u.port = some p ∧
      connectRequestOf i.ws purl = some req ∧
      connectLog i = [proxyAddr u p, .write false req true] ++ pre ++ [.read .timeout] ∧
      (∀ x ∈ pre, ∃ d, x = Io.read (.data d)) := by
  obtain ⟨purl, hc, ht⟩ := (silentRead_iff_timeout i).mp h
  obtain ⟨u, p, req, pre, hu, hp, hreq, hlog, hpre⟩ := (connectProxy_timeout i purl).2 ht
  exact ⟨purl, u, p, req, pre, hc, hu, hp, hreq, by rw [connectLog_proxy i purl hc, hlog], hpre⟩

theorem mem_ioLog {x : Proxy.Io} : ∀ {l : List Item}, x ∈ ioLog l → Item.io x ∈ l
  | [], h => by cases h
  | .io y :: r, h => by
    rcases List.mem_cons.mp (show x ∈ y :: ioLog r from h) with rfl | h'
    · exact List.mem_cons_self
    · exact List.mem_cons_of_mem _ (mem_ioLog h')
  | .core _ :: r, h => List.mem_cons_of_mem _ (mem_ioLog (show x ∈ ioLog r from h))
  | .sock _ :: r, h => List.mem_cons_of_mem _ (mem_ioLog (show x ∈ ioLog r from h))

theorem evs_connecting_phase (i : Inputs) (c0 : List Obs) (n0 : ∀ o ∈ c0, isRes o = true) (l : List Proxy.Io) :
    evs ((Obs.ev .connecting :: c0).map Item.core ++ l.flatMap (expand i)) = [.connecting] := by
  have h0 : l.filterMap ((fun x => x.core?.bind Obs.event?) ∘ Item.io) = [] :=
    List.filterMap_eq_nil_iff.mpr fun _ _ => rfl
  unfold evs
  rw [coreLog_eq, List.filterMap_filterMap, List.filterMap_append, filterMap_expand _ (fun _ => rfl), h0, List.filterMap_map,
    List.append_nil]
  show (Obs.ev .connecting :: c0).filterMap Obs.event? = _
  rw [List.filterMap_cons, event?_ev, events_res n0]

theorem hangs_iff (i : Inputs) : hangs i = true ↔ (i.blockBeforeTunnel = true ∧ silentRead i = true) := by
  unfold hangs negotiationTimeout
  cases i.blockBeforeTunnel <;> simp

/-- **`attempt` by cases**: it is the composed trace, unless a read hangs and `_connect()` is reached -/
theorem attempt_cases (base : Core.Cfg) (i : Inputs) (react : React) (env : List EnvStep) :
    (¬ (hangs i = true ∧ ¬ StopsAtConnecting react) ∧ attempt base i react env = .ended (composed base i react env)) ∨
    (hangs i = true ∧ ¬ StopsAtConnecting react ∧ ∃ c0, (∀ o ∈ c0, isRes o = true) ∧
      attempt base i react env =
        .hung ((Obs.ev .connecting :: c0).map .core ++ (connectLog i).dropLast.flatMap (expand i))) := by
  unfold attempt
  rcases runAll_cut (coreCfg base i) react env with ⟨hs, ⟨x, s1, hy⟩, _⟩ | ⟨hs, s1, c0, _, hy, e0, n0, _⟩
  · rw [show yieldEv .connecting { cfg := coreCfg base i, react := react, env := env } = .err x s1 from hy]
    exact .inl ⟨fun h => h.2 hs, rfl⟩
  · rw [show yieldEv .connecting { cfg := coreCfg base i, react := react, env := env } = .ok () s1 from hy]
    cases hh : hangs i with
    | false => exact .inl ⟨fun h => (by cases h.1), rfl⟩
    | true => exact .inr ⟨rfl, hs, c0, n0, by simp only [if_true, e0]⟩

theorem attempt_ended (base : Core.Cfg) (i : Inputs) (react : React) (env : List EnvStep)
    (h : hangs i = false) : attempt base i react env = .ended (composed base i react env) :=
  (attempt_cases base i react env).elim And.right fun h' => by rw [h] at h'; cases h'.1

theorem attempt_pinned (base : Core.Cfg) (i : Inputs) (react : React) (env : List EnvStep)
    (h : i.blockBeforeTunnel = false) : attempt base i react env = .ended (composed base i react env) :=
  attempt_ended base i react env (by unfold hangs negotiationTimeout; rw [h]; rfl)

theorem attempt_ended_of_not_hung (base : Core.Cfg) (i : Inputs) (react : React) (env : List EnvStep)
    (h : ¬ ∃ tr, attempt base i react env = .hung tr) :
    attempt base i react env = .ended (composed base i react env) :=
  (attempt_cases base i react env).elim And.right fun ⟨_, _, _, _, e⟩ => absurd ⟨_, e⟩ h

/-- **When does an attempt hang?**  Exactly when the socket is put into blocking mode before the negotiation, the
    proxy is silent, and the application does not stop at `Connecting` (then `_connect()` is never called). -/
theorem attempt_hung_iff (base : Core.Cfg) (i : Inputs) (react : React) (env : List EnvStep) :
    (∃ tr, attempt base i react env = .hung tr) ↔
      (i.blockBeforeTunnel = true ∧ silentRead i = true ∧ ¬ StopsAtConnecting react) := by
  rw [← and_assoc, ← hangs_iff]
  rcases attempt_cases base i react env with ⟨hn, e⟩ | ⟨h1, h2, c0, _, e⟩ <;> rw [e]
  · exact ⟨fun ⟨_, h⟩ => (by cases h), fun h => absurd h hn⟩
  · exact ⟨fun _ => ⟨h1, h2⟩, fun _ => ⟨_, rfl⟩⟩

theorem attempt_hung_shape (base : Core.Cfg) (i : Inputs) (react : React) (env : List EnvStep)
    (hb : i.blockBeforeTunnel = true) (hsil : silentRead i = true) (hns : ¬ StopsAtConnecting react) :
    ∃ c0 purl u p req pre, (∀ o ∈ c0, isRes o = true) ∧
      proxyChoice i.ws = some purl ∧ parseUrl purl = some u ∧ u.port = some p ∧
      connectRequestOf i.ws purl = some req ∧ (∀ x ∈ pre, ∃ d, x = Io.read (.data d)) ∧
      connectLog i = [proxyAddr u p, .write false req true] ++ pre ++ [.read .timeout] ∧
      attempt base i react env =
        .hung ((Obs.ev .connecting :: c0).map .core ++ ([proxyAddr u p, .write false req true] ++ pre).flatMap (expand i)) := by
  obtain ⟨purl, u, p, req, pre, hc, hu, hp, hreq, hlog, hpre⟩ := connectLog_silent i hsil
  rcases attempt_cases base i react env with ⟨hn, _⟩ | ⟨_, _, c0, n0, e⟩
  · exact absurd ⟨(hangs_iff i).mpr ⟨hb, hsil⟩, hns⟩ hn
  · exact ⟨c0, purl, u, p, req, pre, n0, hc, hu, hp, hreq, hpre, hlog, by rw [e, hlog, List.dropLast_concat]⟩

end Lomond.ConnectLink
