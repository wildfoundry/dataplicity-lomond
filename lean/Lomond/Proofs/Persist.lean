/-
  Specification vocabulary and lemmas for C16 (persist).

  The centre is `run_eq`: the observations of a run are those of its live rounds, each with the delay
  the code computes (`obsFrom`), and the status says whether some `wait` returned true.  The observers
  `yielded`, `backOffs`, `passed` are `filterMap`s, so what they see of `obsFrom` is read off with the
  library's `filterMap` / `flatMap` / `zip` lemmas.  `delaysFrom_getElem?` ties the code's retry counter
  to `streak`; `run_append` is how a run goes on.
-/
import Lomond.Model.Persist

namespace Lomond.Persist

variable {ε π : Type}

/-! ## Specification vocabulary (written from the property text, not from the code) -/

def hasReady (isReady : ε → Bool) (r : Round ε) : Bool := r.events.any isReady

/-- the rounds that actually happen: up to and including the first one whose `wait` returns true -/
def live : List (Round ε) → List (Round ε)
  | [] => []
  | r :: rs => if r.exit then [r] else r :: live rs

/-- number of consecutive attempts, ending with the last one of `as`, that did not reach Ready
    (0 if the last one did) -/
def streak (isReady : ε → Bool) (as : List (Round ε)) : Nat :=
  (as.reverse.takeWhile (fun r => !hasReady isReady r)).length

/-- the randomised upper limit of the back-off after `k` consecutive failures -/
def limit (c : Cfg π) (k : Nat) : Rat := c.minWait + min (c.maxWait - c.minWait) ((2 : Rat) ^ k)

@[simp] theorem streak_nil (isReady : ε → Bool) : streak isReady [] = 0 := rfl

theorem streak_snoc (isReady : ε → Bool) (as : List (Round ε)) (a : Round ε) :
    streak isReady (as ++ [a]) = if hasReady isReady a then 0 else streak isReady as + 1 := by
  unfold streak
  simp only [List.reverse_append, List.reverse_cons, List.reverse_nil, List.nil_append,
    List.singleton_append, List.takeWhile_cons]
  cases hasReady isReady a <;> simp

theorem forLoop_eq (isReady : ε → Bool) (k : Nat) (evs : List ε) :
    forLoop isReady k evs = if evs.any isReady then 0 else k := by
  induction evs generalizing k with
  | nil => simp [forLoop]
  | cons e es ih =>
    have h : forLoop isReady k (e :: es) = forLoop isReady (afterEvent isReady k e) es := rfl
    rw [h, ih]
    cases he : isReady e <;> simp [afterEvent, he]

theorem forLoop_streak (isReady : ε → Bool) (pre : List (Round ε)) (r : Round ε) :
    forLoop isReady (streak isReady pre + 1) r.events = streak isReady (pre ++ [r]) := by
  rw [forLoop_eq, streak_snoc]; rfl

theorem live_eq_self (rs : List (Round ε)) (h : ∀ r ∈ rs, r.exit = false) : live rs = rs := by
  induction rs with
  | nil => rfl
  | cons r rs ih =>
    have hr : r.exit = false := h r (by simp)
    simp only [live, hr]
    rw [ih (fun q hq => h q (by simp [hq]))]; rfl

theorem live_idem (rs : List (Round ε)) : live (live rs) = live rs := by
  induction rs with
  | nil => rfl
  | cons r rs ih =>
    cases hr : r.exit <;> simp [live, hr, ih]

theorem live_prefix (rs : List (Round ε)) : live rs <+: rs := by
  induction rs with
  | nil => exact List.prefix_refl _
  | cons r rs ih =>
    cases hr : r.exit
    · simpa [live, hr] using ih
    · simp [live, hr]

theorem live_length_le (rs : List (Round ε)) : (live rs).length ≤ rs.length := (live_prefix rs).length_le

theorem live_getElem? (rs : List (Round ε)) (k : Nat) (h : k < (live rs).length) :
    (live rs)[k]? = rs[k]? := by
  obtain ⟨post, hp⟩ := live_prefix rs
  conv => rhs; rw [← hp]
  rw [List.getElem?_append_left h]

theorem mem_live {rs : List (Round ε)} {r : Round ε} (h : r ∈ live rs) : r ∈ rs := (live_prefix rs).subset h

theorem take_live (rs : List (Round ε)) (k : Nat) (h : k < (live rs).length) :
    (live rs).take (k + 1) = rs.take (k + 1) := by
  obtain ⟨post, hp⟩ := live_prefix rs
  conv => rhs; rw [← hp, List.take_append_of_le_length (by omega)]

theorem any_exit_live (rs : List (Round ε)) : (live rs).any (·.exit) = rs.any (·.exit) := by
  induction rs with
  | nil => rfl
  | cons r rs ih => cases hr : r.exit <;> simp [live, hr, ih]

theorem live_exit_split (rs : List (Round ε)) (h : ∃ r ∈ rs, r.exit = true) :
    ∃ pre r, live rs = pre ++ [r] ∧ (∀ q ∈ pre, q.exit = false) ∧ r.exit = true := by
  induction rs with
  | nil => obtain ⟨r, hr, _⟩ := h; cases hr
  | cons r rs ih =>
    cases hr : r.exit
    · have : ∃ q ∈ rs, q.exit = true := by
        obtain ⟨q, hq, hx⟩ := h
        rcases List.mem_cons.mp hq with rfl | hq'
        · rw [hr] at hx; cases hx
        · exact ⟨q, hq', hx⟩
      obtain ⟨pre, x, h1, h2, h3⟩ := ih this
      refine ⟨r :: pre, x, ?_, ?_, h3⟩
      · simp [live, hr, h1]
      · intro q hq
        rcases List.mem_cons.mp hq with rfl | hq'
        · exact hr
        · exact h2 q hq'
    · exact ⟨[], r, by simp [live, hr], by simp, hr⟩

@[simp] def Obs.out? : Obs ε π → Option (Out ε)
  | .yield o => some o
  | .connect .. | .random | .wait _ => none

@[simp] def Out.delay? : Out ε → Option Rat
  | .backOff d => some d
  | .ev _ => none

@[simp] def Out.ev? : Out ε → Option ε
  | .ev e => some e
  | .backOff _ => none

theorem yielded_eq (l : List (Obs ε π)) : yielded l = l.filterMap Obs.out? := by
  induction l with
  | nil => rfl
  | cons o t ih => cases o <;> simp [yielded, List.filterMap_cons, ih]

theorem backOffs_eq (l : List (Out ε)) : backOffs l = l.filterMap Out.delay? := by
  induction l with
  | nil => rfl
  | cons o t ih => cases o <;> simp [backOffs, List.filterMap_cons, ih]

theorem passed_eq (l : List (Out ε)) : passed l = l.filterMap Out.ev? := by
  induction l with
  | nil => rfl
  | cons o t ih => cases o <;> simp [passed, List.filterMap_cons, ih]

@[simp] theorem yielded_append (a b : List (Obs ε π)) : yielded (a ++ b) = yielded a ++ yielded b := by
  simp only [yielded_eq, List.filterMap_append]

@[simp] theorem backOffs_append (a b : List (Out ε)) : backOffs (a ++ b) = backOffs a ++ backOffs b := by
  simp only [backOffs_eq, List.filterMap_append]

@[simp] theorem passed_append (a b : List (Out ε)) : passed (a ++ b) = passed a ++ passed b := by
  simp only [passed_eq, List.filterMap_append]

theorem yielded_flatMap {α : Type} (l : List α) (f : α → List (Obs ε π)) :
    yielded (l.flatMap f) = l.flatMap fun a => yielded (f a) := by
  simp only [yielded_eq, List.filterMap_flatMap]

theorem backOffs_flatMap {α : Type} (l : List α) (f : α → List (Out ε)) :
    backOffs (l.flatMap f) = l.flatMap fun a => backOffs (f a) := by
  simp only [backOffs_eq, List.filterMap_flatMap]

theorem passed_flatMap {α : Type} (l : List α) (f : α → List (Out ε)) :
    passed (l.flatMap f) = l.flatMap fun a => passed (f a) := by
  simp only [passed_eq, List.filterMap_flatMap]

@[simp] theorem yielded_map_ev (es : List ε) :
    yielded (es.map (fun e => (Obs.yield (Out.ev e) : Obs ε π))) = es.map Out.ev := by
  simp [yielded_eq, List.filterMap_map, Function.comp_def]

@[simp] theorem backOffs_map_ev (es : List ε) : backOffs (es.map Out.ev) = [] := by
  simp [backOffs_eq, List.filterMap_map, Function.comp_def]

@[simp] theorem passed_map_ev (es : List ε) : passed (es.map Out.ev) = es := by
  simp [passed_eq, List.filterMap_map, Function.comp_def]

@[simp] theorem yielded_roundObs (c : Cfg π) (r : Round ε) (d : Rat) :
    yielded (roundObs c r d) = r.events.map Out.ev ++ [Out.backOff d] := by
  simp [roundObs, yielded]

theorem run_cons_exit (isReady : ε → Bool) (c : Cfg π) (k : Nat) (r : Round ε) (rs : List (Round ε))
    (h : r.exit = true) :
    run isReady c k (r :: rs) =
      (roundObs c r (waitFor c (forLoop isReady (k + 1) r.events) r.draw), .exited) := by
  simp [run, h]

theorem run_cons_go (isReady : ε → Bool) (c : Cfg π) (k : Nat) (r : Round ε) (rs : List (Round ε))
    (h : r.exit = false) :
    run isReady c k (r :: rs) =
      (roundObs c r (waitFor c (forLoop isReady (k + 1) r.events) r.draw)
          ++ (run isReady c (forLoop isReady (k + 1) r.events) rs).1,
        (run isReady c (forLoop isReady (k + 1) r.events) rs).2) := by
  simp [run, h]

theorem waitFor_bounds (c : Cfg π) (k : Nat) (u : Rat)
    (hmm : c.minWait ≤ c.maxWait) (h0 : 0 ≤ u) (h1 : u < 1) :
    c.minWait ≤ waitFor c k u ∧ waitFor c k u ≤ c.maxWait := by
  have hp : (0 : Rat) < (2 : Rat) ^ k := Rat.pow_pos (by decide)
  unfold waitFor
  -- with `w = min (max − min) 2^k` only `0 ≤ w ≤ max − min`, `0 ≤ u·w` and `0 ≤ (1 − u)·w` matter
  generalize (2 : Rat) ^ k = p at hp
  generalize c.maxWait = M at hmm
  generalize c.minWait = m at hmm
  have hm : (0 : Rat) ≤ min (M - m) p := by grind
  have hmw : min (M - m) p ≤ M - m := by grind
  generalize min (M - m) p = w at hm hmw
  have h2 : 0 ≤ u * w := Rat.mul_nonneg h0 hm
  have h3 : 0 ≤ (1 - u) * w := Rat.mul_nonneg (by grind) hm
  constructor <;> grind

/-- the delays as the code computes them (mirror of `run`) -/
def delaysFrom (isReady : ε → Bool) (c : Cfg π) : Nat → List (Round ε) → List Rat
  | _, [] => []
  | k, r :: rs =>
    waitFor c (forLoop isReady (k + 1) r.events) r.draw ::
      delaysFrom isReady c (forLoop isReady (k + 1) r.events) rs

theorem delaysFrom_length (isReady : ε → Bool) (c : Cfg π) (k : Nat) (rs : List (Round ε)) :
    (delaysFrom isReady c k rs).length = rs.length := by
  induction rs generalizing k with
  | nil => rfl
  | cons r rs ih => simp [delaysFrom, ih]

/-- the code's counter is `streak`: after the rounds `pre`, the `k`-th delay of `rs` is the one for the
    consecutive failures at the end of `pre ++ rs.take (k + 1)` -/
theorem delaysFrom_getElem? (isReady : ε → Bool) (c : Cfg π) (pre rs : List (Round ε)) (k : Nat) :
    (delaysFrom isReady c (streak isReady pre) rs)[k]? =
      rs[k]?.map fun r => waitFor c (streak isReady (pre ++ rs.take (k + 1))) r.draw := by
  induction rs generalizing pre k with
  | nil => rfl
  | cons r rs ih => cases k <;> simp [delaysFrom, forLoop_streak, ih]

theorem mem_delaysFrom {isReady : ε → Bool} {c : Cfg π} {k : Nat} {rs : List (Round ε)} {d : Rat}
    (h : d ∈ delaysFrom isReady c k rs) : ∃ r ∈ rs, ∃ n, d = waitFor c n r.draw := by
  induction rs generalizing k with
  | nil => cases h
  | cons r rs ih =>
    rcases List.mem_cons.mp h with rfl | h
    · exact ⟨r, List.mem_cons_self, _, rfl⟩
    · obtain ⟨q, hq, n, hn⟩ := ih h
      exact ⟨q, List.mem_cons_of_mem _ hq, n, hn⟩

/-- the observations of the rounds `rs`, none skipped, when the loop is entered with `retries = k` -/
def obsFrom (isReady : ε → Bool) (c : Cfg π) (k : Nat) (rs : List (Round ε)) : List (Obs ε π) :=
  (List.zip rs (delaysFrom isReady c k rs)).flatMap fun p => roundObs c p.1 p.2

theorem run_eq (isReady : ε → Bool) (c : Cfg π) (k : Nat) (rs : List (Round ε)) :
    run isReady c k rs =
      (obsFrom isReady c k (live rs), if rs.any (·.exit) then .exited else .running) := by
  induction rs generalizing k with
  | nil => rfl
  | cons r rs ih => cases hr : r.exit <;> simp [run, live, obsFrom, delaysFrom, hr, ih]

theorem persist_eq (isReady : ε → Bool) (c : Cfg π) (rs : List (Round ε)) :
    persist isReady c rs =
      (obsFrom isReady c 0 (live rs), if rs.any (·.exit) then .exited else .running) :=
  run_eq isReady c 0 rs

theorem run_exited_iff (isReady : ε → Bool) (c : Cfg π) (k : Nat) (rs : List (Round ε)) :
    (run isReady c k rs).2 = .exited ↔ ∃ r ∈ rs, r.exit = true := by
  rw [run_eq, ← List.any_eq_true (l := rs) (p := fun r => r.exit)]
  cases rs.any (·.exit) <;> simp

theorem run_running_iff (isReady : ε → Bool) (c : Cfg π) (k : Nat) (rs : List (Round ε)) :
    (run isReady c k rs).2 = .running ↔ ∀ r ∈ rs, r.exit = false := by
  rw [run_eq]
  cases h : rs.any (·.exit) <;> simp_all

theorem run_live (isReady : ε → Bool) (c : Cfg π) (k : Nat) (rs : List (Round ε)) :
    run isReady c k (live rs) = run isReady c k rs := by
  rw [run_eq, run_eq, live_idem, any_exit_live]

theorem yielded_obsFrom (isReady : ε → Bool) (c : Cfg π) (k : Nat) (rs : List (Round ε)) :
    yielded (obsFrom isReady c k rs) =
      (List.zip rs (delaysFrom isReady c k rs)).flatMap fun p => p.1.events.map Out.ev ++ [Out.backOff p.2] := by
  simp only [obsFrom, yielded_flatMap, yielded_roundObs]

theorem backOffs_obsFrom (isReady : ε → Bool) (c : Cfg π) (k : Nat) (rs : List (Round ε)) :
    backOffs (yielded (obsFrom isReady c k rs)) = delaysFrom isReady c k rs := by
  simp only [yielded_obsFrom, backOffs_flatMap, backOffs_append, backOffs_map_ev, backOffs, List.nil_append]
  rw [← List.map_eq_flatMap, List.map_snd_zip (Nat.le_of_eq (delaysFrom_length ..))]

theorem passed_obsFrom (isReady : ε → Bool) (c : Cfg π) (k : Nat) (rs : List (Round ε)) :
    passed (yielded (obsFrom isReady c k rs)) = rs.flatMap (·.events) := by
  simp only [yielded_obsFrom, passed_flatMap, passed_append, passed_map_ev, passed, List.append_nil]
  conv => rhs; rw [← List.map_fst_zip (Nat.le_of_eq (delaysFrom_length isReady c k rs).symm), List.flatMap_map]

theorem roundObs_getLast? (c : Cfg π) (r : Round ε) (d : Rat) :
    (roundObs c r d).getLast? = some (Obs.wait d) := by
  have h : roundObs c r d =
      (Obs.connect c.poll c.pingRate c.pingTimeout ::
        (r.events.map (fun e => Obs.yield (Out.ev e)) ++ [Obs.random, Obs.yield (Out.backOff d)]))
        ++ [Obs.wait d] := by simp [roundObs]
  rw [h, List.getLast?_append]; rfl

theorem obsFrom_getLast? (isReady : ε → Bool) (c : Cfg π) (k : Nat) (rs : List (Round ε)) (h : rs ≠ []) :
    ∃ d, (obsFrom isReady c k rs).getLast? = some (Obs.wait d) ∧
      (yielded (obsFrom isReady c k rs)).getLast? = some (Out.backOff d) := by
  rw [yielded_obsFrom, obsFrom]
  rcases List.eq_nil_or_concat (List.zip rs (delaysFrom isReady c k rs)) with hz | ⟨l, p, hz⟩
  · rw [List.zip_eq_nil_iff] at hz
    rcases hz with hz | hz
    · exact absurd hz h
    · exact absurd (List.length_eq_zero_iff.mp (by rw [← delaysFrom_length isReady c k rs, hz]; rfl)) h
  · refine ⟨p.2, ?_, ?_⟩ <;>
      simp [hz, List.flatMap_append, roundObs_getLast?]

theorem run_append (isReady : ε → Bool) (c : Cfg π) (pre rs more : List (Round ε))
    (h : ∀ r ∈ rs, r.exit = false) :
    run isReady c (streak isReady pre) (rs ++ more) =
      ((run isReady c (streak isReady pre) rs).1 ++ (run isReady c (streak isReady (pre ++ rs)) more).1,
       (run isReady c (streak isReady (pre ++ rs)) more).2) := by
  induction rs generalizing pre with
  | nil => simp [run]
  | cons r rs ih =>
    have hr : r.exit = false := h r List.mem_cons_self
    simp [run, hr, forLoop_streak, ih (pre ++ [r]) fun q hq => h q (List.mem_cons_of_mem _ hq)]

end Lomond.Persist
