/-
  C01 / C02 for whole streams: the states of the time-insensitive invariant `TG` (send-only
  application, ping timeout disabled, close timer not armed, socket open, websocket not closed) as a
  class of `Proofs/Consumer.lean` (`eater_tg`).  Between two frames anything may happen that keeps
  `TG`, the extension and the consumer's view: the clock may advance and `_regular()` may yield
  Polls and write automatic Pings (`regular_T`).  Then the items on the wire with compressed
  messages among them, and the parser half for them (`parses_gitems`).
-/
import Lomond.Proofs.SendOnly
import Lomond.Proofs.Delivery
import Lomond.Proofs.Quiet
import Lomond.Proofs.SegmentationLoop
import Lomond.Proofs.DeliveryGenParse
namespace Lomond.Core.DG
open Lomond Lomond.Core Lomond.Core.E2E

/-- what neither a send call nor `_regular()` touches -/
structure Fix (s s' : Sys) : Prop where
  cfg : s'.cfg = s.cfg
  react : s'.react = s.react
  sockOpen : s'.sockOpen = s.sockOpen
  selOpen : s'.selOpen = s.selOpen
  closed : s'.closed = s.closed
  closing : s'.closing = s.closing
  sentCloseTime : s'.sentCloseTime = s.sentCloseTime
  ready : s'.ready = s.ready
  startTime : s'.startTime = s.startTime
  now : s'.now = s.now

theorem fix_po : PO Fix where
  refl _ := ⟨rfl, rfl, rfl, rfl, rfl, rfl, rfl, rfl, rfl, rfl⟩
  trans h1 h2 := ⟨h2.cfg.trans h1.cfg, h2.react.trans h1.react, h2.sockOpen.trans h1.sockOpen,
    h2.selOpen.trans h1.selOpen, h2.closed.trans h1.closed, h2.closing.trans h1.closing,
    h2.sentCloseTime.trans h1.sentCloseTime, h2.ready.trans h1.ready, h2.startTime.trans h1.startTime,
    h2.now.trans h1.now⟩

macro "fix_leaf" : tactic =>
  `(tactic| ((try simp only [Res.state_ok, Res.state_err]); exact ⟨rfl, rfl, rfl, rfl, rfl, rfl, rfl, rfl, rfl, rfl⟩))

theorem Fix.of_keep {s s' : Sys} (k : Keep s s') : Fix s s' :=
  ⟨k.cfg, k.react, k.sockOpen, k.selOpen, k.closed, k.closing, k.sentCloseTime, k.ready, k.startTime, k.now⟩

theorem Fix.sessionTime {s s' : Sys} (f : Fix s s') : sessionTime s' = sessionTime s := by
  unfold Core.sessionTime; rw [f.startTime, f.now]

theorem fix_sendFrame (op : Nat) (pl : Bytes) (c : Option Bytes) : Spec Fix (sendFrame op pl c) :=
  fun s => Fix.of_keep (E2E.keep_sendFrame op pl c s)

abbrev FixR : Sys → Sys → Prop := SegLoop.Under SendOnly Fix

theorem fixr_po : PO FixR := SegLoop.under_po fix_po (·.react)

theorem fixr_yieldEv (e : Event) : Spec FixR (yieldEv e) :=
  SegLoop.under_yieldEv fix_po (fun _ _ => by unfold pushEv; fix_leaf)
    (fun r hs h => fun s => Fix.of_keep (E2E.keep_doActs _ (hs h) s)) e

theorem fixr_regular : Spec FixR regular :=
  SegLoop.under_regular fixr_po fixr_yieldEv (fun _ => by fix_leaf) (fun _ => by fix_leaf) (fix_sendFrame _ _ _)

/-- `_on_event` for every event but Ready (which starts the session clock) -/
theorem fix_onEvent (e : Event) (he : ∀ a b, e ≠ .ready a b) : Spec Fix (onEvent e) :=
  spec_onEvent fix_po e (fun a b h => absurd h (he a b))
    (fun _ _ _ => ⟨rfl, rfl, rfl, rfl, rfl, rfl, rfl, rfl, rfl, rfl⟩) (fun _ _ _ s _ => fix_sendFrame _ _ _ s)

theorem fix_feedYield {b : Bool} {e : Event} (he : ∀ a c, e ≠ .ready a c) {s s' : Sys} (hs : SendOnly s.react)
    (h : feedYield b e s = .ok () s') : Fix s s' := by
  obtain ⟨s1, s2, h1, h2, h3⟩ := feedYield_ok_inv h
  have k1 : Fix s s1 := (fix_onEvent e he).ok h1
  have k2 : Fix s1 s2 := (fixr_yieldEv e).ok h2 (by rw [k1.react]; exact hs)
  have k3 : Fix s2 s' := (fixr_regular).ok h3 (by rw [k2.react, k1.react]; exact hs)
  exact fix_po.trans k1 (fix_po.trans k2 k3)

/-- the invariant that no wait can break: send-only application, `ping_timeout` off, close timer off
    or not armed, socket open, websocket not closed -/
structure TG (s : Sys) : Prop where
  app : SendOnly s.react
  pt : s.cfg.pingTimeout = 0
  ct : s.cfg.closeTimeout = 0 ∨ s.sentCloseTime = none
  sock : s.sockOpen = true
  closed : s.closed = false

theorem TG.good {s : Sys} (h : TG s) : Good s := by
  refine ⟨h.app.quiet, Or.inl h.pt, ?_⟩
  rcases h.ct with h0 | h0
  · exact Or.inl h0
  · exact Or.inr (fun ct hc => by rw [h0] at hc; cases hc)

theorem TG.of_fix {s s' : Sys} (h : TG s) (f : Fix s s') : TG s' :=
  ⟨by rw [f.react]; exact h.app, by rw [f.cfg]; exact h.pt, by rw [f.cfg, f.sentCloseTime]; exact h.ct,
   by rw [f.sockOpen]; exact h.sock, by rw [f.closed]; exact h.closed⟩

theorem TG.tick {s : Sys} (h : TG s) (dt : Nat) : TG (tick s dt) :=
  ⟨h.app, h.pt, h.ct, h.sock, h.closed⟩

theorem TG.noSessionClose {s : Sys} (h : TG s) : SegLoop.NoSessionClose s.react := by
  intro hi hm
  have := h.app hi _ hm
  simp [isSendAct] at this

/-- the top of a loop cycle: the clock advances and `_regular()` runs -/
theorem regular_T (s : Sys) (dt : Nat) (g : TG s) :
    ∃ s', regular (tick s dt) = .ok () s' ∧ Calm [] (tick s dt) s' ∧ Fix (tick s dt) s' ∧ Quiet (tick s dt) s' := by
  obtain ⟨_, s', h, c⟩ := tot_regular (tick s dt) (g.tick dt).good
  exact ⟨s', h, c, (fixr_regular).ok h (g.tick dt).app, quiet_leaves.regular.ok h⟩

/-- what handling a frame guarantees, apart from the view: `es` are the events delivered -/
structure RelT (es : List Event) (s s' : Sys) : Prop where
  fix : Fix s s'
  comp : s'.compression = s.compression
  dec : s'.decompress = s.decompress
  evs : delivered s'.trace = es ++ delivered s.trace

def TGz (z : ZP) (s : Sys) : Prop := TG s ∧ ZOk z s

theorem eater_tg (z : ZP) : Eater (TGz z) RelT where
  refl _ := ⟨fix_po.refl _, rfl, rfl, rfl⟩
  trans h1 h2 := ⟨fix_po.trans h1.fix h2.fix, h2.comp.trans h1.comp, h2.dec.trans h1.dec,
    by rw [h2.evs, h1.evs, List.append_assoc]⟩
  inv g r := ⟨g.1.of_fix r.fix, by rw [r.fix.cfg]; exact g.2.infl, r.comp.trans g.2.comp, r.dec.trans g.2.dec⟩
  isOpen g := g.1.closed
  yield e hd s g := by
    obtain ⟨_, s', h, c⟩ := tot_feedYield true e hd s g.1.good
    have q : Quiet s s' := (quiet_leaves.feedYield true e).ok h
    exact ⟨s', h, fix_feedYield (fun _ _ he => by subst he; exact hd) g.1.app h, q.comp, q.dec, c.evs⟩
  setY g _ _ := ⟨⟨g.1.app, g.1.pt, g.1.ct, g.1.sock, g.1.closed⟩, ⟨g.2.infl, g.2.comp, g.2.dec⟩⟩
  setR r _ _ _ _ := ⟨⟨r.fix.cfg, r.fix.react, r.fix.sockOpen, r.fix.selOpen, r.fix.closed, r.fix.closing,
    r.fix.sentCloseTime, r.fix.ready, r.fix.startTime, r.fix.now⟩, r.comp, r.dec, r.evs⟩

theorem tg_eat_items (z : ZP) (items : List GItem) (ic ic' : ICtx) (h : ItemsAt z ic items ic') :
    EatSeq (TGz z) RelT (items.flatMap GItem.frames) (items.flatMap GItem.events).reverse ⟨[], ic⟩ ⟨[], ic'⟩ :=
  eat_items (eater_tg z) z items (fun _ _ _ _ g => g.2) ic ic' h

theorem firstFrame_plain (m : DataMsg) (b : Bool) : firstFrame false m.text m.first b = (m.firstW b).frame := rfl

/-- the bytes of a data message: a compressed one starts with a frame that has RSV1 set -/
def GMsg.bytes (g : GMsg) : Bytes :=
  if g.zf then zfirstBytes g.m.text g.m.rest.isEmpty g.m.first ++ wireBytes (contWire g.m.rest)
  else wireBytes g.m.wire

def GItem.bytes : GItem → Bytes
  | .ctrl c => c.wire.bytes
  | .msg g => g.bytes

/-- what the parser needs: lengths fit their forms, control payloads ≤ 125, an uncompressed Text is
    well-formed UTF-8, a compressed message only with the extension negotiated (`pc`) -/
def GMsg.WireOk (pc : Bool) (g : GMsg) : Prop :=
  g.m.first.Ok ∧ contOk g.m.rest ∧ (g.zf = true → pc = true) ∧
  (g.zf = false → g.m.text = true → Bytes.WF g.m.payload ∧ Utf8.wf g.m.payload = true)

def GItem.WireOk (pc : Bool) : GItem → Prop
  | .ctrl c => c.Ok
  | .msg g => g.WireOk pc

theorem parses_gitems (v : Variant) (pc : Bool) (items : List GItem) (p : PState) (hp : Between p)
    (hpc : p.compression = pc) (hok : ∀ it ∈ items, it.WireOk pc) :
    ∃ p', ParsesB v p (items.flatMap GItem.bytes) (items.flatMap GItem.frames) p' ∧ Between p' ∧
      p'.compression = pc := by
  induction items generalizing p with
  | nil => exact ⟨p, parsesB_nil v p, hp, hpc⟩
  | cons it r ih =>
    have h1 : ∃ p1, ParsesB v p it.bytes it.frames p1 ∧ Between p1 := by
      have hi := hok it (by simp)
      cases it with
      | ctrl c =>
        obtain ⟨p1, h, hb⟩ := parses_one v c.wire p hp (CtrlF.wire_ok hi) c.wire_nontext
        refine ⟨p1, ?_, hb⟩
        simpa [ParsesTo, wireBytes, GItem.bytes, GItem.frames] using h
      | msg g =>
        obtain ⟨hf, hr, hz, ht⟩ := hi
        cases hzf : g.zf with
        | false =>
          obtain ⟨p1, h, hb⟩ := parses_data v g.m p hp ⟨hf, hr, ht hzf⟩
          refine ⟨p1, ?_, hb⟩
          show ParsesB v p g.bytes g.frames p1
          unfold GMsg.bytes GMsg.frames
          rw [hzf]
          exact h
        | true =>
          have hc : p.compression = true := by rw [hpc]; exact hz hzf
          obtain ⟨p1, h, hb⟩ := parses_zmsg v g.m p hp hc hf hr
          refine ⟨p1, ?_, hb⟩
          show ParsesB v p g.bytes g.frames p1
          unfold GMsg.bytes GMsg.frames
          rw [hzf]
          exact h
    obtain ⟨p1, h1, hb1⟩ := h1
    obtain ⟨p2, h2, hb2, hc2⟩ := ih p1 hb1 (h1.comp.trans hpc) (fun x hx => hok x (by simp [hx]))
    exact ⟨p2, by rw [List.flatMap_cons, List.flatMap_cons]; exact parsesB_append h1 h2, hb2, hc2⟩

/-- the dynamic condition implies the static one -/
theorem ItemsAt.wireOk {z : ZP} {pc : Bool} {ic ic' : ICtx} {items : List GItem} (h : ItemsAt z ic items ic')
    (hz : ∀ g, GItem.msg g ∈ items → g.zf = true → pc = true) : ∀ it ∈ items, it.WireOk pc := by
  induction items generalizing ic with
  | nil => intro it hit; cases hit
  | cons x r ih =>
    intro it hit
    cases x with
    | ctrl c =>
      obtain ⟨hc, hr⟩ := h
      rcases List.mem_cons.mp hit with rfl | hm
      · exact hc
      · exact ih hr (fun g hg => hz g (List.mem_cons_of_mem _ hg)) it hm
    | msg g =>
      obtain ⟨ic1, hg, hr⟩ := h
      rcases List.mem_cons.mp hit with rfl | hm
      · obtain ⟨hf, hrest, hb, ht⟩ := hg
        refine ⟨hf, hrest, hz g List.mem_cons_self, fun hzf htx => ?_⟩
        rw [hzf, buildPure_plain] at hb
        have e : g.m.payload = g.plain := congrArg Prod.fst (Option.some.inj hb)
        rw [e]; exact ht htx
      · exact ih hr (fun g' hg' => hz g' (List.mem_cons_of_mem _ hg')) it hm

end Lomond.Core.DG
