/-
  C10 at the level of whole connections, for applications that are *arbitrary* once the reply has been
  decided: the application reacts to `Connecting` and to `Connected` by sending only (`QuietStart`: until
  then nothing has been read, and an application that closes or leaves before the reply arrives decides the
  outcome itself), and may do anything in reaction to `Ready`, `Rejected`, `ProtocolError`, `Disconnected`
  and everything later.  `run_readyG`, `run_rejectedG`, `run_oversizeG`: the history up to the verdict is as
  in HandshakeRun.lean; `finish_any`, `runAll_any`: after the loop at most one `Disconnected` is added.
-/
import Lomond.Proofs.HandshakeRun
namespace Lomond.Core.HRun
open Lomond Lomond.Core Lomond.Core.E2E

theorem reach_finalG {cfg : Cfg} {react : React} {proxy : Bool}
    (hc : cfg.connect = .ok proxy) (hw : cfg.writeFails 0 = false) (hqs : QuietStart react proxy)
    (steps rest : List EnvStep) (hq : ∀ st ∈ steps, Quiet st) (hhit : Hit (dataOf steps)) :
    ∃ sA pre d c post s', steps = pre ++ .wait d (some (.data c)) :: post ∧
      AtLoopG cfg react (steps ++ rest) proxy sA ∧ StartTrace cfg proxy sA.trace ∧
      run { cfg := cfg, react := react, env := steps ++ rest } =
        tryC (do runBody (steps ++ rest); selClose) runFinally sA ∧
      HP s' ∧ Idle sA s' ∧ s'.p.buf = dataOf pre ∧ ¬ Hit (dataOf pre) ∧ Hit (dataOf pre ++ c) ∧
      loop (steps ++ rest) sA =
        (match wsFeed c s' with
         | .ok _ s3 => loop (post ++ rest) s3
         | .err x s3 => .err x s3) := by
  obtain ⟨sA, hA, hst, hrun, _⟩ := run_startG cfg react (steps ++ rest) proxy hc hw hqs
  obtain ⟨pre, d, c, post, s', e, r⟩ := reach_from hA.closed hA.ready hA.sock hA.p steps rest hq hhit
  exact ⟨sA, pre, d, c, post, s', e, hA, hst, hrun, r⟩

theorem step_feedYield_handler' (inTry : Bool) (x : Exn) :
    Spec Step (do (if inTry then onDisconnect else pure ()); throwE (.outer x) : M Unit) := by
  apply spec_bind step_po
  · split
    · exact step_onDisconnect
    · exact spec_pure step_po ()
  · intro _; exact spec_throwE step_po _

/-- an event leaving `feed`: it is on the trace, whatever the application and the timers do afterwards -/
theorem grows_feedYield (b : Bool) (e : Event) (s s' : Sys) (he : onEvent e s = .ok () s') :
    Grows (pushEv e s') (feedYield b e s).state := by
  unfold feedYield
  apply grows_tryC
  · rw [bind_ok he]
    apply grows_bind
    · exact Grows.of_step (Pong.yieldEv_step_from_push e s')
    · intro _ s; exact Grows.of_step (step_regular s)
  · intro x s; exact Grows.of_step (step_feedYield_handler' b x s)

theorem step_afterReady : Spec Step (do modS (fun s => { s with parsedResponse := true }); notClosed : M Bool) :=
  spec_bind step_po (spec_modS (fun _ => ⟨rfl, rfl, id, id, rfl, id, [], rfl⟩)) (fun _ => spec_notClosed step_po)

theorem step_restOfRead (rest : Bytes) (go : Bool) :
    Spec Step (if go then (do let _ ← feedLoop rest; pure () : M Unit) else pure ()) := by
  cases go
  · exact spec_pure step_po ()
  · exact spec_bind step_po (step_feedLoop rest) (fun _ => spec_pure step_po ())

theorem arrive_readyG (c : Bytes) (s : Sys) (h : HP s) (i : Nat) (acc : Http.Accepted)
    (hsome : findSep Gen.headerSep (s.p.buf ++ c) = some i) (hlen : i + 4 ≤ Gen.headerMax)
    (hok : Http.onResponse s.cfg.v.strictAccept s.cfg.challenge
            (Http.parseResponse ((s.p.buf ++ c).take (i + 4))) = .ok acc) :
    ∃ X, hist X.trace = .ready acc.protocol acc.deflate.isSome :: hist s.trace ∧ Grows X (wsFeed c s).state := by
  have hfb := feedBody_terminated_ok s c i h.cont hsome hlen
  let s1 := readyPrep acc (headerDone s)
  let X := pushEv (.ready acc.protocol acc.deflate.isSome) (Timers.readyState s1)
  refine ⟨X, rfl, ?_⟩
  have g1 : Grows X (feedYield true (.ready acc.protocol acc.deflate.isSome) s1).state :=
    grows_feedYield true _ s1 _ (Timers.onEvent_ready _ _ s1)
  have g2 : Grows X (onOut (.header ((s.p.buf ++ c).take (i + 4))) (headerDone s)).state := by
    rw [onOut_accept (headerDone s) _ acc hok]
    exact grows_bind g1 (fun _ s => Grows.of_step (step_afterReady s))
  have g3 : Grows X (feedBody c s).state := by
    rw [hfb]
    exact grows_bind g2 (fun go s => Grows.of_step (step_restOfRead _ go s))
  rw [wsFeed_eq]
  simp only [h.closed, Bool.false_eq_true, if_false]
  exact g3.trans (Grows.of_step (wsWrap_step _))

/-- at most one more event, and it is a `Disconnected` (histories newest first) -/
def Tail1 (a b : List Event) : Prop := a = b ∨ ∃ k g, a = .disconnected k g :: b

theorem closeYield_any (e : Event) (s : Sys) :
    hist ((do closeSocket; yieldEv e : M Unit) s).state.trace = e :: hist s.trace ∧
    ((do closeSocket; yieldEv e : M Unit) s).state.sockOpen = false ∧
    ((do closeSocket; yieldEv e : M Unit) s).state.selOpen = s.selOpen := by
  obtain ⟨s2, l2, h2, so2, _, se2, t2, n2⟩ := E2E.closeSocket_trace s
  rw [bind_ok h2]
  have hk := Monitor.yieldEv_keeps e s2
  have hst := step_yieldEv e s2
  obtain ⟨l, hl, nl⟩ := hk.trace
  refine ⟨?_, hst.sockMono so2, hst.selKeep.trans se2⟩
  rw [hl, hist_append, hist_nonEv l (fun o ho => Monitor.Obs.quiet.isEv (nl o ho))]
  show hist (.ev e :: s2.trace) = _
  rw [hist_cons_ev, t2, hist_append, hist_nonEv l2 (fun o ho => by rw [n2 o ho]; rfl)]
  rfl

theorem selClose_any (s : Sys) :
    ∃ s', selClose s = .ok () s' ∧ hist s'.trace = hist s.trace ∧ s'.selOpen = false ∧ s'.sockOpen = s.sockOpen := by
  obtain ⟨s', h, h1, h2, t, ht, nt⟩ := selClose_spec s
  refine ⟨s', h, ?_, h2, h1⟩
  rw [ht, hist_append, hist_nonEv t nt]; rfl

theorem runFinally_any (x : Exn) (s : Sys) :
    hist (runFinally x s).state.trace = hist s.trace ∧ (runFinally x s).state.selOpen = false ∧
    (s.sockOpen = false → (runFinally x s).state.sockOpen = false) := by
  unfold runFinally
  rw [getS_bind]
  have h1 : ∃ s1, (if s.cfg.v.cleanup then closeSocket else pure ()) s = .ok () s1 ∧ hist s1.trace = hist s.trace ∧
      (s.sockOpen = false → s1.sockOpen = false) := by
    split
    · obtain ⟨s2, l2, h2, so2, _, _, t2, n2⟩ := E2E.closeSocket_trace s
      exact ⟨s2, h2, by rw [t2, hist_append, hist_nonEv l2 (fun o ho => by rw [n2 o ho]; rfl)]; rfl, fun _ => so2⟩
    · exact ⟨s, rfl, rfl, id⟩
  obtain ⟨s1, e1, hh1, hs1⟩ := h1
  rw [bind_ok e1]
  obtain ⟨s2, e2, hh2, hsel, hso⟩ := selClose_any s1
  rw [bind_ok e2]
  exact ⟨hh2.trans hh1, hsel, fun h0 => by show s2.sockOpen = false; rw [hso]; exact hs1 h0⟩

theorem onLoopEnd_cases (r : Option Exn) (s : Sys) :
    (∃ k g, onLoopEnd r s = (do closeSocket; yieldEv (.disconnected k g) : M Unit) s) ∨
    (∃ y, onLoopEnd r s = .err y s) := by
  unfold onLoopEnd
  split
  all_goals first
    | exact Or.inl ⟨_, _, rfl⟩
    | exact Or.inr ⟨_, rfl⟩

/-- **`run()` after the loop, any application**: whatever the loop's result, at most one `Disconnected` is added,
    the selector ends closed, and a socket that was closed stays closed -/
theorem finish_any (env : List EnvStep) (sA : Sys) :
    Tail1 (hist (tryC (do runBody env; selClose) runFinally sA).state.trace) (hist (loop env sA).state.trace) ∧
    (tryC (do runBody env; selClose) runFinally sA).state.selOpen = false ∧
    ((loop env sA).state.sockOpen = false → (tryC (do runBody env; selClose) runFinally sA).state.sockOpen = false) := by
  have hb : ∃ r, runBody env sA = onLoopEnd r (loop env sA).state := by
    cases hl : loop env sA with
    | ok u s1 => exact ⟨none, runBody_of_loop_okV env sA s1 hl⟩
    | err y s1 => exact ⟨some y, runBody_of_loop_err env sA s1 y hl⟩
  obtain ⟨r, hb⟩ := hb
  generalize (loop env sA).state = s1 at hb ⊢
  rcases onLoopEnd_cases r s1 with ⟨k, g, hc⟩ | ⟨y, hc⟩
  · obtain ⟨hh, hso, hse⟩ := closeYield_any (.disconnected k g) s1
    cases hr : (do closeSocket; yieldEv (.disconnected k g) : M Unit) s1 with
    | ok u s2 =>
      rw [hr] at hh hso
      simp only [Res.state_ok] at hh hso
      obtain ⟨s3, e3, hh3, hsel3, hso3⟩ := selClose_any s2
      have hrb : runBody env sA = .ok () s2 := hb.trans (hc.trans hr)
      rw [tryC_ok (by rw [bind_ok hrb]; exact e3)]
      exact ⟨Or.inr ⟨k, g, hh3.trans hh⟩, hsel3, fun _ => hso3.trans hso⟩
    | err x s2 =>
      rw [hr] at hh hso
      simp only [Res.state_err] at hh hso
      have hrb : runBody env sA = .err x s2 := hb.trans (hc.trans hr)
      rw [tryC_err (bind_err hrb)]
      obtain ⟨f1, f2, f3⟩ := runFinally_any x s2
      exact ⟨Or.inr ⟨k, g, f1.trans hh⟩, f2, fun _ => f3 hso⟩
  · have hrb : runBody env sA = .err y s1 := hb.trans hc
    rw [tryC_err (bind_err hrb)]
    obtain ⟨f1, f2, f3⟩ := runFinally_any y s1
    exact ⟨Or.inl f1, f2, f3⟩

theorem runAll_any (cfg : Cfg) (react : React) (env : List EnvStep) :
    hist (runAll cfg react env).trace = hist (run { cfg := cfg, react := react, env := env }).state.trace ∧
    ((run { cfg := cfg, react := react, env := env }).state.sockOpen = false → (runAll cfg react env).sockOpen = false) ∧
    ((run { cfg := cfg, react := react, env := env }).state.selOpen = false → (runAll cfg react env).selOpen = false) := by
  refine runAll_of_run (F := fun s' =>
      hist s'.trace = hist (run { cfg := cfg, react := react, env := env }).state.trace ∧
      ((run { cfg := cfg, react := react, env := env }).state.sockOpen = false → s'.sockOpen = false) ∧
      ((run { cfg := cfg, react := react, env := env }).state.selOpen = false → s'.selOpen = false))
    cfg react env ⟨rfl, id, id⟩ (fun s h => ?_) (fun s h => ⟨(hist_cons_nonEv _ _ rfl).trans h.1, h.2⟩)
  obtain ⟨s2, l2, h2, so2, _, se2, t2, n2⟩ := E2E.closeSocket_trace s
  rw [h2]
  refine ⟨?_, fun _ => so2, fun h0 => se2.trans (h.2.2 h0)⟩
  show hist s2.trace = _
  rw [t2, hist_append, hist_nonEv l2 (fun o ho => by rw [n2 o ho]; rfl)]
  exact h.1

theorem run_readyG {cfg : Cfg} {react : React} {proxy : Bool}
    (hc : cfg.connect = .ok proxy) (hw : cfg.writeFails 0 = false) (hqs : QuietStart react proxy)
    (steps rest : List EnvStep) (hq : ∀ st ∈ steps, Quiet st) (i : Nat) (acc : Http.Accepted)
    (hsep : findSep Gen.headerSep (dataOf steps) = some i) (hlen : i + 4 ≤ Gen.headerMax)
    (hok : Http.onResponse cfg.v.strictAccept cfg.challenge (Http.parseResponse ((dataOf steps).take (i + 4))) = .ok acc) :
    ∃ L T0, (runAll cfg react (steps ++ rest)).trace = L ++ T0 ∧
      hist T0 = [.ready acc.protocol acc.deflate.isSome, .connected proxy, .connecting] := by
  obtain ⟨sA, pre, d, c, post, s', e, hA, hst, hrun, hp', hidle, hb', h1, h2, hloop⟩ :=
    reach_finalG hc hw hqs steps rest hq (Or.inl (by rw [hsep]; simp))
  obtain ⟨hsome, hblock⟩ := block_at_read e hb' h2 hsep hlen
  have hcfg : s'.cfg = cfg := hidle.cfg.trans hA.cfg
  obtain ⟨X, hhX, hgX⟩ := arrive_readyG c s' hp' i acc hsome hlen
    (by rw [hcfg, ← hblock]; exact hok)
  have hgl : Grows X (loop (steps ++ rest) sA).state := by
    rw [hloop]
    cases hwf : wsFeed c s' with
    | ok u s3 =>
      rw [hwf] at hgX
      exact hgX.trans (Grows.of_step (step_loop _ s3))
    | err x s3 => rw [hwf] at hgX; exact hgX
  have hgr := grows_after_loop (steps ++ rest) sA X hgl
  rw [← hrun] at hgr
  obtain ⟨L, hL⟩ := hgr.trans (grows_runAll cfg react (steps ++ rest))
  refine ⟨L, X.trace, hL, ?_⟩
  rw [hhX, hidle.hist, hA.hist]

theorem end_of_run {cfg : Cfg} {react : React} (env : List EnvStep) (sA : Sys)
    (hrun : run { cfg := cfg, react := react, env := env } = tryC (do runBody env; selClose) runFinally sA) :
    Tail1 (hist (runAll cfg react env).trace) (hist (loop env sA).state.trace) ∧
    (runAll cfg react env).selOpen = false ∧
    ((loop env sA).state.sockOpen = false → (runAll cfg react env).sockOpen = false) := by
  obtain ⟨f1, f2, f3⟩ := finish_any env sA
  obtain ⟨a1, a2, a3⟩ := runAll_any cfg react env
  rw [hrun] at a1 a2 a3
  exact ⟨by rw [a1]; exact f1, a3 f2, fun h => a2 (f3 h)⟩

theorem run_rejectedG {cfg : Cfg} {react : React} {proxy : Bool}
    (hc : cfg.connect = .ok proxy) (hw : cfg.writeFails 0 = false) (hqs : QuietStart react proxy)
    (steps rest : List EnvStep) (hq : ∀ st ∈ steps, Quiet st) (i : Nat) (reason : Http.Str)
    (hsep : findSep Gen.headerSep (dataOf steps) = some i) (hlen : i + 4 ≤ Gen.headerMax)
    (herr : Http.onResponse cfg.v.strictAccept cfg.challenge (Http.parseResponse ((dataOf steps).take (i + 4))) = .error reason) :
    Tail1 (hist (runAll cfg react (steps ++ rest)).trace) [.rejected reason, .connected proxy, .connecting] ∧
    (runAll cfg react (steps ++ rest)).sockOpen = false ∧ (runAll cfg react (steps ++ rest)).selOpen = false := by
  obtain ⟨sA, pre, d, c, post, s', e, hA, hst, hrun, hp', hidle, hb', h1, h2, hloop⟩ :=
    reach_finalG hc hw hqs steps rest hq (Or.inl (by rw [hsep]; simp))
  obtain ⟨hsome, hblock⟩ := block_at_read e hb' h2 hsep hlen
  have hcfg : s'.cfg = cfg := hidle.cfg.trans hA.cfg
  obtain ⟨s3, hout, hres⟩ := wsFeed_rejected s' c i reason hp'.cont hp'.closed hp'.ready
    hsome hlen (by rw [hcfg, ← hblock]; exact herr)
  have hls : (loop (steps ++ rest) sA).state = s3 := by
    rw [hloop]
    rcases hres with h | ⟨x, h⟩
    · rw [h]; simp only []; rw [loop_closed _ s3 hout.closed]; rfl
    · rw [h]; rfl
  obtain ⟨t, ht, nt⟩ := hout.trace
  have hh3 : hist s3.trace = [.rejected reason, .connected proxy, .connecting] := by
    rw [ht, hist_append, hist_nonEv t (res_nonEv t nt), hist_cons_ev, hist_append]
    have : hist (if s'.sockOpen = true then [Obs.sockClose] else []) = [] := by split <;> rfl
    rw [this, hidle.hist, hA.hist]; rfl
  obtain ⟨e1, e2, e3⟩ := end_of_run (steps ++ rest) sA hrun
  rw [hls] at e1 e3
  rw [hh3] at e1
  exact ⟨e1, e3 hout.sock, e2⟩

theorem run_oversizeG {cfg : Cfg} {react : React} {proxy : Bool}
    (hc : cfg.connect = .ok proxy) (hw : cfg.writeFails 0 = false) (hqs : QuietStart react proxy)
    (steps rest : List EnvStep) (hq : ∀ st ∈ steps, Quiet st)
    (hbig : (findSep Gen.headerSep (dataOf steps) = none ∧ (dataOf steps).length > Gen.headerMax) ∨
            (∃ i, findSep Gen.headerSep (dataOf steps) = some i ∧ i + 4 > Gen.headerMax)) :
    Tail1 (hist (runAll cfg react (steps ++ rest)).trace)
      [.protocolError "expected separator" true, .connected proxy, .connecting] ∧
    (runAll cfg react (steps ++ rest)).selOpen = false := by
  have hhit : Hit (dataOf steps) := by
    rcases hbig with ⟨_, h⟩ | ⟨i, h, _⟩
    · exact Or.inr h
    · exact Or.inl (by rw [h]; simp)
  obtain ⟨sA, pre, d, c, post, s', e, hA, hst, hrun, hp', hidle, hb', h1, h2, hloop⟩ :=
    reach_finalG hc hw hqs steps rest hq hhit
  have hds : dataOf steps = dataOf pre ++ c ++ dataOf post := by rw [e, dataOf_split]
  have hbig' : (findSep Gen.headerSep (s'.p.buf ++ c) = none ∧ (s'.p.buf ++ c).length > Gen.headerMax) ∨
      (∃ i, findSep Gen.headerSep (s'.p.buf ++ c) = some i ∧ i + 4 > Gen.headerMax) := by
    rw [hb']
    rcases hbig with ⟨hn, _⟩ | ⟨i, hi, hgt⟩
    · rw [hds] at hn
      have hn' := findSep_prefix_none _ _ _ hn
      rcases h2 with h | h
      · exact absurd hn' h
      · exact Or.inl ⟨hn', h⟩
    · rw [hds] at hi
      exact (hit_resolve (dataOf pre) c (dataOf post) i h2 hi).2 hgt
  have herr : feedBody c s' = .err (.parse "expected separator") { s' with p := deadParser s'.p } := by
    rcases hbig' with ⟨a, b⟩ | ⟨i, a, b⟩
    · exact feedBody_unterminated_long s' c hp'.cont a b
    · exact feedBody_terminated_long s' c i hp'.cont a b
  obtain ⟨s2, x, hrel, hws⟩ := wsFeed_header_too_long s' { s' with p := deadParser s'.p } c hp'.closed hp'.ready herr
  have hls : (loop (steps ++ rest) sA).state = s2 := by rw [hloop, hws]; rfl
  obtain ⟨t, ht, nt, _⟩ := hrel.trace
  have hh2 : hist s2.trace = [.protocolError "expected separator" true, .connected proxy, .connecting] := by
    rw [ht, hist_append, hist_nonEv t nt]
    show hist (.ev (.protocolError "expected separator" true) :: s'.trace) = _
    rw [hist_cons_ev, hidle.hist, hA.hist]
  obtain ⟨e1, e2, _⟩ := end_of_run (steps ++ rest) sA hrun
  rw [hls, hh2] at e1
  exact ⟨e1, e2⟩

end Lomond.Core.HRun
