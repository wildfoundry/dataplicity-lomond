/-
  The socket and the selector are closed at most once (C13_Once), by a potential argument.

  `sockCloses tr` / `selCloses tr` count the `.sockClose` / `.selClose` entries of a trace.  The
  potential `sockCloses s.trace + [s.sockOpen]` is constant under every step of the library (`Bal`:
  the only step that closes the socket — `closeSocket` — logs exactly when it flips the flag; it is
  idempotent, like the real `_close_socket`) and goes up by one exactly once, when `run()` takes
  the socket `_connect()` returned; likewise for the selector.

  `Out cfg react c`: what `run()` leaves behind (`Outcome`), with the socket closed when `c`.  It is
  obtained as an instance of the proof outline of `run()` (Proofs/RunRule.lean; stage assertions
  `Opening`, `InLoop`): `c` is `True` on a normal return and `cleanup = true` on every other exit.
  That `run()` with `cleanup = true` releases socket and selector (C13), and that no selector exists
  without an accepted connection, are read off it.
-/
import Lomond.Proofs.RunAll
import Lomond.Proofs.Release
import Lomond.Proofs.LiftX
namespace Lomond.Core.Once
open Lomond Lomond.Core Lomond.Core.Monitor

def sockCloses (tr : List Obs) : Nat := tr.count .sockClose
def selCloses (tr : List Obs) : Nat := tr.count .selClose

def sockPot (s : Sys) : Nat := sockCloses s.trace + s.sockOpen.toNat
def selPot (s : Sys) : Nat := selCloses s.trace + s.selOpen.toNat

structure Bal (s s' : Sys) : Prop where
  sock : sockPot s' = sockPot s
  sel : selPot s' = selPot s

theorem bal_po : PO Bal where
  refl _ := ⟨rfl, rfl⟩
  trans h1 h2 := ⟨h2.sock.trans h1.sock, h2.sel.trans h1.sel⟩

theorem bal_same {s s' : Sys} (ht : s'.trace = s.trace) (hs : s'.sockOpen = s.sockOpen)
    (hl : s'.selOpen = s.selOpen) : Bal s s' :=
  ⟨by unfold sockPot; rw [ht, hs], by unfold selPot; rw [ht, hl]⟩

theorem bal_cons {s s' : Sys} (o : Obs) (h1 : o ≠ .sockClose) (h2 : o ≠ .selClose) (ht : s'.trace = o :: s.trace)
    (hs : s'.sockOpen = s.sockOpen) (hl : s'.selOpen = s.selOpen) : Bal s s' :=
  ⟨by unfold sockPot sockCloses; rw [ht, hs, List.count_cons_of_ne h1],
   by unfold selPot selCloses; rw [ht, hl, List.count_cons_of_ne h2]⟩

theorem writeObs_not_close {d : Bytes} {z : Option (Nat × Bytes)} {o : Obs} (ho : o = .wrFail d ∨ o = wrObs d z) :
    o ≠ .sockClose ∧ o ≠ .selClose := by
  rcases ho with rfl | rfl
  · exact ⟨fun e => (nomatch e), fun e => (nomatch e)⟩
  · cases z <;> exact ⟨fun e => (nomatch e), fun e => (nomatch e)⟩

theorem bal_tick (s : Sys) (dt : Nat) : Bal s (tick s dt) := by
  by_cases h : dt = 0
  · subst h; exact bal_po.refl s
  · rw [tick_pos s dt h]; exact bal_cons (.tick _) (fun e => nomatch e) (fun e => nomatch e) rfl rfl rfl

theorem bal_leaves : StreamLeaves Bal :=
  { bal_po with
    sockClose := fun s h => ⟨by simp [sockPot, sockCloses, h], by simp [selPot, selCloses]⟩
    key := fun s => bal_same rfl rfl rfl
    wr := fun s d o _ _ _ ho =>
      bal_cons o (writeObs_not_close (z := none) ho).1 (writeObs_not_close (z := none) ho).2 rfl rfl rfl
    wrz := fun s op pl o _ _ _ _ ho =>
      bal_cons o (writeObs_not_close (z := some (op, pl)) ho).1 (writeObs_not_close (z := some (op, pl)) ho).2
        rfl rfl rfl
    closeSent := fun s => bal_same rfl rfl rfl
    res := fun s r => bal_cons (.res r) (fun e => nomatch e) (fun e => nomatch e) rfl rfl rfl
    abandon := fun s w => bal_same rfl rfl rfl
    ev := fun s e => bal_cons (.ev e) (fun e => nomatch e) (fun e => nomatch e) rfl rfl rfl
    polled := fun s => bal_same rfl rfl rfl
    pinged := fun s _ _ => bal_same rfl rfl rfl
    becameReady := fun s => bal_same rfl rfl rfl
    gotPong := fun s => bal_same rfl rfl rfl
    disconnected := fun s => bal_same rfl rfl rfl
    closeAcked := fun s => bal_same rfl rfl rfl
    inflated := fun s hist n => bal_same rfl rfl rfl
    pushed := fun s f => bal_same rfl rfl rfl
    delivered := fun s => bal_same rfl rfl rfl
    parsed := fun s => bal_same rfl rfl rfl
    accepted := fun s d => bal_same rfl rfl rfl
    parser := fun s p' _ => bal_same rfl rfl rfl
    ticked := bal_tick }

theorem bal_closeSocket : Spec Bal closeSocket := bal_leaves.closeSocket

theorem bal_selClose : Spec Bal selClose :=
  spec_selClose bal_po (fun s h => ⟨by simp [sockPot, sockCloses], by simp [selPot, selCloses, h]⟩)

theorem bal_yieldEv (e : Event) : Spec Bal (yieldEv e) := bal_leaves.yieldEv e

theorem doActs_ok_iff (as : List Act) (s : Sys) : (∃ s', doActs as s = .ok () s') ↔ ∀ w, Act.abandon w ∉ as := by
  refine ⟨?_, fun h => ?_⟩
  · induction as generalizing s with
    | nil => exact fun _ w h => (by cases h)
    | cons a r ih =>
      unfold doActs
      rintro ⟨s', h⟩ w hm
      cases ha : doAct a s with
      | err x s1 => rw [bind_err ha] at h; cases h
      | ok u s1 =>
        rw [bind_ok ha] at h
        rcases List.mem_cons.mp hm with h1 | h1
        · subst h1; cases ha
        · exact ih s1 ⟨s', h⟩ w h1
  · cases hr : doActs as s with
    | ok u s' => exact ⟨s', rfl⟩
    | err x s' => obtain ⟨_, w, hw⟩ := raises_doActs as hr; exact absurd hw (h w)

theorem yieldEv_ok_iff (e : Event) (s : Sys) :
    (∃ s', yieldEv e s = .ok () s') ↔ ∀ w, Act.abandon w ∉ s.react (e :: s.hist) := by
  rw [yieldEv_eq]; exact doActs_ok_iff _ _

def NoConn (s : Sys) : Prop := ∀ p, Obs.ev (.connected p) ∉ s.trace

theorem Keeps.noConn {s s' : Sys} (k : Keeps s s') (h : NoConn s) : NoConn s' :=
  fun p hm => h p (mem_histOf.mp (k.ignores histOf_ignores ▸ mem_histOf.mpr hm))

theorem noConn_yieldEv (e : Event) (he : ∀ p, e ≠ .connected p) (s : Sys) (h : NoConn s) :
    NoConn (yieldEv e s).state := by
  refine Keeps.noConn (yieldEv_keeps e s) ?_
  intro p hm
  rcases List.mem_cons.mp hm with h1 | h1
  · cases h1; exact he p rfl
  · exact h p h1

/-- `run()` took a socket from `_connect()`: it was asked for one (the application did not abandon
    the iterator at `Connecting`) and `_connect()` returned one -/
def SocketOpened (cfg : Cfg) (react : React) : Prop :=
  (∃ p, cfg.connect = .ok p ∨ cfg.connect = .selFail p) ∧ ∀ w, Act.abandon w ∉ react [.connecting]

/-- `run()` created a selector: `_connect()` returned a socket for which a selector can be made, the
    `Connected` event was yielded (the upgrade request was written) and the application did not
    abandon the iterator there -/
def SelectorCreated (cfg : Cfg) (react : React) (tr : List Obs) : Prop :=
  ∃ p, cfg.connect = .ok p ∧ Obs.ev (.connected p) ∈ tr ∧ ∀ w, Act.abandon w ∉ react [.connected p, .connecting]

structure Outcome (cfg : Cfg) (react : React) (s : Sys) : Prop where
  sock : sockPot s = 1 ↔ SocketOpened cfg react
  sock01 : sockPot s ≤ 1
  sel : selCloses s.trace = 1 ↔ SelectorCreated cfg react s.trace
  sel01 : selCloses s.trace ≤ 1
  selClosed : s.selOpen = false
  selSock : SelectorCreated cfg react s.trace → SocketOpened cfg react

theorem selCloses_zero {s : Sys} (h : selPot s = 0) : selCloses s.trace = 0 ∧ s.selOpen = false := by
  unfold selPot at h
  cases hs : s.selOpen with
  | true => rw [hs] at h; simp at h
  | false => rw [hs] at h; simp at h; exact ⟨h, rfl⟩

theorem mem_of_traceExt {s s' : Sys} (st : Step s s') {o : Obs} (h : o ∈ s.trace) : o ∈ s'.trace := by
  exact Grows.mem st.traceExt h

theorem grows_of_step {m : M α} (h : Spec Step m) : Spec Grows m := fun s => (h s).traceExt

theorem outcome_none (cfg : Cfg) (react : React) (s' : Sys) (a : sockPot s' = 0) (b : selPot s' = 0)
    (hno : ¬ SocketOpened cfg react) (hnc : NoConn s') : Outcome cfg react s' := by
  obtain ⟨z1, z2⟩ := selCloses_zero b
  have hns : ¬ SelectorCreated cfg react s'.trace := by
    rintro ⟨p, _, hm, _⟩
    exact absurd hm (hnc p)
  exact ⟨⟨fun h => (by rw [a] at h; cases h), fun h => absurd h hno⟩, by omega,
    ⟨fun h => (by rw [z1] at h; cases h), fun h => absurd h hns⟩, by omega, z2, fun h => absurd h hns⟩

variable {cfg : Cfg} {react : React}

def Out (cfg : Cfg) (react : React) (c : Prop) (s : Sys) : Prop :=
  Outcome cfg react s ∧ (c → s.sockOpen = false)

theorem Out.weaken {c c' : Prop} {s : Sys} (h : Out cfg react c s) (hc : c' → c) : Out cfg react c' s :=
  ⟨h.1, fun x => h.2 (hc x)⟩

/-- between `Connecting` and `Connected` (`Opening`): socket potential `a`, no selector yet -/
structure Opening (cfg : Cfg) (react : React) (a : Nat) (s : Sys) : Prop where
  sock : sockPot s = a
  sel : selPot s = 0
  noConn : NoConn s
  react : s.react = react
  cfg : s.cfg = cfg
  hist : s.hist = [.connecting]

theorem Opening.next {a : Nat} {s s' : Sys} (h : Opening cfg react a s) (b : Bal s s') (k : Keeps s s')
    (st : Step s s') : Opening cfg react a s' :=
  ⟨b.sock.trans h.sock, b.sel.trans h.sel, Keeps.noConn k h.noConn, st.react.trans h.react,
    st.cfg.trans h.cfg, k.hist.trans h.hist⟩

/-- from `Connected` on: one socket, selector potential `sel` -/
structure InLoop (cfg : Cfg) (proxy sel : Bool) (s : Sys) : Prop where
  sock : sockPot s = 1
  sel : selPot s = sel.toNat
  conn : Obs.ev (.connected proxy) ∈ s.trace
  cfg : s.cfg = cfg

theorem InLoop.next {proxy sel : Bool} {s s' : Sys} (h : InLoop cfg proxy sel s) (b : Bal s s')
    (g : Grows s s') (c : s'.cfg = s.cfg) : InLoop cfg proxy sel s' :=
  ⟨b.sock.trans h.sock, b.sel.trans h.sel, g.mem h.conn, c.trans h.cfg⟩

theorem sockPot_zero {s : Sys} (h : sockPot s = 0) : s.sockOpen = false := by
  unfold sockPot at h
  cases hs : s.sockOpen with
  | false => rfl
  | true => rw [hs] at h; simp at h

theorem sockPot_open {s : Sys} (h : sockPot s = 0) : sockPot ({ s with sockOpen := true } : Sys) = 1 := by
  unfold sockPot at h ⊢
  show sockCloses s.trace + 1 = 1
  omega

theorem outcome_noSel {s' : Sys} (ho : SocketOpened cfg react) (a : sockPot s' = 1) (b : selPot s' = 0)
    (c : ¬ SelectorCreated cfg react s'.trace) : Outcome cfg react s' := by
  obtain ⟨z1, z2⟩ := selCloses_zero b
  exact ⟨⟨fun _ => ho, fun _ => a⟩, by omega,
    ⟨fun h => (by rw [z1] at h; cases h), fun h => (c h).elim⟩, by omega, z2, fun _ => ho⟩

theorem outcome_loop {s' : Sys} {proxy sel : Bool} (ho : SocketOpened cfg react)
    (hcn : cfg.connect = if sel then .ok proxy else .selFail proxy)
    (hna : ∀ w, Act.abandon w ∉ react [.connected proxy, .connecting])
    (h : InLoop cfg proxy sel s') (hfin : s'.selOpen = false) : Outcome cfg react s' := by
  have c3 : selCloses s'.trace = sel.toNat := by
    have q := h.sel
    unfold selPot at q; rw [hfin] at q; simpa using q
  refine ⟨⟨fun _ => ho, fun _ => h.sock⟩, by rw [h.sock]; exact Nat.le_refl 1, ?_,
    by rw [c3]; exact Bool.toNat_le sel, hfin, fun _ => ho⟩
  rw [c3]
  cases sel
  · constructor
    · intro h; cases h
    · rintro ⟨p, hc, _⟩; simp at hcn; rw [hcn] at hc; cases hc
  · exact ⟨fun _ => ⟨proxy, by simpa using hcn, h.conn, hna⟩, fun _ => rfl⟩

theorem not_created_of_abandon {proxy sel : Bool}
    (hcn : cfg.connect = if sel then .ok proxy else .selFail proxy)
    (h : ¬ ∀ w, Act.abandon w ∉ react [.connected proxy, .connecting]) (tr : List Obs) :
    ¬ SelectorCreated cfg react tr := by
  rintro ⟨p, hc, _, hna⟩
  cases sel
  · simp at hcn; rw [hcn] at hc; cases hc
  · simp at hcn; rw [hcn] at hc; cases hc; exact h hna

section Loop
variable {proxy sel : Bool} (ho : SocketOpened cfg react)
  (hcn : cfg.connect = if sel then .ok proxy else .selFail proxy)
  (hna : ∀ w, Act.abandon w ∉ react [.connected proxy, .connecting])
include ho hcn hna

theorem out_selClose {c : Prop} (s : Sys) (h : InLoop cfg proxy sel s) (hc : c → s.sockOpen = false) :
    Out cfg react c (selClose s).state :=
  ⟨outcome_loop ho hcn hna (h.next (bal_selClose s) (let ⟨l, e, _⟩ := (keeps_selClose s).trace; ⟨l, e⟩) (by
      unfold selClose; split <;> rfl)) (selClose_state s).1,
    fun x => (selClose_state s).2.trans (hc x)⟩

omit ho hcn hna in
theorem tri_onLoopEnd_out (r : Option Exn) :
    Tri (InLoop cfg proxy sel) (onLoopEnd r) (fun _ s => InLoop cfg proxy sel s ∧ s.sockOpen = false)
      (fun _ => InLoop cfg proxy sel) := by
  intro s hs
  have b := spec_onLoopEnd bal_po r bal_closeSocket (fun _ _ => bal_yieldEv _) s
  have st := spec_onLoopEnd step_po r step_closeSocket (fun _ _ => step_yieldEv _) s
  cases h : onLoopEnd r s with
  | ok a s' => rw [h] at b st; exact ⟨hs.next b st.traceExt st.cfg, onLoopEnd_sock h⟩
  | err x s' => rw [h] at b st; exact hs.next b st.traceExt st.cfg

theorem tri_runFinally_out (x : Exn) :
    Tri (InLoop cfg proxy sel) (runFinally x) (fun _ => Out cfg react True)
      (fun _ => Out cfg react (cfg.v.cleanup = true)) := by
  unfold runFinally
  exact tri_getS_bind (fun s0 => tri_bind
    (B := fun _ s => InLoop cfg proxy sel s ∧ (cfg.v.cleanup = true → s.sockOpen = false))
    (tri_ite _
      (fun _ => tri_noRaise noRaise_closeSocket (fun s h =>
        ⟨h.1.next (bal_closeSocket s) (step_closeSocket s).traceExt (step_closeSocket s).cfg,
          fun _ => (closeSocket_state s).1⟩))
      (fun hn => tri_pure (fun s h => ⟨h.1, fun hc => absurd (by
        have e : s0.cfg = cfg := h.2 ▸ h.1.cfg
        rw [e]; exact hc) hn⟩)))
    (fun _ => tri_bind (B := fun _ => Out cfg react (cfg.v.cleanup = true))
      (tri_noRaise selClose_ne_err (fun s h => out_selClose ho hcn hna s h.1 h.2))
      (fun _ => tri_throwE (fun _ h => h))))

theorem tri_runLoopL_out {l : M Unit} (hl : Spec Bal l) (hst : Spec Step l) :
    Tri (InLoop cfg proxy sel) (runLoopL l) (fun _ => Out cfg react True)
      (fun _ => Out cfg react (cfg.v.cleanup = true)) :=
  tri_runLoopL (tri_state.2 (fun s h => h.next (hl s) (hst s).traceExt (hst s).cfg))
    ((tri_onLoopEnd_out none).weaken (fun _ h => h) (fun _ _ h => h) (fun _ _ h => h))
    (fun x => tri_onLoopEnd_out (some x))
    (tri_noRaise selClose_ne_err (fun s h => out_selClose ho hcn hna s h.1 (fun _ => h.2)))
    (tri_runFinally_out ho hcn hna)

end Loop

/-- `yield Connected`: resumed (the event is on the trace, the application did not abandon there), or
    abandoned -/
theorem tri_yield_connected_out (proxy : Bool) (s0 : Sys) :
    Tri (fun s => Opening cfg react 1 s ∧ s = s0) (yieldEv (.connected proxy))
      (fun _ s => InLoop cfg proxy false s ∧ ∀ w, Act.abandon w ∉ react [.connected proxy, .connecting])
      (fun _ s => sockPot s = 1 ∧ selPot s = 0 ∧ s0.cfg = cfg ∧
        ¬ ∀ w, Act.abandon w ∉ react [.connected proxy, .connecting]) := by
  intro s hs
  obtain ⟨hm, rfl⟩ := hs
  have b := bal_yieldEv (.connected proxy) s
  have k := yieldEv_keeps (.connected proxy) s
  have st := step_yieldEv (.connected proxy) s
  have hok := yieldEv_ok_iff (.connected proxy) s
  rw [hm.react, hm.hist] at hok
  cases hy : yieldEv (.connected proxy) s with
  | ok u s1 =>
    rw [hy] at b k st
    obtain ⟨lq, e, _⟩ := k.trace
    have e' : s1.trace = lq ++ (.ev (.connected proxy) :: s.trace) := e
    exact ⟨⟨b.sock.trans hm.sock, b.sel.trans hm.sel, by rw [e']; exact List.mem_append_right _ List.mem_cons_self,
      st.cfg.trans hm.cfg⟩, hok.mp ⟨s1, hy⟩⟩
  | err x s1 =>
    rw [hy] at b
    exact ⟨b.sock.trans hm.sock, b.sel.trans hm.sel, hm.cfg, fun hna => by
      obtain ⟨s', hs'⟩ := hok.mpr hna
      rw [hy] at hs'; cases hs'⟩

theorem out_closeYield_fail (ho : SocketOpened cfg react) (k : String) (s : Sys) (h : Opening cfg react 1 s) :
    Out cfg react True ((do closeSocket; yieldEv (.connectFail k) : M Unit) s).state := by
  have b2 := spec_bind bal_po bal_closeSocket (fun _ => bal_yieldEv (.connectFail k)) s
  have n2 : NoConn ((do closeSocket; yieldEv (.connectFail k) : M Unit) s).state := by
    rw [bind_ok (LiftX.closeSocket_is_ok s)]
    exact noConn_yieldEv _ (fun p h => by cases h) _ (Keeps.noConn (keeps_closeSocket s) h.noConn)
  exact ⟨outcome_noSel ho (b2.sock.trans h.sock) (b2.sel.trans h.sel) (fun ⟨p, _, hm, _⟩ => n2 p hm),
    fun _ => closeThenYield _ s⟩

theorem tri_afterConnectL_out {l : M Unit} (hl : Spec Bal l) (hst : Spec Step l) (proxy sel : Bool)
    (hcn : cfg.connect = if sel then .ok proxy else .selFail proxy)
    (hab : ∀ w, Act.abandon w ∉ react [.connecting]) :
    Tri (Opening cfg react 0) (afterConnectL l proxy sel) (fun _ => Out cfg react True)
      (fun _ => Out cfg react (cfg.v.cleanup = true)) := by
  have ho : SocketOpened cfg react := by
    refine ⟨⟨proxy, ?_⟩, hab⟩
    cases sel
    · exact Or.inr hcn
    · exact Or.inl hcn
  exact tri_afterConnectL proxy sel (A' := Opening cfg react 1) (B := fun _ => Opening cfg react 1)
    (D := fun s => InLoop cfg proxy sel s ∧ ∀ w, Act.abandon w ∉ react [.connected proxy, .connecting])
    (fun s h => ⟨sockPot_open h.sock, h.sel, h.noConn, h.react, h.cfg, h.hist⟩)
    (fun s0 => tri_noRaise (write_ne_err _ _) (fun s h =>
      h.1.next (bal_leaves.write _ s) (keeps_write _ _ s) (step_write _ _ s)))
    (fun r _ => (tri_state.2 (out_closeYield_fail ho _)).weaken (fun _ h => h) (fun _ _ h => h)
      (fun _ _ h => h.weaken (fun _ => trivial)))
    (fun r _ => tri_yieldConnected proxy (tri_yield_connected_out proxy)
      (fun s0 x s _ h => ⟨outcome_noSel ho ((bal_closeSocket s).sock.trans h.1)
        ((bal_closeSocket s).sel.trans h.2.1) (not_created_of_abandon hcn h.2.2.2 _),
        fun _ => (closeSocket_state s).1⟩)
      (fun s0 x s hn h => ⟨outcome_noSel ho h.1 h.2.1 (not_created_of_abandon hcn h.2.2.2 _),
        fun hc => absurd (by rw [h.2.2.1]; exact hc) hn⟩))
    (fun s h => ⟨⟨h.1.sock, by
      show selCloses s.trace + sel.toNat = sel.toNat
      rw [(selCloses_zero h.1.sel).1, Nat.zero_add], h.1.conn, h.1.cfg⟩, h.2⟩)
    (fun s hs => tri_runLoopL_out ho hcn hs.2 hl hst s hs.1)

theorem tri_runL_out {l : M Unit} (hl : Spec Bal l) (hst : Spec Step l) (cfg : Cfg) (react : React)
    (env : List EnvStep) :
    Tri (fun s => s = initSys cfg react env) (runL l) (fun _ => Out cfg react True)
      (fun _ => Out cfg react (cfg.v.cleanup = true)) := by
  refine tri_runL (A1 := fun s => Opening cfg react 0 s ∧ ∀ w, Act.abandon w ∉ react [.connecting]) ?_
    (fun k => (tri_state.2 (fun s h => ?_)).weaken (fun _ h => h) (fun _ _ h => h)
      (fun _ _ h => Out.weaken h (fun _ => trivial)))
    (fun p s hs => tri_afterConnectL_out hl hst p true (by rw [← hs.1.1.cfg]; exact hs.2) hs.1.2 s hs.1.1)
    (fun p s hs => tri_afterConnectL_out (spec_throwE bal_po _) (spec_throwE step_po _) p false
      (by rw [← hs.1.1.cfg]; exact hs.2) hs.1.2 s hs.1.1)
  · -- `yield Connecting`
    intro s hs
    subst hs
    have b0 := bal_yieldEv .connecting (initSys cfg react env)
    have k0 := yieldEv_keeps .connecting (initSys cfg react env)
    have st0 := step_yieldEv .connecting (initSys cfg react env)
    have hok := yieldEv_ok_iff .connecting (initSys cfg react env)
    have n0 : NoConn (pushEv .connecting (initSys cfg react env)) := by
      intro p hm
      rcases List.mem_cons.mp hm with h | h <;> cases h
    cases hy : yieldEv .connecting (initSys cfg react env) with
    | err x s1 =>
      rw [hy] at b0 k0
      refine ⟨outcome_none cfg react s1 b0.sock b0.sel ?_ (Keeps.noConn k0 n0), fun _ => sockPot_zero b0.sock⟩
      rintro ⟨_, hab⟩
      obtain ⟨s', hs'⟩ := hok.mpr hab
      rw [hy] at hs'; cases hs'
    | ok u s1 =>
      rw [hy] at b0 k0 st0
      exact ⟨⟨b0.sock, b0.sel, Keeps.noConn k0 n0, st0.react, st0.cfg, k0.hist⟩, hok.mp ⟨s1, hy⟩⟩
  · -- `_connect()` failed: no socket
    have b1 := bal_yieldEv (.connectFail k) s
    refine ⟨outcome_none cfg react _ (b1.sock.trans h.1.1.sock) (b1.sel.trans h.1.1.sel) ?_
      (noConn_yieldEv _ (fun p h => by cases h) s h.1.1.noConn),
      fun _ => sockPot_zero (b1.sock.trans h.1.1.sock)⟩
    rintro ⟨⟨p, hp⟩, _⟩
    rw [← h.1.1.cfg] at hp
    rcases h.2 with e | e <;> rw [e] at hp <;> rcases hp with hp | hp <;> cases hp

theorem tri_run_out (cfg : Cfg) (react : React) (env : List EnvStep) :
    Tri (fun s => s = initSys cfg react env) run (fun _ => Out cfg react True)
      (fun _ => Out cfg react (cfg.v.cleanup = true)) := by
  intro s hs
  subst hs
  rw [run_eq_runL]
  exact tri_runL_out (bal_leaves.loop env) (step_loop env) cfg react env _ rfl

theorem run_out (cfg : Cfg) (react : React) (env : List EnvStep) :
    Out cfg react (cfg.v.cleanup = true) (run (initSys cfg react env)).state :=
  tri_state.1 ((tri_run_out cfg react env).weaken (fun _ h => h)
    (fun _ _ h => Out.weaken h (fun _ => trivial)) (fun _ _ h => h)) _ rfl

theorem run_ok_closed (cfg : Cfg) (react : React) (env : List EnvStep) {s' : Sys}
    (h : run (initSys cfg react env) = .ok () s') : s'.sockOpen = false :=
  ((tri_run_out cfg react env).ok rfl h).2 trivial

theorem closeSocket_mem_ev (s : Sys) (e : Event) :
    Obs.ev e ∈ (closeSocket s).state.trace ↔ Obs.ev e ∈ s.trace := by
  unfold closeSocket
  by_cases h : s.sockOpen = true <;> simp [h]

/-- steps after `run()` (the with-block's `session.close()`, the INCOMPLETE mark) keep the outcome -/
theorem Outcome.keep {cfg : Cfg} {react : React} {s s' : Sys} (h : Outcome cfg react s) (b : Bal s s')
    (hsel : s'.selOpen = s.selOpen) (hm : ∀ p, Obs.ev (.connected p) ∈ s'.trace ↔ Obs.ev (.connected p) ∈ s.trace) :
    Outcome cfg react s' := by
  have hc : selCloses s'.trace = selCloses s.trace := by
    have := b.sel
    unfold selPot at this
    rw [hsel] at this
    omega
  have hS : SelectorCreated cfg react s'.trace ↔ SelectorCreated cfg react s.trace := by
    constructor
    · rintro ⟨p, a, m, n⟩; exact ⟨p, a, (hm p).mp m, n⟩
    · rintro ⟨p, a, m, n⟩; exact ⟨p, a, (hm p).mpr m, n⟩
  exact ⟨by rw [b.sock]; exact h.sock, by rw [b.sock]; exact h.sock01, by rw [hc, hS]; exact h.sel,
    by rw [hc]; exact h.sel01, hsel.trans h.selClosed, fun x => h.selSock (hS.mp x)⟩

/-- **what every connection leaves behind**: both potentials are 0 or 1; the socket potential is 1 iff
    a socket was taken; exactly one `selClose` iff a selector was created; no selector open -/
theorem runAll_outcome (cfg : Cfg) (react : React) (env : List EnvStep) : Outcome cfg react (runAll cfg react env) :=
  runAll_of_run cfg react env (run_out cfg react env).1
    (fun s h => h.keep (bal_closeSocket s) (closeSocket_state s).2 (fun p => closeSocket_mem_ev s _))
    (fun s h => h.keep ⟨by simp [sockPot, sockCloses], by simp [selPot, selCloses]⟩
      rfl (fun p => by simp))

end Lomond.Core.Once
