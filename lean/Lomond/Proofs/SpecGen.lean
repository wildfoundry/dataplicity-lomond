/-
  `Spec R f` for every function of Model/Core.lean and an arbitrary preorder `R`: `spec_<fn>` derives it
  from `Spec R` of the functions `<fn>` calls and from `R s s'` for the record updates it performs,
  each under the model's guard.  The hypotheses are bundled: `SendLeaves` ⊂ `TimerLeaves` ⊂
  `StreamLeaves` ⊂ `RunLeaves` list the updates themselves; `TimerCalls R Y` ⊂ `StreamCalls R Y` ask for
  the sending calls as wholes and admit only the events in `Y`; `Pong.AroundLoop` is `run()` around a
  given loop.  The loops have one rule each in `SpecX` (`specx_feedLoop`, `specx_loopJ`); `runAll_of_run`.
-/
import Lomond.Proofs.Calls
import Lomond.Proofs.Core
namespace Lomond.Core
open Lomond LiftX

/-- split every `if`/`match` in the goal, reducing `let`s in between -/
macro "splits" : tactic => `(tactic| repeat' (first | split | (simp only []; split)))

variable {R : Sys → Sys → Prop}

theorem spec_getS_bind {R : Sys → Sys → Prop} (po : PO R) {f : Sys → M α} (h : ∀ s, Spec R (f s)) :
    Spec R (getS >>= f) := spec_bind po (spec_getS po) h

theorem rel_ite {c : Prop} [Decidable c] {m k : M α} {s : Sys} (hm : c → R s (m s).state)
    (hk : ¬ c → R s (k s).state) : R s ((if c then m else k) s).state := by
  by_cases h : c
  · rw [if_pos h]; exact hm h
  · rw [if_neg h]; exact hk h

theorem spec_closeSocket (po : PO R)
    (h : ∀ s, s.sockOpen = true → R s { s with sockOpen := false, trace := .sockClose :: s.trace }) :
    Spec R closeSocket := by
  intro s; unfold closeSocket
  split
  · rename_i ho; exact h s ho
  · exact po.refl s

theorem rel_if {c : Prop} [Decidable c] {a b : Res α} {s : Sys} (ha : c → R s a.state)
    (hb : ¬ c → R s b.state) : R s (if c then a else b).state :=
  res_if (P := fun q => R s q.state) ha hb

theorem spec_write_at (po : PO R) (d : Bytes) (z : Option (Nat × Bytes)) (s : Sys)
    (h : ∀ o, s.sockOpen = true → s.closed = false → s.closing = false → (o = .wrFail d ∨ o = wrObs d z) →
      R s { s with writeCtr := s.writeCtr + 1, trace := o :: s.trace }) : R s (write d z s).state :=
  write_elim (P := fun q => R s q.state) d z s (fun _ _ => po.refl s)
    (fun h1 h2 h3 _ o ho => h o h1 h2 h3 (ho.elim (fun a => Or.inl a.2.1) (fun a => Or.inr a.2.1)))

theorem spec_write (po : PO R) (d : Bytes) (z : Option (Nat × Bytes))
    (h : ∀ s o, s.sockOpen = true → s.closed = false → s.closing = false → (o = .wrFail d ∨ o = wrObs d z) →
      R s { s with writeCtr := s.writeCtr + 1, trace := o :: s.trace }) : Spec R (write d z) :=
  fun s => spec_write_at po d z s (h s)

theorem spec_sendFrame_at (po : PO R) (op : Nat) (pl : Bytes) (c : Option Bytes) (s : Sys)
    (hkey : R s { s with keyCtr := s.keyCtr + 1 })
    (hw : ∀ d, (c.isSome = true → d = []) →
      R { s with keyCtr := s.keyCtr + 1 } (write d (c.map (Prod.mk op)) { s with keyCtr := s.keyCtr + 1 }).state) :
    R s (sendFrame op pl c s).state :=
  sendFrame_elim (P := fun q => R s q.state) op pl c s (fun _ _ => hkey) (fun d z hf => by
    rcases hf with ⟨_⟩ | ⟨plain⟩
    · exact po.trans hkey (hw d (fun h => nomatch h))
    · exact po.trans hkey (hw [] (fun _ => rfl)))

theorem spec_sendFrame (po : PO R) (op : Nat) (pl : Bytes) (c : Option Bytes)
    (hkey : ∀ s, R s { s with keyCtr := s.keyCtr + 1 })
    (hw : ∀ d, Spec R (write d (c.map (Prod.mk op)))) : Spec R (sendFrame op pl c) :=
  fun s => spec_sendFrame_at po op pl c s (hkey s) (fun d _ => hw d _)

/-- a compressed frame is only sent when a configuration is negotiated -/
theorem spec_sendData (op : Nat) (pl : Bytes) (c : Bool) (hplain : Spec R (sendFrame op pl none))
    (hz : ∀ s, s.compression.isSome = true → R s (sendFrame op [] (some pl) s).state) :
    Spec R (sendData op pl c) := by
  intro s; unfold sendData
  split
  · rename_i hc; exact hz s hc.2
  · exact hplain s

theorem spec_wsClose (po : PO R) (c : Option Nat) (r : Arg)
    (hsend : ∀ pl, Spec R (sendFrame Gen.opClose pl none))
    (hmark : ∀ s, R s { s with closing := true, sentCloseTime := some (sessionTime s) }) :
    Spec R (wsClose c r) := fun s =>
  wsClose_elim (P := fun q => R s q.state) c r s (fun _ => po.refl s) (fun _ _ _ _ => po.refl s)
    (fun _ _ _ _ _ _ _ s' e => po.trans ((hsend _).ok e) (hmark s'))

theorem spec_logRes (po : PO R) (hres : ∀ s r, R s { s with trace := .res r :: s.trace })
    {m : M ActRes} (h : Spec R m) : Spec R (logRes m) :=
  spec_bind po h (fun r s => hres s r)

theorem spec_doAct (po : PO R) (a : Act)
    (hdata : ∀ op pl c, op = Gen.opText ∨ op = Gen.opBinary → Spec R (sendData op pl c))
    (hctl : ∀ op pl, op = Gen.opPing ∨ op = Gen.opPong → pl.length ≤ 125 → Spec R (sendFrame op pl none))
    (hclose : ∀ c r, a = .close c r → Spec R (wsClose c r))
    (hsock : a = .sessionClose → Spec R closeSocket)
    (hres : ∀ s r, R s { s with trace := .res r :: s.trace })
    (hab : ∀ w, a = .abandon w → ∀ s, R s { s with abandonedWith := w }) : Spec R (doAct a) := by
  rcases doAct_elim (P := fun m => Spec R m) a (fun r _ => spec_pure po r)
      (fun op pl c h => hdata op pl c (h.elim (fun h => .inl h.1) (fun h => .inr h.1))) hctl hclose
      (fun h => spec_bind po (hsock h) (fun _ => spec_pure po _)) with ⟨w, rfl⟩ | ⟨m, e, hm⟩
  · exact hab w rfl
  · rw [e]; exact spec_logRes po hres hm

theorem calls_doAct {a : Act} (po : PO R) (hs : ∀ op pl c, Spec R (sendFrame op pl c))
    (hc : ∀ c r, a = .close c r → Spec R (wsClose c r)) (hk : a = .sessionClose → Spec R closeSocket)
    (hl : ∀ s r, R s { s with trace := .res r :: s.trace })
    (ha : ∀ w, a = .abandon w → ∀ s, R s { s with abandonedWith := w }) : Spec R (doAct a) :=
  spec_doAct po a (fun op pl c _ => spec_sendData op pl c (hs op pl none) (fun s _ => hs op [] (some pl) s))
    (fun op pl _ _ => hs op pl none) hc hk hl ha

theorem spec_doActs (po : PO R) (as : List Act) (h : ∀ a ∈ as, Spec R (doAct a)) : Spec R (doActs as) := by
  induction as with
  | nil => exact spec_pure po ()
  | cons a r ih =>
    unfold doActs
    exact spec_bind po (h a List.mem_cons_self) (fun _ => ih (fun b hb => h b (List.mem_cons_of_mem _ hb)))

theorem spec_yieldEv (po : PO R) (e : Event)
    (hev : ∀ s, R s { s with trace := .ev e :: s.trace, hist := e :: s.hist })
    (hacts : ∀ s : Sys, Spec R (doActs (s.react s.hist))) : Spec R (yieldEv e) :=
  spec_bind po (spec_modS hev) (fun _ => spec_getS_bind po hacts)

structure SendLeaves (R : Sys → Sys → Prop) : Prop extends PO R where
  sockClose : ∀ s, s.sockOpen = true → R s { s with sockOpen := false, trace := .sockClose :: s.trace }
  key : ∀ s, R s { s with keyCtr := s.keyCtr + 1 }
  wr : ∀ s d o, s.sockOpen = true → s.closed = false → s.closing = false → (o = .wrFail d ∨ o = .wr d) →
    R s { s with writeCtr := s.writeCtr + 1, trace := o :: s.trace }
  wrz : ∀ s op plain o, s.sockOpen = true → s.closed = false → s.closing = false →
    s.compression.isSome = true → (o = .wrFail [] ∨ o = .wrz op plain) →
    R s { s with writeCtr := s.writeCtr + 1, trace := o :: s.trace }
  closeSent : ∀ s, R s { s with closing := true, sentCloseTime := some (sessionTime s) }
  res : ∀ s r, R s { s with trace := .res r :: s.trace }
  abandon : ∀ s w, R s { s with abandonedWith := w }
  ev : ∀ s e, R s { s with trace := .ev e :: s.trace, hist := e :: s.hist }


theorem SendLeaves.closeSocket (L : SendLeaves R) : Spec R closeSocket := spec_closeSocket L.toPO L.sockClose

theorem SendLeaves.write (L : SendLeaves R) (d : Bytes) : Spec R (write d none) :=
  spec_write L.toPO d none (fun s o => L.wr s d o)

theorem SendLeaves.sendFrame (L : SendLeaves R) (op : Nat) (pl : Bytes) : Spec R (sendFrame op pl none) :=
  spec_sendFrame L.toPO op pl none L.key L.write

theorem SendLeaves.sendData (L : SendLeaves R) (op : Nat) (pl : Bytes) (c : Bool) : Spec R (sendData op pl c) :=
  spec_sendData op pl c (L.sendFrame op pl) (fun s hc =>
    spec_sendFrame_at L.toPO op [] (some pl) s (L.key s) (fun d hd =>
      spec_write_at L.toPO d (some (op, pl)) _ (fun o h1 h2 h3 => hd rfl ▸ L.wrz _ op pl o h1 h2 h3 hc)))

theorem SendLeaves.wsClose (L : SendLeaves R) (c : Option Nat) (r : Arg) : Spec R (wsClose c r) :=
  spec_wsClose L.toPO c r (L.sendFrame _) L.closeSent

theorem SendLeaves.doAct (L : SendLeaves R) (a : Act) : Spec R (doAct a) :=
  spec_doAct L.toPO a (fun op pl c _ => L.sendData op pl c) (fun op pl _ _ => L.sendFrame op pl)
    (fun c r _ => L.wsClose c r) (fun _ => L.closeSocket) L.res
    (fun w _ s => L.abandon s w)

theorem SendLeaves.doActs (L : SendLeaves R) (as : List Act) : Spec R (doActs as) := spec_doActs L.toPO as (fun a _ => L.doAct a)

theorem SendLeaves.yieldEv (L : SendLeaves R) (e : Event) : Spec R (yieldEv e) :=
  spec_yieldEv L.toPO e (fun s => L.ev s e) (fun _ => L.doActs _)


theorem spec_checkPoll (po : PO R) (hpoll : ∀ s, R s { s with pollStart := some (sessionTime s) })
    (hy : Spec R (yieldEv .poll)) : Spec R checkPoll := by
  unfold checkPoll
  exact fun s => rel_ite (fun _ => po.trans (hpoll s) (hy _)) (fun _ => po.refl s)

theorem spec_checkAutoPing (po : PO R)
    (hping : ∀ s, s.cfg.pingRate ≠ 0 → sessionTime s > s.nextPing →
      R s { s with nextPing := ceilDiv (sessionTime s) s.cfg.pingRate * s.cfg.pingRate })
    (hsend : Spec R (sendFrame Gen.opPing [] none)) : Spec R checkAutoPing := by
  unfold checkAutoPing
  exact fun s => rel_ite
    (fun h => po.trans (hping s h.1 h.2) (spec_bind po hsend (fun _ => spec_pure po ()) _))
    (fun _ => po.refl s)

theorem spec_checkPingTimeout (po : PO R) (hy : Spec R (yieldEv .unresponsive)) :
    Spec R checkPingTimeout := by
  unfold checkPingTimeout
  refine spec_getS_bind po (fun s => ?_)
  simp only []
  split
  · exact spec_bind po hy (fun _ => spec_throwE po _)
  · exact spec_pure po _

theorem spec_checkCloseTimeout (po : PO R) : Spec R checkCloseTimeout := by
  unfold checkCloseTimeout
  refine spec_getS_bind po (fun s => ?_)
  simp only []
  split
  · split
    · exact spec_pure po _
    · split
      · exact spec_throwE po _
      · exact spec_pure po _
  · exact spec_pure po _

theorem spec_regular (po : PO R) (h1 : Spec R checkPoll) (h2 : Spec R checkAutoPing)
    (h3 : Spec R checkPingTimeout) : Spec R regular := by
  unfold regular
  refine spec_getS_bind po (fun s => ?_)
  split
  · exact spec_bind po h1 (fun _ => spec_bind po h2 (fun _ => spec_bind po h3 (fun _ => spec_checkCloseTimeout po)))
  · exact spec_pure po _

/-- `_on_event`: `Ready` starts the timers, a Ping is answered (auto-pong on, at most 125 bytes), a
    Pong is noted -/
theorem spec_onEvent (po : PO R) (e : Event)
    (hready : ∀ p d, e = .ready p d → ∀ s,
      R s { s with lastPong := 0, nextPing := 0, startTime := some s.now, ready := true })
    (hpong : ∀ d, e = .pong d → ∀ s, R s { s with lastPong := sessionTime s })
    (hsend : ∀ d, e = .ping d → d.length ≤ 125 → ∀ s, s.cfg.autoPong = true →
      R s (sendFrame Gen.opPong d none s).state) : Spec R (onEvent e) := by
  intro s; unfold onEvent
  split
  · exact hready _ _ rfl s
  · refine rel_if (fun ha => rel_if (fun _ => po.refl s) (fun hl => ?_)) (fun _ => po.refl s)
    have h := hsend _ rfl (Nat.le_of_not_lt hl) s ha
    split
    · rename_i hr; rw [hr] at h; exact h
    · rename_i hr; rw [hr] at h; exact h
  · exact hpong _ rfl s
  · exact po.refl s

theorem spec_onDisconnect (po : PO R) (hsock : Spec R closeSocket)
    (hdisc : ∀ s, R s { s with closing := false, closed := true }) : Spec R onDisconnect :=
  spec_bind po hsock (fun _ => spec_modS hdisc)

theorem spec_feedYield (po : PO R) (b : Bool) (e : Event) (hev : Spec R (onEvent e))
    (hy : Spec R (yieldEv e)) (hreg : Spec R regular) (hdisc : Spec R onDisconnect) :
    Spec R (feedYield b e) := by
  unfold feedYield
  refine spec_tryC po (spec_bind po hev (fun _ => spec_bind po hy (fun _ => hreg))) (fun x => ?_)
  refine spec_bind po ?_ (fun _ => spec_throwE po _)
  split
  · exact hdisc
  · exact spec_pure po _

structure TimerUpd (R : Sys → Sys → Prop) : Prop where
  polled : ∀ s, R s { s with pollStart := some (sessionTime s) }
  pinged : ∀ s, s.cfg.pingRate ≠ 0 → sessionTime s > s.nextPing →
    R s { s with nextPing := ceilDiv (sessionTime s) s.cfg.pingRate * s.cfg.pingRate }
  becameReady : ∀ s, R s { s with lastPong := 0, nextPing := 0, startTime := some s.now, ready := true }
  gotPong : ∀ s, R s { s with lastPong := sessionTime s }
  disconnected : ∀ s, R s { s with closing := false, closed := true }

structure TimerLeaves (R : Sys → Sys → Prop) : Prop extends SendLeaves R, TimerUpd R

/-- What the timers, `_on_event` and the receive pipeline ask of the calls below them, for a relation
    that admits only the events in `Y` at a `yield`: the calls themselves (`sendFrame` only for the
    automatic Ping and the Pong that answers a Ping) and the timers' own updates.  `TimerLeaves R` gives
    `TimerCalls R (fun _ => True)`. -/
structure TimerCalls (R : Sys → Sys → Prop) (Y : Event → Prop) : Prop extends PO R, TimerUpd R where
  closeSocket : Spec R closeSocket
  autoPing : Spec R (sendFrame Gen.opPing [] none)
  autoPong : ∀ d, d.length ≤ 125 → ∀ s, s.cfg.autoPong = true → R s (sendFrame Gen.opPong d none s).state
  wsClose : ∀ c r, Spec R (wsClose c r)
  yieldEv : ∀ e, Y e → Spec R (yieldEv e)
  poll : Y .poll
  unresponsive : Y .unresponsive

variable {Y : Event → Prop}

theorem TimerCalls.checkAutoPing (C : TimerCalls R Y) : Spec R checkAutoPing :=
  spec_checkAutoPing C.toPO C.pinged C.autoPing

theorem TimerCalls.regular (C : TimerCalls R Y) : Spec R regular :=
  spec_regular C.toPO (spec_checkPoll C.toPO C.polled (C.yieldEv _ C.poll)) C.checkAutoPing
    (spec_checkPingTimeout C.toPO (C.yieldEv _ C.unresponsive))

theorem TimerCalls.onEvent (C : TimerCalls R Y) (e : Event) : Spec R (onEvent e) :=
  spec_onEvent C.toPO e (fun _ _ _ => C.becameReady) (fun _ _ => C.gotPong) (fun d _ => C.autoPong d)

theorem TimerCalls.onDisconnect (C : TimerCalls R Y) : Spec R onDisconnect :=
  spec_onDisconnect C.toPO C.closeSocket C.disconnected

theorem TimerCalls.feedYield (C : TimerCalls R Y) (b : Bool) (e : Event) (he : Y e) : Spec R (feedYield b e) :=
  spec_feedYield C.toPO b e (C.onEvent e) (C.yieldEv e he) C.regular C.onDisconnect

theorem TimerLeaves.calls (L : TimerLeaves R) : TimerCalls R (fun _ => True) :=
  { L.toPO, L.toTimerUpd with
    closeSocket := L.closeSocket, autoPing := L.sendFrame _ _, autoPong := fun d _ s _ => L.sendFrame _ d s
    wsClose := L.wsClose, yieldEv := fun e _ => L.yieldEv e, poll := trivial, unresponsive := trivial }

theorem TimerLeaves.checkAutoPing (L : TimerLeaves R) : Spec R checkAutoPing :=
  spec_checkAutoPing L.toPO L.pinged (L.sendFrame _ _)

theorem TimerLeaves.checkPingTimeout (L : TimerLeaves R) : Spec R checkPingTimeout :=
  spec_checkPingTimeout L.toPO (L.yieldEv _)

theorem TimerLeaves.regular (L : TimerLeaves R) : Spec R regular := L.calls.regular

theorem TimerLeaves.onEvent (L : TimerLeaves R) (e : Event) : Spec R (onEvent e) := L.calls.onEvent e

theorem TimerLeaves.onDisconnect (L : TimerLeaves R) : Spec R onDisconnect := L.calls.onDisconnect

theorem TimerLeaves.feedYield (L : TimerLeaves R) (b : Bool) (e : Event) : Spec R (feedYield b e) :=
  L.calls.feedYield b e trivial

theorem TimerLeaves.mono {R' : Sys → Sys → Prop} (L : TimerLeaves R) (po' : PO R')
    (h : ∀ {s s'}, R s s' → R' s s') : TimerLeaves R' :=
  { po' with
    sockClose := fun s a => h (L.sockClose s a)
    key := fun s => h (L.key s)
    wr := fun s d o a b c e => h (L.wr s d o a b c e)
    wrz := fun s op pl o a b c e f => h (L.wrz s op pl o a b c e f)
    closeSent := fun s => h (L.closeSent s)
    res := fun s r => h (L.res s r)
    abandon := fun s w => h (L.abandon s w)
    ev := fun s e => h (L.ev s e)
    polled := fun s => h (L.polled s)
    pinged := fun s a b => h (L.pinged s a b)
    becameReady := fun s => h (L.becameReady s)
    gotPong := fun s => h (L.gotPong s)
    disconnected := fun s => h (L.disconnected s) }

/-- the events `WebSocket.feed` yields (everything else comes from `run()` itself) -/
def Lift.isFeedEvent : Event → Bool
  | .ready _ _ | .rejected _ | .text _ | .binary _ | .ping _ | .pong _
  | .closing _ _ | .closed _ _ | .protocolError _ _ => true
  | _ => false

open Lift (isFeedEvent)

theorem spec_inflateMessage (po : PO R) (j : Bytes)
    (h : ∀ s hist n, R s { s with inflHist := hist, inflOut := n }) : Spec R (inflateMessage j) := by
  intro s; unfold inflateMessage
  simp only []
  split
  · exact po.refl s
  · exact rel_if (fun _ => h s _ _) (fun _ => h s _ _)

theorem buildMessage_plain_eq (f : Frame) (fs : List Frame) (s : Sys) (h : f.rsv1 = 0 ∨ s.decompress = false) :
    buildMessage (f :: fs) s = liftE (msgOfPayload f.opcode ((f :: fs).map (·.payload)).flatten) s := by
  have hc : ¬ (f.rsv1 ≠ 0 ∧ s.decompress = true) := by
    rcases h with h | h <;> simp [h]
  simp only [buildMessage]
  rw [getS_bind]
  simp only [hc, if_false]
  rw [bind_ok (show (pure ((f :: fs).map (·.payload)).flatten : M Bytes) s = .ok _ s from rfl)]

theorem liftE_state (r : Except Exn α) (s : Sys) : (liftE r s).state = s := by
  unfold liftE; cases r <;> rfl

theorem buildMessage_plain_state (f : Frame) (fs : List Frame) (s : Sys)
    (h : f.rsv1 = 0 ∨ s.decompress = false) : (buildMessage (f :: fs) s).state = s := by
  rw [buildMessage_plain_eq f fs s h]; exact liftE_state _ s

theorem spec_buildMessage (po : PO R) (fs : List Frame) (hinfl : ∀ j, Spec R (inflateMessage j)) :
    Spec R (buildMessage fs) := by
  cases fs with
  | nil => exact spec_throwE po _
  | cons first rest =>
    exact spec_getS_bind po (fun s =>
      spec_bind po (spec_ite _ (hinfl _) (spec_pure po _)) (fun _ => spec_liftE po _))

/-- `Exception`-class errors raised by the library's own checks (no time-out, no abandonment);
    their `Disconnected` reason never reads like a time-out -/
def Exn.boring : Exn → Bool
  | .parse _ => true
  | .protocol _ => true
  | .critical _ => true
  | .other k => k != "close-timeout" && k != "ping-timeout"
  | .socketFail k => k != "close-timeout" && k != "ping-timeout"
  | _ => false

theorem LiftX.specx_checkCloseCode {I : Sys → Prop} {X : Exn → Sys → Prop}
    (hb : ∀ x s, Exn.boring x = true → I s → X x s) (c : Option Nat) : SpecX I X (checkCloseCode c) := by
  unfold checkCloseCode
  splits <;> first | exact specx_pure _ | exact specx_throwE (hb _ · rfl)

theorem LiftX.specx_argError {I : Sys → Prop} {X : Exn → Sys → Prop}
    (hb : ∀ x s, Exn.boring x = true → I s → X x s) (r : ActRes) : SpecX I X (raiseIfArgError r) := by
  unfold raiseIfArgError
  split <;> first | exact specx_pure _ | exact specx_throwE (hb _ · rfl)

theorem LiftX.specx_onClose {I : Sys → Prop} {X : Exn → Sys → Prop}
    (hb : ∀ x s, Exn.boring x = true → I s → X x s) (c : Option Nat) (r : List Nat)
    (hclosedEv : SpecX I X (feedYield true (.closed c r))) (hclosingEv : SpecX I X (feedYield true (.closing c r)))
    (hclose : SpecX I X (wsClose c (.str r)))
    (hclosed : ∀ s, I s → I { s with closing := false, closed := true })
    (hclosing : ∀ s, I s → I { s with closing := true }) : SpecX I X (onClose c r) :=
  specx_bind (specx_checkCloseCode hb c) (fun _ => specx_getS_bind (fun _ =>
    specx_ite _ (specx_pure _) (specx_ite _
      (specx_bind hclosedEv (fun _ => specx_modS hclosed))
      (specx_bind hclosingEv (fun _ => specx_bind hclose (fun r =>
        specx_bind (specx_argError hb r) (fun _ => specx_modS hclosing)))))))

theorem spec_checkCloseCode (po : PO R) (c : Option Nat) : Spec R (checkCloseCode c) :=
  (spec_iff po).mpr fun _ => specx_checkCloseCode (fun _ _ _ hs => hs) c

theorem spec_raiseIfArgError (po : PO R) (r : ActRes) : Spec R (raiseIfArgError r) :=
  (spec_iff po).mpr fun _ => specx_argError (fun _ _ _ hs => hs) r

theorem spec_onClose (po : PO R) (c : Option Nat) (r : List Nat)
    (hclosedEv : Spec R (feedYield true (.closed c r))) (hclosingEv : Spec R (feedYield true (.closing c r)))
    (hclose : Spec R (wsClose c (.str r)))
    (hclosed : ∀ s, R s { s with closing := false, closed := true })
    (hclosing : ∀ s, R s { s with closing := true }) : Spec R (onClose c r) :=
  (spec_iff po).mpr fun s0 => specx_onClose (fun _ _ _ hs => hs) c r ((spec_iff po).mp hclosedEv s0)
    ((spec_iff po).mp hclosingEv s0) ((spec_iff po).mp hclose s0) (fun s hs => po.trans hs (hclosed s))
    (fun s hs => po.trans hs (hclosing s))

def isMsgEvent : Event → Bool
  | .text _ | .binary _ | .ping _ | .pong _ => true
  | _ => false

theorem spec_onMessage (po : PO R) (m : Msg) (hclose : ∀ c r, Spec R (onClose c r))
    (hy : ∀ e, isMsgEvent e = true → Spec R (feedYield true e)) : Spec R (onMessage m) := by
  cases m with
  | close c r => exact hclose c r
  | unknown => exact spec_pure po _
  | _ => exact hy _ rfl

theorem spec_onDataFrame (po : PO R) (f : Frame)
    (hpush : ∀ s, R s { s with frames := s.frames ++ [f] })
    (hclear : ∀ s, R s { s with frames := [] })
    (hbuild : ∀ fs, Spec R (buildMessage fs)) (hmsg : ∀ m, Spec R (onMessage m)) :
    Spec R (onDataFrame f) :=
  spec_getS_bind po (fun _ => spec_ite _ (spec_throwE po _) (spec_ite _ (spec_throwE po _)
    (spec_bind po (spec_modS hpush) (fun _ => spec_ite _
      (spec_getS_bind po (fun _ => spec_bind po (hbuild _) (fun m =>
        spec_bind po (hmsg m) (fun _ => spec_modS hclear))))
      (spec_pure po _)))))

theorem spec_notClosed (po : PO R) : Spec R notClosed := fun s => po.refl s

theorem spec_onFrame (po : PO R) (f : Frame) (hbuild : ∀ fs, Spec R (buildMessage fs))
    (hmsg : ∀ m, Spec R (onMessage m)) (hdata : Spec R (onDataFrame f)) : Spec R (onFrame f) :=
  spec_ite _ (spec_bind po (hbuild _) hmsg) hdata

theorem spec_onOut (po : PO R) (o : Out)
    (hparsed : ∀ s, R s { s with parsedResponse := true })
    (haccept : ∀ s (d : Option Http.DeflateCfg), R s { s with
      compression := d, decompress := d.isSome, p := if d.isSome then { s.p with compression := true } else s.p })
    (hdisc : Spec R onDisconnect) (hrej : ∀ reason, Spec R (feedYield true (.rejected reason)))
    (hready : ∀ p d, Spec R (feedYield true (.ready p d)))
    (hframe : ∀ f, Spec R (onFrame f)) : Spec R (onOut o) := by
  cases o with
  | frame f => exact spec_bind po (hframe f) (fun _ => spec_notClosed po)
  | header data =>
    refine spec_getS_bind po (fun s => ?_)
    split
    · exact spec_bind po (spec_modS hparsed) (fun _ => spec_bind po hdisc (fun _ =>
        spec_bind po (hrej _) (fun _ => spec_pure po _)))
    · exact spec_bind po (spec_modS (fun s => haccept s _)) (fun _ => spec_bind po (hready _ _) (fun _ =>
        spec_bind po (spec_modS hparsed) (fun _ => spec_notClosed po)))

theorem LiftX.specx_feedLoop {I : Sys → Prop} {X : Exn → Sys → Prop}
    (hbad : ∀ s c x, I s → biteBytes s.cfg.v s.p c = .error x → X x { s with p := deadParser s.p })
    (hp : ∀ s c p' out, I s → biteBytes s.cfg.v s.p c = .ok (p', out) → I { s with p := p' })
    (hout : ∀ o, SpecX I X (onOut o)) (data : Bytes) : SpecX I X (feedLoop data) := by
  intro s
  refine feedLoop_induct (P := fun _ s r => I s → Sat I X r) (fun _ h => h)
    (fun _ s x _ hb hs => hbad s _ x hs hb)
    (fun _ s p' _ hb ih hs => ih (hp s _ p' _ hs hb))
    (fun _ s p' o x s2 _ hb ho hs => ?_) (fun _ s p' o s2 _ hb ho hs => ?_)
    (fun _ s p' o s2 _ hb ho ih hs => ih ?_) data s
  all_goals
    have h := hout o _ (hp s _ p' _ hs hb)
    rw [ho] at h
    exact h

theorem spec_feedLoop (po : PO R)
    (hp : ∀ s p', (s.p.cont ≠ .header → p'.cont ≠ .header) → R s { s with p := p' })
    (hout : ∀ o, Spec R (onOut o)) (data : Bytes) : Spec R (feedLoop data) :=
  (spec_iff po).mpr fun s0 => specx_feedLoop
    (fun s _ _ hs _ => po.trans hs (hp s _ id))
    (fun s _ p' _ hs hb => po.trans hs (hp s p' (biteBytes_res hb).2.2.2))
    (fun o => (spec_iff po).mp (hout o) s0) data

theorem spec_afterHeader (po : PO R) (rest : Bytes) (out : Option Out) (hout : ∀ o, Spec R (onOut o))
    (hloop : ∀ d, Spec R (feedLoop d)) : Spec R (afterHeader rest out) := by
  cases out with
  | some o =>
    exact spec_bind po (hout o) (fun go =>
      spec_ite _ (spec_bind po (hloop _) (fun _ => spec_pure po _)) (spec_pure po _))
  | none => exact spec_bind po (hloop _) (fun _ => spec_pure po _)

theorem spec_feedHeader (po : PO R)
    (hp : ∀ s p', (s.p.cont ≠ .header → p'.cont ≠ .header) → R s { s with p := p' })
    (hafter : ∀ rest out, Spec R (afterHeader rest out)) (data : Bytes) : Spec R (feedHeader data) := by
  intro s; unfold feedHeader; simp only []
  split
  · exact rel_if (fun _ => hp s _ id) (fun _ => hp s _ id)
  · refine rel_if (fun _ => hp s _ id) (fun _ => ?_)
    split
    · exact hp s _ id
    · rename_i p' out hr
      exact po.trans (hp s p' (fun _ => (resume_res hr).2.2.2)) (hafter _ _ _)

theorem spec_feedBody (hheader : ∀ d, Spec R (feedHeader d)) (hloop : ∀ d, Spec R (feedLoop d))
    (data : Bytes) : Spec R (feedBody data) := by
  intro s; unfold feedBody
  refine rel_if (fun _ => hheader data s) (fun _ => ?_)
  have := hloop data s
  split <;> (rename_i h; rw [h] at this; exact this)

theorem spec_feedHandler (po : PO R) (x : Exn)
    (hy : ∀ m c, Spec R (feedYield false (.protocolError m c)))
    (hclose : ∀ m, Spec R (wsClose (some Gen.statusProtocolError) (.str (Http.ofString m)))) :
    Spec R (feedHandler x) := by
  unfold feedHandler
  split
  · exact spec_bind po (hy _ _) (fun _ => spec_throwE po _)
  · exact spec_bind po (hy _ _) (fun _ => spec_throwE po _)
  · exact spec_bind po (hy _ _) (fun _ => spec_bind po (hclose _) (fun r =>
      spec_bind po (spec_raiseIfArgError po r) (fun _ => spec_throwE po _)))
  · exact spec_throwE po _

theorem unwrapOuter_err (x : Exn) (s : Sys) : ∃ y, unwrapOuter x s = .err y s := by
  unfold unwrapOuter; split <;> exact ⟨_, rfl⟩

theorem spec_unwrapOuter (po : PO R) (x : Exn) : Spec R (unwrapOuter x) := by
  unfold unwrapOuter; split <;> exact spec_throwE po _

theorem spec_wsFeed (po : PO R) (hbody : ∀ d, Spec R (feedBody d)) (hhandler : ∀ x, Spec R (feedHandler x))
    (data : Bytes) : Spec R (wsFeed data) := fun s =>
  rel_if (fun _ => po.refl s)
    (fun _ => spec_tryC po (spec_tryC po (hbody data) hhandler) (spec_unwrapOuter po) s)

theorem spec_onEof (po : PO R) : Spec R onEof := fun s => rel_if (fun _ => po.refl s) (fun _ => po.refl s)

theorem spec_recvStep (po : PO R) (hfeed : ∀ d, Spec R (wsFeed d)) (o : RecvOutcome) :
    Spec R (recvStep o) := by
  intro s; unfold recvStep
  refine rel_if (fun _ => spec_onEof po s) (fun _ => ?_)
  cases o with
  | sockErr => exact po.refl s
  | otherErr => exact po.refl s
  | eof => exact spec_onEof po s
  | data bs =>
    refine rel_if (fun _ => spec_onEof po s) (fun _ => ?_)
    have := hfeed bs s
    split <;> (rename_i h; rw [h] at this; exact this)

theorem loop_closed (env : List EnvStep) (s : Sys) (h : s.closed = true) : loop env s = .ok () s := by
  cases env <;> simp [loop, h]

/-- the session loop: what ends it exceptionally outside `regular` and `recvStep` is the end of the
    script (with the websocket not closed) and the selector's error.  `J` is what `_regular()`
    establishes at the top of a cycle, available to the `recv` that follows it. -/
theorem LiftX.specx_loopJ {I J : Sys → Prop} {X : Exn → Sys → Prop}
    (hend : ∀ s, I s → s.closed = false → X .scriptEnd s)
    (hsel : ∀ s, I s → X (.other "error") s) (hrecv : ∀ o s, I s → J s → Sat I X (recvStep o s))
    (P : EnvStep → Prop)
    (hTick : ∀ dt rd s, P (.wait dt rd) → I s → s.closed = false →
      Sat (fun s => I s ∧ J s) X (regular (tick s dt)))
    (env : List EnvStep) (hP : ∀ st ∈ env, P st) : SpecX I X (loop env) := by
  induction env with
  | nil =>
    intro s hs; unfold loop
    split
    · exact hs
    · rename_i hc; exact hend s hs (by simpa using hc)
  | cons st rest ih =>
    have ih' := ih (fun st h => hP st (List.mem_cons_of_mem _ h))
    intro s hs; unfold loop
    split
    · exact hs
    · rename_i hc
      split
      · exact hsel s hs
      · rename_i dt readable
        have h1 := hTick dt readable s (hP _ (List.mem_cons_self)) hs (by simpa using hc)
        unfold regularTop
        split
        · rename_i x s2 hr; rw [hr] at h1; exact h1
        · rename_i u s2 hr; rw [hr] at h1
          split
          · exact ih' s2 h1.1
          · rename_i o
            have h2 := hrecv o s2 h1.1 h1.2
            split
            · rename_i x s3 hr2; rw [hr2] at h2; exact h2
            · rename_i s3 hr2; rw [hr2] at h2; exact ih' s3 h2
            · rename_i s3 hr2; rw [hr2] at h2; exact h2

theorem LiftX.specx_loop {I : Sys → Prop} {X : Exn → Sys → Prop} (hend : ∀ s, I s → s.closed = false → X .scriptEnd s)
    (hsel : ∀ s, I s → X (.other "error") s) (hrecv : ∀ o, SpecX I X (recvStep o))
    (P : EnvStep → Prop)
    (hTick : ∀ dt rd s, P (.wait dt rd) → I s → s.closed = false → Sat I X (regular (tick s dt)))
    (env : List EnvStep) (hP : ∀ st ∈ env, P st) : SpecX I X (loop env) :=
  specx_loopJ (J := fun _ => True) hend hsel (fun o s hs _ => hrecv o s hs) P
    (fun dt rd s hp hs hc => by
      have h := hTick dt rd s hp hs hc
      cases hr : regular (tick s dt) with
      | ok u s2 => rw [hr] at h; exact ⟨h, trivial⟩
      | err x s2 => rw [hr] at h; exact h) env hP

/-- the session loop: `P` is what is assumed of each environment step (e.g. `dt ≤ poll`); the
    clock advance and the `_regular()` that follows it are one leaf -/
theorem spec_loop (po : PO R) (hrecv : ∀ o, Spec R (recvStep o)) (P : EnvStep → Prop)
    (hTick : ∀ dt rd s, P (.wait dt rd) → R s (regular (tick s dt)).state)
    (env : List EnvStep) (hP : ∀ st ∈ env, P st) : Spec R (loop env) :=
  (spec_iff po).mpr fun s0 => specx_loop (X := fun _ => R s0) (fun _ hs _ => hs) (fun _ hs => hs)
    (fun o => (spec_iff po).mp (hrecv o) s0) P
    (fun dt rd s hp hs _ => sat_of_state (po.trans hs (hTick dt rd s hp))) env hP

structure StreamUpd (R : Sys → Sys → Prop) : Prop where
  closeAcked : ∀ s, R s { s with closing := true }
  inflated : ∀ s hist n, R s { s with inflHist := hist, inflOut := n }
  pushed : ∀ s f, R s { s with frames := s.frames ++ [f] }
  delivered : ∀ s, R s { s with frames := [] }
  parsed : ∀ s, R s { s with parsedResponse := true }
  accepted : ∀ s (d : Option Http.DeflateCfg), R s { s with
    compression := d, decompress := d.isSome, p := if d.isSome then { s.p with compression := true } else s.p }
  parser : ∀ s p', (s.p.cont ≠ .header → p'.cont ≠ .header) → R s { s with p := p' }
  ticked : ∀ s dt, R s (tick s dt)

structure StreamLeaves (R : Sys → Sys → Prop) : Prop extends TimerLeaves R, StreamUpd R

/-- the events `WebSocket.feed` yields outside its `except` clauses -/
def isStreamEvent : Event → Bool
  | .ready _ _ | .rejected _ | .text _ | .binary _ | .ping _ | .pong _ | .closing _ _ | .closed _ _ => true
  | _ => false

/-- `TimerCalls` for a `Y` that contains the events of the receive pipeline, and the bookkeeping
    updates of the pipeline: everything from `buildMessage` to `feedBody` follows, and with the
    `ProtocolError` event in `Y` also `feedHandler` … `loop` -/
structure StreamCalls (R : Sys → Sys → Prop) (Y : Event → Prop) : Prop extends TimerCalls R Y, StreamUpd R where
  stream : ∀ e, isStreamEvent e = true → Y e

theorem StreamCalls.buildMessage (C : StreamCalls R Y) (fs : List Frame) : Spec R (buildMessage fs) :=
  spec_buildMessage C.toPO fs (fun j => spec_inflateMessage C.toPO j C.inflated)

theorem StreamCalls.onClose (C : StreamCalls R Y) (c : Option Nat) (r : List Nat) : Spec R (onClose c r) :=
  spec_onClose C.toPO c r (C.feedYield _ _ (C.stream _ rfl)) (C.feedYield _ _ (C.stream _ rfl)) (C.wsClose _ _)
    C.disconnected C.closeAcked

theorem StreamCalls.onMessage (C : StreamCalls R Y) (m : Msg) : Spec R (onMessage m) :=
  spec_onMessage C.toPO m C.onClose (fun e he =>
    C.feedYield _ e (C.stream e (by cases e <;> first | rfl | cases he)))

theorem StreamCalls.onDataFrame (C : StreamCalls R Y) (f : Frame) : Spec R (onDataFrame f) :=
  spec_onDataFrame C.toPO f (fun s => C.pushed s f) C.delivered C.buildMessage C.onMessage

theorem StreamCalls.onFrame (C : StreamCalls R Y) (f : Frame) : Spec R (onFrame f) :=
  spec_onFrame C.toPO f C.buildMessage C.onMessage (C.onDataFrame f)

theorem StreamCalls.onOut (C : StreamCalls R Y) (o : Out) : Spec R (onOut o) :=
  spec_onOut C.toPO o C.parsed C.accepted C.onDisconnect (fun _ => C.feedYield _ _ (C.stream _ rfl))
    (fun _ _ => C.feedYield _ _ (C.stream _ rfl)) C.onFrame

theorem StreamCalls.feedLoop (C : StreamCalls R Y) (data : Bytes) : Spec R (feedLoop data) :=
  spec_feedLoop C.toPO C.parser C.onOut data

theorem StreamCalls.feedBody (C : StreamCalls R Y) (data : Bytes) : Spec R (feedBody data) :=
  spec_feedBody (spec_feedHeader C.toPO C.parser (fun rest out =>
    spec_afterHeader C.toPO rest out C.onOut C.feedLoop)) C.feedLoop data

theorem StreamCalls.feedHandler (C : StreamCalls R Y) (hpe : ∀ m c, Y (.protocolError m c)) (x : Exn) :
    Spec R (feedHandler x) :=
  spec_feedHandler C.toPO x (fun m c => C.feedYield _ _ (hpe m c)) (fun _ => C.wsClose _ _)

theorem StreamCalls.wsFeed (C : StreamCalls R Y) (hpe : ∀ m c, Y (.protocolError m c)) (data : Bytes) :
    Spec R (wsFeed data) :=
  spec_wsFeed C.toPO C.feedBody (C.feedHandler hpe) data

theorem StreamCalls.recvStep (C : StreamCalls R Y) (hpe : ∀ m c, Y (.protocolError m c)) (o : RecvOutcome) :
    Spec R (recvStep o) :=
  spec_recvStep C.toPO (C.wsFeed hpe) o

theorem StreamCalls.loop (C : StreamCalls R Y) (hpe : ∀ m c, Y (.protocolError m c)) (env : List EnvStep) :
    Spec R (loop env) :=
  spec_loop C.toPO (C.recvStep hpe) (fun _ => True)
    (fun dt _ s _ => C.trans (C.ticked s dt) (C.regular _)) env (fun _ _ => trivial)

theorem StreamLeaves.calls (L : StreamLeaves R) : StreamCalls R (fun _ => True) :=
  { L.toTimerLeaves.calls, L.toStreamUpd with stream := fun _ _ => trivial }

theorem StreamLeaves.loop (L : StreamLeaves R) (env : List EnvStep) : Spec R (loop env) :=
  L.calls.loop (fun _ _ => trivial) env

theorem spec_selClose (po : PO R)
    (h : ∀ s, s.selOpen = true → R s { s with selOpen := false, trace := .selClose :: s.trace }) :
    Spec R selClose := fun s => rel_if (h s) (fun _ => po.refl s)

theorem spec_onLoopEnd (po : PO R) (r : Option Exn) (hsock : Spec R closeSocket)
    (hy : ∀ k g, Spec R (yieldEv (.disconnected k g))) : Spec R (onLoopEnd r) := by
  unfold onLoopEnd
  split
  all_goals first
    | exact spec_bind po hsock (fun _ => hy _ _)
    | exact spec_throwE po _

theorem spec_runBody (po : PO R) (env : List EnvStep) (hloop : Spec R (loop env))
    (hend : ∀ r, Spec R (onLoopEnd r)) : Spec R (runBody env) :=
  spec_bind po (spec_tryC po (spec_bind po hloop (fun _ => spec_pure po _)) (fun _ => spec_pure po _)) hend

theorem spec_runFinally (po : PO R) (x : Exn) (hsock : Spec R closeSocket) (hsel : Spec R selClose) :
    Spec R (runFinally x) :=
  spec_getS_bind po (fun _ => spec_bind po (spec_ite _ hsock (spec_pure po _)) (fun _ =>
    spec_bind po hsel (fun _ => spec_throwE po _)))

/-- `runLoop` reads the script from the state it starts in: only the body over that script matters -/
theorem spec_runLoop_at (po : PO R) {s : Sys} (hbody : R s (runBody s.env s).state) (hsel : Spec R selClose)
    (hfin : ∀ x, Spec R (runFinally x)) : R s (runLoop s).state :=
  tryC_at po (bind_at po hbody (fun _ s1 _ => hsel s1)) (fun x s1 _ => hfin x s1)

theorem spec_runLoop (po : PO R) (hbody : ∀ env, Spec R (runBody env)) (hsel : Spec R selClose)
    (hfin : ∀ x, Spec R (runFinally x)) : Spec R runLoop :=
  fun s => spec_runLoop_at po (hbody s.env s) hsel hfin

theorem spec_yieldConnected (po : PO R) (proxy : Bool) (hy : Spec R (yieldEv (.connected proxy)))
    (hsock : Spec R closeSocket) : Spec R (yieldConnected proxy) :=
  spec_getS_bind po (fun _ => spec_ite _
    (spec_tryC po hy (fun _ => spec_bind po hsock (fun _ => spec_throwE po _))) hy)

/-- `run()` once a socket exists, with what follows the `Connected` event left open: `afterConnect` is
    the case `runLoop`, `afterConnectNoSel` the case `runLoopNoSel` (the selector flag stays off) -/
def afterConnectK (k : M Unit) (proxy sel : Bool) : M Unit := do
  modS fun s => { s with sockOpen := true }
  let s ← getS
  let r ← write s.cfg.request
  if wsError r then do
    closeSocket
    yieldEv (.connectFail "request-failed")
  else do
    yieldConnected proxy
    modS fun s => { s with selOpen := sel }
    k

/-- The upgrade request is written, `Connected` yielded, the selector flag set, then `k`.  The steps
    before `k` keep a relation `Q` inside `R`; `k` is asked for only from the states they reach from
    `s`, so that it may depend on what `Q` keeps (the script of the state, say). -/
theorem spec_afterConnectK_at (po : PO R) {Q : Sys → Sys → Prop} (poQ : PO Q) (sub : ∀ {a b}, Q a b → R a b)
    {k : M Unit} (proxy sel : Bool) (hopen : ∀ s, Q s { s with sockOpen := true })
    (hreq : ∀ s : Sys, Spec Q (write s.cfg.request none)) (hsock : Spec Q closeSocket)
    (hfail : Spec Q (yieldEv (.connectFail "request-failed")))
    (hconn : Spec Q (yieldConnected proxy)) (hsel : ∀ s, Q s { s with selOpen := sel })
    (s : Sys) (hk : ∀ s', Q s s' → R s' (k s').state) : R s (afterConnectK k proxy sel s).state := by
  unfold afterConnectK
  refine bind_at po (sub (hopen s)) (fun _ s1 e1 => ?_)
  have q1 : Q s s1 := by cases e1; exact hopen s
  refine bind_at po (po.refl s1) (fun _ _ eg => ?_)
  cases eg
  refine bind_at po (sub (hreq s1 s1)) (fun r s2 e2 => ?_)
  have q2 := poQ.trans q1 ((hreq s1).ok e2)
  split
  · exact sub (spec_bind poQ hsock (fun _ => hfail) s2)
  · refine bind_at po (sub (hconn s2)) (fun _ s3 e3 => ?_)
    refine bind_at po (sub (hsel s3)) (fun _ s4 e4 => ?_)
    cases e4
    exact hk _ (poQ.trans q2 (poQ.trans (hconn.ok e3) (hsel s3)))

theorem spec_afterConnectK (po : PO R) {k : M Unit} (proxy sel : Bool)
    (hopen : ∀ s, R s { s with sockOpen := true })
    (hreq : ∀ s : Sys, Spec R (write s.cfg.request none)) (hsock : Spec R closeSocket)
    (hfail : Spec R (yieldEv (.connectFail "request-failed")))
    (hconn : Spec R (yieldConnected proxy)) (hsel : ∀ s, R s { s with selOpen := sel })
    (hk : Spec R k) : Spec R (afterConnectK k proxy sel) := fun s =>
  spec_afterConnectK_at po po (fun h => h) proxy sel hopen hreq hsock hfail hconn hsel s (fun s' _ => hk s')

theorem spec_runLoopNoSel (po : PO R) (hend : ∀ r, Spec R (onLoopEnd r)) (hsel : Spec R selClose)
    (hfin : ∀ x, Spec R (runFinally x)) : Spec R runLoopNoSel :=
  spec_tryC po (spec_bind po (hend _) (fun _ => hsel)) hfin

/-- `run()` at one start state: `Connecting` and a failed connect keep `Q` inside `R`; the rest is
    asked for only from the states `Connecting` can leave -/
theorem spec_run_at (po : PO R) {Q : Sys → Sys → Prop} (sub : ∀ {a b}, Q a b → R a b)
    (hy : ∀ e, e = .connecting ∨ e = .connectFail "connect-failed" → Spec Q (yieldEv e)) (s : Sys)
    (hafter : ∀ p s1, Q s s1 → R s1 (afterConnect p s1).state)
    (hnosel : ∀ p s1, Q s s1 → R s1 (afterConnectNoSel p s1).state) : R s (run s).state := by
  unfold run
  refine bind_at po (sub (hy _ (.inl rfl) s)) (fun _ s1 e1 => ?_)
  have q1 := (hy _ (.inl rfl)).ok e1
  refine bind_at po (po.refl s1) (fun _ _ eg => ?_)
  cases eg
  cases s1.cfg.connect with
  | socketFail => exact sub (hy _ (.inr rfl) s1)
  | otherFail => exact sub (hy _ (.inr rfl) s1)
  | ok proxy => exact hafter proxy s1 q1
  | selFail proxy => exact hnosel proxy s1 q1

structure RunLeaves (R : Sys → Sys → Prop) : Prop extends StreamLeaves R where
  selClosed : ∀ s, s.selOpen = true → R s { s with selOpen := false, trace := .selClose :: s.trace }
  sockOpened : ∀ s, R s { s with sockOpen := true }
  selSet : ∀ s b, R s { s with selOpen := b }

theorem RunLeaves.selClose (L : RunLeaves R) : Spec R selClose := spec_selClose L.toPO L.selClosed

theorem RunLeaves.onLoopEnd (L : RunLeaves R) (r : Option Exn) : Spec R (onLoopEnd r) :=
  spec_onLoopEnd L.toPO r L.closeSocket (fun _ _ => L.yieldEv _)

theorem RunLeaves.runFinally (L : RunLeaves R) (x : Exn) : Spec R (runFinally x) :=
  spec_runFinally L.toPO x L.closeSocket L.selClose

/-- a whole connection: `run()`, then what the harness does with the way it ended — the socket
    closed once more after an abandonment inside a `with` block, the end-of-script mark otherwise.
    A property of the final state of `run()` that survives both holds of the whole connection. -/
theorem runAll_of_run {F : Sys → Prop} (cfg : Cfg) (react : React) (env : List EnvStep)
    (h : F (run { cfg := cfg, react := react, env := env }).state)
    (hsock : ∀ s, F s → F (closeSocket s).state)
    (hinc : ∀ s, F s → F { s with trace := .incomplete :: s.trace }) : F (runAll cfg react env) := by
  unfold runAll
  simp only []
  generalize run { cfg := cfg, react := react, env := env } = r at h
  have hcs : ∀ s : Sys, F s → F (match closeSocket s with | .ok _ s' => s' | .err _ s' => s') := by
    intro s hs
    have := hsock s hs
    cases hc : closeSocket s <;> rw [hc] at this <;> exact this
  cases r with
  | ok a s => exact h
  | err x s =>
    simp only [Res.state_err] at h
    cases x with
    | genExit => simp only []; split; exact hcs s h; exact h
    | outer y =>
      cases y with
      | genExit => simp only []; split; exact hcs s h; exact h
      | _ => exact hinc s h
    | _ => exact hinc s h

theorem Pong.run_runAll (po : PO R) (hcs : Spec R closeSocket)
    (hinc : ∀ s, R s { s with trace := .incomplete :: s.trace }) (cfg : Cfg) (react : React)
    (env : List EnvStep)
    (h : R { cfg := cfg, react := react, env := env } (run { cfg := cfg, react := react, env := env }).state) :
    R { cfg := cfg, react := react, env := env } (runAll cfg react env) :=
  runAll_of_run cfg react env h (fun s hs => po.trans hs (hcs s)) (fun s hs => po.trans hs (hinc s))

namespace Pong

/-- the events `run()` itself yields outside the loop and outside `_regular` -/
def isRunEvent : Event → Bool
  | .connecting | .connectFail _ | .connected _ | .disconnected _ _ => true
  | _ => false

/-- what has to be known, besides the session loop, to follow a relation from the `Connected` event
    to the end of `run()` -/
structure AroundLoop (R : Sys → Sys → Prop) : Prop where
  po : PO R
  closeSocket : Spec R closeSocket
  selClose : Spec R selClose
  yieldEv : ∀ e, isRunEvent e = true → Spec R (yieldEv e)
  selSet : ∀ s b, R s { s with selOpen := b }

theorem run_onLoopEnd (T : AroundLoop R) (r : Option Exn) : Spec R (onLoopEnd r) :=
  spec_onLoopEnd T.po r T.closeSocket (fun _ _ => T.yieldEv _ rfl)

theorem run_runFinally (T : AroundLoop R) (x : Exn) : Spec R (runFinally x) :=
  spec_runFinally T.po x T.closeSocket T.selClose

theorem run_runLoop (T : AroundLoop R) (hloop : ∀ env, Spec R (loop env)) : Spec R runLoop :=
  spec_runLoop T.po (fun env => spec_runBody T.po env (hloop env) (run_onLoopEnd T)) T.selClose
    (run_runFinally T)

theorem run_runLoopNoSel (T : AroundLoop R) : Spec R runLoopNoSel :=
  spec_runLoopNoSel T.po (run_onLoopEnd T) T.selClose (run_runFinally T)

theorem run_yieldConnected (T : AroundLoop R) (proxy : Bool) : Spec R (yieldConnected proxy) :=
  spec_yieldConnected T.po proxy (T.yieldEv _ rfl) T.closeSocket

theorem run_afterK (T : AroundLoop R) {k : M Unit} (hk : Spec R k) (proxy sel : Bool) :
    Spec R (do yieldConnected proxy; modS (fun s => { s with selOpen := sel }); k : M Unit) :=
  spec_bind T.po (run_yieldConnected T proxy) (fun _ =>
    spec_bind T.po (spec_modS (fun s => T.selSet s sel)) (fun _ => hk))

theorem run_afterConnectK (T : AroundLoop R) {k : M Unit} (hk : Spec R k)
    (hon : ∀ s, R s { s with sockOpen := true }) (hreq : ∀ d, Spec R (write d none)) (proxy sel : Bool) :
    Spec R (afterConnectK k proxy sel) :=
  spec_afterConnectK T.po proxy sel hon (fun _ => hreq _) T.closeSocket (T.yieldEv _ rfl)
    (run_yieldConnected T proxy) (fun s => T.selSet s sel) hk

theorem run_afterConnect (T : AroundLoop R) (hloop : ∀ env, Spec R (loop env))
    (hon : ∀ s, R s { s with sockOpen := true }) (hreq : ∀ d, Spec R (write d none)) (proxy : Bool) :
    Spec R (afterConnect proxy) :=
  run_afterConnectK T (run_runLoop T hloop) hon hreq proxy true

theorem run_run (T : AroundLoop R) (hloop : ∀ env, Spec R (loop env))
    (hon : ∀ s, R s { s with sockOpen := true }) (hreq : ∀ d, Spec R (write d none)) : Spec R run := fun s =>
  spec_run_at T.po (fun h => h) (fun e he => T.yieldEv e (by rcases he with rfl | rfl <;> rfl)) s
    (fun p s1 _ => run_afterConnect T hloop hon hreq p s1)
    (fun p s1 _ => run_afterConnectK T (run_runLoopNoSel T) hon hreq p false s1)

end Pong

end Lomond.Core
