/-
  C10 at the level of whole connections (`runAll`).  The connection comes up and the upgrade request is
  written (`E2E.Setup`: connect ok, first `sendall` ok, `poll > 0`, an application that reacts to events by
  sending only).  The script then consists of *quiet* steps — `selector.wait` returning after any time with
  nothing to read, or with a non-empty read — until the buffered bytes contain the first `CR LF CR LF` or
  exceed the 16 KiB limit; that read is accepted, refused, or oversize.
-/
import Lomond.Proofs.PrefixRun
import Lomond.Proofs.HttpDup
namespace Lomond.Core.HRun
open Lomond Lomond.Core Lomond.Core.E2E

/-- a step that delivers nothing or a non-empty read (no EOF, no socket error, no selector error) -/
def Quiet : EnvStep → Prop
  | .wait _ none => True
  | .wait _ (some (.data c)) => c ≠ []
  | _ => False

def dataOf : List EnvStep → Bytes
  | [] => []
  | .wait _ (some (.data c)) :: r => c ++ dataOf r
  | _ :: r => dataOf r

theorem dataOf_append (a b : List EnvStep) : dataOf (a ++ b) = dataOf a ++ dataOf b := by
  induction a with
  | nil => rfl
  | cons st a ih =>
    cases st with
    | selErr => exact ih
    | wait d o =>
      cases o with
      | none => exact ih
      | some r =>
        cases r with
        | data c => simp only [List.cons_append, dataOf, ih, List.append_assoc]
        | eof => exact ih
        | sockErr => exact ih
        | otherErr => exact ih

def isTick : Obs → Bool
  | .tick _ => true
  | _ => false

def isWrite : Obs → Bool
  | .wr _ => true
  | .wrz _ _ => true
  | .wrFail _ => true
  | _ => false

/-- the state of the loop while the header block is incomplete -/
structure HP (s : Sys) : Prop where
  closed : s.closed = false
  ready : s.ready = false
  sock : s.sockOpen = true
  cont : s.p.cont = .header
  nosep : findSep Gen.headerSep s.p.buf = none
  short : s.p.buf.length ≤ Gen.headerMax

/-- what the header phase changes: the clock, tick marks on the trace, the parser's buffer -/
structure Idle (s s' : Sys) : Prop where
  cfg : s'.cfg = s.cfg
  react : s'.react = s.react
  env : s'.env = s.env
  sel : s'.selOpen = s.selOpen
  closing : s'.closing = s.closing
  frames : s'.frames = s.frames
  wctr : s'.writeCtr = s.writeCtr
  sock : s'.sockOpen = s.sockOpen
  closed : s'.closed = s.closed
  ready : s'.ready = s.ready
  startTime : s'.startTime = s.startTime
  pollStart : s'.pollStart = s.pollStart
  trace : ∃ l, s'.trace = l ++ s.trace ∧ ∀ o ∈ l, isTick o = true

theorem Idle.refl (s : Sys) : Idle s s := ⟨rfl, rfl, rfl, rfl, rfl, rfl, rfl, rfl, rfl, rfl, rfl, rfl, [], rfl, by simp⟩

theorem Idle.trans {a b c : Sys} (h1 : Idle a b) (h2 : Idle b c) : Idle a c := by
  obtain ⟨l1, e1, n1⟩ := h1.trace
  obtain ⟨l2, e2, n2⟩ := h2.trace
  refine ⟨h2.cfg.trans h1.cfg, h2.react.trans h1.react, h2.env.trans h1.env, h2.sel.trans h1.sel,
    h2.closing.trans h1.closing, h2.frames.trans h1.frames, h2.wctr.trans h1.wctr, h2.sock.trans h1.sock,
    h2.closed.trans h1.closed, h2.ready.trans h1.ready, h2.startTime.trans h1.startTime, h2.pollStart.trans h1.pollStart,
    l2 ++ l1, by rw [e2, e1, List.append_assoc], ?_⟩
  intro o ho
  rcases List.mem_append.mp ho with h | h
  · exact n2 o h
  · exact n1 o h

theorem idle_tick (s : Sys) (d : Nat) : Idle s (tick s d) := by
  refine ⟨rfl, rfl, rfl, rfl, rfl, rfl, rfl, rfl, rfl, rfl, rfl, rfl, ?_⟩
  unfold tick
  by_cases h : d = 0
  · exact ⟨[], by simp [h], by simp⟩
  · exact ⟨[.tick (s.now + d)], by simp [h], by simp [isTick]⟩

theorem idle_bufTo (s : Sys) (bf : Bytes) : Idle s (bufTo s bf) :=
  ⟨rfl, rfl, rfl, rfl, rfl, rfl, rfl, rfl, rfl, rfl, rfl, rfl, [], rfl, by simp⟩

/-- the invariant of the end-to-end lemmas survives the header phase (nothing it mentions changes before Ready) -/
theorem I_idle {s s' : Sys} (h : Idle s s') (hi : I s) (hr : s.ready = false) : I s' :=
  ⟨by rw [h.react]; exact hi.app, by rw [h.cfg]; exact hi.poll, by rw [h.sock, h.closed]; exact hi.sock,
   fun _ => by rw [h.startTime, h.pollStart]; exact hi.nr hr,
   fun hr' => by rw [h.ready, hr] at hr'; cases hr'⟩

theorem tick_hist_nonEv (l : List Obs) (h : ∀ o ∈ l, isTick o = true) : ∀ o ∈ l, Obs.isEv o = false := by
  intro o ho
  have := h o ho
  cases o <;> simp [isTick] at this <;> rfl

theorem Idle.hist {s s' : Sys} (h : Idle s s') : hist s'.trace = hist s.trace := by
  obtain ⟨l, e, n⟩ := h.trace
  rw [e, hist_append, hist_nonEv l (tick_hist_nonEv l n)]; rfl

theorem hp_tick {s : Sys} (h : HP s) (d : Nat) : HP (tick s d) :=
  ⟨h.closed, h.ready, h.sock, h.cont, h.nosep, h.short⟩

theorem hp_bufTo {s : Sys} (h : HP s) (bf : Bytes) (h1 : findSep Gen.headerSep bf = none) (h2 : bf.length ≤ Gen.headerMax) :
    HP (bufTo s bf) :=
  ⟨h.closed, h.ready, h.sock, h.cont, h1, h2⟩

/-- the state after a quiet prefix during which the block stays incomplete -/
def advance : List EnvStep → Sys → Sys
  | [], s => s
  | .wait d none :: r, s => advance r (tick s d)
  | .wait d (some (.data c)) :: r, s => advance r (bufTo (tick s d) ((tick s d).p.buf ++ c))
  | _ :: r, s => advance r s

theorem loop_wait_none (d : Nat) (rest : List EnvStep) (s : Sys) (hc : s.closed = false) (hr : s.ready = false) :
    loop (.wait d none :: rest) s = loop rest (tick s d) := by
  have hrt : regularTop (tick s d) = .ok () (tick s d) := regular_not_ready (tick s d) hr
  rw [loop]
  simp only [hc, Bool.false_eq_true, if_false, hrt]

theorem wsFeed_buffer (c : Bytes) (s : Sys) (h : HP s) (h1 : findSep Gen.headerSep (s.p.buf ++ c) = none)
    (h2 : (s.p.buf ++ c).length ≤ Gen.headerMax) : wsFeed c s = .ok () (bufTo s (s.p.buf ++ c)) := by
  rw [wsFeed_eq]
  simp only [h.closed, Bool.false_eq_true, if_false]
  rw [feedBody_unterminated_short s c h.cont h1 h2]
  rfl

theorem loop_wait_buffer (d : Nat) (c : Bytes) (rest : List EnvStep) (s : Sys) (h : HP s) (hne : c ≠ [])
    (h1 : findSep Gen.headerSep (s.p.buf ++ c) = none) (h2 : (s.p.buf ++ c).length ≤ Gen.headerMax) :
    loop (.wait d (some (.data c)) :: rest) s = loop rest (bufTo (tick s d) ((tick s d).p.buf ++ c)) := by
  rw [loop_wait_data d c rest s (tick s d) h.closed (regular_not_ready (tick s d) h.ready) h.sock hne,
    wsFeed_buffer c (tick s d) (hp_tick h d) h1 h2]

/-- **the header phase**: over a quiet prefix that neither completes the block nor exceeds the limit the
    loop only advances the clock and buffers -/
theorem loop_quiet (pre : List EnvStep) (hq : ∀ st ∈ pre, Quiet st) (rest : List EnvStep) (s : Sys) (h : HP s)
    (h1 : findSep Gen.headerSep (s.p.buf ++ dataOf pre) = none)
    (h2 : (s.p.buf ++ dataOf pre).length ≤ Gen.headerMax) :
    loop (pre ++ rest) s = loop rest (advance pre s) ∧ HP (advance pre s) ∧ Idle s (advance pre s) ∧
      (advance pre s).p.buf = s.p.buf ++ dataOf pre := by
  induction pre generalizing s with
  | nil => exact ⟨rfl, h, Idle.refl s, by simp [advance, dataOf]⟩
  | cons st pre ih =>
    have hqs := hq st (by simp)
    have hq' : ∀ x ∈ pre, Quiet x := fun x hx => hq x (by simp [hx])
    cases st with
    | selErr => exact absurd hqs (by simp [Quiet])
    | wait d o =>
      cases o with
      | none =>
        have e : dataOf (.wait d none :: pre) = dataOf pre := rfl
        rw [e] at h1 h2
        obtain ⟨a, b, c, dd⟩ := ih hq' (tick s d) (hp_tick h d) h1 h2
        exact ⟨by rw [List.cons_append, loop_wait_none d _ s h.closed h.ready]; exact a, b,
          (idle_tick s d).trans c, dd⟩
      | some r =>
        cases r with
        | data c =>
          have hne : c ≠ [] := hqs
          have e : dataOf (.wait d (some (.data c)) :: pre) = c ++ dataOf pre := rfl
          rw [e, ← List.append_assoc] at h1 h2
          have h1c : findSep Gen.headerSep (s.p.buf ++ c) = none := findSep_prefix_none _ _ _ h1
          have h2c : (s.p.buf ++ c).length ≤ Gen.headerMax := by
            have : (s.p.buf ++ c ++ dataOf pre).length = (s.p.buf ++ c).length + (dataOf pre).length := List.length_append
            omega
          have hp' : HP (bufTo (tick s d) ((tick s d).p.buf ++ c)) := hp_bufTo (hp_tick h d) _ h1c h2c
          obtain ⟨a, b, cc, dd⟩ := ih hq' (bufTo (tick s d) ((tick s d).p.buf ++ c)) hp' h1 h2
          refine ⟨by rw [List.cons_append, loop_wait_buffer d c _ s h hne h1c h2c]; exact a, b,
            ((idle_tick s d).trans (idle_bufTo _ _)).trans cc, ?_⟩
          rw [e, ← List.append_assoc]; exact dd
        | eof => exact absurd hqs (by simp [Quiet])
        | sockErr => exact absurd hqs (by simp [Quiet])
        | otherErr => exact absurd hqs (by simp [Quiet])

def Hit (buf : Bytes) : Prop := findSep Gen.headerSep buf ≠ none ∨ buf.length > Gen.headerMax

theorem split_steps (steps : List EnvStep) (hq : ∀ st ∈ steps, Quiet st) (acc : Bytes)
    (hacc : ¬ Hit acc) (hhit : Hit (acc ++ dataOf steps)) :
    ∃ pre d c post, steps = pre ++ .wait d (some (.data c)) :: post ∧ c ≠ [] ∧ (∀ st ∈ pre, Quiet st) ∧
      ¬ Hit (acc ++ dataOf pre) ∧ Hit (acc ++ dataOf pre ++ c) := by
  induction steps generalizing acc with
  | nil => simp [dataOf] at hhit; exact absurd hhit hacc
  | cons st steps ih =>
    have hqs := hq st (by simp)
    have hq' : ∀ x ∈ steps, Quiet x := fun x hx => hq x (by simp [hx])
    cases st with
    | selErr => exact absurd hqs (by simp [Quiet])
    | wait d o =>
      cases o with
      | none =>
        obtain ⟨pre, d', c, post, e, hc, hp, h1, h2⟩ := ih hq' acc hacc hhit
        exact ⟨.wait d none :: pre, d', c, post, by rw [e]; rfl, hc,
          fun x hx => by rcases List.mem_cons.mp hx with rfl | hx; exact hqs; exact hp x hx, h1, h2⟩
      | some r =>
        cases r with
        | data c =>
          have hne : c ≠ [] := hqs
          by_cases hh : Hit (acc ++ c)
          · exact ⟨[], d, c, steps, rfl, hne, by simp, by simpa [dataOf] using hacc, by simpa [dataOf] using hh⟩
          · have e : dataOf (.wait d (some (.data c)) :: steps) = c ++ dataOf steps := rfl
            rw [e, ← List.append_assoc] at hhit
            obtain ⟨pre, d', c', post, e', hc, hp, h1, h2⟩ := ih hq' (acc ++ c) hh hhit
            refine ⟨.wait d (some (.data c)) :: pre, d', c', post, by rw [e']; rfl, hc,
              fun x hx => by rcases List.mem_cons.mp hx with rfl | hx; exact hqs; exact hp x hx, ?_, ?_⟩
            · have : dataOf (.wait d (some (.data c)) :: pre) = c ++ dataOf pre := rfl
              rw [this, ← List.append_assoc]; exact h1
            · have : dataOf (.wait d (some (.data c)) :: pre) = c ++ dataOf pre := rfl
              rw [this, ← List.append_assoc]; exact h2
        | eof => exact absurd hqs (by simp [Quiet])
        | sockErr => exact absurd hqs (by simp [Quiet])
        | otherErr => exact absurd hqs (by simp [Quiet])

theorem grows_bind {α β : Type} {m : M α} {f : α → M β} {s X : Sys} (hm : Grows X (m s).state)
    (hf : ∀ a, Spec Grows (f a)) : Grows X ((m >>= f) s).state :=
  hm.trans (Pong.bind_state_rel grows_po hf s)

theorem grows_tryC {α : Type} {m : M α} {hd : Exn → M α} {s X : Sys} (hm : Grows X (m s).state)
    (hh : ∀ x, Spec Grows (hd x)) : Grows X (tryC m hd s).state :=
  hm.trans (Pong.tryC_state_rel grows_po hh s)

/-- `run()` from the `try:` on: what is on the trace when the loop ends stays there -/
theorem grows_after_loop (env : List EnvStep) (sA s4 : Sys) (h : Grows s4 (loop env sA).state) :
    Grows s4 (tryC (do runBody env; selClose) runFinally sA).state := by
  have hsock : Spec Grows closeSocket := fun s => Grows.of_step (step_closeSocket s)
  have hsel : Spec Grows selClose := spec_selClose grows_po (fun s _ => ⟨[.selClose], rfl⟩)
  have h1 : Grows s4 ((tryC (do loop env; pure none) (fun x => pure (some x)) : M (Option Exn)) sA).state :=
    grows_tryC (grows_bind h (fun _ => spec_pure grows_po _)) (fun x => spec_pure grows_po _)
  have h2 : Grows s4 (runBody env sA).state :=
    grows_bind h1 (fun r => spec_onLoopEnd grows_po r hsock (fun _ _ s => Grows.of_step (step_yieldEv _ s)))
  exact grows_tryC (grows_bind h2 (fun _ => hsel)) (fun x => spec_runFinally grows_po x hsock hsel)

/-- `runAll` adds at most an epilogue to the trace of `run()` -/
theorem grows_runAll (cfg : Cfg) (react : React) (env : List EnvStep) :
    Grows (run { cfg := cfg, react := react, env := env }).state (runAll cfg react env) :=
  runAll_of_run (F := Grows (run { cfg := cfg, react := react, env := env }).state) cfg react env (Grows.refl _)
    (fun s h => h.trans (Grows.of_step (step_closeSocket s))) (fun _ h => h.trans ⟨[.incomplete], rfl⟩)

theorem wsWrap_step (r : Res Unit) : Step r.state (wsWrap r).state := by
  cases r with
  | ok u s => exact step_po.refl s
  | err x s =>
    have h1 := step_leaves.calls.feedHandler (fun _ _ => trivial) x s
    unfold wsWrap
    simp only [Res.state_err]
    cases hf : feedHandler x s with
    | ok u s2 => rw [hf] at h1; exact h1
    | err y s2 =>
      rw [hf] at h1
      simp only [Res.state_err] at h1
      exact step_po.trans h1 (spec_unwrapOuter step_po y s2)

/-- **the block is accepted**: `Ready` and the first `Poll` are yielded; whatever the rest of the read does
    is added on top -/
theorem arrive_ready (c : Bytes) (s : Sys) (h : HP s) (hi : I s) (i : Nat) (acc : Http.Accepted)
    (hsome : findSep Gen.headerSep (s.p.buf ++ c) = some i) (hlen : i + 4 ≤ Gen.headerMax)
    (hok : Http.onResponse s.cfg.v.strictAccept s.cfg.challenge
            (Http.parseResponse ((s.p.buf ++ c).take (i + 4))) = .ok acc) :
    ∃ s4, hist s4.trace = .poll :: .ready acc.protocol acc.deflate.isSome :: hist s.trace ∧
      s4.ready = true ∧ Grows s4 (wsFeed c s).state := by
  have i1 : I (readyPrep acc (headerDone s)) := ⟨hi.app, hi.poll, hi.sock, hi.nr, hi.rd⟩
  obtain ⟨s3, h3, i3, r3, hh3, c3, re3, so3, se3, cl3, cg3, p3, f3⟩ :=
    feedYield_ready true acc.protocol acc.deflate.isSome (readyPrep acc (headerDone s)) i1 h.ready
  have hp3 : s3.p.cont ≠ .header := by
    rw [p3]
    show (if acc.deflate.isSome then { (headerDone s).p with compression := true } else (headerDone s).p).cont ≠ _
    split <;> simp [headerDone]
  refine ⟨{ s3 with parsedResponse := true }, by show hist s3.trace = _; rw [hh3]; rfl, r3, ?_⟩
  rw [wsFeed_accept c s h.cont h.closed i acc hsome hlen hok h3 (cl3.trans h.closed) hp3]
  exact Grows.of_step (step_wsFeed _ _)

/-- the state in which `Rejected` is yielded: `on_disconnect()` has closed the socket and the websocket -/
def rejectedPrep (s : Sys) : Sys :=
  { s with parsedResponse := true, sockOpen := false, closing := false, closed := true,
           trace := .sockClose :: s.trace }

theorem onOut_refuse (s : Sys) (data : Bytes) (reason : Http.Str) (hso : s.sockOpen = true)
    (herr : Http.onResponse s.cfg.v.strictAccept s.cfg.challenge (Http.parseResponse data) = .error reason) :
    onOut (.header data) s = (do feedYield true (.rejected reason); pure false : M Bool) (rejectedPrep s) := by
  have hs2 : onDisconnect { s with parsedResponse := true } = .ok () (rejectedPrep s) := by
    simp only [bind, M.bind, modS, onDisconnect, closeSocket, rejectedPrep, hso, if_true]
  unfold onOut
  simp only [bind, M.bind, getS, herr, modS, hs2]

/-- **the block is refused**: the socket is closed, `Rejected(reason)` is yielded, the application's calls in
    reaction only report failure (no byte is written), `WebSocket.feed` returns with the websocket closed -/
theorem arrive_rejected (c : Bytes) (s : Sys) (h : HP s) (hi : I s) (i : Nat) (reason : Http.Str)
    (hsome : findSep Gen.headerSep (s.p.buf ++ c) = some i) (hlen : i + 4 ≤ Gen.headerMax)
    (herr : Http.onResponse s.cfg.v.strictAccept s.cfg.challenge
            (Http.parseResponse ((s.p.buf ++ c).take (i + 4))) = .error reason) :
    ∃ s3 l, wsFeed c s = .ok () s3 ∧ s3.closed = true ∧ s3.sockOpen = false ∧ s3.ready = false ∧
      s3.selOpen = s.selOpen ∧ s3.react = s.react ∧
      s3.trace = l ++ .ev (.rejected reason) :: .sockClose :: s.trace ∧ (∀ o ∈ l, Obs.isRes o = true) := by
  have hfb := feedBody_terminated_ok s c i h.cont hsome hlen
  let s2 : Sys := rejectedPrep (headerDone s)
  have ha2 : SendOnly s2.react := hi.app
  obtain ⟨s3, h3, kk⟩ := yieldEv_send (.rejected reason) s2 ha2
  have hr3 : s3.ready = false := kk.ready.trans h.ready
  have hfy : feedYield true (.rejected reason) s2 = .ok () s3 := by
    unfold feedYield
    apply tryC_ok
    rw [bind_ok (show onEvent (.rejected reason) s2 = .ok () s2 from rfl), bind_ok h3]
    exact regular_not_ready s3 hr3
  have hout : onOut (.header ((s.p.buf ++ c).take (i + 4))) (headerDone s) = .ok false s3 := by
    rw [onOut_refuse (headerDone s) _ reason h.sock herr, bind_ok hfy]; rfl
  rw [bind_ok hout] at hfb
  simp only [Bool.false_eq_true, if_false] at hfb
  obtain ⟨l, hl, _, hres⟩ := kk.trace
  refine ⟨s3, l, ?_, kk.closed, kk.sockOpen, hr3, kk.selOpen, kk.react, hl, hres rfl⟩
  rw [wsFeed_eq]
  simp only [h.closed, Bool.false_eq_true, if_false]
  rw [hfb]; rfl

/-- **the header material exceeds the limit**: one critical `ProtocolError('expected separator')`, to which
    the application may react (its own sends), then `_ForceDisconnect` -/
theorem arrive_oversize (c : Bytes) (s : Sys) (h : HP s) (hi : I s)
    (hbig : (findSep Gen.headerSep (s.p.buf ++ c) = none ∧ (s.p.buf ++ c).length > Gen.headerMax) ∨
            (∃ i, findSep Gen.headerSep (s.p.buf ++ c) = some i ∧ i + 4 > Gen.headerMax)) :
    ∃ s2 l, wsFeed c s = .err (.forceDisconnect "forced") s2 ∧
      s2.trace = l ++ .ev (.protocolError "expected separator" true) :: s.trace ∧
      (∀ o ∈ l, Obs.isEv o = false) ∧ s2.react = s.react ∧ s2.ready = false := by
  have herr : feedBody c s = .err (.parse "expected separator") { s with p := deadParser s.p } := by
    rcases hbig with ⟨h1, h2⟩ | ⟨i, h1, h2⟩
    · exact feedBody_unterminated_long s c h.cont h1 h2
    · exact feedBody_terminated_long s c i h.cont h1 h2
  have i1 : I { s with p := deadParser s.p } := ⟨hi.app, hi.poll, hi.sock, hi.nr, hi.rd⟩
  obtain ⟨y, s2, l, cw, hh, ht, nl, _, hcw, hy, hre⟩ :=
    feedHandler_send2 (.parse "expected separator") "expected separator" true rfl _ i1
  have hcw' : cw = [] := by
    rcases hcw with h0 | ⟨h0, _⟩
    · exact h0
    · cases h0
  have hy' : y = .forceDisconnect "forced" := by
    rcases hy with h0 | ⟨h0, _⟩
    · exact h0
    · cases h0
  subst hcw' hy'
  have hws : wsFeed c s = .err (.forceDisconnect "forced") s2 := by
    rw [wsFeed_of_feedBody_err c s _ _ h.closed herr, tryC_err hh]
    rfl
  refine ⟨s2, l, hws, by simpa using ht, nl, hre, ?_⟩
  obtain ⟨s'', x, hrel, hres⟩ := wsFeed_header_too_long s { s with p := deadParser s.p } c h.closed h.ready herr
  rw [hws] at hres
  cases hres
  rw [hrel.ready]; exact h.ready

/-- the final read seen from the whole script: where the first terminator of all the bytes lies -/
theorem hit_resolve (b c post : Bytes) (i : Nat) (hhit : Hit (b ++ c))
    (hsep : findSep Gen.headerSep (b ++ c ++ post) = some i) :
    (i + 4 ≤ Gen.headerMax → findSep Gen.headerSep (b ++ c) = some i) ∧
    (i + 4 > Gen.headerMax →
      (findSep Gen.headerSep (b ++ c) = none ∧ (b ++ c).length > Gen.headerMax) ∨
      (∃ j, findSep Gen.headerSep (b ++ c) = some j ∧ j + 4 > Gen.headerMax)) := by
  cases hf : findSep Gen.headerSep (b ++ c) with
  | some j =>
    have := findSep_append Gen.headerSep (b ++ c) post j hf
    rw [hsep] at this
    cases this
    exact ⟨fun _ => rfl, fun h => Or.inr ⟨i, rfl, h⟩⟩
  | none =>
    have hl : (b ++ c).length > Gen.headerMax := by
      rcases hhit with h | h
      · exact absurd hf h
      · exact h
    have := findSep_append_none Gen.headerSep (b ++ c) post i hf hsep
    have e4 : Gen.headerSep.length = 4 := rfl
    refine ⟨fun h => ?_, fun _ => Or.inl ⟨rfl, hl⟩⟩
    omega

theorem res_nonEv (l : List Obs) (h : ∀ o ∈ l, Obs.isRes o = true) : ∀ o ∈ l, Obs.isEv o = false := by
  intro o ho
  have := h o ho
  cases o <;> simp [Obs.isRes] at this <;> rfl

theorem StartTrace.hist {cfg : Cfg} {proxy : Bool} {t : List Obs} (h : StartTrace cfg proxy t) :
    hist t = [.connected proxy, .connecting] := by
  obtain ⟨a, b, e, na, nb⟩ := h
  rw [e, hist_append, hist_nonEv a na, hist_cons_ev, hist_cons_nonEv _ _ rfl, hist_append,
    hist_nonEv b (res_nonEv b nb)]
  rfl

/-- what `run()` records after the loop is never a write -/
theorem tailObs_not_write {e : Event} {o : Obs} (h : TailObs e o) : isWrite o = false := by
  rcases h with h | h | h | h
  · rw [h]; rfl
  · rw [h]; rfl
  · rw [h]; rfl
  · cases o <;> simp [Obs.isRes] at h <;> rfl

theorem tick_not_write {o : Obs} (h : isTick o = true) : isWrite o = false := by
  cases o <;> simp [isTick] at h <;> rfl

theorem res_not_write {o : Obs} (h : Obs.isRes o = true) : isWrite o = false := by
  cases o <;> simp [Obs.isRes] at h <;> rfl

theorem not_hit_nil : ¬ Hit [] := by
  unfold Hit
  rintro (h | h)
  · exact h (by decide)
  · simp at h

theorem not_hit (b : Bytes) (h : ¬ Hit b) : findSep Gen.headerSep b = none ∧ b.length ≤ Gen.headerMax := by
  unfold Hit at h
  refine ⟨?_, Nat.le_of_not_gt (fun hg => h (Or.inr hg))⟩
  cases hf : findSep Gen.headerSep b with
  | none => rfl
  | some i => exact absurd (Or.inl (by rw [hf]; simp)) h

/-- from the start of the loop (header phase, nothing buffered) the quiet script is consumed without
    any event, write or call of the application until the read `c` that completes the block or
    exceeds the limit arrives, in the header-phase state `s'` -/
theorem reach_from {sA : Sys} (hcl : sA.closed = false) (hr : sA.ready = false) (hso : sA.sockOpen = true)
    (hp : sA.p = {}) (steps rest : List EnvStep) (hq : ∀ st ∈ steps, Quiet st) (hhit : Hit (dataOf steps)) :
    ∃ pre d c post s', steps = pre ++ .wait d (some (.data c)) :: post ∧
      HP s' ∧ Idle sA s' ∧ s'.p.buf = dataOf pre ∧ ¬ Hit (dataOf pre) ∧ Hit (dataOf pre ++ c) ∧
      loop (steps ++ rest) sA =
        (match wsFeed c s' with
         | .ok _ s3 => loop (post ++ rest) s3
         | .err x s3 => .err x s3) := by
  have hpA : HP sA := ⟨hcl, hr, hso, by rw [hp], by rw [hp]; decide, by rw [hp]; decide⟩
  have hbuf : sA.p.buf = [] := by rw [hp]
  obtain ⟨pre, d, c, post, e, hc, hqp, h1, h2⟩ := split_steps steps hq [] not_hit_nil (by simpa using hhit)
  simp only [List.nil_append] at h1 h2
  obtain ⟨hn1, hn2⟩ := not_hit _ h1
  obtain ⟨hloop, hp', hidle, hb'⟩ := loop_quiet pre hqp (.wait d (some (.data c)) :: (post ++ rest)) sA hpA
    (by rw [hbuf]; exact hn1) (by rw [hbuf]; exact hn2)
  rw [hbuf, List.nil_append] at hb'
  refine ⟨pre, d, c, post, tick (advance pre sA) d, e, hp_tick hp' d, hidle.trans (idle_tick _ d), hb', h1, h2, ?_⟩
  have e2 : steps ++ rest = pre ++ (.wait d (some (.data c)) :: (post ++ rest)) := by rw [e]; simp
  rw [e2, hloop]
  exact loop_wait_data d c (post ++ rest) (advance pre sA) (tick (advance pre sA) d) hp'.closed
    (regular_not_ready _ hp'.ready) hp'.sock hc

/-- **up to the deciding read**: the connection comes up, the request is written, `Connecting` and `Connected`
    are yielded; then `reach_from` -/
theorem reach_final {cfg : Cfg} {react : React} {proxy : Bool} (hs : Setup cfg react proxy)
    (steps rest : List EnvStep) (hq : ∀ st ∈ steps, Quiet st) (hhit : Hit (dataOf steps)) :
    ∃ sA pre d c post s', steps = pre ++ .wait d (some (.data c)) :: post ∧
      AtLoop cfg react (steps ++ rest) proxy sA ∧ StartTrace cfg proxy sA.trace ∧
      run { cfg := cfg, react := react, env := steps ++ rest } =
        tryC (do runBody (steps ++ rest); selClose) runFinally sA ∧
      HP s' ∧ I s' ∧ Idle sA s' ∧ s'.p.buf = dataOf pre ∧ ¬ Hit (dataOf pre) ∧ Hit (dataOf pre ++ c) ∧
      loop (steps ++ rest) sA =
        (match wsFeed c s' with
         | .ok _ s3 => loop (post ++ rest) s3
         | .err x s3 => .err x s3) := by
  obtain ⟨sA, hA, hst, hrun, _⟩ := run_start' cfg react (steps ++ rest) proxy hs.conn hs.req hs.poll hs.app
  obtain ⟨pre, d, c, post, s', e, hp', hidle, r⟩ := reach_from hA.closed hA.ready hA.sock hA.p steps rest hq hhit
  exact ⟨sA, pre, d, c, post, s', e, hA, hst, hrun, hp', I_idle hidle hA.i hA.ready, hidle, r⟩

theorem dataOf_split (pre : List EnvStep) (d : Nat) (c : Bytes) (post : List EnvStep) :
    dataOf (pre ++ .wait d (some (.data c)) :: post) = dataOf pre ++ c ++ dataOf post := by
  rw [dataOf_append]
  show dataOf pre ++ (c ++ dataOf post) = _
  rw [List.append_assoc]

/-- **the deciding read completes the block**: the terminator found in everything the script delivers
    is found once the read `c` has arrived, and the block is the same -/
theorem block_at_read {steps pre post : List EnvStep} {d : Nat} {c : Bytes} {s' : Sys}
    (e : steps = pre ++ .wait d (some (.data c)) :: post) (hb' : s'.p.buf = dataOf pre)
    (h2 : Hit (dataOf pre ++ c)) {i : Nat}
    (hsep : findSep Gen.headerSep (dataOf steps) = some i) (hlen : i + 4 ≤ Gen.headerMax) :
    findSep Gen.headerSep (s'.p.buf ++ c) = some i ∧ (dataOf steps).take (i + 4) = (s'.p.buf ++ c).take (i + 4) := by
  have hsep' : findSep Gen.headerSep (dataOf pre ++ c ++ dataOf post) = some i := by
    rw [← dataOf_split, ← e]; exact hsep
  have hsome := (hit_resolve (dataOf pre) c (dataOf post) i h2 hsep').1 hlen
  have := findSep_bound Gen.headerSep _ i hsome
  have e4 : Gen.headerSep.length = 4 := rfl
  rw [hb']
  exact ⟨hsome, by rw [e, dataOf_split]; exact List.take_append_of_le_length (by omega)⟩

/-- **Ready**: the block (the bytes up to the first `CR LF CR LF` of everything the script delivers) fits the
    limit and `on_response` accepts it.  Then the trace of the whole connection ends (oldest part) in a
    segment whose events are exactly Connecting, Connected, Ready(protocol, extensions), Poll. -/
theorem run_ready {cfg : Cfg} {react : React} {proxy : Bool} (hs : Setup cfg react proxy)
    (steps rest : List EnvStep) (hq : ∀ st ∈ steps, Quiet st) (i : Nat) (acc : Http.Accepted)
    (hsep : findSep Gen.headerSep (dataOf steps) = some i) (hlen : i + 4 ≤ Gen.headerMax)
    (hok : Http.onResponse cfg.v.strictAccept cfg.challenge (Http.parseResponse ((dataOf steps).take (i + 4))) = .ok acc) :
    ∃ L T0, (runAll cfg react (steps ++ rest)).trace = L ++ T0 ∧
      hist T0 = [.poll, .ready acc.protocol acc.deflate.isSome, .connected proxy, .connecting] := by
  obtain ⟨sA, pre, d, c, post, s', e, hA, hst, hrun, hp', hi', hidle, hb', h1, h2, hloop⟩ :=
    reach_final hs steps rest hq (Or.inl (by rw [hsep]; simp))
  obtain ⟨hsome, hblock⟩ := block_at_read e hb' h2 hsep hlen
  have hcfg : s'.cfg = cfg := hidle.cfg.trans hA.cfg
  obtain ⟨s4, hh4, _, hg4⟩ := arrive_ready c s' hp' hi' i acc hsome hlen
    (by rw [hcfg, ← hblock]; exact hok)
  have hgl : Grows s4 (loop (steps ++ rest) sA).state := by
    rw [hloop]
    cases hw : wsFeed c s' with
    | ok u s3 =>
      rw [hw] at hg4
      exact hg4.trans (Grows.of_step (step_loop _ s3))
    | err x s3 => rw [hw] at hg4; exact hg4
  have hgr := grows_after_loop (steps ++ rest) sA s4 hgl
  rw [← hrun] at hgr
  obtain ⟨L, hL⟩ := hgr.trans (grows_runAll cfg react (steps ++ rest))
  refine ⟨L, s4.trace, hL, ?_⟩
  rw [hh4, hidle.hist, hA.hist]

/-- **Rejected**: the block fits the limit and `on_response` refuses it with `reason`. -/
theorem run_rejected {cfg : Cfg} {react : React} {proxy : Bool} (hs : Setup cfg react proxy)
    (steps rest : List EnvStep) (hq : ∀ st ∈ steps, Quiet st) (i : Nat) (reason : Http.Str)
    (hsep : findSep Gen.headerSep (dataOf steps) = some i) (hlen : i + 4 ≤ Gen.headerMax)
    (herr : Http.onResponse cfg.v.strictAccept cfg.challenge (Http.parseResponse ((dataOf steps).take (i + 4))) = .error reason) :
    ∃ start ticks l post,
      (runAll cfg react (steps ++ rest)).trace = post ++ l ++ .ev (.rejected reason) :: .sockClose :: (ticks ++ start) ∧
      StartTrace cfg proxy start ∧ (∀ o ∈ ticks, isTick o = true) ∧ (∀ o ∈ l, Obs.isRes o = true) ∧
      hist post = [.disconnected "closed" true] ∧ (∀ o ∈ post, TailObs (.disconnected "closed" true) o) ∧
      (∀ o ∈ post, o ≠ .sockClose) ∧
      (runAll cfg react (steps ++ rest)).sockOpen = false ∧ (runAll cfg react (steps ++ rest)).selOpen = false ∧
      (runAll cfg react (steps ++ rest)).ready = false := by
  obtain ⟨sA, pre, d, c, post, s', e, hA, hst, hrun, hp', hi', hidle, hb', h1, h2, hloop⟩ :=
    reach_final hs steps rest hq (Or.inl (by rw [hsep]; simp))
  obtain ⟨hsome, hblock⟩ := block_at_read e hb' h2 hsep hlen
  have hcfg : s'.cfg = cfg := hidle.cfg.trans hA.cfg
  obtain ⟨s3, l, hw, hcl, hso, hrd, hse, hre, ht, hres⟩ := arrive_rejected c s' hp' hi' i reason
    hsome hlen (by rw [hcfg, ← hblock]; exact herr)
  rw [hw] at hloop
  simp only [] at hloop
  rw [loop_closed _ s3 hcl] at hloop
  have ha3 : SendOnly s3.react := by rw [hre]; exact hi'.app
  obtain ⟨sF, pst, hF, tF, hhF, nF, soF, seF, rdF, nsc⟩ := finish_ok _ sA s3 hloop ha3
  have hall := Monitor.runAll_ok (hrun.trans hF)
  obtain ⟨ticks, htk, ntk⟩ := hidle.trace
  have hrF : sF.ready = false := rdF.trans hrd
  refine ⟨sA.trace, ticks, l, pst, ?_, hst, ntk, hres, hhF, nF, nsc hso, by rw [hall]; exact soF,
    by rw [hall]; exact seF, by rw [hall]; exact hrF⟩
  rw [hall, tF, ht, htk]; simp

/-- **ProtocolError**: the header material exceeds 16 KiB — terminated beyond the limit, or not terminated. -/
theorem run_oversize {cfg : Cfg} {react : React} {proxy : Bool} (hs : Setup cfg react proxy)
    (steps rest : List EnvStep) (hq : ∀ st ∈ steps, Quiet st)
    (hbig : (findSep Gen.headerSep (dataOf steps) = none ∧ (dataOf steps).length > Gen.headerMax) ∨
            (∃ i, findSep Gen.headerSep (dataOf steps) = some i ∧ i + 4 > Gen.headerMax)) :
    ∃ start ticks l post,
      (runAll cfg react (steps ++ rest)).trace =
        post ++ l ++ .ev (.protocolError "expected separator" true) :: (ticks ++ start) ∧
      StartTrace cfg proxy start ∧ (∀ o ∈ ticks, isTick o = true) ∧ (∀ o ∈ l, Obs.isEv o = false) ∧
      hist post = [.disconnected "forced" false] ∧ (∀ o ∈ post, TailObs (.disconnected "forced" false) o) ∧
      (runAll cfg react (steps ++ rest)).sockOpen = false ∧ (runAll cfg react (steps ++ rest)).selOpen = false ∧
      (runAll cfg react (steps ++ rest)).ready = false := by
  have hhit : Hit (dataOf steps) := by
    rcases hbig with ⟨_, h⟩ | ⟨i, h, _⟩
    · exact Or.inr h
    · exact Or.inl (by rw [h]; simp)
  obtain ⟨sA, pre, d, c, post, s', e, hA, hst, hrun, hp', hi', hidle, hb', h1, h2, hloop⟩ :=
    reach_final hs steps rest hq hhit
  have hds : dataOf steps = dataOf pre ++ c ++ dataOf post := by rw [e, dataOf_split]
  have hbig' : (findSep Gen.headerSep (s'.p.buf ++ c) = none ∧ (s'.p.buf ++ c).length > Gen.headerMax) ∨
      (∃ i, findSep Gen.headerSep (s'.p.buf ++ c) = some i ∧ i + 4 > Gen.headerMax) := by
    rw [hb']
    rcases hbig with ⟨hn, _⟩ | ⟨i, hi, hgt⟩
    · rw [hds] at hn
      have hn' := findSep_prefix_none _ _ _ hn
      rcases h2 with h | h
      · exact absurd hn' h
      · exact Or.inl ⟨hn', h⟩
    · rw [hds] at hi
      exact (hit_resolve (dataOf pre) c (dataOf post) i h2 hi).2 hgt
  obtain ⟨s2, l, hw, ht, nl, hre, hr2⟩ := arrive_oversize c s' hp' hi' hbig'
  rw [hw] at hloop
  simp only [] at hloop
  have ha2 : SendOnly s2.react := by rw [hre]; exact hi'.app
  obtain ⟨sF, pst, hF, tF, hhF, nF, soF, seF, rdF, _⟩ :=
    finish_err _ sA s2 (.forceDisconnect "forced") "forced" hloop (Or.inl rfl) ha2
  have hall := Monitor.runAll_ok (hrun.trans hF)
  obtain ⟨ticks, htk, ntk⟩ := hidle.trace
  refine ⟨sA.trace, ticks, l, pst, ?_, hst, ntk, nl, hhF, nF, by rw [hall]; exact soF,
    by rw [hall]; exact seF, by rw [hall]; exact rdF.trans hr2⟩
  rw [hall, tF, ht, htk]; simp

def blockOf (data : Bytes) (i : Nat) : Bytes := data.take (i + 4)

theorem four_noMsg (a b c d : Event) (ha : Monitor.Event.needsReady a = false) (hb : Monitor.Event.needsReady b = false)
    (hc : Monitor.Event.needsReady c = false) (hd : Monitor.Event.needsReady d = false) :
    ∀ e ∈ [a, b, c, d], Monitor.Event.needsReady e = false := by
  intro e he
  simp only [List.mem_cons, List.not_mem_nil, or_false] at he
  rcases he with rfl | rfl | rfl | rfl <;> assumption

open Lomond.Spec Lomond.Http in
theorem blockOf_render (sl : Bytes) (fs : List FField) (hsl : ∀ c ∈ sl, c ≠ 13) (hok : ∀ f ∈ fs, FOk f)
    (stream : Bytes) :
    ∃ i, findSep Gen.headerSep (renderReply2 sl fs ++ stream) = some i ∧ i + 4 = (renderReply2 sl fs).length ∧
      blockOf (renderReply2 sl fs ++ stream) i = renderReply2 sl fs := by
  obtain ⟨i, h1, h2⟩ := findSep_renderReply2 sl fs hsl hok stream
  refine ⟨i, h1, h2, ?_⟩
  unfold blockOf
  rw [h2]
  exact List.take_left' rfl

end Lomond.Core.HRun

namespace Lomond.Core.Monitor
open Lomond Lomond.Core

theorem Mon.no_rejected_after_ready {ph : Phase} {a b : List Event} {x : Option Http.Str} {d : Bool}
    (h : Mon.run .start (a ++ .ready x d :: b) = some ph) : ∀ r, Event.rejected r ∉ b := by
  obtain ⟨p, q, _, hs, hb⟩ := Mon.run_split h
  obtain ⟨_, rfl⟩ := Mon.step_ready hs
  intro r hm
  obtain ⟨b1, b2, rfl⟩ := List.append_of_mem hm
  obtain ⟨p1, q1, hb1, hs1, _⟩ := Mon.run_split hb
  have hr := Mon.run_mono hb1
  cases p1 <;> simp [Phase.rank] at hr <;> simp [Mon.step] at hs1

end Lomond.Core.Monitor
