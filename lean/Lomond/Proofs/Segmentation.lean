/-
  Helper lemmas for C02 at the level of `WebSocket.feed` (header phase included):
  `break` happens exactly when the websocket is closed, the header reader is independent of
  how the block is cut (`feedBody_append_header`), hence `wsFeed_cut` and the chunk-list form.
-/
import Lomond.Proofs.Step
import Lomond.Proofs.FindSep
import Lomond.Proofs.Calls
namespace Lomond.Core
open Lomond

theorem bind_notClosed {m : M α} {s s' : Sys} {b : Bool}
    (h : (m >>= fun _ => notClosed) s = .ok b s') : b = !s'.closed := by
  cases hm : m s with
  | err x s1 => rw [bind_err hm] at h; cases h
  | ok a s1 =>
    rw [bind_ok hm] at h
    unfold notClosed at h; cases h; rfl

theorem onDisconnect_closed {s s' : Sys} (h : onDisconnect s = .ok () s') : s'.closed = true := by
  rw [onDisconnect_eq] at h
  cases h; rfl

theorem onOut_result (o : Out) (s s' : Sys) (b : Bool) (h : onOut o s = .ok b s') : b = !s'.closed := by
  cases o with
  | frame f => exact bind_notClosed (by simpa only [onOut] using h)
  | header data =>
    simp only [onOut] at h
    rw [getS_bind] at h
    cases hr : Http.onResponse s.cfg.v.strictAccept s.cfg.challenge (Http.parseResponse data) with
    | error reason =>
      -- rejected: on_disconnect() has set closed, the yield cannot unset it
      rw [hr] at h; simp only at h
      have e0 : modS (fun s => { s with parsedResponse := true }) s = .ok () { s with parsedResponse := true } := rfl
      rw [bind_ok e0] at h
      cases hd : onDisconnect { s with parsedResponse := true } with
      | err x s1 => rw [bind_err hd] at h; cases h
      | ok u s1 =>
        rw [bind_ok hd] at h
        have hc1 : s1.closed = true := onDisconnect_closed hd
        cases hy : feedYield true (.rejected reason) s1 with
        | err x s2 => rw [bind_err hy] at h; cases h
        | ok u2 s2 =>
          rw [bind_ok hy] at h
          have st := (step_feedYield true (.rejected reason)).ok hy
          cases h
          simp [st.closedMono hc1]
    | ok acc =>
      rw [hr] at h; simp only at h
      rw [modS_bind] at h
      obtain ⟨u, s2, _, h3⟩ := bind_ok_inv h
      exact bind_notClosed h3

theorem feedLoop_result {data : Bytes} {s s' : Sys} {b : Bool} (hc : s.closed = false)
    (h : feedLoop data s = .ok b s') : b = !s'.closed := by
  refine feedLoop_induct (P := fun _ s r => s.closed = false → ∀ b s', r = .ok b s' → b = !s'.closed)
    ?_ ?_ ?_ ?_ ?_ ?_ data s hc b s' h
  · intro s hc b s' h; cases h; rw [hc]; rfl
  · intro _ _ _ _ _ _ _ _ h; cases h
  · intro _ _ _ _ _ ih hc; exact ih hc
  · intro _ _ _ _ _ _ _ _ _ _ _ _ h; cases h
  · intro _ _ _ o _ _ _ ho _ _ _ h; cases h; exact onOut_result o _ _ _ ho
  · intro _ _ _ o s2 _ _ ho ih _
    have := onOut_result o _ _ _ ho
    exact ih (by simpa using this)

/-- while the header block is awaited: no complete terminator buffered, length within the limit; used only where empty reads are fed -/
def HdrInv (s : Sys) : Prop :=
  s.p.cont = .header → findSep Gen.headerSep s.p.buf = none ∧ headerTooLong s.p.buf.length = false

/-- feeding `b` after `a` the way the session does: nothing more is fed once the websocket is closed -/
def thenFeed (r : Res Unit) (b : Bytes) : Res Unit :=
  match r with
  | .ok _ s' => if s'.closed then .ok () s' else feedBody b s'
  | .err x s' => .err x s'

theorem headerTooLong_mono {n m : Nat} (h : headerTooLong n = true) (hnm : n ≤ m) : headerTooLong m = true := by
  unfold headerTooLong at *
  simp only [Bool.and_eq_true, Bool.not_eq_true', decide_eq_true_eq] at *
  exact ⟨h.1, by omega⟩

theorem feedBody_frames (d : Bytes) (s : Sys) (h : s.p.cont ≠ .header) :
    feedBody d s = match feedLoop d s with | .ok _ s' => .ok () s' | .err x s' => .err x s' := by
  unfold feedBody; rw [if_neg h]; cases feedLoop d s <;> rfl

theorem feedBody_append_frames (a b : Bytes) (s : Sys) (hc : s.closed = false) (h : s.p.cont ≠ .header) :
    feedBody (a ++ b) s = thenFeed (feedBody a s) b := by
  rw [feedBody_frames _ _ h, feedBody_frames _ _ h, feedLoop_append]
  cases hr : feedLoop a s with
  | err x s' => simp [contLoop, thenFeed]
  | ok go s' =>
    have hnh : s'.p.cont ≠ .header := ((step_feedLoop a).ok hr).contNH h
    cases go with
    | true =>
      have : s'.closed = false := by simpa using feedLoop_result hc hr
      simp only [contLoop, thenFeed, this]
      rw [feedBody_frames _ _ hnh]; simp
    | false =>
      have : s'.closed = true := by simpa using feedLoop_result hc hr
      simp [contLoop, thenFeed, this]

theorem afterHeader_append (r b : Bytes) (out : Option Out) (s : Sys) (hc : s.closed = false)
    (h : s.p.cont ≠ .header) :
    afterHeader (r ++ b) out s = thenFeed (afterHeader r out s) b := by
  have tail (s : Sys) (hc : s.closed = false) (h : s.p.cont ≠ .header) :
      (do let _ ← feedLoop (r ++ b); pure () : M Unit) s = thenFeed ((do let _ ← feedLoop r; pure () : M Unit) s) b := by
    have := feedBody_append_frames r b s hc h
    rw [feedBody_frames _ _ h, feedBody_frames _ _ h] at this
    cases h1 : feedLoop (r ++ b) s <;> cases h2 : feedLoop r s <;>
      simp only [h1, h2] at this ⊢ <;>
      (first | (rw [bind_ok h1, bind_ok h2]; exact this) | (rw [bind_ok h1, bind_err h2]; exact this)
             | (rw [bind_err h1, bind_ok h2]; exact this) | (rw [bind_err h1, bind_err h2]; exact this))
  unfold afterHeader
  cases out with
  | none => exact tail s hc h
  | some o =>
    simp only
    cases ho : onOut o s with
    | err x s1 => rw [bind_err ho, bind_err ho]; rfl
    | ok go s1 =>
      rw [bind_ok ho, bind_ok ho]
      have hgo := onOut_result o s s1 go ho
      have hnh : s1.p.cont ≠ .header := ((step_onOut o).ok ho).contNH h
      cases go with
      | false =>
        have hcl : s1.closed = true := by simpa using hgo
        simp only [pure_apply, thenFeed, hcl, if_true, Bool.false_eq_true, if_false]
      | true =>
        simp only [if_true]
        exact tail s1 (by simpa using hgo) hnh


theorem feedBody_header (d : Bytes) (s : Sys) (h : s.p.cont = .header) : feedBody d s = feedHeader d s := by
  unfold feedBody; rw [if_pos h]

theorem resume_ignores_buf (v : Variant) (p : PState) (bf : Bytes) (x : Bytes) :
    resume v { p with buf := bf } x = resume v p x := by
  simp [resume]

theorem resume_header_out (v : Variant) (p : PState) (x : Bytes) (h : p.cont = .header) :
    ∃ p', resume v p x = .ok (p', some (.header x)) ∧ p'.cont = .hdr2 := by
  unfold resume; simp only [h]; exact ⟨_, rfl, rfl⟩

def hdrStep (buf : Bytes) (s : Sys) : Res Unit :=
  match findSep Gen.headerSep buf with
  | none =>
    if headerTooLong buf.length then .err (.parse "expected separator") { s with p := deadParser s.p }
    else .ok () { s with p := { s.p with buf := buf } }
  | some i =>
    let e := i + Gen.headerSep.length
    if headerTooLong e then .err (.parse "expected separator") { s with p := deadParser s.p }
    else
      match resume s.cfg.v s.p (buf.take e) with
      | .error x => .err x { s with p := deadParser s.p }
      | .ok (p', out) => afterHeader (buf.drop e) out { s with p := p' }

theorem feedHeader_eq (d : Bytes) (s : Sys) : feedHeader d s = hdrStep (s.p.buf ++ d) s := rfl

def bufTo (s : Sys) (bf : Bytes) : Sys := { s with p := { s.p with buf := bf } }

theorem hdrStep_bufTo (buf bf : Bytes) (s : Sys) : hdrStep buf (bufTo s bf) = hdrStep buf s := by
  unfold hdrStep bufTo
  simp only [resume_ignores_buf, deadParser]

theorem feedBody_append_header (a b : Bytes) (s : Sys) (hc : s.closed = false)
    (hh : s.p.cont = .header) :
    feedBody (a ++ b) s = thenFeed (feedBody a s) b := by
  rw [feedBody_header _ _ hh, feedBody_header _ _ hh, feedHeader_eq, feedHeader_eq]
  have hassoc : s.p.buf ++ (a ++ b) = (s.p.buf ++ a) ++ b := by simp
  rw [hassoc]
  cases hf : findSep Gen.headerSep (s.p.buf ++ a) with
  | some i =>
    have hb := findSep_bound _ _ _ hf
    have hf2 := findSep_append _ _ b _ hf
    unfold hdrStep
    rw [hf, hf2]
    simp only
    by_cases htl : headerTooLong (i + Gen.headerSep.length) = true
    · simp [htl, thenFeed]
    · simp only [htl, Bool.false_eq_true, if_false]
      have et : ((s.p.buf ++ a) ++ b).take (i + Gen.headerSep.length) = (s.p.buf ++ a).take (i + Gen.headerSep.length) :=
        List.take_append_of_le_length hb
      have ed : ((s.p.buf ++ a) ++ b).drop (i + Gen.headerSep.length) = (s.p.buf ++ a).drop (i + Gen.headerSep.length) ++ b :=
        List.drop_append_of_le_length hb
      rw [et, ed]
      obtain ⟨p', hr, hp'⟩ := resume_header_out s.cfg.v s.p ((s.p.buf ++ a).take (i + Gen.headerSep.length)) hh
      rw [hr]
      simp only
      exact afterHeader_append _ b _ { s with p := p' } hc (by simp [hp'])
  | none =>
    by_cases htl : headerTooLong (s.p.buf ++ a).length = true
    · -- already too long without a terminator: the same error whatever follows
      have e1 : hdrStep (s.p.buf ++ a) s = .err (.parse "expected separator") { s with p := deadParser s.p } := by
        unfold hdrStep; rw [hf]; simp only [htl, if_true]
      rw [e1]; simp only [thenFeed]
      unfold hdrStep
      cases hf2 : findSep Gen.headerSep ((s.p.buf ++ a) ++ b) with
      | none =>
        have : headerTooLong ((s.p.buf ++ a) ++ b).length = true :=
          headerTooLong_mono htl (by simp only [List.length_append]; omega)
        simp only [this, if_true]
      | some j =>
        have hj := findSep_append_none _ _ b j hf hf2
        have : headerTooLong (j + Gen.headerSep.length) = true := headerTooLong_mono htl (by omega)
        simp only [this, if_true]
    · have e1 : hdrStep (s.p.buf ++ a) s = .ok () (bufTo s (s.p.buf ++ a)) := by
        unfold hdrStep bufTo; rw [hf]; simp only [htl, Bool.false_eq_true, if_false]
      rw [e1]
      have hc1 : (bufTo s (s.p.buf ++ a)).closed = false := hc
      have hh1 : (bufTo s (s.p.buf ++ a)).p.cont = .header := hh
      simp only [thenFeed, hc1, Bool.false_eq_true, if_false]
      rw [feedBody_header _ _ hh1, feedHeader_eq, hdrStep_bufTo]
      rfl

theorem feedBody_append (a b : Bytes) (s : Sys) (hc : s.closed = false) :
    feedBody (a ++ b) s = thenFeed (feedBody a s) b := by
  by_cases hh : s.p.cont = .header
  · exact feedBody_append_header a b s hc hh
  · exact feedBody_append_frames a b s hc hh


theorem feedHandler_never_ok (x : Exn) (s : Sys) : ∃ y s', feedHandler x s = .err y s' := by
  unfold feedHandler
  split
  · exact neverOk_bind_right (fun _ => neverOk_throwE _) s
  · exact neverOk_bind_right (fun _ => neverOk_throwE _) s
  · exact neverOk_bind_right (fun _ => neverOk_bind_right (fun _ => neverOk_bind_right (fun _ => neverOk_throwE _))) s
  · exact ⟨_, s, rfl⟩

/-- what `WebSocket.feed` does with the result of its `try` body -/
def wsWrap (r : Res Unit) : Res Unit :=
  match r with
  | .ok a s' => .ok a s'
  | .err x s' =>
    match feedHandler x s' with
    | .ok a s'' => .ok a s''
    | .err y s'' => unwrapOuter y s''

theorem wsFeed_eq (d : Bytes) (s : Sys) :
    wsFeed d s = if s.closed then .ok () s else wsWrap (feedBody d s) := by
  unfold wsFeed wsWrap tryC
  split
  · rfl
  · cases feedBody d s with
    | ok a s' => rfl
    | err x s' => simp only; cases feedHandler x s' <;> rfl

theorem wsWrap_err (x : Exn) (s' : Sys) : ∃ y s'', wsWrap (.err x s') = .err y s'' := by
  unfold wsWrap
  obtain ⟨y, s1, h⟩ := feedHandler_never_ok x s'
  simp only [h]
  exact (unwrapOuter_err y s1).imp fun _ h => ⟨_, h⟩

/-- **`WebSocket.feed` is independent of how the data is cut.** -/
theorem wsFeed_cut (a b : Bytes) (s : Sys) :
    wsFeed (a ++ b) s =
      match wsFeed a s with
      | .ok _ s' => wsFeed b s'
      | .err x s' => .err x s' := by
  rw [wsFeed_eq, wsFeed_eq a]
  by_cases hc : s.closed = true
  · simp only [hc, if_true]; rw [wsFeed_eq]; simp [hc]
  · have hc' : s.closed = false := by simpa using hc
    simp only [hc', Bool.false_eq_true, if_false]
    rw [feedBody_append a b s hc']
    cases hr : feedBody a s with
    | err x s' =>
      obtain ⟨y, s'', hw⟩ := wsWrap_err x s'
      simp only [thenFeed, hw]
    | ok u s' =>
      simp only [thenFeed, wsWrap]
      rw [wsFeed_eq]
      by_cases hc2 : s'.closed = true
      · simp [hc2]
      · simp only [hc2, wsWrap]; simp


set_option linter.unusedVariables false in
theorem wsFeed_append (a b : Bytes) (s : Sys) (hi : HdrInv s) :
    wsFeed (a ++ b) s =
      match wsFeed a s with
      | .ok _ s' => wsFeed b s'
      | .err x s' => .err x s' :=
  wsFeed_cut a b s

theorem hdrInv_fresh (s : Sys) (h : s.p = {}) : HdrInv s := by
  intro _
  rw [h]
  show findSep Gen.headerSep [] = none ∧ headerTooLong ([] : Bytes).length = false
  decide

theorem feedBody_hdrInv (d : Bytes) (s s' : Sys) (hr : feedBody d s = .ok () s') : HdrInv s' := by
  by_cases hh : s.p.cont = .header
  · rw [feedBody_header _ _ hh, feedHeader_eq] at hr
    unfold hdrStep at hr
    cases hf : findSep Gen.headerSep (s.p.buf ++ d) with
    | none =>
      rw [hf] at hr
      simp only at hr
      by_cases htl : headerTooLong (s.p.buf ++ d).length = true
      · simp only [htl, if_true] at hr; cases hr
      · simp only [htl, Bool.false_eq_true, if_false] at hr
        cases hr
        intro _
        exact ⟨hf, by simpa using htl⟩
    | some i =>
      rw [hf] at hr
      simp only at hr
      by_cases htl : headerTooLong (i + Gen.headerSep.length) = true
      · simp only [htl, if_true] at hr; cases hr
      · simp only [htl, Bool.false_eq_true, if_false] at hr
        obtain ⟨p', hres, hp'⟩ := resume_header_out s.cfg.v s.p ((s.p.buf ++ d).take (i + Gen.headerSep.length)) hh
        rw [hres] at hr
        simp only at hr
        have := ((spec_afterHeader step_po _ _ step_onOut step_feedLoop).ok hr).contNH (by simp [hp'])
        intro hc; exact absurd hc this
  · rw [feedBody_frames _ _ hh] at hr
    cases hl : feedLoop d s with
    | err x s1 => rw [hl] at hr; cases hr
    | ok go s1 =>
      rw [hl] at hr; cases hr
      have := ((step_feedLoop d).ok hl).contNH hh
      intro hc; exact absurd hc this

theorem wsFeed_hdrInv (d : Bytes) (s s' : Sys) (hi : HdrInv s) (hr : wsFeed d s = .ok () s') : HdrInv s' := by
  rw [wsFeed_eq] at hr
  by_cases hc : s.closed = true
  · simp only [hc, if_true] at hr; cases hr; exact hi
  · simp only [hc] at hr
    cases hb : feedBody d s with
    | ok u s1 =>
      rw [hb] at hr; simp only [wsWrap] at hr
      have e : s1 = s' := by cases hr; rfl
      subst e
      exact feedBody_hdrInv d s s1 hb
    | err x s1 =>
      obtain ⟨y, s2, hw⟩ := wsWrap_err x s1
      rw [hb, hw] at hr; cases hr

/-- the session never feeds an empty read; needed for the empty chunk list -/
theorem wsFeed_nil (s : Sys) (hi : HdrInv s) : wsFeed [] s = .ok () s := by
  rw [wsFeed_eq]
  by_cases hc : s.closed = true
  · simp [hc]
  · simp only [hc]
    by_cases hh : s.p.cont = .header
    · obtain ⟨h1, h2⟩ := hi hh
      rw [feedBody_header _ _ hh, feedHeader_eq]
      unfold hdrStep
      simp only [List.append_nil, h1, h2, Bool.false_eq_true, if_false, wsWrap]
    · rw [feedBody_frames _ _ hh, feedLoop_nil]; rfl

/-- feed the chunks one read after the other, as `run()` does -/
def wsFeedChunks : List Bytes → Sys → Res Unit
  | [], s => .ok () s
  | c :: cs, s =>
    match wsFeed c s with
    | .ok _ s' => wsFeedChunks cs s'
    | .err x s' => .err x s'

theorem wsFeedChunks_eq_flatten (cs : List Bytes) (s : Sys) (hi : HdrInv s) :
    wsFeedChunks cs s = wsFeed cs.flatten s := by
  induction cs generalizing s with
  | nil => simp [wsFeedChunks, wsFeed_nil s hi]
  | cons c cs ih =>
    simp only [wsFeedChunks, List.flatten_cons]
    rw [wsFeed_cut c _ s]
    cases hr : wsFeed c s with
    | err x s' => rfl
    | ok u s' => exact ih s' (wsFeed_hdrInv c s s' hi hr)

theorem wsFeed_closed (s : Sys) (data : Bytes) (h : s.closed = true) : wsFeed data s = .ok () s := by
  unfold wsFeed
  simp [h]

end Lomond.Core
