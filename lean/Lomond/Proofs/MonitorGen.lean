/-
  The trace is newest first and holds all observations; the property text speaks of the list of
  events, oldest first.  What the timer invariants say of a trace (`UNext`, `discAny`, `readyAt`) read
  on the event list, and what `Mon.complete` says of `Disconnected` — for C07_Run.
-/
import Lomond.Proofs.RunAll
import Lomond.Proofs.LiftX
import Lomond.Proofs.TimerRun
namespace Lomond.Core.MonitorGen
open Lomond Lomond.Core Lomond.Core.Lift Lomond.Core.LiftX Lomond.Core.Monitor Lomond.Core.Timers Lomond.Core.TimerRun

theorem events_getLast (tr : List Obs) : (events tr).getLast? = newestEv tr := by
  induction tr with
  | nil => rfl
  | cons o t ih =>
    cases o with
    | ev e => rw [events_cons_ev]; simp [newestEv]
    | _ => rw [events_cons_nonEv _ _ rfl, newestEv_cons_nonEv _ (fun e he => by cases he)]; exact ih

theorem unext_events {tr : List Obs} (h : UNext tr) {a b : List Event} {e : Event}
    (he : events tr = a ++ .unresponsive :: e :: b) : e = .disconnected "ping-timeout" false := by
  induction tr generalizing a b e with
  | nil => simp [events] at he
  | cons o t ih =>
    cases o with
    | ev e0 =>
      rw [events_cons_ev] at he
      rcases List.eq_nil_or_concat b with hb | ⟨b', x, hb⟩
      · subst hb
        have e1 : events t ++ [e0] = (a ++ [.unresponsive]) ++ [e] := by rw [he]; simp
        obtain ⟨h1, h2⟩ := List.append_inj' e1 rfl
        have h3 : e0 = e := by simpa using h2
        have hn : newestEv t = some .unresponsive := by rw [← events_getLast, h1]; simp
        rw [← h3]; exact h.1 e0 rfl hn
      · subst hb
        have e1 : events t ++ [e0] = (a ++ .unresponsive :: e :: b') ++ [x] := by rw [he]; simp
        obtain ⟨h1, _⟩ := List.append_inj' e1 rfl
        exact ih h.2 h1
    | _ => rw [events_cons_nonEv _ _ rfl] at he; exact ih h.2 he

theorem discAny_false_events {tr : List Obs} (h : discAny tr = false) (k : String) (g : Bool) :
    Event.disconnected k g ∉ events tr := by
  intro hm
  rw [mem_events] at hm
  unfold discAny at h
  rw [List.any_eq_false] at h
  exact absurd rfl (h _ hm)

theorem Mon.run_disc_done {evs : List Event} {ph : Phase} (h : Mon.run .start evs = some ph) {k : String} {g : Bool}
    (hm : Event.disconnected k g ∈ evs) : ph = .done := by
  obtain ⟨a, b, rfl⟩ := List.append_of_mem hm
  have hb := Mon.nothing_after_terminal h rfl
  subst hb
  obtain ⟨p, q, _, hs, hr⟩ := Mon.run_split h
  cases hr
  exact Mon.step_terminal hs rfl

theorem disconnected_of_complete_ready {evs : List Event} (hc : Mon.complete evs) {x : Option Http.Str} {d : Bool}
    (hr : Event.ready x d ∈ evs) : ∃ k g, Event.disconnected k g ∈ evs := by
  obtain ⟨a, e, h1, ht, _⟩ := Mon.complete_ends_terminal hc
  cases e with
  | disconnected k g => exact ⟨k, g, by rw [h1]; simp⟩
  | connectFail k =>
    exfalso
    subst h1
    obtain ⟨ha, _⟩ := Mon.connectFail_position (b := []) hc
    subst ha
    simp at hr
  | _ => cases ht

theorem readyAt_some_mem {tr : List Obs} (h : readyAt tr ≠ none) : ∃ a d, Obs.ev (.ready a d) ∈ tr := by
  induction tr with
  | nil => exact absurd rfl h
  | cons o t ih =>
    unfold readyAt at h
    by_cases ho : o.tmIsReady = true
    · cases o with
      | ev e =>
        cases e with
        | ready a d => exact ⟨a, d, List.mem_cons_self⟩
        | _ => cases ho
      | _ => cases ho
    · simp only [ho, Bool.false_eq_true, if_false] at h
      obtain ⟨a, d, hm⟩ := ih h
      exact ⟨a, d, List.mem_cons_of_mem _ hm⟩

theorem released_noTick {s s' : Sys} (h : Released s s') :
    ∃ l, s'.trace = l ++ s.trace ∧ ∀ o ∈ l, o.tmTickVal = none := by
  obtain ⟨_, l, e, n⟩ := h
  refine ⟨l, e, fun o ho => ?_⟩
  rcases n o ho with rfl | rfl <;> rfl

end Lomond.Core.MonitorGen
