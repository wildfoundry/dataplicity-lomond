/-
  Huffman decoding of Model/Inflate.lean against the encoder's code tables.  `goL` is `decode.go`
  on a bit list, for a table given by two functions; `go_eq` ties the two.  For the fixed tables
  the finitely many code words are checked by kernel evaluation and lifted to "the code word
  followed by anything" by `goL_append`.  The encoder's `lenCode` / `distCode` are inverse to the
  inflater's `lbase`/`lext`/`dbase`/`dext` for every length 3..258 and distance 1..32768.
-/
import Lomond.Proofs.InflateBits
namespace Lomond.Inflate
open Lomond Lomond.DeflEnc

def Huff.cnt (h : Huff) (l : Nat) : Nat := h.count.getD l 0
def Huff.sym (h : Huff) (i : Nat) : Nat := h.symbol.getD i 0

/-- `decode.go` on a list of bits, for a table given by its two functions: `none` = the input
    ends first; otherwise the symbol (`none` = no code of at most 15 bits) and the number of bits used -/
def goL (cnt sym : Nat → Nat) : Nat → Nat → Nat → Nat → Nat → List Bool → Option (Option Nat × Nat)
  | 0, _, _, _, _, _ => some (none, 0)
  | _ + 1, _, _, _, _, [] => none
  | fuel + 1, len, code, first, index, b :: r =>
    if code + b.toNat < first + cnt len then some (some (sym (index + (code + b.toNat - first))), 1)
    else
      match goL cnt sym fuel (len + 1) ((code + b.toNat) * 2) ((first + cnt len) * 2) (index + cnt len) r with
      | none => none
      | some (s, k) => some (s, k + 1)

def rdOf (pos : Nat) : Option (Option Nat × Nat) → Rd (Option Nat)
  | none => .eoi
  | some (s, k) => .ok s (pos + k)

theorem go_eq (h : Huff) (inp : Array Nat) (fuel len pos code first index : Nat) :
    decode.go h inp fuel len pos code first index =
      rdOf pos (goL h.cnt h.sym fuel len code first index (Rest inp pos)) := by
  induction fuel generalizing len pos code first index with
  | zero => simp [decode.go, goL, rdOf]
  | succ fuel ih =>
    cases hr : Rest inp pos with
    | nil =>
      have := (rest_nil_iff inp pos).mp hr
      simp only [decode.go, if_neg this, goL, rdOf]
    | cons b r =>
      obtain ⟨h1, h2, h3⟩ := rest_cons hr
      have ec : ∀ l, h.count.getD l 0 = h.cnt l := fun _ => rfl
      have es : ∀ i, h.symbol.getD i 0 = h.sym i := fun _ => rfl
      simp only [decode.go, if_pos h1, goL, h2, ec, es]
      split
      · rfl
      · rw [ih, h3]
        cases goL h.cnt h.sym fuel (len + 1) ((code + b.toNat) * 2) ((first + h.cnt len) * 2) (index + h.cnt len) r with
        | none => rfl
        | some sk => simp only [rdOf]; congr 1; omega

/-- prefix-freeness in the form needed: once a symbol is decoded, what follows does not matter -/
theorem goL_append (cnt sym : Nat → Nat) (fuel len code first index : Nat) (bs rest : List Bool) (s : Option Nat)
    (k : Nat) (hg : goL cnt sym fuel len code first index bs = some (s, k)) :
    goL cnt sym fuel len code first index (bs ++ rest) = some (s, k) := by
  induction fuel generalizing len code first index bs k s with
  | zero => simpa [goL] using hg
  | succ fuel ih =>
    cases bs with
    | nil => simp [goL] at hg
    | cons b r =>
      simp only [goL, List.cons_append] at hg ⊢
      split
      · rename_i hc; rw [if_pos hc] at hg; exact hg
      · rename_i hc
        rw [if_neg hc] at hg
        cases hx : goL cnt sym fuel (len + 1) ((code + b.toNat) * 2) ((first + cnt len) * 2) (index + cnt len) r with
        | none => rw [hx] at hg; cases hg
        | some sk =>
          rw [hx] at hg
          obtain ⟨s', k'⟩ := sk
          rw [ih _ _ _ _ _ _ _ hx]
          exact hg

theorem fixedLit_shape : fixedLit.shape = .complete := rfl
theorem fixedDist_shape : fixedDist.shape = .complete := rfl

theorem decode_complete (h : Huff) (hs : h.shape = .complete) (inp : Array Nat) (pos : Nat) :
    decode h inp pos = rdOf pos (goL h.cnt h.sym 15 1 0 0 0 (Rest inp pos)) := by
  simp only [decode, hs, decode.decodeGo', go_eq]

/-- the symbols of the fixed literal/length code ordered by (length, value): 256..279 (7 bits),
    0..143 and 280..287 (8 bits), 144..255 (9 bits) -/
def fixedLitSym (i : Nat) : Nat :=
  if i < 24 then 256 + i else if i < 168 then i - 24 else if i < 176 then 280 + (i - 168)
  else if i < 288 then 144 + (i - 176) else 0

/-- looking a symbol up in the 288-entry array costs the kernel as much as decoding it: the array
    is compared once with the four runs it consists of, and the code words are decoded with
    `fixedLitSym` -/
theorem fixedLit_sym : fixedLit.sym = fixedLitSym := by
  have : fixedLit.symbol.toList =
      List.range' 256 24 ++ List.range' 0 144 ++ List.range' 280 8 ++ List.range' 144 112 := by
    decide +kernel
  funext i
  simp only [Huff.sym, ← getD_toList, this, fixedLitSym, List.getD_eq_getElem?_getD, List.getElem?_append,
    List.length_append, List.length_range']
  by_cases h1 : i < 24
  · rw [if_pos (by omega), if_pos (by omega), if_pos h1, if_pos h1, List.getElem?_range' h1]
    simp
  by_cases h2 : i < 168
  · rw [if_pos (by omega), if_pos (by omega), if_neg h1, if_neg h1, if_pos h2, List.getElem?_range' (by omega)]
    simp
  by_cases h3 : i < 176
  · rw [if_pos (by omega), if_neg (by omega), if_neg h1, if_neg h2, if_pos h3, List.getElem?_range' (by omega)]
    simp
  by_cases h4 : i < 288
  · rw [if_neg (by omega), if_neg h1, if_neg h2, if_neg h3, if_pos h4, List.getElem?_range' (by omega)]
    simp
  · rw [if_neg (by omega), if_neg h1, if_neg h2, if_neg h3, if_neg h4, List.getElem?_eq_none (by simp; omega)]
    rfl

theorem fixedLit_words :
    ∀ s, s < 288 → goL fixedLit.cnt fixedLitSym 15 1 0 0 0 (litCode s) = some (some s, (litCode s).length) := by
  decide +kernel

theorem fixedDist_words : ∀ s, s < 32 → goL fixedDist.cnt fixedDist.sym 15 1 0 0 0 (bitsMSB 5 s) = some (some s, 5) := by
  decide +kernel

theorem decode_fixedLit {inp : Array Nat} {pos s : Nat} {r : List Bool} (hs : s < 288)
    (h : Rest inp pos = litCode s ++ r) :
    decode fixedLit inp pos = .ok (some s) (pos + (litCode s).length) := by
  rw [decode_complete _ fixedLit_shape, fixedLit_sym, h, goL_append _ _ _ _ _ _ _ _ r _ _ (fixedLit_words s hs)]
  rfl

theorem decode_fixedDist {inp : Array Nat} {pos s : Nat} {r : List Bool} (hs : s < 32)
    (h : Rest inp pos = bitsMSB 5 s ++ r) :
    decode fixedDist inp pos = .ok (some s) (pos + 5) := by
  rw [decode_complete _ fixedDist_shape, h, goL_append _ _ _ _ _ _ _ _ r _ _ (fixedDist_words s hs)]
  rfl

/-- one row of a base / extra-bits table: the `m` codes from `i` on have `e` extra bits and bases
    `lo`, `lo + 2^e`, …; then a value `x` of that row is found from the encoder's (code, extra bits) -/
theorem table_row (base ext : Array Nat) (i lo e m bound emax : Nat)
    (htab : i + m ≤ bound ∧ e ≤ emax ∧ ∀ q, q < m → base.getD (i + q) 0 = lo + q * 2 ^ e ∧ ext.getD (i + q) 0 = e)
    (x : Nat) (hx : lo ≤ x ∧ x < lo + m * 2 ^ e) :
    i + (x - lo) / 2 ^ e < bound ∧ ext.getD (i + (x - lo) / 2 ^ e) 0 = e ∧
    base.getD (i + (x - lo) / 2 ^ e) 0 + (x - lo) % 2 ^ e = x ∧ (x - lo) % 2 ^ e < 2 ^ e ∧ e ≤ emax := by
  obtain ⟨hi, he, hrow⟩ := htab
  have hk := Nat.two_pow_pos e
  have hq : (x - lo) / 2 ^ e < m := (Nat.div_lt_iff_lt_mul hk).mpr (by omega)
  obtain ⟨hb, hx⟩ := hrow _ hq
  have := Nat.div_add_mod (x - lo) (2 ^ e)
  rw [Nat.mul_comm] at this
  exact ⟨by omega, hx, by omega, Nat.mod_lt _ hk, he⟩

theorem lenCode_spec : ∀ n, n < 259 → 3 ≤ n →
    (lenCode n).1 < 29 ∧ lext.getD (lenCode n).1 0 = (lenCode n).2.1 ∧
    lbase.getD (lenCode n).1 0 + (lenCode n).2.2 = n ∧ (lenCode n).2.2 < 2 ^ (lenCode n).2.1 ∧
    (lenCode n).2.1 ≤ 5 := by
  intro n h259 h3
  have first : ∀ n, n < 11 → 3 ≤ n → (n - 3 < 29 ∧ lext.getD (n - 3) 0 = 0 ∧ lbase.getD (n - 3) 0 + 0 = n) := by decide
  generalize hc : lenCode n = c
  rw [lenCode] at hc
  by_cases c0 : n < 11
  · rw [if_pos c0] at hc
    exact hc ▸ ⟨(first n c0 h3).1, (first n c0 h3).2.1, (first n c0 h3).2.2, Nat.two_pow_pos 0, Nat.zero_le 5⟩
  rw [if_neg c0] at hc
  by_cases c1 : n < 19
  · rw [if_pos c1] at hc
    exact hc ▸ table_row lbase lext 8 11 1 4 29 5 (by decide) n (by omega)
  rw [if_neg c1] at hc
  by_cases c2 : n < 35
  · rw [if_pos c2] at hc
    exact hc ▸ table_row lbase lext 12 19 2 4 29 5 (by decide) n (by omega)
  rw [if_neg c2] at hc
  by_cases c3 : n < 67
  · rw [if_pos c3] at hc
    exact hc ▸ table_row lbase lext 16 35 3 4 29 5 (by decide) n (by omega)
  rw [if_neg c3] at hc
  by_cases c4 : n < 131
  · rw [if_pos c4] at hc
    exact hc ▸ table_row lbase lext 20 67 4 4 29 5 (by decide) n (by omega)
  rw [if_neg c4] at hc
  by_cases c5 : n < 258
  · rw [if_pos c5] at hc
    exact hc ▸ table_row lbase lext 24 131 5 4 29 5 (by decide) n (by omega)
  rw [if_neg c5] at hc
  have : n = 258 := by omega
  subst this
  exact hc ▸ by decide

theorem distCode_spec (d : Nat) (h1 : 1 ≤ d) (h2 : d ≤ 32768) :
    (distCode d).1 < 30 ∧ dext.getD (distCode d).1 0 = (distCode d).2.1 ∧
    dbase.getD (distCode d).1 0 + (distCode d).2.2 = d ∧ (distCode d).2.2 < 2 ^ (distCode d).2.1 ∧
    (distCode d).2.1 ≤ 13 := by
  have first : ∀ d, d < 5 → 1 ≤ d → (d - 1 < 30 ∧ dext.getD (d - 1) 0 = 0 ∧ dbase.getD (d - 1) 0 + 0 = d) := by decide
  generalize hc : distCode d = c
  rw [distCode] at hc
  by_cases c0 : d < 5
  · rw [if_pos c0] at hc
    exact hc ▸ ⟨(first d c0 h1).1, (first d c0 h1).2.1, (first d c0 h1).2.2, Nat.two_pow_pos 0, Nat.zero_le 13⟩
  rw [if_neg c0] at hc
  by_cases c1 : d < 9
  · rw [if_pos c1] at hc
    exact hc ▸ table_row dbase dext 4 5 1 2 30 13 (by decide) d (by omega)
  rw [if_neg c1] at hc
  by_cases c2 : d < 17
  · rw [if_pos c2] at hc
    exact hc ▸ table_row dbase dext 6 9 2 2 30 13 (by decide) d (by omega)
  rw [if_neg c2] at hc
  by_cases c3 : d < 33
  · rw [if_pos c3] at hc
    exact hc ▸ table_row dbase dext 8 17 3 2 30 13 (by decide) d (by omega)
  rw [if_neg c3] at hc
  by_cases c4 : d < 65
  · rw [if_pos c4] at hc
    exact hc ▸ table_row dbase dext 10 33 4 2 30 13 (by decide) d (by omega)
  rw [if_neg c4] at hc
  by_cases c5 : d < 129
  · rw [if_pos c5] at hc
    exact hc ▸ table_row dbase dext 12 65 5 2 30 13 (by decide) d (by omega)
  rw [if_neg c5] at hc
  by_cases c6 : d < 257
  · rw [if_pos c6] at hc
    exact hc ▸ table_row dbase dext 14 129 6 2 30 13 (by decide) d (by omega)
  rw [if_neg c6] at hc
  by_cases c7 : d < 513
  · rw [if_pos c7] at hc
    exact hc ▸ table_row dbase dext 16 257 7 2 30 13 (by decide) d (by omega)
  rw [if_neg c7] at hc
  by_cases c8 : d < 1025
  · rw [if_pos c8] at hc
    exact hc ▸ table_row dbase dext 18 513 8 2 30 13 (by decide) d (by omega)
  rw [if_neg c8] at hc
  by_cases c9 : d < 2049
  · rw [if_pos c9] at hc
    exact hc ▸ table_row dbase dext 20 1025 9 2 30 13 (by decide) d (by omega)
  rw [if_neg c9] at hc
  by_cases c10 : d < 4097
  · rw [if_pos c10] at hc
    exact hc ▸ table_row dbase dext 22 2049 10 2 30 13 (by decide) d (by omega)
  rw [if_neg c10] at hc
  by_cases c11 : d < 8193
  · rw [if_pos c11] at hc
    exact hc ▸ table_row dbase dext 24 4097 11 2 30 13 (by decide) d (by omega)
  rw [if_neg c11] at hc
  by_cases c12 : d < 16385
  · rw [if_pos c12] at hc
    exact hc ▸ table_row dbase dext 26 8193 12 2 30 13 (by decide) d (by omega)
  rw [if_neg c12] at hc
  exact hc ▸ table_row dbase dext 28 16385 13 2 30 13 (by decide) d (by omega)

end Lomond.Inflate
