/-
  What acceptance by the monitor automaton (`Mon.run`) means for the list of events, in the words of
  the property text: pure list lemmas, independent of the model.
-/
import Lomond.Proofs.Monitor
namespace Lomond.Core.Monitor
open Lomond Lomond.Core

/-- the monitor does not reject the sequence (a prefix of a well-formed sequence) -/
def Mon.accepts (evs : List Event) : Prop := ∃ ph, Mon.run .start evs = some ph

def Mon.complete (evs : List Event) : Prop := Mon.run .start evs = some .done

def Phase.rank : Phase → Nat
  | .start => 0 | .connecting => 1 | .connected => 2 | .ready => 3 | .unresp => 4 | .done => 5

theorem Mon.step_mono {p q : Phase} {e : Event} (h : Mon.step p e = some q) : p.rank ≤ q.rank := by
  cases p <;> cases e <;> first | (cases h; done) | (cases h; decide)

theorem Mon.run_mono {p q : Phase} {l : List Event} (h : Mon.run p l = some q) : p.rank ≤ q.rank := by
  induction l generalizing p with
  | nil => cases h; exact Nat.le_refl _
  | cons e r ih =>
    simp only [Mon.run] at h
    cases hs : Mon.step p e with
    | none => rw [hs] at h; cases h
    | some p' => rw [hs] at h; exact Nat.le_trans (Mon.step_mono hs) (ih h)

theorem Mon.run_split {p0 ph : Phase} {a b : List Event} {e : Event} (h : Mon.run p0 (a ++ e :: b) = some ph) :
    ∃ p q, Mon.run p0 a = some p ∧ Mon.step p e = some q ∧ Mon.run q b = some ph := by
  rw [Mon.run_append] at h
  cases ha : Mon.run p0 a with
  | none => rw [ha] at h; cases h
  | some p =>
    rw [ha] at h; simp only [Option.bind_some, Mon.run] at h
    cases hs : Mon.step p e with
    | none => rw [hs] at h; cases h
    | some q => rw [hs] at h; exact ⟨p, q, rfl, hs, h⟩

theorem Mon.run_done {l : List Event} {q : Phase} (h : Mon.run .done l = some q) : l = [] := by
  cases l with
  | nil => rfl
  | cons e r => simp only [Mon.run, Mon.step_done] at h; cases h

theorem Mon.step_done_terminal {p : Phase} {e : Event} (h : Mon.step p e = some .done) : Event.isTerminal e = true := by
  cases p <;> cases e <;> first | (cases h; done) | rfl

theorem Mon.step_ne_done {p q : Phase} {e : Event} (h : Mon.step p e = some q) : p ≠ .done := by
  intro hp; subst hp; rw [Mon.step_done] at h; cases h

/-- **nothing follows a terminal event** -/
theorem Mon.nothing_after_terminal {p0 ph : Phase} {a b : List Event} {e : Event}
    (h : Mon.run p0 (a ++ e :: b) = some ph) (ht : Event.isTerminal e = true) : b = [] := by
  obtain ⟨p, q, _, hs, hb⟩ := Mon.run_split h
  rw [Mon.step_terminal hs ht] at hb
  exact Mon.run_done hb

theorem Mon.run_noTerminal {p0 p : Phase} {a : List Event} (h : Mon.run p0 a = some p) (hp : p ≠ .done) :
    ∀ x ∈ a, Event.isTerminal x = false := by
  intro x hx
  obtain ⟨a1, a2, rfl⟩ := List.append_of_mem hx
  cases ht : Event.isTerminal x with
  | false => rfl
  | true =>
    obtain ⟨p1, q, _, hs, hb⟩ := Mon.run_split h
    rw [Mon.step_terminal hs ht] at hb
    have := Mon.run_mono hb
    have hq : p = .done := by cases p <;> simp [Phase.rank] at this <;> rfl
    exact absurd hq hp

theorem phaseOf_noTerminal {tr : List Obs} {ph : Phase} (h : phaseOf tr = some ph) (hd : ph ≠ .done) :
    ∀ e, Obs.ev e ∈ tr → Event.isTerminal e = false :=
  fun e he => Mon.run_noTerminal ((phaseOf_eq_run tr).symm.trans h) hd e (mem_events.mpr he)

/-- **at most one terminal event**: before a terminal event there is none -/
theorem Mon.no_terminal_before_terminal {p0 ph : Phase} {a b : List Event} {e : Event}
    (h : Mon.run p0 (a ++ e :: b) = some ph) : ∀ x ∈ a, Event.isTerminal x = false := by
  obtain ⟨p, q, ha, hs, _⟩ := Mon.run_split h
  exact Mon.run_noTerminal ha (Mon.step_ne_done hs)

/-- **the first event is `Connecting`** -/
theorem Mon.first_is_connecting {ph : Phase} {e : Event} {r : List Event}
    (h : Mon.run .start (e :: r) = some ph) : e = .connecting := by
  simp only [Mon.run] at h
  cases e <;> simp [Mon.step] at h
  rfl

/-- **then `ConnectFail` (and nothing else) or `Connected`** -/
theorem Mon.second_event {ph : Phase} {e0 e1 : Event} {r : List Event}
    (h : Mon.run .start (e0 :: e1 :: r) = some ph) :
    (∃ k, e1 = .connectFail k ∧ r = []) ∨ (∃ p, e1 = .connected p) := by
  have h0 := Mon.first_is_connecting h
  subst h0
  simp only [Mon.run, Mon.step, Option.bind_some] at h
  cases e1 <;> simp at h
  · rename_i k
    exact Or.inl ⟨k, rfl, Mon.run_done h⟩
  · exact Or.inr ⟨_, rfl⟩

theorem Mon.step_ready {p q : Phase} {a : Option Http.Str} {d : Bool} (h : Mon.step p (.ready a d) = some q) :
    p = .connected ∧ q = .ready := by
  cases p <;> simp [Mon.step] at h
  exact ⟨rfl, h.symm⟩

def Event.needsReady : Event → Bool
  | .text _ | .binary _ | .ping _ | .pong _ | .poll | .closing _ _ | .closed _ _ | .unresponsive => true
  | _ => false

theorem Mon.step_needsReady {p q : Phase} {e : Event} (h : Mon.step p e = some q) (he : Event.needsReady e = true) :
    p = .ready := by
  cases p <;> cases e <;> first | (cases h; done) | (cases he; done) | rfl

theorem Mon.run_has_connected {p0 p1 : Phase} {a : List Event} (h : Mon.run p0 a = some p1)
    (h0 : p0.rank ≤ 1) (h1 : 2 ≤ p1.rank) (h2 : p1.rank ≤ 4) : ∃ p, Event.connected p ∈ a := by
  induction a generalizing p0 with
  | nil => cases h; omega
  | cons x r ih =>
    simp only [Mon.run] at h
    cases hs : Mon.step p0 x with
    | none => rw [hs] at h; cases h
    | some q =>
      rw [hs] at h; simp only [Option.bind_some] at h
      by_cases hq : q.rank ≤ 1
      · obtain ⟨p, hp⟩ := ih h hq
        exact ⟨p, List.mem_cons_of_mem _ hp⟩
      · have hm := Mon.run_mono h
        cases p0 <;> cases x <;> simp [Mon.step] at hs <;> subst hs <;> simp [Phase.rank] at h0 hq hm h2 ⊢
        all_goals first | omega | exact ⟨_, Or.inl rfl⟩

theorem Mon.run_has_ready {p0 : Phase} {a : List Event} (h : Mon.run p0 a = some .ready)
    (h0 : p0.rank ≤ 2) : ∃ x d, Event.ready x d ∈ a := by
  induction a generalizing p0 with
  | nil => cases h; simp [Phase.rank] at h0
  | cons e r ih =>
    simp only [Mon.run] at h
    cases hs : Mon.step p0 e with
    | none => rw [hs] at h; cases h
    | some q =>
      rw [hs] at h; simp only [Option.bind_some] at h
      by_cases hq : q.rank ≤ 2
      · obtain ⟨x, d, hp⟩ := ih h hq
        exact ⟨x, d, List.mem_cons_of_mem _ hp⟩
      · have hm := Mon.run_mono h
        cases p0 <;> cases e <;> simp [Mon.step] at hs <;> subst hs <;> simp only [Phase.rank] at h0 hq hm <;>
          first | omega | exact ⟨_, _, List.mem_cons_self⟩

/-- **`Ready` occurs at most once and only after `Connected`** -/
theorem Mon.ready_once {ph : Phase} {a b : List Event} {x : Option Http.Str} {d : Bool}
    (h : Mon.run .start (a ++ .ready x d :: b) = some ph) :
    (∃ p, Event.connected p ∈ a) ∧ (∀ x' d', Event.ready x' d' ∉ a) ∧ (∀ x' d', Event.ready x' d' ∉ b) := by
  obtain ⟨p, q, ha, hs, hb⟩ := Mon.run_split h
  obtain ⟨rfl, rfl⟩ := Mon.step_ready hs
  refine ⟨Mon.run_has_connected ha (by decide) (by decide) (by decide), ?_, ?_⟩
  · intro x' d' hm
    obtain ⟨a1, a2, rfl⟩ := List.append_of_mem hm
    obtain ⟨p1, q1, _, hs1, hb1⟩ := Mon.run_split ha
    obtain ⟨_, rfl⟩ := Mon.step_ready hs1
    have := Mon.run_mono hb1
    simp [Phase.rank] at this
  · intro x' d' hm
    obtain ⟨b1, b2, rfl⟩ := List.append_of_mem hm
    obtain ⟨p1, q1, hb1, hs1, _⟩ := Mon.run_split hb
    obtain ⟨rfl, _⟩ := Mon.step_ready hs1
    have := Mon.run_mono hb1
    simp [Phase.rank] at this

/-- **Text, Binary, Ping, Pong, Poll, Closing, Closed (and Unresponsive) occur only after `Ready`** -/
theorem Mon.needsReady_after_ready {ph : Phase} {a b : List Event} {e : Event}
    (h : Mon.run .start (a ++ e :: b) = some ph) (he : Event.needsReady e = true) : ∃ x d, Event.ready x d ∈ a := by
  obtain ⟨p, q, ha, hs, _⟩ := Mon.run_split h
  have hp := Mon.step_needsReady hs he
  subst hp
  exact Mon.run_has_ready ha (by decide)

theorem Mon.run_connecting {a : List Event} (h : Mon.run .start a = some .connecting) : a = [.connecting] := by
  cases a with
  | nil => cases h
  | cons e r =>
    have := Mon.first_is_connecting h
    subst this
    simp only [Mon.run, Mon.step, Option.bind_some] at h
    cases r with
    | nil => rfl
    | cons e' r' =>
      simp only [Mon.run] at h
      cases hs : Mon.step .connecting e' with
      | none => rw [hs] at h; cases h
      | some q =>
        rw [hs] at h; simp only [Option.bind_some] at h
        have hm := Mon.run_mono h
        cases e' <;> simp [Mon.step] at hs <;> subst hs <;> simp [Phase.rank] at hm

/-- **`ConnectFail` only before the connection is up**: it directly follows `Connecting` -/
theorem Mon.connectFail_position {ph : Phase} {a b : List Event} {k : String}
    (h : Mon.run .start (a ++ .connectFail k :: b) = some ph) : a = [.connecting] ∧ b = [] := by
  obtain ⟨p, q, ha, hs, _⟩ := Mon.run_split h
  have hp : p = .connecting := by cases p <;> simp [Mon.step] at hs; rfl
  subst hp
  exact ⟨Mon.run_connecting ha, Mon.nothing_after_terminal h rfl⟩

/-- **`Disconnected` only after `Connected`** -/
theorem Mon.disconnected_after_connected {ph : Phase} {a b : List Event} {k : String} {g : Bool}
    (h : Mon.run .start (a ++ .disconnected k g :: b) = some ph) : (∃ p, Event.connected p ∈ a) ∧ b = [] := by
  obtain ⟨p, q, ha, hs, _⟩ := Mon.run_split h
  refine ⟨?_, Mon.nothing_after_terminal h rfl⟩
  have hp : p = .connected ∨ p = .ready ∨ p = .unresp := by cases p <;> simp [Mon.step] at hs <;> simp
  rcases hp with rfl | rfl | rfl
  · exact Mon.run_has_connected ha (by decide) (by decide) (by decide)
  · exact Mon.run_has_connected ha (by decide) (by decide) (by decide)
  · exact Mon.run_has_connected ha (by decide) (by decide) (by decide)

/-- **after `Unresponsive` (the ping time-out fired) the only possible next event is the terminal
    `Disconnected`** -/
theorem Mon.after_unresponsive {ph : Phase} {a b : List Event}
    (h : Mon.run .start (a ++ .unresponsive :: b) = some ph) :
    b = [] ∨ ∃ k g, b = [.disconnected k g] := by
  obtain ⟨p, q, _, hs, hb⟩ := Mon.run_split h
  have hq : q = .unresp := by cases p <;> simp [Mon.step] at hs; exact hs.symm
  subst hq
  cases b with
  | nil => exact Or.inl rfl
  | cons e r =>
    right
    simp only [Mon.run] at hb
    cases hs2 : Mon.step .unresp e with
    | none => rw [hs2] at hb; cases hb
    | some q2 =>
      rw [hs2] at hb; simp only [Option.bind_some] at hb
      cases e <;> simp [Mon.step] at hs2
      subst hs2
      rename_i k g
      exact ⟨k, g, by rw [Mon.run_done hb]⟩

/-- **a complete sequence ends with its (only) terminal event** -/
theorem Mon.complete_ends_terminal {evs : List Event} (h : Mon.complete evs) :
    ∃ a e, evs = a ++ [e] ∧ Event.isTerminal e = true ∧ ∀ x ∈ a, Event.isTerminal x = false := by
  unfold Mon.complete at h
  have hne : evs ≠ [] := by intro hn; subst hn; cases h
  obtain ⟨a, e, rfl⟩ : ∃ a e, evs = a ++ [e] := ⟨evs.dropLast, evs.getLast hne, (List.dropLast_concat_getLast hne).symm⟩
  obtain ⟨p, q, ha, hs, hb⟩ := Mon.run_split h
  cases hb
  exact ⟨a, e, rfl, Mon.step_done_terminal hs, Mon.run_noTerminal ha (Mon.step_ne_done hs)⟩

end Lomond.Core.Monitor
