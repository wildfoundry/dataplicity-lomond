/-
  The general socket (`Model/ThreadsN.lean`): bytes.  The chunks of a group concatenate to (a prefix
  of) the frame handed to `sendall`; the bytes of a wire made of groups are the bytes of the groups in
  order; and a byte string made of whole frames is read back by the specification decoder of C03
  (`Spec.decodeClientFrame`, iterated) as exactly those frames.
-/
import Lomond.Proofs.ThreadsNW
import Lomond.Proofs.FrameCodec

namespace Lomond.Threads
open Lomond

theorem cutAt_flatten (sizes : List Nat) (b : Bytes) : (cutAt sizes b).flatten = b := by
  induction sizes generalizing b with
  | nil => simp [cutAt]
  | cons s r ih => simp [cutAt, ih, List.take_append_drop]

theorem cutAt_length (sizes : List Nat) (b : Bytes) : (cutAt sizes b).length = sizes.length + 1 := by
  induction sizes generalizing b with
  | nil => rfl
  | cons s r ih => simp [cutAt, ih]

def Env.SizesOk (env : Env) : Prop := ∀ t i len, (env.sizes t i len).length = env.more t i

theorem pieces_tag (env : Env) (cfg : Cfg) (t : Tid) (i : Nat) (b : Bool) (d : FrameDesc) :
    pieces env cfg ⟨t, i, b, d⟩ = pieces env cfg ⟨t, i, true, d⟩ := rfl

theorem pieces_length (env : Env) (cfg : Cfg) (c : Chunk) (h : env.SizesOk) :
    (pieces env cfg c).length = env.more c.tid c.idx + 1 := by
  unfold pieces; rw [cutAt_length, h]

theorem pieces_flatten (env : Env) (cfg : Cfg) (c : Chunk) : (pieces env cfg c).flatten = frameBytes cfg c := by
  unfold pieces; exact cutAt_flatten _ _

theorem frameBytes_tag (cfg : Cfg) (t : Tid) (i : Nat) (b : Bool) (d : FrameDesc) :
    frameBytes cfg ⟨t, i, b, d⟩ = frameBytes cfg ⟨t, i, true, d⟩ := rfl

theorem whole_bytes (env : Env) (cfg : Cfg) (g : Group) (hs : env.SizesOk) (h : g.whole env) :
    g.bytes env cfg = frameBytes cfg ⟨g.tid, g.idx, true, g.desc⟩ := by
  unfold Group.bytes
  rw [h.1, h.2]
  simp only [if_true]
  rw [← pieces_length env cfg ⟨g.tid, g.idx, true, g.desc⟩ hs, List.take_length, pieces_flatten]

theorem torn_bytes_prefix (env : Env) (cfg : Cfg) (g : Group) :
    g.bytes env cfg <+: frameBytes cfg ⟨g.tid, g.idx, true, g.desc⟩ := by
  unfold Group.bytes
  rw [← pieces_flatten env cfg ⟨g.tid, g.idx, true, g.desc⟩]
  generalize pieces env cfg ⟨g.tid, g.idx, true, g.desc⟩ = L
  generalize (g.parts + if g.fin = true then 1 else 0) = n
  refine ⟨(L.drop n).flatten, ?_⟩
  rw [← List.flatten_append, List.take_append_drop]

theorem take_flatten_getD (L : List Bytes) (n : Nat) :
    ((List.range n).map (fun j => L.getD j [])).flatten = (L.take n).flatten := by
  induction n with
  | zero => simp
  | succ n ih =>
    rw [List.range_succ, List.map_append, List.flatten_append, ih, List.take_add_one, List.flatten_append]
    congr 1
    cases h : L[n]? with
    | none => simp [List.getD, h]
    | some x => simp [List.getD, h]

theorem bytesFrom_append (env : Env) (cfg : Cfg) (pre a b : List Chunk) :
    bytesFrom env cfg pre (a ++ b) = bytesFrom env cfg pre a ++ bytesFrom env cfg (pre ++ a) b := by
  induction a generalizing pre with
  | nil => simp [bytesFrom]
  | cons x r ih =>
    simp only [List.cons_append, bytesFrom, ih, List.append_assoc]
    congr 2

/-- the `k` chunks of one frame that come first on a wire on which that frame has no chunk yet -/
theorem bytesFrom_replicate (env : Env) (cfg : Cfg) (t : Tid) (i : Nat) (d : FrameDesc) (k j0 : Nat) :
    ∀ pre', sentOf pre' t i = j0 →
      bytesFrom env cfg pre' (List.replicate k ⟨t, i, false, d⟩) =
        ((List.range k).map (fun j => (pieces env cfg ⟨t, i, true, d⟩).getD (j0 + j) [])).flatten := by
  induction k generalizing j0 with
  | zero => intro pre' _; simp [bytesFrom]
  | succ k ih =>
    intro pre' hp
    rw [List.replicate_succ, bytesFrom, hp, pieces_tag]
    have := ih (j0 + 1) (pre' ++ [⟨t, i, false, d⟩]) (by
      rw [sentOf_append, hp]; simp [sentOf])
    rw [this, List.range_succ_eq_map, List.map_cons, List.flatten_cons, List.map_map]
    simp only [Nat.add_zero]
    congr 2
    apply List.map_congr_left
    intro j _
    simp only [Function.comp]
    congr 1; omega

theorem group_bytesFrom (env : Env) (cfg : Cfg) (pre : List Chunk) (g : Group) (h0 : sentOf pre g.tid g.idx = 0) :
    bytesFrom env cfg pre g.chunks = g.bytes env cfg := by
  unfold Group.chunks Group.bytes
  rw [bytesFrom_append, bytesFrom_replicate env cfg g.tid g.idx g.desc g.parts 0 pre h0]
  simp only [Nat.zero_add]
  cases hf : g.fin with
  | false =>
    simp only [Bool.false_eq_true, if_false, bytesFrom, List.append_nil, Nat.add_zero]
    exact take_flatten_getD _ _
  | true =>
    simp only [if_true, bytesFrom, List.append_nil]
    rw [sentOf_append, h0, sentOf_replicate, Nat.zero_add, ← take_flatten_getD _ (g.parts + 1), List.range_succ,
      List.map_append, List.flatten_append]
    simp

def distinctCalls (gs : List Group) : Prop := gs.Pairwise (fun a b => ¬ (a.tid = b.tid ∧ a.idx = b.idx))

theorem flat_bytesFrom (env : Env) (cfg : Cfg) (gs : List Group) (pre : List Chunk)
    (hd : distinctCalls gs) (hpre : ∀ g ∈ gs, sentOf pre g.tid g.idx = 0) :
    bytesFrom env cfg pre (flat gs) = (gs.map (Group.bytes env cfg)).flatten := by
  induction gs generalizing pre with
  | nil => simp [flat, bytesFrom]
  | cons g r ih =>
    have hfl : flat (g :: r) = g.chunks ++ flat r := by simp [flat]
    rw [hfl, bytesFrom_append, group_bytesFrom env cfg pre g (hpre g (List.mem_cons_self ..))]
    simp only [List.map_cons, List.flatten_cons]
    congr 1
    apply ih
    · exact (List.pairwise_cons.mp hd).2
    · intro g' hg'
      rw [sentOf_append, hpre g' (List.mem_cons_of_mem _ hg'), Nat.zero_add]
      apply sentOf_chunks_other
      intro h
      exact (List.pairwise_cons.mp hd).1 g' hg' ⟨h.1, h.2⟩

/-- one group per call follows from the call order of each thread's groups -/
theorem distinct_of_sorted (gs : List Group) (h : ∀ t, (gidx gs t).Pairwise (· < ·)) : distinctCalls gs := by
  induction gs with
  | nil => exact List.Pairwise.nil
  | cons g r ih =>
    refine List.pairwise_cons.mpr ⟨?_, ih ?_⟩
    · intro g' hg' ⟨h1, h2⟩
      have := h g.tid
      simp only [gidx, List.filter_cons, decide_true, if_true, List.map_cons] at this
      have hlt := (List.pairwise_cons.mp this).1 g'.idx (by
        simp only [List.mem_map, List.mem_filter, decide_eq_true_eq]
        exact ⟨g', ⟨hg', h1.symm⟩, rfl⟩)
      omega
    · intro t
      have := h t
      simp only [gidx, List.filter_cons] at this
      split at this
      · exact (List.pairwise_cons.mp this).2
      · exact this

theorem wireBytesN_flat (env : Env) (cfg : Cfg) (gs : List Group) (h : ∀ t, (gidx gs t).Pairwise (· < ·)) :
    wireBytesN env cfg (flat gs) = (gs.map (Group.bytes env cfg)).flatten :=
  flat_bytesFrom env cfg gs [] (distinct_of_sorted gs h) (fun _ _ => rfl)

theorem decodeFrames_frames (fs : List Chunk) (fb : Chunk → Bytes) (dec : Chunk → Spec.Decoded)
    (h : ∀ f ∈ fs, fb f ≠ [] ∧ ∀ rest, Spec.decodeClientFrame (fb f ++ rest) = some (dec f, rest)) :
    ∀ fuel, fs.length ≤ fuel → decodeFrames fuel (fs.map fb).flatten = some (fs.map dec) := by
  induction fs with
  | nil => intro fuel _; cases fuel <;> rfl
  | cons f r ih =>
    intro fuel hfuel
    obtain ⟨hne, hdec⟩ := h f (List.mem_cons_self ..)
    cases fuel with
    | zero => simp at hfuel
    | succ fuel =>
      simp only [List.map_cons, List.flatten_cons]
      cases hfb : fb f with
      | nil => exact absurd hfb hne
      | cons b bs =>
        have := hdec (r.map fb).flatten
        rw [hfb] at this
        simp only [List.cons_append] at this ⊢
        simp only [decodeFrames, this]
        rw [ih (fun x hx => h x (List.mem_cons_of_mem _ hx)) fuel (by simp at hfuel; omega)]
        rfl

theorem flatten_length_ge {α : Type} (L : List (List α)) (h : ∀ x ∈ L, x ≠ []) : L.length ≤ L.flatten.length := by
  induction L with
  | nil => simp
  | cons a r ih =>
    have ha : a ≠ [] := h a (List.mem_cons_self ..)
    have := ih (fun x hx => h x (List.mem_cons_of_mem _ hx))
    have hl : 0 < a.length := List.length_pos_iff.mpr ha
    simp only [List.flatten_cons, List.length_append, List.length_cons]
    omega

theorem decodeWire_frames (fs : List Chunk) (fb : Chunk → Bytes) (dec : Chunk → Spec.Decoded)
    (h : ∀ f ∈ fs, fb f ≠ [] ∧ ∀ rest, Spec.decodeClientFrame (fb f ++ rest) = some (dec f, rest)) :
    decodeWire (fs.map fb).flatten = some (fs.map dec) := by
  unfold decodeWire
  apply decodeFrames_frames fs fb dec h
  have := flatten_length_ge (fs.map fb) (by
    intro x hx
    simp only [List.mem_map] at hx
    obtain ⟨f, hf, rfl⟩ := hx
    exact (h f hf).1)
  simpa using this

/-- the frame of a chunk is built (the payload is shorter than 2^63 bytes) -/
def buildable (cfg : Cfg) (c : Chunk) : Prop :=
  (payloadBytes cfg c.desc.pay).length < 2 ^ 63 ∧ (cfg.key c.tid c.idx).length = 4 ∧ c.desc.op < 16

/-- C03's round trip for the frame of a chunk of the model's wire -/
theorem frame_roundtrip (cfg : Cfg) (c : Chunk) (h : buildable cfg c) :
    frameBytes cfg c ≠ [] ∧
      ∀ rest, Spec.decodeClientFrame (frameBytes cfg c ++ rest) = some (decodedOf cfg c, rest) := by
  obtain ⟨hlen, hkey, hop⟩ := h
  have hsome : ∃ bytes, Frame.build c.desc.op (payloadBytes cfg c.desc.pay) (cfg.key c.tid c.idx)
      (rsv1 := if isCompressed c.desc.pay then 1 else 0) = some bytes := by
    cases hb : Frame.build c.desc.op (payloadBytes cfg c.desc.pay) (cfg.key c.tid c.idx)
        (rsv1 := if isCompressed c.desc.pay then 1 else 0) with
    | some b => exact ⟨b, rfl⟩
    | none =>
      have := (build_none _ _ _ _ _ _ _).mp hb
      omega
  obtain ⟨bytes, hb⟩ := hsome
  have hfb : frameBytes cfg c = bytes := by unfold frameBytes; rw [hb]; rfl
  have hr1 : (if isCompressed c.desc.pay = true then 1 else 0) < 2 := by split <;> omega
  have hdec := fun rest => decode_build c.desc.op 1 (if isCompressed c.desc.pay then 1 else 0) 0 0
    (payloadBytes cfg c.desc.pay) (cfg.key c.tid c.idx) rest bytes hop (by omega) hr1 (by omega) (by omega) hkey hb
  refine ⟨?_, fun rest => ?_⟩
  · rw [hfb]
    intro e
    have := hdec []
    rw [e] at this
    simp [Spec.decodeClientFrame] at this
  · rw [hfb, hdec rest]; rfl

/-- the last chunk of a group: the chunk that stands for the complete frame in `frames` -/
def Group.last (g : Group) : Chunk := ⟨g.tid, g.idx, true, g.desc⟩

theorem frames_chunks (g : Group) : frames g.chunks = if g.fin then [g.last] else [] := by
  unfold Group.chunks frames
  rw [List.filter_append]
  have : (List.replicate g.parts (⟨g.tid, g.idx, false, g.desc⟩ : Chunk)).filter (·.second) = [] := by
    rw [List.filter_eq_nil_iff]
    intro x hx
    rw [(List.mem_replicate.mp hx).2]; simp
  rw [this]
  cases g.fin <;> simp [Group.last]

theorem frames_flat (gs : List Group) : frames (flat gs) = (gs.filter (·.fin)).map Group.last := by
  induction gs with
  | nil => rfl
  | cons g r ih =>
    have hfl : flat (g :: r) = g.chunks ++ flat r := by simp [flat]
    rw [hfl, frames_append, frames_chunks, ih, List.filter_cons]
    cases g.fin <;> simp

theorem call_op_lt (call : Call) : call.op < 16 := by
  cases call <;> simp [Call.op]

theorem whole_groups_decode (env : Env) (cfg : Cfg) (gs : List Group) (hs : env.SizesOk)
    (hok : ∀ g ∈ gs, g.whole env ∨ g.torn env)
    (hb : ∀ g ∈ gs, g.fin = true → buildable cfg g.last) :
    (((gs.filter (·.fin)).map (Group.bytes env cfg)).flatten =
      ((frames (flat gs)).map (frameBytes cfg)).flatten) ∧
    decodeWire (((gs.filter (·.fin)).map (Group.bytes env cfg)).flatten) =
      some ((frames (flat gs)).map (decodedOf cfg)) := by
  have hbytes : (gs.filter (·.fin)).map (Group.bytes env cfg) = ((gs.filter (·.fin)).map Group.last).map (frameBytes cfg) := by
    rw [List.map_map]
    apply List.map_congr_left
    intro g hg
    simp only [List.mem_filter] at hg
    have hw : g.whole env := by
      rcases hok g hg.1 with h | h
      · exact h
      · rw [h.1] at hg; cases hg.2
    simpa [Group.last] using whole_bytes env cfg g hs hw
  rw [frames_flat, hbytes]
  refine ⟨rfl, decodeWire_frames _ _ _ ?_⟩
  intro f hf
  simp only [List.mem_map, List.mem_filter] at hf
  obtain ⟨g, ⟨hg, hfin⟩, rfl⟩ := hf
  exact frame_roundtrip cfg g.last (hb g hg hfin)

theorem filter_all_fin (env : Env) (gs : List Group) (h : ∀ g ∈ gs, g.whole env) : gs.filter (·.fin) = gs := by
  rw [List.filter_eq_self]
  intro g hg; exact (h g hg).1

theorem mem_idxs_flat {gs : List Group} {t : Tid} {i : Nat} (h : i ∈ idxs (flat gs) t) :
    ∃ g ∈ gs, g.fin = true ∧ g.tid = t ∧ g.idx = i := by
  unfold idxs at h
  rw [frames_flat] at h
  simp only [List.mem_map, List.mem_filter, decide_eq_true_eq] at h
  obtain ⟨x, ⟨⟨g, ⟨hg, hfin⟩, rfl⟩, ht⟩, hi⟩ := h
  exact ⟨g, hg, hfin, ht, hi⟩

theorem pairwise_mem {α : Type} {R : α → α → Prop} {l : List α} (h : l.Pairwise R) {a b : α}
    (ha : a ∈ l) (hb : b ∈ l) : a = b ∨ R a b ∨ R b a := by
  induction l with
  | nil => cases ha
  | cons x r ih =>
    obtain ⟨h1, h2⟩ := List.pairwise_cons.mp h
    rcases List.mem_cons.mp ha with rfl | ha' <;> rcases List.mem_cons.mp hb with rfl | hb'
    · exact Or.inl rfl
    · exact Or.inr (Or.inl (h1 b hb'))
    · exact Or.inr (Or.inr (h1 a ha'))
    · exact ih h2 ha' hb'

theorem torn_not_in_idxs (env : Env) (gs : List Group) (h : ∀ t, (gidx gs t).Pairwise (· < ·)) (g : Group)
    (hg : g ∈ gs) (ht : g.torn env) : g.idx ∉ idxs (flat gs) g.tid := by
  intro hmem
  obtain ⟨g', hg', hfin, h1, h2⟩ := mem_idxs_flat hmem
  rcases pairwise_mem (distinct_of_sorted gs h) hg hg' with e | e | e
  · subst e; rw [ht.1] at hfin; cases hfin
  · exact e ⟨h1.symm, h2.symm⟩
  · exact e ⟨h1, h2⟩

end Lomond.Threads
