/-
  `Raises`: which exceptions a computation of the core model can end with.

  `Raises P m` says: whenever `m` ends exceptionally, with exception `x` in final state `s'`,
  `P x s'` holds; it is `Tri` with trivial pre- and postcondition (`raises_iff_tri`).  Proved for the
  timers and the leaves by composition, for the receive pipeline and the session loop as the instance
  `raises_pipe` of Proofs/Pipe.lean, then up to `run` as an instance of the outline of
  Proofs/RunRule.lean:

  * inside `WebSocket.feed` an exception is either "flat" (`Ok0`: an `Exception`-class error or a
    `GeneratorExit` caused by an application that really abandons the iterator) or such an exception
    wrapped once in `.outer` (`Ok1`: raised in `run()`'s frame at a `yield` of `feed`);
  * `wsFeed` unwraps, so the session loop only sees flat exceptions, plus `.scriptEnd`;
  * `onLoopEnd` converts every `Exception`-class error to a `Disconnected` event, so `run` can only
    end with `GeneratorExit` (and only if the application abandons) or `.scriptEnd`.
-/
import Lomond.Proofs.Pipe
import Lomond.Proofs.RunRule
namespace Lomond.Core.Monitor
open Lomond Lomond.Core

def Raises (P : Exn → Sys → Prop) (m : M α) : Prop := ∀ s x s', m s = .err x s' → P x s'

def NoRaise (m : M α) : Prop := ∀ s x s', m s ≠ .err x s'

variable {P Q : Exn → Sys → Prop}

theorem NoRaise.raises {m : M α} (h : NoRaise m) : Raises P m :=
  fun s x s' e => absurd e (h s x s')

theorem Raises.mono {m : M α} (h : Raises Q m) (hpq : ∀ x s, Q x s → P x s) : Raises P m :=
  fun s x s' e => hpq _ _ (h s x s' e)

theorem raises_iff_tri {m : M α} : Raises P m ↔ Tri (fun _ => True) m (fun _ _ => True) P :=
  ⟨fun h => tri_raises (fun s x s' _ e => h s x s' e), fun h _ _ _ e => h.err trivial e⟩

theorem raises_pure (a : α) : Raises P (pure a : M α) := by
  intro s x s' e; cases e

theorem raises_bind {m : M α} {f : α → M β} (hm : Raises P m) (hf : ∀ a, Raises P (f a)) :
    Raises P (m >>= f) :=
  raises_iff_tri.mpr (tri_bind (raises_iff_tri.mp hm) fun a => raises_iff_tri.mp (hf a))

theorem raises_getS : Raises P getS := by intro s x s' e; cases e
theorem raises_modS (f : Sys → Sys) : Raises P (modS f) := by intro s x s' e; cases e

theorem raises_throwE {x : Exn} (h : ∀ s, P x s) : Raises P (throwE x : M α) := by
  intro s y s' e; cases e; exact h _

theorem raises_liftE {r : Except Exn α} (h : ∀ x s, r = .error x → P x s) : Raises P (liftE r) :=
  raises_iff_tri.mpr (tri_liftE (fun _ _ _ _ => trivial) fun x s e _ => h x s e)

theorem raises_tryC {m : M α} {h : Exn → M α} (hm : Raises Q m)
    (hh : ∀ x s1 y s', Q x s1 → h x s1 = .err y s' → P y s') : Raises P (tryC m h) :=
  raises_iff_tri.mpr (tri_tryC (raises_iff_tri.mp hm) fun x => tri_raises fun s y s' hq e => hh x s y s' hq e)

/-! `NoRaise m` is `Raises (fun _ _ => False) m` by unfolding -/

theorem noRaise_pure (a : α) : NoRaise (pure a : M α) := raises_pure a
theorem noRaise_bind {m : M α} {f : α → M β} (hm : NoRaise m) (hf : ∀ a, NoRaise (f a)) : NoRaise (m >>= f) :=
  raises_bind (P := fun _ _ => False) hm hf
theorem noRaise_modS (f : Sys → Sys) : NoRaise (modS f) := raises_modS f

def Abandons (r : React) : Prop := ∃ h w, Act.abandon w ∈ r h

/-- flat exceptions: everything `run()`'s `except` clauses turn into a `Disconnected` event, and
    `GeneratorExit` — the latter only for an application that abandons -/
def Ok0 (x : Exn) (s : Sys) : Prop :=
  match x with
  | .outer _ => False
  | .scriptEnd => False
  | .genExit => Abandons s.react
  | _ => True

def Ok1 (x : Exn) (s : Sys) : Prop :=
  match x with
  | .outer y => Ok0 y s
  | y => Ok0 y s

theorem Ok0.ok1 {x : Exn} {s : Sys} (h : Ok0 x s) : Ok1 x s := by
  cases x <;> first | exact h | exact h.elim

theorem Ok0.react {x : Exn} {s s' : Sys} (h : Ok0 x s) (e : s'.react = s.react) : Ok0 x s' := by
  cases x <;> first | exact h | (show Abandons s'.react; rw [e]; exact h)

theorem Ok1.react {x : Exn} {s s' : Sys} (h : Ok1 x s) (e : s'.react = s.react) : Ok1 x s' := by
  cases x <;> simp only [Ok1] at h ⊢ <;> exact Ok0.react h e

theorem noRaise_closeSocket : NoRaise closeSocket := closeSocket_ne_err

theorem noRaise_sendFrame (op : Nat) (pl : Bytes) (c : Option Bytes) : NoRaise (sendFrame op pl c) := fun s =>
  sendFrame_elim (P := fun q => ∀ x s', q ≠ .err x s') op pl c s (fun _ _ _ _ e => nomatch e)
    (fun d _ _ => write_ne_err d _ _)

theorem noRaise_wsClose (c : Option Nat) (r : Arg) : NoRaise (wsClose c r) := fun s =>
  wsClose_elim (P := fun q => ∀ x s', q ≠ .err x s') c r s (fun _ _ _ e => nomatch e)
    (fun _ _ _ _ _ _ e => nomatch e) (fun _ _ _ _ _ _ _ _ _ _ _ e => nomatch e)

theorem noRaise_sendData (op : Nat) (pl : Bytes) (c : Bool) : NoRaise (sendData op pl c) := by
  intro s x s' e; unfold sendData at e; split at e <;> exact noRaise_sendFrame _ _ _ _ _ _ e

theorem noRaise_logRes {m : M ActRes} (h : NoRaise m) : NoRaise (logRes m) :=
  noRaise_bind h (fun _ => noRaise_modS _)

theorem noRaise_onDisconnect : NoRaise onDisconnect :=
  noRaise_bind noRaise_closeSocket (fun _ => noRaise_modS _)

theorem noRaise_checkAutoPing : NoRaise checkAutoPing := by
  unfold checkAutoPing
  refine noRaise_bind raises_getS (fun s => ?_)
  simp only []
  split
  · exact noRaise_bind (noRaise_modS _) (fun _ => noRaise_bind (noRaise_sendFrame _ _ _) (fun _ => noRaise_pure _))
  · exact noRaise_pure _

theorem raises_doAct (a : Act) {s x s'} (h : doAct a s = .err x s') : x = .genExit ∧ ∃ w, a = .abandon w := by
  rcases doAct_elim (P := fun m => NoRaise m) a (fun r _ => noRaise_pure r) (fun _ _ _ _ => noRaise_sendData _ _ _) (fun _ _ _ _ => noRaise_sendFrame _ _ _)
      (fun _ _ _ => noRaise_wsClose _ _) (fun _ => noRaise_bind noRaise_closeSocket (fun _ => noRaise_pure _))
    with ⟨w, rfl⟩ | ⟨m, e, hm⟩
  · cases h; exact ⟨rfl, w, rfl⟩
  · rw [e] at h; exact absurd h (noRaise_logRes hm _ _ _)

theorem doAct_ok_of_not_abandon (a : Act) (h : ∀ w, a ≠ .abandon w) (s : Sys) : ∃ s', doAct a s = .ok () s' := by
  cases hr : doAct a s with
  | ok u s' => exact ⟨s', rfl⟩
  | err x s' => obtain ⟨_, w, hw⟩ := raises_doAct a hr; exact absurd hw (h w)

theorem raises_doActs (as : List Act) {s x s'} (h : doActs as s = .err x s') :
    x = .genExit ∧ ∃ w, Act.abandon w ∈ as := by
  induction as generalizing s with
  | nil => cases h
  | cons a r ih =>
    unfold doActs at h
    cases ha : doAct a s with
    | ok u s1 =>
      rw [bind_ok ha] at h
      obtain ⟨e, w, hw⟩ := ih h
      exact ⟨e, w, List.mem_cons_of_mem _ hw⟩
    | err y s1 =>
      rw [bind_err ha] at h; cases h
      obtain ⟨e, w, hw⟩ := raises_doAct a ha
      exact ⟨e, w, by rw [hw]; exact List.mem_cons_self⟩

theorem raises_yieldEv (e : Event) : Raises Ok0 (yieldEv e) := by
  intro s x s' h
  rw [yieldEv_eq] at h
  obtain ⟨ex, w, hw⟩ := raises_doActs _ h
  have st := (step_doActs _).err h
  subst ex
  show Abandons s'.react
  rw [st.react]
  exact ⟨_, w, hw⟩

theorem ok0_force (k : String) (s : Sys) : Ok0 (.forceDisconnect k) s := trivial
theorem ok0_other (k : String) (s : Sys) : Ok0 (.other k) s := trivial
theorem ok0_socketFail (k : String) (s : Sys) : Ok0 (.socketFail k) s := trivial

theorem raises_checkPoll : Raises Ok0 checkPoll := by
  unfold checkPoll
  refine raises_bind raises_getS (fun s => ?_)
  simp only []
  splits
  all_goals first | exact raises_pure _ | exact raises_bind (raises_modS _) (fun _ => raises_yieldEv _)

theorem raises_checkPingTimeout : Raises Ok0 checkPingTimeout := by
  unfold checkPingTimeout
  refine raises_bind raises_getS (fun s => ?_)
  simp only []
  split
  · exact raises_bind (raises_yieldEv _) (fun _ => raises_throwE (ok0_force _))
  · exact raises_pure _

theorem raises_checkCloseTimeout : Raises Ok0 checkCloseTimeout := by
  unfold checkCloseTimeout
  refine raises_bind raises_getS (fun s => ?_)
  simp only []
  splits
  all_goals first | exact raises_pure _ | exact raises_throwE (ok0_force _)

theorem raises_regular : Raises Ok0 regular := by
  unfold regular
  refine raises_bind raises_getS (fun s => ?_)
  split
  · exact raises_bind raises_checkPoll (fun _ => raises_bind noRaise_checkAutoPing.raises
      (fun _ => raises_bind raises_checkPingTimeout (fun _ => raises_checkCloseTimeout)))
  · exact raises_pure _

theorem raises_onEvent (e : Event) : Raises Ok0 (onEvent e) := by
  intro s x s' h
  unfold onEvent at h
  repeat' split at h
  all_goals first
    | (rename_i h2; exact absurd h2 (noRaise_sendFrame _ _ _ _ _ _))
    | (cases h; exact ok0_other _ _)
    | cases h

/-- an exception at a `yield` of `feed` (raised in `run()`'s frame) reaches `feed` wrapped in `.outer` -/
theorem raises_feedYield (b : Bool) (e : Event) : Raises Ok1 (feedYield b e) := by
  unfold feedYield
  refine raises_tryC (Q := Ok0)
    (raises_bind (raises_onEvent e) (fun _ => raises_bind (raises_yieldEv e) (fun _ => raises_regular))) ?_
  intro x s1 y s' hx h
  cases b with
  | true =>
    simp only [if_true] at h
    cases hd : onDisconnect s1 with
    | err z s2 => exact absurd hd (noRaise_onDisconnect _ _ _)
    | ok u s2 =>
      rw [bind_ok hd] at h; cases h
      exact Ok0.react hx (step_onDisconnect.ok hd).react
  | false =>
    simp only [Bool.false_eq_true, if_false] at h
    rw [bind_ok (show (pure () : M Unit) s1 = .ok () s1 from rfl)] at h
    cases h; exact hx

theorem Ok0.of_boring {x : Exn} (s : Sys) (h : x.boring = true) : Ok0 x s := by
  cases x <;> first | trivial | cases h

section
open LiftX

theorem ok1_boring (x : Exn) (s : Sys) (hb : x.boring = true) (_ : True) : Ok1 x s := (Ok0.of_boring s hb).ok1

theorem raises_onClose (c : Option Nat) (r : List Nat) : Raises Ok1 (onClose c r) :=
  raises_iff_tri.mpr <| specx_onClose ok1_boring c r (raises_iff_tri.mp (raises_feedYield _ _))
    (raises_iff_tri.mp (raises_feedYield _ _)) (raises_iff_tri.mp (noRaise_wsClose _ _).raises)
    (fun _ _ => trivial) (fun _ _ => trivial)

theorem ok1_feedHandler (x : Exn) (s1 : Sys) (hx : Ok1 x s1) :
    Sat (fun _ => True) Ok1 (feedHandler x s1 : Res Unit) := by
  have hy : ∀ e, SpecX (fun _ => True) Ok1 (feedYield false e) := fun e => raises_iff_tri.mp (raises_feedYield false e)
  have hf : SpecX (fun _ => True) Ok1 (throwE (.forceDisconnect "forced") : M Unit) :=
    specx_throwE (fun s _ => (ok0_force _ s).ok1)
  unfold feedHandler
  split
  · exact specx_bind (hy _) (fun _ => hf) s1 trivial
  · exact specx_bind (hy _) (fun _ => hf) s1 trivial
  · exact specx_bind (hy _) (fun _ => specx_bind (raises_iff_tri.mp (noRaise_wsClose _ _).raises) (fun r =>
      specx_bind (specx_argError ok1_boring r) (fun _ => hf))) s1 trivial
  · exact hx

theorem ok0_unwrapOuter (x : Exn) (s1 : Sys) (hx : Ok1 x s1) :
    Sat (fun _ => True) Ok0 (unwrapOuter x s1 : Res Unit) := by
  unfold unwrapOuter
  split
  · exact hx
  · rename_i hno
    cases x <;> first | exact hx | exact absurd rfl (hno _)

theorem raises_pipe : PipeX (fun _ => True) Ok1 where
  inert := fun _ _ _ _ => trivial
  boring := ok1_boring
  handler := ok1_feedHandler
  reject := fun _ => raises_iff_tri.mp (raises_bind noRaise_onDisconnect.raises (fun _ =>
    raises_bind (raises_feedYield true _) (fun _ => raises_pure _)))
  onClose := fun c r => raises_iff_tri.mp (raises_onClose c r)
  feedYield := fun e _ _ _ => raises_iff_tri.mp (raises_feedYield true e)

theorem raises_recvStep (o : RecvOutcome) : Raises Ok0 (recvStep o) :=
  raises_iff_tri.mpr (pipe_recvStep raises_pipe ok0_unwrapOuter (fun _ s hb _ => Ok0.of_boring s hb) o)

/-- flat, or the end of the environment script (allowed only when `se`) -/
def OkLoop (se : Prop) (x : Exn) (s : Sys) : Prop := Ok0 x s ∨ (x = .scriptEnd ∧ se)

theorem raises_loop (env : List EnvStep) : Raises (OkLoop True) (loop env) :=
  raises_iff_tri.mpr <| specx_loop (fun _ _ _ => Or.inr ⟨rfl, trivial⟩) (fun _ _ => Or.inl trivial)
    (fun o => raises_iff_tri.mp ((raises_recvStep o).mono (fun _ _ h => Or.inl h))) (fun _ => True)
    (fun _ _ _ _ _ _ => raises_iff_tri.mp (raises_regular.mono (fun _ _ h => Or.inl h)) _ trivial) env
    (fun _ _ => trivial)

end

/-- what can leave `run()`: `GeneratorExit` from an application that abandons, or (model artefact)
    the end of the environment script -/
def OkTop (se : Prop) (x : Exn) (s : Sys) : Prop :=
  (x = .genExit ∧ Abandons s.react) ∨ (x = .scriptEnd ∧ se)

theorem yieldEv_err_genExit {e : Event} {s s' : Sys} {x : Exn} (h : yieldEv e s = .err x s') : x = .genExit := by
  rw [yieldEv_eq] at h; exact (raises_doActs _ h).1

theorem raises_yieldEv_top {se : Prop} (e : Event) : Raises (OkTop se) (yieldEv e) :=
  fun s x s' h => by cases yieldEv_err_genExit h; exact Or.inl ⟨rfl, raises_yieldEv e s _ s' h⟩

theorem raises_closeYield {se : Prop} (e : Event) : Raises (OkTop se) (do closeSocket; yieldEv e : M Unit) :=
  raises_bind noRaise_closeSocket.raises (fun _ => raises_yieldEv_top e)

theorem raises_onLoopEnd {se : Prop} (r : Option Exn) {s x s'}
    (hr : ∀ y, r = some y → OkLoop se y s) (h : onLoopEnd r s = .err x s') : OkTop se x s' := by
  cases r with
  | none => exact raises_closeYield _ _ _ _ h
  | some y =>
    have hy := hr y rfl
    cases y with
    | genExit =>
      cases h
      rcases hy with h0 | ⟨h1, _⟩
      · exact Or.inl ⟨rfl, h0⟩
      · cases h1
    | outer z =>
      rcases hy with h0 | ⟨h1, _⟩
      · exact h0.elim
      · cases h1
    | scriptEnd =>
      cases h
      rcases hy with h0 | ⟨_, hse⟩
      · exact h0.elim
      · exact Or.inr ⟨rfl, hse⟩
    | parse m => exact raises_closeYield _ _ _ _ h
    | protocol m => exact raises_closeYield _ _ _ _ h
    | critical m => exact raises_closeYield _ _ _ _ h
    | forceDisconnect k => exact raises_closeYield _ _ _ _ h
    | socketFail k => exact raises_closeYield _ _ _ _ h
    | other k => exact raises_closeYield _ _ _ _ h

theorem OkLoop.react {se : Prop} {x : Exn} {s s' : Sys} (h : OkLoop se x s) (e : s'.react = s.react) :
    OkLoop se x s' := by
  rcases h with h | h
  · exact Or.inl (h.react e)
  · exact Or.inr h

theorem OkTop.react {se : Prop} {x : Exn} {s s' : Sys} (h : OkTop se x s) (e : s'.react = s.react) :
    OkTop se x s' := by
  rcases h with ⟨h1, h2⟩ | h
  · exact Or.inl ⟨h1, by rw [e]; exact h2⟩
  · exact Or.inr h

theorem OkTop.closeSocket {se : Prop} {x : Exn} {s : Sys} (h : OkTop se x s) : OkTop se x (closeSocket s).state :=
  h.react (step_closeSocket s).react

/-- `run()` once there is a socket, from the outline: the assertions are trivial but for the
    exceptional ones, `OkLoop` out of the loop and `OkTop` everywhere else -/
theorem raises_afterConnectL {se : Prop} (l : M Unit) (hl : Raises (OkLoop se) l) (proxy sel : Bool)
    {A : Sys → Prop} : Tri A (afterConnectL l proxy sel) (fun _ _ => True) (OkTop se) :=
  tri_afterConnectL proxy sel (A' := fun _ => True) (B := fun _ _ => True) (C := fun _ => True) (D := fun _ => True)
    (fun _ _ => trivial)
    (fun s0 => tri_noRaise_ok (write_ne_err _ _) (fun _ _ _ _ _ => trivial))
    (fun r _ => tri_raises (fun s x s' _ e => raises_closeYield _ s x s' e))
    (fun r _ => tri_yieldConnected (Y := fun _ => OkTop se) proxy
      (fun s0 => tri_raises (fun s x s' _ e => raises_yieldEv_top _ s x s' e))
      (fun _ _ _ _ h => OkTop.closeSocket h) (fun _ _ _ _ h => h))
    (fun _ _ => trivial)
    (tri_runLoopL (E := fun _ => True) (F := fun _ => True) (Xl := OkLoop se) (Xe := OkTop se)
      (raises_iff_tri.mp hl)
      (tri_raises (fun s x s' _ e => raises_onLoopEnd none (fun y hy => nomatch hy) e))
      (fun x => tri_raises (fun s y s' hx e => raises_onLoopEnd (some x) (fun z hz => by cases hz; exact hx) e))
      (tri_noRaise selClose_ne_err (fun _ _ => trivial))
      (fun x => (tri_runFinally (W := OkTop se x) (Q := fun _ _ => True) x (fun _ h => OkTop.closeSocket h)
        (fun s h => h.react (same_leaves.selClose s).2)).weaken (fun _ h => h) (fun _ _ h => h)
        (fun y s h => h.1 ▸ h.2)))

/-- the selector's constructor raising is an ordinary `Exception` -/
theorem raises_selectorError (se : Prop) : Raises (OkLoop se) (throwE (.other "error") : M Unit) :=
  raises_throwE (fun _ => Or.inl trivial)

/-- **Nothing but `GeneratorExit` (and only when the application abandons the iterator) or the end of
    the environment script (and only when the loop can run out of script) leaves `run()`.** -/
theorem raises_runL {se : Prop} (l : M Unit) (hl : Raises (OkLoop se) l) : Raises (OkTop se) (runL l) :=
  raises_iff_tri.mpr (tri_runL (A1 := fun _ => True)
    (tri_raises (fun s x s' _ e => raises_yieldEv_top _ s x s' e))
    (fun _ => tri_raises (fun s x s' _ e => raises_yieldEv_top _ s x s' e))
    (fun p => raises_afterConnectL l hl p true)
    (fun p => raises_afterConnectL _ (raises_selectorError se) p false))

end Lomond.Core.Monitor
