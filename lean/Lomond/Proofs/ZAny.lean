/-
  A (compressed or uncompressed) text message at any position of a connection on which
  permessage-deflate is negotiated: one `feedLoop` over any conforming prefix of `GItem`s leaves the
  websocket idle with a known inflate context (`feed_pre`, as an `E2E.Prefix`: `Prefix.gitems`); the
  verdict on a compressed text message after it (`zmsg_verdict_after_prefix`); that context in
  closed form under both context-takeover modes (`zOuts_ctx_reset`, `zOuts_ctx_keep`).
-/
import Lomond.Proofs.EndToEndTextCut
import Lomond.Proofs.DeliveryZ
namespace Lomond.Core.DG
open Lomond Lomond.Core Lomond.Core.E2E Lomond.Core.AnyApp

structure AfterPre (cfg : Cfg) (react : React) (d : Http.DeflateCfg) (s4 sp : Sys) (evs : List Event) (ic : ICtx) :
    Prop where
  idle : IdleG cfg react true sp
  zcfg : sp.compression = some d
  zdec : sp.decompress = true
  ctx : (⟨sp.inflHist, sp.inflOut⟩ : ICtx) = ic
  hist : hist sp.trace = evs.reverse ++ hist s4.trace

/-- **one `feedLoop` over the prefix `pre`** from the post-handshake state: control frames, plain
    messages, compressed messages (any fragmentation, control frames in between) whose joined
    payloads the configuration's inflater turns, one after the other through the negotiated
    context, into their `plain`s (`zOuts`, the hypothesis of `C01E2E2.connection_delivers_compressed`);
    `icP` is the context `zOuts` ends with -/
theorem feed_pre {cfg : Cfg} {react : React} {proxy : Bool} {proto : Option Http.Str} {d : Http.DeflateCfg} {s4 : Sys}
    (h4 : AtReadyD cfg react proxy proto (some d) s4) (hpt : cfg.pingTimeout = 0)
    (pre : List GItem) (hst : ∀ it ∈ pre, it.Static) (icP : ICtx)
    (hinfl : zOuts ⟨cfg.inflate, some d⟩ ⟨[], 0⟩ (pre.filterMap GItem.zpay) = some (pre.filterMap GItem.zplain, icP)) :
    ∃ sp, feedLoop (pre.flatMap GItem.bytes) s4 = .ok true sp ∧
      AfterPre cfg react d s4 sp (pre.flatMap GItem.events) icP := by
  have g : TG s4 := ⟨h4.i.app, by rw [h4.cfg]; exact hpt, Or.inr h4.sct, h4.sock, h4.closed⟩
  have hz : ZOk ⟨cfg.inflate, some d⟩ s4 := ⟨by rw [h4.cfg], h4.comp, h4.dec⟩
  have hit : ItemsAt ⟨cfg.inflate, some d⟩ ⟨s4.inflHist, s4.inflOut⟩ pre icP := by
    rw [h4.ih, h4.io]
    exact itemsAt_of_zOuts ⟨cfg.inflate, some d⟩ rfl pre hst _ _ hinfl
  have hnh : s4.p.cont ≠ .header := h4.between.b.notHeader
  obtain ⟨p1, hp1, hb1, hc1⟩ := parses_gitems s4.cfg.v true pre s4.p h4.between h4.pcomp
    (hit.wireOk (fun _ _ _ => rfl))
  have he := tg_eat_items ⟨cfg.inflate, some d⟩ pre ⟨s4.inflHist, s4.inflOut⟩ icP hit
  obtain ⟨s1, hfl, r1, g1, v1, hpp⟩ := feed_frames (eater_tg ⟨cfg.inflate, some d⟩) s4 ⟨g, hz⟩ hnh hp1
    (by unfold view; rw [h4.frames]; exact he)
  obtain ⟨ip, hzz⟩ := z_feedLoop _ s4 true _ hfl h4.i
  obtain ⟨rp, l, el, nl⟩ := hzz h4.ready
  exact ⟨s1, hfl, ⟨ip, rp, r1.fix.cfg.trans h4.cfg, r1.fix.react.trans h4.react, g1.1.closed,
    r1.fix.closing.trans h4.closing, congrArg View.frames v1, by rw [hpp]; exact hb1, by rw [hpp]; exact hc1⟩,
    g1.2.comp, g1.2.dec, congrArg View.ic v1, hist_of_delivered el nl r1.evs⟩

/-- what `E2E.ZOutcome` needs of the state in front of a compressed message: the extension is on
    with the configuration `d`, and the inflate context is `ic` -/
def ZCtx (d : Http.DeflateCfg) (ic : ICtx) (sp : Sys) : Prop :=
  sp.compression = some d ∧ sp.decompress = true ∧ (⟨sp.inflHist, sp.inflOut⟩ : ICtx) = ic

theorem _root_.Lomond.Core.E2E.Prefix.gitems {cfg : Cfg} {react : React} {proxy : Bool} {proto : Option Http.Str}
    {d : Http.DeflateCfg} (hpt : cfg.pingTimeout = 0) (pre : List GItem) (hst : ∀ it ∈ pre, it.Static) (icP : ICtx)
    (hinfl : zOuts ⟨cfg.inflate, some d⟩ ⟨[], 0⟩ (pre.filterMap GItem.zpay) = some (pre.filterMap GItem.zplain, icP)) :
    Prefix cfg react proxy proto (some d) (pre.flatMap GItem.bytes) (pre.flatMap GItem.events) (ZCtx d icP) :=
  fun s4 h4 hs4 => by
    obtain ⟨sp, hfl, a⟩ := feed_pre (h4.toD hs4) hpt pre hst icP hinfl
    exact ⟨sp, hfl, a.idle, a.hist, a.zcfg, a.zdec, a.ctx⟩

theorem _root_.Lomond.Core.E2E.Prefix.nilZ (cfg : Cfg) (react : React) (proxy : Bool) (proto : Option Http.Str)
    (d : Http.DeflateCfg) : Prefix cfg react proxy proto (some d) [] [] (ZCtx d ⟨[], 0⟩) :=
  fun s4 h4 _ => ⟨s4, feedLoop_nil s4, h4.idle, rfl, h4.zcfg, h4.zdec, by rw [h4.zhist, h4.zout]⟩

/-- **the verdict on a compressed text message after any prefix** that leaves the inflate context
    `ic`: what the configuration's inflater makes of `ic.hist`, the message and the `00 00 ff ff`
    tail decides — one `Text` with the exact decoding of the new output (then the events of `tail`,
    when it is a list of conforming items), or a critical ProtocolError and nothing after it -/
theorem zmsg_verdict_after_prefix {cfg : Cfg} {react : React} {proxy : Bool} {proto : Option Http.Str}
    {d : Http.DeflateCfg} (hs : Setup cfg react proxy)
    {reply : Bytes} (hreply : GoodReplyG cfg reply proto (some d))
    {pre : Bytes} {X : List Event} {ic : ICtx} (hpre : Prefix cfg react proxy proto (some d) pre X (ZCtx d ic))
    (z : ZMsg) (hz : z.Ok) (tail : Bytes)
    (chunks : List Bytes) (hne : ∀ c ∈ chunks, c ≠ [])
    (hflat : chunks.flatten = reply ++ (pre ++ (z.bytes ++ tail))) :
    (∀ out, cfg.inflate d.decompressWbits (ic.hist ++ z.joined ++ [0, 0, 0xff, 0xff]) = some out →
      Utf8.wf (out.drop ic.out) = true →
      ∃ cps, Utf8.decode (out.drop ic.out) = some cps ∧
      ∀ more : List Item, (∀ it ∈ more, it.Ok) → tail = wireBytes (more.flatMap Item.wire) →
      ∀ dt, (cfg.pingTimeout = 0 ∨ dt ≤ cfg.pingTimeout) → (cfg.closeTimeout = 0 ∨ dt < cfg.closeTimeout) →
      Monitor.events (runAll cfg react (reads chunks ++ [.wait dt (some .eof)])).trace =
        [.connecting, .connected proxy, .ready proto true, .poll] ++ (X ++ [.text cps] ++ more.flatMap Item.events) ++
          (if cfg.poll ≤ dt then [.poll] else []) ++ [.disconnected "connection-lost" false]) ∧
    (∀ out, cfg.inflate d.decompressWbits (ic.hist ++ z.joined ++ [0, 0, 0xff, 0xff]) = some out →
      Utf8.wf (out.drop ic.out) = false →
      ∀ restEnv, Monitor.events (runAll cfg react (reads chunks ++ restEnv)).trace =
        [.connecting, .connected proxy, .ready proto true, .poll] ++ (X ++ []) ++
          [.protocolError "payload contains invalid utf-8" true, .disconnected "forced" false]) ∧
    (cfg.inflate d.decompressWbits (ic.hist ++ z.joined ++ [0, 0, 0xff, 0xff]) = none →
      ∀ restEnv, Monitor.events (runAll cfg react (reads chunks ++ restEnv)).trace =
        [.connecting, .connected proxy, .ready proto true, .poll] ++ (X ++ []) ++
          [.protocolError "unable to decompress payload" true, .disconnected "forced" false]) := by
  -- from the state after `pre`: the outcome of the message, and what it scrutinises
  have hout : ∀ sp, IdleG cfg react true sp → ZCtx d ic sp →
      ZOutcome sp z.joined (feedLoop z.bytes sp) ∧
      sp.cfg.inflate ((sp.compression.map (·.decompressWbits)).getD 15) (sp.inflHist ++ z.joined ++ [0, 0, 0xff, 0xff])
        = cfg.inflate d.decompressWbits (ic.hist ++ z.joined ++ [0, 0, 0xff, 0xff]) ∧ sp.inflOut = ic.out := by
    intro sp ip q
    obtain ⟨hc, hd, hctx⟩ := q
    subst hctx
    refine ⟨feed_zmsg z hz sp ip.i.good ip.closed ip.frames ip.between ip.comp hd, ?_, rfl⟩
    rw [ip.hcfg, hc]
    rfl
  refine ⟨fun out hinf hwf => ?_, fun out hinf hwf restEnv => ?_, fun hinf restEnv => ?_⟩
  · obtain ⟨cps, hcps⟩ := Option.isSome_iff_exists.mp ((Utf8.decode_isSome _).trans hwf)
    refine ⟨cps, hcps, fun more hmore htail dt hpt hct => ?_⟩
    subst htail
    have h1 := Prefix.append hpre (Y := [.text cps]) (Q' := fun _ => True) (fun sp ip q => by
      obtain ⟨h, hs1, hs2⟩ := hout sp ip q
      obtain ⟨s', hfl', rl, hfr, hbet, hcomp⟩ := h.valid (hs1.trans hinf) (by rw [hs2]; exact hcps)
      obtain ⟨ip', hzz⟩ := z_feedLoop _ sp true s' hfl' ip.i
      obtain ⟨rp, l, el, nl⟩ := hzz ip.ready
      exact ⟨s', hfl', ⟨ip', rp, rl.cfg.trans ip.hcfg, rl.react.trans ip.hreact, rl.closed.trans ip.closed,
        rl.closing.trans ip.closing, hfr, hbet, hcomp⟩, hist_of_delivered el nl rl.evs, trivial⟩)
    have h2 := Prefix.append h1 (Y := more.flatMap Item.events) (Q' := fun _ => True) (fun sp ip _ => by
      obtain ⟨s3, e3, a3⟩ := feed_items_G ip more hmore
      exact ⟨s3, e3, a3.idle, a3.hist, trivial⟩)
    exact run_prefix_eof hs hreply chunks _ hne (by rw [hflat]; simp) dt hpt hct h2
  · exact run_prefix_critical hs hreply chunks pre _ restEnv hne hflat hpre [] _ (fun sp ip q => by
      obtain ⟨h, hs1, hs2⟩ := hout sp ip q
      obtain ⟨s', hfl', hb⟩ := h.invalid (hs1.trans hinf) (by rw [hs2]; exact hwf)
      exact ⟨_, s', feedLoop_err_append _ _ _ _ _ hfl', rfl, I.of_book hb ip.i, by rw [hb.inert.trace]; rfl⟩)
  · exact run_prefix_critical hs hreply chunks pre _ restEnv hne hflat hpre [] _ (fun sp ip q => by
      obtain ⟨h, hs1, _⟩ := hout sp ip q
      obtain ⟨s', hfl', hb⟩ := h.inflate_none (hs1.trans hinf)
      exact ⟨_, s', feedLoop_err_append _ _ _ _ _ hfl', rfl, I.of_book hb ip.i, by rw [hb.inert.trace]; rfl⟩)

/-- `server_no_context_takeover` negotiated: the context is reset after every message -/
theorem zOuts_ctx_reset (z : ZP) (hr : (z.dc.map (·.resetDecompress)).getD false = true) (zs : List Bytes) (ic ic' : ICtx)
    (os : List Bytes) (h : zOuts z ic zs = some (os, ic')) : ic' = if zs = [] then ic else ⟨[], 0⟩ := by
  induction zs generalizing ic os with
  | nil => simp only [zOuts] at h; cases h; rfl
  | cons j r ih =>
    simp only [zOuts] at h
    split at h
    · cases h
    · rename_i o1 ic1 h1
      split at h
      · cases h
      · rename_i os1 ic2 h2
        cases h
        have e1 : ic1 = ⟨[], 0⟩ := by
          unfold inflPure at h1
          split at h1
          · cases h1
          · rw [if_pos hr] at h1; cases h1; rfl
        have := ih ic1 os1 h2
        rw [this, e1]
        by_cases hn : r = [] <;> simp [hn]

/-- context takeover: the history is every compressed payload so far, each with the `00 00 ff ff`
    tail; the number of bytes already delivered is the length of what the inflater returns for that
    history (when there was a compressed message at all) -/
theorem zOuts_ctx_keep (z : ZP) (hr : (z.dc.map (·.resetDecompress)).getD false = false) (zs : List Bytes) (ic ic' : ICtx)
    (os : List Bytes) (h : zOuts z ic zs = some (os, ic')) :
    ic'.hist = ic.hist ++ zs.flatMap (· ++ [0, 0, 0xff, 0xff]) ∧
    (zs = [] → ic'.out = ic.out) ∧
    (zs ≠ [] → ∃ out, z.infl ((z.dc.map (·.decompressWbits)).getD 15) ic'.hist = some out ∧ ic'.out = out.length) := by
  induction zs generalizing ic os with
  | nil => simp only [zOuts] at h; cases h; simp
  | cons j r ih =>
    simp only [zOuts] at h
    split at h
    · cases h
    · rename_i o1 ic1 h1
      split at h
      · cases h
      · rename_i os1 ic2 h2
        cases h
        have e1 : ic1.hist = ic.hist ++ j ++ [0, 0, 0xff, 0xff] ∧
            ∃ out, z.infl ((z.dc.map (·.decompressWbits)).getD 15) ic1.hist = some out ∧ ic1.out = out.length := by
          unfold inflPure at h1
          split at h1
          · cases h1
          · rename_i out heq
            rw [hr] at h1
            simp only [Bool.false_eq_true, if_false] at h1
            cases h1
            exact ⟨rfl, out, heq, rfl⟩
        obtain ⟨ih1, ih2, ih3⟩ := ih ic1 os1 h2
        refine ⟨?_, (fun hn => by cases hn), fun _ => ?_⟩
        · rw [ih1, e1.1]; simp
        · by_cases hn : r = []
          · subst hn
            simp only [zOuts] at h2
            cases h2
            exact e1.2
          · exact ih3 hn

end Lomond.Core.DG
