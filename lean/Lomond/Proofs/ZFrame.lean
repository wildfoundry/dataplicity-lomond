/-
  For Properties/C03_Z.lean: positions in a trace that obeys the key schedule
  (`Sched`), the compressor history (`zHist`, `zCalls`, `zPayloads`), the peer's inflater over the
  payloads in wire order, and the tie to the token-level sender of Model/Deflate.lean.
-/
import Lomond.Proofs.KeySched
import Lomond.Model.Deflate
namespace Lomond.ZFrame
open Lomond Lomond.Core Lomond.Core.KS

theorem sched_at (cfg : Cfg) (newer : List Obs) (o : Obs) (older : List Obs)
    (h : Sched cfg (newer ++ o :: older)) : SchedAt cfg older o := by
  induction newer with
  | nil => exact h.2
  | cons x l ih => exact ih h.1

theorem sched_tail (cfg : Cfg) (newer older : List Obs) (h : Sched cfg (newer ++ older)) : Sched cfg older := by
  induction newer with
  | nil => exact h
  | cons x l ih => exact ih h.1

theorem keyIdx_strict (older mid : List Obs) (o : Obs) (ho : isWrite o = true) (hw : nWrites older ≠ 0) :
    keyIdx older < keyIdx (mid ++ o :: older) := by
  unfold keyIdx
  rw [nKeys_append, nKeys_cons, isWrite_drawsKey ho]
  have := nWrites_le_nKeys older
  simp only [if_true]
  omega

theorem zPayloads_snoc (deflate : Deflater) (a h : List Bytes) (p : Bytes) :
    zPayloads deflate a (h ++ [p]) = zPayloads deflate a h ++ [deflate (a ++ h) p] := by
  induction h generalizing a with
  | nil => simp [zPayloads]
  | cons x h ih =>
    simp only [List.cons_append, zPayloads]
    rw [ih (a ++ [x])]
    simp [List.append_assoc]

theorem zPayloads_length (deflate : Deflater) (a h : List Bytes) : (zPayloads deflate a h).length = h.length := by
  induction h generalizing a with
  | nil => rfl
  | cons x h ih => simp [zPayloads, ih]

/-- the plaintexts of the `.wrz` entries, oldest first -/
def zPlains (T : List Obs) : List Bytes := (zCalls T).map (·.2)

theorem zPlains_cons_wrz (op : Nat) (p : Bytes) (T : List Obs) : zPlains (.wrz op p :: T) = zPlains T ++ [p] := by
  simp [zPlains, zCalls]

theorem zHist_eq (T : List Obs) (hist : List Bytes) (h : zHist T = some hist) : hist = zPlains T := by
  induction T generalizing hist with
  | nil => simp [zHist] at h; simp [zPlains, zCalls, h]
  | cons o T ih =>
    cases o with
    | wrz op p =>
      simp only [zHist, Option.map_eq_some_iff] at h
      obtain ⟨h0, e0, rfl⟩ := h
      rw [zPlains_cons_wrz, ih h0 e0]
    | wrFail d =>
      cases d with
      | nil => simp [zHist] at h
      | cons b d => simp only [zHist] at h; rw [ih hist h]; simp [zPlains, zCalls]
    | _ => simp only [zHist] at h; rw [ih hist h]; simp [zPlains, zCalls]

theorem zHist_tail (newer older : List Obs) (hist : List Bytes) (h : zHist (newer ++ older) = some hist) :
    ∃ h0, zHist older = some h0 := by
  induction newer generalizing hist with
  | nil => exact ⟨hist, h⟩
  | cons o l ih =>
    cases o with
    | wrz op p =>
      simp only [List.cons_append, zHist, Option.map_eq_some_iff] at h
      obtain ⟨h0, e0, _⟩ := h
      exact ih h0 e0
    | wrFail d =>
      cases d with
      | nil => simp [zHist] at h
      | cons b d => simp only [List.cons_append, zHist] at h; exact ih hist h
    | _ => simp only [List.cons_append, zHist] at h; exact ih hist h

/-- no compressed write failed ⇔ the history is determined -/
theorem zHist_some_iff (T : List Obs) : (∃ hist, zHist T = some hist) ↔ Obs.wrFail [] ∉ T := by
  induction T with
  | nil => simp [zHist]
  | cons o T ih =>
    cases o with
    | wrz op p =>
      simp only [zHist, Option.map_eq_some_iff, List.mem_cons, reduceCtorEq, false_or]
      rw [← ih]
      constructor
      · rintro ⟨_, h0, e0, _⟩; exact ⟨h0, e0⟩
      · rintro ⟨h0, e0⟩; exact ⟨_, h0, e0, rfl⟩
    | wrFail d =>
      cases d with
      | nil => simp [zHist]
      | cons b d => simp only [zHist, List.mem_cons, Obs.wrFail.injEq, reduceCtorEq, false_or]; exact ih
    | _ => simp only [zHist, List.mem_cons, reduceCtorEq, false_or]; exact ih

/-- the payload `wireOf` gives the compressed frame at a position is the element of `zPayloads`
    (all payloads in wire order) with the number of that frame -/
theorem zPayloads_at (deflate : Deflater) (newer older : List Obs) (op : Nat) (plain : Bytes) :
    (zPayloads deflate [] (zPlains (newer ++ .wrz op plain :: older)))[(zPlains older).length]? =
      some (deflate (zPlains older) plain) := by
  induction newer with
  | nil =>
    rw [List.nil_append, zPlains_cons_wrz, zPayloads_snoc, List.nil_append]
    rw [List.getElem?_append_right (by rw [zPayloads_length]; exact Nat.le_refl _), zPayloads_length]
    simp
  | cons x l ih =>
    have hlen : (zPlains older).length < (zPayloads deflate [] (zPlains (l ++ .wrz op plain :: older))).length := by
      have := ih
      rcases Nat.lt_or_ge (zPlains older).length (zPayloads deflate [] (zPlains (l ++ .wrz op plain :: older))).length with h | h
      · exact h
      · rw [List.getElem?_eq_none h] at this; cases this
    cases x with
    | wrz op' p' =>
      rw [List.cons_append, zPlains_cons_wrz, zPayloads_snoc, List.getElem?_append_left hlen]; exact ih
    | _ => simpa [zPlains, zCalls] using ih

/-- `inflate` undoes `deflate` over histories: given the payloads of the earlier messages it turns
    the payload of the next one back into its plaintext -/
def Inverts (deflate : Deflater) (inflate : List Bytes → Bytes → Option Bytes) : Prop :=
  ∀ hist p, inflate (zPayloads deflate [] hist) (deflate hist p) = some p

theorem peer_lossless_from (deflate : Deflater) (inflate : List Bytes → Bytes → Option Bytes)
    (hinv : Inverts deflate inflate) (h ps : List Bytes) :
    peerOutputs inflate (zPayloads deflate [] h) (zPayloads deflate h ps) = some ps := by
  induction ps generalizing h with
  | nil => rfl
  | cons p ps ih =>
    simp only [zPayloads, peerOutputs]
    rw [hinv h p]
    have := ih (h ++ [p])
    rw [zPayloads_snoc, List.nil_append] at this
    rw [this]

open Lomond.Deflate in
/-- a byte-level compressor that is the encoding `enc` of a token-level compressor `c`, with the
    context kept or renewed per message: its payloads are the encodings of `senderTokens` -/
theorem zPayloads_senderTokens {D : Nat} (c : Compressor D) (reset : Bool) (enc : List Token → Bytes)
    (deflate : Deflater)
    (hd : ∀ hist p, deflate hist p = enc (c.comp (if reset then [] else hist.flatten) p))
    (h ps : List Bytes) :
    zPayloads deflate h ps = (senderTokens c reset (if reset then [] else h.flatten) ps).map enc := by
  induction ps generalizing h with
  | nil => rfl
  | cons p ps ih =>
    simp only [zPayloads, senderTokens, List.map_cons]
    rw [hd h p, ih (h ++ [p])]
    cases reset <;> simp

end Lomond.ZFrame
