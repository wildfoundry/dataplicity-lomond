/-
  The link between the connection-phase models and the core model (`Model/ConnectLink.lean`).  `Shut`: while no
  socket exists the library writes nothing.  `run_anatomy`, `runAll_cut`: the core trace cut where `run()` calls
  `_connect()`, for any configuration (`CoreTail`: what follows, by `cfg.connect`).  `connect_outcome`: result and log
  of `_connect()` by cases, in terms of the two models' own criteria.  `composed_cut`: the composed trace is the core
  trace with the connection phase put in at the cut; every projection of it is a `filterMap`, taken part by part.
  Then: `Proxy.run` is a prefix of the composed trace seen through `view` (`run_prefix_view`); `Connected` is yielded
  at most once, and `ConnectFail("connect-failed")` exactly when `_connect()` raised (`connectFailed_iff`); the
  socket-module calls of the phase (`mem_phaseItems_sock`, `calls_in_phaseItems`).
-/
import Lomond.Model.ConnectLink
import Lomond.Proofs.RunAll
import Lomond.Proofs.SelFail
import Lomond.Proofs.EnvIrrel
import Lomond.Proofs.Proxy
namespace Lomond.ConnectLink
open Lomond Lomond.Http Lomond.Core Lomond.Core.Monitor

def isRes : Obs → Bool
  | .res _ => true
  | _ => false

/-- from a state without a socket: still no socket, no `sendall` was counted, and the trace grew by
    results of application calls only -/
def Shut (s s' : Sys) : Prop :=
  s.sockOpen = false →
    s'.sockOpen = false ∧ s'.writeCtr = s.writeCtr ∧ ∃ l, s'.trace = l ++ s.trace ∧ ∀ o ∈ l, isRes o = true

theorem shut_po : PO Shut where
  refl s := fun h => ⟨h, rfl, [], rfl, fun _ hm => by cases hm⟩
  trans := by
    intro a b c h1 h2 ha
    obtain ⟨hb, w1, l1, e1, n1⟩ := h1 ha
    obtain ⟨hc, w2, l2, e2, n2⟩ := h2 hb
    exact ⟨hc, w2.trans w1, ext_trans ⟨l1, e1, n1⟩ ⟨l2, e2, n2⟩⟩

theorem shut_same {s s' : Sys} (h1 : s'.sockOpen = s.sockOpen) (h2 : s'.writeCtr = s.writeCtr)
    (h3 : s'.trace = s.trace) : Shut s s' :=
  fun h => ⟨h1.trans h, h2, [], h3, nofun⟩

theorem shut_open {s s' : Sys} (h : s.sockOpen = true) : Shut s s' :=
  fun h' => absurd h (by rw [h']; decide)

/-- the application's calls: `session.write` refuses at once (its leaf needs a socket), so does
    `session.close()`; what remains are the mask key drawn by `sendFrame`, the flags set by
    `close()` and the logged results -/
theorem shut_doActs (as : List Act) : Spec Shut (doActs as) := by
  have hw : ∀ d z, Spec Shut (write d z) := fun d z =>
    spec_write shut_po d z (fun _ _ h _ _ _ => shut_open h)
  have hf : ∀ op pl c, Spec Shut (sendFrame op pl c) := fun op pl c =>
    spec_sendFrame shut_po op pl c (fun _ => shut_same rfl rfl rfl) (fun d => hw d _)
  exact spec_doActs shut_po as fun a _ => spec_doAct shut_po a
    (fun op pl c _ => spec_sendData op pl c (hf op pl none) (fun s _ => hf op [] (some pl) s))
    (fun op pl _ _ => hf op pl none)
    (fun c r _ => spec_wsClose shut_po c r (fun pl => hf _ pl none) (fun _ => shut_same rfl rfl rfl))
    (fun _ => spec_closeSocket shut_po (fun _ h => shut_open h))
    (fun s r hs => ⟨hs, rfl, [.res r], rfl, fun o ho => by cases List.mem_singleton.mp ho; rfl⟩)
    (fun _ _ _ => shut_same rfl rfl rfl)

theorem yieldEv_shut (e : Event) (s : Sys) (hs : s.sockOpen = false) :
    (yieldEv e s).state.sockOpen = false ∧ (yieldEv e s).state.writeCtr = s.writeCtr ∧
    ∃ l, (yieldEv e s).state.trace = l ++ .ev e :: s.trace ∧ ∀ o ∈ l, isRes o = true := by
  rw [yieldEv_eq]
  exact shut_doActs _ (pushEv e s) hs

theorem grow_runLoopL {l : M Unit} (hl : Spec Grows l) : Spec Grows (runLoopL l) :=
  have hsock := Once.grows_of_step step_closeSocket
  have hsel := spec_selClose grows_po (fun _ _ => ⟨[.selClose], rfl⟩)
  spec_runLoopL grows_po hl (fun r => spec_onLoopEnd grows_po r hsock (fun _ _ => Once.grows_of_step (step_yieldEv _)))
    hsel (fun x => spec_runFinally grows_po x hsock hsel)

theorem yieldConnected_trace (proxy : Bool) (s : Sys) :
    ∃ l, (yieldConnected proxy s).state.trace = l ++ .ev (.connected proxy) :: s.trace := by
  have hy : ∃ l, (yieldEv (.connected proxy) s).state.trace = l ++ .ev (.connected proxy) :: s.trace := by
    rw [yieldEv_eq]; exact (step_doActs _ (pushEv (.connected proxy) s)).traceExt
  unfold yieldConnected
  rw [getS_bind]
  split
  · cases hm : yieldEv (.connected proxy) s with
    | ok a s1 => rw [tryC_ok hm]; rw [hm] at hy; exact hy
    | err x s1 =>
      rw [tryC_err hm]; rw [hm] at hy
      obtain ⟨l, e⟩ := hy
      obtain ⟨s2, h2⟩ := closeSocket_ok s1
      obtain ⟨l2, e2⟩ := (step_closeSocket.ok h2).traceExt
      rw [bind_ok h2]
      exact ⟨l2 ++ l, by show s2.trace = _; rw [e2, show s1.trace = _ from e, List.append_assoc]⟩
  · exact hy

/-- the connection is over without a socket: `run()` returned, or the application abandoned it -/
def Settled (r : Res Unit) : Prop := r.state.sockOpen = false ∧ ∀ x s', r = .err x s' → x = .genExit

theorem mem_reverse_res {l : List Obs} (h : ∀ o ∈ l, isRes o = true) : ∀ o ∈ l.reverse, isRes o = true :=
  fun o ho => h o (List.mem_reverse.mp ho)

/-- what the core model does after `_connect()` (oldest first), by `cfg.connect`: `ConnectFail` when it raised;
    when it returned a socket, the upgrade request and `Connected`, or the failed request, the socket close and
    `ConnectFail`, or — the application had already called `close()` at `Connecting` (`busy`), so that
    `session.write` refuses — the socket close and `ConnectFail` with nothing written at all.
    Parameters: `k` = `sendall`s counted so far (indexes `cfg.writeFails`); `busy` = the application had called
    `close()` at `Connecting`; `fin` = what is known where nothing can follow (a tail that ends in `ConnectFail`). -/
inductive CoreTail (cfg : Cfg) (k : Nat) (busy fin : Prop) : List Obs → Prop
  | failed (c1 : List Obs) : (∀ o ∈ c1, isRes o = true) → (cfg.connect = .socketFail ∨ cfg.connect = .otherFail) → fin →
      CoreTail cfg k busy fin (.ev (.connectFail "connect-failed") :: c1)
  | refused (p : Bool) (c1 : List Obs) : (∀ o ∈ c1, isRes o = true) → (cfg.connect = .ok p ∨ cfg.connect = .selFail p) →
      busy → fin → CoreTail cfg k busy fin (.sockClose :: .ev (.connectFail "request-failed") :: c1)
  | writeFailed (p : Bool) (c1 : List Obs) : (∀ o ∈ c1, isRes o = true) →
      (cfg.connect = .ok p ∨ cfg.connect = .selFail p) → cfg.writeFails k = true → fin →
      CoreTail cfg k busy fin (.wrFail cfg.request :: .sockClose :: .ev (.connectFail "request-failed") :: c1)
  | connected (p : Bool) (X : List Obs) : (cfg.connect = .ok p ∨ cfg.connect = .selFail p) → cfg.writeFails k = false →
      CoreTail cfg k busy fin (.wr cfg.request :: .ev (.connected p) :: X)

theorem CoreTail.append {cfg : Cfg} {k : Nat} {busy busy' fin : Prop} {T : List Obs} (h : CoreTail cfg k busy fin T)
    (hb : busy → busy') (e : List Obs) (he : fin → e = []) : CoreTail cfg k busy' True (T ++ e) := by
  cases h with
  | failed c1 n1 hc hf => rw [he hf, List.append_nil]; exact .failed c1 n1 hc trivial
  | refused p c1 n1 hp hbusy hf => rw [he hf, List.append_nil]; exact .refused p c1 n1 hp (hb hbusy) trivial
  | writeFailed p c1 n1 hp hw hf => rw [he hf, List.append_nil]; exact .writeFailed p c1 n1 hp hw trivial
  | connected p X hp hw => exact .connected p (X ++ e) hp hw

theorem yieldEv_settled (e : Event) (s : Sys) (hs : s.sockOpen = false) : Settled (yieldEv e s) :=
  ⟨(yieldEv_shut e s hs).1, fun _ _ h => yieldEv_err_genExit h⟩

theorem afterConnectL_trace {l : M Unit} (hl : Spec Grows l) (proxy sel : Bool) (s : Sys)
    (hc : s.cfg.connect = .ok proxy ∨ s.cfg.connect = .selFail proxy) :
    ∃ T, (afterConnectL l proxy sel s).state.trace = T.reverse ++ s.trace ∧
      CoreTail s.cfg s.writeCtr (s.closed = true ∨ s.closing = true) (Settled (afterConnectL l proxy sel s)) T := by
  unfold afterConnectL
  rw [modS_bind, getS_bind]
  -- the three outcomes of `session.write(request)`
  have hw : ((s.closed = true ∨ s.closing = true) ∧ ∃ r, wsError r = true ∧
        write s.cfg.request none { s with sockOpen := true } = .ok r { s with sockOpen := true }) ∨
      (s.cfg.writeFails s.writeCtr = true ∧
        write s.cfg.request none { s with sockOpen := true } =
          .ok .transportFail { s with sockOpen := true, writeCtr := s.writeCtr + 1, trace := .wrFail s.cfg.request :: s.trace }) ∨
      (s.cfg.writeFails s.writeCtr = false ∧
        write s.cfg.request none { s with sockOpen := true } =
          .ok .ok { s with sockOpen := true, writeCtr := s.writeCtr + 1, trace := .wr s.cfg.request :: s.trace }) := by
    unfold write
    simp only []
    by_cases h1 : s.closed = true
    · exact .inl ⟨.inl h1, .wsClosed, rfl, by simp [h1]⟩
    · by_cases h2 : s.closing = true
      · exact .inl ⟨.inr h2, .wsClosing, rfl, by simp [h1, h2]⟩
      · cases h3 : s.cfg.writeFails s.writeCtr
        · right; right; simp [h1, h2]
        · right; left; simp [h1, h2]
  -- after a refused or failed write: close the socket, `ConnectFail`
  have hfail : ∀ s2 : Sys, s2.sockOpen = true →
      ∃ l, ((do closeSocket; yieldEv (.connectFail "request-failed") : M Unit) s2).state.trace =
        l ++ .ev (.connectFail "request-failed") :: .sockClose :: s2.trace ∧ (∀ o ∈ l, isRes o = true) ∧
        Settled ((do closeSocket; yieldEv (.connectFail "request-failed") : M Unit) s2) := by
    intro s2 h2
    have hc : closeSocket s2 = .ok () { s2 with sockOpen := false, trace := .sockClose :: s2.trace } := by
      unfold closeSocket; rw [if_pos h2]
    rw [bind_ok hc]
    obtain ⟨_, _, l, e, n⟩ := yieldEv_shut (.connectFail "request-failed")
      { s2 with sockOpen := false, trace := .sockClose :: s2.trace } rfl
    exact ⟨l, e, n, yieldEv_settled _ _ rfl⟩
  rcases hw with ⟨hb, r, hr, h⟩ | ⟨hf, h⟩ | ⟨hf, h⟩
  · rw [bind_ok h, if_pos hr]
    obtain ⟨l1, e, n, fin⟩ := hfail { s with sockOpen := true } rfl
    exact ⟨_, by rw [e]; simp, .refused proxy l1.reverse (mem_reverse_res n) hc hb fin⟩
  · rw [bind_ok h, if_pos (by decide)]
    obtain ⟨l1, e, n, fin⟩ := hfail { s with sockOpen := true, writeCtr := s.writeCtr + 1, trace := .wrFail s.cfg.request :: s.trace } rfl
    exact ⟨_, by rw [e]; simp, .writeFailed proxy l1.reverse (mem_reverse_res n) hc hf fin⟩
  · rw [bind_ok h, if_neg (by decide)]
    generalize hs2 : ({ s with sockOpen := true, writeCtr := s.writeCtr + 1, trace := .wr s.cfg.request :: s.trace } : Sys) = s2
    have ht2 : s2.trace = .wr s.cfg.request :: s.trace := by rw [← hs2]
    obtain ⟨l1, e1⟩ := yieldConnected_trace proxy s2
    cases hy : yieldConnected proxy s2 with
    | err x s3 =>
      rw [bind_err hy]; rw [hy] at e1
      exact ⟨_, by show s3.trace = _; rw [show s3.trace = _ from e1, ht2]; simp, .connected proxy l1.reverse hc hf⟩
    | ok u s3 =>
      rw [bind_ok hy, modS_bind]; rw [hy] at e1
      obtain ⟨l2, e2⟩ := grow_runLoopL hl { s3 with selOpen := sel }
      refine ⟨_, ?_, .connected proxy (l2 ++ l1).reverse hc hf⟩
      rw [e2]; show l2 ++ s3.trace = _
      rw [show s3.trace = _ from e1, ht2]; simp

/-- **`run()` cut at `_connect()`**, from any state without a socket: either the application abandons
    the iterator at `Connecting` — then that is all that happens —, or the trace is: what was there,
    `Connecting`, results of the application's calls, and then (`T`, oldest first) what the connect outcome says. -/
theorem run_anatomy (s : Sys) (hs : s.sockOpen = false) :
    (∃ x s1, yieldEv .connecting s = .err x s1 ∧ run s = .err x s1 ∧
      ∃ l, s1.trace = l ++ .ev .connecting :: s.trace ∧ ∀ o ∈ l, isRes o = true) ∨
    (∃ s1, yieldEv .connecting s = .ok () s1 ∧
      (∃ l, s1.trace = l ++ .ev .connecting :: s.trace ∧ ∀ o ∈ l, isRes o = true) ∧
      ∃ T, (run s).state.trace = T.reverse ++ s1.trace ∧
        CoreTail s.cfg s.writeCtr (s1.closed = true ∨ s1.closing = true) (Settled (run s)) T) := by
  obtain ⟨hso, hwc, l0, e0, n0⟩ := yieldEv_shut .connecting s hs
  have st := step_yieldEv .connecting s
  cases hy : yieldEv .connecting s with
  | err x s1 =>
    rw [hy] at e0
    exact Or.inl ⟨x, s1, rfl, by unfold run; rw [bind_err hy], l0, e0, n0⟩
  | ok u s1 =>
    rw [hy] at e0 hso hwc st; simp only [Res.state_ok] at e0 hso hwc st
    refine Or.inr ⟨s1, rfl, ⟨l0, e0, n0⟩, ?_⟩
    rw [run_eq_runL]
    unfold runL
    rw [bind_ok hy, getS_bind]
    rw [← st.cfg, ← hwc]
    cases hc : s1.cfg.connect with
    | ok p =>
      simp only []
      exact afterConnectL_trace (Once.grows_of_step (step_loop _)) p true s1 (.inl hc)
    | selFail p =>
      simp only []
      exact afterConnectL_trace (spec_throwE grows_po _) p false s1 (.inr hc)
    | _ =>
      -- `_connect()` raised: `ConnectFail`, and the application's reaction to it
      obtain ⟨_, _, l, e, n⟩ := yieldEv_shut (.connectFail "connect-failed") s1 hso
      exact ⟨.ev (.connectFail "connect-failed") :: l.reverse, by rw [e]; simp,
        .failed l.reverse (mem_reverse_res n) (by simp [hc]) (yieldEv_settled _ _ hso)⟩

/-- `runAll` adds to the trace of `run()` the `with ws:` block's `session.close()` or the
    end-of-script marker — nothing when the connection is over without a socket -/
theorem runAll_trace (cfg : Cfg) (react : React) (env : List EnvStep) :
    ∃ l, (runAll cfg react env).trace = l ++ (run (initSys cfg react env)).state.trace ∧
      (Settled (run (initSys cfg react env)) → l = []) := by
  rcases runAll_cases cfg react env with ⟨s, hr, e⟩ | ⟨s, hr, _, _⟩ | ⟨s, hr, e⟩
  · rw [hr, e]; exact ⟨[], rfl, fun _ => rfl⟩
  · rw [hr, runAll_genExit hr, closeSocket_eq]
    by_cases h : s.abandonedWith = true ∧ s.sockOpen = true
    · refine ⟨[.sockClose], by simp [h.1, h.2, sockClosed], fun hs => ?_⟩
      have := hs.1
      rw [show (Res.err Exn.genExit s : Res Unit).state.sockOpen = s.sockOpen from rfl, h.2] at this
      cases this
    · refine ⟨[], ?_, fun _ => rfl⟩
      by_cases ha : s.abandonedWith = true
      · have : ¬ s.sockOpen = true := fun hso => h ⟨ha, hso⟩
        simp [ha, sockClosed, this]
      · simp [ha]
  · -- an exception other than the application's `GeneratorExit` is not `Settled`
    rw [hr, e]; exact ⟨[.incomplete], rfl, fun hs => by cases hs.2 _ _ rfl⟩

def StopsAtConnecting (react : React) : Prop := ∃ w, Act.abandon w ∈ react [.connecting]

/-- **The trace of a connection, cut where `_connect()` is called** — a statement about the core model alone, for
    any configuration: `Connecting` and the results of what the application called there; then, unless it stopped
    iterating, what `cfg.connect` says. -/
theorem runAll_cut (cfg : Cfg) (react : React) (env : List EnvStep) :
    (StopsAtConnecting react ∧ (∃ x s1, yieldEv .connecting (initSys cfg react env) = .err x s1) ∧
      ∃ c0, (∀ o ∈ c0, isRes o = true) ∧ (runAll cfg react env).trace.reverse = .ev .connecting :: c0) ∨
    (¬ StopsAtConnecting react ∧ ∃ s1 c0 T, yieldEv .connecting (initSys cfg react env) = .ok () s1 ∧
      s1.trace.reverse = .ev .connecting :: c0 ∧ (∀ o ∈ c0, isRes o = true) ∧
      (runAll cfg react env).trace.reverse = (.ev .connecting :: c0) ++ T ∧
      CoreTail cfg 0 (react [.connecting] ≠ []) True T) := by
  have hinit : (initSys cfg react env).sockOpen = false := rfl
  obtain ⟨e, hrun, hfin⟩ := runAll_trace cfg react env
  rcases run_anatomy (initSys cfg react env) hinit with
    ⟨x, s1, hy, hr, l0, e0, n0⟩ | ⟨s1, hy, ⟨l0, e0, n0⟩, T, et, hac⟩
  · -- abandoned at `Connecting`
    have hx : x = .genExit := yieldEv_err_genExit hy
    subst hx
    have hstop : StopsAtConnecting react := by
      rw [yieldEv_eq] at hy
      exact (raises_doActs _ hy).2
    have hso : s1.sockOpen = false := by
      have := (yieldEv_shut .connecting _ hinit).1; rw [hy] at this; exact this
    have he : e = [] := hfin (by rw [hr]; exact ⟨hso, fun _ _ h => by cases h; rfl⟩)
    refine .inl ⟨hstop, ⟨_, _, hy⟩, l0.reverse, mem_reverse_res n0, ?_⟩
    rw [hrun, he, hr]
    show ([] ++ s1.trace).reverse = _
    rw [List.nil_append, e0]
    show (l0 ++ Obs.ev .connecting :: []).reverse = _
    rw [List.reverse_append]; rfl
  · -- `_connect()` is called
    have hnostop : ¬ StopsAtConnecting react := by
      rintro ⟨w, hw⟩
      rw [yieldEv_eq] at hy
      exact (Once.doActs_ok_iff _ _).mp ⟨_, hy⟩ w hw
    have hs1 : s1.trace.reverse = Obs.ev .connecting :: l0.reverse := by
      rw [e0]; show (l0 ++ Obs.ev .connecting :: []).reverse = _
      rw [List.reverse_append]; rfl
    have htr : (runAll cfg react env).trace.reverse = (Obs.ev .connecting :: l0.reverse) ++ (T ++ e.reverse) := by
      rw [hrun, et, List.reverse_append, List.reverse_append, List.reverse_reverse, List.append_assoc, hs1]
    have hbusy : (s1.closed = true ∨ s1.closing = true) → react [.connecting] ≠ [] := by
      intro hb hre
      rw [yieldEv_eq] at hy
      have : (initSys cfg react env).react (.connecting :: (initSys cfg react env).hist) = [] := hre
      rw [this] at hy
      cases hy
      rcases hb with h | h <;> cases h
    exact .inr ⟨hnostop, s1, l0.reverse, T ++ e.reverse, hy, hs1, mem_reverse_res n0, htr,
      hac.append hbusy e.reverse fun fin => by rw [hfin fin]; rfl⟩

def Connects (i : Inputs) : Prop := ∃ q, connectResult i = .sock q

open Lomond.Proxy in
inductive Outcome (i : Inputs) : ConnectResult → List Proxy.Io → Prop
  /-- no proxy: one `_connect_sock` call to the target decides -/
  | direct : proxyChoice i.ws = none →
      Outcome i (if sockOk i then .sock none else .socketFail)
        [.connectTo i.ws.target.host i.ws.target.port i.ws.target.secure]
  | up (purl : Str) (u : Url) (p : Option Nat) (req : Bytes) : proxyChoice i.ws = some purl →
      TunnelUp i.ws (proxyEnv i) purl → parseUrl purl = some u → u.port = some p →
      connectRequestOf i.ws purl = some req →
      Outcome i (.sock (some purl)) (upLog i.ws (proxyEnv i) u p req)
  /-- the tunnel fails with kind `k`: `_SocketFail` when the proxy could not be reached, another exception otherwise -/
  | down (purl : Str) (k : FailKind) : proxyChoice i.ws = some purl → TunnelFails i.ws (proxyEnv i) purl →
      (connectProxy i.ws (proxyEnv i) purl).2 = .error k →
      (k = .proxyConnect ↔ (∃ u p, parseUrl purl = some u ∧ u.port = some p) ∧ sockOk i = false) →
      Outcome i (if k = .proxyConnect then .socketFail else .otherFail) (connectProxy i.ws (proxyEnv i) purl).1

open Lomond.Proxy in
theorem connect_outcome (i : Inputs) : Outcome i (connectResult i) (connectLog i) := by
  unfold connectResult connectLog
  cases hc : proxyChoice i.ws with
  | none => exact .direct hc
  | some purl =>
    simp only []
    rcases connectProxy_cases i.ws (proxyEnv i) purl with ⟨hup, u, p, req, hu, hp, hreq, h⟩ | ⟨hf, k, hk, hiff⟩
    · rw [h]; exact .up purl u p req hc hup hu hp hreq
    · have := Outcome.down purl k hc hf hk hiff
      rw [hk]
      cases k <;> exact this

theorem connectResult_direct (i : Inputs) (hc : Proxy.proxyChoice i.ws = none) :
    connectResult i = if sockOk i then .sock none else .socketFail := by
  unfold connectResult; rw [hc]

theorem sockOk_true_iff (i : Inputs) : sockOk i = true ↔ ∃ k, (Connect.connectSock i.gai).1 = .sock k := by
  unfold sockOk
  cases (Connect.connectSock i.gai).1 <;> simp

theorem sockOk_false_iff (i : Inputs) : sockOk i = false ↔ (Connect.connectSock i.gai).1 = .fail := by
  unfold sockOk
  cases (Connect.connectSock i.gai).1 <;> simp

theorem connectResult_sock_eq (i : Inputs) (q : Option Str) (h : connectResult i = .sock q) :
    q = Proxy.proxyChoice i.ws := by
  have ho := connect_outcome i
  generalize connectResult i = r at ho h
  generalize connectLog i = l at ho
  cases ho with
  | direct hc => rw [hc]; split at h <;> cases h; rfl
  | up purl _ _ _ hc => cases h; exact hc.symm
  | down _ k => split at h <;> cases h

open Lomond.Proxy in
theorem connects_proxy {i : Inputs} {purl : Str} {q : Option Str} (hc : proxyChoice i.ws = some purl)
    (hq : connectResult i = .sock q) :
    TunnelUp i.ws (proxyEnv i) purl ∧ ∃ u p req, parseUrl purl = some u ∧ u.port = some p ∧
      connectRequestOf i.ws purl = some req ∧ connectLog i = upLog i.ws (proxyEnv i) u p req := by
  have ho := connect_outcome i
  generalize connectResult i = r at ho hq
  generalize connectLog i = l at ho
  cases ho with
  | direct hc' => rw [hc] at hc'; cases hc'
  | down _ k => split at hq <;> cases hq
  | up purl' u p req hc' hup hu hp hreq =>
    rw [hc] at hc'; cases hc'
    exact ⟨hup, u, p, req, hu, hp, hreq, rfl⟩

open Lomond.Proxy in
theorem connectResult_proxy (i : Inputs) (purl : Str) (hc : proxyChoice i.ws = some purl) :
    (connectResult i = .sock (some purl) ↔ TunnelUp i.ws (proxyEnv i) purl) ∧
    (connectResult i = .socketFail ↔
      (∃ u p, parseUrl purl = some u ∧ u.port = some p) ∧ sockOk i = false) := by
  have ho := connect_outcome i
  generalize connectResult i = r at ho
  generalize connectLog i = l at ho
  cases ho with
  | direct hc' => rw [hc] at hc'; cases hc'
  | up purl' u p _ hc' hup hu hp =>
    rw [hc] at hc'; cases hc'
    exact ⟨⟨fun _ => hup, fun _ => rfl⟩, nofun,
      fun ⟨_, h⟩ => by rw [show sockOk i = _ from hup.connect] at h; cases h⟩
  | down purl' k hc' hf hk hiff =>
    rw [hc] at hc'; cases hc'
    have hnot := not_up_of_fails _ _ _ hf
    by_cases hk' : k = .proxyConnect
    · rw [if_pos hk']
      exact ⟨⟨nofun, fun h => absurd h hnot⟩, fun _ => hiff.mp hk', fun _ => rfl⟩
    · rw [if_neg hk']
      exact ⟨⟨nofun, fun h => absurd h hnot⟩, nofun, fun h => absurd (hiff.mpr h) hk'⟩

open Lomond.Proxy in
theorem fails_not_connects {i : Inputs} {purl : Str} (hc : proxyChoice i.ws = some purl)
    (hf : TunnelFails i.ws (proxyEnv i) purl) : ¬ Connects i :=
  fun ⟨_, hq⟩ => not_up_of_fails _ _ _ hf (connects_proxy hc hq).1

theorem connectOutcome_fails_iff (i : Inputs) :
    (connectOutcome i = .socketFail ∨ connectOutcome i = .otherFail) ↔ ¬ Connects i := by
  unfold connectOutcome Connects
  cases connectResult i with
  | sock q => cases i.selOk <;> simp
  | socketFail => simp
  | otherFail => simp

theorem connectOutcome_socketFail_iff (i : Inputs) :
    connectOutcome i = .socketFail ↔ connectResult i = .socketFail := by
  unfold connectOutcome
  cases connectResult i with
  | sock q => cases i.selOk <;> simp
  | socketFail => simp
  | otherFail => simp

theorem connectOutcome_sock {i : Inputs} {p : Bool} (h : connectOutcome i = .ok p ∨ connectOutcome i = .selFail p) :
    ∃ q, connectResult i = .sock q ∧ p = q.isSome := by
  unfold connectOutcome at h
  cases hr : connectResult i with
  | sock q =>
    refine ⟨q, rfl, ?_⟩
    rw [hr] at h
    cases hs : i.selOk <;> rw [hs] at h <;> rcases h with h | h <;> cases h <;> rfl
  | socketFail => rw [hr] at h; rcases h with h | h <;> cases h
  | otherFail => rw [hr] at h; rcases h with h | h <;> cases h

open Lomond.Proxy in
theorem connectLog_proxy (i : Inputs) (purl : Str) (hc : proxyChoice i.ws = some purl) :
    connectLog i = (connectProxy i.ws (proxyEnv i) purl).1 := by
  unfold connectLog; rw [hc]

theorem connectLog_head (i : Inputs) (y : Proxy.Io) (t : List Proxy.Io) (hlog : connectLog i = y :: t) :
    ∃ h p s, y = Proxy.Io.connectTo h p s := by
  cases hc : Proxy.proxyChoice i.ws with
  | none =>
    have : connectLog i = [.connectTo i.ws.target.host i.ws.target.port i.ws.target.secure] := by
      unfold connectLog; rw [hc]
    rw [this] at hlog; cases hlog; exact ⟨_, _, _, rfl⟩
  | some purl =>
    rw [connectLog_proxy i purl hc] at hlog
    rcases Proxy.connectProxy_log i.ws (proxyEnv i) purl with ⟨h, _⟩ | ⟨u, p, _, _, ⟨h, _⟩ | ⟨_, _, _, _, h, _⟩⟩ <;>
      rw [h] at hlog <;> cases hlog
    all_goals exact ⟨_, _, _, rfl⟩

open Lomond.Proxy in
theorem connectLog_nonempty (i : Inputs) (purl : Str) (hc : proxyChoice i.ws = some purl)
    (hurl : ∃ u p, parseUrl purl = some u ∧ u.port = some p) : (connectLog i).isEmpty = false := by
  rw [connectLog_proxy i purl hc]
  rcases connectProxy_log i.ws (proxyEnv i) purl with ⟨_, _, h⟩ | ⟨u, p, _, _, ⟨h, _⟩ | ⟨_, _, _, _, h, _⟩⟩
  · exact absurd hurl h
  all_goals rw [h]; rfl

inductive Tail (i : Inputs) (react : React) : List Obs → Prop
  /-- `_connect()` raises: `ConnectFail` -/
  | failed (c1 : List Obs) : (∀ o ∈ c1, isRes o = true) → ¬ Connects i →
      Tail i react (.ev (.connectFail "connect-failed") :: c1)
  /-- a socket, but the application called `close()` at `Connecting`: `session.write` refuses the request -/
  | refused (q : Option Str) (c1 : List Obs) : (∀ o ∈ c1, isRes o = true) → connectResult i = .sock q →
      react [.connecting] ≠ [] → Tail i react (.sockClose :: .ev (.connectFail "request-failed") :: c1)
  /-- a socket, the `sendall` of the upgrade request raises -/
  | writeFailed (q : Option Str) (c1 : List Obs) : (∀ o ∈ c1, isRes o = true) → connectResult i = .sock q →
      i.writeFails (sentBefore i) = true →
      Tail i react (.wrFail i.ws.request :: .sockClose :: .ev (.connectFail "request-failed") :: c1)
  /-- a socket, the upgrade request goes out: `Connected`, and the rest of the connection -/
  | connected (q : Option Str) (X : List Obs) : connectResult i = .sock q → i.writeFails (sentBefore i) = false →
      Tail i react (.wr i.ws.request :: .ev (.connected q.isSome) :: X)

theorem Tail.of_core {base : Cfg} {i : Inputs} {react : React} {T : List Obs}
    (h : CoreTail (coreCfg base i) 0 (react [.connecting] ≠ []) True T) : Tail i react T := by
  have hwf : (coreCfg base i).writeFails 0 = i.writeFails (sentBefore i) := by
    show i.writeFails (0 + sentBefore i) = _; rw [Nat.zero_add]
  cases h with
  | failed c1 n1 hc _ => exact .failed c1 n1 ((connectOutcome_fails_iff i).mp hc)
  | refused p c1 n1 hp hr _ => obtain ⟨q, hq, _⟩ := connectOutcome_sock hp; exact .refused q c1 n1 hq hr
  | writeFailed p c1 n1 hp hf _ => obtain ⟨q, hq, _⟩ := connectOutcome_sock hp; exact .writeFailed q c1 n1 hq (hwf ▸ hf)
  | connected p X hp hf => obtain ⟨q, hq, rfl⟩ := connectOutcome_sock hp; exact .connected q X hq (hwf ▸ hf)

/-- **The composed trace**: when the application stops at `Connecting`, `Connecting` and the results `c0` of what
    it called there; otherwise that, the connection phase, and the core model's continuation `T` -/
theorem composed_cut (base : Cfg) (i : Inputs) (react : React) (env : List EnvStep) :
    (StopsAtConnecting react ∧ ∃ c0, composed base i react env = (Obs.ev .connecting :: c0).map .core ∧
      ∀ o ∈ c0, isRes o = true) ∨
    (¬ StopsAtConnecting react ∧ ∃ c0 T, composed base i react env =
        (Obs.ev .connecting :: c0).map .core ++ phaseItems i ++ T.map .core ∧
      (∀ o ∈ c0, isRes o = true) ∧ Tail i react T) := by
  unfold composed
  simp only []
  rcases runAll_cut (coreCfg base i) react env with ⟨hs, ⟨x, s1, hy⟩, c0, n0, e⟩ | ⟨hs, s1, c0, T, hy, e1, n0, e, hT⟩
  · rw [show yieldEv .connecting { cfg := coreCfg base i, react := react, env := env } = .err x s1 from hy, e]
    exact .inl ⟨hs, c0, rfl, n0⟩
  · rw [show yieldEv .connecting { cfg := coreCfg base i, react := react, env := env } = .ok () s1 from hy, e]
    have hlen : s1.trace.length = (Obs.ev .connecting :: c0).length := by rw [← e1, List.length_reverse]
    simp only [hlen, List.take_left', List.drop_left']
    exact .inr ⟨hs, c0, T, rfl, n0, .of_core hT⟩

/-! ### projections of a composed trace

  Every projection the properties speak of (`ioLog`, `coreLog`, `sockLog`, `sends`, `view`, the events) keeps or
  drops each item by itself: it is a `filterMap`, so it distributes over the three parts of the cut, and of the
  connection phase it sees the Proxy model's log (`filterMap_phaseItems`). -/

def Item.io? : Item → Option Proxy.Io
  | .io x => some x
  | _ => none

def Item.core? : Item → Option Obs
  | .core o => some o
  | _ => none

def Item.sock? : Item → Option Connect.Call
  | .sock c => some c
  | _ => none

theorem ioLog_eq (l : List Item) : ioLog l = l.filterMap Item.io? := by
  induction l with
  | nil => rfl
  | cons x r ih => cases x <;> simp [ioLog, Item.io?, List.filterMap_cons, ih]

theorem coreLog_eq (l : List Item) : coreLog l = l.filterMap Item.core? := by
  induction l with
  | nil => rfl
  | cons x r ih => cases x <;> simp [coreLog, Item.core?, List.filterMap_cons, ih]

theorem sockLog_eq (l : List Item) : sockLog l = l.filterMap Item.sock? := by
  induction l with
  | nil => rfl
  | cons x r ih => cases x <;> simp [sockLog, Item.sock?, List.filterMap_cons, ih]

theorem sends_eq (l : List Item) : sends l = l.filterMap (Option.guard Item.isWrite) := by
  rw [List.filterMap_eq_filter]; rfl

variable {β : Type}

theorem ioLog_append (a b : List Item) : ioLog (a ++ b) = ioLog a ++ ioLog b := by
  simp only [ioLog_eq, List.filterMap_append]

theorem coreLog_append (a b : List Item) : coreLog (a ++ b) = coreLog a ++ coreLog b := by
  simp only [coreLog_eq, List.filterMap_append]

theorem sockLog_append (a b : List Item) : sockLog (a ++ b) = sockLog a ++ sockLog b := by
  simp only [sockLog_eq, List.filterMap_append]

theorem sends_append (a b : List Item) : sends (a ++ b) = sends a ++ sends b := List.filter_append ..

theorem ioLog_core (l : List Obs) : ioLog (l.map .core) = [] := by
  rw [ioLog_eq, List.filterMap_map]
  exact List.filterMap_eq_nil_iff.mpr fun _ _ => rfl

theorem closeItems_cases (i : Inputs) : closeItems i = [] ∨ ∃ k, closeItems i = [.sock (.close k)] := by
  unfold closeItems
  split
  · exact Or.inl rfl
  · split
    · exact Or.inr ⟨_, rfl⟩
    · exact Or.inl rfl
  · exact Or.inl rfl

theorem closeItems_sock (i : Inputs) : ∃ l : List Connect.Call, closeItems i = l.map .sock := by
  rcases closeItems_cases i with h | ⟨k, h⟩
  · exact ⟨[], h⟩
  · exact ⟨[.close k], h⟩

theorem filterMap_sock (f : Item → Option β) (hs : ∀ c, f (.sock c) = none) (l : List Connect.Call) :
    (l.map Item.sock).filterMap f = [] :=
  List.filterMap_eq_nil_iff.mpr fun z hz => by
    obtain ⟨c, _, rfl⟩ := List.mem_map.mp hz
    exact hs c

theorem filterMap_expand (f : Item → Option β) (hs : ∀ c, f (.sock c) = none) (i : Inputs) (l : List Proxy.Io) :
    (l.flatMap (expand i)).filterMap f = l.filterMap (f ∘ Item.io) := by
  induction l with
  | nil => rfl
  | cons x r ih =>
    rw [List.flatMap_cons, List.filterMap_append, ih, List.filterMap_cons]
    show _ = match f (.io x) with | none => _ | some b => _
    cases x <;> simp only [expand, List.filterMap_cons, List.filterMap_nil, filterMap_sock f hs] <;> cases f (.io _) <;> rfl

theorem filterMap_phaseItems (f : Item → Option β) (hs : ∀ c, f (.sock c) = none) (i : Inputs) :
    (phaseItems i).filterMap f = (connectLog i).filterMap (f ∘ Item.io) := by
  obtain ⟨l, hl⟩ := closeItems_sock i
  unfold phaseItems
  rw [List.filterMap_append, hl, filterMap_sock f hs, List.append_nil, filterMap_expand f hs]

theorem ioLog_phaseItems (i : Inputs) : ioLog (phaseItems i) = connectLog i := by
  rw [ioLog_eq, filterMap_phaseItems _ (fun _ => rfl)]
  exact List.filterMap_some

theorem phaseItems_core (i : Inputs) : (phaseItems i).filterMap Item.core? = [] := by
  rw [filterMap_phaseItems _ (fun _ => rfl)]; exact List.filterMap_eq_nil_iff.mpr fun _ _ => rfl

theorem core_not_mem_phaseItems (i : Inputs) (o : Obs) : Item.core o ∉ phaseItems i := by
  intro h
  have : o ∈ (phaseItems i).filterMap Item.core? := List.mem_filterMap.mpr ⟨_, h, rfl⟩
  rw [phaseItems_core] at this
  cases this

theorem filterMap_cut (f : Item → Option β) (hs : ∀ c, f (.sock c) = none)
    (hr : ∀ o, isRes o = true → f (.core o) = none) (i : Inputs) {c0 : List Obs}
    (n0 : ∀ o ∈ c0, isRes o = true) (T : List Obs) :
    ((Obs.ev .connecting :: c0).map Item.core ++ phaseItems i ++ T.map Item.core).filterMap f =
      (f (.core (.ev .connecting))).toList ++ (connectLog i).filterMap (f ∘ Item.io) ++ T.filterMap (f ∘ Item.core) := by
  have h0 : c0.filterMap (f ∘ Item.core) = [] :=
    List.filterMap_eq_nil_iff.mpr fun o ho => hr o (n0 o ho)
  rw [List.filterMap_append, List.filterMap_append, filterMap_phaseItems f hs, List.filterMap_map, List.filterMap_map,
    List.filterMap_cons, h0]
  show (match f (.core (.ev .connecting)) with | none => [] | some b => [b]) ++ _ ++ _ = _
  cases f (.core (.ev .connecting)) <;> rfl

theorem cut_head_none (k : Item → Bool) (hio : ∀ x, k (.io x) = false) (hs : ∀ c, k (.sock c) = false)
    (hr : ∀ o, isRes o = true → k (.core o) = false) (h0 : k (.core (.ev .connecting)) = false) (i : Inputs)
    {c0 : List Obs} (n0 : ∀ o ∈ c0, isRes o = true) :
    ∀ z ∈ (Obs.ev .connecting :: c0).map Item.core ++ phaseItems i, k z = false := by
  intro z hz
  rcases List.mem_append.mp hz with h | h
  · obtain ⟨o, ho, rfl⟩ := List.mem_map.mp h
    rcases List.mem_cons.mp ho with rfl | ho
    · exact h0
    · exact hr o (n0 o ho)
  · cases z with
    | core o => exact absurd h (core_not_mem_phaseItems i o)
    | io x => exact hio x
    | sock c => exact hs c

theorem isCoreWrite_of_res {o : Obs} (h : isRes o = true) : Item.isCoreWrite (.core o) = false := by
  cases o <;> first | rfl | cases h

theorem isCoreWrite_res {l : List Obs} (h : ∀ o ∈ l, isRes o = true) : ∀ x ∈ l.map Item.core, x.isCoreWrite = false := by
  intro x hx
  obtain ⟨o, ho, rfl⟩ := List.mem_map.mp hx
  exact isCoreWrite_of_res (h o ho)

theorem noCW_connecting {c0 : List Obs} (n0 : ∀ o ∈ c0, isRes o = true) :
    ∀ z ∈ (Obs.ev .connecting :: c0).map Item.core, z.isCoreWrite = false := by
  intro z hz
  rw [List.map_cons] at hz
  rcases List.mem_cons.mp hz with rfl | hz
  · rfl
  · exact isCoreWrite_res n0 z hz

theorem noCW_head (i : Inputs) {c0 : List Obs} (n0 : ∀ o ∈ c0, isRes o = true) :
    ∀ z ∈ (Obs.ev .connecting :: c0).map Item.core ++ phaseItems i, z.isCoreWrite = false :=
  cut_head_none Item.isCoreWrite (fun _ => rfl) (fun _ => rfl) (fun _ => isCoreWrite_of_res) rfl i n0

theorem sends_connecting {c0 : List Obs} (n0 : ∀ o ∈ c0, isRes o = true) :
    sends ((Obs.ev .connecting :: c0).map Item.core) = [] :=
  List.filter_eq_nil_iff.mpr fun z hz hw => by
    obtain ⟨o, _, rfl⟩ := List.mem_map.mp hz
    have := noCW_connecting n0 _ hz
    rw [show Item.isCoreWrite (.core o) = Item.isWrite (.core o) from rfl, hw] at this
    cases this

theorem event?_sockClose : Obs.event? .sockClose = none := rfl

theorem event?_wr (d : Bytes) : Obs.event? (.wr d) = none := rfl
theorem event?_wrFail (d : Bytes) : Obs.event? (.wrFail d) = none := rfl
theorem event?_ev (e : Event) : Obs.event? (.ev e) = some e := rfl

theorem events_res {l : List Obs} (h : ∀ o ∈ l, isRes o = true) : l.filterMap Obs.event? = [] :=
  List.filterMap_eq_nil_iff.mpr fun o ho => by
    have hr := h o ho
    cases o <;> first | rfl | cases hr

/-- the events of a composed trace, oldest first -/
def evs (l : List Item) : List Event := (coreLog l).filterMap Obs.event?

theorem coreLog_composed (base : Cfg) (i : Inputs) (react : React) (env : List EnvStep) :
    coreLog (composed base i react env) = (runAll (coreCfg base i) react env).trace.reverse := by
  have hc : ∀ l : List Obs, (l.map Item.core).filterMap Item.core? = l := fun l => by
    rw [List.filterMap_map]; exact List.filterMap_some
  unfold composed
  simp only []
  rw [coreLog_eq]
  split
  · exact hc _
  · rw [List.filterMap_append, List.filterMap_append, hc, hc, phaseItems_core, List.append_nil, List.take_append_drop]

theorem evs_composed (base : Cfg) (i : Inputs) (react : React) (env : List EnvStep) :
    evs (composed base i react env) = events (runAll (coreCfg base i) react env).trace := by
  unfold evs events; rw [coreLog_composed]


theorem ioLog_cut (i : Inputs) (c0 T : List Obs) :
    ioLog ((Obs.ev .connecting :: c0).map .core ++ phaseItems i ++ T.map .core) = connectLog i := by
  rw [ioLog_append, ioLog_append, ioLog_core, ioLog_core, ioLog_phaseItems, List.nil_append, List.append_nil]

theorem evs_cut (i : Inputs) {c0 : List Obs} (n0 : ∀ o ∈ c0, isRes o = true) (T : List Obs) :
    evs ((Obs.ev .connecting :: c0).map .core ++ phaseItems i ++ T.map .core) =
      .connecting :: T.filterMap Obs.event? := by
  have h0 : (connectLog i).filterMap ((fun x => x.core?.bind Obs.event?) ∘ Item.io) = [] :=
    List.filterMap_eq_nil_iff.mpr fun _ _ => rfl
  unfold evs
  rw [coreLog_eq, List.filterMap_filterMap,
    filterMap_cut _ (fun _ => rfl) (fun o h => by cases o <;> first | rfl | cases h) i n0, h0]
  rfl

theorem sends_cut (i : Inputs) {c0 : List Obs} (n0 : ∀ o ∈ c0, isRes o = true) (T : List Obs) :
    sends ((Obs.ev .connecting :: c0).map .core ++ phaseItems i ++ T.map .core) =
      (Proxy.writes (connectLog i)).map Item.io ++ sends (T.map .core) := by
  have hio : (connectLog i).filterMap (Option.guard Item.isWrite ∘ Item.io) = (Proxy.writes (connectLog i)).map Item.io := by
    unfold Proxy.writes
    induction connectLog i with
    | nil => rfl
    | cons x r ih => cases x <;> simp [List.filter_cons, Option.guard, Item.isWrite, Proxy.Io.isWrite, ih]
  rw [sends_eq, sends_eq, filterMap_cut _ (fun _ => rfl) (fun o h => by cases o <;> first | rfl | cases h) i n0, hio,
    List.filterMap_map]
  rfl

theorem mem_evs {e : Event} {l : List Item} (h : Item.core (.ev e) ∈ l) : e ∈ evs l := by
  unfold evs
  rw [coreLog_eq]
  exact List.mem_filterMap.mpr ⟨.ev e, List.mem_filterMap.mpr ⟨_, h, rfl⟩, rfl⟩

theorem sockLog_cut (A T : List Obs) (P : List Item) :
    sockLog (A.map Item.core ++ P ++ T.map Item.core) = sockLog P := by
  have h0 : ∀ l : List Obs, (l.map Item.core).filterMap Item.sock? = [] := fun l => by
    rw [List.filterMap_map]; exact List.filterMap_eq_nil_iff.mpr fun _ _ => rfl
  rw [sockLog_eq, sockLog_eq, List.filterMap_append, List.filterMap_append, h0, h0, List.nil_append, List.append_nil]

theorem Tail.events {i : Inputs} {react : React} {T : List Obs} (h : Tail i react T) :
    (¬ Connects i ∧ T.filterMap Obs.event? = [.connectFail "connect-failed"]) ∨
    ∃ q, connectResult i = .sock q ∧
      ((T.filterMap Obs.event? = [.connectFail "request-failed"] ∧
          (react [.connecting] ≠ [] ∨ i.writeFails (sentBefore i) = true)) ∨
       (i.writeFails (sentBefore i) = false ∧ ∃ E, T.filterMap Obs.event? = .connected q.isSome :: E)) := by
  cases h with
  | failed c1 n1 hc => exact .inl ⟨hc, by simp [event?_ev, events_res n1]⟩
  | refused q c1 n1 hq hr =>
    exact .inr ⟨q, hq, .inl ⟨by simp [List.filterMap_cons, event?_ev, event?_sockClose, events_res n1], .inl hr⟩⟩
  | writeFailed q c1 n1 hq hf =>
    exact .inr ⟨q, hq, .inl ⟨by simp [List.filterMap_cons, event?_ev, event?_sockClose, event?_wrFail, events_res n1], .inr hf⟩⟩
  | connected q X hq hf =>
    exact .inr ⟨q, hq, .inr ⟨hf, X.filterMap Obs.event?, by simp [List.filterMap_cons, event?_ev, event?_wr]⟩⟩


theorem Tail.of_not_connects {i : Inputs} {react : React} {T : List Obs} (h : Tail i react T) (hn : ¬ Connects i) :
    ∃ c1, T = .ev (.connectFail "connect-failed") :: c1 ∧ ∀ o ∈ c1, isRes o = true := by
  cases h with
  | failed c1 n1 _ => exact ⟨c1, rfl, n1⟩
  | refused q _ _ hq _ => exact absurd ⟨q, hq⟩ hn
  | writeFailed q _ _ hq _ => exact absurd ⟨q, hq⟩ hn
  | connected q _ hq _ => exact absurd ⟨q, hq⟩ hn

theorem Tail.connects_of_write {i : Inputs} {react : React} {T : List Obs} (h : Tail i react T)
    {o : Obs} (ho : o ∈ T) (hw : isCoreWrite o = true) : Connects i := by
  cases h with
  | failed c1 n1 _ =>
    rcases List.mem_cons.mp ho with rfl | ho
    · cases hw
    · exact nomatch (isCoreWrite_of_res (n1 o ho)).symm.trans hw
  | refused q _ _ hq _ => exact ⟨q, hq⟩
  | writeFailed q _ _ hq _ => exact ⟨q, hq⟩
  | connected q _ hq _ => exact ⟨q, hq⟩

theorem Tail.coreSends {i : Inputs} {react : React} {T : List Obs} (h : Tail i react T) :
    sends (T.map .core) = [] ∨
    ∃ q, connectResult i = .sock q ∧
      (sends (T.map .core) = [.core (.wrFail i.ws.request)] ∨
       ∃ X : List Obs, sends (T.map .core) = .core (.wr i.ws.request) :: sends (X.map .core)) := by
  have hnone : ∀ {l : List Obs}, (∀ o ∈ l, isCoreWrite o = false) → sends (l.map .core) = [] := fun hl =>
    List.filter_eq_nil_iff.mpr fun z hz => by
      obtain ⟨o, ho, rfl⟩ := List.mem_map.mp hz
      show ¬ isCoreWrite o = true
      rw [hl o ho]; exact Bool.false_ne_true
  have hres : ∀ {l : List Obs}, (∀ o ∈ l, isRes o = true) → ∀ o ∈ l, isCoreWrite o = false := fun hl o ho =>
    isCoreWrite_of_res (hl o ho)
  cases h with
  | failed c1 n1 _ => exact .inl (hnone (List.forall_mem_cons.mpr ⟨rfl, hres n1⟩))
  | refused q c1 n1 _ _ =>
    exact .inl (hnone (List.forall_mem_cons.mpr ⟨rfl, List.forall_mem_cons.mpr ⟨rfl, hres n1⟩⟩))
  | writeFailed q c1 n1 hq _ =>
    refine .inr ⟨q, hq, .inl ?_⟩
    show (Item.core (.wrFail i.ws.request) :: _).filter _ = _
    rw [List.filter_cons_of_pos rfl]
    exact congrArg _ (hnone (l := .sockClose :: .ev (.connectFail "request-failed") :: c1)
      (List.forall_mem_cons.mpr ⟨rfl, List.forall_mem_cons.mpr ⟨rfl, hres n1⟩⟩))
  | connected q X hq _ => exact .inr ⟨q, hq, .inr ⟨X, rfl⟩⟩

theorem evs_composed_cases (base : Cfg) (i : Inputs) (react : React) (env : List EnvStep) :
    (StopsAtConnecting react ∧ evs (composed base i react env) = [.connecting]) ∨
    (¬ StopsAtConnecting react ∧ ¬ Connects i ∧
      evs (composed base i react env) = [.connecting, .connectFail "connect-failed"]) ∨
    (¬ StopsAtConnecting react ∧ ∃ q, connectResult i = .sock q ∧
      ((evs (composed base i react env) = [.connecting, .connectFail "request-failed"] ∧
          (react [.connecting] ≠ [] ∨ i.writeFails (sentBefore i) = true)) ∨
       (i.writeFails (sentBefore i) = false ∧
          ∃ E, evs (composed base i react env) = .connecting :: .connected q.isSome :: E))) := by
  rcases composed_cut base i react env with ⟨hs, c0, e, n0⟩ | ⟨hs, c0, T, e, n0, hT⟩
  · refine .inl ⟨hs, ?_⟩
    rw [e]; unfold evs
    rw [coreLog_eq, List.filterMap_map]
    show ((Obs.ev .connecting :: c0).filterMap some).filterMap Obs.event? = _
    rw [List.filterMap_some, List.filterMap_cons, event?_ev, events_res n0]
  · rw [e, evs_cut i n0]
    rcases hT.events with ⟨hc, h⟩ | ⟨q, hq, ⟨h, hw⟩ | ⟨hw, E, h⟩⟩
    · exact .inr (.inl ⟨hs, hc, by rw [h]⟩)
    · exact .inr (.inr ⟨hs, q, hq, .inl ⟨by rw [h], hw⟩⟩)
    · exact .inr (.inr ⟨hs, q, hq, .inr ⟨hw, E, by rw [h]⟩⟩)

theorem prefix_of_split {α : Type} (p : α → Bool) : ∀ {a pre : List α} {post b : List α} {x : α},
    pre ++ x :: post = a ++ b → p x = true → (∀ z ∈ a, p z = false) → ∃ r, pre = a ++ r ∧ r ++ x :: post = b
  | [], pre, post, b, x, h, _, _ => ⟨pre, rfl, h⟩
  | y :: a, [], post, b, x, h, hx, ha => by
    simp only [List.nil_append, List.cons_append, List.cons.injEq] at h
    have := ha y List.mem_cons_self
    rw [← h.1, hx] at this; cases this
  | y :: a, z :: pre, post, b, x, h, hx, ha => by
    simp only [List.cons_append, List.cons.injEq] at h
    obtain ⟨r, h1, h2⟩ := prefix_of_split p h.2 hx (fun w hw => ha w (List.mem_cons_of_mem _ hw))
    exact ⟨r, by rw [h.1, h1]; rfl, h2⟩

open Lomond.Proxy in
theorem proxy_run_eq (i : Inputs) : Proxy.run i.ws (proxyEnv i) = .ev .connecting :: (connectLog i ++
    match connectResult i with
    | .sock _ => sendRequest i.ws (proxyEnv i) (viaTls i) (sentBefore i) (proxyChoice i.ws)
    | _ => [.ev (.connectFail (failKind i))]) := by
  cases hc : proxyChoice i.ws with
  | none =>
    unfold Proxy.run connectLog connectResult failKind viaTls sentBefore
    rw [hc]
    cases hs : sockOk i <;> simp [proxyEnv, hs]
  | some purl =>
    rw [run_proxy _ hc, connectLog_proxy i purl hc]
    unfold connectResult failKind viaTls sentBefore
    rw [hc]
    simp only [Option.isSome_some, Bool.true_and, if_true]
    rcases connectProxy_cases i.ws (proxyEnv i) purl with ⟨_, _, _, _, _, _, _, h⟩ | ⟨_, k, hk, _⟩
    · rw [h]; rfl
    · rw [hk]; cases k <;> rfl

theorem view_cut (i : Inputs) {c0 : List Obs} (n0 : ∀ o ∈ c0, isRes o = true) (T : List Obs) :
    ((Obs.ev .connecting :: c0).map Item.core ++ phaseItems i ++ T.map Item.core).filterMap (view i) =
      .ev .connecting :: (connectLog i ++ T.filterMap (viewCore i)) := by
  rw [filterMap_cut (view i) (fun _ => rfl) (fun o h => by cases o <;> first | rfl | cases h) i n0]
  show [_] ++ (connectLog i).filterMap some ++ _ = _
  rw [List.filterMap_some]; rfl

open Lomond.Proxy in
/-- **The Proxy model's log is the beginning of the composed trace, seen through `view`**, for an
    application that does nothing at `Connecting` -/
theorem run_prefix_view (base : Core.Cfg) (i : Inputs) (react : React) (env : List EnvStep)
    (hre : react [.connecting] = []) :
    Proxy.run i.ws (proxyEnv i) <+: (composed base i react env).filterMap (view i) := by
  have hres : ∀ {l : List Obs}, (∀ o ∈ l, isRes o = true) → l.filterMap (viewCore i) = [] := fun hl =>
    List.filterMap_eq_nil_iff.mpr fun o ho => by
      have := hl o ho
      cases o <;> first | rfl | cases this
  have hsr : (proxyEnv i).writeFails (sentBefore i) = i.writeFails (sentBefore i) := rfl
  rw [proxy_run_eq]
  rcases composed_cut base i react env with ⟨⟨w, hw⟩, _⟩ | ⟨_, c0, T, e, n0, hT⟩
  · rw [hre] at hw; cases hw
  rw [e, view_cut i n0]
  cases hT with
  | failed c1 n1 hc =>
    have : ∀ r, connectResult i = r → (∀ q, r ≠ .sock q) → (match r with
        | .sock _ => sendRequest i.ws (proxyEnv i) (viaTls i) (sentBefore i) (proxyChoice i.ws)
        | _ => [.ev (.connectFail (failKind i))]) = [.ev (.connectFail (failKind i))] := by
      intro r _ hr; cases r <;> first | rfl | exact absurd rfl (hr _)
    rw [this _ rfl fun q hq => hc ⟨q, hq⟩, List.filterMap_cons, hres n1]
    simp [viewCore]
  | refused q c1 n1 hq hr => exact absurd hre hr
  | writeFailed q c1 n1 hq hf =>
    rw [hq]
    simp [sendRequest, hsr, hf, List.filterMap_cons, viewCore, hres n1]
  | connected q X hq hf =>
    rw [hq]
    simp only [sendRequest, hsr, hf, List.filterMap_cons, viewCore, connectResult_sock_eq i q hq]
    exact ⟨X.filterMap (viewCore i), by simp⟩

/-! ### `Connected` is yielded at most once -/

theorem no_connected_later : ∀ (l : List Event) (ph0 ph : Phase), 2 ≤ ph0.rank →
    Mon.run ph0 l = some ph → ∀ p, Event.connected p ∉ l
  | [], _, _, _, _, p => by simp
  | e :: r, ph0, ph, h0, h, p => by
    simp only [Mon.run] at h
    cases hs : Mon.step ph0 e with
    | none => rw [hs] at h; cases h
    | some q =>
      rw [hs] at h
      simp only [Option.bind_some] at h
      intro hm
      rcases List.mem_cons.mp hm with he | hr
      · subst he
        cases ph0 <;> simp [Mon.step] at hs
        exact absurd h0 (by decide)
      · exact no_connected_later r q ph (Nat.le_trans h0 (Mon.step_mono hs)) h p hr

/-- `ConnectFail("connect-failed")` is among the events of a connection exactly when `_connect()` was
    called and raised; the events are then `Connecting, ConnectFail` -/
theorem connectFailed_iff (base : Cfg) (i : Inputs) (react : React) (env : List EnvStep) :
    (Event.connectFail "connect-failed" ∈ evs (composed base i react env) ↔
      (¬ Connects i ∧ ¬ StopsAtConnecting react)) ∧
    (Event.connectFail "connect-failed" ∈ evs (composed base i react env) →
      evs (composed base i react env) = [.connecting, .connectFail "connect-failed"]) := by
  rcases evs_composed_cases base i react env with ⟨hs, e⟩ | ⟨hs, hnc, e⟩ | ⟨hs, q, hq, ⟨e, _⟩ | ⟨_, E, e⟩⟩
  · rw [e]; exact ⟨⟨fun h => by simp at h, fun h => absurd hs h.2⟩, fun h => by simp at h⟩
  · rw [e]; exact ⟨⟨fun _ => ⟨hnc, hs⟩, fun _ => by simp⟩, fun _ => rfl⟩
  · rw [e]; exact ⟨⟨fun h => by simp at h, fun h => absurd ⟨q, hq⟩ h.1⟩, fun h => by simp at h⟩
  · -- after `Connected` the monitor accepts no `ConnectFail`
    have hno : Event.connectFail "connect-failed" ∉ evs (composed base i react env) := by
      intro h
      obtain ⟨a, b, hab⟩ := List.append_of_mem h
      obtain ⟨ph, hph⟩ := runAll_accepted (coreCfg base i) react env
      rw [← evs_composed, hab] at hph
      have ha := (Mon.connectFail_position hph).1
      rw [hab, ha] at e
      cases e
    exact ⟨⟨fun h => absurd h hno, fun h => absurd ⟨q, hq⟩ h.1⟩, fun h => absurd h hno⟩

def isCF : Item → Bool
  | .core (.ev (.connectFail _)) => true
  | _ => false

theorem phaseItems_direct (i : Inputs) (hc : Proxy.proxyChoice i.ws = none) :
    phaseItems i = .io (.connectTo i.ws.target.host i.ws.target.port i.ws.target.secure) ::
      (Connect.connectSock i.gai).2.map .sock := by
  have hcl : closeItems i = [] := by
    unfold closeItems
    rw [connectResult_direct i hc]
    cases hs : sockOk i with
    | true => rfl
    | false => rw [(sockOk_false_iff i).mp hs]; rfl
  unfold phaseItems connectLog
  rw [hc, hcl]
  simp [expand]

theorem closeItems_connects (i : Inputs) (h : Connects i) : closeItems i = [] := by
  obtain ⟨q, hq⟩ := h
  unfold closeItems; rw [hq]

theorem closeItems_fail (i : Inputs) (hn : ¬ Connects i) (k : Nat) (hk : (Connect.connectSock i.gai).1 = .sock k) :
    closeItems i = if i.pclose && !(connectLog i).isEmpty then [.sock (.close k)] else [] := by
  unfold closeItems
  rw [hk]
  cases h : connectResult i with
  | sock q => exact absurd ⟨q, h⟩ hn
  | socketFail => rfl
  | otherFail => rfl

theorem closeItems_nosock (i : Inputs) (hf : (Connect.connectSock i.gai).1 = .fail) : closeItems i = [] := by
  unfold closeItems
  rw [hf]
  cases connectResult i <;> rfl

theorem sock_mem_flatMap_expand (i : Inputs) (c : Connect.Call) (l : List Proxy.Io)
    (h : Item.sock c ∈ l.flatMap (expand i)) : c ∈ (Connect.connectSock i.gai).2 := by
  obtain ⟨y, _, hm⟩ := List.mem_flatMap.mp h
  cases y <;> simp [expand] at hm
  exact hm

theorem mem_phaseItems_sock (i : Inputs) (c : Connect.Call) (h : Item.sock c ∈ phaseItems i) :
    (c ∈ (Connect.connectSock i.gai).2 ∧ (connectLog i).isEmpty = false) ∨ Item.sock c ∈ closeItems i := by
  unfold phaseItems at h
  rcases List.mem_append.mp h with h | h
  · left
    refine ⟨sock_mem_flatMap_expand i c _ h, by cases hl : connectLog i with
      | nil => rw [hl] at h; cases h
      | cons _ _ => rfl⟩
  · exact Or.inr h

theorem calls_in_phaseItems (i : Inputs) (c : Connect.Call) (hc : c ∈ (Connect.connectSock i.gai).2)
    (hne : (connectLog i).isEmpty = false) : Item.sock c ∈ phaseItems i := by
  unfold phaseItems
  refine List.mem_append_left _ ?_
  cases hlog : connectLog i with
  | nil => rw [hlog] at hne; cases hne
  | cons y t =>
    obtain ⟨h0, p0, s0, rfl⟩ := connectLog_head i y t hlog
    rw [List.flatMap_cons]
    refine List.mem_append_left _ ?_
    simp only [expand, List.mem_cons, reduceCtorEq, false_or]
    exact List.mem_map_of_mem hc

end Lomond.ConnectLink
