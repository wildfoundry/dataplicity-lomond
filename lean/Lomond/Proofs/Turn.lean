/-
  The turns of a connection: what the model does, as a relation between system states.

  `Turn L s s'` is one step during which no invariant that ties the trace to the state is broken:
  bookkeeping, the clock, the marks of the timers, the hand-over of an event together with what
  `_on_event` does for it, an application call together with its result token (`Called`), the
  library's own Ping and `close()`, the socket and selector being closed, the flag updates of
  `on_disconnect` / `_on_close`.  Each constructor carries the guard under which the model takes the
  step and names the state it leads to.  `L`: the library may send frames of its own, which it does
  only once there is a socket; nothing in a state says so, hence the index.

  `runAll_turns`: a whole connection is a sequence of turns (`Reach`) around at most one `Connect`
  (`Connection`).  So an invariant of states is proved for every connection by cases on `Turn`
  (`Connection.keeps`); a preorder that contains the turns is kept by every function of the model
  up to `run` (`Yields.ofTurn`, then the lift of Proofs/Turns.lean); a coarser list of steps is a
  view of this one (`Turn.moves`, Proofs/SendMoves.lean).

  What this gives is safety over all scripts and applications, not the computation of one run.  A
  turn says which kind of step was taken and under which guard, not which one: `Called.close`
  carries any payload the guard admits, `Turn.ev` any event `_on_event` leaves the state alone for
  (a Ping with automatic pongs off is one, also under `Turn False`), and `Connect` is the write of
  the request with any result, a refused one included.  An invariant that needs the exact frame a
  step sent, or counts them along a run (`Sh` of Proofs/ClosingRun.lean, `J` of Proofs/PongRun.lean),
  is not an instance: it is proved along `run()` itself.
-/
import Lomond.Proofs.Turns
import Lomond.Proofs.FrameCodec
import Lomond.Model.ZFrame
namespace Lomond.Core
open Lomond Lomond.Core.Pong Lomond.ZFrame

namespace KS

/-- payloads a Python object can have -/
def actSmall : Act → Prop
  | .sendText (.str cps) _ => (Utf8.encode cps).length < 2 ^ 63
  | .sendBinary (.bytes b) _ => b.length < 2 ^ 63
  | _ => True

/-- the application never passes a payload of 2^63 bytes or more -/
def Small (react : React) : Prop := ∀ hist, ∀ a ∈ react hist, actSmall a

/-- a data call of an application that passes possible payloads: opcode 1 or 2, payload small -/
theorem small_of_data {a : Act} {op : Nat} {pl : Bytes} {c : Bool} (ha : actSmall a)
    (h : (op = Gen.opText ∧ ∃ cps, a = .sendText (.str cps) c ∧ pl = Utf8.encode cps) ∨
      (op = Gen.opBinary ∧ a = .sendBinary (.bytes pl) c)) : (op = 1 ∨ op = 2) ∧ pl.length < 2 ^ 63 := by
  rcases h with ⟨rfl, cps, rfl, rfl⟩ | ⟨rfl, rfl⟩
  · exact ⟨.inl rfl, ha⟩
  · exact ⟨.inr rfl, ha⟩

end KS
open KS

/-- one call of the application, with the result token the harness records for it -/
inductive Called : Sys → Sys → Prop
  /-- a call that sends nothing: an argument error, `close()` refused or repeated -/
  | res (s : Sys) (r : ActRes) : isRefusal (.res r) = false → Called s (resState s r)
  /-- `send_text` / `send_binary` (compressed only if the extension was negotiated) / `send_ping` / `send_pong` -/
  | send {s s1 : Sys} {op : Nat} {pl : Bytes} {c : Option Bytes} {r : ActRes} : sendFrame op pl c s = .ok r s1 →
      op = 1 ∨ op = 2 ∨ ((op = 9 ∨ op = 10) ∧ c = none ∧ pl.length ≤ 125) →
      (Small s.react → c = none → pl.length < 2 ^ 63) → (c ≠ none → s.compression.isSome = true) →
      Called s (resState s1 r)
  /-- `close()` that gets as far as `session.send` -/
  | close {s s1 : Sys} {pl : Bytes} {r : ActRes} : s.closed = false → s.closing = false →
      sendFrame Gen.opClose pl none s = .ok r s1 → (s.cfg.v.closeArgs = true → pl.length ≤ 125) →
      Called s (resState (markClosing s1) .ok)
  | sessionClose (s : Sys) : Called s (resState (sockClosed s) .ok)

inductive Turn (L : Prop) : Sys → Sys → Prop
  | silent {s s' : Sys} : Silent s s' → Turn L s s'
  | tick (s : Sys) (dt : Nat) : Turn L s (tick s dt)
  /-- the marks of the Poll and Ping timers -/
  | polled (s : Sys) : Turn L s { s with pollStart := some (sessionTime s) }
  | pinged (s : Sys) : s.cfg.pingRate ≠ 0 → sessionTime s > s.nextPing →
      Turn L s { s with nextPing := ceilDiv (sessionTime s) s.cfg.pingRate * s.cfg.pingRate }
  /-- an event `_on_event` has nothing to do for is handed over -/
  | ev {s : Sys} (e : Event) : onEvent e s = .ok () s → Turn L s (pushEv e s)
  | ready (s : Sys) (p : Option Http.Str) (d : Bool) :
      Turn L s (pushEv (.ready p d) { s with lastPong := 0, nextPing := 0, startTime := some s.now, ready := true })
  | pong (s : Sys) (d : Bytes) : Turn L s (pushEv (.pong d) { s with lastPong := sessionTime s })
  /-- the Pong that answers a Ping, then the Ping is handed over -/
  | autoPong {s s1 : Sys} {r : ActRes} (d : Bytes) : L → s.cfg.autoPong = true → d.length ≤ 125 →
      sendFrame Gen.opPong d none s = .ok r s1 → Turn L s (pushEv (.ping d) s1)
  | autoPing {s s1 : Sys} {r : ActRes} : L → sendFrame Gen.opPing [] none s = .ok r s1 → Turn L s s1
  | called {s s' : Sys} : Called s s' → Turn L s s'
  /-- the application stops iterating -/
  | abandon (s : Sys) (w : Bool) : Turn L s { s with abandonedWith := w }
  /-- the library's `close()`: the echo of the server's Close, the Close after a protocol error -/
  | libClose {s s1 : Sys} {pl : Bytes} {r : ActRes} : L → s.closed = false → s.closing = false →
      sendFrame Gen.opClose pl none s = .ok r s1 → (s.cfg.v.closeArgs = true → pl.length ≤ 125) →
      Turn L s (markClosing s1)
  | sockClosed {s : Sys} : s.sockOpen = true → Turn L s (sockClosed s)
  | closedSet {s : Sys} : s.sockOpen = false ∨ Shut s → Turn L s { s with closing := false, closed := true }
  | closeAcked {s : Sys} : Shut s → Turn L s { s with closing := true }
  | selClosed {s : Sys} : s.selOpen = true → Turn L s { s with selOpen := false, trace := .selClose :: s.trace }
  | incomplete (s : Sys) : Turn L s { s with trace := .incomplete :: s.trace }

inductive Reach (L : Prop) : Sys → Sys → Prop
  | refl (s : Sys) : Reach L s s
  | tail {s s1 s2 : Sys} : Reach L s s1 → Turn L s1 s2 → Reach L s s2

variable {L : Prop}

theorem Turn.one {s s' : Sys} (h : Turn L s s') : Reach L s s' := .tail (.refl s) h

theorem Reach.trans {a b c : Sys} (h1 : Reach L a b) (h2 : Reach L b c) : Reach L a c := by
  induction h2 with
  | refl => exact h1
  | tail _ m ih => exact .tail ih m

theorem reach_po : PO (Reach L) := ⟨Reach.refl, Reach.trans⟩

theorem Reach.sub {R : Sys → Sys → Prop} (po : PO R) (h : ∀ {s s'}, Turn L s s' → R s s') {s s' : Sys}
    (r : Reach L s s') : R s s' := by
  induction r with
  | refl => exact po.refl _
  | tail _ m ih => exact po.trans ih (h m)

theorem Reach.keeps {I : Sys → Prop} (step : ∀ {s s'}, I s → Turn L s s' → I s') {s s' : Sys} (h : Reach L s s')
    (h0 : I s) : I s' := by
  induction h with
  | refl => exact h0
  | tail _ m ih => exact step ih m

theorem Called.same {s s' : Sys} (h : Called s s') : Monitor.Same s s' := by
  have sent {op : Nat} {pl : Bytes} {c : Option Bytes} {r : ActRes} {s1 : Sys} (h : sendFrame op pl c s = .ok r s1) :
      Monitor.Same s s1 := ⟨((step_sendFrame _ _ _).ok h).cfg, ((step_sendFrame _ _ _).ok h).react⟩
  cases h with
  | res => exact ⟨rfl, rfl⟩
  | send h => exact ⟨(sent h).1, (sent h).2⟩
  | close _ _ h => exact ⟨(sent h).1, (sent h).2⟩
  | sessionClose => rcases sockClosed_cases s with ⟨_, e⟩ | ⟨_, e⟩ <;> rw [e] <;> exact ⟨rfl, rfl⟩

theorem Turn.same {s s' : Sys} (h : Turn L s s') : Monitor.Same s s' := by
  have sent {op : Nat} {pl : Bytes} {c : Option Bytes} {r : ActRes} {s1 : Sys} (h : sendFrame op pl c s = .ok r s1) :
      Monitor.Same s s1 := ⟨((step_sendFrame _ _ _).ok h).cfg, ((step_sendFrame _ _ _).ok h).react⟩
  cases h with
  | silent h => exact ⟨h.cfg, h.react⟩
  | autoPong _ _ _ _ h => exact ⟨(sent h).1, (sent h).2⟩
  | autoPing _ h => exact sent h
  | called h => exact h.same
  | libClose _ _ _ h => exact ⟨(sent h).1, (sent h).2⟩
  | sockClosed => unfold Core.sockClosed; split <;> exact ⟨rfl, rfl⟩
  | _ => exact ⟨rfl, rfl⟩

theorem doAct_called (a : Act) (s : Sys) (ha : Small s.react → actSmall a) :
    (∃ s', doAct a s = .ok () s' ∧ Called s s') ∨
    ∃ w, a = .abandon w ∧ doAct a s = .err .genExit { s with abandonedWith := w } := by
  have frame (op : Nat) (pl : Bytes) (c : Option Bytes)
      (hop : op = 1 ∨ op = 2 ∨ ((op = 9 ∨ op = 10) ∧ c = none ∧ pl.length ≤ 125))
      (hs : Small s.react → c = none → pl.length < 2 ^ 63) (hz : c ≠ none → s.compression.isSome = true) :
      ∃ r s', sendFrame op pl c s = .ok r s' ∧ Called s (resState s' r) := by
    obtain ⟨r, s', h, -⟩ := sendFrame_out op pl c s
    exact ⟨r, s', h, .send h hop hs hz⟩
  rcases doAct_elim (P := fun m => ∃ r s', m s = .ok r s' ∧ Called s (resState s' r)) a
    (fun r hr => ⟨r, s, rfl, .res s r (by rcases hr with rfl | rfl <;> rfl)⟩)
    (fun op pl c h => by
      have hop : op = 1 ∨ op = 2 := h.elim (fun h => .inl h.1) (fun h => .inr h.1)
      unfold sendData
      split
      · rename_i hc
        exact frame op [] (some pl) (by omega) (fun _ h => nomatch h) (fun _ => hc.2)
      · exact frame op pl none (by omega) (fun hsm _ => (small_of_data (ha hsm) h).2) (fun h => (h rfl).elim))
    (fun op pl hop hl => frame op pl none
      (.inr (.inr ⟨by simp only [Gen.opPing, Gen.opPong] at hop; exact hop, rfl, hl⟩)) (fun _ _ => by omega)
      (fun h => (h rfl).elim))
    (fun c r _ => by
      rcases wsClose_by_cases c r s with ⟨r, e, hr⟩ | ⟨rb, r, s', hcd, hcg, -, -, hlen, hsf, e⟩
      · exact ⟨r, s, e, .res s r (by rcases hr with rfl | rfl | rfl | rfl <;> rfl)⟩
      · exact ⟨_, _, e, .close hcd hcg hsf hlen⟩)
    (fun _ => ⟨.ok, sockClosed s, by rw [bind_ok (closeSocket_eq s)]; rfl, .sessionClose s⟩)
    with ⟨w, rfl⟩ | ⟨m, e, r, s', hm, ht⟩
  · exact .inr ⟨w, rfl, rfl⟩
  · exact .inl ⟨resState s' r, by rw [e, logRes_ok_wire hm], ht⟩

theorem turn_doAct (a : Act) (s : Sys) (ha : Small s.react → actSmall a) : Turn L s (doAct a s).state := by
  rcases doAct_called a s ha with ⟨s', e, h⟩ | ⟨w, -, e⟩ <;> rw [e]
  · exact .called h
  · exact .abandon s w

/-- the actions come from the application of the state in which the event was handed over; no
    turn changes the application, so `Small` reaches every one of them -/
theorem reach_doActs (as : List Act) (s : Sys) (h : Small s.react → ∀ a ∈ as, actSmall a) :
    Reach L s (doActs as s).state := by
  induction as generalizing s with
  | nil => exact .refl s
  | cons a r ih =>
    have h1 := turn_doAct (L := L) a s (fun hsm => h hsm a List.mem_cons_self)
    unfold doActs
    cases hd : doAct a s with
    | err x s1 => rw [bind_err hd]; rw [hd] at h1; exact h1.one
    | ok u s1 =>
      rw [bind_ok hd]; rw [hd] at h1
      exact h1.one.trans (ih s1 fun hsm b hb => h (h1.same.2 ▸ hsm) b (List.mem_cons_of_mem _ hb))

theorem reach_yieldFrom (e : Event) (s : Sys) : Reach L (pushEv e s) (yieldEv e s).state :=
  reach_doActs ((pushEv e s).react (pushEv e s).hist) (pushEv e s) fun hsm => hsm _

theorem reach_yieldEv (e : Event) (he : ∀ s, onEvent e s = .ok () s) : Spec (Reach L) (yieldEv e) := fun s =>
  (Turn.ev e (he s)).one.trans (reach_yieldFrom e s)

theorem Called.eff {s s' : Sys} (h : Called s s') : ∃ s1 r, s' = resState s1 r ∧ ApiEff s s1 := by
  cases h with
  | res r _ => exact ⟨s, r, rfl, rfl, rfl, rfl, rfl, .inl rfl, rfl, rfl, fun h => ⟨h, rfl⟩⟩
  | @send s1 op pl c r h _ _ _ =>
    obtain ⟨r', s'', e, eff⟩ := apiEff_sendFrame op pl c s
    cases h.symm.trans e
    exact ⟨s1, r, rfl, eff⟩
  | @close s1 pl r _ _ h _ =>
    obtain ⟨r', s'', e, eff⟩ := apiEff_sendFrame Gen.opClose pl none s
    cases h.symm.trans e
    exact ⟨markClosing s1, .ok, rfl, eff.cfg, eff.nextPing, eff.startTime, eff.now, eff.trace, eff.react, eff.ready, eff.gone⟩
  | sessionClose =>
    refine ⟨sockClosed s, .ok, rfl, ?_⟩
    rcases sockClosed_cases s with ⟨ho, e⟩ | ⟨_, e⟩ <;> rw [e]
    · exact ⟨rfl, rfl, rfl, rfl, .inr ⟨_, rfl, .inr rfl⟩, rfl, rfl, fun h => by rw [ho] at h; cases h⟩
    · exact ⟨rfl, rfl, rfl, rfl, .inl rfl, rfl, rfl, fun h => ⟨h, rfl⟩⟩

theorem onEvent_autoPong {d : Bytes} {s s1 : Sys} {r : ActRes} (ha : s.cfg.autoPong = true) (hl : d.length ≤ 125)
    (h : sendFrame Gen.opPong d none s = .ok r s1) : onEvent (.ping d) s = .ok () s1 := by
  have hn : ¬ d.length > 125 := by omega
  simp only [onEvent, ha, if_true, hn, if_false, h]

theorem turn_handed {e : Event} {s s1 : Sys} (h : onEvent e s = .ok () s1) : Turn True s (pushEv e s1) := by
  cases e with
  | ping d =>
    rcases onEvent_ping d s with ⟨_, e0⟩ | e0 | ⟨hauto, hl, r, s', es, e0⟩
    · rw [e0] at h; cases h; exact .ev _ e0
    · rw [e0] at h; cases h
    · rw [e0] at h; cases h; exact .autoPong d trivial hauto hl es
  | ready p d => cases h; exact .ready s p d
  | pong d => cases h; exact .pong s d
  | _ => cases h; exact .ev _ rfl

theorem reach_silent {s s' : Sys} (h : Silent s s') : Reach L s s' := (Turn.silent h).one

theorem reach_autoPing : Spec (Reach True) (sendFrame Gen.opPing [] none) := fun s => by
  obtain ⟨r, s', h, -⟩ := sendFrame_out Gen.opPing [] none s
  rw [h]; exact (Turn.autoPing trivial h).one

theorem reach_wsClose (c : Option Nat) (a : Arg) : Spec (Reach True) (wsClose c a) := fun s => by
  rcases wsClose_by_cases c a s with ⟨r, e, -⟩ | ⟨rb, r, s', hcd, hcg, -, -, hlen, hsf, e⟩
  · rw [e]; exact .refl s
  · rw [e]; exact (Turn.libClose trivial hcd hcg hsf hlen).one

theorem reach_closeSocket : Spec (Reach L) closeSocket := fun s => by
  rw [closeSocket_eq]
  show Reach L s (sockClosed s)
  rcases sockClosed_cases s with ⟨h, _⟩ | ⟨_, e⟩
  · exact (Turn.sockClosed h).one
  · rw [e]; exact .refl s

theorem reach_onDisconnect : Spec (Reach L) onDisconnect :=
  spec_onDisconnect_gone reach_po reach_closeSocket (fun _ h => (Turn.closedSet (Or.inl h)).one)

theorem reach_regular : Spec (Reach True) regular :=
  spec_regular reach_po
    (spec_checkPoll reach_po (fun s => (Turn.polled s).one) (reach_yieldEv .poll (fun _ => rfl)))
    (spec_checkAutoPing reach_po (fun s h1 h2 => (Turn.pinged s h1 h2).one) reach_autoPing)
    (spec_checkPingTimeout reach_po (reach_yieldEv .unresponsive (fun _ => rfl)))

theorem reach_feedYield (b : Bool) (e : Event) : Spec (Reach True) (feedYield b e) := by
  intro s
  cases hE : onEvent e s with
  | ok u s1 =>
    exact (turn_handed hE).one.trans
      (feedYield_from_push reach_po reach_yieldFrom reach_regular reach_onDisconnect b e s s1 hE)
  | err x s1 =>
    have := feedYield_from_err (reach_po (L := True)) reach_onDisconnect b e s s1 x hE
    rw [(onEvent_err hE).2] at this
    exact this

/-- **a preorder that contains the turns is kept by every `yield`**: the lift of Proofs/Turns.lean applies -/
theorem Yields.ofTurn {R : Sys → Sys → Prop} (po : PO R) (h : ∀ {s s'}, Turn True s s' → R s s') : Yields R :=
  have sub {α : Type} {m : M α} (hm : Spec (Reach True) m) : Spec R m := fun s => (hm s).sub po h
  { toPO := po
    silent := fun s s' hs => h (.silent hs)
    feedYield := fun b e => sub (reach_feedYield b e)
    yieldEv := fun e he => sub (reach_yieldEv e (by cases e <;> first | exact fun _ => rfl | cases he))
    regular := sub reach_regular
    wsClose := fun c r => sub (reach_wsClose c r)
    closeSocket := sub reach_closeSocket
    closedSet := fun s hs => h (.closedSet hs)
    closeAcked := fun s hs => h (.closeAcked hs)
    selClosed := fun s hs => h (.selClosed hs)
    ticked := fun s dt => h (.tick s dt) }

theorem reach_yields : Yields (Reach True) := .ofTurn reach_po Turn.one

/-- the socket appears and the upgrade request is handed to it -/
def Connect (s s' : Sys) : Prop := ∃ r, write s.cfg.request none { s with sockOpen := true } = .ok r s'

/-- turns of the application alone, `Connect`, turns of application and library -/
def Connected (s s' : Sys) : Prop := ∃ s1 s2, Reach False s s1 ∧ Connect s1 s2 ∧ Reach True s2 s'

/-- a connection: one that never gets a socket, or one that does -/
def Connection (s s' : Sys) : Prop := Reach False s s' ∨ Connected s s'

theorem Connected.tail {s s1 s2 : Sys} (h : Connected s s1) (m : Reach True s1 s2) : Connected s s2 :=
  let ⟨a, b, h1, hc, h2⟩ := h
  ⟨a, b, h1, hc, h2.trans m⟩

theorem Connection.tail {s s1 s2 : Sys} (h : Connection s s1) (m : ∀ {L : Prop}, Reach L s1 s2) : Connection s s2 :=
  h.elim (fun h => .inl (h.trans m)) (fun h => .inr (h.tail m))

/-- a property of connections: `I` holds at the start and is kept by every turn of the application,
    `Connect` leads from `I` to `J`, and `J` is kept by every turn -/
theorem Connection.keeps {I J : Sys → Prop} (hI : ∀ {s s'}, I s → Turn False s s' → I s')
    (hJ : ∀ {s s'}, J s → Turn True s s' → J s') (hc : ∀ {s s'}, I s → Connect s s' → J s') {s s' : Sys}
    (h : Connection s s') (h0 : I s) : I s' ∨ J s' := by
  rcases h with h | ⟨s1, s2, h1, c, h2⟩
  · exact .inl (h.keeps hI h0)
  · exact .inr (h2.keeps hJ (hc (h1.keeps hI h0) c))

theorem reach_afterRequest (proxy b : Bool) {run : M Unit} (hrun : Spec (Reach True) run) (r : ActRes) :
    Spec (Reach True) (if wsError r then do closeSocket; yieldEv (.connectFail "request-failed")
      else do yieldConnected proxy; modS fun s => { s with selOpen := b }; run) :=
  spec_ite _ (spec_bind reach_po reach_closeSocket fun _ => reach_yieldEv _ (fun _ => rfl))
    (spec_bind reach_po (run_yieldConnected reach_yields.around proxy) fun _ =>
      spec_bind reach_po (spec_modS fun _ => reach_silent (by constructor <;> rfl)) fun _ => hrun)

theorem connected_request {s s1 : Sys} (h : Reach False s s1) {k : ActRes → M Unit}
    (hk : ∀ r, Spec (Reach True) (k r)) :
    Connected s ((do modS fun s => { s with sockOpen := true }; let s ← getS; let r ← write s.cfg.request; k r) s1).state := by
  show Connected s ((write s1.cfg.request none >>= k) { s1 with sockOpen := true }).state
  obtain ⟨r, s2, hw, -⟩ := write_out s1.cfg.request none { s1 with sockOpen := true }
  rw [bind_ok hw]
  exact Connected.tail ⟨s1, s2, h, ⟨r, hw⟩, .refl _⟩ (hk r s2)

theorem run_turns (s : Sys) : Connection s (run s).state := by
  unfold run
  have hy := reach_yieldEv (L := False) .connecting (fun _ => rfl) s
  cases hy' : yieldEv .connecting s with
  | err x s1 => rw [bind_err hy']; rw [hy'] at hy; exact .inl hy
  | ok u s1 =>
    rw [hy'] at hy
    rw [bind_ok hy', getS_bind]
    cases hcn : s1.cfg.connect with
    | socketFail => exact .inl (hy.trans (reach_yieldEv _ (fun _ => rfl) s1))
    | otherFail => exact .inl (hy.trans (reach_yieldEv _ (fun _ => rfl) s1))
    | ok proxy =>
      exact .inr (connected_request hy
        (reach_afterRequest proxy true (run_runLoop reach_yields.around reach_yields.loop)))
    | selFail proxy =>
      exact .inr (connected_request hy (reach_afterRequest proxy false (run_runLoopNoSel reach_yields.around)))

/-- **a whole connection is made of turns**, around at most one `Connect` -/
theorem runAll_turns (cfg : Cfg) (react : React) (env : List EnvStep) :
    Connection { cfg := cfg, react := react, env := env } (runAll cfg react env) :=
  runAll_of_run (F := Connection { cfg := cfg, react := react, env := env }) cfg react env (run_turns _)
    (fun s h => h.tail (reach_closeSocket s)) (fun s h => h.tail (Turn.incomplete s).one)

end Lomond.Core
