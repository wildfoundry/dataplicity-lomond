/-
  The timer invariant (C15): time is read off the trace (`.tick` marks), and the state's timer
  fields (`_start_time`, `_poll_start`, `_last_pong`) are shown to be what the trace says they
  should be, through every function of the model up to a whole connection (`runAll`), for scripts whose
  waits last at most `poll` (`EnvBound`).  At the end, in namespace `TimerRun`: `EnvBound` is decidable
  (`envBound_iff`) and every script can be clamped to it (`clampEnv`).
-/
import Lomond.Proofs.Timers
import Lomond.Proofs.TraceFold
import Lomond.Proofs.Lift
namespace Lomond.Core.Timers
open Lomond Lomond.Core Lomond.Core.Lift Lomond.Core.Pong

/-! ### reading time off the trace

  The trace (newest first) carries a `.tick now` mark whenever the clock advanced inside
  `selector.wait`.  Everything the property says about *when* something happened is therefore a
  statement about the trace alone: the clock at an entry is the newest tick mark below it, the
  session time is the clock minus the clock at the (newest) Ready event. -/

def _root_.Lomond.Core.Obs.tmTickVal : Obs → Option Nat
  | .tick n => some n
  | _ => none

def _root_.Lomond.Core.Obs.tmIsReady : Obs → Bool
  | .ev (.ready _ _) => true
  | _ => false

def _root_.Lomond.Core.Obs.tmIsPoll : Obs → Bool
  | .ev .poll => true
  | _ => false

def _root_.Lomond.Core.Obs.tmIsPong : Obs → Bool
  | .ev (.pong _) => true
  | _ => false

def _root_.Lomond.Core.Obs.tmIsUnresp : Obs → Bool
  | .ev .unresponsive => true
  | _ => false

def _root_.Lomond.Core.Obs.tmNeutral (o : Obs) : Bool :=
  o.tmTickVal.isNone && !o.tmIsReady && !o.tmIsPoll && !o.tmIsPong && !o.tmIsUnresp

def clockOf : List Obs → Nat
  | [] => 0
  | o :: t => match o.tmTickVal with
    | some n => n
    | none => clockOf t

def readyAt : List Obs → Option Nat
  | [] => none
  | o :: t => if o.tmIsReady then some (clockOf t) else readyAt t

def sessOf (tr : List Obs) : Nat :=
  match readyAt tr with
  | none => 0
  | some t0 => clockOf tr - t0

/-- session time of the newest Poll event since the newest Ready -/
def lastPoll : List Obs → Option Nat
  | [] => none
  | o :: t => if o.tmIsReady then none else if o.tmIsPoll then some (sessOf t) else lastPoll t

/-- **the Poll spacing rule on a trace**: every Poll event that has a predecessor (since Ready)
    at session time `p0` happens at a session time `t` with `p0 + p ≤ t`, and — when `hi` —
    `t < p0 + 2·p` -/
def PollGaps (p : Nat) (hi : Bool) : List Obs → Prop
  | [] => True
  | o :: t =>
    (o.tmIsPoll = true → ∀ p0, lastPoll t = some p0 →
        p0 + p ≤ sessOf t ∧ (hi = true → sessOf t < p0 + 2 * p)) ∧ PollGaps p hi t

/-- session time of the newest sign of life: the newest Pong event since the newest Ready, or 0
    (the Ready itself) -/
def lastAlive : List Obs → Nat
  | [] => 0
  | o :: t => if o.tmIsReady then 0 else if o.tmIsPong then sessOf t else lastAlive t

/-- **the Unresponsive rule on a trace**: every Unresponsive event happens with the ping timeout
    enabled and more than `pt` after the newest sign of life -/
def UnrespOK (pt : Nat) : List Obs → Prop
  | [] => True
  | o :: t => (o.tmIsUnresp = true → pt ≠ 0 ∧ sessOf t - lastAlive t > pt) ∧ UnrespOK pt t

theorem neutral_iff (o : Obs) :
    o.tmNeutral = true ↔ o.tmTickVal = none ∧ o.tmIsReady = false ∧ o.tmIsPoll = false ∧
      o.tmIsPong = false ∧ o.tmIsUnresp = false := by
  unfold Obs.tmNeutral
  simp only [Bool.and_eq_true, Bool.not_eq_eq_eq_not, Bool.not_true, Option.isNone_iff_eq_none, and_assoc]

def pollAt (p : Nat) (hi : Bool) (o : Obs) (t : List Obs) : Prop :=
  o.tmIsPoll = true → ∀ p0, lastPoll t = some p0 → p0 + p ≤ sessOf t ∧ (hi = true → sessOf t < p0 + 2 * p)

theorem pollGaps_hist (p : Nat) (hi : Bool) : IsHist (PollGaps p hi) (pollAt p hi) :=
  hist_of_rec trivial (fun _ _ => Iff.rfl)

def unrespOKAt (pt : Nat) (o : Obs) (t : List Obs) : Prop :=
  o.tmIsUnresp = true → pt ≠ 0 ∧ sessOf t - lastAlive t > pt

theorem unrespOK_hist (pt : Nat) : IsHist (UnrespOK pt) (unrespOKAt pt) := hist_of_rec trivial (fun _ _ => Iff.rfl)

abbrev Neutral (o : Obs) : Prop := o.tmNeutral = true

theorem clockOf_cons_of {o : Obs} (t : List Obs) (h : o.tmTickVal = none) : clockOf (o :: t) = clockOf t := by
  simp [clockOf, h]

theorem readyAt_cons_of {o : Obs} (t : List Obs) (h : o.tmIsReady = false) : readyAt (o :: t) = readyAt t := by
  simp [readyAt, h]

theorem sessOf_cons_of {o : Obs} (t : List Obs) (h1 : o.tmTickVal = none) (h2 : o.tmIsReady = false) :
    sessOf (o :: t) = sessOf t := by
  unfold sessOf; rw [readyAt_cons_of t h2, clockOf_cons_of t h1]

theorem lastAlive_cons_of {o : Obs} (t : List Obs) (h1 : o.tmIsReady = false) (h2 : o.tmIsPong = false) :
    lastAlive (o :: t) = lastAlive t := by simp [lastAlive, h1, h2]

theorem clockOf_neutral : Ignores clockOf Neutral := fun o t h => clockOf_cons_of t ((neutral_iff o).mp h).1

theorem readyAt_neutral : Ignores readyAt Neutral := fun o t h => readyAt_cons_of t ((neutral_iff o).mp h).2.1

theorem sessOf_neutral {o : Obs} (t : List Obs) (h : o.tmNeutral = true) : sessOf (o :: t) = sessOf t :=
  sessOf_cons_of t ((neutral_iff o).mp h).1 ((neutral_iff o).mp h).2.1

theorem lastPoll_neutral : Ignores lastPoll Neutral := fun o t h => by
  obtain ⟨h1, h2, h3, h4, h5⟩ := (neutral_iff o).mp h
  simp [lastPoll, h2, h3]

theorem lastAlive_neutral : Ignores lastAlive Neutral := fun o t h =>
  lastAlive_cons_of t ((neutral_iff o).mp h).2.1 ((neutral_iff o).mp h).2.2.2.1

theorem pollGaps_neutral (p : Nat) (hi : Bool) : Ignores (PollGaps p hi) Neutral :=
  (pollGaps_hist p hi).ignores (fun o t h hx => by rw [((neutral_iff o).mp h).2.2.1] at hx; cases hx)

theorem unrespOK_neutral (pt : Nat) : Ignores (UnrespOK pt) Neutral :=
  (unrespOK_hist pt).ignores (fun o t h hx => by rw [((neutral_iff o).mp h).2.2.2.2] at hx; cases hx)

/-- a step the timers do not see: clock, Ready time, `_poll_start`, `_last_pong` untouched, only neutral entries appended -/
structure QuietP (s s' : Sys) : Prop where
  cfg : s'.cfg = s.cfg
  env : s'.env = s.env
  ready : s'.ready = s.ready
  pollStart : s'.pollStart = s.pollStart
  lastPong : s'.lastPong = s.lastPong
  startTime : s'.startTime = s.startTime
  now : s'.now = s.now
  trace : ∃ l, s'.trace = l ++ s.trace ∧ ∀ o ∈ l, Obs.tmNeutral o = true

theorem quietP_po : PO QuietP where
  refl s := ⟨rfl, rfl, rfl, rfl, rfl, rfl, rfl, ⟨[], rfl, by simp⟩⟩
  trans h1 h2 := ⟨h2.cfg.trans h1.cfg, h2.env.trans h1.env, h2.ready.trans h1.ready,
    h2.pollStart.trans h1.pollStart, h2.lastPong.trans h1.lastPong, h2.startTime.trans h1.startTime,
    h2.now.trans h1.now, ext_trans h1.trace h2.trace⟩

/-- `QuietP` from the entries appended; the field equations hold by unfolding for explicit states -/
theorem quietP_of {s s' : Sys} (l : List Obs) (hl : ∀ o ∈ l, Obs.tmNeutral o = true)
    (ht : s'.trace = l ++ s.trace := by rfl) (h1 : s'.cfg = s.cfg := by rfl) (h2 : s'.env = s.env := by rfl)
    (h3 : s'.ready = s.ready := by rfl) (h4 : s'.pollStart = s.pollStart := by rfl)
    (h5 : s'.lastPong = s.lastPong := by rfl) (h6 : s'.startTime = s.startTime := by rfl)
    (h7 : s'.now = s.now := by rfl) : QuietP s s' :=
  ⟨h1, h2, h3, h4, h5, h6, h7, l, ht, hl⟩

theorem forall_mem_one {p : Obs → Prop} {o : Obs} (h : p o) : ∀ x ∈ [o], p x :=
  fun x hx => by rw [List.mem_singleton.mp hx]; exact h

/-- `QuietP s s'` for an explicit `s'` with at most one neutral entry appended -/
macro "quiet_leaf" : tactic =>
  `(tactic| first
      | exact quietP_of [] (fun _ h => nomatch h)
      | exact quietP_of [_] (forall_mem_one rfl))

theorem neutral_of_isWrite {o : Obs} (h : o.isWrite = true) : o.tmNeutral = true := by
  cases o <;> first | rfl | cases h

theorem quietP_closeSocket : Spec QuietP closeSocket :=
  spec_closeSocket quietP_po (fun s _ => quietP_of [.sockClose] (forall_mem_one rfl))

theorem quietP_write (d : Bytes) (z : Option (Nat × Bytes)) : Spec QuietP (write d z) :=
  spec_write quietP_po d z (fun _ o _ _ _ ho => quietP_of [o] (forall_mem_one (neutral_of_isWrite (wrObs_isWrite ho))))

theorem quietP_sendFrame (op : Nat) (pl : Bytes) (c : Option Bytes) : Spec QuietP (sendFrame op pl c) :=
  spec_sendFrame quietP_po op pl c (fun s => quietP_of [] (fun _ h => nomatch h)) (fun d => quietP_write d _)

theorem quietP_wsClose (c : Option Nat) (r : Arg) : Spec QuietP (wsClose c r) :=
  spec_wsClose quietP_po c r (fun pl => quietP_sendFrame _ pl none) (fun s => quietP_of [] (fun _ h => nomatch h))

theorem quietP_sendData (op : Nat) (pl : Bytes) (c : Bool) : Spec QuietP (sendData op pl c) :=
  spec_sendData op pl c (quietP_sendFrame op pl none) (fun s _ => quietP_sendFrame op [] (some pl) s)

theorem quietP_log_res (r : ActRes) : Spec QuietP (log (.res r)) :=
  fun s => quietP_of [.res r] (forall_mem_one rfl)

theorem quietP_doActs (as : List Act) : Spec QuietP (doActs as) :=
  spec_doActs quietP_po as (fun a _ => spec_doAct quietP_po a (fun op pl c _ => quietP_sendData op pl c)
    (fun op pl _ _ => quietP_sendFrame op pl none) (fun c r _ => quietP_wsClose c r) (fun _ => quietP_closeSocket)
    (fun s r => quietP_log_res r s) (fun _ _ s => quietP_of [] (fun _ h => nomatch h)))

theorem quietP_pushEv (e : Event) (s : Sys) (h : (Obs.ev e).tmNeutral = true) : QuietP s (pushEv e s) :=
  quietP_of [.ev e] (forall_mem_one h)

theorem quietP_yieldEv (e : Event) (h : (Obs.ev e).tmNeutral = true) : Spec QuietP (yieldEv e) :=
  spec_yieldEv quietP_po e (fun s => quietP_pushEv e s h) (fun _ => quietP_doActs _)

theorem quietP_onDisconnect : Spec QuietP onDisconnect :=
  spec_onDisconnect quietP_po quietP_closeSocket (fun s => quietP_of [] (fun _ h => nomatch h))

theorem quietP_checkAutoPing : Spec QuietP checkAutoPing :=
  spec_checkAutoPing quietP_po (fun s _ _ => quietP_of [] (fun _ h => nomatch h)) (quietP_sendFrame _ _ _)

theorem quietP_checkCloseTimeout : Spec QuietP checkCloseTimeout := spec_checkCloseTimeout quietP_po

theorem quietP_onEvent (e : Event) (h : (Obs.ev e).tmIsReady = false) (hp : (Obs.ev e).tmIsPong = false) :
    Spec QuietP (onEvent e) := by
  cases e with
  | ready a b => cases h
  | pong d => cases hp
  | ping d =>
    exact spec_onEvent quietP_po _ (fun _ _ h => nomatch h) (fun _ h => nomatch h)
      (fun _ _ _ s _ => quietP_sendFrame _ _ _ s)
  | _ => exact fun s => quietP_po.refl s

theorem clockOf_tick (n : Nat) (t : List Obs) : clockOf (.tick n :: t) = n := rfl
theorem readyAt_tick (n : Nat) (t : List Obs) : readyAt (.tick n :: t) = readyAt t := rfl
theorem lastPoll_tick (n : Nat) (t : List Obs) : lastPoll (.tick n :: t) = lastPoll t := rfl
theorem lastAlive_tick (n : Nat) (t : List Obs) : lastAlive (.tick n :: t) = lastAlive t := rfl
theorem pollGaps_tick (p : Nat) (hi : Bool) (n : Nat) (t : List Obs) :
    PollGaps p hi (.tick n :: t) ↔ PollGaps p hi t := by
  simp [PollGaps, Obs.tmIsPoll]
theorem unrespOK_tick (pt : Nat) (n : Nat) (t : List Obs) :
    UnrespOK pt (.tick n :: t) ↔ UnrespOK pt t := by
  simp [UnrespOK, Obs.tmIsUnresp]

theorem clockOf_poll (t : List Obs) : clockOf (.ev .poll :: t) = clockOf t := rfl
theorem readyAt_poll (t : List Obs) : readyAt (.ev .poll :: t) = readyAt t := rfl
theorem sessOf_poll (t : List Obs) : sessOf (.ev .poll :: t) = sessOf t := rfl
theorem lastPoll_poll (t : List Obs) : lastPoll (.ev .poll :: t) = some (sessOf t) := rfl
theorem lastAlive_poll (t : List Obs) : lastAlive (.ev .poll :: t) = lastAlive t := rfl
theorem pollGaps_poll (p : Nat) (hi : Bool) (t : List Obs) :
    PollGaps p hi (.ev .poll :: t) ↔
      (∀ p0, lastPoll t = some p0 → p0 + p ≤ sessOf t ∧ (hi = true → sessOf t < p0 + 2 * p)) ∧
      PollGaps p hi t := by
  simp [PollGaps, Obs.tmIsPoll]
theorem unrespOK_poll (pt : Nat) (t : List Obs) : UnrespOK pt (.ev .poll :: t) ↔ UnrespOK pt t := by
  simp [UnrespOK, Obs.tmIsUnresp]

theorem clockOf_ready (a : Option Http.Str) (b : Bool) (t : List Obs) :
    clockOf (.ev (.ready a b) :: t) = clockOf t := rfl
theorem readyAt_ready (a : Option Http.Str) (b : Bool) (t : List Obs) :
    readyAt (.ev (.ready a b) :: t) = some (clockOf t) := rfl
theorem sessOf_ready (a : Option Http.Str) (b : Bool) (t : List Obs) :
    sessOf (.ev (.ready a b) :: t) = 0 := by
  simp [sessOf, readyAt_ready, clockOf_ready]
theorem lastPoll_ready (a : Option Http.Str) (b : Bool) (t : List Obs) :
    lastPoll (.ev (.ready a b) :: t) = none := rfl
theorem lastAlive_ready (a : Option Http.Str) (b : Bool) (t : List Obs) :
    lastAlive (.ev (.ready a b) :: t) = 0 := rfl
theorem pollGaps_ready (p : Nat) (hi : Bool) (a : Option Http.Str) (b : Bool) (t : List Obs) :
    PollGaps p hi (.ev (.ready a b) :: t) ↔ PollGaps p hi t := by
  simp [PollGaps, Obs.tmIsPoll]
theorem unrespOK_ready (pt : Nat) (a : Option Http.Str) (b : Bool) (t : List Obs) :
    UnrespOK pt (.ev (.ready a b) :: t) ↔ UnrespOK pt t := by
  simp [UnrespOK, Obs.tmIsUnresp]

theorem clockOf_pong (d : Bytes) (t : List Obs) : clockOf (.ev (.pong d) :: t) = clockOf t := rfl
theorem readyAt_pong (d : Bytes) (t : List Obs) : readyAt (.ev (.pong d) :: t) = readyAt t := rfl
theorem sessOf_pong (d : Bytes) (t : List Obs) : sessOf (.ev (.pong d) :: t) = sessOf t := rfl
theorem lastPoll_pong (d : Bytes) (t : List Obs) : lastPoll (.ev (.pong d) :: t) = lastPoll t := rfl
theorem lastAlive_pong (d : Bytes) (t : List Obs) : lastAlive (.ev (.pong d) :: t) = sessOf t := rfl
theorem pollGaps_pong (p : Nat) (hi : Bool) (d : Bytes) (t : List Obs) :
    PollGaps p hi (.ev (.pong d) :: t) ↔ PollGaps p hi t := by
  simp [PollGaps, Obs.tmIsPoll]
theorem unrespOK_pong (pt : Nat) (d : Bytes) (t : List Obs) :
    UnrespOK pt (.ev (.pong d) :: t) ↔ UnrespOK pt t := by
  simp [UnrespOK, Obs.tmIsUnresp]

theorem clockOf_unresp (t : List Obs) : clockOf (.ev .unresponsive :: t) = clockOf t := rfl
theorem readyAt_unresp (t : List Obs) : readyAt (.ev .unresponsive :: t) = readyAt t := rfl
theorem sessOf_unresp (t : List Obs) : sessOf (.ev .unresponsive :: t) = sessOf t := rfl
theorem lastPoll_unresp (t : List Obs) : lastPoll (.ev .unresponsive :: t) = lastPoll t := rfl
theorem lastAlive_unresp (t : List Obs) : lastAlive (.ev .unresponsive :: t) = lastAlive t := rfl
theorem pollGaps_unresp (p : Nat) (hi : Bool) (t : List Obs) :
    PollGaps p hi (.ev .unresponsive :: t) ↔ PollGaps p hi t := by
  simp [PollGaps, Obs.tmIsPoll]
theorem unrespOK_unresp (pt : Nat) (t : List Obs) :
    UnrespOK pt (.ev .unresponsive :: t) ↔
      (pt ≠ 0 ∧ sessOf t - lastAlive t > pt) ∧ UnrespOK pt t := by
  simp [UnrespOK, Obs.tmIsUnresp]

theorem sessOf_append_neutral (l t : List Obs) (h : ∀ o ∈ l, Neutral o) : sessOf (l ++ t) = sessOf t :=
  Ignores.append (fun _ t => sessOf_neutral t) l t h

/-- **The timer invariant** of a state: the trace's clock is the session's clock, the trace's
    Ready time is `_start_time`, `_poll_start` is the session time of the newest Poll on the trace
    (and not in the future), `_last_pong` is the session time of the newest Pong since Ready (0 if
    none), every Poll on the trace obeys the spacing rule, every Unresponsive on the trace was due,
    and — for the upper bound (`hi`), with `poll > 0` — once ready, less than `k·poll` has passed
    since the last Poll (`k = 1` after every `_regular()`, `k = 2` right after a
    `selector.wait`). -/
structure TimerInv (hi : Bool) (k : Nat) (D : Nat) (s : Sys) : Prop where
  now : s.now = clockOf s.trace
  start : s.startTime = readyAt s.trace
  last : ∀ p0, lastPoll s.trace = some p0 → s.pollStart = some p0 ∧ p0 ≤ sessOf s.trace
  alive : s.lastPong = lastAlive s.trace
  gaps : PollGaps s.cfg.poll hi s.trace
  unresp : UnrespOK s.cfg.pingTimeout s.trace
  fresh : hi = true → 0 < s.cfg.poll ∧
    (s.ready = true → ∀ p0, s.pollStart = some p0 → sessOf s.trace < p0 + k * s.cfg.poll)
  /-- `D` is the configured poll interval -/
  pollEq : s.cfg.poll = D

theorem sessionTime_of {s : Sys} (hstart : s.startTime = readyAt s.trace) (hnow : s.now = clockOf s.trace) :
    sessionTime s = sessOf s.trace := by
  unfold sessionTime sessOf; rw [hstart, hnow]
  cases readyAt s.trace <;> rfl

theorem TimerInv.sessionTime_eq {hi : Bool} {k D : Nat} {s : Sys} (h : TimerInv hi k D s) :
    sessionTime s = sessOf s.trace := sessionTime_of h.start h.now

theorem timerInv_quiet {hi : Bool} {k D : Nat} {s s' : Sys} (q : QuietP s s') (h : TimerInv hi k D s) :
    TimerInv hi k D s' := by
  obtain ⟨l, e, n⟩ := q.trace
  refine ⟨?_, ?_, ?_, ?_, ?_, ?_, ?_, by rw [q.cfg]; exact h.pollEq⟩
  · rw [q.now, e, clockOf_neutral.append l _ n]; exact h.now
  · rw [q.startTime, e, readyAt_neutral.append l _ n]; exact h.start
  · rw [q.pollStart, e, lastPoll_neutral.append l _ n, sessOf_append_neutral l _ n]; exact h.last
  · rw [q.lastPong, e, lastAlive_neutral.append l _ n]; exact h.alive
  · rw [q.cfg, e, (pollGaps_neutral _ _).append l _ n]; exact h.gaps
  · rw [q.cfg, e, (unrespOK_neutral _).append l _ n]; exact h.unresp
  · rw [q.cfg, q.ready, q.pollStart, e, sessOf_append_neutral l _ n]; exact h.fresh

theorem timerInv_weaken {hi : Bool} {D : Nat} {s : Sys} (h : TimerInv hi 1 D s) : TimerInv hi 2 D s := by
  refine ⟨h.now, h.start, h.last, h.alive, h.gaps, h.unresp, ?_, h.pollEq⟩
  intro hhi
  obtain ⟨hp, hf⟩ := h.fresh hhi
  refine ⟨hp, fun hr p0 hp0 => ?_⟩
  have := hf hr p0 hp0
  omega

theorem timerInv_tick {hi : Bool} {D : Nat} {s : Sys} (dt : Nat) (h : TimerInv hi 1 D s)
    (hdt : hi = true → dt ≤ D) : TimerInv hi 2 D (tick s dt) := by
  by_cases h0 : dt = 0
  · subst h0
    exact timerInv_weaken h
  · rw [tick_pos s dt h0]
    have hsess : sessOf s.trace ≤ sessOf (.tick (s.now + dt) :: s.trace) ∧
        sessOf (.tick (s.now + dt) :: s.trace) ≤ sessOf s.trace + dt := by
      unfold sessOf
      rw [readyAt_tick, clockOf_tick, ← h.now]
      cases readyAt s.trace with
      | none => simp
      | some t0 => simp only; omega
    refine ⟨rfl, ?_, ?_, ?_, ?_, ?_, ?_, h.pollEq⟩
    · exact h.start
    · intro p0 hp0
      have := h.last p0 hp0
      refine ⟨this.1, ?_⟩
      show p0 ≤ sessOf (.tick (s.now + dt) :: s.trace)
      omega
    · exact h.alive
    · exact (pollGaps_tick _ _ _ _).mpr h.gaps
    · exact (unrespOK_tick _ _ _).mpr h.unresp
    · intro hhi
      obtain ⟨hp, hf⟩ := h.fresh hhi
      have hd := hdt hhi
      have hb := h.pollEq
      refine ⟨hp, fun hr p0 hp0 => ?_⟩
      have := hf hr p0 hp0
      show sessOf (.tick (s.now + dt) :: s.trace) < p0 + 2 * s.cfg.poll
      omega

theorem timerInv_checkPoll {hi : Bool} {D : Nat} {s : Sys} (h : TimerInv hi 2 D s) (hr : s.ready = true) :
    TimerInv hi 1 D (checkPoll s).state := by
  have hs := h.sessionTime_eq
  by_cases hd : pollDue s
  · rw [checkPoll_fires s hd, yieldEv_eq]
    refine timerInv_quiet (quietP_doActs _ _) ?_
    show TimerInv hi 1 D { (pollMark s) with trace := .ev .poll :: s.trace, hist := .poll :: s.hist }
    refine ⟨h.now, h.start, ?_, h.alive, ?_, (unrespOK_poll _ _).mpr h.unresp, ?_, h.pollEq⟩
    · intro p0 hp0
      show some (sessionTime s) = some p0 ∧ p0 ≤ sessOf (.ev .poll :: s.trace)
      rw [lastPoll_poll] at hp0
      rw [sessOf_poll, hs]
      simp only [Option.some.injEq] at hp0
      exact ⟨congrArg some hp0, by omega⟩
    · show PollGaps s.cfg.poll hi (.ev .poll :: s.trace)
      rw [pollGaps_poll]
      refine ⟨?_, h.gaps⟩
      intro p0 hp0
      obtain ⟨hps, hle⟩ := h.last p0 hp0
      rcases hd with hn | ⟨p1, hp1, hge⟩
      · rw [hn] at hps; cases hps
      · rw [hp1] at hps
        simp only [Option.some.injEq] at hps
        subst hps
        refine ⟨by omega, fun hhi => ?_⟩
        have := (h.fresh hhi).2 hr p1 hp1
        exact this
    · intro hhi
      obtain ⟨hp, _⟩ := h.fresh hhi
      refine ⟨hp, fun _ p0 hp0 => ?_⟩
      change some (sessionTime s) = some p0 at hp0
      simp only [Option.some.injEq] at hp0
      show sessOf (.ev .poll :: s.trace) < p0 + 1 * s.cfg.poll
      rw [sessOf_poll]
      omega
  · obtain ⟨p0, hps, hlt⟩ := not_pollDue hd
    rw [checkPoll_quiet s p0 hps hlt]
    refine ⟨h.now, h.start, h.last, h.alive, h.gaps, h.unresp, ?_, h.pollEq⟩
    intro hhi
    obtain ⟨hp, _⟩ := h.fresh hhi
    refine ⟨hp, fun _ p1 hp1 => ?_⟩
    simp only [Res.state_ok] at hp1 ⊢
    rw [hps] at hp1
    simp only [Option.some.injEq] at hp1
    omega

/-- the step keeps `TimerInv hi 1 D`: a preorder, the form in which `Lift.Leaves` carries the invariant -/
def RTimer (hi : Bool) (D : Nat) (s s' : Sys) : Prop := TimerInv hi 1 D s → TimerInv hi 1 D s'

theorem rtimer_po (hi : Bool) (D : Nat) : PO (RTimer hi D) where
  refl _ := id
  trans h1 h2 := fun h => h2 (h1 h)

theorem rtimer_of_quiet {hi : Bool} {D : Nat} {m : M α} (h : Spec QuietP m) : Spec (RTimer hi D) m :=
  fun s hinv => timerInv_quiet (h s) hinv

theorem rtimer_checkPingTimeout (hi : Bool) (D : Nat) : Spec (RTimer hi D) checkPingTimeout := by
  intro s h
  by_cases hd : pingTimeoutDue s
  · rw [checkPingTimeout_fires s hd]
    refine bind_state_rel (rtimer_po hi D) (fun _ => spec_throwE (rtimer_po hi D) _) s ?_
    rw [yieldEv_eq]
    refine timerInv_quiet (quietP_doActs _ _) ?_
    show TimerInv hi 1 D { s with trace := .ev .unresponsive :: s.trace, hist := .unresponsive :: s.hist }
    refine ⟨h.now, h.start, h.last, h.alive, (pollGaps_unresp _ _ _).mpr h.gaps, ?_, h.fresh, h.pollEq⟩
    show UnrespOK s.cfg.pingTimeout (.ev .unresponsive :: s.trace)
    rw [unrespOK_unresp]
    refine ⟨?_, h.unresp⟩
    rw [← h.sessionTime_eq, ← h.alive]
    exact hd
  · rw [checkPingTimeout_quiet s hd]; exact h

theorem timerInv_regular {hi : Bool} {D : Nat} {s : Sys} (h : TimerInv hi 2 D s) :
    TimerInv hi 1 D (regular s).state := by
  unfold regular
  rw [getS_bind]
  by_cases hr : s.ready = true
  · simp only [hr, if_true]
    have h1 := timerInv_checkPoll h hr
    exact bind_state_rel (rtimer_po hi D) (fun _ => spec_bind (rtimer_po hi D) (rtimer_of_quiet quietP_checkAutoPing)
      (fun _ => spec_bind (rtimer_po hi D) (rtimer_checkPingTimeout hi D)
        (fun _ => rtimer_of_quiet quietP_checkCloseTimeout))) s h1
  · simp only [hr]
    refine ⟨h.now, h.start, h.last, h.alive, h.gaps, h.unresp, ?_, h.pollEq⟩
    intro hhi
    exact ⟨(h.fresh hhi).1, fun hr' => absurd hr' hr⟩

theorem rtimer_regular (hi : Bool) (D : Nat) : Spec (RTimer hi D) regular :=
  fun _ h => timerInv_regular (timerInv_weaken h)

theorem neutral_of_isFeed (e : Event) (hf : isFeedEvent e = true) (hr : (Obs.ev e).tmIsReady = false)
    (hp : (Obs.ev e).tmIsPong = false) : (Obs.ev e).tmNeutral = true := by
  cases e <;> simp_all [isFeedEvent, Obs.tmNeutral, Obs.tmTickVal, Obs.tmIsReady, Obs.tmIsPoll, Obs.tmIsPong, Obs.tmIsUnresp]

theorem timerInv_onEvent_push {hi : Bool} {D : Nat} {e : Event} {s s1 : Sys} (hf : isFeedEvent e = true)
    (hE : onEvent e s = .ok () s1) (h : TimerInv hi 1 D s) : TimerInv hi 1 D (pushEv e s1) := by
  cases e with
  | ready a b =>
    simp only [onEvent] at hE
    cases hE
    refine ⟨h.now, ?_, ?_, rfl, ?_, ?_, ?_, h.pollEq⟩
    · show some s.now = readyAt (.ev (.ready a b) :: s.trace)
      rw [readyAt_ready, h.now]
    · intro p0 hp0
      change lastPoll (.ev (.ready a b) :: s.trace) = some p0 at hp0
      rw [lastPoll_ready] at hp0; cases hp0
    · exact (pollGaps_ready _ _ _ _ _).mpr h.gaps
    · exact (unrespOK_ready _ _ _ _).mpr h.unresp
    · intro hhi
      refine ⟨(h.fresh hhi).1, fun _ p0 _ => ?_⟩
      show sessOf (.ev (.ready a b) :: s.trace) < p0 + 1 * s.cfg.poll
      rw [sessOf_ready]
      have := (h.fresh hhi).1
      omega
  | pong d =>
    simp only [onEvent] at hE
    cases hE
    refine ⟨h.now, h.start, h.last, ?_, (pollGaps_pong _ _ _ _).mpr h.gaps,
      (unrespOK_pong _ _ _).mpr h.unresp, h.fresh, h.pollEq⟩
    show sessionTime s = lastAlive (.ev (.pong d) :: s.trace)
    rw [lastAlive_pong, h.sessionTime_eq]
  | _ =>
    have q1 : QuietP s s1 := (quietP_onEvent _ rfl rfl).ok hE
    exact timerInv_quiet (quietP_po.trans q1 (quietP_pushEv _ s1 (neutral_of_isFeed _ hf rfl rfl))) h

theorem rtimer_feedYield (hi : Bool) (D : Nat) (inTry : Bool) (e : Event) (hf : isFeedEvent e = true) :
    Spec (RTimer hi D) (feedYield inTry e) := by
  intro s h
  cases hE : onEvent e s with
  | ok u s1 =>
    exact feedYield_from_push (rtimer_po hi D)
      (fun e s => by rw [yieldEv_eq]; exact rtimer_of_quiet (quietP_doActs _) _)
      (rtimer_regular hi D) (rtimer_of_quiet quietP_onDisconnect) inTry e s s1 hE
      (timerInv_onEvent_push hf hE h)
  | err x s1 =>
    refine feedYield_from_err (rtimer_po hi D) (rtimer_of_quiet quietP_onDisconnect) inTry e s s1 x hE ?_
    rw [(onEvent_err hE).2]; exact h

theorem quietP_of_inert {s s' : Sys} (h : Inert s s') : QuietP s s' :=
  ⟨h.cfg, h.env, h.ready, h.pollStart, h.lastPong, h.startTime, h.now, ⟨[], h.trace, by simp⟩⟩

theorem rtimer_leaves (hi : Bool) (D : Nat) : Leaves (RTimer hi D) where
  po := rtimer_po hi D
  inert := fun _ _ h hinv => timerInv_quiet (quietP_of_inert h) hinv
  closeSocket := rtimer_of_quiet quietP_closeSocket
  wsClose := fun c r => rtimer_of_quiet (quietP_wsClose c r)
  feedYield := rtimer_feedYield hi D

/-- every `selector.wait` of the script lasts at most `D` ticks -/
def EnvBound (D : Nat) (env : List EnvStep) : Prop := ∀ dt rd, EnvStep.wait dt rd ∈ env → dt ≤ D

theorem rtimer_loop (hi : Bool) (D : Nat) (env : List EnvStep) (h : hi = true → EnvBound D env) :
    Spec (RTimer hi D) (loop env) :=
  lift_loop (rtimer_leaves hi D) (fun st => hi = true → ∀ dt rd, st = .wait dt rd → dt ≤ D)
    (fun dt rd _ hP h => timerInv_regular (timerInv_tick dt h (fun hhi => hP hhi dt rd rfl))) env
    (fun _ hst hhi dt rd e => h hhi dt rd (e ▸ hst))

theorem quietP_selClose : Spec QuietP selClose :=
  spec_selClose quietP_po (fun s _ => quietP_of [.selClose] (forall_mem_one rfl))

theorem quietP_around : AroundLoop QuietP where
  po := quietP_po
  closeSocket := quietP_closeSocket
  selClose := quietP_selClose
  yieldEv := fun e he => quietP_yieldEv e (by cases e <;> first | rfl | cases he)
  selSet := fun s b => quietP_of [] (fun _ h => nomatch h)

theorem quietP_onLoopEnd (r : Option Exn) : Spec QuietP (onLoopEnd r) := run_onLoopEnd quietP_around r

theorem rtimer_runLoop (hi : Bool) (D : Nat) (s : Sys) (h : hi = true → EnvBound D s.env) :
    RTimer hi D s (runLoop s).state :=
  spec_runLoop_at (rtimer_po hi D)
    (spec_runBody (rtimer_po hi D) s.env (rtimer_loop hi D s.env h) (fun r => rtimer_of_quiet (quietP_onLoopEnd r)) s)
    (rtimer_of_quiet quietP_selClose)
    (fun x => rtimer_of_quiet (run_runFinally quietP_around x))

/-- `run()` once a socket exists: the steps up to the selector are quiet and keep the script, so what
    follows is asked for only under the bound on the script -/
theorem rtimer_afterConnectK (hi : Bool) (D : Nat) (k : M Unit) (proxy sel : Bool) (s : Sys)
    (hk : ∀ s', s'.env = s.env → RTimer hi D s' (k s').state) :
    RTimer hi D s (afterConnectK k proxy sel s).state :=
  spec_afterConnectK_at (rtimer_po hi D) quietP_po (fun q hinv => timerInv_quiet q hinv) proxy sel
    (fun s => quietP_of [] (fun _ h => nomatch h)) (fun s => quietP_write _ none) quietP_closeSocket
    (quietP_yieldEv _ rfl) (run_yieldConnected quietP_around proxy) (fun s => quietP_of [] (fun _ h => nomatch h))
    s (fun s' q => hk s' q.env)

theorem rtimer_run (hi : Bool) (D : Nat) (s : Sys) (h : hi = true → EnvBound D s.env) :
    RTimer hi D s (run s).state :=
  spec_run_at (rtimer_po hi D) (Q := QuietP) (fun q hinv => timerInv_quiet q hinv)
    (fun e he => quietP_yieldEv e (by rcases he with rfl | rfl <;> rfl)) s
    (fun p s1 q1 => rtimer_afterConnectK hi D runLoop p true s1 (fun s' e =>
      rtimer_runLoop hi D s' (by rw [e, q1.env]; exact h)))
    (fun p s1 _ => rtimer_afterConnectK hi D runLoopNoSel p false s1 (fun s' _ =>
      rtimer_of_quiet (run_runLoopNoSel quietP_around) s'))

theorem timerInv_runAll (hi : Bool) (cfg : Cfg) (react : React) (env : List EnvStep)
    (h : hi = true → 0 < cfg.poll ∧ EnvBound cfg.poll env) :
    TimerInv hi 1 cfg.poll (runAll cfg react env) :=
  run_runAll (rtimer_po hi cfg.poll) (rtimer_of_quiet quietP_closeSocket)
    (fun s hs => timerInv_quiet (quietP_of [.incomplete] (forall_mem_one rfl)) hs) cfg react env
    (rtimer_run hi cfg.poll _ (fun hhi => (h hhi).2))
    ⟨rfl, rfl, fun p0 hp0 => (by cases hp0), rfl, trivial, trivial,
      fun hhi => ⟨(h hhi).1, fun hr => (by cases hr)⟩, rfl⟩

/-- `_on_ready`: all three timers reset, the session clock starts -/
def readyState (s : Sys) : Sys :=
  { s with lastPong := 0, nextPing := 0, startTime := some s.now, ready := true }

theorem onEvent_ready (a : Option Http.Str) (b : Bool) (s : Sys) :
    onEvent (.ready a b) s = .ok () (readyState s) := rfl

theorem regular_ready (s : Sys) (hr : s.ready = true) :
    regular s = (checkPoll >>= fun _ => (checkAutoPing >>= fun _ =>
      (checkPingTimeout >>= fun _ => checkCloseTimeout))) s := by
  unfold regular
  rw [getS_bind]
  simp only [hr, if_true]

theorem feedYield_ready_poll (inTry : Bool) (a : Option Http.Str) (b : Bool) (s s2 : Sys)
    (hp : s.pollStart = none) (hy : yieldEv (.ready a b) (readyState s) = .ok () s2) :
    sessionTime s2 = 0 ∧ s2.ready = true ∧
    ∃ l, (feedYield inTry (.ready a b) s).state.trace = l ++ .ev .poll :: s2.trace := by
  have q : QuietP (pushEv (.ready a b) (readyState s)) s2 := by
    rw [yieldEv_eq] at hy; exact (quietP_doActs _).ok hy
  have hr2 : s2.ready = true := q.ready
  have hp2 : s2.pollStart = none := q.pollStart.trans hp
  have hst : s2.startTime = some s.now := q.startTime
  have hnow : s2.now = s.now := q.now
  have ht0 : sessionTime s2 = 0 := by unfold sessionTime; rw [hst, hnow]; simp
  refine ⟨ht0, hr2, ?_⟩
  have hb : (do onEvent (.ready a b); yieldEv (.ready a b); regular : M Unit) s = regular s2 := by
    rw [bind_ok (onEvent_ready a b s), bind_ok hy]
  have s1 := yieldEv_step_from_push .poll (pollMark s2)
  rw [← checkPoll_fires s2 (Or.inl hp2)] at s1
  have s2' := bind_state_rel step_po (m := checkPoll) (k := fun _ => (checkAutoPing >>= fun _ =>
      (checkPingTimeout >>= fun _ => checkCloseTimeout)))
    (fun _ => spec_bind step_po step_leaves.checkAutoPing (fun _ =>
      spec_bind step_po step_leaves.checkPingTimeout (fun _ => spec_checkCloseTimeout step_po))) s2
  rw [← regular_ready s2 hr2, ← hb] at s2'
  have s3 := tryC_state_rel step_po (m := (do onEvent (.ready a b); yieldEv (.ready a b); regular : M Unit))
    (feedYield_handler_rel step_po step_onDisconnect inTry) s
  exact (step_po.trans s1 (step_po.trans s2' s3)).traceExt

theorem PollGaps.at {p : Nat} {hi : Bool} {l t : List Obs} (h : PollGaps p hi (l ++ .ev .poll :: t)) :
    ∀ p0, lastPoll t = some p0 → p0 + p ≤ sessOf t ∧ (hi = true → sessOf t < p0 + 2 * p) :=
  (pollGaps_hist p hi).at h rfl

theorem UnrespOK.at {pt : Nat} {l t : List Obs} (h : UnrespOK pt (l ++ .ev .unresponsive :: t)) :
    pt ≠ 0 ∧ sessOf t - lastAlive t > pt :=
  (unrespOK_hist pt).at h rfl

end Lomond.Core.Timers

namespace Lomond.Core.TimerRun
open Lomond Lomond.Core Lomond.Core.Timers

/-- one step of an environment script respects the `selector.wait(max_bytes, poll)` time-out -/
def stepWithin (D : Nat) : EnvStep → Bool
  | .wait dt _ => decide (dt ≤ D)
  | .selErr => true

def envBoundB (D : Nat) (env : List EnvStep) : Bool := env.all (stepWithin D)

theorem envBound_iff (D : Nat) (env : List EnvStep) : EnvBound D env ↔ envBoundB D env = true := by
  unfold EnvBound envBoundB
  rw [List.all_eq_true]
  constructor
  · intro h st hst
    cases st with
    | wait dt rd => simpa [stepWithin] using h dt rd hst
    | selErr => rfl
  · intro h dt rd hm
    simpa [stepWithin] using h _ hm

instance (D : Nat) (env : List EnvStep) : Decidable (EnvBound D env) :=
  decidable_of_iff _ (envBound_iff D env).symm

theorem envBound_nil (D : Nat) : EnvBound D [] := by intro dt rd h; cases h

theorem envBound_cons (D : Nat) (st : EnvStep) (env : List EnvStep) :
    EnvBound D (st :: env) ↔ stepWithin D st = true ∧ EnvBound D env := by
  rw [envBound_iff, envBound_iff]; simp [envBoundB]

theorem envBound_append (D : Nat) (a b : List EnvStep) :
    EnvBound D (a ++ b) ↔ EnvBound D a ∧ EnvBound D b := by
  rw [envBound_iff, envBound_iff, envBound_iff]; simp [envBoundB]

/-- what the real selector does to a requested wait: it returns after at most `D` -/
def clampStep (D : Nat) : EnvStep → EnvStep
  | .wait dt rd => .wait (min dt D) rd
  | .selErr => .selErr

def clampEnv (D : Nat) (env : List EnvStep) : List EnvStep := env.map (clampStep D)

theorem envBound_clamp (D : Nat) (env : List EnvStep) : EnvBound D (clampEnv D env) := by
  intro dt rd h
  unfold clampEnv at h
  rw [List.mem_map] at h
  obtain ⟨st, _, e⟩ := h
  cases st with
  | wait dt' rd' => simp only [clampStep] at e; cases e; exact Nat.min_le_right _ _
  | selErr => cases e

theorem clamp_of_bound (D : Nat) (env : List EnvStep) (h : EnvBound D env) : clampEnv D env = env := by
  unfold clampEnv
  induction env with
  | nil => rfl
  | cons st rest ih =>
    rw [List.map_cons, ih (fun dt rd hm => h dt rd (List.mem_cons_of_mem _ hm))]
    cases st with
    | wait dt rd =>
      have := h dt rd List.mem_cons_self
      simp only [clampStep, Nat.min_eq_left this]
    | selErr => rfl

end Lomond.Core.TimerRun
