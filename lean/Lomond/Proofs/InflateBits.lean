/-
  Bit-level view of the input of Model/Inflate.lean: `Rest inp pos` = the bits of the byte array
  `inp` from bit position `pos` on (LSB first inside every byte).  The readers of the inflater are
  characterised by what they do when `Rest inp pos` starts with a given bit string (`rest_cons`,
  `bits_spec`, `rest_bytes`).
-/
import Lomond.Model.Inflate
import Lomond.Model.DeflEnc
namespace Lomond.Inflate
open Lomond Lomond.DeflEnc

@[simp] theorem bitsLE_length (n v : Nat) : (bitsLE n v).length = n := by
  induction n generalizing v with
  | zero => rfl
  | succ n ih => simp [bitsLE, ih]

@[simp] theorem bitsMSB_length (n v : Nat) : (bitsMSB n v).length = n := by
  simp [bitsMSB]

theorem bitsLE_getElem? (n v i : Nat) :
    (bitsLE n v)[i]? = if i < n then some (v.testBit i) else none := by
  induction n generalizing v i with
  | zero => simp [bitsLE]
  | succ n ih =>
    cases i with
    | zero => simp [bitsLE, Nat.testBit_zero]
    | succ i =>
      simp only [bitsLE, List.getElem?_cons_succ, ih, Nat.testBit_succ]
      simp only [Nat.add_lt_add_iff_right]

theorem bitsLE_add (a b v : Nat) : bitsLE (a + b) v = bitsLE a v ++ bitsLE b (v / 2 ^ a) := by
  induction a generalizing v with
  | zero => simp [bitsLE]
  | succ a ih =>
    rw [show a + 1 + b = (a + b) + 1 by omega]
    simp only [bitsLE, ih, List.cons_append]
    rw [Nat.div_div_eq_div_mul, Nat.pow_succ, Nat.mul_comm]

theorem bitsLE_mod (n v : Nat) : bitsLE n (v % 2 ^ n) = bitsLE n v := by
  apply List.ext_getElem?
  intro i
  rw [bitsLE_getElem?, bitsLE_getElem?]
  split
  · rename_i hi; simp [Nat.testBit_mod_two_pow, hi]
  · rfl

theorem valLE_lt (bs : List Bool) : valLE bs < 2 ^ bs.length := by
  induction bs with
  | nil => simp [valLE]
  | cons b r ih =>
    simp only [valLE, List.length_cons, Nat.pow_succ]
    cases b <;> simp <;> omega

theorem bitsLE_valLE (bs : List Bool) : bitsLE bs.length (valLE bs) = bs := by
  induction bs with
  | nil => rfl
  | cons b r ih =>
    simp only [List.length_cons, bitsLE, valLE]
    have h1 : (b.toNat + 2 * valLE r) / 2 = valLE r := by cases b <;> simp <;> omega
    have h2 : decide ((b.toNat + 2 * valLE r) % 2 = 1) = b := by cases b <;> simp <;> omega
    rw [h1, h2, ih]

theorem valLE_bitsLE (n v : Nat) (h : v < 2 ^ n) : valLE (bitsLE n v) = v := by
  induction n generalizing v with
  | zero => simp at h; simp [bitsLE, valLE, h]
  | succ n ih =>
    simp only [bitsLE, valLE]
    rw [ih (v / 2) (by rw [Nat.pow_succ] at h; omega)]
    rcases Nat.mod_two_eq_zero_or_one v with h0 | h0 <;> simp [h0] <;> omega

theorem bitsLE_inj (n a b : Nat) (ha : a < 2 ^ n) (hb : b < 2 ^ n) (h : bitsLE n a = bitsLE n b) : a = b := by
  rw [← valLE_bitsLE n a ha, ← valLE_bitsLE n b hb, h]

@[simp] theorem bitsOf_nil : bitsOf [] = [] := rfl
theorem bitsOf_cons (x : Nat) (l : Bytes) : bitsOf (x :: l) = bitsLE 8 x ++ bitsOf l := rfl
theorem bitsOf_append (a b : Bytes) : bitsOf (a ++ b) = bitsOf a ++ bitsOf b := by
  simp [bitsOf, List.flatMap_append]

@[simp] theorem bitsOf_length (l : Bytes) : (bitsOf l).length = 8 * l.length := by
  induction l with
  | nil => rfl
  | cons x l ih => rw [bitsOf_cons, List.length_append, bitsLE_length, ih, List.length_cons]; omega

theorem bitsOf_getElem? (l : Bytes) (j : Nat) :
    (bitsOf l)[j]? = if j < 8 * l.length then some ((l.getD (j / 8) 0).testBit (j % 8)) else none := by
  induction l generalizing j with
  | nil => simp
  | cons x l ih =>
    rw [bitsOf_cons, List.getElem?_append, bitsLE_length]
    by_cases hj : j < 8
    · rw [if_pos hj, bitsLE_getElem?, if_pos hj, if_pos (by simp only [List.length_cons]; omega)]
      have h0 : j / 8 = 0 := by omega
      have h1 : j % 8 = j := by omega
      rw [h0, h1]; rfl
    · rw [if_neg hj, ih]
      have h0 : j / 8 = (j - 8) / 8 + 1 := by omega
      have h1 : j % 8 = (j - 8) % 8 := by omega
      rw [h0, h1, List.getD_cons_succ]
      simp only [List.length_cons]
      by_cases h2 : j - 8 < 8 * l.length
      · rw [if_pos h2, if_pos (by omega)]
      · rw [if_neg h2, if_neg (by omega)]

theorem bitsOf_drop (l : Bytes) (i : Nat) : (bitsOf l).drop (8 * i) = bitsOf (l.drop i) := by
  induction l generalizing i with
  | nil => simp
  | cons x l ih =>
    cases i with
    | zero => simp
    | succ i =>
      rw [bitsOf_cons, List.drop_succ_cons, ← ih i]
      rw [show 8 * (i + 1) = (bitsLE 8 x).length + 8 * i by simp; omega, List.drop_length_add_append]

theorem packN_bits (k : Nat) (bs : List Bool) (h : bs.length = 8 * k) : bitsOf (packN k bs) = bs := by
  induction k generalizing bs with
  | zero => simp at h; subst h; rfl
  | succ k ih =>
    simp only [packN, bitsOf_cons]
    rw [ih (bs.drop 8) (by simp; omega)]
    have h8 : (bs.take 8).length = 8 := by simp; omega
    have := bitsLE_valLE (bs.take 8)
    rw [h8] at this
    rw [this, List.take_append_drop]

theorem bitsOf_pack (bs : List Bool) (h : bs.length % 8 = 0) : bitsOf (pack bs) = bs := by
  apply packN_bits
  omega

theorem packN_wf (k : Nat) (bs : List Bool) : ∀ x ∈ packN k bs, x < 256 := by
  induction k generalizing bs with
  | zero => simp [packN]
  | succ k ih =>
    intro x hx
    simp only [packN, List.mem_cons] at hx
    rcases hx with rfl | hx
    · have := valLE_lt (bs.take 8)
      have h2 : 2 ^ (bs.take 8).length ≤ 2 ^ 8 := Nat.pow_le_pow_right (by decide) (by simp; omega)
      omega
    · exact ih _ x hx

theorem pack_wf (bs : List Bool) : ∀ x ∈ pack bs, x < 256 := packN_wf _ bs

def Rest (inp : Array Nat) (pos : Nat) : List Bool := (bitsOf inp.toList).drop pos

theorem rest_length (inp : Array Nat) (pos : Nat) : (Rest inp pos).length = 8 * inp.size - pos := by
  simp [Rest]

theorem rest_nil_iff (inp : Array Nat) (pos : Nat) : Rest inp pos = [] ↔ ¬ pos < 8 * inp.size := by
  simp [Rest, List.drop_eq_nil_iff]

theorem rest_append {inp : Array Nat} {pos : Nat} {a r : List Bool} (h : Rest inp pos = a ++ r) :
    Rest inp (pos + a.length) = r := by
  unfold Rest at h ⊢
  rw [← List.drop_drop, h, List.drop_left]

theorem rest_split {inp : Array Nat} {pos n : Nat} {a r : List Bool} (h : Rest inp pos = a ++ r)
    (hn : pos + a.length = n := by rfl) : Rest inp pos = a ++ Rest inp n := by
  rw [← hn, rest_append h]; exact h

theorem rest_bound {inp : Array Nat} {pos : Nat} {a r : List Bool} (h : Rest inp pos = a ++ r) (ha : a ≠ []) :
    pos + a.length + r.length = 8 * inp.size := by
  have := rest_length inp pos
  rw [h, List.length_append] at this
  have := List.length_pos_iff.mpr ha
  omega

theorem rest_cons {inp : Array Nat} {pos : Nat} {b : Bool} {r : List Bool} (h : Rest inp pos = b :: r) :
    pos < 8 * inp.size ∧ (inp.getD (pos / 8) 0 >>> (pos % 8)) % 2 = b.toNat ∧ Rest inp (pos + 1) = r := by
  have hlt : pos < 8 * inp.size := by
    have := rest_length inp pos
    rw [h] at this; simp at this; omega
  refine ⟨hlt, ?_, rest_append (a := [b]) h⟩
  have hg : (bitsOf inp.toList)[pos]? = some b := by
    have : (Rest inp pos)[0]? = some b := by rw [h]; rfl
    simpa [Rest, List.getElem?_drop] using this
  rw [bitsOf_getElem?, if_pos (by simpa using hlt)] at hg
  simp only [Option.some.injEq] at hg
  rw [← hg, Nat.toNat_testBit, Nat.shiftRight_eq_div_pow]
  simp [Array.getD_eq_getD_getElem?, List.getD_eq_getElem?_getD]

/-- the 24-bit word `bits` reads, bit by bit: bit `k` is bit `k % 8` of byte `k / 8` -/
theorem word_testBit (f : Nat → Nat) (hf : ∀ j, f j < 256) (q k : Nat) (hk : k < 24) :
    (f q + f (q + 1) * 256 + f (q + 2) * 65536).testBit k = (f (q + k / 8)).testBit (k % 8) := by
  have e : f q + f (q + 1) * 256 + f (q + 2) * 65536 = 2 ^ 8 * (2 ^ 8 * f (q + 2) + f (q + 1)) + f q := by omega
  rw [e, Nat.testBit_two_pow_mul_add _ (hf q)]
  by_cases h8 : k < 8
  · rw [if_pos h8, show k / 8 = 0 by omega, show k % 8 = k by omega]; rfl
  · rw [if_neg h8, Nat.testBit_two_pow_mul_add _ (hf (q + 1))]
    by_cases h16 : k < 16
    · rw [if_pos (by omega), show k / 8 = 1 by omega, show k % 8 = k - 8 by omega]
    · rw [if_neg (by omega), show k / 8 = 2 by omega, show k % 8 = k - 8 - 8 by omega]

theorem getD_toList (inp : Array Nat) (i : Nat) : inp.toList.getD i 0 = inp.getD i 0 := by
  simp [Array.getD_eq_getD_getElem?, List.getD_eq_getElem?_getD]

theorem bits_spec {inp : Array Nat} (hwf : ∀ x ∈ inp.toList, x < 256) {pos n v : Nat} {r : List Bool}
    (hn : n ≤ 16) (hv : v < 2 ^ n) (hp : pos ≤ 8 * inp.size) (h : Rest inp pos = bitsLE n v ++ r) :
    bits inp pos n = .ok v (pos + n) := by
  have hlen := rest_length inp pos
  rw [h, List.length_append, bitsLE_length] at hlen
  have hle : pos + n ≤ 8 * inp.size := by omega
  simp only [bits, if_pos hle]
  congr 1
  have wf : ∀ i, inp.getD i 0 < 256 := by
    intro i
    rw [Array.getD_eq_getD_getElem?]
    cases hx : inp[i]? with
    | none => simp
    | some x =>
      simp only [Option.getD_some]
      apply hwf
      rw [Array.getElem?_eq_some_iff] at hx
      obtain ⟨hi, rfl⟩ := hx
      simp
  apply Nat.eq_of_testBit_eq
  intro i
  rw [Nat.testBit_mod_two_pow, Nat.testBit_shiftRight]
  by_cases hi : i < n
  · simp only [hi, decide_true, Bool.true_and]
    rw [word_testBit (fun j => inp.getD j 0) wf _ _ (by omega)]
    have hg : (bitsOf inp.toList)[pos + i]? = some (v.testBit i) := by
      have : (Rest inp pos)[i]? = some (v.testBit i) := by
        rw [h, List.getElem?_append_left (by simp; exact hi), bitsLE_getElem?, if_pos hi]
      simpa [Rest, List.getElem?_drop] using this
    rw [bitsOf_getElem?, if_pos (by simp; omega)] at hg
    simp only [Option.some.injEq] at hg
    rw [← hg, getD_toList, show (pos + i) / 8 = pos / 8 + (pos % 8 + i) / 8 by omega,
      show (pos + i) % 8 = (pos % 8 + i) % 8 by omega]
  · simp only [hi, decide_false, Bool.false_and]
    symm
    apply Nat.testBit_lt_two_pow
    exact Nat.lt_of_lt_of_le hv (Nat.pow_le_pow_right (by decide) (by omega))

theorem bitsOf_prefix (a b : Bytes) (r : List Bool) (ha : ∀ x ∈ a, x < 256) (hb : ∀ x ∈ b, x < 256)
    (h : bitsOf a = bitsOf b ++ r) : ∃ tl, a = b ++ tl ∧ bitsOf tl = r := by
  induction b generalizing a with
  | nil => exact ⟨a, rfl, by simpa using h⟩
  | cons y b ih =>
    cases a with
    | nil =>
      have := congrArg List.length h
      simp [bitsOf_cons] at this
      omega
    | cons x a =>
      rw [bitsOf_cons, bitsOf_cons, List.append_assoc] at h
      have h1 := List.append_inj h (by simp)
      have hxy : x = y := bitsLE_inj 8 x y (ha x (by simp)) (hb y (by simp)) h1.1
      obtain ⟨tl, h2, h3⟩ := ih a (fun z hz => ha z (by simp [hz])) (fun z hz => hb z (by simp [hz])) h1.2
      exact ⟨tl, by rw [hxy, h2]; rfl, h3⟩

theorem rest_bytes {inp : Array Nat} (hwf : ∀ x ∈ inp.toList, x < 256) {i : Nat} {bytes : Bytes} {r : List Bool}
    (hb : ∀ x ∈ bytes, x < 256) (h : Rest inp (8 * i) = bitsOf bytes ++ r) :
    ∃ tl, inp.toList.drop i = bytes ++ tl ∧ bitsOf tl = r := by
  unfold Rest at h
  rw [bitsOf_drop] at h
  exact bitsOf_prefix _ _ _ (fun x hx => hwf x (List.mem_of_mem_drop hx)) hb h

end Lomond.Inflate
