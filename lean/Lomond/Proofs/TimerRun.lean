/-
  The automatic Ping over a whole connection (C15): the invariant `PI` with slack (`_next_ping` is a
  multiple of the rate, flags show on the trace, `PW`; every period the session entered has had its
  Ping, `CoverS`) carries the grid rule of `Proofs/PingGrid.lean` along (`PIG`) and is an instance of
  `Timer` (`timerP`).  Results: `finP_runAll`, `Timers.ginv_runAll`.  The close timeout and what the
  timers share are in `Proofs/TimerClose.lean`, the ping timeout in `Proofs/TimerPing.lean`; the three
  results are used by Properties/C15_Run.lean.
-/
import Lomond.Proofs.TimerPing
import Lomond.Proofs.PingGrid
namespace Lomond.Core.TimerRun
open Lomond Lomond.Core Lomond.Core.Lift Lomond.Core.Pong Lomond.Core.Timers Lomond.Core.LiftX

def isClosingEv : Obs → Bool
  | .ev (.closing _ _) => true
  | _ => false

/-- entries that show the connection is no longer simply open: a Close frame handed to `sendall`, the
    socket closed, a `Closing` or `Closed` event -/
def csEv (o : Obs) : Bool := o.isClose || o == .sockClose || isClosingEv o || isClosedEv o

def closeStarted (tr : List Obs) : Bool := tr.any csEv

/-- a Ping was attempted by the library in the window `(k·r, k·r + D]`: one of its own Ping frames
    was written at such a session time (`pingStamps`), or a Ping frame write failed at such a time -/
def HasTry (r D k : Nat) (tr : List Obs) : Prop :=
  (∃ q ∈ pingStamps tr, k * r < q ∧ q ≤ k * r + D) ∨
  (∃ l b t0, tr = l ++ .wrFail b :: t0 ∧ isPingFrame b = true ∧ k * r < sessOf t0 ∧ sessOf t0 ≤ k * r + D)

/-- **every period the session had entered `sl` ticks ago has had its Ping** (while the connection is
    open) -/
def CoverS (cfg0 : Cfg) (sl : Nat) (tr : List Obs) : Prop :=
  cfg0.pingRate ≠ 0 → cfg0.v.closeArgs = true → readyAt tr ≠ none → connSeen tr = true → closeStarted tr = false →
    ∀ k, k * cfg0.pingRate + sl < sessOf tr → HasTry cfg0.pingRate cfg0.poll k tr

/-- **every period the session has entered has had its Ping** (while the connection is open) -/
def Cover (cfg0 : Cfg) (tr : List Obs) : Prop := CoverS cfg0 0 tr

/-- **the loop never goes back to `selector.wait` with a Ping outstanding** -/
def TickP (cfg0 : Cfg) : List Obs → Prop
  | [] => True
  | o :: t => (o.tmTickVal.isSome = true → Cover cfg0 t) ∧ TickP cfg0 t

theorem tickP_hist (cfg0 : Cfg) : IsHist (TickP cfg0) (fun o t => o.tmTickVal.isSome = true → Cover cfg0 t) :=
  hist_of_rec trivial (fun _ _ => Iff.rfl)

theorem tickP_ignores (cfg0 : Cfg) : Ignores (TickP cfg0) (fun o => o.tmTickVal = none) :=
  (tickP_hist cfg0).ignores (fun o t ho hn => by rw [ho] at hn; cases hn)

theorem closeStarted_append_false {l t : List Obs} (h : closeStarted (l ++ t) = false) : closeStarted t = false := by
  unfold closeStarted at *
  rw [List.any_append, Bool.or_eq_false_iff] at h
  exact h.2

theorem closeStarted_mono {l t : List Obs} (h : closeStarted t = true) : closeStarted (l ++ t) = true := by
  unfold closeStarted at *
  rw [List.any_append, h, Bool.or_true]

theorem hasTry_append {r D k : Nat} (l t : List Obs) (hs : ∀ q ∈ pingStamps t, q ∈ pingStamps (l ++ t))
    (h : HasTry r D k t) : HasTry r D k (l ++ t) := by
  rcases h with ⟨q, hq, h1⟩ | ⟨l1, b, t0, e, h1⟩
  · exact Or.inl ⟨q, hs q hq, h1⟩
  · exact Or.inr ⟨l ++ l1, b, t0, by rw [e, List.append_assoc], h1⟩

def _root_.Lomond.Core.Obs.pN (o : Obs) : Bool := o.tmGneutral && !isConnEv o

theorem pN_iff (o : Obs) : o.pN = true ↔ o.tmGneutral = true ∧ isConnEv o = false := by
  unfold Obs.pN; cases o.tmGneutral <;> cases isConnEv o <;> simp

theorem connSeen_append_pN (l t : List Obs) (h : ∀ o ∈ l, Obs.pN o = true) : connSeen (l ++ t) = connSeen t :=
  connSeen_ignores.append l t (fun o ho => ((pN_iff o).mp (h o ho)).2)

theorem facts_append_pN (l t : List Obs) (h : ∀ o ∈ l, Obs.pN o = true) :
    clockOf (l ++ t) = clockOf t ∧ readyAt (l ++ t) = readyAt t ∧ pingStamps (l ++ t) = pingStamps t ∧
    sessOf (l ++ t) = sessOf t := by
  obtain ⟨a, b, c⟩ := append_gneutral l t (fun o ho => ((pN_iff o).mp (h o ho)).1)
  exact ⟨a, b, c, by unfold sessOf; rw [a, b]⟩

/-- **a websocket that is closing / closed, or a socket that is gone, shows on the trace** (once
    `Connected` was yielded; `closeArgs`: the repaired argument check of `close()`) -/
def FlagEv (cfg0 : Cfg) (s : Sys) : Prop :=
  (s.closing = true ∨ s.closed = true ∨ s.sockOpen = false) →
    closeStarted s.trace = true ∨ connSeen s.trace = false ∨ cfg0.v.closeArgs = false

theorem FlagEv.open {cfg0 : Cfg} {s : Sys} (h : FlagEv cfg0 s) (hcs : closeStarted s.trace = false)
    (hcn : connSeen s.trace = true) (hv : cfg0.v.closeArgs = true) : Open s := by
  have key : ¬ (s.closing = true ∨ s.closed = true ∨ s.sockOpen = false) := by
    intro hf
    rcases h hf with h' | h' | h'
    · rw [hcs] at h'; cases h'
    · rw [hcn] at h'; cases h'
    · rw [hv] at h'; cases h'
  refine ⟨?_, ?_, ?_⟩
  · cases hx : s.sockOpen with
    | true => rfl
    | false => exact absurd (Or.inr (Or.inr hx)) key
  · cases hx : s.closing with
    | false => rfl
    | true => exact absurd (Or.inl hx) key
  · cases hx : s.closed with
    | false => rfl
    | true => exact absurd (Or.inr (Or.inl hx)) key

/-- what holds in every state of a connection, whatever the slack (`Pfresh`, `Npt`, `CoverS` depend on it) -/
structure PW (hi : Bool) (cfg0 : Cfg) (s : Sys) : Prop where
  mult : ∃ m, s.nextPing = m * cfg0.pingRate
  flag : FlagEv cfg0 s
  tok : hi = true → TickP cfg0 s.trace
  /-- the session did not start in the future -/
  le : ∀ t0, readyAt s.trace = some t0 → t0 ≤ clockOf s.trace

/-- **no Ping is outstanding** by more than the slack: the session time has not passed `_next_ping` -/
def Pfresh (cfg0 : Cfg) (sl : Nat) (s : Sys) : Prop :=
  cfg0.pingRate ≠ 0 → readyAt s.trace ≠ none → sessOf s.trace ≤ s.nextPing + sl

/-- `_next_ping` is less than one period ahead of the session time `sl` ticks ago -/
def Npt (cfg0 : Cfg) (sl : Nat) (s : Sys) : Prop :=
  cfg0.pingRate ≠ 0 → readyAt s.trace ≠ none → s.nextPing + sl < sessOf s.trace + cfg0.pingRate

structure PI (hi : Bool) (cfg0 : Cfg) (env0 : List EnvStep) (sl : Nat) (s : Sys) : Prop where
  b : Base cfg0 env0 s
  w : PW hi cfg0 s
  f : Pfresh cfg0 sl s
  n : Npt cfg0 sl s
  c : hi = true → CoverS cfg0 sl s.trace

def RP' (hi : Bool) (cfg0 : Cfg) (env0 : List EnvStep) (sl : Nat) (s s' : Sys) : Prop :=
  PI hi cfg0 env0 sl s → PI hi cfg0 env0 sl s'

/-- a step that is quiet for the automatic Ping: `_next_ping` and the websocket flags untouched, the
    socket closed only with a `sockClose` mark, only `pN` entries appended -/
structure PQ (s s' : Sys) : Prop where
  cfg : s'.cfg = s.cfg
  env : s'.env = s.env
  ready : s'.ready = s.ready
  startTime : s'.startTime = s.startTime
  now : s'.now = s.now
  nextPing : s'.nextPing = s.nextPing
  closing : s'.closing = s.closing
  closed : s'.closed = s.closed
  sock : s'.sockOpen = s.sockOpen ∨ (s'.sockOpen = false ∧ Obs.sockClose ∈ s'.trace)
  trace : ∃ l, s'.trace = l ++ s.trace ∧ ∀ o ∈ l, Obs.pN o = true

theorem pq_po : PO PQ where
  refl s := ⟨rfl, rfl, rfl, rfl, rfl, rfl, rfl, rfl, Or.inl rfl, ⟨[], rfl, by simp⟩⟩
  trans := by
    intro a b c h1 h2
    obtain ⟨l1, e1, n1⟩ := h1.trace
    obtain ⟨l2, e2, n2⟩ := h2.trace
    refine ⟨h2.cfg.trans h1.cfg, h2.env.trans h1.env, h2.ready.trans h1.ready, h2.startTime.trans h1.startTime,
      h2.now.trans h1.now, h2.nextPing.trans h1.nextPing, h2.closing.trans h1.closing, h2.closed.trans h1.closed,
      ?_, ext_trans h1.trace h2.trace⟩
    rcases h2.sock with h | h
    · rcases h1.sock with h' | ⟨h', hm⟩
      · exact Or.inl (h.trans h')
      · exact Or.inr ⟨h.trans h', by rw [e2]; exact List.mem_append_right _ hm⟩
    · exact Or.inr h

section AutoPingInv
variable {hi : Bool} {cfg0 : Cfg} {env0 : List EnvStep} {sl : Nat}

theorem rp'_po : PO (RP' hi cfg0 env0 sl) where
  refl _ := id
  trans h1 h2 := fun h => h2 (h1 h)

theorem closeStarted_of_mem {tr : List Obs} {o : Obs} (hm : o ∈ tr) (ho : csEv o = true) : closeStarted tr = true := by
  unfold closeStarted; rw [List.any_eq_true]; exact ⟨o, hm, ho⟩

theorem FlagEv.of_pq {s s' : Sys} (q : PQ s s') (h : FlagEv cfg0 s) : FlagEv cfg0 s' := by
  obtain ⟨l, e, n⟩ := q.trace
  intro hf
  have lift : closeStarted s.trace = true ∨ connSeen s.trace = false ∨ cfg0.v.closeArgs = false →
      closeStarted s'.trace = true ∨ connSeen s'.trace = false ∨ cfg0.v.closeArgs = false := by
    intro hx
    rcases hx with hx | hx | hx
    · exact Or.inl (by rw [e]; exact closeStarted_mono hx)
    · exact Or.inr (Or.inl (by rw [e, connSeen_append_pN l _ n]; exact hx))
    · exact Or.inr (Or.inr hx)
  rw [q.closing, q.closed] at hf
  rcases hf with hf | hf | hf
  · exact lift (h (Or.inl hf))
  · exact lift (h (Or.inr (Or.inl hf)))
  · rcases q.sock with hs | ⟨_, hm⟩
    · exact lift (h (Or.inr (Or.inr (hs ▸ hf))))
    · exact Or.inl (closeStarted_of_mem hm (by simp [csEv]))

theorem PI.ext {s s' : Sys} (h : PI hi cfg0 env0 sl s) (e1 : s'.cfg = s.cfg) (e2 : s'.env = s.env)
    (e3 : s'.ready = s.ready) (e4 : s'.startTime = s.startTime) (e5 : s'.now = s.now)
    (e6 : s'.nextPing = s.nextPing) (l : List Obs) (e : s'.trace = l ++ s.trace)
    (f1 : clockOf (l ++ s.trace) = clockOf s.trace) (f2 : readyAt (l ++ s.trace) = readyAt s.trace)
    (f3 : pingStamps (l ++ s.trace) = pingStamps s.trace) (fc : connSeen (l ++ s.trace) = connSeen s.trace)
    (ht : ∀ o ∈ l, o.tmTickVal = none) (hf : FlagEv cfg0 s') : PI hi cfg0 env0 sl s' := by
  have f4 : sessOf (l ++ s.trace) = sessOf s.trace := by unfold sessOf; rw [f1, f2]
  refine ⟨⟨e1.trans h.b.cfg, e2.trans h.b.env, ?_, ?_, by rw [e3, e4]; exact h.b.rdy⟩,
    ⟨?_, hf, ?_, by rw [e, f1, f2]; exact h.w.le⟩, ?_, ?_, ?_⟩
  · rw [e5, e, f1]; exact h.b.now
  · rw [e4, e, f2]; exact h.b.start
  · rw [e6]; exact h.w.mult
  · intro hhi; rw [e, (tickP_ignores _).append l _ ht]; exact h.w.tok hhi
  · unfold Pfresh; rw [e6, e, f2, f4]; exact h.f
  · unfold Npt; rw [e6, e, f2, f4]; exact h.n
  · intro hhi
    rw [e]
    intro hr hv hrd hcn hcs k hk
    rw [f2] at hrd
    rw [fc] at hcn
    rw [f4] at hk
    exact hasTry_append l _ (fun q hq => f3 ▸ hq) (h.c hhi hr hv hrd hcn (closeStarted_append_false hcs) k hk)

theorem PI.quiet {s s' : Sys} (h : PI hi cfg0 env0 sl s) (q : PQ s s') : PI hi cfg0 env0 sl s' := by
  obtain ⟨l, e, n⟩ := q.trace
  obtain ⟨f1, f2, f3, _⟩ := facts_append_pN l s.trace n
  exact h.ext q.cfg q.env q.ready q.startTime q.now q.nextPing l e f1 f2 f3 (connSeen_append_pN l _ n)
    (fun o ho => ((gneutral_iff o).mp ((pN_iff o).mp (n o ho)).1).1) (h.w.flag.of_pq q)

theorem rp'_of_pq {m : M α} (h : Spec PQ m) : Spec (RP' hi cfg0 env0 sl) m := fun s hs => hs.quiet (h s)

/-- the automatic-Ping invariant together with the grid rule (`C15.ping_grid`): the library's Ping stamps
    on the trace lie in different periods, the next one due only after `_next_ping`.  Stamps and
    `_next_ping` change at `_check_auto_ping` and at Ready only, so the rule rides along -/
structure PIG (hi : Bool) (cfg0 : Cfg) (env0 : List EnvStep) (sl : Nat) (s : Sys) : Prop
    extends PI hi cfg0 env0 sl s where
  grid : Grid cfg0.pingRate (s.nextPing + 1) (pingStamps s.trace)

theorem PIG.ginv {s : Sys} (h : PIG hi cfg0 env0 sl s) : GInv s :=
  ⟨h.b.now, h.b.start, by rw [h.b.cfg]; exact h.grid, by rw [h.b.cfg]; exact h.w.mult⟩

theorem PIG.of_ginv {s : Sys} (h : PI hi cfg0 env0 sl s) (g : GInv s) : PIG hi cfg0 env0 sl s :=
  ⟨h, by have := g.grid; rwa [h.b.cfg] at this⟩

theorem PIG.ext {s s' : Sys} (h : PIG hi cfg0 env0 sl s) (e1 : s'.cfg = s.cfg) (e2 : s'.env = s.env)
    (e3 : s'.ready = s.ready) (e4 : s'.startTime = s.startTime) (e5 : s'.now = s.now)
    (e6 : s'.nextPing = s.nextPing) (l : List Obs) (e : s'.trace = l ++ s.trace)
    (f1 : clockOf (l ++ s.trace) = clockOf s.trace) (f2 : readyAt (l ++ s.trace) = readyAt s.trace)
    (f3 : pingStamps (l ++ s.trace) = pingStamps s.trace) (fc : connSeen (l ++ s.trace) = connSeen s.trace)
    (ht : ∀ o ∈ l, o.tmTickVal = none) (hf : FlagEv cfg0 s') : PIG hi cfg0 env0 sl s' :=
  ⟨h.toPI.ext e1 e2 e3 e4 e5 e6 l e f1 f2 f3 fc ht hf, by rw [e6, e, f3]; exact h.grid⟩

theorem PIG.quiet {s s' : Sys} (h : PIG hi cfg0 env0 sl s) (q : PQ s s') : PIG hi cfg0 env0 sl s' := by
  obtain ⟨l, e, n⟩ := q.trace
  exact ⟨h.toPI.quiet q, by rw [q.nextPing, e, (facts_append_pN l s.trace n).2.2.1]; exact h.grid⟩

theorem PQ.same {s s' : Sys} (e1 : s'.cfg = s.cfg) (e2 : s'.env = s.env) (e3 : s'.ready = s.ready)
    (e4 : s'.startTime = s.startTime) (e5 : s'.now = s.now) (e6 : s'.nextPing = s.nextPing)
    (e7 : s'.closing = s.closing) (e8 : s'.closed = s.closed) (e9 : s'.sockOpen = s.sockOpen)
    (e10 : s'.trace = s.trace) : PQ s s' :=
  ⟨e1, e2, e3, e4, e5, e6, e7, e8, Or.inl e9, ⟨[], e10, by simp⟩⟩

theorem PQ.one {s s' : Sys} {o : Obs} (e1 : s'.cfg = s.cfg) (e2 : s'.env = s.env) (e3 : s'.ready = s.ready)
    (e4 : s'.startTime = s.startTime) (e5 : s'.now = s.now) (e6 : s'.nextPing = s.nextPing)
    (e7 : s'.closing = s.closing) (e8 : s'.closed = s.closed) (e9 : s'.sockOpen = s.sockOpen)
    (e10 : s'.trace = o :: s.trace) (ho : o.pN = true) : PQ s s' :=
  ⟨e1, e2, e3, e4, e5, e6, e7, e8, Or.inl e9, ⟨[o], e10, by simpa using ho⟩⟩

theorem pq_closeSocket : Spec PQ closeSocket :=
  spec_closeSocket pq_po fun _ _ => ⟨rfl, rfl, rfl, rfl, rfl, rfl, rfl, rfl, Or.inr ⟨rfl, List.mem_cons_self⟩, ⟨[.sockClose], rfl, by
    simp [Obs.pN, Obs.tmGneutral, Obs.tmTickVal, Obs.tmIsReady, Obs.tmIsRes, Obs.tmPingWr, isConnEv]⟩⟩

theorem pq_selClose : Spec PQ selClose :=
  spec_selClose pq_po fun _ _ => PQ.one rfl rfl rfl rfl rfl rfl rfl rfl rfl rfl
    (by simp [Obs.pN, Obs.tmGneutral, Obs.tmTickVal, Obs.tmIsReady, Obs.tmIsRes, Obs.tmPingWr, isConnEv])

theorem pq_write (d : Bytes) (z : Option (Nat × Bytes)) (h : isPingFrame d = false) : Spec PQ (write d z) := by
  refine spec_write pq_po d z (fun s o _ _ _ ho => PQ.one rfl rfl rfl rfl rfl rfl rfl rfl rfl rfl ?_)
  rcases ho with rfl | rfl
  · rfl
  · match z with
    | none => simp [wrObs, Obs.pN, Obs.tmGneutral, Obs.tmTickVal, Obs.tmIsReady, Obs.tmIsRes, Obs.tmPingWr, isConnEv, h]
    | some (op, pl) => rfl

theorem pq_sendFrame (op : Nat) (pl : Bytes) (hop : op ≠ Gen.opPing) : Spec PQ (sendFrame op pl none) := by
  intro s; unfold sendFrame; simp only []
  split
  · rename_i bs hb
    refine pq_po.trans (PQ.same rfl rfl rfl rfl rfl rfl rfl rfl rfl rfl : PQ s { s with keyCtr := s.keyCtr + 1 })
      (pq_write bs none ?_ _)
    exact not_pingFrame_of_head (build_head _ _ _ _ hb) hop
  · exact PQ.same rfl rfl rfl rfl rfl rfl rfl rfl rfl rfl

theorem pN_ev {e : Event} (h1 : (Obs.ev e).tmIsReady = false) (h2 : isConnEv (.ev e) = false) : (Obs.ev e).pN = true := by
  rw [pN_iff]
  exact ⟨(gneutral_iff _).mpr ⟨rfl, h1, rfl, rfl⟩, h2⟩

theorem pq_pushEv (e : Event) (s : Sys) (h1 : (Obs.ev e).tmIsReady = false) (h2 : isConnEv (.ev e) = false) :
    PQ s (Core.pushEv e s) :=
  PQ.one rfl rfl rfl rfl rfl rfl rfl rfl rfl rfl (pN_ev h1 h2)

theorem pq_modS {f : Sys → Sys} (h : ∀ s, PQ s (f s)) : Spec PQ (modS f) := fun s => h s

end AutoPingInv

section AutoPingCalls
variable {hi : Bool} {cfg0 : Cfg} {env0 : List EnvStep} {sl : Nat}

/-- effect of an application call (before its result token is logged) -/
structure PA (cfg0 : Cfg) (s s' : Sys) : Prop where
  cfg : s'.cfg = s.cfg
  env : s'.env = s.env
  ready : s'.ready = s.ready
  startTime : s'.startTime = s.startTime
  now : s'.now = s.now
  nextPing : s'.nextPing = s.nextPing
  tr : s'.trace = s.trace ∨ ∃ o, s'.trace = o :: s.trace ∧ WrEntry o
  flag : s.cfg = cfg0 → FlagEv cfg0 s → FlagEv cfg0 s'

theorem pa_refl (s : Sys) : PA cfg0 s s := ⟨rfl, rfl, rfl, rfl, rfl, rfl, Or.inl rfl, fun _ h => h⟩

theorem flagEv_cons {s s' : Sys} {o : Obs} (e : s'.trace = o :: s.trace) (ho : isConnEv o = false)
    (e1 : s'.closing = s.closing) (e2 : s'.closed = s.closed) (e3 : s'.sockOpen = s.sockOpen)
    (h : FlagEv cfg0 s) : FlagEv cfg0 s' := by
  intro hf
  rw [e1, e2, e3] at hf
  rcases h hf with hx | hx | hx
  · exact Or.inl (by rw [e]; exact closeStarted_mono (l := [o]) hx)
  · exact Or.inr (Or.inl (by rw [e]; simp only [connSeen, List.any_cons, ho, Bool.false_or]; exact hx))
  · exact Or.inr (Or.inr hx)

theorem flagEv_same {s s' : Sys} (e : s'.trace = s.trace)
    (e1 : s'.closing = s.closing) (e2 : s'.closed = s.closed) (e3 : s'.sockOpen = s.sockOpen)
    (h : FlagEv cfg0 s) : FlagEv cfg0 s' := by
  intro hf
  rw [e1, e2, e3] at hf
  rw [e]; exact h hf

theorem pa_write (d : Bytes) (z : Option (Nat × Bytes)) (s : Sys) : PA cfg0 s (write d z s).state := by
  rcases write_obs d z s with ⟨_, r, e⟩ | ⟨_, r, o, e, hsa⟩ <;> rw [e]
  · exact pa_refl s
  · have hw := wrEntry_of_isWrite hsa.isWrite
    exact ⟨rfl, rfl, rfl, rfl, rfl, rfl, Or.inr ⟨o, rfl, hw⟩, fun _ h => flagEv_cons rfl hw.facts.2.2.2 rfl rfl rfl h⟩

theorem PA.after_same {s s1 s2 : Sys} (h : PA cfg0 s1 s2) (e1 : s1.cfg = s.cfg) (e2 : s1.env = s.env)
    (e3 : s1.ready = s.ready) (e4 : s1.startTime = s.startTime) (e5 : s1.now = s.now)
    (e6 : s1.nextPing = s.nextPing) (e7 : s1.trace = s.trace) (hf : s.cfg = cfg0 → FlagEv cfg0 s → FlagEv cfg0 s1) :
    PA cfg0 s s2 :=
  ⟨h.cfg.trans e1, h.env.trans e2, h.ready.trans e3, h.startTime.trans e4, h.now.trans e5,
   h.nextPing.trans e6, by rw [← e7]; exact h.tr, fun hc hx => h.flag (e1.trans hc) (hf hc hx)⟩

theorem pa_sendFrame (op : Nat) (pl : Bytes) (c : Option Bytes) (s : Sys) : PA cfg0 s (sendFrame op pl c s).state :=
  sendFrame_elim (P := fun q => PA cfg0 s q.state) op pl c s
    (fun _ _ => ⟨rfl, rfl, rfl, rfl, rfl, rfl, Or.inl rfl, fun _ h => flagEv_same rfl rfl rfl rfl h⟩)
    (fun _ _ _ => (pa_write _ _ _).after_same rfl rfl rfl rfl rfl rfl rfl (fun _ h => flagEv_same rfl rfl rfl rfl h))

theorem pa_sendData (op : Nat) (pl : Bytes) (c : Bool) (s : Sys) : PA cfg0 s (sendData op pl c s).state := by
  unfold sendData; split <;> exact pa_sendFrame _ _ _ s

theorem isClose_csEv {o : Obs} (h : o.isClose = true) : csEv o = true := by simp [csEv, h]

/-- `close()`: when it arms the timer the websocket is closing, and that shows on the trace -/
theorem pa_wsClose (c : Option Nat) (r : Arg) (s : Sys) : PA cfg0 s (wsClose c r s).state := by
  rcases wsClose_obs c r s with ⟨a, e, _⟩ | ⟨hs, hno, e⟩ | ⟨ho, o, pl, bs, e, _, hbs, hsa⟩ <;> rw [e]
  · exact pa_refl s
  · refine ⟨rfl, rfl, rfl, rfl, rfl, rfl, Or.inl rfl, fun hc hf _ => ?_⟩
    cases hv : cfg0.v.closeArgs with
    | false => exact Or.inr (Or.inr rfl)
    | true => exact hv ▸ hf (Or.inr (Or.inr (noSocket_of_refused hs (hno (by rw [hc]; exact hv)))))
  · refine ⟨rfl, rfl, rfl, rfl, rfl, rfl, Or.inr ⟨o, rfl, wrEntry_of_isWrite hsa.isWrite⟩, fun _ _ _ => Or.inl ?_⟩
    show closeStarted (o :: s.trace) = true
    simp only [closeStarted, List.any_cons, isClose_csEv (closeEntry hbs hsa).1, Bool.true_or]

theorem pa_sessionClose (s : Sys) : PA cfg0 s ((do closeSocket; pure ActRes.ok : M ActRes) s).state := by
  obtain ⟨s1, e1⟩ := closeSocket_ok s
  rw [bind_ok e1]
  show PA cfg0 s s1
  unfold closeSocket at e1
  split at e1
  · cases e1
    refine ⟨rfl, rfl, rfl, rfl, rfl, rfl, Or.inr ⟨_, rfl, Or.inr (Or.inr (Or.inr rfl))⟩, fun _ _ _ => Or.inl ?_⟩
    simp [closeStarted, csEv]
  · cases e1; exact pa_refl s

/-- the head of the trace is not one of the library's own Ping frames (true after every event
    hand-over and after every result token) -/
def TopOK (tr : List Obs) : Prop := ∀ o t, tr = o :: t → o.tmPingWr = false

theorem stamps_res_top (r : ActRes) (tr : List Obs) (h : TopOK tr) : pingStamps (.res r :: tr) = pingStamps tr := by
  rw [stamps_res_cons]
  cases tr with
  | nil => rfl
  | cons o t =>
    have ho := h o t rfl
    unfold pingStamps
    by_cases hr : o.tmIsReady = true
    · rw [stampsAux_ready _ _ hr, stampsAux_ready _ _ hr]
    · have hr' : o.tmIsReady = false := by simpa using hr
      rw [stampsAux_true_cons t hr', stampsAux_false_cons t hr', ho]
      simp

theorem PIG.appCall {s s1 : Sys} (h : PIG hi cfg0 env0 sl s) (a : PA cfg0 s s1) (r : ActRes) (htop : TopOK s.trace) :
    PIG hi cfg0 env0 sl { s1 with trace := .res r :: s1.trace } ∧ TopOK (.res r :: s1.trace) := by
  refine ⟨?_, fun o t e => (by cases e; rfl)⟩
  have hf1 := a.flag h.b.cfg h.w.flag
  rcases a.tr with e | ⟨o, e, ho⟩
  · refine h.ext a.cfg a.env a.ready a.startTime a.now a.nextPing [.res r] (by show _ :: s1.trace = _; rw [e]; rfl)
      rfl rfl (stamps_res_top r _ htop) (by simp [connSeen, isConnEv]) (by intro o ho; simp at ho; subst ho; rfl) ?_
    exact flagEv_cons (s := s1) rfl rfl rfl rfl rfl hf1
  · obtain ⟨o1, o2, o3, o4⟩ := ho.facts
    refine h.ext a.cfg a.env a.ready a.startTime a.now a.nextPing [.res r, o] (by show _ :: s1.trace = _; rw [e]; rfl)
      ?_ ?_ (stamps_res_write r _ o2 o3) ?_ ?_ ?_
    · show clockOf (.res r :: o :: s.trace) = _
      rw [clockOf_cons_of _ rfl, clockOf_cons_of _ o1]
    · show readyAt (.res r :: o :: s.trace) = _
      rw [readyAt_cons_of _ rfl, readyAt_cons_of _ o2]
    · show (isConnEv (.res r) || (isConnEv o || s.trace.any isConnEv)) = s.trace.any isConnEv
      rw [o4]; rfl
    · intro o' ho'
      simp at ho'
      rcases ho' with rfl | rfl
      · rfl
      · exact o1
    · exact flagEv_cons (s := s1) rfl rfl rfl rfl rfl hf1

theorem PIG.act (a : Act) {s : Sys} (h : PIG hi cfg0 env0 sl s) (htop : TopOK s.trace) :
    (∃ s2, doAct a s = .ok () s2 ∧ PIG hi cfg0 env0 sl s2 ∧ TopOK s2.trace) ∨
    (∃ s2, doAct a s = .err .genExit s2 ∧ PIG hi cfg0 env0 sl s2) := by
  rcases doAct_api a with ⟨m, hm, e⟩ | ⟨w, _, e⟩
  · rw [e]
    obtain ⟨r, s1, e1, _⟩ := api_eff hm s
    have ha : PA cfg0 s (m s).state := by
      cases hm with
      | argError r => exact pa_refl s
      | data op pl c _ => exact pa_sendData op pl c s
      | ctrl op pl _ => exact pa_sendFrame op pl none s
      | close code reason => exact pa_wsClose code reason s
      | sessionClose => exact pa_sessionClose s
    rw [e1] at ha
    exact Or.inl ⟨_, logRes_ok e1, h.appCall ha r htop⟩
  · rw [e]
    exact Or.inr ⟨_, rfl, h.ext rfl rfl rfl rfl rfl rfl [] rfl rfl rfl rfl rfl (by intro o ho; cases ho)
      (flagEv_same rfl rfl rfl rfl h.w.flag)⟩

theorem PIG.acts (as : List Act) {s : Sys} (h : PIG hi cfg0 env0 sl s) (htop : TopOK s.trace) :
    (∃ s2, doActs as s = .ok () s2 ∧ PIG hi cfg0 env0 sl s2) ∨
    (∃ s2, doActs as s = .err .genExit s2 ∧ PIG hi cfg0 env0 sl s2) := by
  induction as generalizing s with
  | nil => exact Or.inl ⟨s, rfl, h⟩
  | cons a r ih =>
    unfold Lomond.Core.doActs
    rcases h.act a htop with ⟨s2, e, h2, t2⟩ | ⟨s2, e, h2⟩
    · rw [bind_ok e]; exact ih h2 t2
    · rw [bind_err e]; exact Or.inr ⟨s2, rfl, h2⟩

end AutoPingCalls

section AutoPingChecks
variable {hi : Bool} {cfg0 : Cfg} {env0 : List EnvStep} {sl : Nat}

def YOutP (hi : Bool) (cfg0 : Cfg) (env0 : List EnvStep) (sl : Nat) : Res Unit → Prop
  | .ok _ s' => PIG hi cfg0 env0 sl s'
  | .err x s' => x = .genExit ∧ PIG hi cfg0 env0 sl s'

theorem topOK_ev (e : Event) (t : List Obs) : TopOK (.ev e :: t) := fun o t' h => by cases h; rfl

theorem yieldEv_P (e : Event) (h1 : (Obs.ev e).tmIsReady = false) (h2 : isConnEv (.ev e) = false) {s : Sys}
    (h : PIG hi cfg0 env0 sl s) : YOutP hi cfg0 env0 sl (yieldEv e s) := by
  have hp := h.quiet (pq_pushEv e s h1 h2)
  rcases hp.acts ((Core.pushEv e s).react (Core.pushEv e s).hist) (topOK_ev e s.trace) with ⟨s2, e2, h2'⟩ | ⟨s2, e2, h2'⟩
  · rw [(yieldEv_eq e s).trans e2]; exact h2'
  · rw [(yieldEv_eq e s).trans e2]; exact ⟨rfl, h2'⟩

theorem checkPoll_P {s : Sys} (h : PIG hi cfg0 env0 sl s) : YOutP hi cfg0 env0 sl (checkPoll s) := by
  by_cases hd : pollDue s
  · rw [checkPoll_fires s hd]
    exact yieldEv_P .poll rfl rfl (h.quiet (PQ.same rfl rfl rfl rfl rfl rfl rfl rfl rfl rfl : PQ s (pollMark s)))
  · obtain ⟨p0, hps, hlt⟩ := not_pollDue hd
    rw [checkPoll_quiet s p0 hps hlt]
    exact h

theorem checkPingTimeout_P {s : Sys} (h : PIG hi cfg0 env0 sl s) :
    match checkPingTimeout s with
    | .ok _ s' => PIG hi cfg0 env0 sl s'
    | .err x s' => (x = .genExit ∨ x = .forceDisconnect "ping-timeout") ∧ PIG hi cfg0 env0 sl s' := by
  by_cases hd : pingTimeoutDue s
  · rw [checkPingTimeout_fires s hd]
    have hy := yieldEv_P (hi := hi) (cfg0 := cfg0) (env0 := env0) (sl := sl) .unresponsive rfl rfl h
    cases e : yieldEv .unresponsive s with
    | ok u s1 => rw [e] at hy; rw [bind_ok e]; exact ⟨Or.inr rfl, hy⟩
    | err x s1 => rw [e] at hy; rw [bind_err e]; exact ⟨Or.inl hy.1, hy.2⟩
  · rw [checkPingTimeout_quiet s hd]; exact h

theorem isPingFrame_of_build {key b : Bytes} (h : Frame.build Gen.opPing [] key = some b) : isPingFrame b = true := by
  have := build_head _ _ _ _ h
  unfold isPingFrame; rw [this]; rfl

theorem mul_lt_succ_mul {m k r : Nat} (h : m * r < (k + 1) * r) : m ≤ k := by
  have := Nat.lt_of_mul_lt_mul_right h
  omega

/-- **`_check_auto_ping` serves every period the session has entered** -/
theorem checkAutoPing_PI {s : Sys} (h : PI hi cfg0 env0 sl s) (hsl : hi = true → sl ≤ cfg0.poll) :
    ∃ s', checkAutoPing s = .ok () s' ∧ PI hi cfg0 env0 0 s' := by
  have hst := h.b.sess
  obtain ⟨m, hm⟩ := h.w.mult
  by_cases hd : pingDue s
  · have hrpos : 0 < cfg0.pingRate := Nat.pos_of_ne_zero (h.b.cfg ▸ hd.1)
    have hnp : (pingMark s).nextPing = ceilDiv (sessOf s.trace) cfg0.pingRate * cfg0.pingRate := by
      show ceilDiv (sessionTime s) s.cfg.pingRate * s.cfg.pingRate = _; rw [h.b.cfg, hst]
    have hle := le_ceilDiv_mul (sessOf s.trace) cfg0.pingRate hrpos
    have hlt := ceilDiv_mul_lt (sessOf s.trace) cfg0.pingRate hrpos
    -- the periods served before stay served
    have old : ∀ tr, (∀ k, HasTry cfg0.pingRate cfg0.poll k s.trace → HasTry cfg0.pingRate cfg0.poll k tr) →
        readyAt tr = readyAt s.trace → connSeen tr = connSeen s.trace → sessOf tr = sessOf s.trace →
        (closeStarted tr = false → closeStarted s.trace = false) →
        (hi = true → ∀ k, sessOf s.trace ≤ k * cfg0.pingRate + sl → k * cfg0.pingRate < sessOf s.trace →
          cfg0.v.closeArgs = true → connSeen s.trace = true → closeStarted s.trace = false → readyAt s.trace ≠ none →
          HasTry cfg0.pingRate cfg0.poll k tr) → hi = true → CoverS cfg0 0 tr := by
      intro tr f6 f2 f3 f8 f5 now hhi hr hv hrd hcn hcs k hk
      rw [f8] at hk; rw [f2] at hrd; rw [f3] at hcn
      by_cases hold : k * cfg0.pingRate + sl < sessOf s.trace
      · exact f6 k (h.c hhi hr hv hrd hcn (f5 hcs) k hold)
      · exact now hhi k (by omega) (by omega) hv hcn (f5 hcs) hrd
    rcases autoPing_step s hd with ⟨hno, e⟩ | ⟨_, o, b, e, ho, hb⟩
    · refine ⟨_, e, ⟨h.b.cfg, h.b.env, h.b.now, h.b.start, h.b.rdy⟩,
        ⟨⟨_, hnp⟩, flagEv_same (s := s) rfl rfl rfl rfl h.w.flag, h.w.tok, h.w.le⟩,
        fun _ _ => by show sessOf s.trace ≤ (pingMark s).nextPing + 0; rw [hnp]; omega,
        fun _ _ => by show (pingMark s).nextPing + 0 < sessOf s.trace + _; rw [hnp]; omega, ?_⟩
      exact old _ (fun _ x => x) rfl rfl rfl id
        (fun _ k _ _ hv hcn hcs _ => absurd (h.w.flag.open hcs hcn hv) hno)
    · have o1 : o.tmTickVal = none ∧ o.tmIsReady = false ∧ isConnEv o = false := by
        rcases ho with rfl | rfl <;> exact ⟨rfl, rfl, rfl⟩
      have f1 := clockOf_cons_of s.trace o1.1
      have f2 := readyAt_cons_of s.trace o1.2.1
      have f8 : sessOf (o :: s.trace) = sessOf s.trace := sessOf_cons_of _ o1.1 o1.2.1
      have hsub : ∀ q ∈ pingStamps s.trace, q ∈ pingStamps (o :: s.trace) := by
        intro q hq
        rcases ho with rfl | rfl
        · rw [stamps_ping b _ hb]; split
          · exact List.mem_cons_of_mem _ hq
          · exact hq
        · rw [stamps_cons_plain _ rfl rfl rfl]; exact hq
      refine ⟨_, e, ⟨h.b.cfg, h.b.env, f1.symm ▸ h.b.now, f2.symm ▸ h.b.start, h.b.rdy⟩,
        ⟨⟨_, hnp⟩, flagEv_cons (s := s) rfl o1.2.2 rfl rfl rfl h.w.flag,
          fun hhi => (tickP_ignores _ _ _ o1.1).mpr (h.w.tok hhi), by
            show ∀ t0, readyAt (o :: s.trace) = some t0 → t0 ≤ clockOf (o :: s.trace)
            rw [f1, f2]; exact h.w.le⟩,
        fun _ _ => by show sessOf (o :: s.trace) ≤ (pingMark s).nextPing + 0; rw [hnp, f8]; omega,
        fun _ _ => by show (pingMark s).nextPing + 0 < sessOf (o :: s.trace) + _; rw [hnp, f8]; omega, ?_⟩
      refine old (o :: s.trace) (fun k x => hasTry_append [o] _ hsub x) f2
        (by simp only [connSeen, List.any_cons, o1.2.2, Bool.false_or]) f8
        (fun hx => closeStarted_append_false (l := [o]) hx) ?_
      -- the Ping handed to `sendall` right now is the one for this period
      intro hhi k hk1 hk2 _ _ _ hrd
      have := hsl hhi
      rcases ho with rfl | rfl
      · refine Or.inl ⟨sessOf s.trace, ?_, hk2, by omega⟩
        rw [stamps_ping b _ hb]
        cases hx : readyAt s.trace with
        | none => exact absurd hx hrd
        | some _ => simp
      · exact Or.inr ⟨[], b, s.trace, rfl, hb, hk2, by omega⟩
  · -- no Ping due: the session time has not passed `_next_ping`
    have h1 : cfg0.pingRate ≠ 0 → ¬ (sessOf s.trace > s.nextPing) :=
      fun hr hx => hd ⟨by rw [h.b.cfg]; exact hr, by rw [hst]; exact hx⟩
    refine ⟨s, checkAutoPing_quiet s hd, h.b, h.w, fun hr _ => by have := h1 hr; omega,
      fun hr hrd => by have := h.n hr hrd; omega, ?_⟩
    intro hhi hr hv hrd hcn hcs k hk
    by_cases hold : k * cfg0.pingRate + sl < sessOf s.trace
    · exact h.c hhi hr hv hrd hcn hcs k hold
    · exfalso
      have h1 := h1 hr
      have h2 := h.n hr hrd
      rw [hm] at h1 h2
      have h3 : m * cfg0.pingRate < (k + 1) * cfg0.pingRate := by rw [Nat.add_mul, Nat.one_mul]; omega
      have h5 := Nat.mul_le_mul_right cfg0.pingRate (mul_lt_succ_mul h3)
      omega

theorem checkAutoPing_P {s : Sys} (h : PIG hi cfg0 env0 sl s) (hsl : hi = true → sl ≤ cfg0.poll) :
    ∃ s', checkAutoPing s = .ok () s' ∧ PIG hi cfg0 env0 0 s' := by
  obtain ⟨s', e, h'⟩ := checkAutoPing_PI h.toPI hsl
  have g := ginv_checkAutoPing s h.ginv
  rw [e] at g
  exact ⟨s', e, PIG.of_ginv h' g⟩

end AutoPingChecks

section AutoPingRegular
variable {hi : Bool} {cfg0 : Cfg} {env0 : List EnvStep}

theorem PI.tick {s : Sys} (h : PI hi cfg0 env0 0 s) (dt : Nat) : PI hi cfg0 env0 dt (tick s dt) := by
  by_cases h0 : dt = 0
  · subst h0; rw [Core.tick_zero]; exact h
  · have hb := h.b.tick dt
    rw [tick_pos s dt h0] at hb ⊢
    have hra : readyAt (.tick (s.now + dt) :: s.trace) = readyAt s.trace := readyAt_tick _ _
    have hse : readyAt s.trace ≠ none → sessOf (.tick (s.now + dt) :: s.trace) = sessOf s.trace + dt := by
      intro hr
      unfold sessOf
      rw [readyAt_tick, clockOf_tick, ← h.b.now]
      cases hx : readyAt s.trace with
      | none => exact absurd hx hr
      | some t0 =>
        have := h.w.le t0 hx
        rw [← h.b.now] at this
        simp only; omega
    have hst : pingStamps (.tick (s.now + dt) :: s.trace) = pingStamps s.trace := stamps_cons_plain _ rfl rfl rfl
    refine ⟨hb, ⟨h.w.mult, ?_, ?_, ?_⟩, ?_, ?_, ?_⟩
    · exact flagEv_cons (s := s) (o := .tick (s.now + dt)) rfl rfl rfl rfl rfl h.w.flag
    · intro hhi
      show TickP cfg0 (.tick (s.now + dt) :: s.trace)
      exact ⟨fun _ => h.c hhi, h.w.tok hhi⟩
    · intro t0 ht0
      have hx : readyAt s.trace = some t0 := by rw [← hra]; exact ht0
      have := h.w.le t0 hx
      show t0 ≤ clockOf (.tick (s.now + dt) :: s.trace)
      rw [clockOf_tick, h.b.now]; omega
    · intro hr hrd
      have hrd' : readyAt s.trace ≠ none := by rw [← hra]; exact hrd
      show sessOf (.tick (s.now + dt) :: s.trace) ≤ s.nextPing + dt
      rw [hse hrd']
      have := h.f hr hrd'
      omega
    · intro hr hrd
      have hrd' : readyAt s.trace ≠ none := by rw [← hra]; exact hrd
      show s.nextPing + dt < sessOf (.tick (s.now + dt) :: s.trace) + cfg0.pingRate
      rw [hse hrd']
      have := h.n hr hrd'
      omega
    · intro hhi hr hv hrd hcn hcs k hk
      have hrd' : readyAt s.trace ≠ none := by rw [← hra]; exact hrd
      have hk' : k * cfg0.pingRate + dt < sessOf s.trace + dt := by
        have : sessOf (.tick (s.now + dt) :: s.trace) = sessOf s.trace + dt := hse hrd'
        have hk2 : k * cfg0.pingRate + dt < sessOf (.tick (s.now + dt) :: s.trace) := hk
        omega
      have hcn' : connSeen s.trace = true := by
        have : connSeen (.tick (s.now + dt) :: s.trace) = true := hcn
        simpa [connSeen, isConnEv] using this
      have hcs' : closeStarted s.trace = false := closeStarted_append_false (l := [.tick (s.now + dt)]) hcs
      have := h.c hhi hr hv hrd' hcn' hcs' k (by omega)
      exact hasTry_append [.tick (s.now + dt)] _ (fun q hq => hst ▸ hq) this

theorem PIG.tick {s : Sys} (h : PIG hi cfg0 env0 0 s) (dt : Nat) : PIG hi cfg0 env0 dt (tick s dt) :=
  PIG.of_ginv (h.toPI.tick dt) (ginv_tick s dt h.ginv)

/-- what an exception in flight says about the automatic Ping: the calm ones leave the invariant intact -/
def EP (hi : Bool) (cfg0 : Cfg) (env0 : List EnvStep) (y : Exn) (s : Sys) : Prop := y.calm → PIG hi cfg0 env0 0 s

theorem regular_tick_P {s : Sys} (h : PIG hi cfg0 env0 0 s) (dt : Nat) (hdt : hi = true → dt ≤ cfg0.poll) :
    RegSat (PIG hi cfg0 env0 0) (fun s => ∃ sl, PIG hi cfg0 env0 sl s) (EP hi cfg0 env0) (fun _ => False) dt
      (regular (tick s dt)) := by
  have ht := h.tick dt
  generalize tick s dt = st at ht
  -- an abandonment or a time-out says nothing about the automatic Ping
  have silent : ∀ {x : Exn} {sl : Nat} {s' : Sys}, PIG hi cfg0 env0 sl s' → x.plain = true → ¬ x.calm → (dt = 0 → sl = 0) →
      RegSat (PIG hi cfg0 env0 0) (fun s => ∃ sl, PIG hi cfg0 env0 sl s) (EP hi cfg0 env0) (fun _ => False) dt (.err x s') :=
    fun h' hp hc hsl => ⟨hp, ⟨_, h'⟩, fun c => absurd c hc, fun e => ⟨hsl e ▸ h', id⟩⟩
  refine regular_gen (I1 := PIG hi cfg0 env0 dt) (I2 := PIG hi cfg0 env0 0) (I3 := PIG hi cfg0 env0 0) st
    (fun hr' => ?_) ?_ (fun s1 h1 => silent h1 rfl not_calm_genExit id) (fun s1 h1 => ?_) (fun s2 h2 => ?_)
    (fun s3 h3 => ?_)
  · have hnr := (ht.b.notReady hr').1
    exact ⟨⟨ht.b, ht.w, fun _ hx => absurd hnr hx, fun _ hx => absurd hnr hx, fun _ _ _ hx => absurd hnr hx⟩, ht.grid⟩
  · have h1 := checkPoll_P ht
    cases e1 : checkPoll st with
    | ok u1 s1 => rw [e1] at h1; exact h1
    | err x s1 => rw [e1] at h1; exact h1.2
  · obtain ⟨s2, e2, h2⟩ := checkAutoPing_P h1 hdt
    rw [e2]; exact h2
  · have h3 := checkPingTimeout_P h2
    cases e3 : checkPingTimeout s2 with
    | ok u3 s3 => rw [e3] at h3; exact h3
    | err x s3 =>
      rw [e3] at h3
      intro _
      rcases h3.1 with rfl | rfl
      · exact silent h3.2 rfl not_calm_genExit (fun _ => rfl)
      · exact silent h3.2 rfl not_calm_pto (fun _ => rfl)
  · rcases checkCloseTimeout_cases s3 with e4 | e4
    · rw [e4]; exact h3
    · rw [e4]; exact silent h3 rfl not_calm_cto (fun _ => rfl)

theorem PI.ready {s : Sys} (h : PI hi cfg0 env0 0 s) (a : Option Http.Str) (b : Bool) :
    PI hi cfg0 env0 0 (Core.pushEv (.ready a b) (readyState s)) := by
  have hs0 : sessOf (.ev (.ready a b) :: s.trace) = 0 := sessOf_ready a b s.trace
  refine ⟨h.b.ready a b, ⟨⟨0, (Nat.zero_mul _).symm⟩, ?_, ?_, ?_⟩, ?_, ?_, ?_⟩
  · exact flagEv_cons (s := s) (o := .ev (.ready a b)) rfl rfl rfl rfl rfl h.w.flag
  · intro hhi
    show TickP cfg0 (.ev (.ready a b) :: s.trace)
    rw [tickP_ignores _ _ _ rfl]; exact h.w.tok hhi
  · intro t0 ht0
    have : readyAt (.ev (.ready a b) :: s.trace) = some t0 := ht0
    rw [readyAt_ready] at this
    cases this
    show clockOf s.trace ≤ clockOf (.ev (.ready a b) :: s.trace)
    rw [clockOf_ready]; exact Nat.le_refl _
  · intro _ _
    show sessOf (.ev (.ready a b) :: s.trace) ≤ 0 + 0
    rw [hs0]; exact Nat.le_refl _
  · intro hr _
    show 0 + 0 < sessOf (.ev (.ready a b) :: s.trace) + cfg0.pingRate
    rw [hs0]
    have := Nat.pos_of_ne_zero hr
    omega
  · intro _ _ _ _ _ _ k hk
    have : k * cfg0.pingRate + 0 < sessOf (.ev (.ready a b) :: s.trace) := hk
    rw [hs0] at this
    omega

theorem PIG.ready {s : Sys} (h : PIG hi cfg0 env0 0 s) (a : Option Http.Str) (b : Bool) :
    PIG hi cfg0 env0 0 (Core.pushEv (.ready a b) (readyState s)) :=
  ⟨h.toPI.ready a b, by
    show Grid cfg0.pingRate (0 + 1) (pingStamps (.ev (.ready a b) :: s.trace))
    rw [stamps_ready]; trivial⟩

theorem onEvent_push_P {e : Event} (hf : isFeedEvent e = true) {s s1 : Sys} {u : Unit} (h : PIG hi cfg0 env0 0 s)
    (hE : onEvent e s = .ok u s1) : PIG hi cfg0 env0 0 (Core.pushEv e s1) := by
  cases e with
  | ready a b => simp only [onEvent] at hE; cases hE; exact h.ready a b
  | pong d =>
    simp only [onEvent] at hE; cases hE
    exact (h.quiet (PQ.same rfl rfl rfl rfl rfl rfl rfl rfl rfl rfl :
      PQ s { s with lastPong := sessionTime s })).quiet (pq_pushEv _ _ rfl rfl)
  | ping d =>
    have h1 : PIG hi cfg0 env0 0 s1 := by
      simp only [onEvent] at hE
      repeat' split at hE
      all_goals first
        | (cases hE; exact h)
        | (cases hE; done)
        | (rename_i heq; cases hE; exact h.quiet ((pq_sendFrame _ _ (by decide)).ok heq))
    exact h1.quiet (pq_pushEv _ _ rfl rfl)
  | _ =>
    first
      | (simp [isFeedEvent] at hf; done)
      | (simp only [onEvent] at hE; cases hE; exact h.quiet (pq_pushEv _ _ rfl rfl))

end AutoPingRegular

section AutoPingFlags
variable {hi : Bool} {cfg0 : Cfg} {env0 : List EnvStep} {sl : Nat}

/-- the websocket flags change, with the evidence on the trace -/
theorem PIG.setFlags {s : Sys} (h : PIG hi cfg0 env0 sl s) (c d : Bool)
    (hev : closeStarted s.trace = true ∨ connSeen s.trace = false ∨ cfg0.v.closeArgs = false) :
    PIG hi cfg0 env0 sl { s with closing := c, closed := d } :=
  h.ext rfl rfl rfl rfl rfl rfl [] rfl rfl rfl rfl rfl (by intro o ho; cases ho) (fun _ => hev)

theorem onDisconnect_P {s : Sys} (h : PIG hi cfg0 env0 sl s) :
    ∃ s', onDisconnect s = .ok () s' ∧ PIG hi cfg0 env0 sl s' := by
  have h1 : PIG hi cfg0 env0 sl (sockClosed s) := h.quiet (pq_closeSocket.ok (closeSocket_eq s))
  exact ⟨_, onDisconnect_eq s, h1.setFlags false true (h1.w.flag (Or.inr (Or.inr (sockClosed_sockOpen s))))⟩

/-- a library call of `close()` (the echo of the server's Close, or after a protocol error) -/
theorem wsClose_P (c : Option Nat) (r : Arg) {s : Sys} (h : PIG hi cfg0 env0 sl s) :
    PIG hi cfg0 env0 sl (wsClose c r s).state := by
  rcases wsClose_obs c r s with ⟨a, e, _⟩ | ⟨hs, hno, e⟩ | ⟨ho, o, pl, bs, e, _, hbs, hsa⟩ <;> rw [e]
  · exact h
  · refine h.ext rfl rfl rfl rfl rfl rfl [] rfl rfl rfl rfl rfl (fun _ ho => nomatch ho) (fun _ => ?_)
    cases hv : cfg0.v.closeArgs with
    | false => exact Or.inr (Or.inr rfl)
    | true =>
      exact hv ▸ h.w.flag (Or.inr (Or.inr (noSocket_of_refused hs (hno (by rw [h.b.cfg]; exact hv)))))
  · obtain ⟨o0, _, o1, o2, o3, _⟩ := closeEntry hbs hsa
    have hnp : o.tmPingWr = false ∧ o.tmIsRes = false := by
      cases hsa with
      | fail _ _ => exact ⟨rfl, rfl⟩
      | wr _ => exact ⟨not_pingFrame_of_head (build_head _ _ _ _ hbs) (by decide), rfl⟩
    exact h.ext rfl rfl rfl rfl rfl rfl [o] rfl (clockOf_cons_of _ o1) (readyAt_cons_of _ o2)
      (stamps_cons_plain _ o2 hnp.2 hnp.1) (by simp [connSeen, o3]) (by simpa using o1)
      (fun _ => Or.inl (by show closeStarted (o :: s.trace) = true
                           simp only [closeStarted, List.any_cons, isClose_csEv o0, Bool.true_or]))

def XP (hi : Bool) (cfg0 : Cfg) (env0 : List EnvStep) : Exn → Sys → Prop :=
  XGen (fun s => ∃ sl, PIG hi cfg0 env0 sl s) (EP hi cfg0 env0)

/-- an abandonment or a time-out says nothing about the automatic Ping -/
theorem XP.plainKind {x : Exn} {s : Sys} {sl : Nat} (h : PIG hi cfg0 env0 sl s)
    (hx : x = .genExit ∨ x = .forceDisconnect "ping-timeout" ∨ x = .forceDisconnect "close-timeout") :
    XP hi cfg0 env0 x s := by
  rcases hx with rfl | rfl | rfl
  · exact XGen.of_plain rfl ⟨sl, h⟩ (fun hc => absurd hc not_calm_genExit)
  · exact XGen.of_plain rfl ⟨sl, h⟩ (fun hc => absurd hc not_calm_pto)
  · exact XGen.of_plain rfl ⟨sl, h⟩ (fun hc => absurd hc not_calm_cto)

end AutoPingFlags

section AutoPingRun
variable {hi : Bool} {cfg0 : Cfg} {env0 : List EnvStep}

theorem timerP : Timer hi cfg0.poll (PIG hi cfg0 env0 0) (fun _ => True) (fun s => ∃ sl, PIG hi cfg0 env0 sl s) (EP hi cfg0 env0)
    (fun _ => False) where
  w := fun s h => ⟨0, h⟩
  eOf := fun x s h _ _ _ => h
  back := fun x s hb _ he => ⟨he (Or.inl hb), trivial⟩
  own := fun x h => h.elim
  inert := fun s s' h hs => hs.ext h.inert.cfg h.inert.env h.inert.ready h.inert.startTime h.inert.now h.inert.nextPing []
    h.inert.trace rfl rfl rfl rfl (by intro o ho; cases ho)
    (flagEv_same h.inert.trace h.closing h.closed h.inert.sockOpen hs.w.flag)
  closeSocket := fun s hs => hs.quiet (pq_closeSocket s)
  wsClose := fun c r s hs => wsClose_P c r hs
  onDisconnect := fun s hs => by
    obtain ⟨s', e, h'⟩ := onDisconnect_P hs
    rw [e]; exact h'
  acts := fun e s h => by
    rcases h.acts ((Core.pushEv e s).react (Core.pushEv e s).hist) (topOK_ev e s.trace) with ⟨s2, hd, hB⟩ | ⟨s2, hd, hB⟩
    · rw [(yieldEv_eq e s).trans hd]; exact hB
    · rw [(yieldEv_eq e s).trans hd]; exact hB
  reg := fun dt s hdt _ hs => regular_tick_P hs dt hdt

theorem ip_leaves : LeavesX (fun s => PIG hi cfg0 env0 0 s ∧ True) (XP hi cfg0 env0) :=
  timerP.leaves .none
    (timerP.onClose .none (fun e u s s1 hf hE h => onEvent_push_P hf h hE)
      (fun c r s h hm => h.setFlags false true (Or.inl (closeStarted_of_mem hm (by simp [csEv, isClosedEv]))))
      (fun c r s h hm => (h.setFlags true s.closed (Or.inl (closeStarted_of_mem hm (by simp [csEv, isClosingEv]))) :
        PIG hi cfg0 env0 0 { s with closing := true, closed := s.closed })))
    (fun e u s s1 hf _ hE h => onEvent_push_P hf h hE)

theorem ip_loop (env : List EnvStep) (h : hi = true → EnvBound cfg0.poll env) :
    SpecX (fun s => PIG hi cfg0 env0 0 s ∧ True) (XP hi cfg0 env0) (loop env) :=
  timerP.loop .none ip_leaves env h

def FinP (hi : Bool) (cfg0 : Cfg) (env0 : List EnvStep) (s : Sys) : Prop := ∃ sl, PIG hi cfg0 env0 sl s

theorem PIG.closeYield {sl : Nat} {s : Sys} (h : PIG hi cfg0 env0 sl s) (k : String) (g : Bool) :
    PIG hi cfg0 env0 sl ((do closeSocket; yieldEv (.disconnected k g) : M Unit) s).state := by
  obtain ⟨s1, e1⟩ := closeSocket_ok s
  rw [bind_ok e1]
  have hy := yieldEv_P (.disconnected k g) rfl rfl (h.quiet (pq_closeSocket.ok e1))
  cases e : yieldEv (.disconnected k g) s1 with
  | ok u s2 => rw [e] at hy; exact hy
  | err x s2 => rw [e] at hy; exact hy.2

theorem ip_yieldEv (e : Event) (h1 : (Obs.ev e).tmIsReady = false) (h2 : isConnEv (.ev e) = false) (s : Sys)
    (hs : PIG hi cfg0 env0 0 s) : Sat (PIG hi cfg0 env0 0) (XP hi cfg0 env0) (yieldEv e s) := by
  have := yieldEv_P e h1 h2 hs
  cases hy : yieldEv e s with
  | ok u s' => rw [hy] at this; exact this
  | err x s' =>
    rw [hy] at this
    obtain ⟨rfl, h'⟩ := this
    exact XP.plainKind h' (Or.inl rfl)

/-- before Ready every clause about the session clock is void -/
theorem PIG.ofNotReady {s s' : Sys} (h : PIG hi cfg0 env0 0 s) (hb : Base cfg0 env0 s')
    (hr : readyAt s'.trace = none) (hm : s'.nextPing = s.nextPing) (hf : FlagEv cfg0 s')
    (ht : hi = true → TickP cfg0 s'.trace) : PIG hi cfg0 env0 0 s' :=
  ⟨⟨hb, ⟨by rw [hm]; exact h.w.mult, hf, ht, fun t0 h0 => (by rw [hr] at h0; cases h0)⟩,
    fun _ hx => absurd hr hx, fun _ hx => absurd hr hx, fun _ _ _ hx => absurd hr hx⟩,
    by rw [pingStamps, stampsAux_notReady _ _ hr]; trivial⟩

theorem ip_yieldConn (p : Bool) (s : Sys) (hs : PIG hi cfg0 env0 0 s) (hso : s.sockOpen = true)
    (hcg : s.closing = false) (hcd : s.closed = false) (hrd : s.ready = false) :
    Sat (PIG hi cfg0 env0 0) (XP hi cfg0 env0) (yieldEv (.connected p) s) := by
  have hnr := (hs.b.notReady hrd).1
  have hp : PIG hi cfg0 env0 0 (Core.pushEv (.connected p) s) := by
    refine hs.ofNotReady ⟨hs.b.cfg, hs.b.env, hs.b.now, hs.b.start, hs.b.rdy⟩ hnr rfl ?_ ?_
    · intro hf
      rcases hf with hf | hf | hf
      · rw [show (Core.pushEv (.connected p) s).closing = s.closing from rfl, hcg] at hf; cases hf
      · rw [show (Core.pushEv (.connected p) s).closed = s.closed from rfl, hcd] at hf; cases hf
      · rw [show (Core.pushEv (.connected p) s).sockOpen = s.sockOpen from rfl, hso] at hf; cases hf
    · intro hhi
      show TickP cfg0 (.ev (.connected p) :: s.trace)
      rw [tickP_ignores _ _ _ rfl]; exact hs.w.tok hhi
  rcases hp.acts ((Core.pushEv (.connected p) s).react (Core.pushEv (.connected p) s).hist)
      (topOK_ev _ s.trace) with ⟨s2, e2, h2⟩ | ⟨s2, e2, h2⟩
  · rw [(yieldEv_eq _ s).trans e2]; exact h2
  · rw [(yieldEv_eq _ s).trans e2]; exact XP.plainKind h2 (Or.inl rfl)

theorem ip_top : TopX (fun s => PIG hi cfg0 env0 0 s ∧ True) (XP hi cfg0 env0) (FinP hi cfg0 env0) env0 where
  envEq := fun s hs => hs.1.b.env
  iFin := fun s hs => ⟨0, hs.1⟩
  xFin := fun s hx => hx.1
  yieldTop := by
    intro e he
    rcases he with rfl | ⟨k, rfl⟩
    · exact fun s hs => sat_and_true (ip_yieldEv _ rfl rfl s hs.1)
    · exact fun s hs => sat_and_true (ip_yieldEv _ rfl rfl s hs.1)
  yieldConn := fun p s hs a b c d => sat_and_true (ip_yieldConn p s hs.1 a b c d)
  sockSet := by
    intro s ⟨hs, _⟩
    refine ⟨?_, trivial⟩
    refine hs.ext rfl rfl rfl rfl rfl rfl [] rfl rfl rfl rfl rfl (by intro o ho; cases ho) ?_
    intro hf
    rcases hf with hf | hf | hf
    · exact hs.w.flag (Or.inl hf)
    · exact hs.w.flag (Or.inr (Or.inl hf))
    · cases hf
  writeReq := by
    intro s ⟨hs, _⟩ _ hrd
    refine ⟨?_, trivial⟩
    have hnr := (hs.b.notReady hrd).1
    have q := quietP_write s.cfg.request none s
    have a := pa_write (cfg0 := cfg0) s.cfg.request none s
    obtain ⟨l, e, n⟩ := q.trace
    refine hs.ofNotReady (hs.b.quiet q) (by rw [e, readyAt_neutral.append l _ n]; exact hnr) a.nextPing
      (a.flag hs.b.cfg hs.w.flag) ?_
    intro hhi
    rw [e, (tickP_ignores _).append l _ (fun o ho => ((neutral_iff o).mp (n o ho)).1)]
    exact hs.w.tok hhi
  selSet := fun b s hs => ⟨hs.1.ext rfl rfl rfl rfl rfl rfl [] rfl rfl rfl rfl rfl (by intro o ho; cases ho)
    (flagEv_same rfl rfl rfl rfl hs.1.w.flag), trivial⟩
  endNone := fun s hs => ⟨0, hs.1.closeYield "closed" true⟩
  endSome := fun x s hx hno => by
    obtain ⟨sl, h⟩ := hx.1
    rcases onLoopEnd_some_cases x s hno (hx.kind hno) with ⟨_, e⟩ | ⟨k, e, _⟩
    · rw [e]; exact ⟨sl, h⟩
    · rw [e]; exact ⟨sl, h.closeYield k false⟩
  finSel := fun s ⟨sl, h⟩ => ⟨sl, h.quiet (pq_selClose s)⟩
  finSock := fun s ⟨sl, h⟩ => ⟨sl, h.quiet (pq_closeSocket s)⟩
  finInc := fun s ⟨sl, h⟩ => ⟨sl, h.quiet (PQ.one rfl rfl rfl rfl rfl rfl rfl rfl rfl rfl rfl)⟩

theorem ip_init (cfg : Cfg) (react : React) (env : List EnvStep) :
    PIG hi cfg env 0 { cfg := cfg, react := react, env := env } ∧ True :=
  ⟨⟨⟨⟨rfl, rfl, rfl, rfl, by simp⟩, ⟨⟨0, (Nat.zero_mul _).symm⟩, fun _ => Or.inr (Or.inl rfl), fun _ => trivial,
    fun t0 h => (by cases h)⟩, fun _ h => absurd rfl h, fun _ h => absurd rfl h, fun _ _ _ h => absurd rfl h⟩, trivial⟩, trivial⟩

/-- **the automatic-Ping invariant (with the rule `TickP` under the cycle bound) and the grid rule hold
    at the end of every connection** -/
theorem finP_runAll (hi : Bool) (cfg : Cfg) (react : React) (env : List EnvStep)
    (h : hi = true → EnvBound cfg.poll env) : FinP hi cfg env (runAll cfg react env) :=
  topx_runAll ip_leaves ip_top (ip_loop env h) cfg react (ip_init cfg react env)

theorem _root_.Lomond.Core.Timers.ginv_runAll (cfg : Cfg) (react : React) (env : List EnvStep) :
    GInv (runAll cfg react env) := by
  obtain ⟨sl, h⟩ := finP_runAll false cfg react env (fun h => by cases h)
  exact h.ginv

end AutoPingRun

end Lomond.Core.TimerRun
