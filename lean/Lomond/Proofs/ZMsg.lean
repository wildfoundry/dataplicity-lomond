/-
  One compressed text message (RSV1 = 1 on its first frame) in any fragmentation: one complete
  unmasked frame through the lazy loop (`feedLoop_one_frame`), the parser on a frame of a compressed
  message (`zframe_step`), the final frame through the consumer (`onOut_zfin`), the continuation
  fragments (`zcont_feed`) and the whole message (`feed_zmsg`), with the outcome `ZOutcome`: the
  inflater fails, the inflated bytes are not well-formed UTF-8, or one `Text` event.
-/
import Lomond.Proofs.EndToEnd
import Lomond.Proofs.LiftX
import Lomond.Proofs.DeflateCore
import Lomond.Proofs.TextMsg

namespace Lomond.Core.E2E
open Lomond Lomond.Core

theorem frameRes_of_step {v : Variant} {p p' : PState} {b0 : Nat} {payload : Bytes} {o : Out}
    (h : frameStep v p b0 payload = .ok (p', o)) : frameRes v p b0 none payload = .ok (p', some o) := by
  unfold frameStep at h
  cases hr : frameRes v p b0 none payload with
  | error x => rw [hr] at h; cases h
  | ok r =>
    obtain ⟨p2, o2⟩ := r
    rw [hr] at h
    cases o2 with
    | some o2 => cases h; rfl
    | none => cases h

theorem feedLoop_one_frame (s : Sys) (hb : Boundary s.p) (b0 : Nat) (form : LenForm) (payload : Bytes)
    (hf : form.ok payload.length) (tail : Bytes) (p' : PState) (f : Frame)
    (hstep : frameStep s.cfg.v s.p b0 payload = .ok (p', .frame f)) :
    feedLoop (serialise b0 form payload ++ tail) s = contLoop (onOut (.frame f) { s with p := p' }) tail := by
  obtain ⟨h, hlt⟩ := hdrLen_form form payload.length hf
  have hm : ¬ form.b1 payload.length ≥ 128 := by omega
  obtain ⟨q, e⟩ := (fLoop s).frame s.p hb b0 (form.b1 _) (beBytes form.n _) [] payload h (by simp [hm]) tail
  have e0 : serialise b0 form payload ++ tail =
      [b0, form.b1 payload.length] ++ (beBytes form.n payload.length ++ ([] ++ (payload ++ tail))) := by
    simp [serialise, lenBytes_eq]
  rw [e0, show feedLoop _ s = _ from e]
  simp only [hm, decide_false, Bool.false_eq_true, if_false]
  rw [frameRes_of_step hstep]
  rfl

/-- a compressed message: the first fragment carries RSV1, continuation fragments follow (FIN on the
    last one); `joined` is the compressed payload -/
structure ZMsg where
  first : Frag
  rest : List Frag

def ZMsg.joined (m : ZMsg) : Bytes := m.first.payload ++ (m.rest.map (·.payload)).flatten
def ZMsg.Ok (m : ZMsg) : Prop := m.first.Ok ∧ ∀ g ∈ m.rest, g.Ok

instance (m : ZMsg) : Decidable m.Ok := by unfold ZMsg.Ok; exact inferInstance

/-- first header byte: FIN, RSV1 and opcode Text on the first fragment, opcode Continuation after -/
def zb0 (first fin : Bool) : Nat := (if fin then 128 else 0) + (if first then 65 else 0)

def zframe (first fin : Bool) (payload : Bytes) : Frame :=
  { opcode := if first then 1 else 0, payload := payload, fin := if fin then 1 else 0, rsv1 := if first then 1 else 0 }

def zbytes (first fin : Bool) (g : Frag) : Bytes := serialise (zb0 first fin) g.form g.payload

/-- continuation fragments on the wire, FIN on the last -/
def zcont : List Frag → Bytes
  | [] => []
  | [g] => zbytes false true g
  | g :: g' :: r => zbytes false false g ++ zcont (g' :: r)

def ZMsg.bytes (m : ZMsg) : Bytes := zbytes true m.rest.isEmpty m.first ++ zcont m.rest

theorem hdrFrame_zb0 (first fin : Bool) (payload : Bytes) :
    ({ hdrFrame (zb0 first fin) with payload := payload } : Frame) = zframe first fin payload := by
  cases first <;> cases fin <;> rfl

structure ZIn (p : PState) : Prop where
  isText : p.isText = true
  ic : p.isCompressed = true

/-- **the parser on one frame of a compressed message**: no incremental validation, the frame is
    handed on as it is; the validator state is untouched -/
theorem zframe_step (v : Variant) (p : PState) (hc : p.compression = true) (first fin : Bool)
    (hin : first = false → ZIn p) (payload : Bytes) :
    ∃ p', frameStep v p (zb0 first fin) payload = .ok (p', .frame (zframe first fin payload)) ∧ Boundary p' ∧
      p'.compression = true ∧ p'.dfa = p.dfa ∧ (fin = false → ZIn p') ∧ (fin = true → p'.isText = false) := by
  have hval : validateFrame v p.compression (hdrFrame (zb0 first fin)) payload.length = .ok () := by
    rw [hc]
    cases first <;> cases fin <;>
      simp [validateFrame, hdrFrame, zb0, isReservedOp, Gen.reservedOpcodes, Frame.isControl]
  rw [frameStep_eq v p _ payload hval]
  have hnv : noValidate v (afterHdr p.resumed (hdrFrame (zb0 first fin))) := by
    cases first with
    | true =>
      have : afterHdr p.resumed (hdrFrame (zb0 true fin)) = { p.resumed with isText := true, isCompressed := true } := by
        cases fin <;> rfl
      rw [this]
      unfold noValidate
      have hc' : p.resumed.compression = true := hc
      cases v.perMsgValidate <;> simp [hc']
    | false =>
      have : afterHdr p.resumed (hdrFrame (zb0 false fin)) = p.resumed := by
        cases fin <;> rfl
      rw [this]
      unfold noValidate
      have hc' : p.resumed.compression = true := hc
      have hi : p.resumed.isCompressed = true := (hin rfl).ic
      cases v.perMsgValidate <;> simp [hc', hi]
  have hflag : valFlag v (afterHdr p.resumed (hdrFrame (zb0 first fin))) (hdrFrame (zb0 first fin)) = false := by
    unfold valFlag
    simp [hnv]
  rw [hflag]
  simp only [Bool.false_eq_true, and_false, decide_false, vres, if_false]
  rw [hdrFrame_zb0]
  refine ⟨_, rfl, ⟨rfl, rfl, rfl, rfl⟩, ?_, ?_, ?_, ?_⟩
  · show (afterHdr p.resumed (hdrFrame (zb0 first fin))).compression = true
    unfold afterHdr; split <;> exact hc
  · unfold doneState
    have hnv' : noValidate v ({ afterHdr p.resumed (hdrFrame (zb0 first fin)) with dfa := p.dfa } : PState) := hnv
    simp only [hnv', not_true_eq_false, false_and, if_false]
  · intro hfin
    subst hfin
    cases first with
    | true => exact ⟨rfl, rfl⟩
    | false =>
      obtain ⟨h1, h2⟩ := hin rfl
      exact ⟨h1, h2⟩
  · intro hfin
    subst hfin
    unfold doneState
    cases first <;> simp [zframe, Frame.isControl]

/-- what an uncompressed-state bookkeeping change is: parser, fragment list, inflate context -/
abbrev Book (s s' : Sys) : Prop := LiftX.InertF s s'

theorem I.of_book {s s' : Sys} (b : Book s s') (h : I s) : I s' :=
  ⟨by rw [b.inert.react]; exact h.app, by rw [b.inert.cfg]; exact h.poll,
   by rw [b.inert.sockOpen, b.closed]; exact h.sock,
   fun hr => by rw [b.inert.startTime, b.inert.pollStart]; exact h.nr (b.inert.ready ▸ hr),
   fun hr => by rw [b.inert.startTime, b.inert.pollStart, b.inert.now]; exact h.rd (b.inert.ready ▸ hr)⟩

theorem noTimeout_book {s s' : Sys} (b : Book s s') : NoTimeout s' ↔ NoTimeout s := by
  unfold NoTimeout Core.sessionTime
  rw [b.inert.cfg, b.inert.startTime, b.inert.now, b.inert.lastPong, b.inert.sentCloseTime]

/-- the fragment list while a compressed message is open: its first frame carries RSV1 and opcode
    Text, the payloads so far join to `acc` -/
structure ZOpen (s : Sys) (acc : Bytes) : Prop where
  frames : ∃ f0 tl, s.frames = f0 :: tl ∧ f0.rsv1 ≠ 0 ∧ f0.opcode = 1 ∧ ((f0 :: tl).map (·.payload)).flatten = acc
  zin : ZIn s.p
  b : Boundary s.p
  comp : s.p.compression = true
  dfa : s.p.dfa = 0

/-- how the final frame of a compressed text message ends, `joined` being the whole compressed
    payload and `s0` the state in front of the message (whose inflate context is used):
    `inflate` fails ⇒ critical error; the inflated bytes are not well-formed UTF-8 ⇒ critical error;
    otherwise one Text event with their exact decoding, and the connection is idle again -/
def ZOutcome (s0 : Sys) (joined : Bytes) (r : Res Bool) : Prop :=
  match s0.cfg.inflate ((s0.compression.map (·.decompressWbits)).getD 15)
      (s0.inflHist ++ joined ++ [0, 0, 0xff, 0xff]) with
  | none => ∃ s', r = .err (.critical "unable to decompress payload") s' ∧ Book s0 s'
  | some out =>
    match Utf8.decode (out.drop s0.inflOut) with
    | none => ∃ s', r = .err (.critical "payload contains invalid utf-8") s' ∧ Book s0 s'
    | some cps => ∃ s', r = .ok true s' ∧ Rel [.text cps] s0 s' ∧ s'.frames = [] ∧ Between s'.p ∧
        s'.p.compression = true

theorem book_refl (s : Sys) : Book s s := ⟨Lift.Inert.refl s, rfl, rfl⟩

theorem book_trans {a b c : Sys} (h1 : Book a b) (h2 : Book b c) : Book a c :=
  ⟨⟨h2.inert.cfg.trans h1.inert.cfg, h2.inert.react.trans h1.inert.react, h2.inert.env.trans h1.inert.env,
    h2.inert.sockOpen.trans h1.inert.sockOpen, h2.inert.selOpen.trans h1.inert.selOpen,
    h2.inert.ready.trans h1.inert.ready, h2.inert.pollStart.trans h1.inert.pollStart,
    h2.inert.nextPing.trans h1.inert.nextPing, h2.inert.lastPong.trans h1.inert.lastPong,
    h2.inert.startTime.trans h1.inert.startTime, h2.inert.now.trans h1.inert.now,
    h2.inert.sentCloseTime.trans h1.inert.sentCloseTime, h2.inert.keyCtr.trans h1.inert.keyCtr,
    h2.inert.writeCtr.trans h1.inert.writeCtr, h2.inert.hist.trans h1.inert.hist,
    h2.inert.abandonedWith.trans h1.inert.abandonedWith, h2.inert.trace.trans h1.inert.trace⟩,
   h2.closing.trans h1.closing, h2.closed.trans h1.closed⟩

theorem onOut_zfin (f : Frame) (s : Sys) (g : Good s) (hc : s.closed = false) (hfin : f.fin ≠ 0)
    (hctl : f.isControl = false) (hcont : f.isContinuation = true ↔ s.frames ≠ [])
    (first : Frame) (tl : List Frame) (hfr : s.frames ++ [f] = first :: tl) (h1 : first.rsv1 ≠ 0)
    (hop : first.opcode = 1) (hdec : s.decompress = true) (hbet : Between s.p) (hcomp : s.p.compression = true) :
    ZOutcome s ((first :: tl).map (·.payload)).flatten (onOut (.frame f) s) := by
  let sa : Sys := { s with frames := s.frames ++ [f] }
  have hfr' : sa.frames = first :: tl := hfr
  have hfe : onFrame f s =
      (buildMessage sa.frames >>= fun m => (onMessage m >>= fun _ => modS fun s => { s with frames := [] })) sa := by
    rw [onFrame_data f s hctl hcont, if_pos hfin]
    rfl
  have hpre : onOut (.frame f) s =
      ((buildMessage (first :: tl) >>= fun m => (onMessage m >>= fun _ => modS fun s => { s with frames := [] }))
        >>= fun _ => notClosed) sa := by
    show (do onFrame f; notClosed : M Bool) s = _
    rw [← hfr']
    cases hq : (buildMessage sa.frames >>= fun m => (onMessage m >>= fun _ => modS fun s => { s with frames := [] })) sa with
    | ok u s' => rw [bind_ok (hfe.trans hq), bind_ok hq]
    | err x s' => rw [bind_err (hfe.trans hq), bind_err hq]
  have hb := buildMessage_compressed first tl sa h1 hdec
  simp only [] at hb
  unfold ZOutcome
  rw [hpre]
  have hsa1 : sa.cfg = s.cfg := rfl
  have hsa2 : sa.compression = s.compression := rfl
  have hsa3 : sa.inflHist = s.inflHist := rfl
  have hsa4 : sa.inflOut = s.inflOut := rfl
  rw [hsa1, hsa2, hsa3, hsa4] at hb
  cases hi : s.cfg.inflate ((s.compression.map (·.decompressWbits)).getD 15)
      (s.inflHist ++ ((first :: tl).map (·.payload)).flatten ++ [0, 0, 0xff, 0xff]) with
  | none =>
    rw [hi] at hb
    simp only [] at hb ⊢
    refine ⟨sa, ?_, ⟨by constructor <;> rfl, rfl, rfl⟩⟩
    exact bind_err (bind_err hb)
  | some out =>
    rw [hi] at hb
    simp only [] at hb ⊢
    generalize hsb : (if (s.compression.map (·.resetDecompress)).getD false = true
        then ({ sa with inflHist := [], inflOut := 0 } : Sys)
        else { sa with inflHist := s.inflHist ++ ((first :: tl).map (·.payload)).flatten ++ [0, 0, 0xff, 0xff],
                       inflOut := out.length }) = sb at hb
    have hbook : Book s sb := by
      rw [← hsb]
      split <;> exact ⟨by constructor <;> rfl, rfl, rfl⟩
    have hsbp : sb.p = s.p := by rw [← hsb]; split <;> rfl
    rw [hop] at hb
    cases hd : Utf8.decode (out.drop s.inflOut) with
    | none =>
      simp only []
      have hm : msgOfPayload 1 (out.drop s.inflOut) = .error (.critical "payload contains invalid utf-8") := by
        have := (msgOfPayload_text (out.drop s.inflOut)).2.mpr (by
          have h := Utf8.decode_isSome (out.drop s.inflOut)
          rw [hd] at h
          exact h.symm)
        exact this
      rw [hm] at hb
      exact ⟨sb, bind_err (bind_err hb), hbook⟩
    | some cps =>
      simp only []
      have hm : msgOfPayload 1 (out.drop s.inflOut) = .ok (.text cps) :=
        ((msgOfPayload_text (out.drop s.inflOut)).1 cps).mpr hd
      rw [hm] at hb
      have gb : Good sb := ⟨by rw [hbook.inert.react]; exact g.quiet, (noTimeout_book hbook).mpr g.nt⟩
      obtain ⟨_, s1, h2, c⟩ := tot_feedYield true (.text cps) trivial sb gb
      have hs1c : s1.closed = false := by rw [c.closed, hbook.closed]; exact hc
      refine ⟨{ s1 with frames := [] }, ?_, ?_, rfl, ?_, ?_⟩
      · have hq : (buildMessage (first :: tl) >>= fun m => (onMessage m >>= fun _ => modS fun s => { s with frames := [] })) sa
            = .ok () { s1 with frames := [] } := by
          rw [bind_ok hb]
          have : onMessage (.text cps) sb = .ok () s1 := h2
          rw [bind_ok this]
          rfl
        rw [bind_ok hq]
        show Res.ok (!s1.closed) _ = _
        rw [hs1c]; rfl
      · refine ⟨c.cfg.trans hbook.inert.cfg, c.react.trans hbook.inert.react, c.closed.trans hbook.closed,
          c.closing.trans hbook.closing, ?_, ?_⟩
        · exact fun hnt => c.nt ((noTimeout_book hbook).mpr hnt)
        · show delivered s1.trace = _
          rw [c.evs, hbook.inert.trace]
      · show Between s1.p
        rw [c.p, hsbp]; exact hbet
      · show s1.p.compression = true
        rw [c.p, hsbp]; exact hcomp

def setPF (s0 : Sys) (p : PState) (fr : List Frame) : Sys := { s0 with p := p, frames := fr }

theorem contLoop_nil (r : Res Bool) : contLoop r [] = r := by
  cases r with
  | err x s => rfl
  | ok b s => cases b <;> simp [contLoop, feedLoop_nil]

theorem book_setPF (s0 : Sys) (p : PState) (fr : List Frame) : Book s0 (setPF s0 p fr) :=
  ⟨by constructor <;> rfl, rfl, rfl⟩

theorem rel_setPF (s0 : Sys) (p : PState) (fr : List Frame) : Rel [] s0 (setPF s0 p fr) :=
  ⟨rfl, rfl, rfl, rfl, id, rfl⟩

theorem ZOutcome.rebase {s0 : Sys} {p : PState} {fr : List Frame} {j : Bytes} {r : Res Bool}
    (h : ZOutcome (setPF s0 p fr) j r) : ZOutcome s0 j r := by
  unfold ZOutcome at *
  have e1 : (setPF s0 p fr).cfg = s0.cfg := rfl
  have e2 : (setPF s0 p fr).compression = s0.compression := rfl
  have e3 : (setPF s0 p fr).inflHist = s0.inflHist := rfl
  have e4 : (setPF s0 p fr).inflOut = s0.inflOut := rfl
  rw [e1, e2, e3, e4] at h
  cases hi : s0.cfg.inflate ((s0.compression.map (·.decompressWbits)).getD 15) (s0.inflHist ++ j ++ [0, 0, 0xff, 0xff]) with
  | none =>
    rw [hi] at h
    simp only [] at h ⊢
    obtain ⟨s', e, b⟩ := h
    exact ⟨s', e, book_trans (book_setPF s0 p fr) b⟩
  | some out =>
    rw [hi] at h
    simp only [] at h ⊢
    cases hd : Utf8.decode (out.drop s0.inflOut) with
    | none =>
      rw [hd] at h
      simp only [] at h ⊢
      obtain ⟨s', e, b⟩ := h
      exact ⟨s', e, book_trans (book_setPF s0 p fr) b⟩
    | some cps =>
      rw [hd] at h
      simp only [] at h ⊢
      obtain ⟨s', e, rl, f, bt, c⟩ := h
      exact ⟨s', e, by simpa using (rel_setPF s0 p fr).trans rl, f, bt, c⟩

theorem zframe_facts (first fin : Bool) (payload : Bytes) :
    (zframe first fin payload).isControl = false ∧
    ((zframe first fin payload).isContinuation = true ↔ first = false) ∧
    (zframe first fin payload).payload = payload ∧
    ((zframe first fin payload).fin ≠ 0 ↔ fin = true) := by
  cases first <;> cases fin <;> simp [zframe, Frame.isControl, Frame.isContinuation, Gen.opContinuation]

theorem good_setPF {s0 : Sys} (g : Good s0) (p : PState) (fr : List Frame) : Good (setPF s0 p fr) := ⟨g.quiet, g.nt⟩

theorem zcont_feed (s0 : Sys) (g : Good s0) (hcl : s0.closed = false) (hdec : s0.decompress = true)
    (r : List Frag) (hr : r ≠ []) (hok : ∀ x ∈ r, x.Ok) (p : PState) (fr : List Frame) (acc : Bytes)
    (hz : ZOpen (setPF s0 p fr) acc) :
    ZOutcome s0 (acc ++ (r.map (·.payload)).flatten) (feedLoop (zcont r) (setPF s0 p fr)) := by
  induction r generalizing p fr acc with
  | nil => exact absurd rfl hr
  | cons x r ih =>
    obtain ⟨f0, tl, hfr, hr1, hop, hacc⟩ := hz.frames
    have hfr' : fr = f0 :: tl := hfr
    have hxok : x.Ok := hok x (by simp)
    cases r with
    | nil =>
      obtain ⟨p', hstep, hb', hc', hd', _, hnt⟩ := zframe_step s0.cfg.v p hz.comp false true (fun _ => hz.zin) x.payload
      have e := feedLoop_one_frame (setPF s0 p fr) hz.b (zb0 false true) x.form x.payload hxok [] p'
        (zframe false true x.payload) hstep
      have e' : feedLoop (zcont [x]) (setPF s0 p fr) = onOut (.frame (zframe false true x.payload)) (setPF s0 p' fr) := by
        have : zcont [x] = serialise (zb0 false true) x.form x.payload ++ [] := by simp [zcont, zbytes]
        rw [this, e, contLoop_nil]; rfl
      rw [e']
      obtain ⟨hctl, hcont, hpl, hfin⟩ := zframe_facts false true x.payload
      have hbet : Between (setPF s0 p' fr).p := ⟨hb', hnt rfl, hd'.trans hz.dfa⟩
      have ho := onOut_zfin (zframe false true x.payload) (setPF s0 p' fr) (good_setPF g _ _) hcl (hfin.mpr rfl) hctl
        (by
          show _ ↔ fr ≠ []
          rw [hfr']; simp [hcont]) f0 (tl ++ [zframe false true x.payload])
        (by show fr ++ _ = _; rw [hfr']; rfl) hr1 hop hdec hbet hc'
      have hj : ((f0 :: (tl ++ [zframe false true x.payload])).map (·.payload)).flatten
          = acc ++ (([x].map (·.payload)).flatten) := by
        have : ((f0 :: (tl ++ [zframe false true x.payload])).map (·.payload)).flatten
            = ((f0 :: tl).map (·.payload)).flatten ++ x.payload := by
          simp [hpl]
        rw [this, hacc]; simp
      rw [hj] at ho
      exact ho.rebase
    | cons x' r' =>
      obtain ⟨p', hstep, hb', hc', hd', hzin, _⟩ := zframe_step s0.cfg.v p hz.comp false false (fun _ => hz.zin) x.payload
      have e := feedLoop_one_frame (setPF s0 p fr) hz.b (zb0 false false) x.form x.payload hxok (zcont (x' :: r')) p'
        (zframe false false x.payload) hstep
      obtain ⟨hctl, hcont, hpl, hfin⟩ := zframe_facts false false x.payload
      have hmore := onOut_data_more (zframe false false x.payload) (setPF s0 p' fr) hcl
        (by
          cases hf : (zframe false false x.payload).fin with
          | zero => rfl
          | succ n => exact absurd (hfin.mp (by rw [hf]; simp)) (by simp)) hctl
        (by
          show _ ↔ fr ≠ []
          rw [hfr']; simp [hcont])
      have e' : feedLoop (zcont (x :: x' :: r')) (setPF s0 p fr)
          = feedLoop (zcont (x' :: r')) (setPF s0 p' (fr ++ [zframe false false x.payload])) := by
        have : zcont (x :: x' :: r') = serialise (zb0 false false) x.form x.payload ++ zcont (x' :: r') := rfl
        rw [this, e]
        have h2 : onOut (.frame (zframe false false x.payload)) { setPF s0 p fr with p := p' }
            = .ok true (setPF s0 p' (fr ++ [zframe false false x.payload])) := hmore
        rw [h2]; rfl
      rw [e']
      have hz' : ZOpen (setPF s0 p' (fr ++ [zframe false false x.payload])) (acc ++ x.payload) := by
        refine ⟨⟨f0, tl ++ [zframe false false x.payload], by show fr ++ _ = _; rw [hfr']; rfl, hr1, hop, ?_⟩,
          hzin rfl, hb', hc', hd'.trans hz.dfa⟩
        have : ((f0 :: (tl ++ [zframe false false x.payload])).map (·.payload)).flatten
            = ((f0 :: tl).map (·.payload)).flatten ++ x.payload := by
          simp [hpl]
        rw [this, hacc]
      have := ih (by simp) (fun y hy => hok y (by simp [hy])) p' (fr ++ [zframe false false x.payload])
        (acc ++ x.payload) hz'
      have hj : acc ++ x.payload ++ ((x' :: r').map (·.payload)).flatten
          = acc ++ ((x :: x' :: r').map (·.payload)).flatten := by simp
      rw [hj] at this
      exact this

/-- **one compressed text message through the loop**, from a state between two messages on a
    connection with permessage-deflate negotiated -/
theorem feed_zmsg (m : ZMsg) (hm : m.Ok) (s0 : Sys) (g : Good s0) (hcl : s0.closed = false) (hfr : s0.frames = [])
    (hbet : Between s0.p) (hcomp : s0.p.compression = true) (hdec : s0.decompress = true) :
    ZOutcome s0 m.joined (feedLoop m.bytes s0) := by
  obtain ⟨first, rest⟩ := m
  have hsp : ∀ q : PState, ({ s0 with p := q } : Sys) = setPF s0 q [] := by
    intro q
    cases s0; simp only [setPF] at *; simp_all
  cases rest with
  | nil =>
    obtain ⟨hctl, hcont, hpl, hfin⟩ := zframe_facts true true first.payload
    obtain ⟨p', hstep, hb', hc', hd', _, hnt⟩ :=
      zframe_step s0.cfg.v s0.p hcomp true true (fun h => by cases h) first.payload
    have e := feedLoop_one_frame s0 hbet.b (zb0 true true) first.form first.payload hm.1 [] p'
      (zframe true true first.payload) hstep
    have eb : feedLoop (ZMsg.bytes ⟨first, []⟩) s0 = onOut (.frame (zframe true true first.payload)) (setPF s0 p' []) := by
      have : ZMsg.bytes ⟨first, []⟩ = serialise (zb0 true true) first.form first.payload ++ [] := by
        simp [ZMsg.bytes, zbytes, zcont]
      rw [this, e, contLoop_nil, hsp]
    rw [eb]
    have hbet' : Between (setPF s0 p' []).p := ⟨hb', hnt rfl, hd'.trans hbet.dfa⟩
    have ho := onOut_zfin (zframe true true first.payload) (setPF s0 p' []) (good_setPF g _ _) hcl (hfin.mpr rfl) hctl
      (by
        show _ ↔ ([] : List Frame) ≠ []
        simp [zframe, Frame.isContinuation, Gen.opContinuation]) (zframe true true first.payload) [] rfl
      (by simp [zframe]) rfl hdec hbet' hc'
    have hj : (([zframe true true first.payload]).map (·.payload)).flatten = ZMsg.joined ⟨first, []⟩ := by
      simp [ZMsg.joined, zframe]
    rw [hj] at ho
    exact ho.rebase
  | cons x r =>
    obtain ⟨hctl, hcont, hpl, hfin⟩ := zframe_facts true false first.payload
    obtain ⟨p', hstep, hb', hc', hd', hzin, _⟩ :=
      zframe_step s0.cfg.v s0.p hcomp true false (fun h => by cases h) first.payload
    have e := feedLoop_one_frame s0 hbet.b (zb0 true false) first.form first.payload hm.1 (zcont (x :: r)) p'
      (zframe true false first.payload) hstep
    have hmore := onOut_data_more (zframe true false first.payload) (setPF s0 p' []) hcl
      (by simp [zframe]) hctl
      (by
        show _ ↔ ([] : List Frame) ≠ []
        simp [zframe, Frame.isContinuation, Gen.opContinuation])
    have eb : feedLoop (ZMsg.bytes ⟨first, x :: r⟩) s0
        = feedLoop (zcont (x :: r)) (setPF s0 p' [zframe true false first.payload]) := by
      have : ZMsg.bytes ⟨first, x :: r⟩ = serialise (zb0 true false) first.form first.payload ++ zcont (x :: r) := rfl
      rw [this, e, hsp, hmore]
      rfl
    rw [eb]
    have hz : ZOpen (setPF s0 p' [zframe true false first.payload]) first.payload :=
      ⟨⟨zframe true false first.payload, [], rfl, by simp [zframe], rfl, by simp [zframe]⟩, hzin rfl, hb', hc',
        hd'.trans hbet.dfa⟩
    exact zcont_feed s0 g hcl hdec (x :: r) (by simp) hm.2 p' _ first.payload hz

end Lomond.Core.E2E
