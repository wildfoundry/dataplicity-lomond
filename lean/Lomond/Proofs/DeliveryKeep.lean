/-
  C01: what nothing below `feedYield` assigns (`Own`); the consumer of a frame never touches the
  parser (`KeepP`: an instance of the generic `Spec` lemmas of Proofs/SpecGen.lean up to
  `onOut (.frame f)`), hence the lazy `feedLoop` is the fold of the consumer over the eager parser's
  outputs (`feedLoop_eq_fold`).
-/
import Lomond.Proofs.DeliveryParse
import Lomond.Proofs.Calls
namespace Lomond.Core
open Lomond

/-- the configuration and the fields owned by the parser and by the stream / message layers:
    nothing below `feedYield` assigns them -/
structure Own (s s' : Sys) : Prop where
  cfg : s'.cfg = s.cfg
  p : s'.p = s.p
  frames : s'.frames = s.frames
  hist : s'.inflHist = s.inflHist
  out : s'.inflOut = s.inflOut

theorem own_po : PO Own where
  refl _ := ⟨rfl, rfl, rfl, rfl, rfl⟩
  trans h1 h2 := ⟨h2.cfg.trans h1.cfg, h2.p.trans h1.p, h2.frames.trans h1.frames,
    h2.hist.trans h1.hist, h2.out.trans h1.out⟩

theorem own_leaves : TimerLeaves Own :=
  { own_po with
    sockClose := fun _ _ => ⟨rfl, rfl, rfl, rfl, rfl⟩
    key := fun _ => ⟨rfl, rfl, rfl, rfl, rfl⟩
    wr := fun _ _ _ _ _ _ _ => ⟨rfl, rfl, rfl, rfl, rfl⟩
    wrz := fun _ _ _ _ _ _ _ _ _ => ⟨rfl, rfl, rfl, rfl, rfl⟩
    closeSent := fun _ => ⟨rfl, rfl, rfl, rfl, rfl⟩
    res := fun _ _ => ⟨rfl, rfl, rfl, rfl, rfl⟩
    abandon := fun _ _ => ⟨rfl, rfl, rfl, rfl, rfl⟩
    ev := fun _ _ => ⟨rfl, rfl, rfl, rfl, rfl⟩
    polled := fun _ => ⟨rfl, rfl, rfl, rfl, rfl⟩
    pinged := fun _ _ _ => ⟨rfl, rfl, rfl, rfl, rfl⟩
    becameReady := fun _ => ⟨rfl, rfl, rfl, rfl, rfl⟩
    gotPong := fun _ => ⟨rfl, rfl, rfl, rfl, rfl⟩
    disconnected := fun _ => ⟨rfl, rfl, rfl, rfl, rfl⟩ }

def KeepP (s s' : Sys) : Prop := s'.p = s.p

theorem keep_po : PO KeepP where
  refl _ := rfl
  trans := by intro a b c h1 h2; exact Eq.trans h2 h1

theorem keep_log (o : Obs) : Spec KeepP (log o) := fun _ => rfl

theorem keep_leaves : TimerLeaves KeepP := own_leaves.mono keep_po (·.p)

/-- only for a frame: the handshake response, the other output, installs the negotiated compression
    in the parser field -/
theorem keep_onOut_frame (f : Frame) : Spec KeepP (onOut (.frame f)) := by
  have hb := fun fs => spec_buildMessage keep_po fs (fun j => spec_inflateMessage keep_po j (fun _ _ _ => rfl))
  have hm := fun m => spec_onMessage keep_po m
    (fun c r => spec_onClose keep_po c r (keep_leaves.feedYield _ _) (keep_leaves.feedYield _ _)
      (keep_leaves.wsClose _ _) (fun _ => rfl) (fun _ => rfl)) (fun e _ => keep_leaves.feedYield true e)
  exact spec_bind keep_po
    (spec_onFrame keep_po f hb hm (spec_onDataFrame keep_po f (fun _ => rfl) (fun _ => rfl) hb hm))
    (fun _ => spec_notClosed keep_po)

/-- how the loop ends once every output has been consumed: data exhausted (`true`), or the
    parser's exception -/
def PRun.fin (r : PRun) (s : Sys) : Res Bool :=
  match r.err with
  | none => .ok true { s with p := r.p }
  | some x => .err x { s with p := r.p }

/-- push the parser's outputs through the stream / websocket / session / application layers, one
    after the other; each output is handed over with the parser in the state it had at that
    `yield`; stop at the first exception or `break` -/
def consume (fin : Sys → Res Bool) : List (PState × Out) → Sys → Res Bool
  | [], s => fin s
  | (p1, o) :: rest, s =>
    match onOut o { s with p := p1 } with
    | .ok true s2 => consume fin rest s2
    | .ok false s2 => .ok false s2
    | .err x s2 => .err x s2

theorem PRun.push_fin (x : PState × Option Out) (r : PRun) : (r.push x).fin = r.fin := by
  unfold PRun.push
  split <;> rfl

theorem fin_ok (r : PRun) (he : r.err = none) (s : Sys) : r.fin s = .ok true { s with p := r.p } := by
  unfold PRun.fin; rw [he]

theorem PRun.push_outs_none (p1 : PState) (r : PRun) : (r.push (p1, none)).outs = r.outs := rfl
theorem PRun.push_outs_some (p1 : PState) (o : Out) (r : PRun) :
    (r.push (p1, some o)).outs = (p1, o) :: r.outs := rfl

theorem consume_setP (r : PRun) (outs : List (PState × Out)) (s : Sys) (q : PState) :
    consume r.fin outs { s with p := q } = consume r.fin outs s := by
  cases outs with
  | nil => rfl
  | cons x rest => obtain ⟨p1, o⟩ := x; rfl

/-- because handling a frame changes neither the parser state (`keep_onOut_frame`) nor the
    configuration, the parser's sequence of bites does not depend on what the consumer does in
    between -/
theorem feedLoop_eq_fold (data : Bytes) (s : Sys) (hc : s.p.cont ≠ .header) :
    feedLoop data s = consume (pRun s.cfg.v s.p data).fin (pRun s.cfg.v s.p data).outs s := by
  have step (data : Bytes) (s : Sys) (hd : data ≠ []) (r : PState × Option Out)
      (hb : biteBytes s.cfg.v s.p (data.take (s.p.remPred + 1)) = .ok r) :
      pRun s.cfg.v s.p data = (pRun s.cfg.v r.1 (data.drop (s.p.remPred + 1))).push r := by
    rw [pRun]; simp only [hd, dite_false, hb]
  refine feedLoop_induct
    (P := fun data s r => s.p.cont ≠ .header →
      r = consume (pRun s.cfg.v s.p data).fin (pRun s.cfg.v s.p data).outs s) ?_ ?_ ?_ ?_ ?_ ?_ data s hc
  · intro s _; rw [pRun_nil]; rfl
  · intro data s x hd hb _
    rw [pRun]; simp only [hd, dite_false, hb]; rfl
  · intro data s p' hd hb ih hc
    rw [step data s hd _ hb, PRun.push_fin, PRun.push_outs_none, ← consume_setP _ _ s p']
    exact ih ((biteBytes_res hb).2.2.2 hc)
  · intro data s p' o x s2 hd hb ho _
    rw [step data s hd _ hb, PRun.push_fin, PRun.push_outs_some]
    simp only [consume, ho]
  · intro data s p' o s2 hd hb ho _
    rw [step data s hd _ hb, PRun.push_fin, PRun.push_outs_some]
    simp only [consume, ho]
  · intro data s p' o s2 hd hb ho ih hc
    obtain ⟨f, rfl⟩ := (biteBytes_res hb).2.2.1 hc o rfl
    have e1 : s2.p = p' := (keep_onOut_frame f).ok ho
    have e2 : s2.cfg = s.cfg := ((step_onOut (.frame f)).ok ho).cfg
    rw [step data s hd _ hb, PRun.push_fin, PRun.push_outs_some]
    simp only [consume, ho]
    have := ih (by rw [e1]; exact (biteBytes_res hb).2.2.2 hc)
    rw [e1, e2] at this
    exact this

end Lomond.Core
