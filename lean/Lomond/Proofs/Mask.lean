/-
  The interpreted mechanics of `mask_payload` (Model/Mask.lean over Generated/Mask.lean) compute
  the specification `maskPayload`: the key unpacks to four rows of the XOR table (`unpack_four`),
  one slice statement XORs its lane (`laneStmt_four`, `mapLane`), the four statements of the source
  in any order give `lanesSpec` (`runLanes_canon`), and all four lanes are `maskPayload`
  (`lanesSpec_all`).  For Properties/C03_Mask.lean.
-/
import Lomond.Model.Mask
import Lomond.Proofs.FrameCodec

namespace Lomond.Mask
open Lomond

/-- row `b` of the table, as a closed form -/
def xorRow (b : Nat) : Bytes := (List.range 256).map fun a => a ^^^ b

theorem xorRow_length (b : Nat) : (xorRow b).length = 256 := by simp [xorRow]

theorem xorRow_getD (a b : Nat) (ha : a < 256) : (xorRow b).getD a 0 = a ^^^ b := by
  simp [xorRow, List.getD_eq_getElem?_getD, ha]

theorem xorTable_eq : xorTable = (List.range 256).map xorRow := by
  simp [xorTable, buildTable, Gen.maskTableOuterVar, Gen.maskTableInnerVar, Gen.maskTableOuterN,
    Gen.maskTableInnerN, Gen.maskTableElt, evalOp, evalOperand, xorRow]

theorem xorTable_get (b : Nat) (hb : b < 256) : xorTable[b]? = some (xorRow b) := by
  simp [xorTable_eq, hb]

theorem xorTable_get_none (b : Nat) (hb : 256 ≤ b) : xorTable[b]? = none := by
  simp [xorTable_eq, hb]

theorem rowsOf_wf (l : Bytes) (hl : Bytes.WF l) : rowsOf xorTable l = .ok (l.map xorRow) := by
  induction l with
  | nil => rfl
  | cons n r ih =>
    have hn : n < 256 := hl n (by simp)
    have hr : Bytes.WF r := fun b hb => hl b (by simp [hb])
    simp [rowsOf, xorTable_get n hn, ih hr]

/-- what one lane statement with step 4 does, as a closed form -/
def mapLane (k : Nat) (f : Nat → Nat) (data : Bytes) : Bytes :=
  data.mapIdx fun i x => if i % 4 = k then f x else x

theorem mapLane_length (k : Nat) (f : Nat → Nat) (data : Bytes) : (mapLane k f data).length = data.length := by
  simp [mapLane]

theorem sliceGet_length (s t : Nat) (data : Bytes) : (sliceGet s t data).length = sliceLen s t data.length := by
  simp [sliceGet]

/-- `data[k::4] = data[k::4].translate(row)` with any 256-entry row -/
theorem laneStmt_four (env : List (String × Bytes)) (k : Nat) (name : String) (row data : Bytes)
    (hk : k < 4) (henv : env.lookup name = some row) (hrow : row.length = 256) :
    laneStmt env (k, 4, k, 4, name) data = .ok (mapLane k (fun x => row.getD x 0) data) := by
  have hlen : ((sliceGet k 4 data).map fun x => row.getD x 0).length = sliceLen k 4 data.length := by
    simp [sliceGet]
  simp only [laneStmt, henv, translate, hrow, sliceSet]
  simp only [show (4 : Nat) ≠ 0 by decide, show (4 : Nat) ≠ 1 by decide, if_true, if_false]
  by_cases hnil : (sliceGet k 4 data).map (fun x => row.getD x 0) = []
  · -- the slice is empty (len ≤ k): the deletion deletes nothing, and no index is in the lane
    have hz : sliceLen k 4 data.length = 0 := by rw [← hlen, hnil]; rfl
    have hle : data.length ≤ k := by unfold sliceLen at hz; omega
    rw [if_pos hnil]
    simp only []
    congr 1
    have hf : ((List.range data.length).filter fun i => !decide (k ≤ i ∧ (i - k) % 4 = 0)) = List.range data.length := by
      apply List.filter_eq_self.mpr
      intro i hi
      have : i < data.length := List.mem_range.mp hi
      have : ¬ (k ≤ i ∧ (i - k) % 4 = 0) := by omega
      simp [this]
    rw [hf]
    apply List.ext_getElem
    · simp [mapLane]
    · intro i h1 h2
      simp only [List.length_map, List.length_range] at h1
      have hc : ¬ i % 4 = k := by omega
      simp [mapLane, hc, List.getD_eq_getElem?_getD, h1]
  rw [if_neg hnil, if_pos hlen]
  simp only []
  congr 1
  apply List.ext_getElem
  · simp [mapLane]
  · intro i h1 h2
    simp only [List.length_map, List.length_range] at h1
    simp only [List.getElem_map, List.getElem_range, mapLane, List.getElem_mapIdx]
    by_cases hc : i % 4 = k
    · have h3 : k ≤ i ∧ (i - k) % 4 = 0 := by omega
      have h4 : (i - k) / 4 < sliceLen k 4 data.length := by unfold sliceLen; omega
      have h5 : k + (i - k) / 4 * 4 = i := by omega
      simp only [h3, hc, and_self, if_true]
      simp [sliceGet, List.getD_eq_getElem?_getD, h4, h5, h1]
    · have h3 : ¬ (k ≤ i ∧ (i - k) % 4 = 0) := by omega
      simp [h3, hc, List.getD_eq_getElem?_getD, h1]

theorem mapLane_xor (k b : Nat) (data : Bytes) (hd : Bytes.WF data) :
    mapLane k (fun x => (xorRow b).getD x 0) data = mapLane k (fun x => x ^^^ b) data := by
  apply List.ext_getElem
  · simp [mapLane]
  · intro i h1 h2
    simp only [mapLane, List.length_mapIdx] at h1
    simp only [mapLane, List.getElem_mapIdx]
    have : data[i] < 256 := hd _ (List.getElem_mem h1)
    rw [xorRow_getD _ b this]

theorem mapLane_xor_wf (k b : Nat) (data : Bytes) (hb : b < 256) (hd : Bytes.WF data) :
    Bytes.WF (mapLane k (fun x => x ^^^ b) data) := by
  intro x hx
  simp only [mapLane, List.mem_mapIdx] at hx
  obtain ⟨i, hi, rfl⟩ := hx
  have : data[i] < 256 := hd _ (List.getElem_mem hi)
  split
  · exact Lomond.xor_lt_256 this hb
  · exact this

/-- the four statements of the source -/
def canon : List Stmt := [(0, 4, 0, 4, "a"), (1, 4, 1, 4, "b"), (2, 4, 2, 4, "c"), (3, 4, 3, 4, "d")]

/-- the environment after the unpacking for the key `[k0, k1, k2, k3]` -/
def envOf (k0 k1 k2 k3 : Nat) : List (String × Bytes) :=
  [("a", xorRow k0), ("b", xorRow k1), ("c", xorRow k2), ("d", xorRow k3)]

theorem laneStmt_canon (k0 k1 k2 k3 : Nat) (s : Stmt) (hs : s ∈ canon) (data : Bytes) (hd : Bytes.WF data) :
    s.1 < 4 ∧ laneStmt (envOf k0 k1 k2 k3) s data =
      .ok (mapLane s.1 (fun x => x ^^^ [k0, k1, k2, k3].getD s.1 0) data) := by
  simp only [canon, List.mem_cons, List.not_mem_nil, or_false] at hs
  rcases hs with rfl | rfl | rfl | rfl
  · refine ⟨by decide, ?_⟩
    rw [laneStmt_four _ 0 "a" (xorRow k0) data (by decide) (by simp [envOf]) (xorRow_length _),
      mapLane_xor _ _ _ hd]; rfl
  · refine ⟨by decide, ?_⟩
    rw [laneStmt_four _ 1 "b" (xorRow k1) data (by decide) (by simp [envOf, List.lookup]) (xorRow_length _),
      mapLane_xor _ _ _ hd]; rfl
  · refine ⟨by decide, ?_⟩
    rw [laneStmt_four _ 2 "c" (xorRow k2) data (by decide) (by simp [envOf, List.lookup]) (xorRow_length _),
      mapLane_xor _ _ _ hd]; rfl
  · refine ⟨by decide, ?_⟩
    rw [laneStmt_four _ 3 "d" (xorRow k3) data (by decide) (by simp [envOf, List.lookup]) (xorRow_length _),
      mapLane_xor _ _ _ hd]; rfl

/-- closed form of a run of canonical statements, each lane at most once, in ANY order: byte `i` is
    XORed with `key[i % 4]` iff the statement of lane `i % 4` is in the list -/
def lanesSpec (key : Bytes) (lanes : List Nat) (data : Bytes) : Bytes :=
  data.mapIdx fun i x => if i % 4 ∈ lanes then x ^^^ key.getD (i % 4) 0 else x

theorem runLanes_canon (k0 k1 k2 k3 : Nat) (hk : Bytes.WF [k0, k1, k2, k3]) (l : List Stmt) :
    ∀ (data : Bytes), (∀ s ∈ l, s ∈ canon) → (l.map (·.1)).Nodup → Bytes.WF data →
      runLanes (envOf k0 k1 k2 k3) l data = .ok (lanesSpec [k0, k1, k2, k3] (l.map (·.1)) data) := by
  induction l with
  | nil =>
    intro data _ _ _
    simp only [runLanes, List.map_nil, lanesSpec, List.not_mem_nil, if_false]
    congr 1
    apply List.ext_getElem <;> simp
  | cons s r ih =>
    intro data hmem hnd hd
    obtain ⟨hs4, hs⟩ := laneStmt_canon k0 k1 k2 k3 s (hmem s (by simp)) data hd
    have hkb : [k0, k1, k2, k3].getD s.1 0 < 256 := by
      have : s.1 = 0 ∨ s.1 = 1 ∨ s.1 = 2 ∨ s.1 = 3 := by omega
      rcases this with h | h | h | h <;> rw [h] <;> exact hk _ (by simp)
    have hd' := mapLane_xor_wf s.1 _ data hkb hd
    simp only [List.map_cons, List.nodup_cons] at hnd
    simp only [runLanes, hs]
    rw [ih _ (fun t ht => hmem t (by simp [ht])) hnd.2 hd']
    congr 1
    apply List.ext_getElem
    · simp [lanesSpec, mapLane]
    · intro i h1 h2
      simp only [lanesSpec, mapLane, List.getElem_mapIdx, List.map_cons, List.mem_cons]
      by_cases hc : i % 4 = s.1
      · simp only [hc, hnd.1, if_false, true_or, if_true]
      · simp only [hc, false_or, if_false]

theorem lanesSpec_all (key data : Bytes) : lanesSpec key [0, 1, 2, 3] data = maskPayload key data := by
  apply List.ext_getElem?
  intro i
  have hm : i % 4 ∈ [0, 1, 2, 3] := by
    have : i % 4 < 4 := Nat.mod_lt _ (by decide)
    simp only [List.mem_cons, List.not_mem_nil, or_false]; omega
  have := maskFrom_getElem? key 0 data i
  simp only [Nat.zero_add] at this
  simp only [maskPayload, this, lanesSpec, List.getElem?_mapIdx, hm, if_true]

theorem unpack_four (k0 k1 k2 k3 : Nat) (hk : Bytes.WF [k0, k1, k2, k3]) :
    unpackRows xorTable 4 [k0, k1, k2, k3] = .ok [xorRow k0, xorRow k1, xorRow k2, xorRow k3] := by
  simp [unpackRows, rowsOf_wf _ hk]

theorem unpack_other (key : Bytes) (hk : Bytes.WF key) (hl : key.length ≠ 4) :
    unpackRows xorTable 4 key = .error .valueError := by
  have hw : Bytes.WF (key.take 5) := fun b hb => hk b (List.mem_of_mem_take hb)
  have : ¬ (min 5 key.length = 4) := by omega
  simp [unpackRows, rowsOf_wf _ hw, this]

end Lomond.Mask
