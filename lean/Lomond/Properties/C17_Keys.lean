/-
  C17 — "every connect() on a WebSocket object begins with a new handshake key".

  Model: `Model/KeyChain.lean` (the key schedule of one object over all its `connect()` calls, driven by a
  nonce source `src : Nat → Bytes`, `src k` = the k-th `os.urandom(16)` made for this object; draw 0 belongs
  to the constructor's `State`, draw k ≥ 1 to `connect()` number k).

  1. `b64_injective_16` / `b64_injective`: base64 (the `Handshake.b64encode` C10 uses) loses nothing, so two
     different nonces never give the same key text.
  2. `keys_pairwise_distinct` (+ `keys_nodup`, `requests_pairwise_distinct`): a source that does not repeat
     within the first `n` draws gives `n` pairwise different keys, each key is what an independent RFC 7230
     reader finds as `Sec-WebSocket-Key` in the request of that `connect()`, hence no key is sent twice.
     `keys_distinct_iff`: for byte-valued nonces "no key repeats" is EXACTLY "no nonce repeats".
  3. `repeating_source_resends_key`, `pooled_resends_key`: the converse witness — a source of period 16 (a pool
     of 16 nonces that wraps: seeded change C17-r4m1) makes `connect()` number `k+16` put the key of `connect()`
     number `k` on the wire again.
  4. `key_is_one_fresh_draw_per_state`, `connect_draws_new_key`, `chain_eq_afterConnects`: the source tie, by
     `decide` over facts re-extracted from /repo on every run — the initialiser of `State.key` is the text
     `b64encode(os.urandom(16))` (exactly one, the only random initialiser of `State`), `connect()` starts
     with `reset()`, which builds a new `State`, and nothing assigns `state.key` later; therefore the
     fact-driven step `KeyChain.connectStep` IS `Handshake.connect` (a new draw).  Changing that expression
     (a cached nonce, a pool, a constant, `urandom(8)`) breaks the build of this file.

  What stays outside: that `os.urandom` does not repeat is a property of the operating system (a hypothesis on
  `src` here; probability < 2^-100 for chains of any realistic length), and that `b64encode` / `os` in
  `websocket.py` are the standard library's (`harness/gencheck.py` differential test of base64, C10).
-/
import Lomond.Model.KeyChain
import Lomond.Model.Attempt
import Lomond.Proofs.Http
import Lomond.Proofs.Sha1

namespace Lomond.C17K
open Lomond Lomond.Http Lomond.Handshake Lomond.KeyChain Lomond.Spec

/-! ## 1. base64 is injective -/

/-- **b64_injective**: `b64encode` is injective on byte strings (of any lengths — also across lengths). -/
theorem b64_injective (a b : Bytes) (ha : Bytes.WF a) (hb : Bytes.WF b) (h : b64encode a = b64encode b) : a = b :=
  b64encode_injective a b ha hb h

/-- **b64_injective_16**: two 16-byte nonces with the same key text are the same nonce.
    (Proof: `b64decode (b64encode bs) = some bs`, `Proofs/Http.lean`: 3-byte groups ↦ 4 sextets and back, the two
    padded tails — 16 = 5 groups + 1 byte uses the `==` tail.) -/
theorem b64_injective_16 (a b : Bytes) (ha : Bytes.WF a) (hb : Bytes.WF b)
    (_la : a.length = 16) (_lb : b.length = 16) (h : b64encode a = b64encode b) : a = b :=
  b64encode_injective a b ha hb h

/-- the byte-range hypothesis is needed (and `os.urandom` returns bytes): on "bytes" ≥ 256 the alphabet lookup
    falls off the table — and it is satisfiable by two different 16-byte nonces that differ in the LAST byte only
    (the padded tail), whose keys differ -/
example : b64encode [1024] = b64encode [1028] ∧
    (let a := List.replicate 15 0 ++ [1]; let b := List.replicate 15 0 ++ [2]
     Bytes.WF a ∧ Bytes.WF b ∧ a.length = 16 ∧ b.length = 16 ∧ a ≠ b ∧ b64encode a ≠ b64encode b) := by
  decide

/-- a key is 24 characters when the nonce has 16 bytes -/
theorem key_length (src : Nat → Bytes) (k : Nat) (h : (src k).length = 16) : (keyOf src k).length = 24 := by
  unfold keyOf; rw [b64encode_length, h]

/-! ## 2. a source that does not repeat gives keys that do not repeat -/

/-- **keys_pairwise_distinct**: if the nonce source is injective on `[0, n)` and serves 16 bytes each time, the
    keys of the constructor and of `connect()` number `1 .. n-1` are pairwise different. -/
theorem keys_pairwise_distinct (src : Nat → Bytes) (n : Nat)
    (hinj : ∀ i j, i < n → j < n → src i = src j → i = j)
    (hlen : ∀ i, i < n → (src i).length = 16) (hwf : ∀ i, i < n → Bytes.WF (src i)) :
    ∀ i j, i < n → j < n → i ≠ j → keyOf src i ≠ keyOf src j := by
  intro i j hi hj hne e
  exact hne (hinj i j hi hj (b64_injective_16 _ _ (hwf i hi) (hwf j hj) (hlen i hi) (hlen j hj) e))

/-- the same as a statement about the list of keys in the order they are made -/
theorem keys_nodup (src : Nat → Bytes) (n : Nat)
    (hinj : ∀ i j, i < n → j < n → src i = src j → i = j)
    (hlen : ∀ i, i < n → (src i).length = 16) (hwf : ∀ i, i < n → Bytes.WF (src i)) :
    (keys src n).Nodup ∧ (keys src n).length = n ∧ ∀ k ∈ keys src n, k.length = 24 := by
  refine ⟨?_, by simp [keys], ?_⟩
  · unfold keys
    rw [List.nodup_iff_pairwise_ne, List.pairwise_map]
    refine List.Pairwise.imp_of_mem ?_ (List.pairwise_lt_range (n := n))
    intro i j hi hj hlt
    rw [List.mem_range] at hi hj
    exact keys_pairwise_distinct src n hinj hlen hwf i j hi hj (by omega)
  · intro k hk
    simp only [keys, List.mem_map, List.mem_range] at hk
    obtain ⟨i, hi, rfl⟩ := hk
    exact key_length src i (hlen i hi)

/-- **keys_distinct_iff**: for byte-valued nonces, two draws give the same key exactly when they gave the same
    nonce — the property holds for a source iff the source never repeats. -/
theorem keys_distinct_iff (src : Nat → Bytes) (hwf : ∀ i, Bytes.WF (src i)) (i j : Nat) :
    keyOf src i = keyOf src j ↔ src i = src j :=
  ⟨fun e => b64_injective _ _ (hwf i) (hwf j) e, fun e => by unfold keyOf; rw [e]⟩

/-- the key state of the object model of C10 (`Handshake.afterConnects`: constructor, then `k` calls of
    `connect()`) holds exactly `keyOf src k`, and `k + 1` draws have been used: one per `State` -/
theorem object_key (src : Nat → Bytes) (k : Nat) :
    (afterConnects src k).key = keyOf src k ∧ (afterConnects src k).draws = k + 1 :=
  ⟨(afterConnects_spec src k).2, (afterConnects_spec src k).1⟩

/-- the request of `connect()` number `k` is the request built from `keyOf src k` -/
theorem request_eq (cl : Client) (src : Nat → Bytes) (k : Nat) : nthRequest cl src k = requestOf cl src k := by
  unfold nthRequest requestOf; rw [(object_key src k).1]

/-- **request_carries_key**: an independent RFC 7230 request reader (`Spec.parseRequest`, no code shared with
    `build_request`) finds `keyOf src k` as the `Sec-WebSocket-Key` lomond wrote into the request of `connect()`
    number `k`, for every client built from URL components. -/
theorem request_carries_key (cl : Client) (src : Nat → Bytes) (k : Nat)
    (hhost : Solid cl.url.host) (hpath : Solid cl.url.path) (hquery : Solid cl.url.query)
    (hagent : ValueOk cl.agent) (hprotos : ∀ p ∈ cl.protocols, p ≠ [] ∧ Solid p)
    (hcustom : ∀ p ∈ cl.customHeaders, NameOk p.1 ∧ ValueOk p.2) :
    keyOfRequest (requestOf cl src k) = keyOf src k := by
  rw [← request_eq]
  exact keyOfRequest_nth cl src k hhost hpath hquery hagent hprotos hcustom

/-- **requests_pairwise_distinct**: with a source that does not repeat within the first `n` draws, no two of the
    `connect()` calls `1 .. n-1` on one object send the same `Sec-WebSocket-Key` (nor the constructor's unsent
    key, index 0): the keys read back out of the request bytes differ — so the requests differ. -/
theorem requests_pairwise_distinct (cl : Client) (src : Nat → Bytes) (n : Nat)
    (hinj : ∀ i j, i < n → j < n → src i = src j → i = j)
    (hlen : ∀ i, i < n → (src i).length = 16) (hwf : ∀ i, i < n → Bytes.WF (src i))
    (hhost : Solid cl.url.host) (hpath : Solid cl.url.path) (hquery : Solid cl.url.query)
    (hagent : ValueOk cl.agent) (hprotos : ∀ p ∈ cl.protocols, p ≠ [] ∧ Solid p)
    (hcustom : ∀ p ∈ cl.customHeaders, NameOk p.1 ∧ ValueOk p.2) :
    ∀ i j, i < n → j < n → i ≠ j →
      keyOfRequest (nthRequest cl src i) ≠ keyOfRequest (nthRequest cl src j) ∧
      nthRequest cl src i ≠ nthRequest cl src j := by
  intro i j hi hj hne
  have hk : keyOfRequest (nthRequest cl src i) ≠ keyOfRequest (nthRequest cl src j) := by
    rw [request_eq, request_eq, request_carries_key cl src i hhost hpath hquery hagent hprotos hcustom,
      request_carries_key cl src j hhost hpath hquery hagent hprotos hcustom]
    exact keys_pairwise_distinct src n hinj hlen hwf i j hi hj hne
  exact ⟨hk, fun e => hk (by rw [e])⟩

/-- a concrete source the hypotheses hold for: nonce `k` = fifteen zero bytes and the byte `k` (so all nonces
    share their five full 3-byte groups and differ in the padded tail only), the first 200 draws -/
def tailSrc (k : Nat) : Bytes := List.replicate 15 0 ++ [k % 256]

theorem tailSrc_ok :
    (∀ i j, i < 200 → j < 200 → tailSrc i = tailSrc j → i = j) ∧
    (∀ i, i < 200 → (tailSrc i).length = 16) ∧ (∀ i, i < 200 → Bytes.WF (tailSrc i)) := by
  refine ⟨?_, ?_, ?_⟩
  · intro i j hi hj e
    have := List.append_cancel_left e
    simp only [List.cons.injEq, and_true] at this
    omega
  · intro i _; simp [tailSrc]
  · intro i _ b hb
    simp only [tailSrc, List.mem_append, List.mem_replicate, List.mem_singleton] at hb
    rcases hb with ⟨_, rfl⟩ | rfl <;> omega

/-- the client of the harness' key chains: `WebSocket('ws://example.com/chat')` -/
def chatClient : Client :=
  { url := { secure := false, host := lit "example.com", port := none, path := lit "/chat", query := [] },
    agent := lit "lomond", protocols := [], customHeaders := [], compress := false }

/-- non-vacuity of `keys_pairwise_distinct` / `keys_nodup` / `requests_pairwise_distinct`: the hypotheses hold for
    `tailSrc` with `n = 200` and the client of the harness (`ws://example.com/chat`), and the keys of
    connects #1 and #2 really are different texts of 24 characters -/
example :
    (keys tailSrc 200).Nodup ∧
    keyOf tailSrc 1 = lit "AAAAAAAAAAAAAAAAAAAAAQ==" ∧ keyOf tailSrc 2 = lit "AAAAAAAAAAAAAAAAAAAAAg==" ∧
    keyOfRequest (nthRequest chatClient tailSrc 1) ≠ keyOfRequest (nthRequest chatClient tailSrc 2) := by
  obtain ⟨h1, h2, h3⟩ := tailSrc_ok
  refine ⟨(keys_nodup tailSrc 200 h1 h2 h3).1, by decide +kernel, by decide +kernel, ?_⟩
  exact (requests_pairwise_distinct chatClient tailSrc 200 h1 h2 h3 (by unfold Solid; decide +kernel) (by unfold Solid; decide +kernel)
    (by unfold Solid; decide +kernel) (valueOk_of_B _ (by decide +kernel))
    (by intro p hp; cases hp) (by intro p hp; cases hp) 1 2 (by omega) (by omega) (by omega)).1

/-! ## 3. the converse witness: a source that repeats -/

/-- **repeating_source_resends_key**: if the nonce source has period 16 (`src (k+16) = src k`: a pool of 16 nonces
    handed out cyclically — seeded change C17-r4m1), `connect()` number `k+16` holds, and sends, the key of
    `connect()` number `k` again: same key state, byte-identical request, same key read back by the independent
    reader.  (With `k = 0`: connect #16 uses the constructor's never-sent key; from `k = 1` on the key has been on
    the wire before.) -/
theorem repeating_source_resends_key (cl : Client) (src : Nat → Bytes) (hper : ∀ k, src (k + 16) = src k) (k : Nat) :
    keyOf src (k + 16) = keyOf src k ∧
    (afterConnects src (k + 16)).key = (afterConnects src k).key ∧
    nthRequest cl src (k + 16) = nthRequest cl src k ∧
    keyOfRequest (nthRequest cl src (k + 16)) = keyOfRequest (nthRequest cl src k) := by
  have h0 : keyOf src (k + 16) = keyOf src k := by unfold keyOf; rw [hper]
  have h1 : (afterConnects src (k + 16)).key = (afterConnects src k).key := by
    rw [(object_key src (k + 16)).1, (object_key src k).1, h0]
  have h2 : nthRequest cl src (k + 16) = nthRequest cl src k := by unfold nthRequest; rw [h1]
  exact ⟨h0, h1, h2, by rw [h2]⟩

/-- the pool of the seeded change: a block of 256 random bytes, never re-read, has period 16 … -/
theorem pooled_period (block : Bytes) (h : block.length = 256) (k : Nat) : pooled block (k + 16) = pooled block k := by
  unfold pooled
  rw [h]
  have : (k + 16) % (256 / 16) = k % (256 / 16) := by omega
  rw [this]

/-- **pooled_resends_key**: … so with that pool every `connect()` from number 17 on re-sends the key of the
    `connect()` 16 earlier, WHATEVER the 256 random bytes are — while chains of up to 16 draws look perfect
    when the block's 16 slices differ. -/
theorem pooled_resends_key (cl : Client) (block : Bytes) (h : block.length = 256) (k : Nat) :
    nthRequest cl (pooled block) (k + 16) = nthRequest cl (pooled block) k :=
  (repeating_source_resends_key cl (pooled block) (pooled_period block h) k).2.2.1

/-- the block `0, 1, …, 255` -/
def countBlock : Bytes := List.range 256

/-- non-vacuity of §3: a concrete pool whose first 16 keys are pairwise different (so the defect is invisible for
    15 connects) and whose 17th connect re-sends the key of the 1st -/
example :
    countBlock.length = 256 ∧ (keys (pooled countBlock) 16).Nodup ∧
    keyOf (pooled countBlock) 17 = keyOf (pooled countBlock) 1 ∧
    keyOf (pooled countBlock) 1 = lit "EBESExQVFhcYGRobHB0eHw==" := by
  refine ⟨by decide +kernel, by decide +kernel, ?_, by decide +kernel⟩
  exact (repeating_source_resends_key chatClient _ (pooled_period countBlock (by decide +kernel)) 1).1

/-! ## 4. the source tie -/

/-- **key_is_one_fresh_draw_per_state**: in the source as it is now, `WebSocket.State.__init__` assigns `self.key`
    exactly once, with `b64encode(os.urandom(16))`; no other attribute of `State` is initialised from random
    bytes (one draw per `State`); `connect()` begins with `reset()` and `reset()` assigns a new `State`; and no
    method of `WebSocket` assigns `state.key` (or an attribute `key` shadowing the property) afterwards. -/
theorem key_is_one_fresh_draw_per_state :
    keyInitTexts = ["b64encode(os.urandom(16))"] ∧
    ("State", "key", "b64encode(os.urandom(16))") ∈ Gen.initValues ∧
    randomStateAttrs = ["key"] ∧
    Gen.connectResetsFirst = true ∧ Gen.resetAssignsState = true ∧
    keyNeverReassigned = true ∧ "key" ∈ Gen.stateAttrs := by
  decide +kernel

/-- all of the above in one Boolean (what `KeyChain.connectStep` branches on) -/
theorem draws_fresh : drawsFresh = true := by
  obtain ⟨h1, _, h2, h3, h4, h5, _⟩ := key_is_one_fresh_draw_per_state
  unfold drawsFresh
  rw [h1, h2, h3, h4, h5]
  rfl

/-- **connect_draws_new_key**: the fact-driven step is a new draw — `connect()` on ANY key state `w` (whatever
    the object has been through) leaves the key `b64encode` of the next unused nonce and uses up exactly one. -/
theorem connect_draws_new_key (src : Nat → Bytes) (w : KeyState) :
    connectStep src w = Handshake.connect src w ∧
    (connectStep src w).key = keyOf src w.draws ∧ (connectStep src w).draws = w.draws + 1 := by
  unfold connectStep
  rw [draws_fresh]
  exact ⟨rfl, rfl, rfl⟩

/-- the fact-driven chain is the object model C10 reasons about -/
theorem chain_eq_afterConnects (src : Nat → Bytes) (n : Nat) : chain src n = afterConnects src n := by
  induction n with
  | zero => rfl
  | succ n ih => simp only [chain, afterConnects, ih, (connect_draws_new_key src _).1]

/-- **every_connect_begins_with_new_key** (the property, for the source as it is): after any number of earlier
    `connect()` calls, with a nonce source that has not repeated so far, the key `connect()` number `n` installs
    differs from the key of every earlier `State` of the object. -/
theorem every_connect_begins_with_new_key (src : Nat → Bytes) (n : Nat)
    (hinj : ∀ i j, i ≤ n → j ≤ n → src i = src j → i = j)
    (hlen : ∀ i, i ≤ n → (src i).length = 16) (hwf : ∀ i, i ≤ n → Bytes.WF (src i)) :
    ∀ m, m < n → (chain src n).key ≠ (chain src m).key := by
  intro m hm
  rw [chain_eq_afterConnects, chain_eq_afterConnects, (object_key src n).1, (object_key src m).1]
  exact keys_pairwise_distinct src (n + 1) (fun i j hi hj => hinj i j (by omega) (by omega))
    (fun i hi => hlen i (by omega)) (fun i hi => hwf i (by omega)) n m (by omega) (by omega) (by omega)

/-- non-vacuity: the 199 keys before connect #199 of the `tailSrc` object are all different from its key -/
example : ∀ m, m < 199 → (chain tailSrc 199).key ≠ (chain tailSrc m).key := by
  obtain ⟨h1, h2, h3⟩ := tailSrc_ok
  exact every_connect_begins_with_new_key tailSrc 199 (fun i j hi hj => h1 i j (by omega) (by omega))
    (fun i hi => h2 i (by omega)) (fun i hi => h3 i (by omega))

/-- the driver operation `http keychain` evaluates `chain` on the recorded nonces: for a recording of `n` whole
    nonces its `k`-th answer is the key of nonce `k` -/
theorem chainKeys_spec (nonces : Bytes) :
    chainKeys nonces =
      (List.range (chunks16 nonces.length nonces).length).map (keyOf (replay (chunks16 nonces.length nonces))) := by
  unfold chainKeys
  simp only [chain_eq_afterConnects, (object_key _ _).1]

end Lomond.C17K
