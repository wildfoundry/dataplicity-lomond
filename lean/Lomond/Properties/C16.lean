/-
  C16 — persist() reconnects forever with bounded, growing, resettable back-off.
  Property theorems only; the model is `Model/Persist`, vocabulary and lemmas are in `Proofs/Persist`.

  Reading guide.  `rs : List (Round ε)` is an arbitrary finite prefix of what the world supplies:
  per pass through `while True:` the events of the connection attempt (any events at all, each
  either "ready" or not: connect failure, rejection, drop before/after Ready, graceful close,
  protocol error are all just such lists), the draw of `random()`, and what `exit_event.wait`
  returns.  `live rs` are the rounds up to and including the first whose `wait` returns true.
  `streak isReady as` is the number of consecutive attempts at the end of `as` without Ready.
  All statements are for every `isReady`, every configuration, every list of rounds.
-/
import Lomond.Proofs.Persist
import Lomond.Generated.Facts

namespace Lomond.C16
open Lomond Lomond.Persist

variable {ε π : Type}

/-- One delay: for `min_wait ≤ max_wait` and a draw in `[0,1)`, whatever the retry counter,
    the delay lies in `[min_wait, max_wait]`. -/
theorem C16_delay_bounds (c : Cfg π) (k : Nat) (u : Rat)
    (hmm : c.minWait ≤ c.maxWait) (h0 : 0 ≤ u) (h1 : u < 1) :
    c.minWait ≤ waitFor c k u ∧ waitFor c k u ≤ c.maxWait :=
  waitFor_bounds c k u hmm h0 h1

/-- The `k`-th BackOff that `persist` yields exists exactly when a `k`-th round happens, and its delay is
    `min_wait + u_k · min(max_wait − min_wait, 2^s)` with `u_k` the draw of that round and `s` the number of
    consecutive attempts, ending with the `k`-th, that did not reach Ready. -/
theorem C16_limit_formula (isReady : ε → Bool) (c : Cfg π) (rs : List (Round ε)) (k : Nat) :
    (backOffs (yielded (persist isReady c rs).1))[k]? =
      (live rs)[k]?.map (fun r =>
        c.minWait + r.draw * min (c.maxWait - c.minWait) ((2 : Rat) ^ streak isReady (rs.take (k + 1)))) := by
  rw [persist_eq, backOffs_obsFrom]
  refine (delaysFrom_getElem? isReady c [] (live rs) k).trans ?_
  rw [List.nil_append]
  -- not `cases (live rs)[k]?` then `rfl`: unifying the two functions under `Option.map` makes the
  -- defeq check unfold `min` and `^` on `Rat`, which is very slow
  rcases Nat.lt_or_ge k (live rs).length with hk | hk
  · rw [take_live rs k hk]; rfl
  · rw [List.getElem?_eq_none hk, Option.map_none, Option.map_none]

/-- The exponent grows by one with each further attempt that did not reach Ready … -/
theorem C16_limit_doubles (isReady : ε → Bool) (as : List (Round ε)) (a : Round ε)
    (h : hasReady isReady a = false) :
    streak isReady (as ++ [a]) = streak isReady as + 1 := by
  rw [streak_snoc, h]; rfl

/-- … and is back to 0 (upper limit `min_wait + min(max_wait − min_wait, 1)`) after one that did. -/
theorem C16_limit_resets (isReady : ε → Bool) (as : List (Round ε)) (a : Round ε)
    (h : hasReady isReady a = true) :
    streak isReady (as ++ [a]) = 0 := by
  rw [streak_snoc, h]; rfl

/-- Every BackOff of every run lies in `[min_wait, max_wait]`, provided `min_wait ≤ max_wait` and every draw of
    `random()` lies in `[0, 1)`. -/
theorem C16_all_delays_bounded (isReady : ε → Bool) (c : Cfg π) (rs : List (Round ε))
    (hmm : c.minWait ≤ c.maxWait) (hu : ∀ r ∈ rs, 0 ≤ r.draw ∧ r.draw < 1) :
    ∀ d ∈ backOffs (yielded (persist isReady c rs).1), c.minWait ≤ d ∧ d ≤ c.maxWait := by
  intro d hd
  rw [persist_eq, backOffs_obsFrom] at hd
  obtain ⟨r, hr, n, rfl⟩ := mem_delaysFrom hd
  exact waitFor_bounds c n _ hmm (hu r (mem_live hr)).1 (hu r (mem_live hr)).2

/-- What the consumer sees is, for each round that happens and in order, the events of that attempt,
    unchanged and in order, followed by exactly one BackOff — and nothing else. -/
theorem C16_passthrough (isReady : ε → Bool) (c : Cfg π) (rs : List (Round ε)) :
    yielded (persist isReady c rs).1 =
        (List.zip (live rs) (backOffs (yielded (persist isReady c rs).1))).flatMap
          (fun p => p.1.events.map Out.ev ++ [Out.backOff p.2])
      ∧ (backOffs (yielded (persist isReady c rs).1)).length = (live rs).length
      ∧ passed (yielded (persist isReady c rs).1) = (live rs).flatMap (fun r => r.events) := by
  rw [persist_eq, backOffs_obsFrom]
  exact ⟨yielded_obsFrom .., delaysFrom_length .., passed_obsFrom ..⟩

/-- The same with the calls on the outside world included: each round is
    `connect(poll, ping_rate, ping_timeout)`, the events, `random()`, `BackOff(d)`, `wait(d)`, in this order,
    with the same `d` in the BackOff and in the wait. -/
theorem C16_round_shape (isReady : ε → Bool) (c : Cfg π) (rs : List (Round ε)) :
    (persist isReady c rs).1 =
      (List.zip (live rs) (backOffs (yielded (persist isReady c rs).1))).flatMap
        (fun p => roundObs c p.1 p.2) := by
  rw [persist_eq, backOffs_obsFrom]; rfl

/-- The generator finishes iff some `exit_event.wait` returned true. -/
theorem C16_only_exit_via_event (isReady : ε → Bool) (c : Cfg π) (rs : List (Round ε)) :
    (persist isReady c rs).2 = .exited ↔ ∃ r ∈ rs, r.exit = true :=
  run_exited_iff isReady c 0 rs

/-- When it finishes, it does so right after the BackOff of the first round whose `wait` returned true:
    that round is the last one that happens, the last yield is its BackOff, the last action is the `wait`
    with the same delay, and nothing the world would have supplied later is touched. -/
theorem C16_exit_right_after_backoff (isReady : ε → Bool) (c : Cfg π) (rs : List (Round ε))
    (h : ∃ r ∈ rs, r.exit = true) :
    (∃ pre r, live rs = pre ++ [r] ∧ (∀ q ∈ pre, q.exit = false) ∧ r.exit = true)
      ∧ persist isReady c (live rs) = persist isReady c rs
      ∧ ∃ d, (persist isReady c rs).1.getLast? = some (Obs.wait d)
           ∧ (yielded (persist isReady c rs).1).getLast? = some (Out.backOff d) := by
  obtain ⟨pre, r, hl, hpre, hr⟩ := live_exit_split rs h
  refine ⟨⟨pre, r, hl, hpre, hr⟩, run_live isReady c 0 rs, ?_⟩
  rw [persist_eq]
  exact obsFrom_getLast? isReady c 0 (live rs) (by rw [hl]; simp)

/-- As long as no `wait` has returned true the generator is not finished, has yielded one BackOff per
    attempt, and whatever the world supplies next is processed on top of what happened so far
    (so the output has no end unless a `wait` returns true). -/
theorem C16_never_ends_by_itself (isReady : ε → Bool) (c : Cfg π) (rs : List (Round ε))
    (h : ∀ r ∈ rs, r.exit = false) :
    (persist isReady c rs).2 = .running
      ∧ (backOffs (yielded (persist isReady c rs).1)).length = rs.length
      ∧ ∃ k, ∀ more, persist isReady c (rs ++ more) =
          ((persist isReady c rs).1 ++ (run isReady c k more).1, (run isReady c k more).2) := by
  refine ⟨(run_running_iff isReady c 0 rs).mpr h, ?_, streak isReady rs,
    fun more => run_append isReady c [] rs more h⟩
  rw [persist_eq, backOffs_obsFrom, delaysFrom_length, live_eq_self rs h]

/-- … and the first thing it does with the next round is to call `connect` again, with the given arguments. -/
theorem C16_reconnects (isReady : ε → Bool) (c : Cfg π) (k : Nat) (r : Round ε) (more : List (Round ε)) :
    (run isReady c k (r :: more)).1.head? = some (Obs.connect c.poll c.pingRate c.pingTimeout) := by
  cases hr : r.exit
  · rw [run_cons_go _ _ _ _ _ hr]; rfl
  · rw [run_cons_exit _ _ _ _ _ hr]; rfl

/-- The infinite reading: in a world `w` (round `i` for every `i`) in which no `wait` ever returns true,
    after any number `n` of rounds persist is still running, has yielded exactly `n` BackOffs, and the next
    round strictly extends what was observed so far — the output has no end. -/
theorem C16_forever (isReady : ε → Bool) (c : Cfg π) (w : Nat → Round ε) (h : ∀ i, (w i).exit = false) (n : Nat) :
    (persist isReady c ((List.range n).map w)).2 = .running
      ∧ (backOffs (yielded (persist isReady c ((List.range n).map w)).1)).length = n
      ∧ ∃ ext, ext ≠ [] ∧ (persist isReady c ((List.range (n + 1)).map w)).1 =
          (persist isReady c ((List.range n).map w)).1 ++ ext := by
  have hall : ∀ r ∈ (List.range n).map w, r.exit = false := by
    intro r hr
    obtain ⟨i, _, hi⟩ := List.mem_map.mp hr
    rw [← hi]; exact h i
  obtain ⟨h1, h2, k, h3⟩ := C16_never_ends_by_itself isReady c _ hall
  refine ⟨h1, by simpa using h2, (run isReady c k [w n]).1, ?_, ?_⟩
  · intro hn
    have := C16_reconnects isReady c k (w n) []
    rw [hn] at this; cases this
  · rw [List.range_succ, List.map_append, h3]; rfl

/-- Generated from the source: the `websocket.connect(...)` call in `persist` forwards exactly
    `poll`, `ping_rate`, `ping_timeout`, each from the parameter of the same name. -/
theorem C16_args :
    Gen.persistConnectKw = [("ping_rate", "ping_rate"), ("ping_timeout", "ping_timeout"), ("poll", "poll")] := by
  decide

/-- In the model every `connect` carries the configured values (so the model has the shape the generated
    fact describes). -/
theorem C16_connect_args (isReady : ε → Bool) (c : Cfg π) (rs : List (Round ε)) (p q t : π)
    (h : Obs.connect p q t ∈ (persist isReady c rs).1) :
    p = c.poll ∧ q = c.pingRate ∧ t = c.pingTimeout := by
  rw [persist_eq] at h
  obtain ⟨x, _, hx⟩ := List.mem_flatMap.mp h
  simpa [roundObs] using hx

/-! ### Non-vacuity: a concrete world.
    Attempts: connect failure, rejection, one that reaches Ready then drops, failure, failure (exit). -/

section Examples

private def cfg : Cfg Nat := { minWait := 5, maxWait := 30, poll := 5, pingRate := 30, pingTimeout := 0 }
private def isR (s : String) : Bool := s == "ready"
private def world : List (Round String) :=
  [ { events := ["connecting", "connect_fail"], draw := 1 / 2, exit := false },
    { events := ["connecting", "connected", "rejected", "disconnected"], draw := 3 / 4, exit := false },
    { events := ["connecting", "connected", "ready", "text", "disconnected"], draw := 63 / 64, exit := false },
    { events := ["connecting", "connect_fail"], draw := 0, exit := false },
    { events := ["connecting", "connect_fail"], draw := 1 / 4, exit := true },
    { events := ["never", "looked", "at"], draw := 1 / 2, exit := true } ]

-- delays: 5 + 1/2·2, 5 + 3/4·4, 5 + 63/64·1, 5 + 0·2, 5 + 1/4·4
example : backOffs (yielded (persist isR cfg world).1) = [6, 8, 383 / 64, 5, 6] := by decide +kernel
example : (persist isR cfg world).2 = .exited := by decide +kernel
example : (live world).length = 5 := by decide
example : (List.range 5).map (fun k => streak isR (world.take (k + 1))) = [1, 2, 0, 1, 2] := by decide
example : (persist isR cfg (world.take 4)).2 = .running := by decide +kernel
example : (yielded (persist isR cfg (world.take 1)).1) =
    [Out.ev "connecting", Out.ev "connect_fail", Out.backOff 6] := by decide +kernel
example : cfg.minWait ≤ cfg.maxWait ∧ ∀ r ∈ world, 0 ≤ r.draw ∧ r.draw < 1 := by decide +kernel
-- the cap is reached: after 5 consecutive failures 2^5 = 32 > 25 = max − min
example : waitFor cfg 5 (63 / 64) = 5 + 63 / 64 * 25 := by decide +kernel

end Examples

end Lomond.C16
