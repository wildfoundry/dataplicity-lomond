/-
  C07 companion — termination by time-out at the level of a whole connection (`Core.runAll`), and the
  stricter monitor `Mon'` (Proofs/MonitorLoop.lean).  Property theorems only; helper lemmas:
  Proofs/MonitorGen.lean, TimerClose.lean, TimerPing.lean, LiftX.lean, RunAll.lean; `C15Run.*` are Properties/C15_Run.lean.

  "The application does not abandon the iterator" is `¬ Abandons react`: no `Act.abandon` in any
  reaction.  A position of the trace is a split `trace = l ++ o :: t` (newest first).  The hypothesis
  "a time-out is overdue at a loop cycle" is the one of `C15Run.close_timeout_fires` /
  `C15Run.unresponsive_fires`: the trace has a clock mark `.tick n` (the loop came out of a
  `selector.wait`) at which the armed timer is past its deadline (`PastC` / `PastU`).  It cannot be
  phrased on the environment script alone: whether a timer is armed depends on what the application and
  the server did before (no Ready ⇒ no timer at all: lomond has no handshake time-out).
-/
import Lomond.Properties.C07
import Lomond.Properties.C15_Run
import Lomond.Proofs.MonitorGen

namespace Lomond.C07Run
open Lomond Lomond.Core Lomond.Core.Monitor Lomond.Core.MonitorGen Lomond.Core.Timers Lomond.Core.TimerRun
open Lomond.C07

/-- when `run()` ends by exhausting the script: the loop was left right after a `selector.wait`
    round with the newest event not Unresponsive, no `Disconnected` yielded, and the ping timeout not
    overdue at any clock mark; `finally` only released socket / selector afterwards -/
theorem scriptEnd_ping (cfg : Cfg) (react : React) (env : List EnvStep) {s : Sys}
    (hr : run (initSys cfg react env) = .err .scriptEnd s) :
    ∃ s2, Released s2 s ∧ NU s2 ∧ discAny s2.trace = false ∧
      (cfg.pingTimeout ≠ 0 → ¬ PastU cfg.pingTimeout s2.trace) := by
  obtain ⟨s2, hx, rel⟩ := topx_run_scriptEnd (iu_leaves (hi := false)) iu_top
    (iu_loop env (fun h => by cases h)) _ (iu_init cfg react env) rfl hr
  obtain ⟨f, nu⟩ := (hx.e (fun z e => by cases e)).2 (fun e => by cases e) (fun e => by cases e)
  exact ⟨s2, rel, nu, hx.1.2.nd, fun hp => not_pastU hx.1.2.tok f hp⟩

/-- the same for the close timer: not overdue at any clock mark -/
theorem scriptEnd_close (cfg : Cfg) (react : React) (env : List EnvStep) {s : Sys}
    (hr : run (initSys cfg react env) = .err .scriptEnd s) :
    ∃ s2, Released s2 s ∧ discAny s2.trace = false ∧
      (ReqOk0 cfg → cfg.closeTimeout ≠ 0 → ¬ PastC cfg.closeTimeout s2.trace) := by
  obtain ⟨s2, hx, rel⟩ := topx_run_scriptEnd (ic_leaves (hi := false)) ic_top
    (ic_loop env (fun h => by cases h)) _ (ic_init cfg react env) rfl hr
  have p := hx.e (fun z e => by cases e)
  obtain ⟨n, _⟩ := p.2.1 (Or.inr (Or.inl rfl))
  exact ⟨s2, rel, p.1, fun hq hc => not_pastC hx.1.2 n hq hc⟩

private theorem events_scriptEnd {cfg : Cfg} {react : React} {env : List EnvStep} {s s2 : Sys}
    (e : runAll cfg react env = { s with trace := .incomplete :: s.trace }) (rel : Released s2 s) :
    eventsOf cfg react env = events s2.trace := by
  unfold eventsOf
  rw [e]
  show events (.incomplete :: s.trace) = _
  rw [events_cons_nonEv _ _ rfl, rel.1.events]

/-! ### (a) Unresponsive is followed by the forced disconnect, and the sequence is complete -/

/-- **After `Unresponsive`, exactly `Disconnected('ping-timeout', graceful=False)` — and it comes.**
    For every configuration, every application that never abandons the iterator and every environment
    script: if `Unresponsive` occurs in the event sequence of the connection, what follows it is exactly
    that one forced disconnect, `run()` has returned (the trace is not INCOMPLETE: the script cannot
    run out between the two), and the whole sequence is complete. -/
theorem unresponsive_then_disconnected (cfg : Cfg) (react : React) (env : List EnvStep) (hna : ¬ Abandons react)
    (a b : List Event) (he : eventsOf cfg react env = a ++ .unresponsive :: b) :
    b = [.disconnected "ping-timeout" false] ∧ Mon.complete (eventsOf cfg react env) ∧
    Obs.incomplete ∉ (runAll cfg react env).trace := by
  have hb := timeout_terminates cfg react env a b he
  rcases runAll_cases cfg react env with ⟨s, hr, e⟩ | ⟨s, _, ha, _⟩ | ⟨s, hr, e⟩
  · have hc := monitor_complete cfg react env s hr
    have hinc : Obs.incomplete ∉ (runAll cfg react env).trace := by
      rw [incomplete_iff]; rintro ⟨s', hs'⟩; rw [hr] at hs'; cases hs'
    refine ⟨?_, hc, hinc⟩
    rcases hb with rfl | ⟨k, g, rfl⟩
    · obtain ⟨a', e', h1, ht, _⟩ := Mon.complete_ends_terminal hc
      rw [he] at h1
      obtain ⟨_, h2⟩ := List.append_inj' h1 rfl
      have : Event.unresponsive = e' := by simpa using h2
      subst this; cases ht
    · have un := (C15Run.unresponsive_invariant false cfg react env (fun h => by cases h)).1.unext
      have := unext_events un (a := a) (b := []) (e := .disconnected k g) he
      rw [this]
  · exact absurd ha hna
  · exfalso
    obtain ⟨s2, rel, nu, nd, _⟩ := scriptEnd_ping cfg react env hr
    rw [events_scriptEnd e rel] at he
    rcases hb with rfl | ⟨k, g, rfl⟩
    · apply nu
      show newestEv s2.trace = _
      rw [← events_getLast, he]; simp
    · exact discAny_false_events nd k g (by rw [he]; simp)

/-! ### (b) once a time-out is overdue at a loop cycle, the run ends at that cycle -/

/-- the skeleton of both theorems below, for an overdue condition `Past` of the trace that survives
    dropping a newest entry that is no clock mark: the run's own theorem says the forced events were
    yielded (`G`) unless no `Disconnected` was yielded at all — impossible for a run that returned after
    Ready — and a run that exhausts its script was left with `Past` false -/
private theorem overdue_terminates {Past : List Obs → Prop} {G : Prop} (cfg : Cfg) (react : React) (env : List EnvStep)
    (hna : ¬ Abandons react)
    (hcons : ∀ (o : Obs) (tr : List Obs), o.tmTickVal = none → Past (o :: tr) → Past tr)
    (hpast : Past (runAll cfg react env).trace)
    (hfire : G ∨ discAny (runAll cfg react env).trace = false)
    (hrdy : ∃ x d, Obs.ev (.ready x d) ∈ (runAll cfg react env).trace)
    (hend : ∀ s, run (initSys cfg react env) = .err .scriptEnd s → ∃ s2, Released s2 s ∧ ¬ Past s2.trace) :
    G ∧ Mon.complete (eventsOf cfg react env) ∧ Obs.incomplete ∉ (runAll cfg react env).trace := by
  rcases runAll_cases cfg react env with ⟨s, hr, e⟩ | ⟨s, _, ha, _⟩ | ⟨s, hr, e⟩
  · have hcmp := monitor_complete cfg react env s hr
    have hinc : Obs.incomplete ∉ (runAll cfg react env).trace := by
      rw [incomplete_iff]; rintro ⟨s', hs'⟩; rw [hr] at hs'; cases hs'
    refine ⟨hfire.resolve_right (fun h => ?_), hcmp, hinc⟩
    -- a Ready event was yielded, so the terminal event of the complete sequence is Disconnected
    obtain ⟨x, d, hm⟩ := hrdy
    obtain ⟨k, g, hd⟩ := disconnected_of_complete_ready hcmp (mem_events.mpr hm)
    exact discAny_false_events h k g hd
  · exact absurd ha hna
  · exfalso
    obtain ⟨s2, rel, np⟩ := hend s hr
    obtain ⟨lq, eq, nq⟩ := released_noTick rel
    rw [e] at hpast
    have h2 : Past s.trace := hcons .incomplete _ rfl hpast
    rw [eq] at h2
    exact np (drop_prefix (fun o t ho => hcons o t ho) lq _ nq h2)

/-- **Once a close timeout is overdue at a loop cycle the run ends with a terminal event at that
    cycle.**  Hypotheses as in `C15Run.close_timeout_fires` (a clock mark `n` at or after the deadline
    `ct + close_timeout` of a Close frame handed to `sendall` before it, no Ready in between), for an
    application that never abandons the iterator.  Then: no further `selector.wait` round follows that
    clock mark, the forced `Disconnected('close-timeout')` — or, when the ping timeout struck at that
    same `_regular()`, `Disconnected('ping-timeout')` — was yielded, `run()` returned (the trace is not
    INCOMPLETE) and the event sequence is complete. -/
theorem close_timeout_terminates (cfg : Cfg) (react : React) (env : List EnvStep) (hna : ¬ Abandons react)
    (hreq : ReqOk0 cfg) (hc : cfg.closeTimeout ≠ 0) (l t : List Obs) (n ct : Nat)
    (htr : (runAll cfg react env).trace = l ++ .tick n :: t) (hw : CloseWr ct t)
    (hnr : ∀ o ∈ l, o.tmIsReady = false) (hpast : ct + cfg.closeTimeout ≤ sessOf (.tick n :: t)) :
    (∀ o ∈ l, o.tmTickVal = none) ∧
    (ctoD ∈ (runAll cfg react env).trace ∨ ptoD ∈ (runAll cfg react env).trace) ∧
    Mon.complete (eventsOf cfg react env) ∧ Obs.incomplete ∉ (runAll cfg react env).trace := by
  obtain ⟨h1, _, h3⟩ := C15Run.close_timeout_fires cfg react env hreq hc l t n ct htr hw hnr hpast
  -- the session clock is running at the clock mark: a Ready event was yielded
  have hra : readyAt (.tick n :: t) ≠ none := by
    intro h0
    have : sessOf (.tick n :: t) = 0 := by unfold sessOf; rw [h0]
    have : 0 < cfg.closeTimeout := Nat.pos_of_ne_zero hc
    omega
  obtain ⟨x, d, hm⟩ := readyAt_some_mem hra
  exact ⟨h1, overdue_terminates (Past := PastC cfg.closeTimeout) cfg react env hna
    (fun o tr ho => pastC_of_cons ho) ⟨l, n, t, ct, htr, hw, hnr, hpast⟩ (or_assoc.mpr h3)
    ⟨x, d, by rw [htr]; exact List.mem_append_right _ hm⟩
    (fun s hr => by
      obtain ⟨s2, rel, _, np⟩ := scriptEnd_close cfg react env hr
      exact ⟨s2, rel, np hreq hc⟩)⟩

/-- **Once the ping timeout is overdue at a loop cycle the run ends with a terminal event at that
    cycle.**  Hypotheses as in `C15Run.unresponsive_fires` (a clock mark `n` more than `ping_timeout`
    after the newest sign of life, no Pong or Ready after it), for an application that never abandons the
    iterator: `Unresponsive` and the forced `Disconnected('ping-timeout')` were yielded, `run()`
    returned and the event sequence is complete. -/
theorem ping_timeout_terminates (cfg : Cfg) (react : React) (env : List EnvStep) (hna : ¬ Abandons react)
    (hp : cfg.pingTimeout ≠ 0) (l t : List Obs) (n : Nat)
    (htr : (runAll cfg react env).trace = l ++ .tick n :: t) (hrd : readyAt t ≠ none)
    (hquiet : ∀ o ∈ l, o.tmIsReady = false ∧ o.tmIsPong = false)
    (hpast : lastAlive t + cfg.pingTimeout < sessOf (.tick n :: t)) :
    (Obs.ev .unresponsive ∈ (runAll cfg react env).trace ∧ ptoD ∈ (runAll cfg react env).trace) ∧
    Mon.complete (eventsOf cfg react env) ∧ Obs.incomplete ∉ (runAll cfg react env).trace := by
  obtain ⟨x, d, hm⟩ := readyAt_some_mem hrd
  exact overdue_terminates (Past := PastU cfg.pingTimeout) cfg react env hna (fun o tr ho => pastU_of_cons ho)
    ⟨l, n, t, htr, hrd, hquiet, hpast⟩ (C15Run.unresponsive_fires cfg react env hp l t n htr hrd hquiet hpast)
    ⟨x, d, by rw [htr]; exact List.mem_append_right _ (List.mem_cons_of_mem _ hm)⟩
    (fun s hr => by
      obtain ⟨s2, rel, _, _, np⟩ := scriptEnd_ping cfg react env hr
      exact ⟨s2, rel, np hp⟩)

/-! ### (c) termination -/

/-- the script contains a transport-ending step (end-of-stream, a socket error or another exception
    from `recv`, an exception from `selector.wait`) -/
def EndsTransport (env : List EnvStep) : Prop := ∃ pre X post, env = pre ++ X :: post ∧ EnvStep.isEnd X = true

/-- the loop of this connection lived through a `selector.wait` that ended with an armed time-out
    past its deadline — the script contains enough silence for it: the close timer (`PastC`: at or
    after `ct + close_timeout` for a Close frame handed to `sendall` at session time `ct`) or the ping
    timeout (`PastU`: more than `ping_timeout` after the newest Pong / Ready) -/
def TimeoutOverdue (cfg : Cfg) (tr : List Obs) : Prop :=
  (ReqOk0 cfg ∧ cfg.closeTimeout ≠ 0 ∧ PastC cfg.closeTimeout tr) ∨ (cfg.pingTimeout ≠ 0 ∧ PastU cfg.pingTimeout tr)

/-- **Termination.**  For every configuration, every application that never abandons the iterator
    and every environment script that contains a transport-ending step OR enough silence for an armed
    time-out (close timer or ping timeout): `run()` returns — the trace is not INCOMPLETE, whatever
    the script says after the end is never consumed — and the event sequence has exactly one terminal
    event, which is its last element. -/
theorem terminates (cfg : Cfg) (react : React) (env : List EnvStep) (hna : ¬ Abandons react)
    (h : EndsTransport env ∨ TimeoutOverdue cfg (runAll cfg react env).trace) :
    (∃ s, run (initSys cfg react env) = .ok () s) ∧
    Obs.incomplete ∉ (runAll cfg react env).trace ∧
    Mon.complete (eventsOf cfg react env) ∧
    ∃ a e, eventsOf cfg react env = a ++ [e] ∧ Event.isTerminal e = true ∧ ∀ x ∈ a, Event.isTerminal x = false := by
  have key : Mon.complete (eventsOf cfg react env) ∧ Obs.incomplete ∉ (runAll cfg react env).trace := by
    rcases h with ⟨pre, X, post, rfl, hX⟩ | ⟨hq, hc, l, n, t, ct, htr, hw, hnr, hpast⟩ | ⟨hp, l, n, t, htr, hrd, hq, hpast⟩
    · obtain ⟨_, h2, h3⟩ := terminates_after_transport_end cfg react pre post X hX
      exact ⟨h3.resolve_right hna, h2⟩
    · exact (close_timeout_terminates cfg react env hna hq hc l t n ct htr hw hnr hpast).2.2
    · exact (ping_timeout_terminates cfg react env hna hp l t n htr hrd hq hpast).2
  refine ⟨?_, key.2, key.1, Mon.complete_ends_terminal key.1⟩
  rcases run_outcomes cfg react env with hr | ⟨_, _, ha⟩ | hr
  · exact hr
  · exact absurd ha hna
  · exact absurd ((incomplete_iff cfg react env).mpr hr) key.2

/-! ### non-vacuity of (a), (b), (c): the timer runs of `C15Run` -/

private theorem not_abandons_silent : ¬ Abandons (fun _ => []) := by
  rintro ⟨h, w, hm⟩; cases hm

private theorem not_abandons_reactC : ¬ Abandons C15Run.reactC := by
  rintro ⟨h, w, hm⟩
  unfold C15Run.reactC at hm
  split at hm <;> simp at hm

/-- the close-timeout run of `C15Run`, evaluated once for (b) and (c) -/
private theorem runC_trace : (runAll C15Run.cfgC C15Run.reactC C15Run.envC).trace =
    [.selClose, .ev (.disconnected "close-timeout" false), .sockClose, .ev .poll] ++ .tick 7 :: C15Run.trC := by
  decide +kernel

-- (a): ping timeout 3, silence: Unresponsive is in the sequence, the application never abandons
example : eventsOf C15Run.cfgU (fun _ => []) C15Run.envU =
    [.connecting, .connected false, .ready none false, .poll, .poll] ++ .unresponsive :: [.disconnected "ping-timeout" false] := by
  decide +kernel

-- (b): the hypotheses of `close_timeout_terminates` on the close-timeout run of `C15Run` (clock mark 7)
example : ¬ Abandons C15Run.reactC ∧ ReqOk0 C15Run.cfgC ∧ C15Run.cfgC.closeTimeout ≠ 0 ∧
    (runAll C15Run.cfgC C15Run.reactC C15Run.envC).trace =
      [.selClose, .ev (.disconnected "close-timeout" false), .sockClose, .ev .poll] ++ .tick 7 :: C15Run.trC ∧
    CloseWr 0 C15Run.trC ∧ 0 + C15Run.cfgC.closeTimeout ≤ sessOf (.tick 7 :: C15Run.trC) :=
  ⟨not_abandons_reactC, by unfold ReqOk0; decide, by decide, runC_trace,
    ⟨[.tick 2, .ev .poll, .res .ok], .wr [136, 130, 0, 0, 0, 0, 3, 232], _, rfl, rfl, by decide⟩, by decide⟩

-- (c): the three kinds of scripts — a transport end in the middle, an overdue close timer, an overdue ping timeout
example : EndsTransport (exEnv ++ [.wait 0 (some (.data exReply))]) :=
  ⟨[.wait 0 (some (.data (exReply ++ [0x81, 2, 104, 105]))), .wait 6 none], .wait 0 (some .eof),
    [.wait 0 (some (.data exReply))], rfl, rfl⟩

example : TimeoutOverdue C15Run.cfgC (runAll C15Run.cfgC C15Run.reactC C15Run.envC).trace :=
  Or.inl ⟨by unfold ReqOk0; decide, by decide,
    [.selClose, .ev (.disconnected "close-timeout" false), .sockClose, .ev .poll], 7, C15Run.trC, 0, runC_trace,
    ⟨[.tick 2, .ev .poll, .res .ok], .wr [136, 130, 0, 0, 0, 0, 3, 232], _, rfl, rfl, by decide⟩,
    by decide, by decide⟩

example : TimeoutOverdue C15Run.cfgU (runAll C15Run.cfgU (fun _ => []) C15Run.envU).trace :=
  Or.inr ⟨by decide, [.selClose, .ev (.disconnected "ping-timeout" false), .sockClose, .ev .unresponsive, .ev .poll], 5,
    C15Run.trU, by decide +kernel, by decide, by decide, by decide⟩

/-! ### the stricter monitor `Mon'`

      start ──Connecting──▶ connecting ──ConnectFail──▶ done
                                │
                                └─Connected──▶ connected ──Ready──▶ ready ──Unresponsive──▶ unresp
                                                │  │ ▲ ProtocolError       │ ▲ Text, Binary, Ping,       │
                                                │  │ └─┘                   │ └ Pong, Poll, Closing,      │
                                                │  └─Rejected─▶ rejected   │   Closed, ProtocolError     │
                                                │                 │        │                             │
                                                └──Disconnected──▶ done ◀──┴────────Disconnected─────────┘
  As `Mon` (C07.lean) — `Connected` exactly once, `Ready` at most once and only after `Connected`, messages,
  Poll and `Unresponsive` only after `Ready`, after `Unresponsive` nothing but `Disconnected`, nothing after the
  terminal event — and in addition: after `Rejected` nothing but `Disconnected` (so no `Ready`, no second
  `Rejected`, no `ProtocolError` after a refused upgrade).  `Mon'` refines `Mon`
  (`monitor_strict_refines`; the theorem names avoid the apostrophe: the audit script cannot quote it). -/

/-- **The stricter monitor never rejects**: whatever the server, the environment and the application
    (including one that abandons the iterator) do, the event sequence of a connection is a prefix of a
    sequence that is well-formed in the stricter sense. -/
theorem monitor_strict (cfg : Cfg) (react : React) (env : List EnvStep) : Mon'.accepts (eventsOf cfg react env) := by
  obtain ⟨q, h, _⟩ := Strict.runAll_accepted cfg react env
  exact ⟨q, h⟩

/-- **When `run()` returns, the sequence is complete for the stricter monitor too.** -/
theorem monitor_strict_complete (cfg : Cfg) (react : React) (env : List EnvStep) (s : Sys)
    (hr : run (initSys cfg react env) = .ok () s) : Mon'.complete (eventsOf cfg react env) := by
  obtain ⟨q, h, hd⟩ := Strict.runAll_accepted cfg react env
  rw [hd s hr] at h; exact h

/-- whatever `Mon'` accepts `Mon` accepts, in the corresponding phase: every clause read off `Mon`
    (C07.lean) holds of `Mon'`-accepted sequences -/
theorem monitor_strict_refines (evs : List Event) (h : Mon'.accepts evs) : Mon.accepts evs := by
  obtain ⟨q, hq⟩ := h
  exact ⟨q.proj, Mon'.run_proj hq⟩

/-- **after `Rejected` nothing but the terminal `Disconnected` is yielded** — whatever else is in the
    read that carried the refused response, in the rest of the script, and whatever the application
    does in reaction to `Rejected` -/
theorem nothing_but_disconnected_after_rejected (cfg : Cfg) (react : React) (env : List EnvStep)
    (a b : List Event) (r : Http.Str) (he : eventsOf cfg react env = a ++ .rejected r :: b) :
    b = [] ∨ ∃ k g, b = [.disconnected k g] := by
  obtain ⟨ph, h⟩ := monitor_strict cfg react env
  rw [he] at h; exact Mon'.after_rejected h

/-- **`Rejected` occurs at most once, and never in a sequence that has `Ready`** -/
theorem rejected_once_and_no_ready (cfg : Cfg) (react : React) (env : List EnvStep)
    (a b : List Event) (r : Http.Str) (he : eventsOf cfg react env = a ++ .rejected r :: b) :
    (∀ e ∈ a ++ b, e.isRej = false) ∧ (∀ x d, Event.ready x d ∉ a ++ b) := by
  obtain ⟨ph, h⟩ := monitor_strict cfg react env
  rw [he] at h
  have hb := Mon'.after_rejected h
  have inB : ∀ e ∈ b, ∃ k g, e = .disconnected k g := by
    intro e hm
    rcases hb with rfl | ⟨k, g, rfl⟩
    · cases hm
    · rw [List.mem_singleton] at hm; exact ⟨k, g, hm⟩
  obtain ⟨p, q, hrun, hs, _⟩ := Mon'.run_split h
  obtain ⟨rfl, _⟩ := Mon'.rejected_phase hs
  -- before it: the phase is `connected` at the end, so neither `Rejected` nor `Ready` occurred
  have inA : ∀ e ∈ a, e.isRej = false ∧ ∀ x d, e ≠ .ready x d := by
    intro e hm
    obtain ⟨a1, a2, rfl⟩ := List.append_of_mem hm
    obtain ⟨p1, q1, _, hs1, hr1⟩ := Mon'.run_split hrun
    have hm1 := Mon.run_mono (Mon'.run_proj hr1)
    constructor
    · cases e <;> first | rfl | skip
      obtain ⟨_, rfl⟩ := Mon'.rejected_phase hs1
      cases a2 with
      | nil => cases hr1
      | cons e2 r2 =>
        simp only [Mon'.run] at hr1
        cases hs2 : Mon'.step .rejected e2 with
        | none => rw [hs2] at hr1; cases hr1
        | some q2 =>
          rw [hs2] at hr1; simp only [Option.bind_some] at hr1
          cases e2 <;> simp [Mon'.step] at hs2
          subst hs2
          have := Mon'.run_done hr1
          subst this
          cases hr1
    · intro x d hx
      subst hx
      have : q1 = .ready := by cases p1 <;> simp [Mon'.step] at hs1; exact hs1.symm
      subst this
      simp [Phase'.proj, Phase.rank] at hm1
  constructor
  · intro e hm
    rcases List.mem_append.mp hm with h1 | h1
    · exact (inA e h1).1
    · obtain ⟨k, g, rfl⟩ := inB e h1; rfl
  · intro x d hm
    rcases List.mem_append.mp hm with h1 | h1
    · exact (inA _ h1).2 x d rfl
    · obtain ⟨k, g, h2⟩ := inB _ h1; cases h2

-- the refused upgrade of C07.lean is complete for `Mon'` …
example : Mon'.run .start (eventsOf exCfg (fun _ => [])
    [.wait 0 (some (.data [72, 84, 84, 80, 47, 49, 46, 49, 32, 53, 48, 48, 32, 88, 13, 10, 13, 10]))]) = some .done := by
  decide +kernel

-- … and `Mon'` really is stricter: `Mon` accepts `Ready` (or a second `Rejected`) after `Rejected`, `Mon'` does not
example : Mon.run .start [.connecting, .connected false, .rejected [], .ready none false] = some .ready ∧
    Mon'.run .start [.connecting, .connected false, .rejected [], .ready none false] = none ∧
    Mon.run .start [.connecting, .connected false, .rejected [], .rejected []] = some .connected ∧
    Mon'.run .start [.connecting, .connected false, .rejected [], .rejected []] = none ∧
    Mon'.run .start [.connecting, .connected false, .rejected [], .protocolError "x" true] = none := by decide

end Lomond.C07Run
