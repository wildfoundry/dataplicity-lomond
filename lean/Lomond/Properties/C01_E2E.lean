/-
  C01, end to end — a whole connection `Core.runAll cfg react env` delivers exactly what the server sent.
  Setting of `connection_delivers`: `_connect()` succeeds, the upgrade request can be written, `poll > 0`,
  `ping_timeout` and `close_timeout` disabled or longer than the final wait `dt`, every variant; the
  application is any function of the event history that only *sends* (`SendOnly`; C01's `QuietApp` minus
  `session.close()`); the environment is the reads `chunks` (non-empty, otherwise arbitrary: every
  segmentation), all with `wait 0`, whose concatenation is `reply ++ stream`, then one `wait dt` ending in
  end-of-stream; `reply` is any upgrade reply accepted without extension (`GoodReply`), `stream` is
  `C01.streamBytes items close`.  The first Poll follows Ready immediately; between the `wait 0` reads the
  session clock stays at 0 < poll, so no further Poll fires (`E2E.regular_id`, `E2E.z_wsFeed`); in the last
  cycle a Poll fires iff `dt ≥ poll`.  Helper lemmas: Proofs/EndToEnd.lean.
-/
import Lomond.Proofs.EndToEnd
import Lomond.Proofs.StrLit
import Lomond.Properties.C01
import Lomond.Properties.C10

namespace Lomond.C01E2E
open Lomond Lomond.Core Lomond.Core.E2E

/-- the terminal event: without a server Close the end of stream is a lost connection; after a
    server Close (echoed by the client) it ends the closing handshake gracefully -/
def terminal (close : Option CloseF) : Event :=
  match close with
  | none => .disconnected "connection-lost" false
  | some _ => .disconnected "closed" true

/-- the whole event sequence of the connection, oldest first -/
def allEvents (cfg : Cfg) (proxy : Bool) (proto : Option Http.Str) (items : List Item) (close : Option CloseF)
    (dt : Nat) : List Event :=
  [.connecting, .connected proxy, .ready proto false, .poll] ++ C01.expected items close ++
    (if cfg.poll ≤ dt then [.poll] else []) ++ [terminal close]

/-- link to C10: a reply granted Ready (`C10.Ready`, characterised by `C10.C10_ready_iff`) whose
    extension list has no `permessage-deflate` entry is accepted with `deflate = none` -/
theorem goodReply_of_ready (cfg : Cfg) (reply : Bytes)
    (hsep : ∃ i, findSep Gen.headerSep reply = some i ∧ i + 4 = reply.length) (hlen : reply.length ≤ Gen.headerMax)
    (hready : C10.Ready cfg.v.strictAccept cfg.challenge (Http.parseResponse reply))
    (hnoext : ∀ e ∈ (Http.parseResponse reply).getList C10.hExt, (Http.parseExtension e).1 ≠ C10.pmd) :
    ∃ proto, GoodReply cfg reply proto := by
  obtain ⟨a, ha⟩ := hready
  obtain ⟨_, _, hd⟩ := C10.C10_ready_reports _ _ _ a ha
  have hn : a.deflate = none := by
    cases hdef : a.deflate with
    | none => rfl
    | some d =>
      obtain ⟨e, he, hp⟩ := hd.mp (by rw [hdef]; rfl)
      exact absurd hp (hnoext e he)
  refine ⟨a.protocol, hsep, hlen, ?_⟩
  rw [ha]
  cases a
  simp only at hn
  subst hn
  rfl

/-- **A whole connection delivers exactly what the server sent — for every segmentation.**
    The events handed to the application during `run()` are, in this order and with nothing else:
    `Connecting`, `Connected`, `Ready`, the first `Poll`; then `C01.expected items close` — every
    Ping/Pong and every data message once, in completion order, payloads byte-exact (Text as the
    code points of its strict decoding), then `Closing` for the server's Close; then a `Poll` iff the
    final wait is at least `poll`; then the terminal event — `Disconnected('connection-lost',
    graceful=False)` when no Close was received, `Disconnected('closed', graceful=True)` after a
    server Close and end of stream. -/
theorem connection_delivers (cfg : Cfg) (react : React) (proxy : Bool) (proto : Option Http.Str)
    (hs : Setup cfg react proxy)
    (reply : Bytes) (hreply : GoodReply cfg reply proto)
    (items : List Item) (close : Option CloseF) (hconf : C01.Conforming items close)
    (chunks : List Bytes) (hne : ∀ c ∈ chunks, c ≠ [])
    (hflat : chunks.flatten = reply ++ C01.streamBytes items close)
    (dt : Nat) (hpt : cfg.pingTimeout = 0 ∨ dt ≤ cfg.pingTimeout) (hct : cfg.closeTimeout = 0 ∨ dt < cfg.closeTimeout) :
    Monitor.events (runAll cfg react (reads chunks ++ [.wait dt (some .eof)])).trace
      = allEvents cfg proxy proto items close dt := by
  obtain ⟨sA, s4, hG, _, hrun, hloop⟩ := bridge_one hs hreply.toG chunks (C01.streamBytes items close)
    [.wait dt (some .eof)] hne hflat
  have h4 := hG.toReady
  obtain ⟨s5, hfl, hdel, _, hcl5, hcg5, _⟩ := C01.delivery items close hconf s4 h4.i.good h4.closed h4.closing
    h4.frames h4.between
  obtain ⟨s6, sF, post, _, _, hh5, _, hh6, hT, tF, hhF⟩ := stream_then_eof hs.app h4 hrun hloop hfl hdel hcl5 hpt hct
  have hterm : (if s5.closing then Event.disconnected "closed" true else .disconnected "connection-lost" false)
      = terminal close := by rw [hcg5]; cases close <;> rfl
  rw [hT, events_eq_hist, tF, hist_append, hhF, hterm, hh6, hh5, h4.hist]
  unfold allEvents
  by_cases hd : cfg.poll ≤ dt <;> simp [hd]

/-- RFC 6455 §1.3 sample: the digest for the key `dGhlIHNhbXBsZSBub25jZQ==` -/
def exCfg : Cfg := { challenge := Http.ofString "s3pPLMBiTxaQ9kYGzzhZRbK+xOo=", request := Http.lit "GET / HTTP/1.1\r\n\r\n" }

/-- answers every event by sending a text message; never closes -/
def exReact : React := fun _ => [.sendText (.str [111, 107]) false]

def exReply : Bytes :=
  Http.lit "HTTP/1.1 101 Switching Protocols\r\nUpgrade: websocket\r\nConnection: Upgrade\r\nSec-WebSocket-Accept: s3pPLMBiTxaQ9kYGzzhZRbK+xOo=\r\n\r\n"

/-- the example configuration and application satisfy `Setup` -/
theorem exSetup : Setup exCfg exReact false :=
  ⟨rfl, rfl, by decide, by intro h a ha; simp [exReact] at ha; subst ha; rfl⟩

/-- the example reply is accepted: terminator at offset 125, 129 bytes, `on_response` returns no protocol, no extension -/
theorem exGoodReply : GoodReply exCfg exReply none := by
  rw [exReply, Http.lit_ofList, exCfg, Http.ofString_ofList]
  exact ⟨⟨125, by decide +kernel, by decide +kernel⟩, by decide +kernel, by decide +kernel⟩

/-- `goodReply_of_ready` applies to the same reply -/
example : ∃ proto, GoodReply exCfg exReply proto :=
  goodReply_of_ready exCfg exReply exGoodReply.sep exGoodReply.len ⟨_, exGoodReply.ok⟩
    (by rw [exReply, Http.lit_ofList]; decide +kernel)

/-- three reads: the first ends inside the reply's terminator, the second carries the rest of the
    reply and the first five bytes of the first frame, the third everything else -/
def exChunks : List Bytes :=
  let all := exReply ++ C01.streamBytes C01.exItems (some C01.exClose)
  [all.take 127, (all.drop 127).take 7, all.drop 134]

/-- the three reads are a segmentation of reply ++ stream -/
theorem exChunks_flat : exChunks.flatten = exReply ++ C01.streamBytes C01.exItems (some C01.exClose) := by
  simp only [exChunks, List.flatten_cons, List.flatten_nil, List.append_nil]
  rw [show (134 : Nat) = 127 + 7 from rfl, ← List.drop_drop, List.take_append_drop, List.take_append_drop]

/-- the theorem applied to C01's example stream (fragmented Text with interleaved Ping/Pong, a
    Pong, a 126-byte Binary, Close 1000 "ok"), cut into those three reads, final wait of 7 ticks
    (≥ poll = 5): the concrete event list -/
example : Monitor.events (runAll exCfg exReact (reads exChunks ++ [.wait 7 (some .eof)])).trace =
    [ .connecting, .connected false, .ready none false, .poll,
      .ping [1, 2], .pong [], .text [0x20AC, 0x61], .pong [7], .binary (List.replicate 126 255),
      .closing (some 1000) [111, 107], .poll, .disconnected "closed" true ] := by
  rw [connection_delivers exCfg exReact false none exSetup exReply exGoodReply C01.exItems (some C01.exClose)
    C01.ex_conforming exChunks (by rw [exChunks, exReply, Http.lit_ofList]; decide +kernel) exChunks_flat 7
    (Or.inl rfl) (Or.inr (by decide))]
  decide +kernel

/-- the same run evaluated directly (kernel reduction of the model), independently of the theorem -/
example : Monitor.events (runAll exCfg exReact (reads exChunks ++ [.wait 7 (some .eof)])).trace =
    [ .connecting, .connected false, .ready none false, .poll,
      .ping [1, 2], .pong [], .text [0x20AC, 0x61], .pong [7], .binary (List.replicate 126 255),
      .closing (some 1000) [111, 107], .poll, .disconnected "closed" true ] := by
  rw [exChunks, exReply, Http.lit_ofList, exCfg, Http.ofString_ofList, Http.lit_ofList]
  decide +kernel

/-- without a Close, one byte per read, no final Poll (`dt = 0`): connection lost -/
example : Monitor.events (runAll exCfg exReact
      (reads ((exReply ++ C01.streamBytes C01.exItems none).map (fun b => [b])) ++ [.wait 0 (some .eof)])).trace =
    [.connecting, .connected false, .ready none false, .poll] ++ C01.expected C01.exItems none ++
      [.disconnected "connection-lost" false] := by
  rw [connection_delivers exCfg exReact false none exSetup exReply exGoodReply C01.exItems none
    ⟨C01.ex_conforming.1, fun c h => by cases h⟩ _ (bytewise_ne _) (bytewise_flatten _) 0 (Or.inl rfl)
    (Or.inr (by decide))]
  rfl

end Lomond.C01E2E
