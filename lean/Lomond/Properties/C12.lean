/-
  C12 — close() is atomic with respect to other threads' sends and closes.
  Property theorems only (helper lemmas: Proofs/Threads.lean, ThreadsC.lean, ThreadsNC.lean, ThreadsP.lean).

  Same model as C11: any number of threads, any programs of calls — application `close()`,
  `send_text/binary/ping/pong`, and the event loop (echo of a server Close, completion of our own
  close when the server answers it, auto-pong, auto-ping) —, any schedule.

  On the wire (`List Chunk`, each `sendall` split in two chunks):
    `closeCount w`        = number of complete Close frames,
    `nothingAfterClose w` = after the first chunk of a Close frame nothing follows but that
                            frame's own second half (so no data frame, no second Close, not even
                            the first half of another frame).
-/
import Lomond.Proofs.ThreadsNC
import Lomond.Proofs.ThreadsP

namespace Lomond.C12
open Lomond Lomond.Threads

abbrev final (v : Variant) (cfg : Cfg) (progs : Tid → List Call) (sched : List Tid) : State :=
  run v cfg (init progs) sched

/-- **With the repaired `close()` (`closeAtomic` = the step order of `notes/fix-D8.patch`:
    `session.write` sets `closing` under the write lock right after it has written a Close frame;
    the state checks read `closing` before `closed`; the reply path and `on_disconnect` set `closed`
    before they clear `closing`) — for all programs and all schedules:** at most one Close frame is written,
    nothing is written after it, and a finished send has written its frame iff it did not raise a
    WebSocketError (a send that loses the race fails instead of being written; one that returns
    normally is on the wire, before the Close). -/
theorem one_close_no_data_after (v : Variant) (hv : v.closeAtomic = true) (cfg : Cfg)
    (progs : Tid → List Call) (sched : List Tid) :
    let s := final v cfg progs sched
    closeCount s.sh.wire ≤ 1 ∧ nothingAfterClose s.sh.wire = true ∧
    (∀ (t : Tid) (i : Nat) (r : Result), (s.th t).results[i]? = some r →
      ∃ call, (progs t)[i]? = some call ∧ (r.err ≠ none → r.wrote = false) ∧
        (call.isSend = true → (r.wrote = true ↔ r.err = none))) :=
  one_close_of_fresh v hv cfg (fresh_init progs) sched

/-- the flags at the end: once a Close frame is (even partly) on the wire, the connection is
    closing or closed, except while the closer still holds the lock with its `closing = True` ahead -/
theorem close_sets_flag (v : Variant) (hv : v.closeAtomic = true) (cfg : Cfg)
    (progs : Tid → List Call) (sched : List Tid) :
    let s := final v cfg progs sched
    hasClose s.sh.wire = true → s.sh.lock = none → s.sh.closing = true ∨ s.sh.closed = true :=
  close_flag_of_fresh v hv cfg (fresh_init progs) sched

/-- **The unrepaired `close()` on calm schedules.**  For every variant without `closeAtomic` (in
    particular the pinned code `{}`; the full statement, without the restriction to calm schedules,
    is `one_close_no_data_after` and needs `closeAtomic`),
    all programs and every schedule in which (`Calm`)
      * no other thread takes a step while a thread is inside `close()` between its
        `is_closing` test and its `closing = True` (`closeWin`), and
      * the event loop does not execute the reply path's `closing = False` / `closed = True`
        (the server does not answer our Close during the run; `fails_reply_window` shows why this
        window has to be excluded as well),
    at most one Close frame is written and nothing is written after it.
    Entries of threads that cannot move (blocked on the lock, finished) are unconstrained. -/
theorem one_close_no_data_after_partial (v : Variant) (hv : v.closeAtomic = false) (cfg : Cfg)
    (progs : Tid → List Call) (sched : List Tid) (calm : Calm v cfg (init progs) sched) :
    closeCount (final v cfg progs sched).sh.wire ≤ 1 ∧
      nothingAfterClose (final v cfg progs sched).sh.wire = true := by
  have I := pInv_run v cfg _ sched hv calm (base_fresh v cfg (fresh_init progs)) (pInv_init v cfg progs)
  exact ⟨nac_count _ I.p5, I.p5⟩

/-! ### the pinned code does not have the property (finding D8) -/

def txt : Bytes := [104, 105]
def closeSend : Tid → List Call := progsOf [[.close (some 1000) []], [.sendText txt true]]
def closeClose : Tid → List Call := progsOf [[.close (some 1000) []], [.close (some 1001) []]]
def closeSendReply : Tid → List Call :=
  progsOf [[.close (some 1000) []], [.sendText txt true], [.onClose (some 1000) []]]

/-- T0 `close()` through its write and the release (9 steps); T1 `send_text` completely (7);
    T0 sets `closing` -/
def schedDataAfter : List Tid := List.replicate 9 0 ++ List.replicate 7 1 ++ [0, 0]
/-- both pass `if not self.is_closing` before either writes -/
def schedTwoCloses : List Tid := [0, 0, 1, 1] ++ List.replicate 7 0 ++ List.replicate 9 1 ++ [0, 0]
/-- T0's `close()` is complete; the loop reads the server's Close and clears `closing` (5 steps);
    T1 `send_text` completely; the loop sets `closed` -/
def schedReply : List Tid := List.replicate 11 0 ++ List.replicate 5 2 ++ List.replicate 7 1 ++ List.replicate 12 2

/-- a Text frame is written after the Close frame, and the sender is told `ok` -/
theorem fails_data_after_close :
    let s := final {} {} closeSend schedDataAfter
    (frames s.sh.wire).map (fun c => c.desc.op) = [8, 1] ∧ nothingAfterClose s.sh.wire = false ∧
      (s.th 1).results = [⟨true, none, false⟩] := by
  decide

/-- two Close frames are written -/
theorem fails_two_closes :
    let s := final {} {} closeClose schedTwoCloses
    (frames s.sh.wire).map (fun c => c.desc.op) = [8, 8] ∧ closeCount s.sh.wire = 2 := by
  decide

/-- a third window: between `closing = False` and `closed = True` of the reply path a send passes
    both tests of `session.write`: data after a completed closing handshake -/
theorem fails_reply_window :
    let s := final {} {} closeSendReply schedReply
    (frames s.sh.wire).map (fun c => c.desc.op) = [8, 1] ∧ nothingAfterClose s.sh.wire = false ∧
      s.sh.closed = true := by
  decide +kernel

/-- hence the property is false for the pinned code -/
theorem fails :
    ¬ ∀ (cfg : Cfg) (progs : Tid → List Call) (sched : List Tid),
      closeCount (final {} cfg progs sched).sh.wire ≤ 1 ∧
        nothingAfterClose (final {} cfg progs sched).sh.wire = true := by
  intro h
  have h1 := (h {} closeClose schedTwoCloses).1
  have h2 := fails_two_closes.2
  simp only [final] at h1 h2
  omega

/-! ### non-vacuity -/

/-- under the repaired variant the same three schedules keep the property: the late send is refused -/
example : let s := final { closeAtomic := true } {} closeSend (schedDataAfter ++ List.replicate 7 1)
    (frames s.sh.wire).map (fun c => c.desc.op) = [8] ∧ (s.th 1).results = [⟨false, some .closing, false⟩] := by
  decide

example : closeCount (final { closeAtomic := true } {} closeClose schedTwoCloses).sh.wire = 1 := by
  decide

/-- a calm schedule of the pinned code that is a real interleaving: T1 starts its `send_text`
    (takes the lock, passes two checks), T0 enters `close()` (its `is_closed` test), T1 finishes,
    T0 completes `close()` undisturbed, a second `send_text` of T1 is refused: one Close, nothing
    after it -/
def calmSched : List Tid := [1, 1, 1, 0] ++ List.replicate 4 1 ++ List.replicate 10 0 ++ List.replicate 7 1
def calmProgs : List (List Call) := [[.close (some 1000) []], [.sendText txt true, .sendText txt true]]

example : Calm {} {} (init (progsOf calmProgs)) calmSched :=
  calm_of_calmB 2 {} {} _ _ (idle_init calmProgs) (by decide +kernel)

example : let s := final {} {} (progsOf calmProgs) calmSched
    (frames s.sh.wire).map (fun c => c.desc.op) = [1, 8] ∧
      (s.th 1).results = [⟨true, none, false⟩, ⟨false, some .closing, false⟩] := by
  decide +kernel

example : let s := final { closeAtomic := true } {} closeSendReply (List.replicate 11 0 ++ List.replicate 4 2 ++ List.replicate 7 1 ++ List.replicate 12 2)
    (frames s.sh.wire).map (fun c => c.desc.op) = [8] ∧ s.sh.closed = true ∧
      (s.th 1).results = [⟨false, some .closing, false⟩] := by
  decide +kernel

end Lomond.C12
