/-
  C04 — source-structure facts the model of `WebSocket.feed`'s error handling relies on, and
  the error texts (they travel in the 1002 Close) tied to the literals in the source.
-/
import Lomond.Generated.Facts
import Lomond.Generated.Tables
namespace Lomond.C04Src

/-- `WebSocket.feed` has exactly the handlers the model's `feedHandler` implements, in this
    order: CriticalProtocolError, ProtocolError, GeneratorExit. -/
theorem feed_handlers :
    Gen.feedHandlers = ["errors.CriticalProtocolError", "errors.ProtocolError", "GeneratorExit"] := rfl

/-- every ProtocolError / PayloadTooLarge text the model raises is a literal of the source
    (the `reserved close code ({})` text is formatted, its template is in the list) -/
theorem protocol_error_texts :
    ∀ t ∈ ["control frames must be <= 125 bytes in length", "reserved bits set", "opcode is reserved",
            "control frames may not be fragmented", "payload is too large", "server sent masked frame",
            "continuation frame has nothing to continue", "continuation frame expected",
            "invalid close frame payload", "reserved close code ({})"],
      t ∈ Gen.protocolErrorTexts := by decide +kernel

/-- the critical texts (canonicalised by their prefix up to the codec's own message) -/
theorem critical_error_texts :
    "close frame contains invalid utf-8" ∈ Gen.criticalErrorTexts ∧
    "unable to decompress payload" ∈ Gen.criticalErrorTexts ∧
    "payload contains invalid utf-8; {}" ∈ Gen.criticalErrorTexts ∧
    "invalid utf-8 in close reason ({})" ∈ Gen.criticalErrorTexts ∧
    "invalid utf8" ∈ Gen.parseErrorTexts := by decide +kernel

end Lomond.C04Src
