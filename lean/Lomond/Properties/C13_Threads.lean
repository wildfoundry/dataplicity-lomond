/-
  C13 companion — the event generator closed while OTHER THREADS are inside their sends still releases the socket.

  Thread model of C11 / C12 (`Model/Threads.lean`): the event-loop thread's program is `[.abandon]` — the consumer walks
  away, the loop thread closes the generator: `feed`'s GeneratorExit handler runs `on_disconnect(state)`
  (`session.close()` = `_close_socket()`: test `_sock`, take the write lock, `shutdown(); close()`, release,
  `_sock = None`; then `closed = True`, `closing = False`) and `run()`'s `finally` runs `_close_socket()` once more —
  while any number of application threads run any programs of `send_text / send_binary / send_ping / send_pong / close()`,
  under ANY schedule: the loop may start to abandon before, after, or in the middle of a send that holds the write lock
  (it then waits at its `acquire` until the sender has released it).

  `abandon_returned_socket_shut`: whenever the loop thread's call has returned, `sockShut = true` — whatever the others did
  or are still doing.  `all_done_socket_shut` is the statement of the task: every schedule in which all threads run to
  completion ends with the socket shut.  Both also for the general socket (n chunks per `sendall`, failing writes).
  Hand-off (`lock_held_at_abandonment`, `no_deadlock`): nothing needs the lock to be free when the generator is closed —
  the theorem holds from every reachable state, in particular one in which a sender holds the lock, and in every
  reachable state in which some thread is unfinished some thread can move (the holder of the lock never waits for it), so
  the waiting loop thread is handed the lock as soon as the others are scheduled.
  Termination: `C13_Term.lean` (some extension of every schedule brings all threads to completion), `C13_Fair.lean`
  (every fair schedule does).

  Tie to the code: `harness/props/c13.py thread_cases` (loop program `ab` of harness/sched.py) — every run is compared
  with this model on the executed step log, chunks, results and flags, and judged by the oracle (`flags.shut`).
  A sender that gets the lock right AFTER the loop has shut the socket and before `_sock = None` / `closed = True` are
  stored finds a dead socket: its `sendall` fails (TransportFail), in the model as in the code (`failWrite` on `sockShut`;
  `Properties/C11_Dead.lean`: `wire_frozen_after_shut`, `send_after_shut_fails`); those runs are compared with the model
  like all others (family `abandon-window`).
-/
import Lomond.Proofs.ThreadsPre

namespace Lomond.C13Threads
open Lomond Lomond.Threads

abbrev final (v : Variant) (cfg : Cfg) (progs : Tid → List Call) (sched : List Tid) : State :=
  run v cfg (init progs) sched

abbrev finalN (env : Env) (v : Variant) (cfg : Cfg) (progs : Tid → List Call) (sched : List Tid) : State :=
  runN env v cfg (init progs) sched

/-- every thread has run to completion (no call in progress, none left to start) -/
def AllDone (v : Variant) (cfg : Cfg) (s : State) : Prop := ∀ t, (s.th t).current v cfg = none

/-- **Once `gen.close()` has returned on the loop thread, the socket is shut** — for every variant, all programs of
    the other threads, every schedule (the others may still be in the middle of their sends). -/
theorem abandon_returned_socket_shut (v : Variant) (cfg : Cfg) (progs : Tid → List Call) (l : Tid)
    (hl : progs l = [.abandon]) (sched : List Tid) :
    let s := final v cfg progs sched
    (s.th l).current v cfg = none → s.sh.sockShut = true := by
  intro s h
  exact abInv_finished (abInv_run v cfg _ l sched (abInv_init v cfg progs l hl)) h

/-- **C13 with threads**: for every schedule in which all threads run to completion — loop program `[.abandon]`,
    arbitrary application programs — the final state has the socket shut. -/
theorem all_done_socket_shut (v : Variant) (cfg : Cfg) (progs : Tid → List Call) (l : Tid)
    (hl : progs l = [.abandon]) (sched : List Tid) :
    AllDone v cfg (final v cfg progs sched) → (final v cfg progs sched).sh.sockShut = true :=
  fun h => abandon_returned_socket_shut v cfg progs l hl sched (h l)

/-- the same for every socket: any number of chunks per `sendall`, any pattern of failing writes -/
theorem all_done_socket_shut_any_socket (env : Env) (v : Variant) (cfg : Cfg) (progs : Tid → List Call) (l : Tid)
    (hl : progs l = [.abandon]) (sched : List Tid) :
    let s := finalN env v cfg progs sched
    (s.th l).current v cfg = none → s.sh.sockShut = true := by
  intro s h
  exact abInv_finished (abInv_runN env v cfg _ l sched (abInv_init v cfg progs l hl)) h

/-- **Hand-off: the lock need not be free at abandonment.**  Take ANY reachable state `s₀` (a prefix schedule `pre` has
    been executed: a sender may be anywhere inside its critical section and hold the write lock — no hypothesis on
    `s₀.sh.lock`) and let the loop thread close the generator during any continuation `post`: when its call has
    returned, the socket is shut.  In particular it has waited for the sender and was handed the lock. -/
theorem lock_held_at_abandonment (v : Variant) (cfg : Cfg) (progs : Tid → List Call) (l : Tid)
    (hl : progs l = [.abandon]) (pre post : List Tid) :
    let s₀ := final v cfg progs pre
    let s := run v cfg s₀ post
    (s.th l).current v cfg = none → s.sh.sockShut = true := by
  intro s₀ s h
  have I0 := abInv_run v cfg _ l pre (abInv_init v cfg progs l hl)
  exact abInv_finished (abInv_run v cfg _ l post I0) h

/-- **No deadlock**: in every reachable state in which some thread is unfinished, some thread can take a step: with the
    lock free that thread itself, with the lock held its holder (which is inside its critical section and never waits).
    So a loop thread waiting at the `acquire` of `_close_socket()` is not stuck: the sender it waits for can always
    move on to its release. -/
theorem no_deadlock (v : Variant) (cfg : Cfg) (progs : Tid → List Call) (sched : List Tid) (t : Tid) :
    let s := final v cfg progs sched
    (s.th t).current v cfg ≠ none → ∃ u, enabled v cfg s u = true := by
  intro s h
  exact someone_can_move (lockInv_run v cfg _ sched (lockInv_fresh v cfg (fresh_init progs))) t h

/-- who it is when the lock is held: the holder -/
theorem holder_can_move (v : Variant) (cfg : Cfg) (progs : Tid → List Call) (sched : List Tid) (h : Tid) :
    let s := final v cfg progs sched
    s.sh.lock = some h → enabled v cfg s h = true := by
  intro s hl
  exact holder_enabled (lockInv_run v cfg _ sched (lockInv_fresh v cfg (fresh_init progs))) hl

/-! ### non-vacuity -/

def ca : Variant := { closeAtomic := true, compressUnderLock := true }
def txt : Bytes := [104, 105]
def sendAb : Tid → List Call := progsOf [[.sendText txt false], [.abandon]]
def zsendAb : Tid → List Call := progsOf [[.sendText txt true], [.abandon]]
def closeAb : Tid → List Call := progsOf [[.close (some 1000) []], [.abandon]]

/-- the sender is inside the write lock (lock taken, all three state checks passed) when the loop closes the generator;
    the loop tests `_sock`, then waits (two no-op entries); the sender writes both halves and releases; the loop takes
    the lock, shuts the socket, stores `_sock = None` twice, `closed = True`, `closing = False` -/
def schedInside : List Tid := [0, 0, 0, 0] ++ [1, 1, 1] ++ [0, 0, 0] ++ List.replicate 8 1

example : let s := final ca {} sendAb schedInside
    AllDone ca {} s ∧ s.sh.sockShut = true ∧ s.sh.sockOpen = false ∧ s.sh.closed = true ∧ s.sh.lock = none ∧
    (s.th 0).results = [⟨true, none, false⟩] ∧ (frames s.sh.wire).map (fun c => c.desc.op) = [1] := by
  refine ⟨?_, by decide +kernel⟩
  intro t
  match t with
  | 0 => decide +kernel
  | 1 => decide +kernel
  | _ + 2 => rfl

/-- at the moment of abandonment (after `0 0 0 0 1`) the lock is held by the sender and the loop is about to wait -/
example : let s := final ca {} sendAb [0, 0, 0, 0, 1]
    s.sh.lock = some 0 ∧ enabled ca {} s 1 = false ∧ enabled ca {} s 0 = true ∧ s.sh.sockShut = false := by
  decide +kernel

/-- a compressed send (compress and flush under the lock), interrupted between `compress()` and `flush()` -/
example : let s := final ca { deflate := true } zsendAb ([0, 0, 0, 0, 0] ++ [1, 1, 1] ++ List.replicate 4 0 ++ List.replicate 8 1)
    s.sh.sockShut = true ∧ (s.th 1).current ca { deflate := true } = none ∧ (s.th 0).results = [⟨true, none, false⟩] := by
  decide +kernel

/-- `close()` interrupted between the two halves of its Close frame -/
example : let s := final ca {} closeAb (List.replicate 7 0 ++ [1, 1] ++ List.replicate 5 0 ++ List.replicate 8 1)
    s.sh.sockShut = true ∧ closeCount s.sh.wire = 1 ∧ s.sh.closed = true ∧ s.sh.closing = false := by
  decide +kernel

/-- the hypothesis of `abandon_returned_socket_shut` is needed: while the loop still waits, the socket is open -/
example : let s := final ca {} sendAb [0, 0, 0, 0, 1, 1, 1, 1]
    (s.th 1).current ca {} ≠ none ∧ s.sh.sockShut = false := by
  decide +kernel

end Lomond.C13Threads
