/-
  C11, receive side — the event-loop thread RECEIVES compressed messages while other threads send.

  The loop thread's program for a compressed data message (`Call.onData d`, `Call.onData2 d1 d2`:
  one frame / two fragments) is what `harness/sched.py` logs for the real code: the tests of `_sock`
  and `closed`, one `inflate` + `dpeek` per `Deflate._inflate` call (every frame, then the
  `00 00 ff ff` tail), `dreset` under `server_no_context_takeover`.  These steps take NO lock.
  That they touch the decompressor only is the source fact `C11Src.receive_path_leaves_compressor_alone`
  (re-extracted from lomond/compression.py on every run); the correspondence harness schedules such a
  receive between every pair of sync points of a compressing sender and compares the step logs.

  Theorems: (1) a receive step changes nothing but `Shared.dctx`; (2) no other step changes `dctx`;
  (3) hence a loop thread that only receives is invisible: under EVERY schedule the wire, the
  compressor, the flags, the lock and every other thread's state and results are exactly those of the
  run without it; (4) `compress_order` with receives interleaved anywhere.
-/
import Lomond.Proofs.ThreadsR
import Lomond.Properties.C11

namespace Lomond.C11Recv
open Lomond Lomond.Threads

/-- **A receive step touches the decompressor only**: compressor (`zctx`, `zpend`), wire, flags,
    socket and lock are what they were; the thread moves to its next step. -/
theorem receive_step_touches_only_decompressor (v : Variant) (t : Tid) (st : Step) (r : List Step)
    (sh : Shared) (c : Cur) (h : isRecvStep st = true) :
    let sh' := (exec v t st r sh c).1
    sh'.zctx = sh.zctx ∧ sh'.zpend = sh.zpend ∧ sh'.wire = sh.wire ∧ sh'.lock = sh.lock ∧
    sh'.closing = sh.closing ∧ sh'.closed = sh.closed ∧ sh'.sockOpen = sh.sockOpen ∧
    (exec v t st r sh c).2 = { c with rest := r } := by
  intro sh'
  obtain ⟨h1, h2⟩ := exec_recv_only_decompressor v t st r sh c h
  refine ⟨?_, ?_, ?_, ?_, ?_, ?_, ?_, h2⟩ <;> (simp only [sh']; rw [h1])

/-- **Nothing but a receive touches the decompressor**: every step other than `inflate` / `dreset`
    — all steps of all send methods, `close()`, the loop's own writers — leaves `dctx` alone. -/
theorem senders_leave_decompressor_alone (v : Variant) (t : Tid) (st : Step) (r : List Step) (sh : Shared)
    (c : Cur) (h : touchesD st = false) : (exec v t st r sh c).1.dctx = sh.dctx :=
  exec_leaves_decompressor v t st r sh c h

/-- the sends and closes compile to steps that do not touch the decompressor -/
theorem writers_never_touch_decompressor (v : Variant) (cfg : Cfg) (call : Call) (h : call.isRecv = false) :
    ∀ st ∈ compile v cfg call, touchesD st = false := by
  suffices (compile v cfg call).all (fun st => !touchesD st) = true by simpa using this
  cases call <;> simp only [Call.isRecv] at h <;> try cases h
  all_goals
    simp only [compile, sendData, closeBody, writeProg, checks]
    (repeat' split) <;> rfl

/-- **A receiving loop thread is invisible.**  Let thread `l` only receive compressed messages (any
    number, one frame or fragmented, with or without `server_no_context_takeover`).  For ALL programs
    of the other threads and ALL schedules, the run with `l` and the run without it (`without progs l`,
    same schedule: `l`'s entries are then no-ops) agree on the wire, the compressor, the flags, the
    socket, the lock, and on the complete state (program position, results) of every other thread. -/
theorem receives_invisible (v : Variant) (cfg : Cfg) (progs : Tid → List Call) (l : Tid)
    (hq : ∀ call ∈ progs l, call.isRecv = true) (sched : List Tid) :
    let a := run v cfg (init progs) sched
    let b := run v cfg (init (without progs l)) sched
    a.sh.wire = b.sh.wire ∧ a.sh.zctx = b.sh.zctx ∧ a.sh.zpend = b.sh.zpend ∧ a.sh.lock = b.sh.lock ∧
    a.sh.closing = b.sh.closing ∧ a.sh.closed = b.sh.closed ∧ a.sh.sockOpen = b.sh.sockOpen ∧
    ∀ u, u ≠ l → a.th u = b.th u := by
  intro a b
  have E := erased_run v cfg _ _ l sched (onlyRecv_init v cfg progs l hq) (erased_init progs l)
  obtain ⟨d, hd⟩ := E.sh
  have hb : b.sh = { a.sh with dctx := d } := hd
  refine ⟨?_, ?_, ?_, ?_, ?_, ?_, ?_, fun u hu => (E.th u hu).symm⟩ <;> rw [hb]

/-- **`compress_order` is unaffected by receives**: with compression under the write lock, for all
    programs — in which the loop thread (or any thread) receives compressed messages at any points —
    and all schedules, the peer decodes every frame in wire order to the message of its call; and the
    frames on the wire are exactly those of the run in which the receiving thread does not exist. -/
theorem compress_order_with_receives (v : Variant) (hv : v.compressUnderLock = true) (cfg : Cfg)
    (progs : Tid → List Call) (l : Tid) (hq : ∀ call ∈ progs l, call.isRecv = true) (sched : List Tid) :
    let s := run v cfg (init progs) sched
    frames s.sh.wire = frames (run v cfg (init (without progs l)) sched).sh.wire ∧
    ∃ ms, peerDecode cfg.noTakeover [] (frames s.sh.wire) = some ms ∧
      ms.map (fun x => (x.1, x.2.1)) = (frames s.sh.wire).map (fun c => (c.tid, c.idx)) ∧
      ∀ x ∈ ms, ∃ call, (progs x.1)[x.2.1]? = some call ∧ x.2.2 = call.msg := by
  intro s
  exact ⟨by rw [(receives_invisible v cfg progs l hq sched).1], C11.compress_order v hv cfg progs sched⟩

/-! ### non-vacuity -/

def zc : Cfg := { deflate := true, noTakeover := true, serverNoTakeover := true }
def rprogs : Tid → List Call :=
  progsOf [[.sendText C11.m0 true, .sendBinary C11.m1 true], [.onData [1, 2, 3], .onData2 [4] [5]]]
/-- T0 takes the lock, passes the checks and compresses; the loop thread inflates a whole message
    (between `compress` and `flush` of T0); T0 flushes, resets, writes; a second, fragmented message is
    received while T0 is in the middle of its second frame's write -/
def rsched : List Tid :=
  List.replicate 5 0 ++ List.replicate 9 1 ++ List.replicate 5 0 ++ List.replicate 8 0 ++ List.replicate 11 1 ++
    List.replicate 3 0

example : ∀ call ∈ rprogs 1, call.isRecv = true := by decide

/-- the receives ran (the decompressor was used and reset), both frames are on the wire and decode -/
example :
    let s := run { compressUnderLock := true } zc (init rprogs) rsched
    ((s.th 1).results.length = 2 ∧ (s.th 0).results.length = 2) ∧
    peerDecode true [] (frames s.sh.wire) = some [(0, 0, C11.m0), (0, 1, C11.m1)] := by
  decide +kernel

/-- without `server_no_context_takeover` the decompressor's context is what the loop inflated -/
example : (run { compressUnderLock := true } { deflate := true } (init rprogs) rsched).sh.dctx = [1, 2, 3, 4, 5] := by
  decide +kernel

example : isRecvStep (.inflate [1]) = true ∧ touchesD (.compress [1]) = false := by decide

end Lomond.C11Recv
