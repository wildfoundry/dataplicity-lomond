/-
  C19 companion — the port defaults of the proxy model are what the source says.

  `Lomond.Gen.Code.proxyDefaultPort` is produced from `WebsocketSession._connect_proxy`
  (`int(_proxy_url.port) if _proxy_url.port else (443 if _proxy_url.scheme == 'https' else 80)`)
  and `wsDefaultPort` from `WebSocket.__init__` by harness/py2lean.py on every check run.
  The theorems state that `Proxy.portOr`, `Proxy.mkTarget` (where the CONNECT request and the
  direct connection go) and `Proxy.connectProxy` (where the proxy connection goes) use exactly
  these.  Theorems only.
-/
import Lomond.Model.Proxy
import Lomond.Proofs.GenTie
import Lomond.Generated.Code

namespace Lomond.C19Gen
open Lomond Lomond.GenTie Lomond.Proxy
open Lomond.Gen.Code

/-- `int(port) if port else default` with the proxy's default -/
theorem gen_proxyPort (p : Option Nat) (https : Bool) :
    portOr p (if https then 443 else 80) = proxyDefaultPort p https := by
  unfold portOr proxyDefaultPort
  cases p with
  | none => rfl
  | some n => by_cases h : n = 0 <;> simp [h]

/-- … and with the websocket's default -/
theorem gen_targetPort (p : Option Nat) (secure : Bool) :
    portOr p (if secure then 443 else 80) = wsDefaultPort p secure := by
  unfold portOr wsDefaultPort
  cases p with
  | none => rfl
  | some n => by_cases h : n = 0 <;> simp [h]

/-- `WebSocket(url)`: the target's port is the generated default computation -/
theorem gen_mkTarget (url : Http.Str) :
    mkTarget url =
      match parseUrl url with
      | none => none
      | some u =>
        match u.port with
        | none => none
        | some p =>
          some { host := u.hostname,
                 port := wsDefaultPort p (decide (u.scheme = Http.ofString "wss")),
                 secure := decide (u.scheme = Http.ofString "wss") } := by
  unfold mkTarget
  simp only [gen_targetPort]
  cases parseUrl url with
  | none => rfl
  | some u => simp only []; cases u.port <;> rfl

/-- `_connect_proxy(proxy_url)`: whenever the URL parses, the first thing that happens is a
    connection to the proxy's host at the generated port, with TLS exactly for `https` -/
theorem gen_connectProxy_port (c : Cfg) (e : Env) (purl : Http.Str) (u : Url) (p : Option Nat)
    (hu : parseUrl purl = some u) (hp : u.port = some p) :
    (connectProxy c e purl).1.head? =
      some (.connectTo u.hostname (proxyDefaultPort p (decide (u.scheme = Http.ofString "https")))
              (decide (u.scheme = Http.ofString "https"))) := by
  unfold connectProxy
  simp only [hu, hp, gen_proxyPort]
  -- every way `_connect_proxy` can go on starts with the same connection
  cases e.connectOk
  · rfl
  cases buildConnect c.target.host c.target.port u.username u.password
  · rfl
  cases e.writeFails 0
  rotate_left
  · rfl
  cases (readLoop e.reads []).2
  · rfl
  cases c.target.secure
  · rfl
  cases e.wrapOk <;> rfl

example : proxyDefaultPort none true = 443 := rfl
example : proxyDefaultPort none false = 80 := rfl
example : proxyDefaultPort (some 3128) false = 3128 := rfl
example : proxyDefaultPort (some 0) true = 443 := rfl

end Lomond.C19Gen
