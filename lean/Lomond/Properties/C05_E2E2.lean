/-
  C05, end to end, second part: fail-fast for an uncompressed text message on a connection on which
  permessage-deflate is negotiated (`failfast_message_ext`; needs the repaired per-message choice of the
  payload reader, `perMsgValidate`, finding D9 — `C05.present_variant_no_failfast_when_negotiated` is the
  witness for the pinned behaviour); the verdict for a text message that is followed by further items
  (`text_verdict_ext`); the verdict for a compressed text message, which is the verdict on the inflated
  payload (`compressed_text_verdict`, `compressed_text_verdict_rfc`).
  Helper lemmas: Proofs/PrefixRun.lean, Proofs/ZAny.lean, Proofs/EndToEndTextCut.lean.
-/
import Lomond.Proofs.DeflateTie
import Lomond.Proofs.ZAny
import Lomond.Properties.C05_E2E
import Lomond.Properties.C04_E2E2
import Lomond.Properties.C06

namespace Lomond.C05E2E2
open Lomond Lomond.Core Lomond.Core.E2E Lomond.C05E2E

/-- what every connection starts with; `z` = permessage-deflate negotiated -/
def handshakeEventsG (proxy : Bool) (proto : Option Http.Str) (z : Bool) : List Event :=
  [.connecting, .connected proxy, .ready proto z, .poll]

/-- `C05E2E.invalid_tail` with the extension negotiated or not: `E2E.run_ready_critical` in the terms of this file -/
theorem invalid_tail_g {cfg : Cfg} {react : React} {proxy : Bool} {proto : Option Http.Str}
    {dz : Option Http.DeflateCfg}
    (hs : Setup cfg react proxy) {reply : Bytes} (hreply : GoodReplyG cfg reply proto dz)
    (chunks : List Bytes) (stream : Bytes) (restEnv : List EnvStep) (hne : ∀ c ∈ chunks, c ≠ [])
    (hflat : chunks.flatten = reply ++ stream) (X : List Event) (P : String → Prop)
    (hv : ∀ s4, AtReadyG cfg react proxy proto dz s4 → ∃ x s1 msg,
        feedLoop stream s4 = .err x s1 ∧ violationOf x = some (msg, true) ∧ I s1 ∧
        Monitor.histOf s1.trace = X.reverse ++ Monitor.histOf s4.trace ∧ P msg) :
    ∃ msg, P msg ∧ Monitor.events (runAll cfg react (reads chunks ++ restEnv)).trace =
      handshakeEventsG proxy proto dz.isSome ++ X ++ [.protocolError msg true, .disconnected "forced" false] :=
  run_ready_critical hs hreply chunks stream restEnv hne hflat X P hv

/-- **Fail-fast, at byte granularity, permessage-deflate negotiated or not.**  As
    `C05E2E.failfast_message`, on a connection whose upgrade reply negotiates the extension with the
    configuration `dz` (`some d`, or `none`); the text message `m` is sent with RSV1 = 0 (the
    extension allows that per message), in any fragmentation, with control frames between the
    fragments, after any conforming prefix `items`.  With the repaired per-message choice of the
    payload reader (`perMsgValidate = true`; without the extension the hypothesis `hmode` holds for
    every variant) the server's bytes **up to and including the first offending byte `b`** — in any
    segmentation — already make the client raise: one critical `ProtocolError('invalid utf8')`, then
    `Disconnected('forced', graceful=False)`; neither the rest of the fragment, nor the later
    fragments, nor anything else (`restEnv` is arbitrary and never consulted) needs to arrive. -/
theorem failfast_message_ext (cfg : Cfg) (react : React) (proxy : Bool) (proto : Option Http.Str)
    (dz : Option Http.DeflateCfg)
    (hs : Setup cfg react proxy) (hk : cfg.v.keepIsText = true)
    (hmode : cfg.v.perMsgValidate = true ∨ dz.isSome = false)
    (reply : Bytes) (hreply : GoodReplyG cfg reply proto dz)
    (items : List Item) (hok : ∀ it ∈ items, it.Ok) (m : DataMsg) (hm : Framed m)
    (before after : List WFrame) (w : WFrame) (done : Bytes) (evs : List Event)
    (hcut : CutAt m before w after done evs)
    (a : Bytes) (b : Nat) (c : Bytes) (hpl : w.payload = a ++ b :: c)
    (hbytes : Bytes.WF (done ++ a ++ [b]))
    (hgood : ∃ ext, Utf8.wf (done ++ a ++ ext) = true)
    (hbad : ∀ ext, Utf8.wf (done ++ a ++ [b] ++ ext) = false)
    (chunks : List Bytes) (hne : ∀ c ∈ chunks, c ≠ [])
    (hflat : chunks.flatten =
      reply ++ ((wireBytes (items.flatMap Item.wire) ++ wireBytes before) ++ partialBytes w (a.length + 1)))
    (restEnv : List EnvStep) :
    Monitor.events (runAll cfg react (reads chunks ++ restEnv)).trace =
      handshakeEventsG proxy proto dz.isSome ++ (items.flatMap Item.events ++ evs) ++
        [.protocolError "invalid utf8" true, .disconnected "forced" false] := by
  obtain ⟨ht, hfirst, hrest⟩ := hm
  exact failfast_after_prefix hs hk hmode hreply (Prefix.items cfg react proxy proto dz items hok)
    m ht hfirst hrest hcut hpl hbytes hgood hbad chunks hne (by rw [hflat, List.append_assoc]) restEnv

/-- **Verdict, with a continuation.**  After any conforming prefix `items`, a text message `m` sent
    with RSV1 = 0 in any fragmentation with Ping/Pong frames between the fragments, then any further
    conforming items `more` (data messages, control frames) — in any segmentation of the reads,
    permessage-deflate negotiated (`dz = some d`) or not:
    * if the joined payload is well-formed UTF-8 (RFC 3629), the application sees the interleaved
      control events, exactly one `Text` event carrying the exact decoding of the payload, **and then
      the events of `more`**: the connection goes on (here it ends with the end of stream);
    * otherwise it sees a prefix `ces` of the control events, exactly one critical `ProtocolError`,
      then `Disconnected('forced', graceful=False)` — no `Text` event for this message, **nothing of
      `more`**, and the rest of the environment script (`restEnv`, arbitrary) is not consulted. -/
theorem text_verdict_ext (cfg : Cfg) (react : React) (proxy : Bool) (proto : Option Http.Str)
    (dz : Option Http.DeflateCfg)
    (hs : Setup cfg react proxy) (hk : cfg.v.keepIsText = true)
    (hmode : cfg.v.perMsgValidate = true ∨ dz.isSome = false)
    (reply : Bytes) (hreply : GoodReplyG cfg reply proto dz)
    (items : List Item) (hok : ∀ it ∈ items, it.Ok) (m : DataMsg) (hm : Framed m)
    (more : List Item) (hmore : ∀ it ∈ more, it.Ok)
    (chunks : List Bytes) (hne : ∀ c ∈ chunks, c ≠ [])
    (hflat : chunks.flatten =
      reply ++ (wireBytes (items.flatMap Item.wire) ++ (wireBytes m.wire ++ wireBytes (more.flatMap Item.wire)))) :
    (Utf8.wf m.payload = true → ∃ cps, Utf8.decode m.payload = some cps ∧
      ∀ dt, (cfg.pingTimeout = 0 ∨ dt ≤ cfg.pingTimeout) → (cfg.closeTimeout = 0 ∨ dt < cfg.closeTimeout) →
      Monitor.events (runAll cfg react (reads chunks ++ [.wait dt (some .eof)])).trace =
        handshakeEventsG proxy proto dz.isSome ++
          (items.flatMap Item.events ++ (ctrlEvents m ++ [.text cps]) ++ more.flatMap Item.events) ++
          (if cfg.poll ≤ dt then [.poll] else []) ++ [.disconnected "connection-lost" false]) ∧
    (Utf8.wf m.payload = false → ∃ ces msg, ces <+: ctrlEvents m ∧ ∀ restEnv,
      Monitor.events (runAll cfg react (reads chunks ++ restEnv)).trace =
        handshakeEventsG proxy proto dz.isSome ++ (items.flatMap Item.events ++ ces) ++
          [.protocolError msg true, .disconnected "forced" false]) := by
  obtain ⟨ht, hfirst, hrest⟩ := hm
  obtain ⟨h1, h2⟩ := text_verdict_after_prefix hs hk hmode hreply (Prefix.items cfg react proxy proto dz items hok)
    m ht hfirst hrest _ chunks hne hflat
  exact ⟨fun hwf => (h1 hwf).imp fun cps h => ⟨h.1, h.2 more hmore rfl⟩, h2⟩

/-- **Verdict on a compressed text message.**  The upgrade reply negotiates permessage-deflate
    (`d`); the first message the server sends is a Text message with RSV1 = 1 on its first frame —
    compressed —, in any fragmentation (`ZMsg`: first fragment, continuation fragments, any legal
    length form each; `z.joined` is the compressed payload), followed by any further conforming
    items `more`; any segmentation of the reads; every variant.  Let `r` be what the configuration's
    inflater makes of the message (`z.joined` followed by the `00 00 ff ff` tail, negotiated window).
    * `r = some plain` with `plain` well-formed UTF-8: exactly one `Text` event with the exact
      decoding of the **inflated** payload, then the events of `more`; the connection goes on;
    * `r = some plain` with `plain` not well-formed: a critical
      `ProtocolError('payload contains invalid utf-8')` and nothing after it;
    * `r = none`: a critical `ProtocolError('unable to decompress payload')` and nothing after it.
    No byte of the compressed payload is run through the UTF-8 validator (`zframe_step`). -/
theorem compressed_text_verdict (cfg : Cfg) (react : React) (proxy : Bool) (proto : Option Http.Str)
    (d : Http.DeflateCfg) (hs : Setup cfg react proxy)
    (reply : Bytes) (hreply : GoodReplyG cfg reply proto (some d))
    (z : ZMsg) (hz : z.Ok) (more : List Item) (hmore : ∀ it ∈ more, it.Ok)
    (chunks : List Bytes) (hne : ∀ c ∈ chunks, c ≠ [])
    (hflat : chunks.flatten = reply ++ (z.bytes ++ wireBytes (more.flatMap Item.wire))) :
    (∀ plain, cfg.inflate d.decompressWbits (z.joined ++ [0, 0, 0xff, 0xff]) = some plain → Utf8.wf plain = true →
      ∃ cps, Utf8.decode plain = some cps ∧
      ∀ dt, (cfg.pingTimeout = 0 ∨ dt ≤ cfg.pingTimeout) → (cfg.closeTimeout = 0 ∨ dt < cfg.closeTimeout) →
      Monitor.events (runAll cfg react (reads chunks ++ [.wait dt (some .eof)])).trace =
        handshakeEventsG proxy proto true ++ ([.text cps] ++ more.flatMap Item.events) ++
          (if cfg.poll ≤ dt then [.poll] else []) ++ [.disconnected "connection-lost" false]) ∧
    (∀ plain, cfg.inflate d.decompressWbits (z.joined ++ [0, 0, 0xff, 0xff]) = some plain → Utf8.wf plain = false →
      ∀ restEnv, Monitor.events (runAll cfg react (reads chunks ++ restEnv)).trace =
        handshakeEventsG proxy proto true ++
          [.protocolError "payload contains invalid utf-8" true, .disconnected "forced" false]) ∧
    (cfg.inflate d.decompressWbits (z.joined ++ [0, 0, 0xff, 0xff]) = none →
      ∀ restEnv, Monitor.events (runAll cfg react (reads chunks ++ restEnv)).trace =
        handshakeEventsG proxy proto true ++
          [.protocolError "unable to decompress payload" true, .disconnected "forced" false]) := by
  obtain ⟨h1, h2, h3⟩ := DG.zmsg_verdict_after_prefix hs hreply (Prefix.nilZ cfg react proxy proto d) z hz
    (wireBytes (more.flatMap Item.wire)) chunks hne hflat
  refine ⟨fun plain hinf hwf => ?_, fun plain hinf hwf restEnv => ?_, fun hinf restEnv => ?_⟩
  · obtain ⟨cps, hcps, h⟩ := h1 plain hinf hwf
    exact ⟨cps, hcps, fun dt hpt hct => h more hmore rfl dt hpt hct⟩
  · exact h2 plain hinf hwf restEnv
  · exact h3 hinf restEnv

/-- **… and the inflated payload is what RFC 7692 says the message means**: `enc` is any encoding of
    DEFLATE block lists into bytes, the message's compressed payload is `enc blocks`, and the
    configuration's inflater reads this one-message history as those blocks (`AgreesSafe`, the
    hypothesis of `C06.never_wrong_core`; the correspondence run checks it of `Inflate.inflateAllSafe`
    against zlib).  Then the verdict of `compressed_text_verdict` is the verdict on
    `tokenOutSafe (2 ^ d.decompressWbits) [blocks]`, the token-level meaning of the blocks with the
    negotiated window (`none`: the data is invalid for that window). -/
theorem compressed_text_verdict_rfc (cfg : Cfg) (d : Http.DeflateCfg) (enc : List Deflate.Blk → Bytes)
    (blocks : List Deflate.Blk) (z : ZMsg) (hj : z.joined = enc blocks)
    (hA : AgreesSafe cfg.inflate d.decompressWbits enc [blocks]) :
    cfg.inflate d.decompressWbits (z.joined ++ [0, 0, 0xff, 0xff]) = tokenOutSafe (2 ^ d.decompressWbits) [blocks] := by
  unfold AgreesSafe encHist at hA
  simp only [List.flatMap_cons, List.flatMap_nil, List.append_nil, TAIL] at hA
  rw [hj]; exact hA

/-- `failfast_message_ext` with the extension negotiated, on `C05E2E.exBad`: the offending byte 0x28 is
    the first byte of the second fragment; the script ends with that byte -/
example : Monitor.events (runAll C01E2E.exCfg C01E2E.exReact
      (reads ((C04E2E2.exReplyZ ++ ([0x01, 2, 0x61, 0xE2] ++ [0x89, 1, 1] ++ [0x00, 2, 0x28])).map (fun b => [b])))).trace =
    [.connecting, .connected false, .ready none true, .poll, .ping [1],
     .protocolError "invalid utf8" true, .disconnected "forced" false] := by
  have h := failfast_message_ext C01E2E.exCfg C01E2E.exReact false none (some C04E2E2.exDz) C01E2E.exSetup rfl (Or.inl rfl)
    C04E2E2.exReplyZ C04E2E2.exGoodReplyZ [] (by simp) exBad exBad_framed _ _ _ _ _
    (CutAt.later [] [{ pong := false, payload := [1], form := .short }] { payload := [0x28, 0x62], form := .short }
      [([{ pong := true, payload := [], form := .short }], { payload := [0x63], form := .short })] rfl)
    [] 0x28 [0x62] rfl (by decide) ⟨[0x82, 0xAC], by decide⟩
    ((C05.validate_verdict [0x61, 0xE2, 0x28] (by decide)).mp (by decide +kernel))
    ((C04E2E2.exReplyZ ++ ([0x01, 2, 0x61, 0xE2] ++ [0x89, 1, 1] ++ [0x00, 2, 0x28])).map (fun b => [b]))
    (bytewise_ne _) (by rw [bytewise_flatten]; exact congrArg (C04E2E2.exReplyZ ++ ·) (by decide)) []
  rw [List.append_nil] at h
  exact h.trans rfl

/-- … the same script evaluated directly; and the pinned behaviour (`perMsgValidate = false`) on it:
    nothing is raised yet (the script runs out, the connection is still alive) -/
example : Monitor.events (runAll C01E2E.exCfg C01E2E.exReact
      (reads ((C04E2E2.exReplyZ ++ ([0x01, 2, 0x61, 0xE2] ++ [0x89, 1, 1] ++ [0x00, 2, 0x28])).map (fun b => [b])))).trace =
    [.connecting, .connected false, .ready none true, .poll, .ping [1],
     .protocolError "invalid utf8" true, .disconnected "forced" false] ∧
    Monitor.events (runAll { C01E2E.exCfg with v := { perMsgValidate := false } } C01E2E.exReact
      (reads ((C04E2E2.exReplyZ ++ ([0x01, 2, 0x61, 0xE2] ++ [0x89, 1, 1] ++ [0x00, 2, 0x28])).map (fun b => [b])))).trace =
    [.connecting, .connected false, .ready none true, .poll, .ping [1]] := by
  -- the reply as a list of characters: the kernel is slow on long string literals (Proofs/StrLit.lean)
  rw [C04E2E2.exReplyZ, Http.lit_ofList]
  constructor <;> decide +kernel

/-- a Binary message and a Ping after the text message -/
def exMore : List Item := [.data { text := false, first := { payload := [1, 2, 3], form := .short }, rest := [] },
  .ctrl { pong := false, payload := [9], form := .short }]

theorem exMore_ok : ∀ it ∈ exMore, it.Ok := by decide

/-- `text_verdict_ext`, valid case ("€a" in three fragments, then `exMore`), extension negotiated,
    one byte per read: the text is delivered and so are the following items -/
example : Monitor.events (runAll C01E2E.exCfg C01E2E.exReact
      (reads ((C04E2E2.exReplyZ ++ ([] ++ (wireBytes exMsg.wire ++ wireBytes (exMore.flatMap Item.wire)))).map (fun b => [b]))
        ++ [.wait 0 (some .eof)])).trace =
    [.connecting, .connected false, .ready none true, .poll, .ping [1, 2], .pong [], .text [0x20AC, 0x61],
     .binary [1, 2, 3], .ping [9], .disconnected "connection-lost" false] := by
  obtain ⟨cps, hc, h⟩ := (text_verdict_ext C01E2E.exCfg C01E2E.exReact false none (some C04E2E2.exDz) C01E2E.exSetup rfl
    (Or.inl rfl) C04E2E2.exReplyZ C04E2E2.exGoodReplyZ [] (by simp) exMsg exMsg_framed exMore exMore_ok _
    (bytewise_ne _) (bytewise_flatten _)).1 (by decide)
  obtain rfl : [0x20AC, 0x61] = cps := Option.some.inj ((by decide : Utf8.decode exMsg.payload = _).symm.trans hc)
  exact (h 0 (Or.inl rfl) (Or.inr (by decide))).trans rfl

/-- `text_verdict_ext`, invalid case: the truncated text `E2 82`, then `exMore`, then further reads in
    the script: nothing after the ProtocolError -/
example : ∃ ces msg, ces <+: ctrlEvents exTrunc ∧
    Monitor.events (runAll C01E2E.exCfg C01E2E.exReact
      (reads [C01E2E.exReply ++ ([] ++ (wireBytes exTrunc.wire ++ wireBytes (exMore.flatMap Item.wire)))] ++
        [.wait 3 (some (.data [0x81, 1, 66]))])).trace =
    handshakeEventsG false none false ++ ([] ++ ces) ++ [.protocolError msg true, .disconnected "forced" false] := by
  obtain ⟨ces, msg, hp, h⟩ := (text_verdict_ext C01E2E.exCfg C01E2E.exReact false none none C01E2E.exSetup rfl
    (Or.inr rfl) C01E2E.exReply C01E2E.exGoodReply.toG [] (by simp) exTrunc exTrunc_framed exMore exMore_ok
    [C01E2E.exReply ++ ([] ++ (wireBytes exTrunc.wire ++ wireBytes (exMore.flatMap Item.wire)))]
    (by rw [C01E2E.exReply, Http.lit_ofList]; decide +kernel)
    (by simp [wireBytes])).2 (by decide)
  exact ⟨ces, msg, hp, h _⟩

example : Monitor.events (runAll C01E2E.exCfg C01E2E.exReact
      (reads [C01E2E.exReply ++ (wireBytes exTrunc.wire ++ wireBytes (exMore.flatMap Item.wire))] ++
        [.wait 3 (some (.data [0x81, 1, 66]))])).trace =
    [.connecting, .connected false, .ready none false, .poll,
     .protocolError "payload contains invalid utf-8" true, .disconnected "forced" false] := by
  rw [C01E2E.exReply, Http.lit_ofList]
  decide +kernel

/-- the configuration of the examples with the bit-level inflater of Model/Inflate.lean -/
def exCfgZ : Cfg := { C01E2E.exCfg with inflate := Inflate.inflateAllSafe }

theorem exSetupZ : Setup exCfgZ C01E2E.exReact false :=
  ⟨rfl, rfl, by decide, C01E2E.exSetup.app⟩

theorem exGoodReplyZc : GoodReplyG exCfgZ C04E2E2.exReplyZ none (some C04E2E2.exDz) :=
  ⟨C04E2E2.exGoodReplyZ.sep, C04E2E2.exGoodReplyZ.len, C04E2E2.exGoodReplyZ.ok⟩

/-- "Hello" compressed (RFC 7692 §7.2.3.1: `f2 48 cd c9 c9 07 00`), cut into three fragments -/
def exZ : ZMsg :=
  ⟨{ payload := [0xf2, 0x48], form := .short },
   [{ payload := [0xcd, 0xc9, 0xc9], form := .ext16 }, { payload := [0x07, 0x00], form := .short }]⟩

/-- a compressed message whose inflated payload is `E2 82` (a truncated character): stored block -/
def exZbad : ZMsg := ⟨{ payload := [0x00, 0x02, 0x00, 0xfd, 0xff, 0xE2, 0x82, 0x00], form := .short }, []⟩

example : exZ.Ok ∧ exZbad.Ok := by decide

example : Inflate.inflateAllSafe 15 (exZ.joined ++ [0, 0, 0xff, 0xff]) = some [72, 101, 108, 108, 111] ∧
    Inflate.inflateAllSafe 15 (exZbad.joined ++ [0, 0, 0xff, 0xff]) = some [0xE2, 0x82] ∧
    Inflate.inflateAllSafe 15 ([0x06] ++ [0, 0, 0xff, 0xff]) = none := by decide +kernel

/-- `compressed_text_verdict`, valid case: the text is the decoding of the *inflated* payload, and
    the following items are delivered -/
example : Monitor.events (runAll exCfgZ C01E2E.exReact
      (reads ((C04E2E2.exReplyZ ++ (exZ.bytes ++ wireBytes (exMore.flatMap Item.wire))).map (fun b => [b]))
        ++ [.wait 0 (some .eof)])).trace =
    [.connecting, .connected false, .ready none true, .poll, .text [72, 101, 108, 108, 111],
     .binary [1, 2, 3], .ping [9], .disconnected "connection-lost" false] := by
  obtain ⟨cps, hc, h⟩ := (compressed_text_verdict exCfgZ C01E2E.exReact false none C04E2E2.exDz exSetupZ
    C04E2E2.exReplyZ exGoodReplyZc exZ (by decide) exMore exMore_ok _ (bytewise_ne _) (bytewise_flatten _)).1
    [72, 101, 108, 108, 111] (by decide +kernel) (by decide)
  obtain rfl : [72, 101, 108, 108, 111] = cps :=
    Option.some.inj ((by decide : Utf8.decode [72, 101, 108, 108, 111] = _).symm.trans hc)
  exact (h 0 (Or.inl rfl) (Or.inr (by decide))).trans rfl

/-- … invalid case: the inflated payload is not well-formed; nothing of `exMore` is delivered -/
example : Monitor.events (runAll exCfgZ C01E2E.exReact
      (reads [C04E2E2.exReplyZ ++ (exZbad.bytes ++ wireBytes (exMore.flatMap Item.wire))] ++
        [.wait 3 (some (.data [0x81, 1, 66]))])).trace =
    handshakeEventsG false none true ++
      [.protocolError "payload contains invalid utf-8" true, .disconnected "forced" false] :=
  (compressed_text_verdict exCfgZ C01E2E.exReact false none C04E2E2.exDz exSetupZ
    C04E2E2.exReplyZ exGoodReplyZc exZbad (by decide) exMore exMore_ok
    [C04E2E2.exReplyZ ++ (exZbad.bytes ++ wireBytes (exMore.flatMap Item.wire))]
    (by rw [C04E2E2.exReplyZ, Http.lit_ofList]; decide +kernel) (by simp)).2.1
    [0xE2, 0x82] (by decide +kernel) (by decide) _

/-- … and the same two runs evaluated directly -/
example : Monitor.events (runAll exCfgZ C01E2E.exReact
      (reads [C04E2E2.exReplyZ ++ (exZ.bytes ++ wireBytes (exMore.flatMap Item.wire))] ++ [.wait 0 (some .eof)])).trace =
    [.connecting, .connected false, .ready none true, .poll, .text [72, 101, 108, 108, 111],
     .binary [1, 2, 3], .ping [9], .disconnected "connection-lost" false] ∧
    Monitor.events (runAll exCfgZ C01E2E.exReact
      (reads [C04E2E2.exReplyZ ++ (exZbad.bytes ++ wireBytes (exMore.flatMap Item.wire))] ++
        [.wait 3 (some (.data [0x81, 1, 66]))])).trace =
    [.connecting, .connected false, .ready none true, .poll,
     .protocolError "payload contains invalid utf-8" true, .disconnected "forced" false] := by
  rw [C04E2E2.exReplyZ, Http.lit_ofList]
  constructor <;> decide +kernel

/-- a compressed message that is not a DEFLATE stream at all (`06`: reserved block type) -/
def exZnone : ZMsg := ⟨{ payload := [0x06], form := .short }, []⟩

/-- … third case: `inflate` fails -/
example : Monitor.events (runAll exCfgZ C01E2E.exReact
      (reads [C04E2E2.exReplyZ ++ (exZnone.bytes ++ wireBytes (exMore.flatMap Item.wire))] ++
        [.wait 3 (some (.data [0x81, 1, 66]))])).trace =
    handshakeEventsG false none true ++
      [.protocolError "unable to decompress payload" true, .disconnected "forced" false] :=
  (compressed_text_verdict exCfgZ C01E2E.exReact false none C04E2E2.exDz exSetupZ
    C04E2E2.exReplyZ exGoodReplyZc exZnone (by decide) exMore exMore_ok
    [C04E2E2.exReplyZ ++ (exZnone.bytes ++ wireBytes (exMore.flatMap Item.wire))]
    (by rw [C04E2E2.exReplyZ, Http.lit_ofList]; decide +kernel) (by simp)).2.2
    (by decide +kernel) _

/-- `compressed_text_verdict_rfc` applies to `exZ`: its compressed payload is the encoding of the
    block "Hello" of RFC 7692 §7.2.3.1 (`C06.rfcHello1`), the bit-level inflater reads it as that
    block (`AgreesSafe`), so what is validated and decoded is the RFC meaning of the block -/
example : exCfgZ.inflate C04E2E2.exDz.decompressWbits (exZ.joined ++ [0, 0, 0xff, 0xff])
      = tokenOutSafe (2 ^ C04E2E2.exDz.decompressWbits) [C06.rfcHello1] ∧
    tokenOutSafe (2 ^ 15) [C06.rfcHello1] = some [72, 101, 108, 108, 111] :=
  ⟨compressed_text_verdict_rfc exCfgZ C04E2E2.exDz C06.rfcEncFinal C06.rfcHello1 exZ (by decide)
    (by show _ = _; decide +kernel), by decide +kernel⟩

end Lomond.C05E2E2
