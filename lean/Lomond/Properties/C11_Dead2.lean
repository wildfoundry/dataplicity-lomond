/-
  C11 / C12 / C13 companion — the DEAD SOCKET window, part 2 (continues `C11_Dead.lean`).

    * `shut_between_frames_any_socket_before_connect`: "no frame is torn by the shut" for the general socket from BOTH initial
      states (`init`: connected; `initPre`: before the connection exists).
    * `call_at_dead_write_result_any_socket`: a call (any call but the loop's `.connect`) that stands AT its first write step
      when the socket is shut returns with exactly `⟨wrote := false, err := some .transport, alt := false⟩`, under every
      schedule; `send_at_dead_write_fails_any_socket` / `send_at_dead_write_fails`: the application's send methods
      (`TransportFail` reaches the caller; nothing is written).
    * `close_at_dead_write_any_socket` / `close_at_dead_write`: `close()` (and the loop's echo of a server Close) in the
      same situation: the `TransportFail` is swallowed (recorded in the result, the call runs on to its normal end without
      taking an alternative continuation), nothing is written (the wire is frozen), and — repaired variant `closeAtomic`,
      for which `C12Fail.close_always_ends_closing` holds — the connection is closing or closed once it has returned.
-/
import Lomond.Proofs.ThreadsNK
import Lomond.Proofs.ThreadsDead2

namespace Lomond.C11Dead2
open Lomond Lomond.Threads

/-- **No frame is torn by the shut**, general socket, from the connected state or from the state without a socket: in every
    reachable state in which the socket is shut the wire is a concatenation of groups, each a WHOLE frame or the torn head
    of a frame whose `sendall` the ENVIRONMENT made fail. -/
theorem shut_between_frames_any_socket_before_connect (env : Env) (v : Variant) (cfg : Cfg) (progs : Tid → List Call)
    (sched : List Tid) (s₁ : State) (h₁ : s₁ = init progs ∨ s₁ = initPre progs) :
    let s := runN env v cfg s₁ sched
    s.sh.sockShut = true →
      ∃ gs : List Group, (∀ g ∈ gs, g.whole env ∨ g.torn env) ∧ s.sh.wire = flat gs := by
  intro s hs
  obtain ⟨gs, S⟩ := shape_reach env v cfg (fresh_of_start h₁).1 sched
  exact ⟨gs, S.ok, shape_shut_flat S hs⟩

/-- **The exact result of a call caught at its write by the shut.**  General socket `env`, start state `init` or
    `initPre`.  After `pre` the socket is shut and thread `t`'s call in progress `c` (call number `c.idx`, any call but the
    loop's `.connect`) has `write1` as its next step (it holds the lock and has passed `_check_writable`).  Whatever `post`
    is: when that call has returned, its recorded result is exactly `wrote = false`, `err = some .transport`,
    `alt = false`. -/
theorem call_at_dead_write_result_any_socket (env : Env) (v : Variant) (cfg : Cfg) (progs : Tid → List Call)
    (pre post : List Tid) (s₁ : State) (h₁ : s₁ = init progs ∨ s₁ = initPre progs) (t : Tid) (c : Cur) (f : FrameSrc)
    (r : List Step) (call : Call) (res : Result) :
    let s₀ := runN env v cfg s₁ pre
    let s := runN env v cfg s₀ post
    s₀.sh.sockShut = true → (s₀.th t).current v cfg = some c → c.rest = .write1 f :: r →
    (progs t)[c.idx]? = some call → call ≠ .connect → (s.th t).results[c.idx]? = some res →
      res = ⟨false, some .transport, false⟩ := by
  intro s₀ s hs hc hr hcall hne hres
  obtain ⟨F, hp₁⟩ := fresh_of_start h₁
  have B₀ : BaseN v cfg s₀ := baseN_run env v cfg _ pre (baseN_fresh v cfg F)
  have hcall₀ : (s₀.th t).prog[c.idx]? = some call := by rw [runN_prog, hp₁]; exact hcall
  have D := doomed_runN env v cfg s₀ post t c.idx call B₀ hs hcall₀ hne (.atWrite c f r hc rfl hr)
  exact doomed_result (baseN_run env v cfg _ post B₀).M D res hres

/-- **A send caught at its write by the shut raises `TransportFail` and writes nothing** (general socket): thread `t`'s
    current call is `send_text / send_binary / send_ping / send_pong`, its next step is `write1`, the socket is shut; for
    every continuation `post` of the schedule, the result recorded when the call returns is
    `⟨wrote := false, err := some .transport, alt := false⟩`. -/
theorem send_at_dead_write_fails_any_socket (env : Env) (v : Variant) (cfg : Cfg) (progs : Tid → List Call)
    (pre post : List Tid) (s₁ : State) (h₁ : s₁ = init progs ∨ s₁ = initPre progs) (t : Tid) (c : Cur) (f : FrameSrc)
    (r : List Step) (call : Call) (res : Result) :
    let s₀ := runN env v cfg s₁ pre
    let s := runN env v cfg s₀ post
    s₀.sh.sockShut = true → (s₀.th t).current v cfg = some c → c.rest = .write1 f :: r →
    (progs t)[c.idx]? = some call → call.isSend = true → (s.th t).results[c.idx]? = some res →
      res = ⟨false, some .transport, false⟩ := by
  intro s₀ s hs hc hr hcall hsend hres
  exact call_at_dead_write_result_any_socket env v cfg progs pre post s₁ h₁ t c f r call res hs hc hr hcall
    (by intro e; subst e; cases hsend) hres

/-- the two-chunk socket of `C11.lean` / `C12.lean` / `C13_Threads.lean` (`run`) -/
theorem send_at_dead_write_fails (v : Variant) (cfg : Cfg) (progs : Tid → List Call)
    (pre post : List Tid) (s₁ : State) (h₁ : s₁ = init progs ∨ s₁ = initPre progs) (t : Tid) (c : Cur) (f : FrameSrc)
    (r : List Step) (call : Call) (res : Result) :
    let s₀ := run v cfg s₁ pre
    let s := run v cfg s₀ post
    s₀.sh.sockShut = true → (s₀.th t).current v cfg = some c → c.rest = .write1 f :: r →
    (progs t)[c.idx]? = some call → call.isSend = true → (s.th t).results[c.idx]? = some res →
      res = ⟨false, some .transport, false⟩ := by
  simp only [← runN_default]
  exact send_at_dead_write_fails_any_socket Env.two v cfg progs pre post s₁ h₁ t c f r call res

/-- **`close()` at its write step when the socket is shut** (general socket; `call` = the application's `close()` or the
    loop's echo of a server Close): for every continuation `post`, once the call has returned
      * its `TransportFail` was SWALLOWED: it is recorded (`err = some .transport`, `wrote = false`) and the call ran on to
        its normal end (`alt = false`; the thread goes on with its next call);
      * NOTHING was written: the wire is what it was when the socket was shut, and the socket is still shut;
      * repaired variant `closeAtomic`: the connection is closing or closed.
    (Pinned variant: `closing = True` is stored by the call as well, but the loop's `on_disconnect` stores
    `closing = False` BEFORE `closed = True`, so "closing or closed" is not a state invariant there — finding D8.) -/
theorem close_at_dead_write_any_socket (env : Env) (v : Variant) (cfg : Cfg) (progs : Tid → List Call)
    (pre post : List Tid) (s₁ : State) (h₁ : s₁ = init progs ∨ s₁ = initPre progs) (t : Tid) (c : Cur) (f : FrameSrc)
    (r : List Step) (call : Call) (res : Result) :
    let s₀ := runN env v cfg s₁ pre
    let s := runN env v cfg s₀ post
    s₀.sh.sockShut = true → (s₀.th t).current v cfg = some c → c.rest = .write1 f :: r →
    (progs t)[c.idx]? = some call → call.isClose = true → (s.th t).results[c.idx]? = some res →
      res = ⟨false, some .transport, false⟩ ∧ s.sh.wire = s₀.sh.wire ∧ s.sh.sockShut = true ∧
      (v.closeAtomic = true → s.sh.closing = true ∨ s.sh.closed = true) := by
  intro s₀ s hs hc hr hcall hcl hres
  refine ⟨call_at_dead_write_result_any_socket env v cfg progs pre post s₁ h₁ t c f r call res hs hc hr hcall
    (by intro e; subst e; cases hcl) hres, (runN_shut env v cfg s₀ post hs).1, (runN_shut env v cfg s₀ post hs).2, ?_⟩
  intro hv
  have e : s = runN env v cfg s₁ (pre ++ post) := by simp [s, s₀, runN, List.foldl_append]
  obtain ⟨F, hp₁⟩ := fresh_of_start h₁
  have K : KInv v cfg s := e ▸ (closeN_reach env v cfg F hv (pre ++ post)).2.2
  exact K.kres t c.idx res call hres (by rw [runN_prog, runN_prog, hp₁]; exact hcall) hcl

/-- the two-chunk socket (`run`) -/
theorem close_at_dead_write (v : Variant) (cfg : Cfg) (progs : Tid → List Call)
    (pre post : List Tid) (s₁ : State) (h₁ : s₁ = init progs ∨ s₁ = initPre progs) (t : Tid) (c : Cur) (f : FrameSrc)
    (r : List Step) (call : Call) (res : Result) :
    let s₀ := run v cfg s₁ pre
    let s := run v cfg s₀ post
    s₀.sh.sockShut = true → (s₀.th t).current v cfg = some c → c.rest = .write1 f :: r →
    (progs t)[c.idx]? = some call → call.isClose = true → (s.th t).results[c.idx]? = some res →
      res = ⟨false, some .transport, false⟩ ∧ s.sh.wire = s₀.sh.wire ∧ s.sh.sockShut = true ∧
      (v.closeAtomic = true → s.sh.closing = true ∨ s.sh.closed = true) := by
  simp only [← runN_default]
  exact close_at_dead_write_any_socket Env.two v cfg progs pre post s₁ h₁ t c f r call res

/-! ### non-vacuity -/

def ca : Variant := { closeAtomic := true, compressUnderLock := true }
def txt : Bytes := [104, 105]
def sendAb : Tid → List Call := progsOf [[.sendText txt false], [.abandon]]
def closeAb : Tid → List Call := progsOf [[.close (some 1000) []], [.abandon]]
/-- the loop: `rd:sock`, `acq`, `sockclose`, `rel` — the socket is shut, `_sock` still set, flags off, lock free -/
def loopShuts : List Tid := [1, 1, 1, 1]

/-- `shut_between_frames_any_socket_before_connect` from `initPre`, with something on the wire: the loop connects (14
    entries: the request stands on the wire), the sender's `sendall` is made to fail after one chunk (7 entries: a torn
    frame), the loop abandons (9 entries): socket shut, three chunks = one whole frame and one torn head -/
def envTorn : Env := { failAt := fun t i => if t = 0 ∧ i = 0 then some 1 else none }
def sendCnAb : Tid → List Call := progsOf [[.sendText txt false], [.connect, .abandon]]

example : let s := runN envTorn ca {} (initPre sendCnAb) (List.replicate 14 1 ++ List.replicate 7 0 ++ List.replicate 9 1)
    s.sh.sockShut = true ∧ s.sh.wire.map (fun x => (x.tid, x.second)) = [(1, false), (1, true), (0, false)] ∧
    (s.th 0).results = [⟨false, some .transport, false⟩] := by
  decide +kernel

/-- hypotheses of `send_at_dead_write_fails` (`pre = loopShuts ++ [0, 0, 0, 0]`, `t = 0`): the sender stands at `write1`
    on the shut socket, holding the lock; and its conclusion after `post` -/
example : let s₀ := run ca {} (init sendAb) (loopShuts ++ [0, 0, 0, 0])
    let s := run ca {} s₀ ([0, 0] ++ List.replicate 8 1)
    s₀.sh.sockShut = true ∧
    ((s₀.th 0).current ca {}).map (fun c => (c.idx, c.rest)) =
      some (0, [.write1 ⟨1, .lit txt⟩, .write2 ⟨1, .lit txt⟩, .release]) ∧
    (sendAb 0)[0]? = some (.sendText txt false) ∧
    (s.th 0).results[0]? = some ⟨false, some .transport, false⟩ := by
  decide +kernel

/-- the pinned variant and a 3-chunk socket -/
example : let s₀ := runN { more := fun _ _ => 2 } {} {} (init sendAb) (loopShuts ++ [0, 0, 0, 0])
    let s := runN { more := fun _ _ => 2 } {} {} s₀ ([0, 0] ++ List.replicate 8 1)
    s₀.sh.sockShut = true ∧
    ((s₀.th 0).current {} {}).map (fun c => (c.idx, c.rest)) =
      some (0, [.write1 ⟨1, .lit txt⟩, .write2 ⟨1, .lit txt⟩, .release]) ∧
    (s.th 0).results[0]? = some ⟨false, some .transport, false⟩ := by
  decide +kernel

/-- hypotheses and conclusion of `close_at_dead_write`: `close()` has taken the lock and passed the state checks when it finds
    the socket shut; it returns normally, nothing on the wire, `closed = True` at the end -/
example : let s₀ := run ca {} (init closeAb) (loopShuts ++ List.replicate 6 0)
    let s := run ca {} s₀ (List.replicate 4 0 ++ List.replicate 8 1)
    s₀.sh.sockShut = true ∧
    ((s₀.th 0).current ca {}).map (fun c => (c.idx, c.rest.take 1)) =
      some (0, [.write1 ⟨8, .lit (buildClosePayload (some 1000) [])⟩]) ∧
    (closeAb 0)[0]? = some (.close (some 1000) []) ∧
    (s.th 0).results[0]? = some ⟨false, some .transport, false⟩ ∧ s.sh.wire = [] ∧
    (s.sh.closing = true ∨ s.sh.closed = true) ∧ (s.th 0).current ca {} = none := by
  decide +kernel

/-- right after `close()` has returned (the loop has not yet stored its flags): `closing = True` -/
example : let s := run ca {} (init closeAb) (loopShuts ++ List.replicate 6 0 ++ List.replicate 4 0)
    (s.th 0).results[0]? = some ⟨false, some .transport, false⟩ ∧ s.sh.closing = true ∧ s.sh.closed = false := by
  decide +kernel

end Lomond.C11Dead2
