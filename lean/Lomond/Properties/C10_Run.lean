/-
  C10 companion — the handshake at the level of whole connections (`runAll`, i.e. `session.run()` from
  `Connecting` to the end of the iterator).

  `Properties/C10.lean` §8 states the consequences of not being granted Ready for one call of
  `WebSocket.feed` (`wsFeed`).  Here they are composed through `run()`: the connection phase, the receive
  loop `loop`, the `except` / `else` / `finally` clauses, and `runAll`.

  Setting (`HRun`, `Proofs/HandshakeRun.lean`):

  * `E2E.Setup cfg react proxy`: `_connect()` returns a socket, the first `sendall` (the upgrade request) succeeds,
    `poll > 0`, and the application `react` — an arbitrary function of the event history — reacts to events by
    *sending* (text, binary, ping, pong; any arguments, valid or not).  An application that closes the websocket,
    drops the socket or leaves the iterator before the reply has arrived changes the outcome by itself (no reply is
    read at all); those are excluded here and covered by C07/C13.
  * the script is `steps ++ rest`: `steps` are *quiet* — each is `selector.wait` returning after any number of ticks
    with nothing to read, or with a non-empty read — so the reply may be cut anywhere (also inside the terminator,
    also byte by byte), with any silence before, between and after the pieces; `rest` is arbitrary.
  * `dataOf steps` are the bytes delivered; the *block* is its prefix up to and including the first `CR LF CR LF`.

  Both comparisons of `Sec-WebSocket-Accept` are covered: everything is stated for `cfg.v.strictAccept` arbitrary.

  What the code does after a refused handshake (and what is proved): `Rejected(reason)` is yielded *after*
  `on_disconnect()` has closed the session's socket; no Close frame — nothing at all — is written; the websocket is
  closed, so `while not websocket.is_closed` ends the loop through the `else:` clause and the final event is
  `Disconnected('closed', graceful=True)`.  (The loop is left "gracefully" although the handshake failed: that is the
  behaviour of the code, stated as it is.)  For an oversize header block the `except` clauses of `WebSocket.feed`
  yield one critical `ProtocolError('expected separator')` and raise `_ForceDisconnect`; `run()` closes the socket
  and yields `Disconnected('forced', graceful=False)`.
-/
import Lomond.Properties.C10_Wire2
import Lomond.Properties.C07
import Lomond.Proofs.HandshakeRunG

namespace Lomond.C10Run
open Lomond Lomond.Http Lomond.Handshake Lomond.Spec Lomond.Core Lomond.Core.E2E Lomond.Core.HRun
open Lomond.C10 Lomond.C10Digest Lomond.C07

theorem eventsOf_eq (cfg : Cfg) (react : React) (env : List EnvStep) :
    eventsOf cfg react env = (hist (runAll cfg react env).trace).reverse := events_eq_hist _

/-! ## 1. a good reply: Ready, once, directly after Connected, reporting what was negotiated -/

/-- **C10_run_ready**.  The block fits the limit and `on_response` accepts it (with result `acc`).  Then the events of
    the whole connection are `Connecting, Connected, Ready(acc.protocol, acc has permessage-deflate), Poll, …`:
    Ready is the third event, directly after Connected (so before any message event), it occurs exactly once, and it
    reports the reply's `Sec-WebSocket-Protocol` value and whether the reply's extension list negotiated
    permessage-deflate. -/
theorem C10_run_ready {cfg : Cfg} {react : React} {proxy : Bool} (hs : Setup cfg react proxy)
    (steps rest : List EnvStep) (hq : ∀ st ∈ steps, Quiet st) (i : Nat) (acc : Accepted)
    (hsep : findSep Gen.headerSep (dataOf steps) = some i) (hlen : i + 4 ≤ 16384)
    (hok : onResponse cfg.v.strictAccept cfg.challenge (parseResponse (blockOf (dataOf steps) i)) = .ok acc) :
    (∃ tail, eventsOf cfg react (steps ++ rest) =
        .connecting :: .connected proxy :: .ready acc.protocol acc.deflate.isSome :: .poll :: tail ∧
      (∀ x d, Event.ready x d ∉ tail) ∧ (∀ r, Event.rejected r ∉ tail)) ∧
    acc.protocol = (parseResponse (blockOf (dataOf steps) i)).get hProto ∧
    (acc.deflate.isSome = true ↔
      ∃ e ∈ (parseResponse (blockOf (dataOf steps) i)).getList hExt, (parseExtension e).1 = pmd) := by
  obtain ⟨L, T0, hL, hT0⟩ := run_ready hs steps rest hq i acc hsep hlen hok
  obtain ⟨hp, _, hd⟩ := C10_ready_reports _ _ _ acc hok
  refine ⟨?_, hp, hd⟩
  have hev : eventsOf cfg react (steps ++ rest) =
      [.connecting, .connected proxy] ++ .ready acc.protocol acc.deflate.isSome :: (.poll :: (hist L).reverse) := by
    rw [eventsOf_eq, hL, hist_append, hT0]; simp
  refine ⟨(hist L).reverse, by rw [hev]; rfl, ?_, ?_⟩
  · intro x d
    exact (ready_at_most_once cfg react (steps ++ rest) _ _ _ _ hev).2.2 x d ∘ (List.mem_cons_of_mem _)
  · -- after Ready the monitor is in phase `ready`, where `Rejected` is not an event
    intro r hr
    obtain ⟨ph, hacc⟩ := monitor cfg react (steps ++ rest)
    rw [hev] at hacc
    exact Monitor.Mon.no_rejected_after_ready hacc r (List.mem_cons_of_mem _ hr)

/-! ## 2. a refused reply: Rejected, nothing written, socket closed, no Ready, no message -/

/-- **C10_run_rejected**.  The block fits the limit and `on_response` refuses it with `reason`.  Then
    * the events of the whole connection are exactly `Connecting, Connected, Rejected(reason),
      Disconnected('closed', graceful=True)` — no Ready, no message event, no ProtocolError;
    * the whole trace is: the start of the connection (`StartTrace`: Connecting, the request, Connected, the
      application's own reaction to these), then only clock ticks while the block was incomplete, the socket being
      closed, `Rejected`, *results* of whatever the application calls in reaction (every send fails: no byte is
      written), `Disconnected`, again results only, and the selector being closed — in particular the library writes
      nothing after the request: no Close frame, no Pong, nothing (`isWrite`), and the socket is closed exactly once,
      *before* `Rejected` is yielded;
    * at the end socket and selector are closed and the session never became ready;
    * `rest` — whatever the server sends or the transport does afterwards — is never consulted. -/
theorem C10_run_rejected {cfg : Cfg} {react : React} {proxy : Bool} (hs : Setup cfg react proxy)
    (steps rest : List EnvStep) (hq : ∀ st ∈ steps, Quiet st) (i : Nat) (reason : Str)
    (hsep : findSep Gen.headerSep (dataOf steps) = some i) (hlen : i + 4 ≤ 16384)
    (herr : onResponse cfg.v.strictAccept cfg.challenge (parseResponse (blockOf (dataOf steps) i)) = .error reason) :
    eventsOf cfg react (steps ++ rest) =
      [.connecting, .connected proxy, .rejected reason, .disconnected "closed" true] ∧
    (∃ start ticks l post,
      (runAll cfg react (steps ++ rest)).trace = post ++ l ++ .ev (.rejected reason) :: .sockClose :: (ticks ++ start) ∧
      StartTrace cfg proxy start ∧ (∀ o ∈ ticks, isTick o = true) ∧ (∀ o ∈ l, Obs.isRes o = true) ∧
      (∀ o ∈ post, o = .ev (.disconnected "closed" true) ∨ o = .selClose ∨ Obs.isRes o = true) ∧
      (∀ o ∈ post ++ l ++ .ev (.rejected reason) :: .sockClose :: ticks, isWrite o = false)) ∧
    (runAll cfg react (steps ++ rest)).sockOpen = false ∧ (runAll cfg react (steps ++ rest)).selOpen = false ∧
    (runAll cfg react (steps ++ rest)).ready = false := by
  obtain ⟨start, ticks, l, post, ht, hst, ntk, nl, hhp, np, nsc, so, se, rd⟩ :=
    run_rejected hs steps rest hq i reason hsep hlen herr
  refine ⟨?_, ⟨start, ticks, l, post, ht, hst, ntk, nl, ?_, ?_⟩, so, se, rd⟩
  · rw [eventsOf_eq, ht, hist_append, hist_append, hhp, hist_nonEv l (res_nonEv l nl), hist_cons_ev,
      hist_cons_nonEv _ _ rfl, hist_append, hist_nonEv ticks (tick_hist_nonEv ticks ntk), hst.hist]
    rfl
  · intro o ho
    rcases np o ho with h | h | h | h
    · exact Or.inl h
    · exact absurd h (nsc o ho)
    · exact Or.inr (Or.inl h)
    · exact Or.inr (Or.inr h)
  · intro o ho
    simp only [List.mem_append, List.mem_cons] at ho
    rcases ho with (ho | ho) | ho | ho | ho
    · exact tailObs_not_write (np o ho)
    · exact res_not_write (nl o ho)
    · rw [ho]; rfl
    · rw [ho]; rfl
    · exact tick_not_write (ntk o ho)

/-! ## 3. an oversize header block: ProtocolError, forced disconnect -/

/-- **C10_run_oversize**.  The header material exceeds 16384 bytes: the bytes delivered contain no terminator and are
    longer than the limit, or their first terminator ends beyond it (whatever the cut: the error is raised at the
    first read that takes the buffered material over the limit).  Then the events are exactly `Connecting, Connected,
    ProtocolError('expected separator', critical), Disconnected('forced', graceful=False)`; the library writes nothing
    (the application may: the socket is still open while it handles the ProtocolError — `l` is its reaction and
    contains no event); socket and selector end closed; the session never became ready. -/
theorem C10_run_oversize {cfg : Cfg} {react : React} {proxy : Bool} (hs : Setup cfg react proxy)
    (steps rest : List EnvStep) (hq : ∀ st ∈ steps, Quiet st)
    (hbig : (findSep Gen.headerSep (dataOf steps) = none ∧ (dataOf steps).length > 16384) ∨
            (∃ i, findSep Gen.headerSep (dataOf steps) = some i ∧ i + 4 > 16384)) :
    eventsOf cfg react (steps ++ rest) =
      [.connecting, .connected proxy, .protocolError "expected separator" true, .disconnected "forced" false] ∧
    (∃ start ticks l post,
      (runAll cfg react (steps ++ rest)).trace =
        post ++ l ++ .ev (.protocolError "expected separator" true) :: (ticks ++ start) ∧
      StartTrace cfg proxy start ∧ (∀ o ∈ ticks, isTick o = true) ∧ (∀ o ∈ l, Obs.isEv o = false) ∧
      (∀ o ∈ post, o = .ev (.disconnected "forced" false) ∨ o = .sockClose ∨ o = .selClose ∨ Obs.isRes o = true)) ∧
    (runAll cfg react (steps ++ rest)).sockOpen = false ∧ (runAll cfg react (steps ++ rest)).selOpen = false ∧
    (runAll cfg react (steps ++ rest)).ready = false := by
  obtain ⟨start, ticks, l, post, ht, hst, ntk, nl, hhp, np, so, se, rd⟩ := run_oversize hs steps rest hq hbig
  refine ⟨?_, ⟨start, ticks, l, post, ht, hst, ntk, nl, np⟩, so, se, rd⟩
  rw [eventsOf_eq, ht, hist_append, hist_append, hhp, hist_nonEv l nl, hist_cons_ev, hist_append,
    hist_nonEv ticks (tick_hist_nonEv ticks ntk), hst.hist]
  rfl

/-! ## 4. the iff at run level -/

/-- a Ready event occurs in the list -/
def HasReady (evs : List Event) : Prop := ∃ x d, Event.ready x d ∈ evs

/-- **C10_run_ready_iff** (both comparisons: `cfg.v.strictAccept` is arbitrary).  For a block within the limit:
    a `Ready` event occurs among the events of the whole connection **iff** `on_response` accepts the block, i.e.
    (`C10_ready_iff_variant`) iff the status is 101, the Upgrade header reads `websocket`, the accept header is the
    expected value (compared as the variant says) and the extension parameters are acceptable. -/
theorem C10_run_ready_iff {cfg : Cfg} {react : React} {proxy : Bool} (hs : Setup cfg react proxy)
    (steps rest : List EnvStep) (hq : ∀ st ∈ steps, Quiet st) (i : Nat)
    (hsep : findSep Gen.headerSep (dataOf steps) = some i) (hlen : i + 4 ≤ 16384) :
    HasReady (eventsOf cfg react (steps ++ rest)) ↔
      Ready cfg.v.strictAccept cfg.challenge (parseResponse (blockOf (dataOf steps) i)) := by
  constructor
  · rintro ⟨x, d, hm⟩
    cases hr : onResponse cfg.v.strictAccept cfg.challenge (parseResponse (blockOf (dataOf steps) i)) with
    | ok acc => exact ⟨acc, hr⟩
    | error reason =>
      rw [(C10_run_rejected hs steps rest hq i reason hsep hlen hr).1] at hm
      simp at hm
  · rintro ⟨acc, hok⟩
    obtain ⟨⟨tail, hev, _⟩, _⟩ := C10_run_ready hs steps rest hq i acc hsep hlen hok
    exact ⟨acc.protocol, acc.deflate.isSome, by rw [hev]; simp⟩

/-- … and when no Ready is granted there is no message event either (for a block within the limit and for an
    oversize one alike): the events are the four listed in `C10_run_rejected` / `C10_run_oversize` -/
theorem C10_run_no_messages_without_ready {cfg : Cfg} {react : React} {proxy : Bool} (hs : Setup cfg react proxy)
    (steps rest : List EnvStep) (hq : ∀ st ∈ steps, Quiet st)
    (hhit : findSep Gen.headerSep (dataOf steps) ≠ none ∨ (dataOf steps).length > 16384)
    (hno : ¬ HasReady (eventsOf cfg react (steps ++ rest))) :
    (∀ e ∈ eventsOf cfg react (steps ++ rest), Monitor.Event.needsReady e = false) ∧
    (runAll cfg react (steps ++ rest)).sockOpen = false ∧
    ∃ e k g, eventsOf cfg react (steps ++ rest) = [.connecting, .connected proxy, e, .disconnected k g] ∧
      ((∃ r, e = .rejected r) ∨ e = .protocolError "expected separator" true) := by
  cases hf : findSep Gen.headerSep (dataOf steps) with
  | none =>
    have hl : (dataOf steps).length > 16384 := by
      rcases hhit with h | h
      · exact absurd hf h
      · exact h
    obtain ⟨hev, _, so, _⟩ := C10_run_oversize hs steps rest hq (Or.inl ⟨hf, hl⟩)
    refine ⟨by rw [hev]; exact four_noMsg _ _ _ _ rfl rfl rfl rfl, so, _, _, _, hev, Or.inr rfl⟩
  | some i =>
    by_cases hlen : i + 4 ≤ 16384
    · cases hr : onResponse cfg.v.strictAccept cfg.challenge (parseResponse (blockOf (dataOf steps) i)) with
      | ok acc => exact absurd ((C10_run_ready_iff hs steps rest hq i hf hlen).mpr ⟨acc, hr⟩) hno
      | error reason =>
        obtain ⟨hev, _, so, _⟩ := C10_run_rejected hs steps rest hq i reason hf hlen hr
        exact ⟨by rw [hev]; exact four_noMsg _ _ _ _ rfl rfl rfl rfl, so, _, _, _, hev, Or.inl ⟨reason, rfl⟩⟩
    · obtain ⟨hev, _, so, _⟩ := C10_run_oversize hs steps rest hq (Or.inr ⟨i, hf, by omega⟩)
      refine ⟨by rw [hev]; exact four_noMsg _ _ _ _ rfl rfl rfl rfl, so, _, _, _, hev, Or.inr rfl⟩

/-! ## 5. … for the key of the request that was written -/

/-- **C10_run_ready_iff_digest**.  The configuration is that of the `n`-th connection attempt of a client built from URL
    components (`Client.attemptCfg`: request and expected accept value both come from the key in the object's
    state).  Then the request `run()` writes (`StartTrace`: the first and only library write) carries the key
    `keyOfRequest cfg.request`, read back by an independent RFC 7230 reader, and a `Ready` event occurs in the whole
    connection **iff** the block is a 101 reply whose Upgrade header reads `websocket`, whose Sec-WebSocket-Accept is
    `b64encode(sha1(key ++ GUID))` of *that* key (repaired comparison: equal; pinned comparison: equal up to letter
    case, finding D5) and whose extension parameters are acceptable. -/
theorem C10_run_ready_iff_digest (cl : Client) (rnd : Nat → Bytes) (n : Nat) (base : Cfg) {react : React} {proxy : Bool}
    (hs : Setup (cl.attemptCfg rnd n base) react proxy)
    (hhost : Solid cl.url.host) (hpath : Solid cl.url.path) (hquery : Solid cl.url.query)
    (hagent : ValueOk cl.agent) (hprotos : ∀ p ∈ cl.protocols, p ≠ [] ∧ Solid p)
    (hcustom : ∀ p ∈ cl.customHeaders, NameOk p.1 ∧ ValueOk p.2)
    (steps rest : List EnvStep) (hq : ∀ st ∈ steps, Quiet st) (i : Nat)
    (hsep : findSep Gen.headerSep (dataOf steps) = some i) (hlen : i + 4 ≤ 16384) :
    let cfg := cl.attemptCfg rnd n base
    let r := parseResponse (blockOf (dataOf steps) i)
    let digest := acceptFor (keyOfRequest cfg.request)
    keyOfRequest cfg.request = b64encode (rnd n) ∧
    (HasReady (eventsOf cfg react (steps ++ rest)) ↔
      (r.statusCode = some (false, 101) ∧
       (∃ u, r.get hUpgrade = some u ∧ lower u = websocket) ∧
       (∃ acc, r.get hAccept = some acc ∧ (if base.v.strictAccept then acc = digest else lower acc = lower digest)) ∧
       extsOk (r.getList hExt))) := by
  intro cfg r digest
  have hk : keyOfRequest cfg.request = b64encode (rnd n) := keyOfRequest_nth cl rnd n hhost hpath hquery hagent hprotos hcustom
  refine ⟨hk, ?_⟩
  have hc : cfg.challenge = digest := by
    show nthChallenge rnd n = acceptFor (keyOfRequest cfg.request)
    rw [hk, nthChallenge_eq]
  have hv : cfg.v = base.v := rfl
  rw [C10_run_ready_iff hs steps rest hq i hsep hlen, hc, hv]
  exact C10_ready_iff_variant base.v.strictAccept digest r

/-! ## 6. bytes to events: every rendering with repeated names and folds, any segmentation, any timing -/

/-- **C10_run_ready_iff_wire** (both comparisons).  The server answers with *any* rendering of a status line
    `HTTP-version SP 3DIGIT SP reason` and a list of header fields — any order, any letter case of the names, blanks,
    any number of continuation lines in any value, names repeated at will — of at most 16384 bytes, followed by
    anything (`stream`); the bytes arrive in any quiet script (any segmentation, any silence), followed by anything
    (`rest`).  Then a `Ready` event occurs in the whole connection **iff** the digits are `101`, *exactly one* field
    is called `upgrade` and reads `websocket` (any letter case), *exactly one* field is called
    `sec-websocket-accept` and carries the expected value (`cfg.challenge`, free of commas; compared as
    `cfg.v.strictAccept` says), and the combined extension list is acceptable. -/
theorem C10_run_ready_iff_wire {cfg : Cfg} {react : React} {proxy : Bool} (hs : Setup cfg react proxy)
    (ver reason : Bytes) (a b c : Nat) (fs : List FField)
    (hver : ver ≠ [] ∧ ∀ x ∈ ver, isBytesSpace x = false) (hreason : ∀ x ∈ reason, x ≠ 13)
    (hdig : isDigit a = true ∧ isDigit b = true ∧ isDigit c = true)
    (hok : ∀ f ∈ fs, f.ok = true) (hch : 44 ∉ cfg.challenge)
    (steps rest : List EnvStep) (hq : ∀ st ∈ steps, Quiet st) (stream : Bytes)
    (hdata : dataOf steps = renderReply2 (statusLine ver [a, b, c] reason) fs ++ stream)
    (hlen : (renderReply2 (statusLine ver [a, b, c] reason) fs).length ≤ 16384) :
    HasReady (eventsOf cfg react (steps ++ rest)) ↔
      ([a, b, c] = [49, 48, 49] ∧
       (∃ f, fieldsNamed fs hUpgrade = [f] ∧ lower f.value = websocket) ∧
       (∃ g, fieldsNamed fs hAccept = [g] ∧
          (if cfg.v.strictAccept then g.value = cfg.challenge else lower g.value = lower cfg.challenge)) ∧
       extsOk (splitList ((combined fs hExt).getD []))) := by
  have hsl := statusLine_no_cr ver reason a b c hver.2 hreason hdig.1 hdig.2.1 hdig.2.2
  obtain ⟨i, h1, h2, h3⟩ := blockOf_render _ fs hsl (fun f hf => fOk_of_ok f (hok f hf)) stream
  rw [← hdata] at h1 h3
  rw [C10_run_ready_iff hs steps rest hq i h1 (by omega), h3]
  exact C10Wire2.C10_ready_iff_wire_dup cfg.v.strictAccept cfg.challenge ver reason a b c fs hver hreason hdig hok hch

/-- … with the digest of the attempt's key as the expected value -/
theorem C10_run_ready_iff_wire_digest (cl : Client) (rnd : Nat → Bytes) (n : Nat) (base : Cfg) {react : React} {proxy : Bool}
    (hs : Setup (cl.attemptCfg rnd n base) react proxy)
    (ver reason : Bytes) (a b c : Nat) (fs : List FField)
    (hver : ver ≠ [] ∧ ∀ x ∈ ver, isBytesSpace x = false) (hreason : ∀ x ∈ reason, x ≠ 13)
    (hdig : isDigit a = true ∧ isDigit b = true ∧ isDigit c = true)
    (hok : ∀ f ∈ fs, f.ok = true)
    (steps rest : List EnvStep) (hq : ∀ st ∈ steps, Quiet st) (stream : Bytes)
    (hdata : dataOf steps = renderReply2 (statusLine ver [a, b, c] reason) fs ++ stream)
    (hlen : (renderReply2 (statusLine ver [a, b, c] reason) fs).length ≤ 16384) :
    HasReady (eventsOf (cl.attemptCfg rnd n base) react (steps ++ rest)) ↔
      ([a, b, c] = [49, 48, 49] ∧
       (∃ f, fieldsNamed fs hUpgrade = [f] ∧ lower f.value = websocket) ∧
       (∃ g, fieldsNamed fs hAccept = [g] ∧
          (if base.v.strictAccept then g.value = acceptFor (b64encode (rnd n))
           else lower g.value = lower (acceptFor (b64encode (rnd n))))) ∧
       extsOk (splitList ((combined fs hExt).getD []))) := by
  have hc : (cl.attemptCfg rnd n base).challenge = acceptFor (b64encode (rnd n)) := nthChallenge_eq rnd n
  have h := C10_run_ready_iff_wire hs ver reason a b c fs hver hreason hdig hok
    (by rw [hc]; exact acceptFor_no_comma _) steps rest hq stream hdata hlen
  rw [hc] at h
  exact h

/-! ## 7. applications that are arbitrary once the reply is decided

  §1–§6 assume an application that only sends (`Setup`).  What the *handshake* needs from the application is
  less: that it does not close the websocket, drop the socket or leave the iterator in reaction to `Connecting` or
  `Connected` — before anything has been read (`QuietStart`).  In reaction to `Ready`, `Rejected`, `ProtocolError`,
  `Disconnected` and everything later it may do anything (close, `session.close()`, abandon the iterator, with or
  without a `with` block).  `poll` may be 0. -/

/-- **C10_run_ready_any_app**: a good block ⇒ the events are `Connecting, Connected, Ready(…), …`, Ready exactly once,
    no `Rejected` — even if the application abandons the iterator while handling that very `Ready`. -/
theorem C10_run_ready_any_app {cfg : Cfg} {react : React} {proxy : Bool}
    (hc : cfg.connect = .ok proxy) (hw : cfg.writeFails 0 = false) (hqs : QuietStart react proxy)
    (steps rest : List EnvStep) (hq : ∀ st ∈ steps, Quiet st) (i : Nat) (acc : Accepted)
    (hsep : findSep Gen.headerSep (dataOf steps) = some i) (hlen : i + 4 ≤ 16384)
    (hok : onResponse cfg.v.strictAccept cfg.challenge (parseResponse (blockOf (dataOf steps) i)) = .ok acc) :
    ∃ tail, eventsOf cfg react (steps ++ rest) =
        .connecting :: .connected proxy :: .ready acc.protocol acc.deflate.isSome :: tail ∧
      (∀ x d, Event.ready x d ∉ tail) ∧ (∀ r, Event.rejected r ∉ tail) := by
  obtain ⟨L, T0, hL, hT0⟩ := run_readyG hc hw hqs steps rest hq i acc hsep hlen hok
  have hev : eventsOf cfg react (steps ++ rest) =
      [.connecting, .connected proxy] ++ .ready acc.protocol acc.deflate.isSome :: (hist L).reverse := by
    rw [eventsOf_eq, hL, hist_append, hT0]; simp
  refine ⟨(hist L).reverse, by rw [hev]; rfl, ?_, ?_⟩
  · exact (ready_at_most_once cfg react (steps ++ rest) _ _ _ _ hev).2.2
  · obtain ⟨ph, hacc⟩ := monitor cfg react (steps ++ rest)
    rw [hev] at hacc
    exact Monitor.Mon.no_rejected_after_ready hacc

/-- **C10_run_rejected_any_app**: a refused block ⇒ the events are `Connecting, Connected, Rejected(reason)` followed by
    at most one `Disconnected` (none if the application left the iterator at `Rejected`); no Ready, no message event;
    socket and selector end closed — whatever the application does in reaction. -/
theorem C10_run_rejected_any_app {cfg : Cfg} {react : React} {proxy : Bool}
    (hc : cfg.connect = .ok proxy) (hw : cfg.writeFails 0 = false) (hqs : QuietStart react proxy)
    (steps rest : List EnvStep) (hq : ∀ st ∈ steps, Quiet st) (i : Nat) (reason : Str)
    (hsep : findSep Gen.headerSep (dataOf steps) = some i) (hlen : i + 4 ≤ 16384)
    (herr : onResponse cfg.v.strictAccept cfg.challenge (parseResponse (blockOf (dataOf steps) i)) = .error reason) :
    (eventsOf cfg react (steps ++ rest) = [.connecting, .connected proxy, .rejected reason] ∨
     ∃ k g, eventsOf cfg react (steps ++ rest) = [.connecting, .connected proxy, .rejected reason, .disconnected k g]) ∧
    (runAll cfg react (steps ++ rest)).sockOpen = false ∧ (runAll cfg react (steps ++ rest)).selOpen = false := by
  obtain ⟨ht, so, se⟩ := run_rejectedG hc hw hqs steps rest hq i reason hsep hlen herr
  refine ⟨?_, so, se⟩
  rcases ht with h | ⟨k, g, h⟩
  · exact Or.inl (by rw [eventsOf_eq, h]; rfl)
  · exact Or.inr ⟨k, g, by rw [eventsOf_eq, h]; rfl⟩

/-- **C10_run_oversize_any_app**: header material beyond 16 KiB ⇒ `Connecting, Connected, ProtocolError('expected
    separator', critical)` followed by at most one `Disconnected`; no Ready, no Rejected, no message event; the
    selector ends closed.  (Whether the *socket* is closed when the application abandons the iterator at that
    ProtocolError is C13's subject: it is, in the repaired `run()`.) -/
theorem C10_run_oversize_any_app {cfg : Cfg} {react : React} {proxy : Bool}
    (hc : cfg.connect = .ok proxy) (hw : cfg.writeFails 0 = false) (hqs : QuietStart react proxy)
    (steps rest : List EnvStep) (hq : ∀ st ∈ steps, Quiet st)
    (hbig : (findSep Gen.headerSep (dataOf steps) = none ∧ (dataOf steps).length > 16384) ∨
            (∃ i, findSep Gen.headerSep (dataOf steps) = some i ∧ i + 4 > 16384)) :
    (eventsOf cfg react (steps ++ rest) = [.connecting, .connected proxy, .protocolError "expected separator" true] ∨
     ∃ k g, eventsOf cfg react (steps ++ rest) =
       [.connecting, .connected proxy, .protocolError "expected separator" true, .disconnected k g]) ∧
    (runAll cfg react (steps ++ rest)).selOpen = false := by
  obtain ⟨ht, se⟩ := run_oversizeG hc hw hqs steps rest hq hbig
  refine ⟨?_, se⟩
  rcases ht with h | ⟨k, g, h⟩
  · exact Or.inl (by rw [eventsOf_eq, h]; rfl)
  · exact Or.inr ⟨k, g, by rw [eventsOf_eq, h]; rfl⟩

/-- **C10_run_ready_iff_any_app** (both comparisons): for every application that only sends until the reply has
    arrived and is arbitrary afterwards, every quiet delivery of a block within the limit, every continuation of the
    script: a `Ready` event occurs **iff** `on_response` accepts the block. -/
theorem C10_run_ready_iff_any_app {cfg : Cfg} {react : React} {proxy : Bool}
    (hc : cfg.connect = .ok proxy) (hw : cfg.writeFails 0 = false) (hqs : QuietStart react proxy)
    (steps rest : List EnvStep) (hq : ∀ st ∈ steps, Quiet st) (i : Nat)
    (hsep : findSep Gen.headerSep (dataOf steps) = some i) (hlen : i + 4 ≤ 16384) :
    HasReady (eventsOf cfg react (steps ++ rest)) ↔
      Ready cfg.v.strictAccept cfg.challenge (parseResponse (blockOf (dataOf steps) i)) := by
  constructor
  · rintro ⟨x, d, hm⟩
    cases hr : onResponse cfg.v.strictAccept cfg.challenge (parseResponse (blockOf (dataOf steps) i)) with
    | ok acc => exact ⟨acc, hr⟩
    | error reason =>
      rcases (C10_run_rejected_any_app hc hw hqs steps rest hq i reason hsep hlen hr).1 with h | ⟨k, g, h⟩ <;>
        (rw [h] at hm; simp at hm)
  · rintro ⟨acc, hok⟩
    obtain ⟨tail, hev, _⟩ := C10_run_ready_any_app hc hw hqs steps rest hq i acc hsep hlen hok
    exact ⟨acc.protocol, acc.deflate.isSome, by rw [hev]; simp⟩

/-! ## Non-vacuity -/

/-- an application that answers every event by sending a Text and a Ping -/
def chatty : React := fun _ => [.sendText (.str [104, 105]) true, .sendPing (.bytes [1])]

theorem chatty_sendOnly : SendOnly chatty := by
  intro h a ha
  simp only [chatty, List.mem_cons, List.not_mem_nil, or_false] at ha
  rcases ha with rfl | rfl <;> rfl

/-- the configuration of the first connection attempt of the sample client, every draw being `the sample nonce` -/
def exCfg : Cfg := sampleClient.attemptCfg sampleRnd 0 {}

/-- the expected accept value, computed once (`sampleDigest_is_digest`) -/
private theorem exCfg_eq : exCfg = { request := nthRequest sampleClient sampleRnd 0, challenge := sampleDigest } := by
  unfold exCfg Client.attemptCfg
  rw [sampleDigest_is_digest.1]

theorem exSetup : Setup exCfg chatty false := ⟨rfl, rfl, by decide, chatty_sendOnly⟩

/-- the good reply of `C10_Wire2` (repeated filler / extension fields, folded values) followed by a Text frame
    `hi`, cut inside a field, inside the terminator and after the first frame byte, with silence in between -/
def exBlock : Bytes := renderReply2 C10Wire2.sl101 C10Wire2.goodDup
def exData : Bytes := exBlock ++ [0x81, 2, 104, 105]
def exSteps : List EnvStep :=
  [.wait 0 none, .wait 2 (some (.data (exData.take 40))), .wait 7 none,
   .wait 0 (some (.data ((exData.drop 40).take (exBlock.length - 42)))),
   .wait 1 (some (.data (exData.drop (exBlock.length - 2))))]

private theorem exBlock_length : exBlock.length = 269 := by decide +kernel
example : ∀ st ∈ exSteps, Quiet st := by
  intro st hst
  simp only [exSteps, exBlock_length, List.mem_cons, List.not_mem_nil, or_false] at hst
  rcases hst with rfl | rfl | rfl | rfl | rfl
  · trivial
  · show _ ≠ []; decide +kernel
  · trivial
  · show _ ≠ []; decide +kernel
  · show _ ≠ []; decide +kernel
example : dataOf exSteps = exData := by decide +kernel
example : exBlock.length = 269 := exBlock_length
example : eventsOf exCfg chatty (exSteps ++ [.wait 1 (some .eof)]) =
    [.connecting, .connected false, .ready none true, .poll, .text [104, 105], .disconnected "connection-lost" false] := by
  rw [exCfg_eq]
  decide +kernel
def exDupBlock : Bytes := renderReply2 C10Wire2.sl101
  [C10Wire2.fAccept sampleDigest, C10Wire2.fUpgrade, C10Wire2.fAccept C10Wire2.otherDigest]
example : eventsOf exCfg chatty [.wait 3 (some (.data (exDupBlock.take 50))), .wait 0 (some (.data (exDupBlock.drop 50)))] =
    [.connecting, .connected false, .rejected (ofString "Sec-WebSocket-Accept challenge failed"),
     .disconnected "closed" true] := by
  rw [exCfg_eq]
  decide +kernel
example (n : Nat) (hn : n > 16384) : eventsOf exCfg chatty ([.wait 0 (some (.data (List.replicate n 120)))] ++ []) =
    [.connecting, .connected false, .protocolError "expected separator" true, .disconnected "forced" false] := by
  have hnone : ∀ n, findSep Gen.headerSep (List.replicate n 120) = none := fun n =>
    findSep_none_of_not_mem 13 [10, 13, 10] _ (fun h => absurd (List.eq_of_mem_replicate h) (by decide))
  have hd : dataOf [.wait 0 (some (.data (List.replicate n 120)))] = List.replicate n 120 := by
    simp [dataOf]
  refine (C10_run_oversize exSetup _ [] ?_ (Or.inl ⟨by rw [hd]; exact hnone _, by rw [hd, List.length_replicate]; exact hn⟩)).1
  intro st hst
  simp only [List.mem_singleton] at hst
  subst hst
  show List.replicate n 120 ≠ []
  intro h0
  have := congrArg List.length h0
  simp at this
  omega

-- an application that leaves the iterator (inside a `with` block) as soon as it sees Ready, and closes the session's
-- socket when it sees Rejected: allowed by `QuietStart`
def leaver : React := fun h =>
  match h with
  | .ready _ _ :: _ => [.abandon true]
  | .rejected _ :: _ => [.sessionClose, .close (some 1000) (.str [])]
  | _ => [.sendPing (.bytes [])]

example : QuietStart leaver false := by
  refine ⟨?_, ?_⟩ <;> (intro a ha; simp only [leaver, List.mem_singleton] at ha; subst ha; rfl)
example : eventsOf exCfg leaver (exSteps ++ [.wait 1 (some .eof)]) = [.connecting, .connected false, .ready none true] := by
  rw [exCfg_eq]
  decide +kernel
example : eventsOf exCfg leaver [.wait 3 (some (.data exDupBlock))] =
    [.connecting, .connected false, .rejected (ofString "Sec-WebSocket-Accept challenge failed"),
     .disconnected "closed" true] := by
  rw [exCfg_eq]
  decide +kernel

end Lomond.C10Run
