/-
  C09 on the composed system — the per-address connect loop (`Model/Connect.lean`) linked to the core
  model.

  `C09.all_addresses_tried` is about `_connect_sock` alone; `C09.terminal_kind*`, `no_escape`,
  `socket_closed_at_terminal` are about `Core.run`, in which `_connect()` is the single value
  `cfg.connect`.  Here they are composed (`Model/ConnectLink.lean`, see the header of
  `Properties/C19_Core.lean` for the vocabulary): `connectOutcome i` is the connect outcome that
  `_connect()` produces from the outcome of `getaddrinfo` and of each resolved address (`i.gai`),
  `coreCfg base i` the core configuration of that connection, `composed base i react env` the one
  trace of the whole connection with the socket-module calls (`Item.sock`) in place.

  This file: direct connections (`proxyChoice i.ws = none`: no proxy entry for the scheme) and what
  holds with or without a proxy; the proxy dialogue itself is in `Properties/C19_Core.lean`.
-/
import Lomond.Proofs.ConnectLink
import Lomond.Properties.C09


namespace Lomond.C09Connect
open Lomond Lomond.Http Lomond.Core Lomond.Core.Monitor Lomond.Proxy Lomond.Connect Lomond.ConnectLink

/-- the inputs of `proxy_socket_left_open_witness`: `ws://example.com:8080` through `http://Proxy.example:3128`, first
    address of the proxy refused, second connects, the proxy answers `HTTP/1.1 407 No`; the pinned code shape -/
def d11Witness : Inputs :=
  { ws := { target := { host := some (ofString "example.com"), port := 8080, secure := false }
            proxyHttp := some (ofString "http://Proxy.example:3128"), proxyHttps := none
            request := [71, 69, 84] }
    gai := some [.connectFail, .ok], writeFails := fun _ => false
    reads := [.data [72, 84, 84, 80, 47, 49, 46, 49, 32, 52, 48, 55, 32, 78, 111, 13, 10, 13, 10]]
    wrapOk := true, selOk := true, pclose := false }

/-- **The connect outcome of a direct connection is the verdict of the address loop.**  Without a proxy:
    `_connect()` raises `_SocketFail` (outcome `socketFail`, which `run()` turns into `ConnectFail`)
    exactly when the name does not resolve or no resolved address connects; it never fails in any other
    way; and when address `k` is the first that connects (`C09.all_addresses_tried`) the outcome is
    `ok false` — or `selFail false` when the selector's constructor then raises. -/
theorem connect_outcome_direct (i : Inputs) (hc : proxyChoice i.ws = none) :
    (connectOutcome i = .socketFail ↔
      (i.gai = none ∨ ∃ addrs, i.gai = some addrs ∧ ∀ a ∈ addrs, a ≠ .ok)) ∧
    connectOutcome i ≠ .otherFail ∧
    (∀ k, (connectSock i.gai).1 = .sock k →
      (∃ addrs, i.gai = some addrs ∧ addrs[k]? = some .ok ∧ ∀ j, j < k → addrs[j]? ≠ some .ok) ∧
      connectOutcome i = (if i.selOk then .ok false else .selFail false)) := by
  have hd := connectResult_direct i hc
  have hall := C09.all_addresses_tried i.gai
  unfold connectOutcome
  rw [hd]
  cases hs : sockOk i with
  | false =>
    have hf := (sockOk_false_iff i).mp hs
    refine ⟨⟨fun _ => hall.1.mp hf, fun _ => rfl⟩, fun h => (by cases h), fun k hk => ?_⟩
    rw [hf] at hk; cases hk
  | true =>
    obtain ⟨k, hk⟩ := (sockOk_true_iff i).mp hs
    refine ⟨⟨fun h => ?_, fun h => absurd (hall.1.mpr h) (by rw [hk]; nofun)⟩, ?_, fun k hk => ⟨(hall.2.1 k).mp hk, rfl⟩⟩
    · cases hsel : i.selOk <;> rw [hsel] at h <;> cases h
    · cases hsel : i.selOk <;> simp

/-- **`Core.run` yields `ConnectFail` for a failed connect exactly when the Connect model fails.**
    Without a proxy, the run of the core model on the linked configuration contains
    `ConnectFail("connect-failed")` iff the name does not resolve or no address connects — unless the
    application had stopped iterating at `Connecting`, before `_connect()` is called.  Then the events are
    exactly `Connecting, ConnectFail`. -/
theorem connectFail_iff_no_address_connects (base : Core.Cfg) (i : Inputs) (react : React) (env : List EnvStep)
    (hc : proxyChoice i.ws = none) :
    (Event.connectFail "connect-failed" ∈ C09.eventsOf (coreCfg base i) react env ↔
      ((i.gai = none ∨ ∃ addrs, i.gai = some addrs ∧ ∀ a ∈ addrs, a ≠ .ok) ∧ ¬ StopsAtConnecting react)) ∧
    (Event.connectFail "connect-failed" ∈ C09.eventsOf (coreCfg base i) react env →
      C09.eventsOf (coreCfg base i) react env = [.connecting, .connectFail "connect-failed"]) := by
  have hfail : (i.gai = none ∨ ∃ addrs, i.gai = some addrs ∧ ∀ a ∈ addrs, a ≠ .ok) ↔ ¬ Connects i := by
    rw [← (connect_outcome_direct i hc).1, ← connectOutcome_fails_iff]
    exact ⟨Or.inl, fun h => h.resolve_right (connect_outcome_direct i hc).2.1⟩
  rw [C09.eventsOf, ← evs_composed, hfail]
  exact connectFailed_iff base i react env

/-- **The terminal event, in terms of the connection-phase models** (`C09.terminal_kind` on the linked
    configuration, with or without a proxy).  When `run()` returns, the last event is the terminal one:
    `ConnectFail("connect-failed")` right after `Connecting` iff `_connect()` raised (no address connects /
    the tunnel fails); `ConnectFail("request-failed")` right after `Connecting` only if `_connect()` returned
    a socket; and `Disconnected` only if `_connect()` returned a socket and the upgrade request went out —
    then the second event is `Connected(proxy)` with `proxy` = "a proxy is configured for the scheme". -/
theorem terminal_kind_linked (base : Core.Cfg) (i : Inputs) (react : React) (env : List EnvStep) (s : Sys)
    (hr : run (initSys (coreCfg base i) react env) = .ok () s) :
    ∃ a e, C09.eventsOf (coreCfg base i) react env = a ++ [e] ∧
      ((e = .connectFail "connect-failed" ∧ a = [.connecting] ∧ ¬ Connects i) ∨
       (e = .connectFail "request-failed" ∧ a = [.connecting] ∧ Connects i) ∨
       (∃ k g, e = .disconnected k g ∧ Connects i ∧ i.writeFails (sentBefore i) = false ∧
          ∃ E, a = .connecting :: .connected (proxyChoice i.ws).isSome :: E)) := by
  obtain ⟨a, e, hae, hk⟩ := C09.terminal_kind (coreCfg base i) react env s hr
  refine ⟨a, e, hae, ?_⟩
  rw [C09.eventsOf, ← evs_composed] at hae
  have two : ∀ x y : Event, [x, y] = a ++ [e] → a = [x] ∧ e = y := by
    intro x y h
    have := List.append_inj' (show [x] ++ [y] = a ++ [e] from h) rfl
    exact ⟨this.1.symm, by have := this.2; simp at this; exact this.symm⟩
  rcases evs_composed_cases base i react env with ⟨hs, ev⟩ | ⟨hs, hnc, ev⟩ | ⟨hs, q, hq, ⟨ev, _⟩ | ⟨hwf, E, ev⟩⟩
  · -- stopped at `Connecting`: `run()` does not return
    rw [ev] at hae
    have := List.append_inj' (show [] ++ [Event.connecting] = a ++ [e] from hae) rfl
    have he : e = .connecting := by have := this.2; simp at this; exact this.symm
    subst he
    rcases hk with ⟨⟨k, g, h⟩, _⟩ | ⟨⟨k, h⟩, _⟩ <;> cases h
  · rw [ev] at hae
    obtain ⟨ha, he⟩ := two _ _ hae
    exact Or.inl ⟨he, ha, hnc⟩
  · rw [ev] at hae
    obtain ⟨ha, he⟩ := two _ _ hae
    exact Or.inr (Or.inl ⟨he, ha, q, hq⟩)
  · rw [ev] at hae
    have hqq := connectResult_sock_eq i q hq
    rcases hk with ⟨⟨k, g, he⟩, _⟩ | ⟨⟨k, he⟩, hno⟩
    · subst he
      refine Or.inr (Or.inr ⟨k, g, rfl, ⟨q, hq⟩, hwf, ?_⟩)
      match a, hae with
      | [], h => simp at h
      | [x], h => simp at h
      | x :: y :: a', h =>
        simp only [List.cons_append, List.cons.injEq] at h
        exact ⟨a', by rw [← h.1, ← h.2.1, hqq]⟩
    · exfalso
      subst he
      have : Event.connected q.isSome ∈ a := by
        match a, hae with
        | [], h => simp at h
        | [x], h => simp at h
        | x :: y :: a', h =>
          simp only [List.cons_append, List.cons.injEq] at h
          rw [← h.2.1]; simp
      exact hno _ this

/-- **Every address is tried, and every failed socket closed, before `ConnectFail` is reported**
    (`C09.all_addresses_tried` placed in the trace of the whole connection).  Without a proxy, and unless
    the application stops at `Connecting`: the composed trace is `Connecting`, the results of what the
    application called there, the one `_connect_sock(host, port, ssl)` call with exactly the socket-module
    calls of the address loop, and then the core model's continuation `T` — which begins with
    `ConnectFail("connect-failed")` when `_connect_sock` failed (then `socket()` was called for every
    resolved address, in order) and otherwise with the upgrade request (or, if the application had called
    `close()` at `Connecting`, with the socket close).  So every `socket()` / `connect()` / `close()` of
    the address loop precedes every write and every later event of the connection. -/
theorem composed_direct (base : Core.Cfg) (i : Inputs) (react : React) (env : List EnvStep)
    (hc : proxyChoice i.ws = none) (hns : ¬ StopsAtConnecting react) :
    ∃ c0 T, composed base i react env =
        (Obs.ev .connecting :: c0).map .core ++
        (.io (.connectTo i.ws.target.host i.ws.target.port i.ws.target.secure) ::
          (connectSock i.gai).2.map .sock) ++ T.map .core ∧
      (∀ o ∈ c0, isRes o = true) ∧
      sockLog (composed base i react env) = (connectSock i.gai).2 ∧
      (((connectSock i.gai).1 = .fail ∧ (∃ c1, T = .ev (.connectFail "connect-failed") :: c1) ∧
          ∀ addrs, i.gai = some addrs →
            (connectSock i.gai).2.filterMap Call.socketIdx? = List.range addrs.length) ∨
       (∃ k, (connectSock i.gai).1 = .sock k ∧
          ∃ o T', T = o :: T' ∧ (o = .wr i.ws.request ∨ o = .wrFail i.ws.request ∨ o = .sockClose))) := by
  rcases composed_cut base i react env with ⟨hs, _⟩ | ⟨_, c0, T, e, n0, hT⟩
  · exact absurd hs hns
  have hph := phaseItems_direct i hc
  have hall := C09.all_addresses_tried i.gai
  have hok : ∀ q, connectResult i = .sock q → ∃ k, (connectSock i.gai).1 = .sock k := by
    intro q hq
    rw [connectResult_direct i hc] at hq
    cases hs : sockOk i with
    | false => rw [hs] at hq; cases hq
    | true => exact (sockOk_true_iff i).mp hs
  have hsl : sockLog (composed base i react env) = (connectSock i.gai).2 := by
    rw [e, sockLog_cut, hph, sockLog_eq]
    show (List.map Item.sock _).filterMap Item.sock? = _
    rw [List.filterMap_map]; exact List.filterMap_some
  refine ⟨c0, T, by rw [e, hph], n0, hsl, ?_⟩
  cases hT with
  | failed c1 n1 hnc =>
    have hfail : (connectSock i.gai).1 = .fail := by
      refine (sockOk_false_iff i).mp ?_
      cases hs : sockOk i with
      | false => rfl
      | true => exact absurd ⟨none, by rw [connectResult_direct i hc, hs]; rfl⟩ hnc
    refine Or.inl ⟨hfail, ⟨c1, rfl⟩, fun addrs ha => ?_⟩
    obtain ⟨h1, _, h3, _⟩ := hall.2.2 addrs ha
    rw [h1, h3 hfail]
  | refused q c1 n1 hq _ =>
    obtain ⟨k, hk⟩ := hok q hq
    exact Or.inr ⟨k, hk, _, _, rfl, Or.inr (Or.inr rfl)⟩
  | writeFailed q c1 n1 hq _ =>
    obtain ⟨k, hk⟩ := hok q hq
    exact Or.inr ⟨k, hk, _, _, rfl, Or.inr (Or.inl rfl)⟩
  | connected q X hq _ =>
    obtain ⟨k, hk⟩ := hok q hq
    exact Or.inr ⟨k, hk, _, _, rfl, Or.inl rfl⟩

/-- **The socket that connected is closed when the terminal event is delivered** — with or without a
    proxy, also when the selector's constructor raised: `C09.socket_closed_at_terminal` for every linked
    configuration whose connection phase returns a socket. -/
theorem socket_closed_at_terminal_linked (base : Core.Cfg) (i : Inputs) (react : React) (env : List EnvStep)
    (hcn : Connects i) (post pre : List Obs) (e : Event)
    (ht : (runAll (coreCfg base i) react env).trace = post ++ .ev e :: pre) (hterm : Event.isTerminal e = true) :
    Obs.sockClose ∈ pre := by
  obtain ⟨q, hq⟩ := hcn
  have ho : (coreCfg base i).connect = (if i.selOk then .ok q.isSome else .selFail q.isSome) := by
    show connectOutcome i = _
    unfold connectOutcome; rw [hq]
  cases hsel : i.selOk with
  | true =>
    rw [hsel] at ho
    exact C09.socket_closed_at_terminal _ react env q.isSome ho post pre e ht hterm
  | false =>
    rw [hsel] at ho
    exact C09.socket_closed_at_terminal_selector_failure _ react env q.isSome ho post pre e ht hterm

/-! ### finding D11: every socket that was connected is closed before `ConnectFail` is delivered -/

/-- **"… it produces ConnectFail before the connection is up … and the socket is closed" — over the
    composed trace, for the repaired shape of `_connect_proxy`** (`i.pclose = true`).  For every input — proxy or
    not, whatever fails and where —: when `ConnectFail` is delivered, every socket on which the connection
    phase had called `connect()` (the candidates of the address loop, in particular the one that connected — to
    the proxy or to the target) has been closed before that event: inside `_connect()` (`Item.sock (.close j)`:
    by the address loop when its `connect()` failed, by `_connect_proxy` when the tunnel fails after the TCP
    connect — a non-200 reply, a `recv` error / timeout / end of stream, an oversized reply, a failing CONNECT
    `sendall`, a failing TLS wrap, a target URL without host), or by the session (`sockClose`) when `_connect()`
    had returned it and the upgrade request could not be written. -/
theorem composed_fail_closes_socket (base : Core.Cfg) (i : Inputs) (react : React) (env : List EnvStep)
    (hp : i.pclose = true) (j : Nat) (pre post : List Item) (r : String)
    (hsplit : composed base i react env = pre ++ .core (.ev (.connectFail r)) :: post)
    (hconn : Item.sock (.connect j) ∈ pre) :
    Item.sock (.close j) ∈ pre ∨ Item.core .sockClose ∈ pre := by
  have hx : isCF (.core (.ev (.connectFail r))) = true := rfl
  have hres : ∀ o, isRes o = true → isCF (.core o) = false := fun o h => by cases o <;> first | rfl | cases h
  have hxm : Item.core (.ev (.connectFail r)) ∈ composed base i react env := by rw [hsplit]; simp
  rcases composed_cut base i react env with ⟨_, c0, e, n0⟩ | ⟨_, c0, T, e, n0, hT⟩
  · -- stopped at `Connecting`: no `ConnectFail`
    exfalso
    rw [e] at hxm
    obtain ⟨o, ho, ho'⟩ := List.mem_map.mp hxm
    cases ho'
    rcases List.mem_cons.mp ho with h | h
    · cases h
    · cases n0 _ h
  -- the first `ConnectFail` lies after the cut: `pre` holds the whole connection phase and a beginning `r'` of `T`
  obtain ⟨r', hr', hr2⟩ := prefix_of_split isCF (hsplit.symm.trans e) hx
    (cut_head_none isCF (fun _ => rfl) (fun _ => rfl) hres rfl i n0)
  cases hT with
  | failed c1 n1 hnc =>
    have hpre : ∀ z ∈ phaseItems i, z ∈ pre := by
      intro z hz; rw [hr']; exact List.mem_append_left _ (List.mem_append_right _ hz)
    -- the connect() call is one of the address loop's
    have hin : Item.sock (.connect j) ∈ phaseItems i := by
      rw [hr'] at hconn
      rcases List.mem_append.mp hconn with h | h
      · rcases List.mem_append.mp h with h | h
        · obtain ⟨o, _, ho⟩ := List.mem_map.mp h; cases ho
        · exact h
      · have : Item.sock (.connect j) ∈ List.map Item.core (.ev (.connectFail "connect-failed") :: c1) := by
          rw [← hr2]; exact List.mem_append_left _ h
        obtain ⟨o, _, ho⟩ := List.mem_map.mp this; cases ho
    left
    rcases mem_phaseItems_sock i _ hin with ⟨hcall, hne⟩ | hcl
    · rcases connectSock_connect i.gai j hcall with hclose | hwin
      · -- its connect() failed: the loop closed it
        exact hpre _ (calls_in_phaseItems i _ hclose hne)
      · -- it is the socket `_connect_sock` returned: `_connect_proxy` closes it when the tunnel fails
        apply hpre
        unfold phaseItems
        refine List.mem_append_right _ ?_
        rw [closeItems_fail i hnc j hwin, hp, hne]
        simp
    ·
      rcases closeItems_cases i with h | ⟨k, h⟩ <;> rw [h] at hcl <;> simp at hcl
  | refused q c1 n1 _ _ =>
    right
    obtain ⟨r'', h, _⟩ := prefix_of_split isCF (a := [Item.core .sockClose]) hr2 hx
      (by intro z hz; rw [List.mem_singleton.mp hz]; rfl)
    rw [hr', h]; simp
  | writeFailed q c1 n1 _ _ =>
    right
    obtain ⟨r'', h, _⟩ := prefix_of_split isCF (a := [Item.core (.wrFail i.ws.request), Item.core .sockClose]) hr2 hx
      (by intro z hz; simp only [List.mem_cons, List.not_mem_nil, or_false] at hz; rcases hz with rfl | rfl <;> rfl)
    rw [hr', h]; simp
  | connected q X _ _ =>
    -- `Connected` was yielded: no `ConnectFail` can follow (C09.terminal_kind_connectFail)
    exfalso
    obtain ⟨a, b, hab⟩ := List.append_of_mem (mem_evs hxm)
    have hpos := C09.terminal_kind_connectFail (coreCfg base i) react env a b r (by
      show events (runAll (coreCfg base i) react env).trace = _
      rw [← evs_composed, hab])
    rw [e, evs_cut i n0, hpos.2.1] at hab
    simp [List.filterMap_cons, event?_wr, event?_ev] at hab

/-- **The pinned shape (`pclose = false`) leaves the proxy socket open: witness.**  A `ws://` connection through
    a proxy whose second address connects and which answers 407: `ConnectFail` is delivered, `connect()` had
    succeeded on socket 1, and nothing in the whole trace closes that socket — neither `_connect()` nor the
    session.  (With `pclose = true` the same inputs give `close 1` right before `ConnectFail`.) -/
theorem proxy_socket_left_open_witness :
    ∃ (i : Inputs) (pre post : List Item), i.pclose = false ∧
      composed {} i (fun _ => []) [] = pre ++ .core (.ev (.connectFail "connect-failed")) :: post ∧
      Item.sock (.connect 1) ∈ pre ∧ (Connect.connectSock i.gai).1 = .sock 1 ∧
      Item.sock (.close 1) ∉ composed {} i (fun _ => []) [] ∧ Item.core .sockClose ∉ composed {} i (fun _ => []) [] ∧
      Item.sock (.close 1) ∈ composed {} { i with pclose := true } (fun _ => []) [] :=
  ⟨d11Witness, (composed {} d11Witness (fun _ => []) []).take 9, [], by decide +kernel⟩

/-! ### Non-vacuity -/

section Examples

/-- a `ws://` target without proxies: three addresses — refused, `socket()` fails, connects -/
def inDirect : Inputs :=
  { ws := { target := { host := some (ofString "example.com"), port := 80, secure := false }
            proxyHttp := none, proxyHttps := none, request := [71, 69, 84] }
    gai := some [.connectFail, .sockCreateFail, .ok], writeFails := fun _ => false, reads := [],
    wrapOk := true, selOk := true }
/-- no address connects -/
def inNone : Inputs := { inDirect with gai := some [.connectFail, .connectFail] }

example : proxyChoice inDirect.ws = none := by decide +kernel
example : connectOutcome inDirect = .ok false ∧ connectOutcome inNone = .socketFail ∧
    connectOutcome { inDirect with gai := none } = .socketFail ∧
    connectOutcome { inDirect with selOk := false } = .selFail false := by decide +kernel
/-- the whole composed trace when no address connects: both addresses tried and closed, then `ConnectFail` -/
example : composed {} inNone (fun _ => []) [] =
    [.core (.ev .connecting), .io (.connectTo (some (ofString "example.com")) 80 false),
     .sock (.socket 0), .sock (.connect 0), .sock (.close 0), .sock (.socket 1), .sock (.connect 1), .sock (.close 1),
     .core (.ev (.connectFail "connect-failed"))] := by decide +kernel
/-- the third address connects: the request goes out after the address loop; the peer closes -/
example : composed {} inDirect (fun _ => []) [.wait 0 (some .eof)] =
    [.core (.ev .connecting), .io (.connectTo (some (ofString "example.com")) 80 false),
     .sock (.socket 0), .sock (.connect 0), .sock (.close 0), .sock (.socket 1), .sock (.socket 2), .sock (.connect 2),
     .core (.wr [71, 69, 84]), .core (.ev (.connected false)), .core .sockClose,
     .core (.ev (.disconnected "connection-lost" false)), .core .selClose] := by decide +kernel
example : ∃ s, run (initSys (coreCfg {} inNone) (fun _ => []) []) = .ok () s := ⟨_, rfl⟩
example : Connects inDirect ∧ ¬ Connects inNone :=
  ⟨⟨none, by decide +kernel⟩, fun ⟨q, h⟩ => by rw [show connectResult inNone = .socketFail by decide +kernel] at h; cases h⟩

end Examples

end Lomond.C09Connect
