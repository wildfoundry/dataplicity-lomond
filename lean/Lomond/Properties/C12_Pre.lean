/-
  C12 companion — `close()` is atomic ALSO when the racing calls start before the connection exists.

  The run starts in `initPre`: `session._sock is None`, nothing on the wire, the lock free.  The event-loop thread's first
  call is `.connect` (`Model/Threads.lean`): it stores the socket, writes the HTTP request through the same
  `session.write` (lock, state checks, `sendall`) as every frame, and then either reads the server's reply or — when the
  request was refused because a racing `close()` had already set `closing`, or its `sendall` failed — closes the socket
  and ends (`ConnectFail`).  Application threads run `close()` and the send methods at any time: before the socket
  exists (`WebSocketUnavailable`; `close()` swallows it and still sets `closing`), while the loop thread is inside
  `_send_request`, after it.  On the model's wire the request stands as a placeholder frame (opcode 0): its position is
  modelled, its bytes are not.

  The theorems are the statements of `C12.one_close_no_data_after`, `C12.close_sets_flag`,
  `C12Fail.one_whole_close_nothing_after` and `C12Fail.close_always_ends_closing`, transported to `initPre`, for ALL
  programs (in particular: a loop thread whose program starts with `.connect`, any number of application threads with
  any programs of sends and `close()`), ALL schedules, and — second group — every socket (any number of chunks per
  `sendall`, any pattern of failing writes, the request's own `sendall` included).  Hypothesis: `closeAtomic = true`
  (the repaired `close()`, which is what /repo has; `compressUnderLock` is irrelevant to these statements and left free).
  Only here: `request_never_after_close` — not even the HTTP request is written after a Close frame.

  Proofs: the invariants `Base` / `CInv` (and `BaseN` / `CInvN` / `KInv`) are preserved by every step from ANY state that
  satisfies them (`Proofs/Threads.lean`, `ThreadsNC.lean`, `ThreadsNK.lean`) and hold of every fresh state (`Fresh`,
  `Proofs/ThreadsStep.lean`), of which `initPre` is one.

  Tie to the code: `harness/props/c12.py before_connect_cases` (loop program `cn`) — every run is compared with this model
  on the executed step log, the chunks (request chunks at their position), results and flags.
-/
import Lomond.Proofs.ThreadsNK
import Lomond.Proofs.ThreadsPre

namespace Lomond.C12Pre
open Lomond Lomond.Threads

/-- the run from "no socket yet" (two chunks per `sendall`, no failing write) -/
abbrev finalPre (v : Variant) (cfg : Cfg) (progs : Tid → List Call) (sched : List Tid) : State :=
  run v cfg (initPre progs) sched

/-- the same on the general socket -/
abbrev finalPreN (env : Env) (v : Variant) (cfg : Cfg) (progs : Tid → List Call) (sched : List Tid) : State :=
  runN env v cfg (initPre progs) sched

/-- **C12 before the connection exists.**  With the repaired `close()`, for all programs — the loop thread connecting
    (`.connect`), application threads sending and closing — and all schedules, starting with no socket:
    at most one Close frame is written, nothing is written after it (no frame, no second Close, not the first half of
    anything, not the request), and a finished send has written its frame iff it raised no error. -/
theorem one_close_no_data_after_before_connect (v : Variant) (hv : v.closeAtomic = true) (cfg : Cfg)
    (progs : Tid → List Call) (sched : List Tid) :
    let s := finalPre v cfg progs sched
    closeCount s.sh.wire ≤ 1 ∧ nothingAfterClose s.sh.wire = true ∧
    (∀ (t : Tid) (i : Nat) (r : Result), (s.th t).results[i]? = some r →
      ∃ call, (progs t)[i]? = some call ∧ (r.err ≠ none → r.wrote = false) ∧
        (call.isSend = true → (r.wrote = true ↔ r.err = none))) :=
  one_close_of_fresh v hv cfg (fresh_initPre progs) sched

/-- **The request is never written after a Close frame**: if a chunk of a Close frame is on the wire, no chunk that
    follows it belongs to a `.connect` call — a `close()` that wins the race against `_send_request` makes the request
    fail (`WebSocketClosing` -> `ConnectFail`) instead of being sent on a connection that is already closing. -/
theorem request_never_after_close (v : Variant) (hv : v.closeAtomic = true) (cfg : Cfg)
    (progs : Tid → List Call) (sched : List Tid) (pre mid post : List Chunk) (y x : Chunk) :
    let s := finalPre v cfg progs sched
    s.sh.wire = pre ++ y :: (mid ++ x :: post) → isClose y = true → (progs x.tid)[x.idx]? ≠ some .connect := by
  intro s hw hy hx
  obtain ⟨B, I⟩ := cInv_reach v cfg (fresh_initPre progs) hv sched
  have h5 : nothingAfterClose (pre ++ y :: (mid ++ x :: post)) = true := hw ▸ I.i5
  obtain ⟨ht, hi⟩ := nac_after pre y _ h5 hy x (by simp)
  obtain ⟨call, hcall, hd⟩ := B.C.wire y (by rw [show (run v cfg (initPre progs) sched).sh.wire = _ from hw]; simp)
  rw [run_prog, initPre_prog, ← ht, ← hi, hx] at hcall
  cases hcall
  have : y.desc.op = 0 := hd.1
  simp [isClose, this] at hy

/-- once a Close frame is (even partly) on the wire and nobody holds the lock, the connection is closing or closed -/
theorem close_sets_flag_before_connect (v : Variant) (hv : v.closeAtomic = true) (cfg : Cfg)
    (progs : Tid → List Call) (sched : List Tid) :
    let s := finalPre v cfg progs sched
    hasClose s.sh.wire = true → s.sh.lock = none → s.sh.closing = true ∨ s.sh.closed = true :=
  close_flag_of_fresh v hv cfg (fresh_initPre progs) sched

/-- **The same for every socket** (any number of chunks per `sendall`, any pattern of failing writes — of the Close
    frame, of data frames, of the request itself): at most one COMPLETE Close frame, nothing after its last chunk, a
    finished send wrote its complete frame iff it raised no error. -/
theorem one_whole_close_nothing_after_before_connect (env : Env) (v : Variant) (hv : v.closeAtomic = true) (cfg : Cfg)
    (progs : Tid → List Call) (sched : List Tid) :
    let s := finalPreN env v cfg progs sched
    closeCount s.sh.wire ≤ 1 ∧
    (∀ pre post x, s.sh.wire = pre ++ x :: post → x.second = true → isClose x = true → post = []) ∧
    (∀ (t : Tid) (i : Nat) (r : Result), (s.th t).results[i]? = some r →
      ∃ call, (progs t)[i]? = some call ∧ (r.err ≠ none → r.wrote = false) ∧
        (call.isSend = true → (r.wrote = true ↔ r.err = none))) :=
  one_whole_close_of_fresh env v hv cfg (fresh_initPre progs) sched

/-- a `close()` that has returned — refused because there was no socket yet (`WebSocketUnavailable`, swallowed), written,
    or failed at any chunk — leaves the connection closing or closed; so does the loop's echo of a server Close -/
theorem close_always_ends_closing_before_connect (env : Env) (v : Variant) (hv : v.closeAtomic = true) (cfg : Cfg)
    (progs : Tid → List Call) (sched : List Tid) (t : Tid) (i : Nat) (r : Result) (call : Call) :
    let s := finalPreN env v cfg progs sched
    (s.th t).results[i]? = some r → (progs t)[i]? = some call → call.isClose = true →
      s.sh.closing = true ∨ s.sh.closed = true :=
  close_ends_closing_of_fresh env v hv cfg (fresh_initPre progs) sched t i r call

/-- the two-chunk socket without failures is an instance of the general one -/
theorem two_chunk_instance (v : Variant) (cfg : Cfg) (progs : Tid → List Call) (sched : List Tid) :
    finalPreN Env.two v cfg progs sched = finalPre v cfg progs sched :=
  runN_default v cfg _ sched

/-! ### non-vacuity: concrete races around the connect -/

def ca : Variant := { closeAtomic := true, compressUnderLock := true }
def txt : Bytes := [104, 105]
/-- thread 0 closes, thread 1 sends, thread 2 is the event loop connecting -/
def progs3 : Tid → List Call := progsOf [[.close (some 1000) []], [.sendText txt false], [.connect]]

/-- `close()` is INSIDE the write lock (it has taken it and not yet tested the socket) when the loop thread stores the
    socket; the loop then waits for the lock; `close()` finds a socket, writes its Close frame and sets `closing` under
    the lock; thread 1's send and the loop's request are both refused (`WebSocketClosing`); the loop closes the socket:
    one Close frame, nothing after it, no request. -/
def schedCloseWins : List Tid :=
  [0, 0, 0] ++ [2, 2] ++ List.replicate 9 0 ++ List.replicate 5 1 ++ List.replicate 10 2

example : let s := finalPre ca {} progs3 schedCloseWins
    (s.sh.wire.map fun c => (c.tid, c.desc.op, c.second)) = [(0, 8, false), (0, 8, true)] ∧
    (s.th 0).results = [⟨true, none, false⟩] ∧ (s.th 1).results = [⟨false, some .closing, false⟩] ∧
    (s.th 2).results = [⟨false, some .closing, true⟩] ∧ (s.th 2).halted = true ∧
    s.sh.closing = true ∧ s.sh.sockOpen = false ∧ s.sh.sockShut = true ∧ s.sh.lock = none := by
  decide +kernel

/-- the lock is held by `close()` at the moment the loop thread connects (after entries `0 0 0 2`): the loop waits for it -/
example : let s := finalPre ca {} progs3 [0, 0, 0, 2]
    s.sh.lock = some 0 ∧ s.sh.sockOpen = true ∧ enabled ca {} s 2 = false ∧ enabled ca {} s 0 = true := by
  decide +kernel

/-- the send is inside the write lock while the loop connects: its Text frame goes out BEFORE the request, the loop
    waits, then writes the request and reads the reply; `close()` comes last: Text, request, Close — nothing after -/
def schedSendFirst : List Tid :=
  [2, 1, 1, 1, 2] ++ List.replicate 4 1 ++ List.replicate 12 2 ++ List.replicate 12 0

example : let s := finalPre ca {} progs3 schedSendFirst
    (s.sh.wire.map fun c => (c.tid, c.desc.op, c.second)) =
      [(1, 1, false), (1, 1, true), (2, 0, false), (2, 0, true), (0, 8, false), (0, 8, true)] ∧
    (s.th 2).results = [⟨true, none, false⟩] ∧ (s.th 1).results = [⟨true, none, false⟩] ∧
    closeCount s.sh.wire = 1 ∧ s.sh.closing = true ∧ s.sh.sockOpen = true := by
  decide +kernel

/-- before the socket exists a send fails with `WebSocketUnavailable` and `close()` still sets `closing` -/
example : let s := finalPre ca {} progs3 (List.replicate 7 0 ++ List.replicate 3 1)
    s.sh.wire = [] ∧ (s.th 0).results = [⟨false, some .unavailable, false⟩] ∧
    (s.th 1).results = [⟨false, some .unavailable, false⟩] ∧ s.sh.closing = true := by
  decide +kernel

/-- the request's own `sendall` fails after its first chunk (general socket): TransportFail -> the loop closes the socket -/
def envReqFails : Env := { failAt := fun t i => if t = 2 ∧ i = 0 then some 1 else none }

example : let s := finalPreN envReqFails ca {} progs3 (List.replicate 14 2)
    (s.sh.wire.map fun c => (c.tid, c.desc.op, c.second)) = [(2, 0, false)] ∧
    (s.th 2).results = [⟨false, some .transport, true⟩] ∧ s.sh.sockShut = true := by
  decide +kernel

end Lomond.C12Pre
