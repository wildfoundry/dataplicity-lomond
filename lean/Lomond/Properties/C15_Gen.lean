/-
  C15 companion — the timers of the hand-written model are what session.py says.

  `Lomond.Gen.Code.sessionCheck*` are produced from `WebsocketSession._check_poll`,
  `_check_auto_ping`, `_check_ping_timeout`, `_check_close_timeout` by harness/py2lean.py on every
  check run (times are integer ticks; `math.ceil(t / r)` is ceiling division; Python's `t - x` is
  translated over `Int`, never as truncated subtraction).  The theorems state that
  `Core.checkPoll`, `checkAutoPing`, `checkPingTimeout`, `checkCloseTimeout` take their decisions
  and compute the next-ping time exactly as these definitions do.
  Theorems only; helpers are in `Proofs/GenTie`.
-/
import Lomond.Proofs.GenTie
import Lomond.Generated.Code

namespace Lomond.C15Gen
open Lomond Lomond.Core Lomond.GenTie
open Lomond.Gen.Code

/-- `_check_poll`: fires when no poll has happened yet or `poll` ticks have passed; the model's
    truncated `t - p0 ≥ poll` agrees with Python's integer subtraction because the clock never
    runs backwards (`p0 ≤ t`; for `poll > 0` even that is not needed). -/
theorem gen_poll (poll t : Nat) (ps : Option Nat) (h : ∀ p0, ps = some p0 → p0 ≤ t ∨ 0 < poll) :
    sessionCheckPoll poll t ps =
      (match (generalizing := false) ps with
       | none => (true, some t)
       | some p0 => if t - p0 ≥ poll then (true, some t) else (false, some p0)) := by
  unfold sessionCheckPoll
  cases ps with
  | none => simp
  | some p0 =>
    have hc : ((t : Int) - (p0 : Int) ≥ (poll : Int)) ↔ t - p0 ≥ poll := by have := h p0 rfl; omega
    simp only [decide_eq_true_eq, hc]

/-- `_check_auto_ping`: a ping is due when `ping_rate` is non-zero and the time is past
    `_next_ping`; the next one is scheduled at `ceil(t / rate) * rate`. -/
theorem gen_autoPing (rate t next : Nat) :
    sessionCheckAutoPing rate t next =
      if rate ≠ 0 ∧ t > next then (true, ceilDiv t rate * rate) else (false, next) := by
  unfold sessionCheckAutoPing
  simp only [gen_ceilDiv_eq, decide_eq_true_eq, Bool.and_eq_true]

/-- what the formula achieves: the next ping time is the first multiple of the rate that is not
    in the past — never earlier than now, less than one period ahead (C15's "no drift"). -/
theorem gen_autoPing_next (rate t next : Nat) (hr : 0 < rate) (hd : t > next) :
    let n := (sessionCheckAutoPing rate t next).2
    t ≤ n ∧ n < t + rate ∧ n % rate = 0 := by
  rw [gen_autoPing, if_pos ⟨by omega, hd⟩]
  exact ⟨Timers.le_ceilDiv_mul t rate hr, Timers.ceilDiv_mul_lt t rate hr, Nat.mul_mod_left _ _⟩

example : sessionCheckAutoPing 30 31 30 = (true, 60) := rfl
example : sessionCheckAutoPing 30 60 30 = (true, 60) := rfl
example : sessionCheckAutoPing 30 30 30 = (false, 30) := rfl
example : sessionCheckAutoPing 0 99 0 = (false, 0) := rfl

/-- `_check_ping_timeout`: enabled by a non-zero timeout, fires when more than `ping_timeout`
    ticks have passed since the last Pong (Python's `t - last` may be negative; then it does not
    fire, and neither does the model's truncated difference). -/
theorem gen_pingTimeout (timeout t last : Nat) :
    sessionCheckPingTimeout timeout t last = decide (timeout ≠ 0 ∧ t - last > timeout) := by
  unfold sessionCheckPingTimeout
  by_cases h0 : timeout = 0
  · simp [h0]
  · have hc : ((t : Int) - (last : Int) > (timeout : Int)) ↔ t - last > timeout := by omega
    simp [h0, hc]

/-- `_check_close_timeout`: raises `_ForceDisconnect` exactly when a close timeout is set, a Close
    was sent at `ct`, and `t ≥ ct + close_timeout`. -/
theorem gen_closeTimeout (timeout t : Nat) (sent : Option Nat) :
    sessionCheckCloseTimeout timeout t sent =
      (match sent with
       | none => .ok ()
       | some ct =>
         if timeout ≠ 0 ∧ t ≥ ct + timeout then
           .error ⟨"_ForceDisconnect", "server didn't respond to close packet within {}s"⟩
         else .ok ()) := by
  unfold sessionCheckCloseTimeout
  cases sent with
  | none => simp only [ite_self]
  | some ct => by_cases h0 : timeout = 0 <;> simp [h0]

example : sessionCheckCloseTimeout 30 40 (some 10) =
    .error ⟨"_ForceDisconnect", "server didn't respond to close packet within {}s"⟩ := rfl
example : sessionCheckCloseTimeout 30 39 (some 10) = .ok () := rfl
example : sessionCheckCloseTimeout 0 1000 (some 10) = .ok () := rfl
example : sessionCheckCloseTimeout 30 1000 none = .ok () := rfl

/-- `Core.checkPoll` = generated `_check_poll` (decision and new `_poll_start`), then `yield Poll()` -/
theorem gen_checkPoll (s : Sys)
    (h : ∀ p0, s.pollStart = some p0 → p0 ≤ sessionTime s ∨ 0 < s.cfg.poll) :
    checkPoll s =
      (let r := sessionCheckPoll s.cfg.poll (sessionTime s) s.pollStart
       if r.1 then (do modS (fun s => { s with pollStart := r.2 }); yieldEv .poll : M Unit) s
       else .ok () s) := by
  rw [gen_poll _ _ _ h]
  unfold checkPoll
  cases hp : s.pollStart with
  | none => simp [bind, M.bind, getS, hp]
  | some p0 =>
    by_cases c : sessionTime s - p0 ≥ s.cfg.poll <;> simp [bind, M.bind, getS, hp, c, pure, M.pure]

/-- `Core.checkAutoPing` = generated `_check_auto_ping` (decision and new `_next_ping`), then
    `send_ping()` with its WebSocketError swallowed -/
theorem gen_checkAutoPing (s : Sys) :
    checkAutoPing s =
      (let r := sessionCheckAutoPing s.cfg.pingRate (sessionTime s) s.nextPing
       if r.1 then (do modS (fun s => { s with nextPing := r.2 })
                       let _ ← sendFrame Gen.opPing [] none
                       pure () : M Unit) s
       else .ok () s) := by
  rw [gen_autoPing]
  unfold checkAutoPing
  by_cases c : s.cfg.pingRate ≠ 0 ∧ sessionTime s > s.nextPing
  · simp only [bind, M.bind, getS, if_pos c, modS]; rfl
  · simp only [bind, M.bind, getS, if_neg c, pure, M.pure]; simp

/-- `Core.checkPingTimeout` = generated `_check_ping_timeout`, then `yield Unresponsive()` and
    `raise _ForceDisconnect` (the part of `_regular` that follows a `True` result) -/
theorem gen_checkPingTimeout (s : Sys) :
    checkPingTimeout s =
      (if sessionCheckPingTimeout s.cfg.pingTimeout (sessionTime s) s.lastPong then
         (do yieldEv .unresponsive; throwE (.forceDisconnect "ping-timeout") : M Unit) s
       else .ok () s) := by
  rw [gen_pingTimeout]
  unfold checkPingTimeout
  by_cases c : s.cfg.pingTimeout ≠ 0 ∧ sessionTime s - s.lastPong > s.cfg.pingTimeout
  · simp only [bind, M.bind, getS, if_pos c, decide_eq_true c, if_true]
  · simp only [bind, M.bind, getS, if_neg c, decide_eq_false c, pure, M.pure]; simp

/-- `Core.checkCloseTimeout` = generated `_check_close_timeout`; its `_ForceDisconnect` is the
    model's `forceDisconnect "close-timeout"` -/
theorem gen_checkCloseTimeout (s : Sys) :
    checkCloseTimeout s =
      (match sessionCheckCloseTimeout s.cfg.closeTimeout (sessionTime s) s.sentCloseTime with
       | .error _ => .err (.forceDisconnect "close-timeout") s
       | .ok _ => .ok () s) := by
  rw [gen_closeTimeout]
  unfold checkCloseTimeout
  cases hs : s.sentCloseTime with
  | none => by_cases c : s.cfg.closeTimeout ≠ 0 <;> simp [bind, M.bind, getS, hs, c, pure, M.pure]
  | some ct =>
    by_cases c : s.cfg.closeTimeout ≠ 0 <;> by_cases d : sessionTime s ≥ ct + s.cfg.closeTimeout <;>
      simp [bind, M.bind, getS, hs, c, d, pure, M.pure, throwE]

end Lomond.C15Gen
