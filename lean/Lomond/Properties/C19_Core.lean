/-
  C19 on the composed system — the Proxy model linked to the core model.

  `Properties/C19.lean` is about `Proxy.run`, the Proxy model's own log of `run()` up to
  `ConnectFail` / `Connected`.  `Properties/C09.lean` etc. are about `Core.run`, in which `_connect()`
  is the single value `cfg.connect`.  Here the two are composed (`Model/ConnectLink.lean`):

    * `i : Inputs`               the inputs of the connection phase: the `WebSocket` object (target,
                                 proxies mapping, upgrade request), the outcome of `getaddrinfo` and of
                                 every address for the one `_connect_sock` call, the outcome of every
                                 `sendall`, the proxy's reply as a script of `recv` results, the outcome of
                                 the TLS wrap over the tunnel and of the selector's constructor;
    * `connectOutcome i`         the `ConnOutcome` that `_connect()` produces for them;
    * `coreCfg base i`           the core configuration of that connection (`base` supplies everything
                                 that is not about connecting: timers, masking keys, variant flags);
    * `composed base i react env`  ONE trace of the whole connection, oldest first: the core model's
                                 observations (`Item.core`), with what `_connect()` does to the world
                                 (`Item.io`: connects, the CONNECT request, reads, TLS wrap; `Item.sock`:
                                 the socket calls of `_connect_sock`) inserted where `run()` calls it.

  `proxyEnv i` is the Proxy model's environment for these inputs (its `_connect_sock` outcome is the
  result of the Connect model).  All statements are for every `base`, `i`, application `react` and
  environment script `env`.
-/
import Lomond.Proofs.ConnectLink
import Lomond.Properties.C09
import Lomond.Properties.C19


namespace Lomond.C19Core
open Lomond Lomond.Http Lomond.Core Lomond.Core.Monitor Lomond.Proxy Lomond.ConnectLink

/-! ### (a) the connect outcome and the events of `Core.run` -/

/-- **The connect outcome of the core model is the verdict of the Proxy model.**  With a proxy chosen
    for the scheme: `_connect()` hands `run()` a socket — outcome `ok true`, or `selFail true` when the
    selector's constructor then raises — exactly when the tunnel comes up (`TunnelUp`: usable proxy URL,
    a target host, connect and CONNECT succeed, the reads deliver a complete 200 reply before any stop
    (`C19_tunnel_iff`), TLS succeeds for wss); it fails — `socketFail` or `otherFail`, both reported as
    `ConnectFail` — exactly in the failure classes of `C19_fail_writes_nothing`; and the failure is a
    `_SocketFail` (rather than an exception caught by `except Exception`) exactly when the proxy URL is
    usable and the proxy cannot be reached: the name does not resolve or no address connects
    (`C09.all_addresses_tried`). -/
theorem connect_outcome_is_tunnel_verdict (i : Inputs) (purl : Str) (hc : proxyChoice i.ws = some purl) :
    (TunnelUp i.ws (proxyEnv i) purl ↔
      connectOutcome i = (if i.selOk then .ok true else .selFail true)) ∧
    (TunnelFails i.ws (proxyEnv i) purl ↔
      (connectOutcome i = .socketFail ∨ connectOutcome i = .otherFail)) ∧
    (connectOutcome i = .socketFail ↔
      (∃ u p, parseUrl purl = some u ∧ u.port = some p) ∧
      (i.gai = none ∨ ∃ addrs, i.gai = some addrs ∧ ∀ a ∈ addrs, a ≠ .ok)) := by
  obtain ⟨h1, h3⟩ := connectResult_proxy i purl hc
  have hso : sockOk i = false ↔ (i.gai = none ∨ ∃ addrs, i.gai = some addrs ∧ ∀ a ∈ addrs, a ≠ .ok) := by
    rw [← (C09.all_addresses_tried i.gai).1]
    exact sockOk_false_iff i
  have hup : TunnelUp i.ws (proxyEnv i) purl ↔ connectOutcome i = (if i.selOk then .ok true else .selFail true) := by
    rw [← h1]
    unfold connectOutcome
    constructor
    · intro h; rw [h]; rfl
    · intro h
      cases hr : connectResult i with
      | sock q => rw [connectResult_sock_eq i q hr, hc]
      | socketFail => rw [hr] at h; cases hsel : i.selOk <;> rw [hsel] at h <;> cases h
      | otherFail => rw [hr] at h; cases hsel : i.selOk <;> rw [hsel] at h <;> cases h
  refine ⟨hup, ?_, ?_⟩
  · constructor
    · exact fun hf => (connectOutcome_fails_iff i).mpr (fails_not_connects hc hf)
    · intro hf
      rcases tunnelUp_or_fails i.ws (proxyEnv i) purl with h | h
      · exact absurd ⟨_, h1.mpr h⟩ ((connectOutcome_fails_iff i).mp hf)
      · exact h
  · rw [← hso, ← h3]
    exact connectOutcome_socketFail_iff i

/-- **`Core.run` yields `ConnectFail` for a failed connect exactly when the Proxy model fails.**  With a
    proxy chosen, the run of the core model on the linked configuration contains the event
    `ConnectFail("connect-failed")` iff the tunnel fails (any class of `TunnelFails`) — unless the
    application had stopped iterating at `Connecting`, before `_connect()` is called.  Then the events are
    exactly `Connecting, ConnectFail` (`C09.terminal_kind_connectFail`: nothing precedes it but
    `Connecting`, nothing follows). -/
theorem connectFail_iff_tunnel_fails (base : Core.Cfg) (i : Inputs) (react : React) (env : List EnvStep)
    (purl : Str) (hc : proxyChoice i.ws = some purl) :
    (Event.connectFail "connect-failed" ∈ C09.eventsOf (coreCfg base i) react env ↔
      (TunnelFails i.ws (proxyEnv i) purl ∧ ¬ StopsAtConnecting react)) ∧
    (Event.connectFail "connect-failed" ∈ C09.eventsOf (coreCfg base i) react env →
      C09.eventsOf (coreCfg base i) react env = [.connecting, .connectFail "connect-failed"]) := by
  have hfail : TunnelFails i.ws (proxyEnv i) purl ↔ ¬ Connects i := by
    rw [(connect_outcome_is_tunnel_verdict i purl hc).2.1]
    exact connectOutcome_fails_iff i
  rw [C09.eventsOf, ← evs_composed, hfail]
  exact connectFailed_iff base i react env

/-- **`Connected(proxy=…)` reports the proxy exactly when the tunnel came up through it.**  Whenever the
    run of the core model on the linked configuration yields `Connected p`: `p` says whether a proxy is
    configured for the scheme; with a proxy (`p = true`) the tunnel is up — in particular the proxy
    answered with a complete 200 reply (`C19_tunnel_iff`) before the upgrade request, which precedes this
    event, was written; without (`p = false`) `_connect_sock` connected some address of the target
    (`C09.all_addresses_tried`: the first that connects). -/
theorem connected_reports_tunnel (base : Core.Cfg) (i : Inputs) (react : React) (env : List EnvStep) (p : Bool)
    (h : Event.connected p ∈ C09.eventsOf (coreCfg base i) react env) :
    p = (proxyChoice i.ws).isSome ∧
    (∀ purl, proxyChoice i.ws = some purl →
      TunnelUp i.ws (proxyEnv i) purl ∧ Reply200 (rxStop i.reads) ∧ (readLoop i.reads []).2 = .ok ()) ∧
    (proxyChoice i.ws = none → ∃ k, (Connect.connectSock i.gai).1 = .sock k) ∧
    i.writeFails (sentBefore i) = false := by
  rw [C09.eventsOf, ← evs_composed] at h
  rcases evs_composed_cases base i react env with ⟨hs, e⟩ | ⟨hs, hnc, e⟩ | ⟨hs, q, hq, ⟨e, _⟩ | ⟨hwf, E, e⟩⟩
  · rw [e] at h; simp at h
  · rw [e] at h; simp at h
  · rw [e] at h; simp at h
  · -- `Connected` is yielded once, as the second event
    obtain ⟨ph, hph⟩ := runAll_accepted (coreCfg base i) react env
    have hph' : Mon.run .start (evs (composed base i react env)) = some ph := by rw [evs_composed]; exact hph
    rw [e] at h hph'
    have hp : p = q.isSome := by
      simp only [List.mem_cons, reduceCtorEq, false_or, Event.connected.injEq] at h
      rcases h with h | h
      · exact h
      · -- a second `Connected` is rejected by the monitor
        exfalso
        have h1 : Mon.run .start (.connecting :: .connected q.isSome :: E) = Mon.run .connected E := rfl
        rw [h1] at hph'
        exact no_connected_later E .connected ph (by decide) hph' p h
    subst hp
    cases hc : proxyChoice i.ws with
    | none =>
      have hd := connectResult_direct i hc
      rw [hd] at hq
      cases hs : sockOk i with
      | false => rw [hs] at hq; cases hq
      | true =>
        rw [hs] at hq; cases hq
        exact ⟨rfl, fun purl h => (by cases h), fun _ => (sockOk_true_iff i).mp hs, hwf⟩
    | some purl =>
      have hup := (connects_proxy hc hq).1
      have hq' : q = some purl := by rw [connectResult_sock_eq i q hq, hc]
      subst hq'
      refine ⟨rfl, fun purl' h => ?_, fun h => (by cases h), hwf⟩
      cases h
      exact ⟨hup, hup.reply, (C19.C19_tunnel_iff i.reads).mpr hup.reply⟩

/-- **… and conversely** (for an application that does nothing at `Connecting`): the run yields
    `Connected(proxy)` with a proxy iff a proxy is configured for the scheme, the tunnel comes up, and the
    upgrade request — the second `sendall` of the connection — can be written; it yields
    `Connected(proxy=None)` iff no proxy is configured, some address of the target connects, and the upgrade
    request — the first `sendall` — can be written. -/
theorem connected_iff_tunnel_up (base : Core.Cfg) (i : Inputs) (react : React) (env : List EnvStep)
    (hre : react [.connecting] = []) :
    (Event.connected true ∈ C09.eventsOf (coreCfg base i) react env ↔
      ∃ purl, proxyChoice i.ws = some purl ∧ TunnelUp i.ws (proxyEnv i) purl ∧ i.writeFails 1 = false) ∧
    (Event.connected false ∈ C09.eventsOf (coreCfg base i) react env ↔
      proxyChoice i.ws = none ∧ (∃ k, (Connect.connectSock i.gai).1 = .sock k) ∧ i.writeFails 0 = false) := by
  have hns : ¬ StopsAtConnecting react := by rintro ⟨w, hw⟩; rw [hre] at hw; cases hw
  -- when `_connect()` returns a socket and the request can be written, `Connected` is the second event
  have back : ∀ q, connectResult i = .sock q → i.writeFails (sentBefore i) = false →
      Event.connected q.isSome ∈ evs (composed base i react env) := by
    intro q hq hwf
    rcases evs_composed_cases base i react env with ⟨hs, _⟩ | ⟨_, hnc, _⟩ | ⟨_, q', hq', ⟨_, h | h⟩ | ⟨_, E, e⟩⟩
    · exact absurd hs hns
    · exact absurd ⟨q, hq⟩ hnc
    · exact absurd hre h
    · rw [hwf] at h; cases h
    · rw [hq] at hq'; cases hq'
      rw [e]; simp
  constructor
  · constructor
    · intro h
      obtain ⟨hp, hup, _, hwf⟩ := connected_reports_tunnel base i react env true h
      cases hc : proxyChoice i.ws with
      | none => rw [hc] at hp; cases hp
      | some purl =>
        rw [sentBefore, hc] at hwf
        exact ⟨purl, rfl, (hup purl hc).1, hwf⟩
    · rintro ⟨purl, hc, hup, hwf⟩
      have hq := (connectResult_proxy i purl hc).1.mpr hup
      rw [C09.eventsOf, ← evs_composed]
      exact back (some purl) hq (by rw [sentBefore, hc]; exact hwf)
  · constructor
    · intro h
      obtain ⟨hp, _, hdir, hwf⟩ := connected_reports_tunnel base i react env false h
      cases hc : proxyChoice i.ws with
      | some purl => rw [hc] at hp; cases hp
      | none =>
        rw [sentBefore, hc] at hwf
        exact ⟨rfl, hdir hc, hwf⟩
    · rintro ⟨hc, ⟨k, hk⟩, hwf⟩
      have hso : sockOk i = true := (sockOk_true_iff i).mpr ⟨k, hk⟩
      have hq : connectResult i = .sock none := by rw [connectResult_direct i hc, hso]; rfl
      rw [C09.eventsOf, ← evs_composed]
      exact back none hq (by rw [sentBefore, hc]; exact hwf)

/-! ### (b) the composed trace -/

/-- **The composed trace is conservative**: its core observations are exactly the trace of the core model
    on the linked configuration (so every theorem about `Core.runAll` speaks about it), and — unless the
    application stops at `Connecting`, when `_connect()` is never called and nothing of the connection phase
    appears — its connection-phase actions are exactly what `_connect()` does in the Proxy model. -/
theorem composed_projections (base : Core.Cfg) (i : Inputs) (react : React) (env : List EnvStep) :
    coreLog (composed base i react env) = (runAll (coreCfg base i) react env).trace.reverse ∧
    (¬ StopsAtConnecting react → ioLog (composed base i react env) = connectLog i) ∧
    (StopsAtConnecting react → ioLog (composed base i react env) = [] ∧ sockLog (composed base i react env) = []) := by
  refine ⟨coreLog_composed base i react env, fun hs => ?_, fun hs => ?_⟩
  · rcases composed_cut base i react env with ⟨hs', _⟩ | ⟨_, c0, T, e, n0, _⟩
    · exact absurd hs' hs
    · rw [e, ioLog_cut]
  · rcases composed_cut base i react env with ⟨_, c0, e, _⟩ | ⟨hs', _⟩
    · rw [e]
      refine ⟨ioLog_core _, ?_⟩
      rw [sockLog_eq, List.filterMap_map]
      exact List.filterMap_eq_nil_iff.mpr fun _ _ => rfl
    · exact absurd hs hs'

/-- **The Proxy model's log is the beginning of the composed trace.**  For an application that does
    nothing at `Connecting`, `Proxy.run` on the linked environment — the object of every theorem of
    `Properties/C19.lean` — is a prefix of the composed trace seen through `view` (which maps the core
    model's `Connecting` / `ConnectFail` / `Connected` / upgrade-request write to the Proxy model's items
    and drops what that model does not log: socket-module calls, the socket close, results of application
    calls). -/
theorem proxy_run_is_prefix_of_composed (base : Core.Cfg) (i : Inputs) (react : React) (env : List EnvStep)
    (hre : react [.connecting] = []) :
    Proxy.run i.ws (proxyEnv i) <+: (composed base i react env).filterMap (view i) :=
  run_prefix_view base i react env hre

/-- **C19 over the composed trace: nothing of the core model is written before the proxy has answered
    200.**  With a proxy chosen, whenever the composed trace contains a `sendall` of the core model — the
    upgrade request, any frame — then before it: the whole connection phase has taken place (`pre` begins
    with `Connecting`, the application's reaction, and then all of `_connect()`), its reads have delivered
    a complete 200 reply within the size limit, the CONNECT request was written (successfully, on the plain
    socket) and is the only write of that phase; and the tunnel is up in the sense of the Proxy model. -/
theorem composed_no_handshake_before_200 (base : Core.Cfg) (i : Inputs) (react : React) (env : List EnvStep)
    (purl : Str) (hc : proxyChoice i.ws = some purl)
    (pre post : List Item) (x : Item) (hsplit : composed base i react env = pre ++ x :: post)
    (hx : x.isCoreWrite = true) :
    (∃ c0 r, pre = (Obs.ev .connecting :: c0).map .core ++ phaseItems i ++ r ∧ ioLog r = []) ∧
    ioLog pre = connectLog i ∧
    Reply200 (received (ioLog pre)) ∧
    (∃ req, connectRequestOf i.ws purl = some req ∧ writes (ioLog pre) = [.write false req true]) ∧
    TunnelUp i.ws (proxyEnv i) purl := by
  have hxm : x ∈ composed base i react env := by rw [hsplit]; simp
  rcases composed_cut base i react env with ⟨_, c0, e, n0⟩ | ⟨_, c0, T, e, n0, hT⟩
  · -- stopped at `Connecting`: nothing is written
    rw [e] at hxm
    rw [noCW_connecting n0 x hxm] at hx; cases hx
  · -- the write lies after the cut
    obtain ⟨r, hr, hr2⟩ := prefix_of_split Item.isCoreWrite (hsplit.symm.trans e) hx (noCW_head i n0)
    have hior : ioLog r = [] := by
      have : ioLog (r ++ x :: post) = [] := by rw [hr2]; exact ioLog_core _
      rw [ioLog_append] at this
      exact (List.append_eq_nil_iff.mp this).1
    have hio : ioLog pre = connectLog i := by
      rw [hr, ioLog_append, ioLog_append, ioLog_core, ioLog_phaseItems, hior]; simp
    -- so `_connect()` had returned a socket: the tunnel is up and the log is the whole dialogue
    obtain ⟨o, hoT, rfl⟩ : ∃ o ∈ T, x = .core o := by
      have : x ∈ T.map Item.core := by rw [← hr2]; simp
      obtain ⟨o, ho, rfl⟩ := List.mem_map.mp this
      exact ⟨o, ho, rfl⟩
    obtain ⟨q, hq⟩ := hT.connects_of_write hoT hx
    obtain ⟨hup, u, p, req, _, _, hreq, hlog⟩ := connects_proxy hc hq
    refine ⟨⟨c0, r, hr, hior⟩, hio, ?_, ⟨req, hreq, ?_⟩, hup⟩
    · rw [hio, hlog]; exact upLog_reply200 hup u p req
    · rw [hio, hlog, upLog_writes]

/-- **C19 over the composed trace: when the tunnel fails, nothing of the core model is written.**  With a
    proxy chosen and the tunnel failing (any class of `TunnelFails`): no item of the composed trace is a
    `sendall` of the core model — not one byte of the upgrade request —, the events are `Connecting` and
    (unless the application stopped there) `ConnectFail`, no `Connected`; and the whole connection has at
    most one `sendall`: the CONNECT request on the plain socket. -/
theorem composed_fail_writes_nothing (base : Core.Cfg) (i : Inputs) (react : React) (env : List EnvStep)
    (purl : Str) (hc : proxyChoice i.ws = some purl) (hf : TunnelFails i.ws (proxyEnv i) purl) :
    (∀ x ∈ composed base i react env, x.isCoreWrite = false) ∧
    evs (composed base i react env) <+: [.connecting, .connectFail "connect-failed"] ∧
    (sends (composed base i react env)).length ≤ 1 ∧
    (∀ w ∈ sends (composed base i react env), ∃ req ok,
      connectRequestOf i.ws purl = some req ∧ w = .io (.write false req ok)) := by
  have hnc : ¬ Connects i := fails_not_connects hc hf
  have hwr : (writes (connectLog i)).length ≤ 1 ∧
      ∀ w ∈ writes (connectLog i), ∃ req ok, connectRequestOf i.ws purl = some req ∧ w = .write false req ok := by
    rw [connectLog_proxy i purl hc]
    exact connectProxy_writes_le i.ws (proxyEnv i) purl
  have hev : evs (composed base i react env) <+: [.connecting, .connectFail "connect-failed"] := by
    rcases evs_composed_cases base i react env with ⟨_, e⟩ | ⟨_, _, e⟩ | ⟨_, q, hq, _⟩
    · rw [e]; exact ⟨[_], rfl⟩
    · rw [e]; exact List.prefix_refl _
    · exact absurd ⟨q, hq⟩ hnc
  rcases composed_cut base i react env with ⟨_, c0, e, n0⟩ | ⟨_, c0, T, e, n0, hT⟩
  · rw [e, sends_connecting n0]
    exact ⟨noCW_connecting n0, e ▸ hev, Nat.zero_le _, nofun⟩
  · have hsT : sends (T.map Item.core) = [] := by
      rcases hT.coreSends with h | ⟨q, hq, _⟩
      · exact h
      · exact absurd ⟨q, hq⟩ hnc
    refine ⟨fun x hx => ?_, hev, ?_, ?_⟩
    · rw [e] at hx
      rcases List.mem_append.mp hx with h | h
      · exact noCW_head i n0 x h
      · obtain ⟨o, ho, rfl⟩ := List.mem_map.mp h
        cases hw : Item.isCoreWrite (.core o) with
        | false => rfl
        | true => exact absurd (hT.connects_of_write ho hw) hnc
    · rw [e, sends_cut i n0, hsT, List.append_nil, List.length_map]; exact hwr.1
    · rw [e, sends_cut i n0, hsT, List.append_nil]
      intro w hw
      obtain ⟨y, hy, rfl⟩ := List.mem_map.mp hw
      obtain ⟨req, ok, h1, h2⟩ := hwr.2 y hy
      exact ⟨req, ok, h1, by rw [h2]⟩

/-- **The `sendall`s of the composed connection, in order.**  With a proxy chosen there are three
    possibilities, whatever the application and the environment do: nothing is ever sent; or exactly one
    thing, the CONNECT request on the plain socket (`C19_connect_names_target`: it names the target host and
    port); or the CONNECT request went out, the reads delivered a complete 200 reply (the tunnel is up) and
    the next `sendall` — the first of the core model — is the upgrade request `WebSocket.build_request()`
    (successful, or raising), followed by whatever the core model writes later.  In particular every byte
    the Proxy model writes precedes every byte the core model writes. -/
theorem composed_wire (base : Core.Cfg) (i : Inputs) (react : React) (env : List EnvStep)
    (purl : Str) (hc : proxyChoice i.ws = some purl) :
    sends (composed base i react env) = [] ∨
    ∃ req, connectRequestOf i.ws purl = some req ∧
      ((∃ ok, sends (composed base i react env) = [.io (.write false req ok)]) ∨
       (TunnelUp i.ws (proxyEnv i) purl ∧ Reply200 (rxStop i.reads) ∧
        ∃ w rest, sends (composed base i react env) = .io (.write false req true) :: .core w :: rest ∧
          (w = .wr i.ws.request ∨ w = .wrFail i.ws.request) ∧ ∀ z ∈ rest, z.isCoreWrite = true)) := by
  rcases composed_cut base i react env with ⟨_, c0, e, n0⟩ | ⟨_, c0, T, e, n0, hT⟩
  · exact .inl (by rw [e, sends_connecting n0])
  rw [e, sends_cut i n0, connectLog_proxy i purl hc]
  rcases hT.coreSends with hT0 | ⟨q, hq, hT1⟩
  · -- the core model sends nothing: at most the CONNECT request
    rw [hT0, List.append_nil]
    rcases connectProxy_writes i.ws (proxyEnv i) purl with h | ⟨req, ok, hreq, h⟩ <;> rw [h]
    · exact .inl rfl
    · exact .inr ⟨req, hreq, .inl ⟨ok, rfl⟩⟩
  · -- `_connect()` returned a socket: the tunnel is up, the CONNECT request went out
    obtain ⟨hup, u, p, req, _, _, hreq, hlog⟩ := connects_proxy hc hq
    rw [← connectLog_proxy i purl hc, hlog, upLog_writes]
    refine .inr ⟨req, hreq, .inr ⟨hup, hup.reply, ?_⟩⟩
    rcases hT1 with h | ⟨X, h⟩ <;> rw [h]
    · exact ⟨_, [], rfl, .inr rfl, nofun⟩
    · refine ⟨_, sends (X.map Item.core), rfl, .inl rfl, fun z hz => ?_⟩
      obtain ⟨hz1, hz2⟩ := List.mem_filter.mp hz
      obtain ⟨o, _, rfl⟩ := List.mem_map.mp hz1
      exact hz2

/-! ### finding D11: the socket that had connected to the proxy, when the tunnel fails -/

/-- **What becomes of the proxy socket when the tunnel fails after the TCP connect — both code shapes.**  With
    a proxy chosen, a usable proxy URL, `_connect_sock` returning the socket of address `k`, and the tunnel
    failing afterwards (no target host, CONNECT `sendall`, `recv`, reply, TLS wrap), the composed trace is
    exactly: `Connecting`, the application's reaction, the connection-phase log with the address loop's
    socket calls, then — in the repaired shape (`pclose`) — the close of socket `k`, then `ConnectFail`.  In the
    pinned shape nothing closes that socket: neither a `close k` nor the session's `sockClose` occurs anywhere
    in the trace, although `ConnectFail` is delivered (C09's "… and the socket is closed" fails; see
    `C09Connect.composed_fail_closes_socket` / `proxy_socket_left_open_witness`). -/
theorem tunnel_failure_closes_proxy_socket (base : Core.Cfg) (i : Inputs) (react : React) (env : List EnvStep)
    (purl : Str) (hc : proxyChoice i.ws = some purl) (hf : TunnelFails i.ws (proxyEnv i) purl)
    (hurl : ∃ u p, parseUrl purl = some u ∧ u.port = some p)
    (k : Nat) (hk : (Connect.connectSock i.gai).1 = .sock k) (hns : ¬ StopsAtConnecting react) :
    (∃ c0 c1, composed base i react env =
        (Obs.ev .connecting :: c0).map .core ++ (connectLog i).flatMap (expand i) ++
        (if i.pclose then [Item.sock (.close k)] else []) ++
        (Obs.ev (.connectFail "connect-failed") :: c1).map .core ∧
      (∀ o ∈ c0, isRes o = true) ∧ (∀ o ∈ c1, isRes o = true)) ∧
    (i.pclose = false →
      Item.sock (.close k) ∉ composed base i react env ∧ Item.core .sockClose ∉ composed base i react env) := by
  have hnc : ¬ Connects i := fails_not_connects hc hf
  have hne := connectLog_nonempty i purl hc hurl
  have hcl : closeItems i = if i.pclose then [Item.sock (.close k)] else [] := by
    rw [closeItems_fail i hnc k hk, hne]; simp
  rcases composed_cut base i react env with ⟨hs, _⟩ | ⟨_, c0, T, e, n0, hT⟩
  · exact absurd hs hns
  · obtain ⟨c1, rfl, n1⟩ := hT.of_not_connects hnc
    rw [e]
    have hph : phaseItems i = (connectLog i).flatMap (expand i) ++ (if i.pclose then [Item.sock (.close k)] else []) := by
      unfold phaseItems; rw [hcl]
    refine ⟨⟨c0, c1, by rw [hph]; simp [List.append_assoc], n0, n1⟩, fun hp => ?_⟩
    rw [hph, hp]
    simp only [Bool.false_eq_true, ↓reduceIte, List.append_nil]
    -- the only socket-module items are the address loop's calls, and the loop closes only sockets whose connect() failed
    have hnoclose : Connect.Call.close k ∉ (Connect.connectSock i.gai).2 := by
      intro hm
      obtain ⟨addrs, hg, hok, _⟩ := ((C09.all_addresses_tried i.gai).2.1 k).mp hk
      have := ((C09.all_addresses_tried i.gai).2.2 addrs hg).2.2.2 k |>.mp hm
      rw [hok] at this
      cases this.2
    constructor
    · intro hm
      rcases List.mem_append.mp hm with h | h
      · rcases List.mem_append.mp h with h | h
        · obtain ⟨o, _, ho⟩ := List.mem_map.mp h; cases ho
        · exact hnoclose (sock_mem_flatMap_expand i _ _ h)
      · obtain ⟨o, _, ho⟩ := List.mem_map.mp h; cases ho
    · intro hm
      rcases List.mem_append.mp hm with h | h
      · rcases List.mem_append.mp h with h | h
        · obtain ⟨o, ho, he⟩ := List.mem_map.mp h
          cases he
          rcases List.mem_cons.mp ho with h' | h'
          · cases h'
          · have := n0 _ h'; cases this
        · obtain ⟨y, _, hy⟩ := List.mem_flatMap.mp h
          cases y <;> simp [expand] at hy
      · obtain ⟨o, ho, he⟩ := List.mem_map.mp h
        cases he
        rcases List.mem_cons.mp ho with h' | h'
        · cases h'
        · have := n1 _ h'; cases this

/-! ### Non-vacuity: concrete connections through the Proxy model's example configurations -/

section Examples
open Lomond.C19

/-- inputs: `cfgWs` (through an `http://` proxy); the proxy's name resolves to two addresses, the second of which
    connects; the proxy's reply arrives in two reads -/
def inOk : Inputs :=
  { ws := cfgWs, gai := some [.connectFail, .ok], writeFails := fun _ => false,
    reads := [.data (ok200.take 7), .data (ok200.drop 7)], wrapOk := true, selOk := true }
/-- the proxy answers 407 -/
def in407 : Inputs := { inOk with reads := [.data no407] }
/-- the proxy cannot be reached: no address connects -/
def inDown : Inputs := { inOk with gai := some [.connectFail, .sockCreateFail] }

example : proxyChoice inOk.ws = some (ofString "http://user:pw@Proxy.example:3128") := by decide +kernel
example : connectOutcome inOk = .ok true ∧ connectOutcome { inOk with selOk := false } = .selFail true := by decide +kernel
example : connectOutcome in407 = .otherFail ∧ connectOutcome inDown = .socketFail := by decide +kernel
example : TunnelUp inOk.ws (proxyEnv inOk) (ofString "http://user:pw@Proxy.example:3128") :=
  ⟨⟨{ scheme := ofString "http", netloc := ofString "user:pw@Proxy.example:3128" }, some 3128, by decide +kernel, by decide +kernel⟩,
   by decide +kernel, rfl, rfl, by decide +kernel, by decide +kernel⟩
example : TunnelFails in407.ws (proxyEnv in407) (ofString "http://user:pw@Proxy.example:3128") :=
  .reply (by decide +kernel)

/-- the whole composed trace of a connection through the proxy whose server then closes the stream:
    `Connecting`, connect to the proxy (two addresses tried, the refused socket closed), CONNECT, two reads,
    then — and only then — the upgrade request of the core model, `Connected(proxy)`, and the end -/
example : (composed {} inOk (fun _ => []) [.wait 0 (some .eof)]).map Item.isWrite =
    [false, false, false, false, false, false, false, true, false, false, true, false, false, false, false] := by
  decide +kernel
example : evs (composed {} inOk (fun _ => []) [.wait 0 (some .eof)]) =
    [.connecting, .connected true, .disconnected "connection-lost" false] := by decide +kernel
example : sockLog (composed {} inOk (fun _ => []) [.wait 0 (some .eof)]) =
    [.socket 0, .connect 0, .close 0, .socket 1, .connect 1] := by decide +kernel
/-- a 407: one `sendall` (CONNECT), `ConnectFail`, nothing of the core model on the wire -/
example : (sends (composed {} in407 (fun _ => []) [])).length = 1 ∧
    evs (composed {} in407 (fun _ => []) []) = [.connecting, .connectFail "connect-failed"] := by decide +kernel
/-- finding D11, both shapes: after the 407 the repaired `_connect_proxy` closes socket 1 (the one that had
    connected) before `ConnectFail`; the pinned shape does not -/
example : (composed {} in407 (fun _ => []) []).drop 9 =
    [.sock (.close 1), .core (.ev (.connectFail "connect-failed"))] := by decide +kernel
example : (composed {} { in407 with pclose := false } (fun _ => []) []).drop 9 =
    [.core (.ev (.connectFail "connect-failed"))] := by decide +kernel
/-- an application that stops at `Connecting`: `_connect()` is never called -/
example : composed {} inOk (fun h => if h.length = 1 then [.abandon false] else []) [] =
    [.core (.ev .connecting)] := by decide +kernel
example : StopsAtConnecting (fun h => if h.length = 1 then [.abandon false] else []) := ⟨false, by decide +kernel⟩
/-- the view of the composed trace begins with the Proxy model's log -/
example : Proxy.run inOk.ws (proxyEnv inOk) <+:
    (composed {} inOk (fun _ => []) [.wait 0 (some .eof)]).filterMap (view inOk) := by decide +kernel

end Examples

end Lomond.C19Core
