/-
  C11, source structure: the thread model (`Model/Threads.lean`) lets the event-loop thread receive and decompress
  messages WITHOUT taking the write lock, and treats the compressor (`Deflate._compressobj`) as touched only by senders
  holding that lock.  That is a statement about `lomond/compression.py`; it is established over a fact the translator
  re-extracts on every run (`Gen.deflateTouches`: for each method of `Deflate`, the attributes of `self` it assigns,
  directly or through `self.<method>()` calls).
-/
import Lomond.Generated.Facts

namespace Lomond.C11Src
open Lomond

def touches (m : String) : List String :=
  ((Gen.deflateTouches.find? (fun t => t.1 == m)).map (·.2)).getD ["<method not found>"]

/-- the receive path (`decompress`, `_inflate`, `reset_decompressor`) never assigns the compressor or its parameters -/
theorem receive_path_leaves_compressor_alone :
    ∀ m ∈ ["decompress", "_inflate", "reset_decompressor"], ∀ a ∈ touches m,
      a ∈ ["_decompressobj", "_window"] := by
  decide +kernel

/-- the send path (`compress`, `reset_compressor`) never assigns the decompressor's state -/
theorem send_path_leaves_decompressor_alone :
    ∀ m ∈ ["compress", "reset_compressor"], ∀ a ∈ touches m, a = "_compressobj" := by
  decide +kernel

/-- the methods exist and do assign what they are meant to (the lists above are not empty by accident) -/
theorem paths_present :
    "_compressobj" ∈ touches "compress" ∧ "_decompressobj" ∈ touches "decompress" ∧
    "_compressobj" ∈ touches "reset_compressor" ∧ "_decompressobj" ∈ touches "reset_decompressor" := by
  decide +kernel

end Lomond.C11Src
