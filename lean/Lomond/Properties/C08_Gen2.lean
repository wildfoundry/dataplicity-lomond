/-
  C08 companion 2 — after the closing handshake nothing more is fed, and a lost connection is a
  failure only while the websocket is active: what websocket.py says.

  Produced by harness/py2lean.py from the source on every check run: `wsFeedGuard` (the first
  statement of `WebSocket.feed`: `if self.is_closed: return`) and `wsIsActive` (the property
  `WebSocket.is_active`, read by `WebsocketSession.run` when `_recv` returned no data).
  The theorems state that `Core.wsFeed` and `Core.onEof` decide exactly like these.
-/
import Lomond.Proofs.GenTie
import Lomond.Generated.Code

namespace Lomond.C08Gen2
open Lomond Lomond.Core Lomond.GenTie
open Lomond.Gen.Code

/-- the data goes to the stream iff the websocket is not closed (the `closing` flag plays no part) -/
theorem gen_feedGuard_spec (closed closing : Bool) : wsFeedGuard closed closing = !closed := by
  cases closed <;> rfl

/-- active = neither closing nor closed -/
theorem gen_isActive_spec (closed closing : Bool) : wsIsActive closed closing = (!closing && !closed) := by
  cases closed <;> cases closing <;> rfl

/-- `Core.wsFeed` starts with the translated guard of `WebSocket.feed`: a closed websocket drops
    the data without touching the stream; otherwise the `try` body and its handlers run -/
theorem gen_wsFeed (data : Bytes) (s : Sys) :
    wsFeed data s =
      if wsFeedGuard s.closed s.closing then tryC (tryC (feedBody data) feedHandler) unwrapOuter s
      else .ok () s := by
  rw [gen_feedGuard_spec]
  unfold wsFeed
  cases s.closed <;> simp

/-- `Core.onEof` (`_recv` returned no data) raises `connection lost` exactly when the translated
    `is_active` holds; otherwise the loop is left by `break` -/
theorem gen_onEof (s : Sys) :
    onEof s =
      if wsIsActive s.closed s.closing then .err (.socketFail "connection-lost") s else .ok false s := by
  rw [gen_isActive_spec]
  unfold onEof
  cases s.closed <;> cases s.closing <;> simp

example : wsFeedGuard true false = false := rfl
example : wsFeedGuard false true = true := rfl
example : wsIsActive false false = true := rfl
example : wsIsActive false true = false := rfl
example : wsIsActive true false = false := rfl

end Lomond.C08Gen2
