/-
  C10 companion — the accept value is the SHA-1 digest of the key that was sent.

  `Properties/C10.lean` states "Ready iff a correct upgrade reply" for an arbitrary expected accept
  value `ch`.  This file closes the gap between `ch` and the request: the model *computes* the
  expected value (`Handshake.acceptFor key = b64encode (sha1 (key ++ WS_KEY))`, SHA-1 in
  `Model/Sha1.lean`, the GUID regenerated from `lomond/constants.py`) from the very key the request of
  the same attempt carries (`Handshake.nthChallenge`, `Client.attemptCfg`, `cfgOfRequest`).

  Nothing is (or can be) proved about SHA-1's cryptographic quality.  What is proved: which function
  of which key the comparison uses; the function's value on the FIPS 180 / RFC 6455 test vectors (kernel
  evaluation); its output sizes.  That `acceptFor` is the function `hashlib`/`base64` compute is
  checked differentially on every run (`harness/props/c10.py`, ops `http sha1` / `http accept`).
-/
import Lomond.Properties.C10
import Lomond.Properties.C10_Gen
import Lomond.Proofs.Sha1
import Lomond.Proofs.StrLit

namespace Lomond.C10Digest
open Lomond Lomond.Http Lomond.Handshake Lomond.Spec Lomond.Core Lomond.C10

/-! ## 1. the function: test vectors (kernel evaluation) and sizes -/

/-- FIPS 180 example "abc" (one block) -/
theorem sha1_abc : Sha1.sha1 (lit "abc") =
    [0xa9, 0x99, 0x3e, 0x36, 0x47, 0x06, 0x81, 0x6a, 0xba, 0x3e, 0x25, 0x71, 0x78, 0x50, 0xc2, 0x6c, 0x9c, 0xd0, 0xd8, 0x9d] := by
  decide +kernel

/-- the empty message -/
theorem sha1_empty : Sha1.sha1 [] =
    [0xda, 0x39, 0xa3, 0xee, 0x5e, 0x6b, 0x4b, 0x0d, 0x32, 0x55, 0xbf, 0xef, 0x95, 0x60, 0x18, 0x90, 0xaf, 0xd8, 0x07, 0x09] := by
  decide +kernel

/-- FIPS 180 example of 56 bytes (two blocks: the length field no longer fits into the first) -/
theorem sha1_two_blocks : Sha1.sha1 (lit "abcdbcdecdefdefgefghfghighijhijkijkljklmklmnlmnomnopnopq") =
    [0x84, 0x98, 0x3e, 0x44, 0x1c, 0x3b, 0xd2, 0x6e, 0xba, 0xae, 0x4a, 0xa1, 0xf9, 0x51, 0x29, 0xe5, 0xe5, 0x46, 0x70, 0xf1] := by
  rw [lit_ofList]
  decide +kernel

/-- the constant the translator reads out of `lomond/constants.py` is the GUID of RFC 6455 §1.3 -/
theorem wsKey_is_rfc_guid : Gen.wsKey = lit "258EAFA5-E914-47DA-95CA-C5AB0DC85B11" := by
  rw [lit_ofList]
  decide +kernel

/-- RFC 6455 §1.3: the key `dGhlIHNhbXBsZSBub25jZQ==` is answered by `s3pPLMBiTxaQ9kYGzzhZRbK+xOo=` -/
theorem accept_rfc6455_example :
    acceptFor (lit "dGhlIHNhbXBsZSBub25jZQ==") = lit "s3pPLMBiTxaQ9kYGzzhZRbK+xOo=" := by
  rw [lit_ofList, lit_ofList]
  decide +kernel

/-- … and that key is the base64 text of the 16 bytes `the sample nonce` -/
theorem key_rfc6455_example : b64encode (lit "the sample nonce") = lit "dGhlIHNhbXBsZSBub25jZQ==" := by
  rw [lit_ofList, lit_ofList]
  decide +kernel

/-- the digest has 20 bytes, each `< 256`, whatever the message -/
theorem sha1_size (msg : Bytes) : (Sha1.sha1 msg).length = 20 ∧ Bytes.WF (Sha1.sha1 msg) :=
  ⟨Sha1.sha1_length msg, Sha1.sha1_wf msg⟩

/-- the message is padded to a whole number of 64-byte blocks: itself, `0x80`, fewer than 64 zero bytes,
    8 length bytes -/
theorem sha1_padding (msg : Bytes) :
    (Sha1.pad msg).length % 64 = 0 ∧ (Sha1.pad msg).take msg.length = msg ∧
    (Sha1.pad msg).length < msg.length + 9 + 64 :=
  ⟨(Sha1.pad_length msg).2.1, Sha1.pad_prefix msg, by have := Sha1.pad_length msg; omega⟩

/-- `len(b64encode(bs)) = 4 * ceil(len(bs) / 3)` -/
theorem base64_length (bs : Bytes) : (b64encode bs).length = 4 * ((bs.length + 2) / 3) := b64encode_length bs

/-- the accept value: 28 printable ASCII characters without blanks (a legal field value on which
    `.decode('ascii')` is the identity) that decode to the 20 digest bytes of `key ++ WS_KEY` -/
theorem accept_shape (key : Bytes) :
    (acceptFor key).length = 28 ∧ Solid (acceptFor key) ∧ asciiReplace (acceptFor key) = acceptFor key ∧
    b64decode (acceptFor key) = some (Sha1.sha1 (key ++ Gen.wsKey)) :=
  ⟨acceptFor_length key, acceptFor_solid key, acceptFor_ascii key, b64decode_acceptFor key⟩

/-! ## 2. the challenge is the digest of the key in the request of the same attempt -/

/-- **challenge_is_digest**.  For a client built from URL components, during the `n`-th connection attempt
    (a) the value `on_response` compares the accept header with is `acceptFor` of the base64 text of the
        `n`-th 16-byte draw;
    (b) an independent RFC 7230 reader finds exactly that text as the `Sec-WebSocket-Key` field of the request
        written by the same attempt, and every `Sec-WebSocket-Key` field that is not one of the
        application's own custom headers carries it;
    (c) hence the challenge is `acceptFor` of the key read back out of the request bytes. -/
theorem challenge_is_digest (cl : Client) (rnd : Nat → Bytes) (n : Nat)
    (hhost : Solid cl.url.host) (hpath : Solid cl.url.path) (hquery : Solid cl.url.query)
    (hagent : ValueOk cl.agent) (hprotos : ∀ p ∈ cl.protocols, p ≠ [] ∧ Solid p)
    (hcustom : ∀ p ∈ cl.customHeaders, NameOk p.1 ∧ ValueOk p.2) :
    nthChallenge rnd n = acceptFor (b64encode (rnd n)) ∧
    (∃ q, parseRequest (nthRequest cl rnd n) = some q ∧
      (keyHeaderName, b64encode (rnd n)) ∈ q.headers ∧
      ∀ h ∈ q.headers, h.1 = keyHeaderName → h ∉ cl.customHeaders → h.2 = b64encode (rnd n)) ∧
    keyOfRequest (nthRequest cl rnd n) = b64encode (rnd n) ∧
    nthChallenge rnd n = acceptFor (keyOfRequest (nthRequest cl rnd n)) := by
  have hk := keyOfRequest_nth cl rnd n hhost hpath hquery hagent hprotos hcustom
  refine ⟨nthChallenge_eq rnd n, ?_, hk, by rw [hk, nthChallenge_eq]⟩
  obtain ⟨hq, _, hmem⟩ := C10_request_for_url cl rnd n hhost hpath hquery hagent hprotos hcustom
  refine ⟨_, hq, hmem, ?_⟩
  intro h hh hname hnot
  obtain ⟨pre, post, e, hpre, hpost⟩ := requestHeaders_key (cl.reqCfg (b64encode (rnd n)))
  rw [e] at hh
  simp only [List.mem_append, List.mem_cons] at hh
  rcases hh with (hh | hh) | rfl | hh
  · exact absurd hh hnot
  · exact absurd hname (hpre h hh)
  · rfl
  · exact absurd hname (hpost h hh)

/-- **challenge_is_digest_core**: the core-model configuration of the `n`-th attempt
    (`Client.attemptCfg`; every other field is `base`'s) has `challenge = acceptFor key` and a `request` that is
    the well-formed request carrying that key; and it is the configuration the driver derives from the request
    bytes alone (`cfgOfRequest`), in which the challenge is not an input. -/
theorem challenge_is_digest_core (cl : Client) (rnd : Nat → Bytes) (n : Nat) (base : Cfg)
    (hhost : Solid cl.url.host) (hpath : Solid cl.url.path) (hquery : Solid cl.url.query)
    (hagent : ValueOk cl.agent) (hprotos : ∀ p ∈ cl.protocols, p ≠ [] ∧ Solid p)
    (hcustom : ∀ p ∈ cl.customHeaders, NameOk p.1 ∧ ValueOk p.2) :
    (cl.attemptCfg rnd n base).challenge = acceptFor (b64encode (rnd n)) ∧
    (cl.attemptCfg rnd n base).request = nthRequest cl rnd n ∧
    (∃ q, parseRequest (cl.attemptCfg rnd n base).request = some q ∧ (keyHeaderName, b64encode (rnd n)) ∈ q.headers) ∧
    (cl.attemptCfg rnd n base).challenge = acceptFor (keyOfRequest (cl.attemptCfg rnd n base).request) ∧
    cl.attemptCfg rnd n base = cfgOfRequest base (nthRequest cl rnd n) ∧
    (cl.attemptCfg rnd n base).v = base.v := by
  obtain ⟨h1, ⟨q, hq, hmem, _⟩, _, h4⟩ := challenge_is_digest cl rnd n hhost hpath hquery hagent hprotos hcustom
  have e1 : (cl.attemptCfg rnd n base).challenge = nthChallenge rnd n := rfl
  have e2 : (cl.attemptCfg rnd n base).request = nthRequest cl rnd n := rfl
  rw [e1, e2]
  exact ⟨h1, rfl, ⟨q, hq, hmem⟩, h4, (cfgOfRequest_nth cl rnd n base hhost hpath hquery hagent hprotos hcustom).symm, rfl⟩

/-- for *any* request bytes the driver's configuration compares with the digest of the key found in them -/
theorem cfgOfRequest_challenge (base : Cfg) (req : Bytes) :
    (cfgOfRequest base req).challenge = acceptFor (keyOfRequest (cfgOfRequest base req).request) := by
  unfold cfgOfRequest challengeOfRequest
  rfl

/-- the value the translated source expression
    `b64encode(sha1(self.key + constants.WS_KEY).digest()).decode('ascii')` is bound to (parameter `challenge`
    of the generated `wsOnResponse`) is `acceptFor` of the state's key: `on_response` of the `n`-th attempt is
    the translated `on_response` applied to it. -/
theorem gen_onResponse_digest (rnd : Nat → Bytes) (n : Nat) (r : Response) :
    nthOnResponse false rnd n r =
      match Gen.Code.wsOnResponse (C10Gen.statusZ r.statusCode) r.headers (acceptFor (b64encode (rnd n))) with
      | .error e =>
        .error (if e.msg = "Websocket upgrade failed (code={})" then
                  ofString ("Websocket upgrade failed (code=" ++ showStatus r.statusCode ++ ")")
                else if e.msg = "Can't upgrade to {}" then
                  ofString "Can't upgrade to " ++ lower ((r.get (ofString "upgrade")).getD (ofString "<header missing>"))
                else ofString e.msg)
      | .ok protocol =>
        match processExtensions (r.getList (ofString "sec-websocket-extensions")) none with
        | .error m => .error m
        | .ok d => .ok { protocol := protocol, deflate := d } := by
  unfold nthOnResponse KeyState.onResponse KeyState.challenge
  rw [(afterConnects_spec rnd n).2]
  exact C10Gen.gen_onResponse _ r

/-! ## 3. Ready iff the reply answers the key that was sent -/

/-- `on_response` of the `n`-th attempt returns normally (Ready, not Rejected) -/
def AttemptReady (strict : Bool) (rnd : Nat → Bytes) (n : Nat) (r : Response) : Prop :=
  ∃ a, nthOnResponse strict rnd n r = .ok a

theorem attemptReady_iff (strict : Bool) (rnd : Nat → Bytes) (n : Nat) (r : Response) :
    AttemptReady strict rnd n r ↔ Ready strict (acceptFor (b64encode (rnd n))) r := by
  unfold AttemptReady Ready nthOnResponse KeyState.onResponse KeyState.challenge
  rw [(afterConnects_spec rnd n).2]

/-- both comparisons at once -/
theorem ready_iff_digest_variant (strict : Bool) (rnd : Nat → Bytes) (n : Nat) (r : Response) :
    AttemptReady strict rnd n r ↔
      (r.statusCode = some (false, 101) ∧
       (∃ u, r.get hUpgrade = some u ∧ lower u = websocket) ∧
       (∃ acc, r.get hAccept = some acc ∧
          (if strict then acc = acceptFor (b64encode (rnd n)) else lower acc = lower (acceptFor (b64encode (rnd n))))) ∧
       extsOk (r.getList hExt)) := by
  rw [attemptReady_iff, C10_ready_iff_variant]

/-- **ready_iff_digest** (repaired comparison).  During the `n`-th attempt Ready is granted iff the status is
    101, the Upgrade header lower-cases to `websocket`, the Sec-WebSocket-Accept header *is*
    `b64encode(sha1(key ++ WS_KEY))` for the key of that attempt, and the extension parameters are acceptable. -/
theorem ready_iff_digest (rnd : Nat → Bytes) (n : Nat) (r : Response) :
    AttemptReady true rnd n r ↔
      (r.statusCode = some (false, 101) ∧
       (∃ u, r.get hUpgrade = some u ∧ lower u = websocket) ∧
       r.get hAccept = some (acceptFor (b64encode (rnd n))) ∧
       extsOk (r.getList hExt)) := by
  rw [ready_iff_digest_variant]
  simp

/-- the comparison the pinned code performs (finding D5): the accept header equals the digest up to letter case -/
theorem ready_iff_digest_present (rnd : Nat → Bytes) (n : Nat) (r : Response) :
    AttemptReady false rnd n r ↔
      (r.statusCode = some (false, 101) ∧
       (∃ u, r.get hUpgrade = some u ∧ lower u = websocket) ∧
       (∃ acc, r.get hAccept = some acc ∧ lower acc = lower (acceptFor (b64encode (rnd n)))) ∧
       extsOk (r.getList hExt)) := by
  rw [ready_iff_digest_variant]
  simp

/-- **ready_iff_digest_sent**: the same, phrased with the key an independent reader finds in the request bytes
    the attempt wrote — "a correct upgrade reply *to the request that was sent*" (both comparisons). -/
theorem ready_iff_digest_sent (strict : Bool) (cl : Client) (rnd : Nat → Bytes) (n : Nat) (r : Response)
    (hhost : Solid cl.url.host) (hpath : Solid cl.url.path) (hquery : Solid cl.url.query)
    (hagent : ValueOk cl.agent) (hprotos : ∀ p ∈ cl.protocols, p ≠ [] ∧ Solid p)
    (hcustom : ∀ p ∈ cl.customHeaders, NameOk p.1 ∧ ValueOk p.2) :
    AttemptReady strict rnd n r ↔
      (r.statusCode = some (false, 101) ∧
       (∃ u, r.get hUpgrade = some u ∧ lower u = websocket) ∧
       (∃ acc, r.get hAccept = some acc ∧
          (if strict then acc = acceptFor (keyOfRequest (nthRequest cl rnd n))
           else lower acc = lower (acceptFor (keyOfRequest (nthRequest cl rnd n))))) ∧
       extsOk (r.getList hExt)) := by
  rw [keyOfRequest_nth cl rnd n hhost hpath hquery hagent hprotos hcustom]
  exact ready_iff_digest_variant strict rnd n r

/-- **ready_iff_digest_wire**: on the bytes — every conforming rendering (any field order, any letter case of
    the names, blanks and an obs-fold around the values) of a status line and a duplicate-free set of fields is
    granted Ready iff the digits are `101`, `upgrade` lower-cases to `websocket`, `sec-websocket-accept` carries
    the digest of the attempt's key (pinned code: up to letter case) and the extensions are acceptable. -/
theorem ready_iff_digest_wire (strict : Bool) (rnd : Nat → Bytes) (n : Nat) (ver reason : Bytes) (a b c : Nat)
    (fs : List WireField)
    (hver : ver ≠ [] ∧ ∀ x ∈ ver, isBytesSpace x = false) (hreason : ∀ x ∈ reason, x ≠ 13)
    (hdig : isDigit a = true ∧ isDigit b = true ∧ isDigit c = true)
    (hok : ∀ f ∈ fs, f.ok = true) (hnd : (fs.map (·.name)).Nodup) :
    AttemptReady strict rnd n (parseResponse (renderReply (statusLine ver [a, b, c] reason) fs)) ↔
      ([a, b, c] = [49, 48, 49] ∧
       (∃ f ∈ fs, f.name = hUpgrade ∧ lower f.value = websocket) ∧
       (∃ f ∈ fs, f.name = hAccept ∧
          (if strict then f.value = acceptFor (b64encode (rnd n))
           else lower f.value = lower (acceptFor (b64encode (rnd n))))) ∧
       extsOk (splitList ((fieldValue fs hExt).getD []))) := by
  rw [attemptReady_iff]
  exact C10_ready_iff_wire_variant strict _ ver reason a b c fs hver hreason hdig hok hnd

/-- **ready_iff_digest_core**: in the core model, for a connection whose configuration is that of the `n`-th
    attempt, the test that decides between Ready and Rejected when the header block `data` is complete
    (`C10_ready_event` / `C10_not_ready_consequences` take its outcome as hypothesis) succeeds iff `data` is a 101
    reply whose accept value is the digest of the key in `cfg.request` (compared as the variant says). -/
theorem ready_iff_digest_core (cl : Client) (rnd : Nat → Bytes) (n : Nat) (base : Cfg) (s : Sys) (data : Bytes)
    (hcfg : s.cfg = cl.attemptCfg rnd n base) :
    (∃ acc, onResponse s.cfg.v.strictAccept s.cfg.challenge (parseResponse data) = .ok acc) ↔
      ((parseResponse data).statusCode = some (false, 101) ∧
       (∃ u, (parseResponse data).get hUpgrade = some u ∧ lower u = websocket) ∧
       (∃ acc, (parseResponse data).get hAccept = some acc ∧
          (if base.v.strictAccept then acc = acceptFor (b64encode (rnd n))
           else lower acc = lower (acceptFor (b64encode (rnd n))))) ∧
       extsOk ((parseResponse data).getList hExt)) := by
  rw [hcfg]
  have hc : (cl.attemptCfg rnd n base).challenge = acceptFor (b64encode (rnd n)) := nthChallenge_eq rnd n
  have hv : (cl.attemptCfg rnd n base).v = base.v := rfl
  rw [hc, hv]
  exact C10_ready_iff_variant base.v.strictAccept _ (parseResponse data)

/-- … and when it succeeds the next thing `WebSocket.feed` does is to yield Ready (composition with
    `C10_ready_event`) -/
theorem ready_event_of_digest (cl : Client) (rnd : Nat → Bytes) (n : Nat) (base : Cfg) (s : Sys) (data : Bytes)
    (hcfg : s.cfg = cl.attemptCfg rnd n base)
    (h101 : (parseResponse data).statusCode = some (false, 101))
    (hup : ∃ u, (parseResponse data).get hUpgrade = some u ∧ lower u = websocket)
    (hacc : (parseResponse data).get hAccept = some (acceptFor (b64encode (rnd n))))
    (hext : extsOk ((parseResponse data).getList hExt)) :
    ∃ (acc : Accepted) (s1 : Sys), s1.trace = s.trace ∧ s1.compression = acc.deflate ∧
      onOut (.header data) s =
        (do feedYield true (.ready acc.protocol acc.deflate.isSome)
            modS (fun s => { s with parsedResponse := true })
            notClosed : M Bool) s1 := by
  have hok := (ready_iff_digest_core cl rnd n base s data hcfg).mpr
    ⟨h101, hup, ⟨_, hacc, by split <;> rfl⟩, hext⟩
  obtain ⟨acc, hacc'⟩ := hok
  obtain ⟨s1, h1, h2, h3⟩ := C10_ready_event s data acc hacc'
  exact ⟨acc, s1, h1, h2, h3⟩

/-! ## 4. finding D5 with the real digest -/

/-- every draw is the 16 bytes `the sample nonce` of RFC 6455 §1.3 -/
def sampleRnd : Nat → Bytes := fun _ => lit "the sample nonce"

private theorem sample_accept : acceptFor (b64encode (sampleRnd 0)) = sampleDigest :=
  (congrArg acceptFor key_rfc6455_example).trans accept_rfc6455_example

/-- the digest used by `C10_lenient_fails` is the digest of that attempt's key -/
theorem sampleDigest_is_digest : nthChallenge sampleRnd 0 = sampleDigest ∧
    (afterConnects sampleRnd 0).key = lit "dGhlIHNhbXBsZSBub25jZQ==" :=
  ⟨(nthChallenge_eq sampleRnd 0).trans sample_accept, (afterConnects_spec sampleRnd 0).2.trans key_rfc6455_example⟩

/-- the side conditions of `challenge_is_digest` hold for the sample client of `Properties/C10.lean` -/
private theorem sampleClient_ok :
    Solid sampleClient.url.host ∧ Solid sampleClient.url.path ∧ Solid sampleClient.url.query ∧
    ValueOk sampleClient.agent ∧ (∀ p ∈ sampleClient.protocols, p ≠ [] ∧ Solid p) ∧
    (∀ p ∈ sampleClient.customHeaders, NameOk p.1 ∧ ValueOk p.2) := by
  refine ⟨by unfold Solid; decide +kernel, by unfold Solid; decide +kernel, by unfold Solid; decide +kernel,
    valueOk_of_B _ (by decide +kernel), by unfold Solid; decide +kernel, ?_⟩
  intro p hp
  simp only [sampleClient, List.mem_singleton] at hp
  subst hp
  exact ⟨nameOk_of_B _ (by decide +kernel), valueOk_of_B _ (by decide +kernel)⟩

/-- **lenient_fails_digest**: under the pinned comparison there is an attempt and a reply that is granted Ready
    although its Sec-WebSocket-Accept is *not* `b64encode(sha1(key ++ WS_KEY))` for the key that was sent — it
    differs from it in the case of its letters only. -/
theorem lenient_fails_digest :
    ∃ (rnd : Nat → Bytes) (n : Nat) (reply : Bytes) (acc : Str),
      AttemptReady false rnd n (parseResponse reply) ∧
      (parseResponse reply).get hAccept = some acc ∧
      acc ≠ acceptFor (keyOfRequest (nthRequest sampleClient rnd n)) ∧
      acc ≠ acceptFor (b64encode (rnd n)) ∧
      lower acc = lower (acceptFor (b64encode (rnd n))) := by
  obtain ⟨hhost, hpath, hquery, hagent, hprotos, hcustom⟩ := sampleClient_ok
  have hl : Ready false sampleDigest (parseResponse swapcaseReply) := ⟨_, swapcase_lenient⟩
  obtain ⟨h1, h2, ⟨acc, hacc, hlow⟩, h4⟩ := (C10_ready_iff_present _ _).mp hl
  -- were the accept value the digest itself, the repaired comparison would accept the reply too
  have hne : acc ≠ sampleDigest :=
    fun h => C10_strict_rejects_witness ((C10_ready_iff _ _).mpr ⟨h1, h2, h ▸ hacc, h4⟩)
  refine ⟨sampleRnd, 0, swapcaseReply, acc, ?_, hacc, ?_, ?_, ?_⟩
  · rw [attemptReady_iff, sample_accept]
    exact hl
  · rw [keyOfRequest_nth sampleClient sampleRnd 0 hhost hpath hquery hagent hprotos hcustom, sample_accept]
    exact hne
  · rw [sample_accept]
    exact hne
  · rw [sample_accept]
    exact hlow

/-- the same reply is refused by the repaired comparison -/
theorem strict_rejects_digest_witness : ¬ AttemptReady true sampleRnd 0 (parseResponse swapcaseReply) := by
  rw [attemptReady_iff, sample_accept]
  exact C10_strict_rejects_witness

/-! ## Non-vacuity -/

example : nthChallenge (fun k => List.replicate 16 k) 3 = acceptFor (keyOfRequest (nthRequest sampleClient (fun k => List.replicate 16 k) 3)) := by
  obtain ⟨hhost, hpath, hquery, hagent, hprotos, hcustom⟩ := sampleClient_ok
  exact (challenge_is_digest sampleClient _ 3 hhost hpath hquery hagent hprotos hcustom).2.2.2
-- … and the key really is in the bytes: evaluation of the independent reader on the request
example : keyOfRequest (nthRequest sampleClient (fun k => List.replicate 16 k) 3) = lit "AwMDAwMDAwMDAwMDAwMDAw==" :=
  sampleRequest_key
example : (sampleClient.attemptCfg (fun k => List.replicate 16 k) 3 {}).challenge = lit "rif6wL2Zb7jA4NcCyQSxjNNrZNs=" := by
  rw [lit_ofList]
  decide +kernel
-- a custom header with the reserved name does not mislead the reader: the last field is lomond's
def bogusKeyCfg : ReqCfg :=
  { resource := lit "/", hostPort := lit "h:80", key := lit "QUJD", agent := lit "a", protocols := [], customHeaders := [(lit "Sec-WebSocket-Key", lit "bogus")], compress := false }
example : keyOfRequest (buildRequest bogusKeyCfg) = lit "QUJD" := by decide +kernel
def sampleGoodReply : Bytes :=
  lit "HTTP/1.1 101 Switching Protocols\r\nUpgrade: websocket\r\nConnection: Upgrade\r\nSec-WebSocket-Accept: s3pPLMBiTxaQ9kYGzzhZRbK+xOo=\r\n\r\n"
private theorem goodReply_strict :
    onResponse true sampleDigest (parseResponse sampleGoodReply) = .ok { protocol := none, deflate := none } := by
  rw [sampleGoodReply, lit_ofList]
  decide +kernel
example : AttemptReady true sampleRnd 0 (parseResponse sampleGoodReply) := by
  rw [attemptReady_iff, sample_accept]
  exact ⟨_, goodReply_strict⟩
example : ¬ AttemptReady false (fun _ => lit "another nonce 16") 0 (parseResponse sampleGoodReply) := by
  have h : onResponse false (acceptFor (b64encode (lit "another nonce 16"))) (parseResponse sampleGoodReply) =
      .error (ofString "Sec-WebSocket-Accept challenge failed") := by
    rw [sampleGoodReply, lit_ofList, lit_ofList]
    decide +kernel
  rw [attemptReady_iff]
  rintro ⟨a, ha⟩
  rw [h] at ha
  cases ha
example : ∃ acc, onResponse false (sampleClient.attemptCfg sampleRnd 0 {}).challenge (parseResponse sampleGoodReply) = .ok acc := by
  obtain ⟨h1, h2, h3, h4⟩ := (C10_ready_iff sampleDigest _).mp ⟨_, goodReply_strict⟩
  refine (ready_iff_digest_core sampleClient sampleRnd 0 {} { cfg := sampleClient.attemptCfg sampleRnd 0 {}, react := fun _ => [], env := [] }
    sampleGoodReply rfl).mpr ⟨h1, h2, ⟨sampleDigest, h3, ?_⟩, h4⟩
  rw [sample_accept]
  rfl

end Lomond.C10Digest
