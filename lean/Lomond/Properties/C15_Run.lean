/-
  C15 companion — the timers over a whole connection (`Core.runAll`), for every configuration,
  application (`React`) and environment script.  Property theorems only; helper lemmas are in
  Proofs/LiftX.lean (result-aware lifting through the receive pipeline, the session loop and
  `run()`), Proofs/TimerKit.lean (what a timer supplies for that lifting) and Proofs/TimerClose.lean,
  TimerPing.lean, TimerRun.lean (the invariants of the close timeout, the ping timeout, the automatic Ping).

  Time is `Nat` ticks read off the trace (`clockOf`, `sessOf`: Proofs/TimerInv.lean).  A position of
  the trace is a split `trace = l ++ o :: t` (newest first: `t` is what happened before the entry
  `o`, `l` what happened after it).

  The environment hypothesis of every upper bound is `EnvBound cfg.poll env`: `selector.wait(max_bytes,
  poll)` returns after at most `poll`.  It is the decidable well-formedness condition "every wait step
  of the script has `dt ≤ poll`" (`env_bound_iff`), every script can be normalised to it
  (`env_bound_normalise`), and the harness asserts it for every scenario it generates.
-/
import Lomond.Proofs.TimerRun

namespace Lomond.C15Run
open Lomond Lomond.Core Lomond.Core.Timers Lomond.Core.TimerRun

/-- **`EnvBound` is exactly "every `selector.wait` step lasts at most `D`"**, it is decidable
    (`envBoundB` computes it), holds of the empty script and is compositional. -/
theorem env_bound_iff (D : Nat) (env : List EnvStep) :
    (EnvBound D env ↔ ∀ st ∈ env, stepWithin D st = true) ∧
    (EnvBound D env ↔ envBoundB D env = true) ∧
    EnvBound D [] ∧
    (∀ st, EnvBound D (st :: env) ↔ stepWithin D st = true ∧ EnvBound D env) ∧
    (∀ env', EnvBound D (env ++ env') ↔ EnvBound D env ∧ EnvBound D env') := by
  refine ⟨?_, envBound_iff D env, envBound_nil D, fun st => envBound_cons D st env,
    fun env' => envBound_append D env env'⟩
  rw [envBound_iff, envBoundB, List.all_eq_true]

example : EnvBound 5 [.wait 5 none, .wait 0 (some .eof), .selErr] := by decide
example : ¬ EnvBound 5 [.wait 5 none, .wait 6 none] := by decide

/-- **Every script can be normalised**: truncating each wait to `D` (what the real selector does with
    its time-out argument) gives a well-formed script, and changes nothing if it was one already. -/
theorem env_bound_normalise (D : Nat) (env : List EnvStep) :
    EnvBound D (clampEnv D env) ∧ (EnvBound D env → clampEnv D env = env) :=
  ⟨envBound_clamp D env, clamp_of_bound D env⟩

example : clampEnv 5 [.wait 9 none, .wait 2 (some .eof)] = [.wait 5 none, .wait 2 (some .eof)] := by decide

/-- **The close-timer invariant holds at the end of every connection** (with `hi` — the upper
    bounds — under the cycle bound).  The trace-level theorems below are read off it. -/
theorem close_invariant (hi : Bool) (cfg : Cfg) (react : React) (env : List EnvStep)
    (h : hi = true → EnvBound cfg.poll env) : FinC hi cfg env (runAll cfg react env) :=
  finC_runAll hi cfg react env h

/-- **`Disconnected('close-timeout')` only when due.**  In the trace of any connection, such an event
    (`t` = the entries before it) is non-graceful, happens with `close_timeout = c ≠ 0`, with no
    `Closed` event before it, and `close()` had armed the timer at a session time `ct` — marked on the
    trace by the Close frame handed to `sendall` (written or failed) at that time, or, when `close()`
    found no usable socket, by a point with that session time at which the socket was already gone —
    with `ct + c ≤` the session time of the disconnect. -/
theorem close_timeout_only_when_due (cfg : Cfg) (react : React) (env : List EnvStep) (l t : List Obs) (g : Bool)
    (htr : (runAll cfg react env).trace = l ++ .ev (.disconnected "close-timeout" g) :: t) :
    g = false ∧ cfg.closeTimeout ≠ 0 ∧ closedSeen t = false ∧
    ∃ ct, Armed cfg.v.closeArgs ct t ∧ ct + cfg.closeTimeout ≤ sessOf t := by
  have inv := (close_invariant false cfg react env (fun h => by cases h)).1.2.cto
  rw [htr] at inv
  obtain ⟨h1, h2, h3, ct, h4, h5, _⟩ := (ctoOK_hist _ _ _ _).at inv rfl
  refine ⟨?_, h2, h3, ct, h4, h5⟩
  cases h1; rfl

/-- … and **within `poll` of the deadline** (cycle bound): its session time is `< ct + c + poll`. -/
theorem close_timeout_window (cfg : Cfg) (react : React) (env : List EnvStep)
    (henv : EnvBound cfg.poll env) (l t : List Obs) (g : Bool)
    (htr : (runAll cfg react env).trace = l ++ .ev (.disconnected "close-timeout" g) :: t) :
    ∃ ct, Armed cfg.v.closeArgs ct t ∧ ct + cfg.closeTimeout ≤ sessOf t ∧
      sessOf t < ct + cfg.closeTimeout + cfg.poll := by
  have inv := (close_invariant true cfg react env (fun _ => henv)).1.2.cto
  rw [htr] at inv
  obtain ⟨_, _, _, ct, h4, h5, h6⟩ := (ctoOK_hist _ _ _ _).at inv rfl
  exact ⟨ct, h4, h5, h6 rfl⟩

/-- **Never when `close_timeout` is None/0.** -/
theorem no_close_timeout_when_zero (cfg : Cfg) (react : React) (env : List EnvStep)
    (h0 : cfg.closeTimeout = 0) (g : Bool) :
    Obs.ev (.disconnected "close-timeout" g) ∉ (runAll cfg react env).trace := by
  intro hm
  obtain ⟨l, t, e⟩ := List.append_of_mem hm
  exact (close_timeout_only_when_due cfg react env l t g e).2.1 h0

private theorem tick_window (cfg : Cfg) (react : React) (env : List EnvStep) (henv : EnvBound cfg.poll env)
    (l t : List Obs) (n : Nat) (htr : (runAll cfg react env).trace = l ++ .tick n :: t) :
    sessOf (.tick n :: t) ≤ sessOf t + cfg.poll := by
  have tok := (close_invariant true cfg react env (fun _ => henv)).1.2.tok
  rw [htr] at tok
  exact sessOf_tick_le t (((tickC_hist _ _ _ _).at tok n rfl).2.1 rfl)

/-- **The loop never waits again with the close timer overdue** (liveness, safety form).  `ReqOk0`:
    the upgrade request is not mistaken for a Close frame.  At every clock mark `n` of the trace of
    any connection (`t` = before it): if the client's Close frame was handed to `sendall` before, at
    session time `ct`, then the loop went into that `selector.wait` before the deadline
    (`sessOf t < ct + c`), and — cycle bound — came out of it before `ct + c + poll`. -/
theorem close_deadline (cfg : Cfg) (react : React) (env : List EnvStep) (hreq : ReqOk0 cfg)
    (hc : cfg.closeTimeout ≠ 0) (l t : List Obs) (n ct : Nat)
    (htr : (runAll cfg react env).trace = l ++ .tick n :: t) (hw : CloseWr ct t) :
    sessOf t < ct + cfg.closeTimeout ∧
    (EnvBound cfg.poll env → sessOf (.tick n :: t) < ct + cfg.closeTimeout + cfg.poll) := by
  have inv := (close_invariant false cfg react env (fun h => by cases h)).1.2.tok
  rw [htr] at inv
  have h1 := ((tickC_hist _ _ _ _).at inv n rfl).2.2 hreq hc ct hw
  refine ⟨h1, fun henv => ?_⟩
  have := tick_window cfg react env henv l t n htr
  omega

/-- **The forced disconnect happens** (liveness).  If the loop lived through a `selector.wait` that
    ended (clock mark `n`) at or after the deadline `ct + c` of a Close frame handed to `sendall`
    before it (no Ready in between), then: that was the last wait (no clock mark after it), under the
    cycle bound it ended before `ct + c + poll`, and the connection is over — the forced
    `Disconnected('close-timeout')` was yielded, unless the ping timeout struck at that same
    `_regular()` (it is checked first: `Disconnected('ping-timeout')`) or the application abandoned
    the iterator there (no `Disconnected` at all). -/
theorem close_timeout_fires (cfg : Cfg) (react : React) (env : List EnvStep) (hreq : ReqOk0 cfg)
    (hc : cfg.closeTimeout ≠ 0) (l t : List Obs) (n ct : Nat)
    (htr : (runAll cfg react env).trace = l ++ .tick n :: t) (hw : CloseWr ct t)
    (hnr : ∀ o ∈ l, o.tmIsReady = false) (hpast : ct + cfg.closeTimeout ≤ sessOf (.tick n :: t)) :
    (∀ o ∈ l, o.tmTickVal = none) ∧
    (EnvBound cfg.poll env → sessOf (.tick n :: t) < ct + cfg.closeTimeout + cfg.poll) ∧
    (ctoD ∈ (runAll cfg react env).trace ∨ ptoD ∈ (runAll cfg react env).trace ∨
      discAny (runAll cfg react env).trace = false) := by
  have inv := close_invariant false cfg react env (fun h => by cases h)
  refine ⟨?_, (close_deadline cfg react env hreq hc l t n ct htr hw).2, ?_⟩
  · intro o ho
    cases hv : o.tmTickVal with
    | none => rfl
    | some n2 =>
      exfalso
      obtain ⟨l2, l1, e⟩ := List.append_of_mem ho
      have ho2 : o = .tick n2 := by cases o <;> simp [Obs.tmTickVal] at hv; rw [hv]
      subst ho2
      have htr2 : (runAll cfg react env).trace = l2 ++ .tick n2 :: (l1 ++ .tick n :: t) := by
        rw [htr, e]; simp
      have hw2 : CloseWr ct (l1 ++ .tick n :: t) := closeWr_append ct l1 _ (closeWr_append ct [.tick n] t hw)
      have h1 := (close_deadline cfg react env hreq hc l2 _ n2 ct htr2 hw2).1
      have tok := inv.1.2.tok
      rw [htr2] at tok
      have tok2 := (tickC_hist _ _ _ _).suffix (l2 ++ [.tick n2]) (by simpa using tok)
      have := sessOf_mono _ _ _ _ l1 _ tok2 (fun o ho => hnr o (by rw [e]; simp [ho]))
      omega
  · exact inv.2 hreq hc ⟨l, n, t, ct, htr, hw, hnr, hpast⟩

/-- **The ping-timeout rules hold for the trace of every connection.** -/
theorem unresponsive_invariant (hi : Bool) (cfg : Cfg) (react : React) (env : List EnvStep)
    (h : hi = true → EnvBound cfg.poll env) : FinU hi cfg (runAll cfg react env) :=
  finU_runAll hi cfg react env h

/-- **Unresponsive within `poll` of the deadline.**  In the trace of any connection an Unresponsive
    event (`t` = the entries before it) happens after Ready, with `ping_timeout = pt ≠ 0`, more than
    `pt` after the newest sign of life (the newest Pong since Ready, or Ready itself), and — cycle
    bound — at most `pt + poll` after it. -/
theorem unresponsive_window (cfg : Cfg) (react : React) (env : List EnvStep) (l t : List Obs)
    (htr : (runAll cfg react env).trace = l ++ .ev .unresponsive :: t) :
    cfg.pingTimeout ≠ 0 ∧ readyAt t ≠ none ∧ lastAlive t + cfg.pingTimeout < sessOf t ∧
    (EnvBound cfg.poll env → sessOf t ≤ lastAlive t + cfg.pingTimeout + cfg.poll) := by
  have key : ∀ hi, (hi = true → EnvBound cfg.poll env) →
      cfg.pingTimeout ≠ 0 ∧ readyAt t ≠ none ∧ lastAlive t + cfg.pingTimeout < sessOf t ∧
      (hi = true → sessOf t ≤ lastAlive t + cfg.pingTimeout + cfg.poll) := by
    intro hi h
    have inv := (unresponsive_invariant hi cfg react env h).1.uhi
    rw [htr] at inv
    exact (unrespHi_hist _ _ _).at inv rfl
  obtain ⟨a, b, c, _⟩ := key false (fun h => by cases h)
  exact ⟨a, b, c, fun henv => (key true (fun _ => henv)).2.2.2 rfl⟩

/-- **Nothing but `Disconnected('ping-timeout', graceful=False)` follows Unresponsive.**  In the trace
    of any connection, an event `e` whose predecessor (the newest event before it) is Unresponsive is
    that forced disconnect — whatever the application does at Unresponsive, whatever else is in the
    read being processed or in the rest of the script.  (`C07.timeout_terminates`: at most one event
    follows.) -/
theorem unresponsive_then_forced_disconnect (cfg : Cfg) (react : React) (env : List EnvStep) (l t : List Obs)
    (e : Event) (htr : (runAll cfg react env).trace = l ++ .ev e :: t)
    (hprev : newestEv t = some .unresponsive) : e = .disconnected "ping-timeout" false := by
  have inv := (unresponsive_invariant false cfg react env (fun h => by cases h)).1.unext
  rw [htr] at inv
  exact unext_hist.at inv e rfl hprev

/-- **Never when `ping_timeout` is None/0.** -/
theorem no_unresponsive_when_zero (cfg : Cfg) (react : React) (env : List EnvStep) (h0 : cfg.pingTimeout = 0) :
    Obs.ev .unresponsive ∉ (runAll cfg react env).trace := by
  intro hm
  obtain ⟨l, t, e⟩ := List.append_of_mem hm
  exact (unresponsive_window cfg react env l t e).1 h0

/-- **The loop never waits again with the ping timeout overdue** (liveness, safety form).  At every
    clock mark `n` of the trace of any connection (`t` = before it), once ready and with
    `ping_timeout = pt ≠ 0`: the loop went into that `selector.wait` at most `pt` after the newest sign
    of life, and — cycle bound — came out of it at most `pt + poll` after it. -/
theorem unresponsive_deadline (cfg : Cfg) (react : React) (env : List EnvStep) (hp : cfg.pingTimeout ≠ 0)
    (l t : List Obs) (n : Nat) (htr : (runAll cfg react env).trace = l ++ .tick n :: t) (hr : readyAt t ≠ none) :
    sessOf t ≤ lastAlive t + cfg.pingTimeout ∧
    (EnvBound cfg.poll env → sessOf (.tick n :: t) ≤ lastAlive t + cfg.pingTimeout + cfg.poll) := by
  have inv := (unresponsive_invariant false cfg react env (fun h => by cases h)).1.tok
  rw [htr] at inv
  have h1 := ((tickU_hist _).at inv n rfl).2 hp hr
  refine ⟨h1, fun henv => ?_⟩
  have := tick_window cfg react env henv l t n htr
  omega

/-- **Unresponsive is emitted** (liveness).  If the loop lived through a `selector.wait` that ended
    (clock mark `n`) more than `pt` after the newest sign of life, and no Pong (or Ready) was seen
    after it, then the connection is over: Unresponsive and the forced
    `Disconnected('ping-timeout')` were yielded — unless the application abandoned the iterator at
    that `_regular()` (at its Poll or at Unresponsive: then no `Disconnected` at all). -/
theorem unresponsive_fires (cfg : Cfg) (react : React) (env : List EnvStep) (hp : cfg.pingTimeout ≠ 0)
    (l t : List Obs) (n : Nat) (htr : (runAll cfg react env).trace = l ++ .tick n :: t) (hr : readyAt t ≠ none)
    (hquiet : ∀ o ∈ l, o.tmIsReady = false ∧ o.tmIsPong = false)
    (hpast : lastAlive t + cfg.pingTimeout < sessOf (.tick n :: t)) :
    (Obs.ev .unresponsive ∈ (runAll cfg react env).trace ∧ ptoD ∈ (runAll cfg react env).trace) ∨
    discAny (runAll cfg react env).trace = false :=
  (unresponsive_invariant false cfg react env (fun h => by cases h)).2 hp ⟨l, n, t, htr, hr, hquiet, hpast⟩

/-- **The automatic-Ping rule holds for the trace of every connection** (cycle bound). -/
theorem ping_invariant_run (cfg : Cfg) (react : React) (env : List EnvStep) (henv : EnvBound cfg.poll env) :
    TickP cfg (runAll cfg react env).trace := by
  obtain ⟨sl, h⟩ := finP_runAll true cfg react env (fun _ => henv)
  exact h.w.tok rfl

/-- **Every period the run lives through gets its Ping within `poll`** (liveness; cycle bound).  With
    `ping_rate = r ≠ 0` and the repaired argument check of `close()`: at every clock mark of the trace
    of any connection — i.e. every time the loop goes back into `selector.wait` (`t` = the trace before
    that) — while the connection is open (`Connected` was yielded and nothing of the closing
    handshake has happened: no Close frame handed to `sendall`, no `Closing` / `Closed` event, socket
    not closed), for every `k` with `k·r <` the session time: the library attempted a Ping at a
    session time in `(k·r, k·r + poll]` — one of its own Ping frames written then (a member of
    `pingStamps t`, the list `C15.ping_grid` speaks about: never two in one period), or a Ping frame
    whose write failed then. -/
theorem ping_every_period (cfg : Cfg) (react : React) (env : List EnvStep) (henv : EnvBound cfg.poll env)
    (hr : cfg.pingRate ≠ 0) (hv : cfg.v.closeArgs = true) (l t : List Obs) (n : Nat)
    (htr : (runAll cfg react env).trace = l ++ .tick n :: t) (hrd : readyAt t ≠ none)
    (hconn : connSeen t = true) (hopen : closeStarted t = false) (k : Nat) (hk : k * cfg.pingRate < sessOf t) :
    HasTry cfg.pingRate cfg.poll k t := by
  have inv := ping_invariant_run cfg react env henv
  rw [htr] at inv
  exact (tickP_hist _).at inv rfl hr hv hrd hconn hopen k (by omega)

/-- `HTTP/1.1 101 X\r\nUpgrade: websocket\r\nSec-WebSocket-Accept: k\r\n\r\n` -/
def exReply : Bytes :=
  [72, 84, 84, 80, 47, 49, 46, 49, 32, 49, 48, 49, 32, 88, 13, 10, 85, 112, 103, 114, 97, 100, 101, 58, 32, 119,
   101, 98, 115, 111, 99, 107, 101, 116, 13, 10, 83, 101, 99, 45, 87, 101, 98, 83, 111, 99, 107, 101, 116, 45, 65,
   99, 99, 101, 112, 116, 58, 32, 107, 13, 10, 13, 10]

/-- close timeout 3, poll 5: the application closes at Ready (session time 0); the server stays
    silent; waits of 2 and 5 ticks -/
def cfgC : Cfg := { challenge := [107], closeTimeout := 3, pingRate := 0, request := [71, 69, 84] }
def reactC : React := fun h => if h.length = 3 then [.close (some 1000) (.bytes [])] else []
def envC : List EnvStep := [.wait 0 (some (.data exReply)), .wait 2 none, .wait 5 none, .wait 5 none]

/-- the trace before the clock mark 7 -/
def trC : List Obs :=
  [.tick 2, .ev .poll, .res .ok, .wr [136, 130, 0, 0, 0, 0, 3, 232], .ev (.ready none false),
   .ev (.connected false), .wr [71, 69, 84], .ev .connecting]

-- not due at session time 2, due at 7 ∈ [0 + 3, 0 + 3 + 5): the forced disconnect; the last wait of the
-- script is never reached
example : (runAll cfgC reactC envC).trace =
    [.selClose, .ev (.disconnected "close-timeout" false), .sockClose, .ev .poll] ++ .tick 7 :: trC := by
  decide +kernel

example : EnvBound cfgC.poll envC ∧ ReqOk0 cfgC ∧ cfgC.closeTimeout ≠ 0 :=
  ⟨by decide, by unfold ReqOk0; decide, by decide⟩

-- the hypotheses of `close_timeout_fires` / `close_deadline` on this run
example : CloseWr 0 trC ∧ 0 + cfgC.closeTimeout ≤ sessOf (.tick 7 :: trC) ∧
    sessOf (.tick 7 :: trC) < 0 + cfgC.closeTimeout + cfgC.poll :=
  ⟨⟨[.tick 2, .ev .poll, .res .ok], .wr [136, 130, 0, 0, 0, 0, 3, 232], _, rfl, rfl, by decide⟩, by decide, by decide⟩

-- the evidence of `close_timeout_only_when_due`: the Close frame at session time 0
example : Armed true 0 ([.sockClose, .ev .poll] ++ .tick 7 :: trC) :=
  Or.inl ⟨[.sockClose, .ev .poll, .tick 7, .tick 2, .ev .poll, .res .ok], .wr [136, 130, 0, 0, 0, 0, 3, 232], _, rfl, rfl,
    by decide⟩

/-- ping timeout 3, poll 5, no automatic Ping: silence; waits of 2 and 3 ticks -/
def cfgU : Cfg := { challenge := [107], pingTimeout := 3, pingRate := 0, request := [71, 69, 84] }
def envU : List EnvStep := [.wait 0 (some (.data exReply)), .wait 2 none, .wait 3 none, .wait 5 none]
def trU : List Obs :=
  [.tick 2, .ev .poll, .ev (.ready none false), .ev (.connected false), .wr [71, 69, 84], .ev .connecting]

-- Unresponsive at session time 5 ∈ (0 + 3, 0 + 3 + 5], followed by the forced disconnect only
example : (runAll cfgU (fun _ => []) envU).trace =
    [.selClose, .ev (.disconnected "ping-timeout" false), .sockClose, .ev .unresponsive, .ev .poll] ++
      .tick 5 :: trU := by decide +kernel

-- the hypotheses of `unresponsive_fires` / `unresponsive_then_forced_disconnect` on this run
example : readyAt trU ≠ none ∧ lastAlive trU + cfgU.pingTimeout < sessOf (.tick 5 :: trU) ∧
    newestEv ([.sockClose, .ev .unresponsive, .ev .poll] ++ .tick 5 :: trU) = some .unresponsive := by decide

/-- automatic Ping every 4, poll 5: silence; waits of 5, 5 and 3 ticks -/
def cfgP : Cfg := { challenge := [107], pingRate := 4, request := [71, 69, 84] }
def envP : List EnvStep := [.wait 0 (some (.data exReply)), .wait 5 none, .wait 5 none, .wait 3 none]
def trP : List Obs :=
  [.wr [137, 128, 0, 0, 0, 0], .ev .poll, .tick 5, .ev .poll, .ev (.ready none false), .ev (.connected false),
   .wr [71, 69, 84], .ev .connecting]

example : (runAll cfgP (fun _ => []) envP).trace =
    [.incomplete, .selClose, .sockClose, .wr [137, 128, 0, 0, 0, 0], .tick 13, .wr [137, 128, 0, 0, 0, 0], .ev .poll] ++
      .tick 10 :: trP := by decide +kernel

-- the hypotheses of `ping_every_period` at the clock mark 10: the session time before it is 5, so the
-- periods k = 0 (window (0, 5]) and k = 1 (window (4, 9]) have been entered — the Ping at 5 serves both
example : EnvBound cfgP.poll envP ∧ cfgP.pingRate ≠ 0 ∧ cfgP.v.closeArgs = true ∧ readyAt trP ≠ none ∧
    connSeen trP = true ∧ closeStarted trP = false ∧ 1 * cfgP.pingRate < sessOf trP ∧ pingStamps trP = [5] := by
  decide

end Lomond.C15Run
