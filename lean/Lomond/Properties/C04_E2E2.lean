/-
  C04, end to end, second part.  `Violating'` adds to the classes of `C04E2E.Violating` a frame length of
  2^63 or more, on a connection with permessage-deflate negotiated or not (`dz`; with the extension RSV1 is
  no violation).  RFC 7692 §6.1 also forbids RSV1 on control and continuation frames; lomond's
  `CompressedFrame.validate_reserved_bits` tests RSV2 / RSV3 only, so these are *not* part of `Violating'`
  (`rsv1_control_frame_is_accepted`).  Then `header_only_promptness`, and `violation_any_application` for
  applications that do anything.  Helper lemmas: Proofs/Violation.lean, Proofs/AnyApp.lean, Proofs/PrefixRun.lean.
-/
import Lomond.Proofs.PrefixRun
import Lomond.Properties.C04_E2E
import Lomond.Model.Inflate

namespace Lomond.C04E2E2
open Lomond Lomond.Core Lomond.Core.E2E

/-- one violating frame, as bytes.  `deflate`: permessage-deflate was negotiated; `mid`: a
    fragmented data message is open when it arrives.
    * `header`: any two header bytes that RFC 6455 / RFC 7692's classification `Spec.headerVerdict
      deflate mid` calls a violation — RSV2 / RSV3 set; RSV1 set without the extension; reserved
      opcode; control frame with FIN = 0 or a length above 125; MASK = 1; continuation with nothing
      to continue (`mid = false`); new Text / Binary frame inside a fragmented message
      (`mid = true`) — followed by a complete body (`WireBody`);
    * `close`: an unfragmented, unmasked Close frame of legal length whose payload is one byte long,
      or carries a reserved status code, or a reason that is not well-formed UTF-8;
    * `tooLarge`: any header announcing the 64-bit length form with a value of 2^63 or more (no
      payload needs to follow). -/
inductive Violating' (deflate mid : Bool) : Bytes → Prop
  | header (b0 b1 : Nat) (ext key payload : Bytes) (hb0 : b0 < 256) (hb1 : b1 < 256)
      (hw : WireBody b1 ext key payload) (hv : Spec.headerVerdict deflate mid b0 b1 = .violation) :
      Violating' deflate mid ([b0, b1] ++ (ext ++ (key ++ payload)))
  | close (payload : Bytes) (hlen : payload.length ≤ 125)
      (hbad : payload.length = 1 ∨
        ∃ c0 c1 rb, payload = c0 :: c1 :: rb ∧ (Spec.reservedCloseCode (c0 * 256 + c1) ∨ Utf8.wf rb = false)) :
      Violating' deflate mid ([0x88, payload.length] ++ payload)
  | tooLarge (b0 b1 : Nat) (ext : Bytes) (h127 : b1 % 128 = 127) (he : ext.length = 8)
      (hbig : beVal ext ≥ 2 ^ 63) :
      Violating' deflate mid ([b0, b1] ++ ext)

/-- `C04E2E.Violating` is the `deflate = false` instance without `tooLarge` -/
theorem violating_of_old {mid : Bool} {bad : Bytes} (h : C04E2E.Violating mid bad) : Violating' false mid bad := by
  cases h with
  | header b0 b1 ext key payload hb0 hb1 hw hv => exact .header b0 b1 ext key payload hb0 hb1 hw hv
  | close payload hlen hbad => exact .close payload hlen hbad

/-- a violating frame stops `Parser.feed`'s loop with an exception that `WebSocket.feed` reports;
    nothing of it is delivered, `rest` is not read -/
theorem violatingG_stops (deflate mid : Bool) (bad : Bytes) (hb : Violating' deflate mid bad) (sp : Sys)
    (hv : sp.cfg.v.ctrlLen = true) (hs : AwaitHeader sp.p) (hc : sp.p.compression = deflate)
    (hf : decide (sp.frames ≠ []) = mid) (rest : Bytes) :
    ∃ x p'' msg crit, feedLoop (bad ++ rest) sp = .err x { sp with p := p'' } ∧ violationOf x = some (msg, crit) := by
  cases hb with
  | header b0 b1 ext key payload hb0 hb1 hw hvd =>
    have hvd' : Spec.headerVerdict sp.p.compression (decide (sp.frames ≠ [])) b0 b1 = .violation := by
      rw [hc, hf]; exact hvd
    obtain ⟨x, p'', e, hx⟩ := C04.header_violation_stops sp hv hs b0 b1 hb1 ext key payload rest hw hvd'
    have ea : [b0, b1] ++ (ext ++ (key ++ payload)) ++ rest = [b0, b1] ++ (ext ++ (key ++ (payload ++ rest))) := by
      simp
    rw [ea]
    rcases hx with ⟨rfl, _⟩ | ⟨msg, _, rfl⟩
    · exact ⟨_, p'', _, _, e, rfl⟩
    · exact ⟨_, p'', _, _, e, rfl⟩
  | close payload hlen hbad =>
    obtain ⟨x, p'', e, hx⟩ := C04.close_frame_violation sp hv hs payload rest hlen hbad
    have ea : [0x88, payload.length] ++ payload ++ rest = [0x88, payload.length] ++ (payload ++ rest) := by
      simp
    rw [ea]
    cases hvx : violationOf x with
    | none => rw [hvx] at hx; cases hx
    | some mc => exact ⟨x, p'', mc.1, mc.2, e, hvx⟩
  | tooLarge b0 b1 ext h127 he hbig =>
    obtain ⟨p'', e⟩ := C04.length_2_63 sp hs b0 b1 h127 ext rest he hbig
    have ea : [b0, b1] ++ ext ++ rest = [b0, b1] ++ (ext ++ rest) := by simp
    rw [ea]
    exact ⟨_, p'', _, _, e, rfl⟩

/-- **Violation, end to end — every class, extension negotiated or not** (all prefixes, every
    segmentation).  Setting as `C04E2E.violation_end_to_end`; the upgrade reply negotiates
    permessage-deflate with the configuration `dz` (`none`: no extension); the conforming prefix
    `items` is sent uncompressed (RSV1 = 0, which the extension allows per message); `bad` is any
    `Violating' dz.isSome false` frame.  The complete trace of the connection is

        post ++ cw ++ l ++ ProtocolError(msg, crit) :: pre        (newest first)

    * `pre` carries exactly the events Connecting, Connected, Ready, Poll and then
      `C01.expected items none`: every message of the prefix delivered once, in order, byte-exact;
    * exactly one ProtocolError event;
    * `l`, the application's reaction to it, contains no event and is the application's own
      (`AnyApp.ReactSeg`: every frame in it is the outcome of an application call, whose result token
      follows it — sends made while handling the ProtocolError event still go out); `cw`, what the
      library writes itself, is nothing or — for a non-critical error only — one Close frame carrying
      1002 and the error text (`CloseWrite`);
    * `post`: the socket is closed, `Disconnected(k, graceful=False)` is yielded, the application's
      calls in reaction to it only report results (`AnyApp.TailV`: nothing is written any more — no
      application send succeeds), the selector is closed;
    * the application's own sends made BEFORE the error (the example application sends at every
      event) change neither the delivery of the prefix nor the detection: `pre` carries exactly the
      expected events whatever `react` sends;
    hence the events of the whole connection are exactly
    `Connecting, Connected, Ready, Poll, expected items, ProtocolError, Disconnected(graceful=False)`. -/
theorem violation_end_to_end_ext (cfg : Cfg) (react : React) (proxy : Bool) (proto : Option Http.Str)
    (dz : Option Http.DeflateCfg)
    (hs : Setup cfg react proxy) (hv : cfg.v.ctrlLen = true)
    (reply : Bytes) (hreply : GoodReplyG cfg reply proto dz)
    (items : List Item) (hok : ∀ it ∈ items, it.Ok) (bad : Bytes) (hbad : Violating' dz.isSome false bad)
    (rest : Bytes)
    (chunks : List Bytes) (hne : ∀ c ∈ chunks, c ≠ [])
    (hflat : chunks.flatten = reply ++ (wireBytes (items.flatMap Item.wire) ++ (bad ++ rest)))
    (restEnv : List EnvStep) :
    ∃ msg crit k cw l post pre,
      (runAll cfg react (reads chunks ++ restEnv)).trace = post ++ cw ++ l ++ .ev (.protocolError msg crit) :: pre ∧
      Monitor.histOf pre = (C01.expected items none).reverse ++
        [.poll, .ready proto dz.isSome, .connected proxy, .connecting] ∧
      ((∀ o ∈ l, Obs.isEv o = false) ∧ AnyApp.ReactSeg l) ∧ CloseWrite msg crit cw ∧
      Monitor.histOf post = [.disconnected k false] ∧
      ((∀ o ∈ post, TailObs (.disconnected k false) o) ∧ ∀ o ∈ post, AnyApp.TailV o) ∧
      (k = "forced" ∨ (crit = false ∧ k = "error")) ∧
      Monitor.events (runAll cfg react (reads chunks ++ restEnv)).trace =
        [.connecting, .connected proxy, .ready proto dz.isSome, .poll] ++ C01.expected items none ++
          [.protocolError msg crit, .disconnected k false] := by
  rw [show C01.expected items none = items.flatMap Item.events from List.append_nil _]
  obtain ⟨msg, crit, k, cw, l, post, pre, h1, h2, h3, h4, h5, h6, h7, h8⟩ :=
    violation_after_items hs hreply items hok [] (bad ++ rest) (fun sp b => by
      obtain ⟨x, p'', msg, crit, e, hx⟩ := violatingG_stops dz.isSome false bad hbad sp (by rw [b.hcfg]; exact hv)
        b.between.b.await b.comp (by rw [b.frames]; rfl) rest
      exact ⟨x, _, msg, crit, e, hx, ⟨b.i.app, b.i.poll, b.i.sock, b.i.nr, b.i.rd⟩, rfl⟩) chunks hne hflat restEnv
  simp only [List.append_nil] at h2 h8
  exact ⟨msg, crit, k, cw, l, post, pre, h1, h2, h3, h4, h5, h6, h7, h8⟩

/-- **Violation inside a fragmented message — every class, extension negotiated or not.**  As
    `C04E2E.violation_end_to_end_mid`: after the conforming `items` the server has sent the first
    fragment (FIN = 0, RSV1 = 0) of a Text (`text = true`) or Binary message, non-final continuation
    fragments `r1` with interleaved Ping/Pong, further Ping/Pong frames `cs`.  For a Text message the
    bytes received so far must still be salvageable, the repaired `_is_text` bookkeeping is assumed
    and — with the extension negotiated — the repaired per-message validation choice (D9). -/
theorem violation_end_to_end_mid_ext (cfg : Cfg) (react : React) (proxy : Bool) (proto : Option Http.Str)
    (dz : Option Http.DeflateCfg)
    (hs : Setup cfg react proxy) (hv : cfg.v.ctrlLen = true)
    (reply : Bytes) (hreply : GoodReplyG cfg reply proto dz)
    (items : List Item) (hok : ∀ it ∈ items, it.Ok)
    (text : Bool) (first : Frag) (r1 : List (List CtrlF × Frag)) (cs : List CtrlF)
    (hfirst : first.Ok) (hr1 : contOk r1) (hcs : ∀ c ∈ cs, c.Ok)
    (htext : text = true → cfg.v.keepIsText = true ∧ (cfg.v.perMsgValidate = true ∨ dz.isSome = false) ∧
      ∃ d, Utf8.validate 0 (first.payload ++ contPayload r1) = some d)
    (bad : Bytes) (hbad : Violating' dz.isSome true bad) (rest : Bytes)
    (chunks : List Bytes) (hne : ∀ c ∈ chunks, c ≠ [])
    (hflat : chunks.flatten =
      reply ++ (wireBytes (items.flatMap Item.wire) ++ (wireBytes (openWire text first r1 cs) ++ (bad ++ rest))))
    (restEnv : List EnvStep) :
    ∃ msg crit k cw l post pre,
      (runAll cfg react (reads chunks ++ restEnv)).trace = post ++ cw ++ l ++ .ev (.protocolError msg crit) :: pre ∧
      ((∀ o ∈ l, Obs.isEv o = false) ∧ AnyApp.ReactSeg l) ∧ CloseWrite msg crit cw ∧
      Monitor.histOf post = [.disconnected k false] ∧
      ((∀ o ∈ post, TailObs (.disconnected k false) o) ∧ ∀ o ∈ post, AnyApp.TailV o) ∧
      (k = "forced" ∨ (crit = false ∧ k = "error")) ∧
      Monitor.events (runAll cfg react (reads chunks ++ restEnv)).trace =
        [.connecting, .connected proxy, .ready proto dz.isSome, .poll] ++
          (C01.expected items none ++ (contCtrls r1 ++ cs).map CtrlF.event) ++
          [.protocolError msg crit, .disconnected k false] := by
  rw [show C01.expected items none = items.flatMap Item.events from List.append_nil _]
  obtain ⟨msg, crit, k, cw, l, post, pre, h1, _, h3, h4, h5, h6, h7, h8⟩ :=
    violation_after_items hs hreply items hok ((contCtrls r1 ++ cs).map CtrlF.event) _ (fun sp0 b => by
      obtain ⟨sp, hfl, a⟩ := feed_open_g b text first r1 cs hfirst hr1 hcs htext
      obtain ⟨x, p'', msg, crit, e, hx⟩ := violatingG_stops dz.isSome true bad hbad sp (by rw [a.hcfg]; exact hv)
        a.await a.comp (by simp [a.frames]) rest
      exact ⟨x, _, msg, crit, (feedLoop_append_ok hfl _).trans e, hx, ⟨a.i.app, a.i.poll, a.i.sock, a.i.nr, a.i.rd⟩,
        a.hist⟩) chunks hne hflat restEnv
  exact ⟨msg, crit, k, cw, l, post, pre, h1, h3, h4, h5, h6, h7, h8⟩

/-- an upgrade reply that negotiates permessage-deflate (default parameters) -/
def exReplyZ : Bytes :=
  Http.lit "HTTP/1.1 101 Switching Protocols\r\nUpgrade: websocket\r\nConnection: Upgrade\r\nSec-WebSocket-Accept: s3pPLMBiTxaQ9kYGzzhZRbK+xOo=\r\nSec-WebSocket-Extensions: permessage-deflate\r\n\r\n"

def exDz : Http.DeflateCfg := { decompressWbits := 15, compressWbits := 15, resetDecompress := false, resetCompress := false }

/-- the reply is accepted and switches the extension on -/
theorem exGoodReplyZ : GoodReplyG C01E2E.exCfg exReplyZ none (some exDz) := by
  -- the reply as a list of characters: the kernel is slow on long string literals (Proofs/StrLit.lean)
  rw [exReplyZ, Http.lit_ofList]
  exact ⟨⟨171, by decide +kernel, by decide +kernel⟩, by decide +kernel, by decide +kernel⟩

/-- a frame announcing 2^63 bytes; RSV2 on a Text frame and RSV3 on a Ping with the extension; RSV1
    is a violation only without it -/
theorem ex_tooLarge : Violating' true false ([0x82, 127] ++ [128, 0, 0, 0, 0, 0, 0, 0]) :=
  .tooLarge 0x82 127 _ (by decide) (by decide) (by decide)
example : Violating' true false ([0xA1, 1] ++ ([] ++ ([] ++ [65]))) :=
  .header 0xA1 1 [] [] [65] (by decide) (by decide)
    ⟨by decide, by decide, by decide, by decide, by decide, by decide⟩ (by decide)
example : Violating' true false ([0x99, 0] ++ ([] ++ ([] ++ []))) :=
  .header 0x99 0 [] [] [] (by decide) (by decide)
    ⟨by decide, by decide, by decide, by decide, by decide, by decide⟩ (by decide)
example : Spec.headerVerdict true false 0xC1 1 = .ok ∧ Spec.headerVerdict false false 0xC1 1 = .violation := by decide

/-- `violation_end_to_end_ext` applies with the extension negotiated: C01's example items, then a
    frame announcing 2^63 bytes, then a Binary frame; one byte per read -/
example : ∃ msg crit k, Monitor.events (runAll C01E2E.exCfg C01E2E.exReact
      (reads ((exReplyZ ++ (wireBytes (C01.exItems.flatMap Item.wire) ++
        (([0x82, 127] ++ [128, 0, 0, 0, 0, 0, 0, 0]) ++ [0x82, 1, 65]))).map (fun b => [b])) ++
        [.wait 3 (some (.data [0x81, 1, 66]))])).trace =
    [.connecting, .connected false, .ready none true, .poll] ++ C01.expected C01.exItems none ++
      [.protocolError msg crit, .disconnected k false] := by
  obtain ⟨msg, crit, k, _, _, _, _, _, _, _, _, _, _, _, h⟩ :=
    violation_end_to_end_ext C01E2E.exCfg C01E2E.exReact false none (some exDz) C01E2E.exSetup rfl exReplyZ exGoodReplyZ
      C01.exItems C01.ex_conforming.1 _ ex_tooLarge [0x82, 1, 65] _ (bytewise_ne _) (bytewise_flatten _)
      [.wait 3 (some (.data [0x81, 1, 66]))]
  exact ⟨msg, crit, k, h⟩

/-- … and the same stream in one read, evaluated directly -/
example : Monitor.events (runAll C01E2E.exCfg C01E2E.exReact
      (reads [exReplyZ ++ (wireBytes (C01.exItems.flatMap Item.wire) ++
        (([0x82, 127] ++ [128, 0, 0, 0, 0, 0, 0, 0]) ++ [0x82, 1, 65]))] ++
        [.wait 3 (some (.data [0x81, 1, 66]))])).trace =
    [.connecting, .connected false, .ready none true, .poll,
     .ping [1, 2], .pong [], .text [0x20AC, 0x61], .pong [7], .binary (List.replicate 126 255),
     .protocolError "payload is too large" false, .disconnected "forced" false] := by
  rw [exReplyZ, Http.lit_ofList]
  decide +kernel

/-- `violation_end_to_end_mid_ext` applies with the extension negotiated: a Text message is begun
    (FIN = 0, then a Ping), then a frame with RSV2 set arrives -/
example : ∃ msg crit k, Monitor.events (runAll C01E2E.exCfg C01E2E.exReact
      (reads [exReplyZ ++ ([] ++ (wireBytes (openWire true { payload := [65], form := .short } []
        [{ pong := false, payload := [9], form := .short }]) ++ (([0xA0, 1] ++ ([] ++ ([] ++ [66]))) ++ [0x8A, 0])))] ++ [])).trace =
    [.connecting, .connected false, .ready none true, .poll] ++ ([] ++ [.ping [9]]) ++
      [.protocolError msg crit, .disconnected k false] := by
  obtain ⟨msg, crit, k, _, _, _, _, _, _, _, _, _, _, h⟩ :=
    violation_end_to_end_mid_ext C01E2E.exCfg C01E2E.exReact false none (some exDz) C01E2E.exSetup rfl exReplyZ exGoodReplyZ
      [] (by simp) true { payload := [65], form := .short } [] [{ pong := false, payload := [9], form := .short }]
      (by decide) (by intro x hx; cases hx) (by decide) (fun _ => ⟨rfl, Or.inl rfl, 0, by decide⟩)
      ([0xA0, 1] ++ ([] ++ ([] ++ [66])))
      (.header 0xA0 1 [] [] [66] (by decide) (by decide)
        ⟨by decide, by decide, by decide, by decide, by decide, by decide⟩ (by decide)) [0x8A, 0]
      [exReplyZ ++ ([] ++ (wireBytes (openWire true { payload := [65], form := .short } []
        [{ pong := false, payload := [9], form := .short }]) ++ (([0xA0, 1] ++ ([] ++ ([] ++ [66]))) ++ [0x8A, 0])))]
      (by rw [exReplyZ, Http.lit_ofList]; decide +kernel) (by simp [wireBytes]) []
  exact ⟨msg, crit, k, h⟩

/-- RSV2 with the extension, inside a fragmented text message, evaluated directly -/
example : Monitor.events (runAll C01E2E.exCfg C01E2E.exReact
      (reads [exReplyZ ++ ([0x01, 1, 65] ++ [0x89, 1, 9] ++ [0xA0, 1, 66] ++ [0x8A, 0])])).trace =
    [.connecting, .connected false, .ready none true, .poll, .ping [9],
     .protocolError "reserved bits set" false, .disconnected "forced" false] := by
  rw [exReplyZ, Http.lit_ofList]
  decide +kernel

/-- **What lomond does NOT refuse** (RFC 7692 §6.1 says it must): with permessage-deflate negotiated,
    a Ping with RSV1 = 1 passes `frame.validate()` — `parserMsg` has no objection and
    `Spec.headerVerdict`, which follows RFC 6455 §5.2 for RSV1 ("defined by the negotiated
    extension"), does not either —, so the frame reaches `Message.build`, which *inflates* the control
    payload: here `C9 07 f2 48 cd c9 c9 07 00` is delivered as `Ping(b'Hello')`, answered by a Pong, and
    the connection goes on.  The real code behaves the same (probe through `harness/world.py`:
    real trace = model trace, `E:ping:48656c6c6f`; likewise `01 01 41 C0 01 42` is delivered as Text "AB"). -/
theorem rsv1_control_frame_is_accepted :
    parserMsg true 0xC9 7 = none ∧ Spec.headerVerdict true false 0xC9 7 = .ok ∧
    Monitor.events (runAll { C01E2E.exCfg with inflate := Inflate.inflateAllSafe } (fun _ => [])
      (reads [exReplyZ ++ [0xC9, 7, 0xf2, 0x48, 0xcd, 0xc9, 0xc9, 0x07, 0x00]] ++ [.wait 0 (some .eof)])).trace =
    [.connecting, .connected false, .ready none true, .poll, .ping [72, 101, 108, 108, 111],
     .disconnected "connection-lost" false] := by
  refine ⟨by decide, by decide, ?_⟩
  rw [exReplyZ, Http.lit_ofList]
  decide +kernel

/-- … and RSV1 on a continuation frame is ignored as well: `01 01 41  C0 01 42` is Text "AB" -/
example : Monitor.events (runAll C01E2E.exCfg (fun _ => [])
      (reads [exReplyZ ++ [0x01, 1, 65, 0xC0, 1, 66]] ++ [.wait 0 (some .eof)])).trace =
    [.connecting, .connected false, .ready none true, .poll, .text [65, 66],
     .disconnected "connection-lost" false] := by
  rw [exReplyZ, Http.lit_ofList]
  decide +kernel

set_option linter.unusedVariables false in
/-- **A header the parser can refuse alone is refused when the header is complete.**  The parser
    is at a frame boundary in any system state — idle or inside a fragmented message, extension
    negotiated or not, any configuration with the repaired length rule, any application.  `b0 b1`
    are the two header bytes, `ext` / `key` the extended length and the masking key they announce
    (`HdrTail`; both empty for an unmasked frame with a 7-bit length, and then the statement is about
    `feedLoop [b0, b1]`), `len` the announced payload length.  Then

    * if RFC 6455's classification calls the header a violation *in every fragmentation state and
      even with the MASK bit cleared* — RSV2 / RSV3 set, RSV1 without permessage-deflate, reserved
      opcode, control frame with FIN = 0 or a length above 125 — then feeding the header alone,
      followed by anything (`rest`: nothing, a part of the payload, the whole stream), raises a
      header-level ProtocolError at once: no payload byte is awaited, nothing of `rest` is looked
      at, the state is untouched except for the parser;
    * otherwise, if a payload is announced, feeding the complete header returns normally, nothing
      raised and nothing yielded, with the parser waiting for the payload.  In particular the
      remaining violation classes — MASK = 1, a continuation with nothing to continue, a new data
      frame inside a fragmented message — are *not* raised at the header: `C04.header_classes` shows
      they are raised when the frame's last payload byte is in. -/
theorem header_only_promptness (s : Sys) (hv : s.cfg.v.ctrlLen = true) (hs : AwaitHeader s.p)
    (b0 b1 : Nat) (hb0 : b0 < 256) (ext key : Bytes) (len : Nat) (ht : HdrTail b1 ext key len) :
    ((∀ mid, Spec.headerVerdict s.p.compression mid b0 (b1 % 128) = .violation) →
      ∃ msg ∈ headerMsgs, ∀ rest, ∃ p'', feedLoop ([b0, b1] ++ (ext ++ (key ++ rest))) s
        = .err (.protocol msg) { s with p := p'' }) ∧
    (¬ (∀ mid, Spec.headerVerdict s.p.compression mid b0 (b1 % 128) = .violation) → len ≠ 0 →
      ∃ pP, feedLoop ([b0, b1] ++ (ext ++ key)) s = .ok true { s with p := pP } ∧
        AwaitPayload pP (hdrFrameV b0 (if decide (b1 ≥ 128) then some key else none)) len) := by
  have h := header_prompt s hv hs b0 b1 ext key len ht
  have hiff := parserMsg_iff_spec s.p.compression b0 b1
  constructor
  · intro hviol
    have hne := hiff.mpr hviol
    cases hpm : parserMsg s.p.compression b0 b1 with
    | none => exact absurd hpm hne
    | some msg =>
      rw [hpm] at h
      exact ⟨msg, parserMsg_mem _ _ _ _ hpm, h⟩
  · intro hno hlen
    cases hpm : parserMsg s.p.compression b0 b1 with
    | some msg => exact absurd (hiff.mp (by rw [hpm]; simp)) hno
    | none =>
      rw [hpm] at h
      exact h hlen

/-- the two-byte case spelled out: an unmasked header with a 7-bit length -/
theorem two_header_bytes_suffice (s : Sys) (hv : s.cfg.v.ctrlLen = true) (hs : AwaitHeader s.p)
    (b0 b1 : Nat) (hb0 : b0 < 256) (hb1 : b1 < 126)
    (hviol : ∀ mid, Spec.headerVerdict s.p.compression mid b0 b1 = .violation) :
    ∃ msg ∈ headerMsgs, ∃ p'', feedLoop [b0, b1] s = .err (.protocol msg) { s with p := p'' } := by
  have hm : b1 % 128 = b1 := Nat.mod_eq_of_lt (by omega)
  have ht : HdrTail b1 [] [] b1 :=
    ⟨fun _ => ⟨rfl, hm.symm⟩, fun h => by omega, fun h => by omega, by
      have : ¬ b1 ≥ 128 := by omega
      simp [this], fun h => by omega, by omega⟩
  obtain ⟨msg, hmem, h⟩ := (header_only_promptness s hv hs b0 b1 hb0 [] [] b1 ht).1 (by rw [hm]; exact hviol)
  obtain ⟨p'', e⟩ := h []
  exact ⟨msg, hmem, p'', by simpa using e⟩

-- idle, and inside a fragmented text message: reserved opcode 0xB, RSV1 without extension, a Ping
-- with FIN = 0, a Ping announcing 126 bytes (the error comes with the two length bytes, none of the
-- 126 payload bytes has arrived)
example : ∃ msg ∈ headerMsgs, ∃ p'', feedLoop [0x8B, 5] C04.idle = .err (.protocol msg) { C04.idle with p := p'' } :=
  two_header_bytes_suffice C04.idle rfl ⟨rfl, rfl, rfl, rfl⟩ 0x8B 5 (by decide) (by decide) (by decide)
example : ∃ msg ∈ headerMsgs, ∃ p'', feedLoop [0xC1, 5] C04.midText = .err (.protocol msg) { C04.midText with p := p'' } :=
  two_header_bytes_suffice C04.midText rfl ⟨rfl, rfl, rfl, rfl⟩ 0xC1 5 (by decide) (by decide) (by decide)
example : ∃ msg ∈ headerMsgs, ∃ p'', feedLoop [0x09, 0] C04.midText = .err (.protocol msg) { C04.midText with p := p'' } :=
  two_header_bytes_suffice C04.midText rfl ⟨rfl, rfl, rfl, rfl⟩ 0x09 0 (by decide) (by decide) (by decide)
example : ∃ msg ∈ headerMsgs, ∀ rest, ∃ p'', feedLoop ([0x89, 126] ++ ([0, 126] ++ ([] ++ rest))) C04.idle
    = .err (.protocol msg) { C04.idle with p := p'' } :=
  (header_only_promptness C04.idle rfl ⟨rfl, rfl, rfl, rfl⟩ 0x89 126 (by decide) [0, 126] [] 126
    ⟨fun h => by omega, fun _ => ⟨rfl, by decide⟩, fun h => by omega, by decide, fun _ => by omega, by omega⟩).1
    (by decide)

-- a masked Text frame and a new Text frame inside a fragmented message are *not* refused at the
-- header: the loop returns normally and waits for the payload …
example : ∃ pP, feedLoop ([0x81, 0x82] ++ ([] ++ [1, 2, 3, 4])) C04.idle = .ok true { C04.idle with p := pP } ∧
    AwaitPayload pP (hdrFrameV 0x81 (some [1, 2, 3, 4])) 2 :=
  (header_only_promptness C04.idle rfl ⟨rfl, rfl, rfl, rfl⟩ 0x81 0x82 (by decide) [] [1, 2, 3, 4] 2
    ⟨fun _ => ⟨rfl, by decide⟩, fun h => by omega, fun h => by omega, by decide, fun h => by omega, by omega⟩).2
    (by decide) (by decide)
example : ∃ pP, feedLoop ([0x81, 2] ++ ([] ++ [])) C04.midText = .ok true { C04.midText with p := pP } ∧
    AwaitPayload pP (hdrFrameV 0x81 none) 2 :=
  (header_only_promptness C04.midText rfl ⟨rfl, rfl, rfl, rfl⟩ 0x81 2 (by decide) [] [] 2
    ⟨fun _ => ⟨rfl, by decide⟩, fun h => by omega, fun h => by omega, by decide, fun h => by omega, by omega⟩).2
    (by decide) (by decide)
-- … and the error comes with the frame's last payload byte (`C04.header_classes`)
example : ∃ msg ∈ headerMsgs, ∃ s', feedLoop ([0x81, 2] ++ ([] ++ ([] ++ [104, 105]))) C04.midText
    = .err (.protocol msg) s' :=
  (C04.header_classes C04.midText rfl ⟨rfl, rfl, rfl, rfl⟩ 0x81 2 (by decide) (by decide) [] [] [104, 105]
    ⟨by decide, by decide, by decide, by decide, by decide, by decide⟩ (by decide)).mpr (by decide)

open AnyApp in
/-- **After a violation, any application.**  For EVERY configuration (every variant), EVERY
    application — it may send, ping, call `close()` or `session.close()`, or leave the loop, at any
    event, before and after the error — and EVERY environment script (server bytes in any
    segmentation, EOF, socket errors, time-outs, the clock): the complete trace of `run()` contains no
    ProtocolError event, or it is

        post ++ cw ++ l ++ ProtocolError(m, c) :: pre            (newest first)

    * `pre`: no ProtocolError event (exactly one in the whole trace);
    * `l` is a `ReactSeg`: application calls — each recorded as its result token, preceded by at most
      one wire effect *of that call* (a frame handed to `sendall`, or `session.close()` giving up the
      socket) — and the timer events Poll / Unresponsive.  Every frame in `l` is the outcome of an
      application call made while the application handles the ProtocolError event (or the Poll /
      Unresponsive that `_regular()` yields right after it): at that moment the websocket is still
      open, so such a call can succeed, and the frame is the application's, not the library's.
      The library itself writes nothing here: no automatic Ping (none is ever due inside
      `WebSocket.feed`: `AnyApp.pingOK_feedBody`), no Pong, no Close echo;
    * `cw` (`CloseWrite`): nothing, or — non-critical errors only — the one Close frame built from
      code 1002 and the error text: the only frame the library writes after the error;
    * `post` (`TailV`): socket / selector release, a non-graceful `Disconnected`, clock ticks and
      result tokens of application calls — **no write at all**: once the library has reacted, no
      application send succeeds any more (the socket is closed before `Disconnected` is yielded).

    What the application did BEFORE the error (`pre` is arbitrary apart from containing no
    ProtocolError: any sends, pings, even a `close()` of its own) changes none of this. -/
theorem violation_any_application (cfg : Cfg) (react : React) (env : List EnvStep) :
    (∀ o ∈ (runAll cfg react env).trace, NotPE o) ∨
    ∃ post cw l m c pre, (runAll cfg react env).trace = post ++ cw ++ l ++ .ev (.protocolError m c) :: pre ∧
      (∀ o ∈ post, TailV o) ∧ CloseWrite m c cw ∧ ReactSeg l ∧ (∀ o ∈ pre, NotPE o) :=
  runAll_trace2 cfg react env

open AnyApp in
/-- the same for one call of `WebSocket.feed` (cf. `C04.violation_reported_once`): from any state
    in which no automatic Ping is due (`PingOK`; every state `run()` calls `feed` in:
    `AnyApp.regular_ok_pingOK`), a violation raised below the `except` clauses is answered by exactly
    one ProtocolError event, the application's own reaction, and at most one Close of the library's -/
theorem violation_any_application_feed (data : Bytes) (s s1 : Sys) (x : Exn) (msg : String) (crit : Bool)
    (hc : s.closed = false) (hb : feedBody data s = .err x s1) (hx : violationOf x = some (msg, crit))
    (hp : PingOK s) :
    ∃ y s2 l cw,
      wsFeed data s = .err y s2 ∧
      s2.trace = cw ++ l ++ .ev (.protocolError msg crit) :: s1.trace ∧
      ReactSeg l ∧ CloseWrite msg crit cw := by
  have hp1 : PingOK s1 := by
    have := pingOK_feedBody data s hp
    rw [hb] at this; exact this
  obtain ⟨y, s2, l, cw, e, htr, hseg, hcw⟩ := feedHandler_any_app x msg crit hx s1 hp1
  rw [wsFeed_of_feedBody_err data s s1 x hc hb, tryC_err e]
  obtain ⟨y', hy'⟩ := unwrapOuter_err y s2
  exact ⟨y', s2, l, cw, hy', htr, hseg, hcw⟩

/-- the hypotheses of `violation_any_application_feed` hold on the idle connection of C04 (not yet
    ready: no automatic Ping can be due) with a reserved-opcode frame, for any application -/
example : ∃ y s2 l cw, wsFeed ([0x8B, 0] ++ [0x82, 1, 65]) C04.idle = .err y s2 ∧
    s2.trace = cw ++ l ++ [.ev (.protocolError "opcode is reserved" false)] ∧
    AnyApp.ReactSeg l ∧ CloseWrite "opcode is reserved" false cw := by
  obtain ⟨p'', e⟩ := C04.parser_verdict C04.idle rfl ⟨rfl, rfl, rfl, rfl⟩ 0x8B 0 [] [] [] [0x82, 1, 65]
    ⟨by decide, by decide, by decide, by decide, by decide, by decide⟩
  have hb : feedBody ([0x8B, 0] ++ [0x82, 1, 65]) C04.idle
      = .err (.protocol "opcode is reserved") { C04.idle with p := p'' } := feedBody_err (by decide) e
  exact violation_any_application_feed _ C04.idle _ _ "opcode is reserved" false rfl hb rfl
    (fun h => by cases h)

/-- the reading of `ReactSeg` and `TailV`: a result token, a frame followed by its result token, a
    timer event are allowed; a bare frame (one the library wrote by itself) is not, and the tail
    allows no frame whatsoever -/
example : AnyApp.ReactSeg [.res .ok, .wr [1, 2], .res .typeError, .ev .poll, .res .wsClosing] ∧
    ¬ AnyApp.ReactSeg [.wr [0x8A, 0x80, 0, 0, 0, 0]] ∧ ¬ AnyApp.ReactSeg [.res .ok, .wr [1], .wr [2]] ∧
    AnyApp.TailV (.res .wsUnavailable) ∧ AnyApp.TailV (.ev (.disconnected "forced" false)) ∧
    ¬ AnyApp.TailV (.wr [1]) ∧ ¬ AnyApp.TailV (.ev (.text [65])) := by
  refine ⟨.callW _ _ rfl (.call _ (.timer _ (Or.inl rfl) (.call _ .nil))), ?_, ?_, ⟨trivial, rfl⟩, ⟨trivial, rfl⟩, ?_, ?_⟩
  · intro h; cases h
  · intro h
    cases h with
    | call _ h => cases h
    | callW _ _ _ h => cases h
  · intro h; cases h.2
  · intro h; exact h.1

/-- an application that answers *every* event — the ProtocolError and the Disconnected included —
    by sending a text, and calls `close()` on top when it sees the ProtocolError -/
def exBusy : React := fun h =>
  match h with
  | .protocolError _ _ :: _ => [.sendText (.str [104, 105]) false, .close (some 1000) (.str [])]
  | _ => [.sendText (.str [104, 105]) false]

/-- the trace of such a run (a reserved-opcode frame after the handshake) from the Ready event on,
    newest first: the sends made *before* the error (at Ready / Poll) went out; at the ProtocolError
    event the application's send and its own Close went out (`res ok` after each: they are the
    application's frames, a `ReactSeg`); the library's `close(1002)` then finds the websocket already
    closing and writes nothing (`cw = []`); after `_close_socket()` the application's send at
    Disconnected fails (`res wsUnavailable`) and nothing is written -/
example : (runAll C01E2E.exCfg exBusy (reads [C01E2E.exReply ++ [0x8B, 0]])).trace.take 15 =
    [.selClose, .res .wsUnavailable, .ev (.disconnected "forced" false), .sockClose,
     .res .ok, .wr [0x88, 0x82, 0, 0, 0, 0, 3, 232], .res .ok, .wr [0x81, 0x82, 0, 0, 0, 0, 104, 105],
     .ev (.protocolError "opcode is reserved" false),
     .res .ok, .wr [0x81, 0x82, 0, 0, 0, 0, 104, 105], .ev .poll,
     .res .ok, .wr [0x81, 0x82, 0, 0, 0, 0, 104, 105], .ev (.ready none false)] := by
  rw [C01E2E.exReply, Http.lit_ofList]
  decide +kernel

/-- with a silent application the library's own Close (1002 + the error text) is the one frame
    written after the error -/
example : (runAll C01E2E.exCfg (fun _ => []) (reads [C01E2E.exReply ++ [0x8B, 0]])).trace.take 6 =
    [.selClose, .ev (.disconnected "forced" false), .sockClose,
     .wr ([0x88, 0x94, 0, 0, 0, 0, 3, 234] ++ Http.lit "opcode is reserved"),
     .ev (.protocolError "opcode is reserved" false), .ev .poll] := by
  rw [C01E2E.exReply, Http.lit_ofList, Http.lit_ofList]
  decide +kernel

end Lomond.C04E2E2
