/-
  C13 companion — the four abandonment mechanisms, and "closed exactly once".
  Property theorems only (helper lemmas: Proofs/Once.lean, Proofs/WithBlock.lean).

  The four ways an application stops iterating (harness/world.py, `_run_one`):

    mechanism                      what Python does                                   model
    ---------------------------    ------------------------------------------------   ------------------------
    `gen.close()`                  GeneratorExit raised at the suspended `yield`      `Act.abandon false`
    `break`, drop the generator    the same, when the generator is collected          `Act.abandon false`
    exception raised in handler    the same, when the generator is collected          `Act.abandon false`
    exception leaves `with ws:`    `ws.__exit__` calls `session.close()` — the        `Act.abandon true`
                                   socket is closed — and then the same

  For the first three the model has one action (what differs between them — *when* CPython finalises
  the generator — is runtime behaviour, see the property's ASSUMPTIONS): `Exn.genExit` is raised at
  that `yield`, exactly the handlers Python would run are run (`feedYield`'s `except GeneratorExit`,
  `run()`'s `finally`), and `runAll` returns the state they leave.  For the with-block `Core.runAll`
  additionally applies `closeSocket` (`session.close()`) — AFTER the handlers, whereas Python calls it
  BEFORE the generator is finalised.  `WithBlock.withFirst` puts it where Python has it (the
  application calls `session.close()` itself right before it stops iterating); the theorems below
  cover both orders.

  `sockCloses tr` / `selCloses tr` count the `.sockClose` / `.selClose` entries of a trace.  The real
  `_close_socket` is idempotent (`if self._sock is None: return`, `finally: self._sock = None`), the
  simulated socket logs a close only when it really closes (`FakeSocket.close`), and so does the
  model (`Core.closeSocket`).
-/
import Lomond.Properties.C13
import Lomond.Proofs.Once
import Lomond.Proofs.WithBlock

namespace Lomond.C13Once
open Lomond Lomond.Core Lomond.Core.Monitor Lomond.Core.Once Lomond.Core.WithBlock

/-- **The socket is closed at most once, and exactly once iff it was ever opened and is closed at the
    end.**  For every configuration (any variant flags), application (abandoning or not, by any
    mechanism) and environment script: the trace of the connection has at most one `.sockClose`
    entry; it has exactly one iff `run()` took a socket from `_connect()` (`SocketOpened`: the
    application let `run()` get past `Connecting` and `_connect()` returned a socket — also when the
    selector could then not be created) and the connection ends with the socket closed; in the
    repaired `run()` (`cleanup = true`) the latter always holds: exactly one iff a socket was opened. -/
theorem socket_closed_once (cfg : Cfg) (react : React) (env : List EnvStep) :
    sockCloses (runAll cfg react env).trace ≤ 1 ∧
    (sockCloses (runAll cfg react env).trace = 1 ↔
      SocketOpened cfg react ∧ (runAll cfg react env).sockOpen = false) ∧
    (cfg.v.cleanup = true → (sockCloses (runAll cfg react env).trace = 1 ↔ SocketOpened cfg react)) := by
  have h := runAll_outcome cfg react env
  have h1 := h.sock
  have h2 := h.sock01
  unfold sockPot at h1 h2
  have key : sockCloses (runAll cfg react env).trace = 1 ↔
      SocketOpened cfg react ∧ (runAll cfg react env).sockOpen = false := by
    cases hs : (runAll cfg react env).sockOpen with
    | false =>
      rw [hs] at h1 h2
      simp only [Bool.toNat_false, Nat.add_zero] at h1 h2
      exact ⟨fun e => ⟨h1.mp e, rfl⟩, fun e => h1.mpr e.1⟩
    | true =>
      rw [hs] at h1 h2
      simp only [Bool.toNat_true] at h1 h2
      exact ⟨fun e => by omega, fun e => by cases e.2⟩
  refine ⟨by omega, key, fun hc => ?_⟩
  rw [key]
  exact ⟨fun e => e.1, fun e => ⟨e, (C13.abandon_releases cfg react env hc).1⟩⟩

/-- **The selector is closed at most once, exactly once iff it was created, and never left open** —
    for every configuration (also the unrepaired `run()`: `finally: selector.close()` was always
    there), application and script.  `SelectorCreated`: `_connect()` returned a socket for which a
    selector can be made, `Connected` was yielded, and the application did not stop iterating there. -/
theorem selector_closed_once (cfg : Cfg) (react : React) (env : List EnvStep) :
    selCloses (runAll cfg react env).trace ≤ 1 ∧
    (selCloses (runAll cfg react env).trace = 1 ↔ SelectorCreated cfg react (runAll cfg react env).trace) ∧
    (runAll cfg react env).selOpen = false := by
  have h := runAll_outcome cfg react env
  exact ⟨h.sel01, h.sel, h.selClosed⟩

/-- no socket, no close: when `_connect()` fails, or the application stops iterating at `Connecting` -/
theorem no_socket_no_close (cfg : Cfg) (react : React) (env : List EnvStep) (h : ¬ SocketOpened cfg react) :
    Obs.sockClose ∉ (runAll cfg react env).trace ∧ Obs.selClose ∉ (runAll cfg react env).trace := by
  have o := runAll_outcome cfg react env
  have h1 : sockCloses (runAll cfg react env).trace = 0 := by
    have ⟨a, b, _⟩ := socket_closed_once cfg react env
    by_cases e : sockCloses (runAll cfg react env).trace = 1
    · exact absurd (b.mp e).1 h
    · omega
  have h2 : selCloses (runAll cfg react env).trace = 0 := by
    have a := o.sel01
    by_cases e : selCloses (runAll cfg react env).trace = 1
    · exact absurd (o.selSock (o.sel.mp e)) h
    · omega
  exact ⟨by rw [← List.count_pos_iff]; unfold sockCloses at h1; omega,
    by rw [← List.count_pos_iff]; unfold selCloses at h2; omega⟩

inductive Mechanism
  | genClose          -- `gen.close()`
  | breakDrop         -- `break`, then the generator is dropped and collected
  | raiseInHandler    -- an exception raised in the handler leaves the `for` loop
  | withBlock         -- an exception leaves the `with ws:` block around the loop
  deriving DecidableEq, Repr

/-- the model's action for a mechanism: only the with-block is distinguished (`session.close()`) -/
def Mechanism.act : Mechanism → Act
  | .withBlock => .abandon true
  | _ => .abandon false

/-- the application stops iterating, if at all, by mechanism `m` -/
def Uses (m : Mechanism) (react : React) : Prop := ∀ h w, Act.abandon w ∈ react h → Act.abandon w = m.act

/-- **The with-block flag is set only by leaving a with-block.**  `abandonedWith = true` at the end of a
    connection means an `Act.abandon true` of the application was executed: `GeneratorExit` originates
    in the application's reaction at a `yield`, and finalisation (`feed`'s `except GeneratorExit`,
    `run()`'s `finally`) touches neither the application nor that flag. -/
theorem with_flag_only_by_with_block (cfg : Cfg) (react : React) (env : List EnvStep)
    (h : (runAll cfg react env).abandonedWith = true) : ∃ hist, Act.abandon true ∈ react hist := by
  obtain ⟨hist, hm⟩ := ((finW_run cfg react env).2 h).1
  rw [h] at hm
  exact ⟨hist, hm⟩

/-- **`gen.close()`, `break` + drop, exception in the handler** (one model action; they differ only in
    *when* CPython finalises the generator).  For an application that stops iterating — at any event
    of its choice — by one of these: nothing but the generator's own finalisation happens (`runAll`
    returns the state `run()` left, no `session.close()`), the selector is closed, and in the repaired
    `run()` the socket is closed — by `feed`'s `except GeneratorExit` or `run()`'s `finally`
    (`C13.present_variant_leaks`: the unrepaired one leaked it at `Connected`), exactly once if it was
    ever opened. -/
theorem abandon_releases_generator_finalised (m : Mechanism) (hm : m ≠ .withBlock) (cfg : Cfg) (react : React)
    (env : List EnvStep) (hu : Uses m react) :
    (runAll cfg react env).abandonedWith = false ∧
    (∀ s, run (initSys cfg react env) = .err .genExit s → runAll cfg react env = s) ∧
    (runAll cfg react env).selOpen = false ∧
    (cfg.v.cleanup = true → (runAll cfg react env).sockOpen = false ∧
      (sockCloses (runAll cfg react env).trace = 1 ↔ SocketOpened cfg react)) := by
  have nw : ∀ s, FinW react s → s.abandonedWith = false := by
    intro s f
    cases ha : s.abandonedWith with
    | false => rfl
    | true =>
      obtain ⟨hist, hmem⟩ := (f ha).1
      have := hu hist true (ha ▸ hmem)
      cases m <;> first | exact absurd rfl hm | cases this
  refine ⟨nw _ (finW_run cfg react env).2, ?_, (selector_closed_once cfg react env).2.2,
    fun hc => ⟨(C13.abandon_releases cfg react env hc).1, (socket_closed_once cfg react env).2.2 hc⟩⟩
  intro s hr
  rw [runAll_genExit hr, nw s (by have := (finW_run cfg react env).1; rw [hr] at this; exact this)]
  rfl

/-- **An exception leaves the `with ws:` block — the model's order** (`Core.runAll`: the generator is
    finalised, then `session.close()`).  Whenever a connection was abandoned that way, at any event:
    the final state is `closeSocket` applied to what finalisation left, the socket is closed — also in
    the unrepaired `run()` (`cleanup = false`), where the other mechanisms leak it — and the selector
    is closed; the socket was closed at most once (`socket_closed_once`: exactly once iff opened). -/
theorem abandon_releases_with_block (cfg : Cfg) (react : React) (env : List EnvStep) (s : Sys)
    (hr : run (initSys cfg react env) = .err .genExit s) (hw : s.abandonedWith = true) :
    runAll cfg react env = (closeSocket s).state ∧
    (runAll cfg react env).sockOpen = false ∧ (runAll cfg react env).selOpen = false ∧
    (sockCloses (runAll cfg react env).trace = 1 ↔ SocketOpened cfg react) := by
  have e : runAll cfg react env = (closeSocket s).state := by
    rw [runAll_genExit hr, hw]
    rfl
  have hso : (runAll cfg react env).sockOpen = false := by rw [e]; exact (closeSocket_state s).1
  refine ⟨e, hso, (selector_closed_once cfg react env).2.2, ?_⟩
  rw [(socket_closed_once cfg react env).2.1]
  exact ⟨fun h => h.1, fun h => ⟨h, hso⟩⟩

/-- **An exception leaves the `with ws:` block — Python's order** (`session.close()` first, then the
    generator is finalised).  `withFirst react` is the application that calls `session.close()`
    directly before it stops iterating out of a with-block (and is `react` otherwise).  Whenever its
    connection was abandoned that way, at any event, for any configuration (also `cleanup = false`):
    the socket was already closed when `GeneratorExit` was raised — finalisation found it closed:
    after the outcome of the application's last call (that `session.close()`) the trace has nothing
    but the selector's close; the `session.close()` of `runAll` is a no-op (`runAll` returns the
    state finalisation left); socket and selector are closed; exactly one `.sockClose` iff a socket
    was ever opened. -/
theorem with_block_closes_before_finalisation (cfg : Cfg) (react : React) (env : List EnvStep) (s : Sys)
    (hr : run (initSys cfg (withFirst react) env) = .err .genExit s) (hw : s.abandonedWith = true) :
    s.sockOpen = false ∧ (∀ o ∈ afterLastRes s.trace, o = Obs.selClose) ∧
    runAll cfg (withFirst react) env = s ∧ s.selOpen = false ∧
    (sockCloses s.trace = 1 ↔ SocketOpened cfg (withFirst react)) := by
  have f : FinW (withFirst react) s := by
    have := (finW_run cfg (withFirst react) env).1; rw [hr] at this; exact this
  obtain ⟨hso, hos⟩ := (f hw).2 hw (closesFirst_withFirst react)
  have hni : Obs.incomplete ∉ s.trace := by
    have := (run_spec cfg (withFirst react) env).2.1
    rw [hr] at this; exact this
  obtain ⟨e1, _, h3, h4⟩ := abandon_releases_with_block cfg (withFirst react) env s hr hw
  have e : runAll cfg (withFirst react) env = s := by
    rw [e1]
    unfold closeSocket
    rw [if_neg (by rw [hso]; decide)]
    rfl
  rw [e] at h3 h4
  refine ⟨hso, fun o ho => ?_, e, h3, h4⟩
  rcases hos o ho with h | h
  · exact h
  · exact absurd (h ▸ mem_afterLastRes ho) hni

/-- for an application that never leaves a with-block nothing changes -/
theorem withFirst_id (react : React) (m : Mechanism) (hm : m ≠ .withBlock) (hu : Uses m react) :
    withFirst react = react := by
  apply withFirst_of_no_with
  intro hist hmem
  have := hu hist true hmem
  cases m <;> first | exact absurd rfl hm | cases this

/-- `HTTP/1.1 101 X\r\nUpgrade: websocket\r\nSec-WebSocket-Accept: k\r\n\r\n` -/
def exReply : Bytes :=
  [72, 84, 84, 80, 47, 49, 46, 49, 32, 49, 48, 49, 32, 88, 13, 10, 85, 112, 103, 114, 97, 100, 101, 58, 32, 119,
   101, 98, 115, 111, 99, 107, 101, 116, 13, 10, 83, 101, 99, 45, 87, 101, 98, 83, 111, 99, 107, 101, 116, 45, 65,
   99, 99, 101, 112, 116, 58, 32, 107, 13, 10, 13, 10]
def exCfg : Cfg := { challenge := [107] }
/-- reply and a Text frame in one read, then end-of-stream -/
def exEnv : List EnvStep := [.wait 0 (some (.data (exReply ++ [0x81, 2, 104, 105]))), .wait 0 (some .eof)]
/-- stop iterating at the `n`-th event (1-based), leaving a with-block iff `w` -/
def stopAt (n : Nat) (w : Bool) : React := fun hist => if hist.length = n then [.abandon w] else []

-- abandoned at the Text event (inside `feed`): `feed`'s `except GeneratorExit` closes the socket, then
-- `finally` (a no-op for the socket) closes the selector, then — with-block — `session.close()` (a no-op)
example : (runAll exCfg (stopAt 5 true) exEnv).trace =
    [.selClose, .sockClose, .ev (.text [104, 105]), .ev .poll, .ev (.ready none false), .ev (.connected false),
     .wr [], .ev .connecting] := by decide +kernel
example : SocketOpened exCfg (stopAt 5 true) ∧
    SelectorCreated exCfg (stopAt 5 true) (runAll exCfg (stopAt 5 true) exEnv).trace := by
  refine ⟨⟨⟨false, Or.inl rfl⟩, by decide⟩, false, rfl, by decide +kernel, by decide⟩
-- not abandoned: one close each as well
example : sockCloses (runAll exCfg (fun _ => []) exEnv).trace = 1 ∧ selCloses (runAll exCfg (fun _ => []) exEnv).trace = 1 := by
  decide +kernel
-- abandoned at Connecting: nothing to close
example : ¬ SocketOpened exCfg (stopAt 1 false) := by
  rintro ⟨_, h⟩; exact h false (by decide)
-- the unrepaired run() abandoned at Connected by `gen.close()`: socket opened, never closed (D4) …
example : sockCloses (runAll { exCfg with v := { cleanup := false } } (stopAt 2 false) exEnv).trace = 0 ∧
    (runAll { exCfg with v := { cleanup := false } } (stopAt 2 false) exEnv).sockOpen = true := by decide +kernel
-- … but closed (once) when a with-block is left there: `session.close()`
example : sockCloses (runAll { exCfg with v := { cleanup := false } } (stopAt 2 true) exEnv).trace = 1 ∧
    (runAll { exCfg with v := { cleanup := false } } (stopAt 2 true) exEnv).sockOpen = false := by decide +kernel

-- the mechanisms: `stopAt n false` uses `gen.close()` (or drop / raise), `stopAt n true` the with-block
example : Uses .genClose (stopAt 5 false) ∧ Uses .withBlock (stopAt 5 true) := by
  constructor <;> (intro h w hm; unfold stopAt at hm; split at hm <;> simp at hm; subst hm; rfl)
-- the hypotheses of `abandon_releases_with_block` / `with_block_closes_before_finalisation`
example : (match run (initSys exCfg (stopAt 5 true) exEnv) with
    | .err .genExit s => s.abandonedWith | _ => false) = true := by decide +kernel
example : (match run (initSys { exCfg with v := { cleanup := false } } (withFirst (stopAt 2 true)) exEnv) with
    | .err .genExit s => s.abandonedWith | _ => false) = true := by decide +kernel
-- Python's order at the Text event: `session.close()` closes the socket (outcome logged), then finalisation closes
-- only the selector — the same entries as in the model's order above, plus the outcome of the call
example : (runAll exCfg (withFirst (stopAt 5 true)) exEnv).trace =
    [.selClose, .res .ok, .sockClose, .ev (.text [104, 105]), .ev .poll, .ev (.ready none false), .ev (.connected false),
     .wr [], .ev .connecting] := by decide +kernel
-- the unrepaired run(), with-block left at Connected: closed by `session.close()`, nothing for finalisation to do
example : (runAll { exCfg with v := { cleanup := false } } (withFirst (stopAt 2 true)) exEnv).trace =
    [.res .ok, .sockClose, .ev (.connected false), .wr [], .ev .connecting] := by decide +kernel

end Lomond.C13Once
