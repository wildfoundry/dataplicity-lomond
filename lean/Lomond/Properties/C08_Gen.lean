/-
  C08 companion — the closing-handshake decisions of the hand-written model are what session.py,
  websocket.py and message.py say.

  Produced by harness/py2lean.py from the source on every check run:
  `sessionCheckWritable` (`WebsocketSession._check_writable`: the three refusals and their order),
  `sessionWrite` (the body of `with self._lock:` in `WebsocketSession.write`, with its `closing`
  parameter), `sessionSendClosing` (the `closing=` argument `send` passes), `wsOnDisconnect`
  (`WebSocket.on_disconnect`), `wsOnClose` (`WebSocket._on_close`: reserved code, closed / closing
  tests, which event, echo or not, which flags) and `closeFromPayload` (`Close.from_payload`).
  The theorems state that `Core.write`, `Core.onDisconnect`, `Core.onClose` and
  `Core.closeFromPayload` decide exactly like these.  Theorems only; helpers in `Proofs/GenTie`.
-/
import Lomond.Proofs.GenTie
import Lomond.Generated.Code

namespace Lomond.C08Gen
open Lomond Lomond.Core Lomond.GenTie
open Lomond.Gen.Code

/-- the three refusals, in the order of the source: no socket ⇒ `WebSocketUnavailable`, then
    closed ⇒ `WebSocketClosed`, then closing ⇒ `WebSocketClosing`; otherwise the data may be sent
    (the result lists the flag reads: `closing` is loaded before `closed` is tested) -/
theorem gen_checkWritable_spec (noSock closed closing : Bool) :
    sessionCheckWritable noSock closed closing =
      if noSock then .error ⟨"WebSocketUnavailable", "not connected"⟩
      else if closed then .error ⟨"WebSocketClosed", "data not sent"⟩
      else if closing then .error ⟨"WebSocketClosing", "data not sent"⟩
      else .ok [2, 1] := by
  cases noSock <;> cases closed <;> cases closing <;> rfl

/-- what the translated body of `write` computes: refused as `_check_writable` says; otherwise
    `_sendall` is called, and the websocket is `closing` afterwards iff it was asked to
    (`closing=True`, i.e. the data is a Close frame) -/
theorem gen_write_spec (noSock closed isClosing closing : Bool) :
    sessionWrite noSock closed isClosing closing =
      match sessionCheckWritable noSock closed isClosing with
      | .error e => .error e
      | .ok _ => .ok (true, closing) := by
  cases noSock <;> cases closed <;> cases isClosing <;> cases closing <;> rfl

/-- `send(opcode, data)` asks for the closing state exactly for a Close frame -/
theorem gen_sendClosing (op : Nat) : sessionSendClosing op = decide (op = Gen.opClose) := rfl

/-- `Core.write` is the translated `write` (with `closing=False`: the model's `wsClose` sets the
    flag itself): the same refusal in the same order, and `sendall` otherwise. -/
theorem gen_write (data : Bytes) (z : Option (Nat × Bytes)) (s : Sys) :
    write data z s =
      match sessionWrite (!s.sockOpen) s.closed s.closing false with
      | .error e => .ok (wsResOf e) s
      | .ok _ =>
        let k := s.writeCtr
        let s := { s with writeCtr := k + 1 }
        if s.cfg.writeFails k then .ok .transportFail { s with trace := .wrFail data :: s.trace }
        else
          match z with
          | none => .ok .ok { s with trace := .wr data :: s.trace }
          | some (op, plain) => .ok .ok { s with trace := .wrz op plain :: s.trace } := by
  rw [gen_write_spec, gen_checkWritable_spec]
  unfold write
  -- the three refusals in the order of the source, then the write itself
  cases ho : s.sockOpen
  · simp [wsResOf]
  cases hc : s.closed
  · cases hg : s.closing
    · rcases z with _ | ⟨op, plain⟩ <;> simp
    · simp [wsResOf]
  · simp [wsResOf]

/-- a Close frame written through `send` leaves the websocket closing, as `Core.wsClose` assumes
    when it sets `closing := true` after `sendFrame Gen.opClose …` -/
theorem gen_write_close (noSock closed isClosing : Bool) (r : Bool × Bool)
    (h : sessionWrite noSock closed isClosing (sessionSendClosing Gen.opClose) = .ok r) :
    r = (true, true) ∧ noSock = false ∧ closed = false ∧ isClosing = false := by
  revert h
  cases noSock <;> cases closed <;> cases isClosing <;> simp [sessionWrite, sessionCheckWritable, sessionSendClosing] <;>
    (intro h; exact h.symm)

example : sessionWrite false false false true = .ok (true, true) := rfl
example : sessionWrite false false true false = .error ⟨"WebSocketClosing", "data not sent"⟩ := rfl
example : sessionWrite false true true false = .error ⟨"WebSocketClosed", "data not sent"⟩ := rfl
example : sessionWrite true true true false = .error ⟨"WebSocketUnavailable", "not connected"⟩ := rfl

/-- what the translated `on_disconnect` does: close the session if there is one, then
    `closed = True`, then `closing = False` (the stores in this order) -/
theorem gen_onDisconnect_spec (hasSession closed closing : Bool) :
    wsOnDisconnect hasSession closed closing = (hasSession, true, false, [11, 12]) := by
  cases hasSession <;> rfl

/-- `Core.onDisconnect` is the translated `on_disconnect` of a websocket that has a session -/
theorem gen_onDisconnect (s : Sys) :
    onDisconnect s =
      (let r := wsOnDisconnect true s.closed s.closing
       (do (if r.1 then closeSocket else pure ())
           modS fun s => { s with closing := r.2.2.1, closed := r.2.1 } : M Unit) s) := by
  simp only [gen_onDisconnect_spec]
  rfl

/-- what the translated `_on_close` decides, for every close code and flag combination -/
theorem gen_onClose_spec (code : Option Nat) (closed closing : Bool) :
    wsOnClose code closed closing =
      if (match code with | some c => isInvalidCode c | none => false) then
        .error ⟨"ProtocolError", "reserved close code ({})"⟩
      else if closed then .ok (0, false, closed, closing, [1])
      else if closing then .ok (1, false, true, false, [1, 2, 11, 12])
      else .ok (2, true, closed, true, [1, 2, 12]) := by
  unfold wsOnClose
  cases code with
  | none => cases closed <;> cases closing <;> rfl
  | some c =>
    simp only [show Py.inRanges Gen.invalidCodeRanges c = isInvalidCode c from rfl]
    by_cases hi : isInvalidCode c = true <;> cases closed <;> cases closing <;> simp [hi]

/-- `Core.onClose` is the translated `_on_close`: a reserved code raises the ProtocolError;
    nothing happens once closed; while closing the server's Close completes the handshake
    (`Closed` is yielded, then `closed`/`closing` get the values the source assigns); otherwise
    `Closing` is yielded, the Close is echoed through `close()` and `closing` is set. -/
theorem gen_onClose (code : Option Nat) (reason : List Nat) (s : Sys) :
    onClose code reason s =
      match wsOnClose code s.closed s.closing with
      | .error _ => checkCloseCode code s
      | .ok r =>
        if r.1 = 0 then .ok () s
        else if r.1 = 1 then
          (do feedYield true (.closed code reason)
              modS fun s => { s with closing := r.2.2.2.1, closed := r.2.2.1 } : M Unit) s
        else
          (do feedYield true (.closing code reason)
              let res ← (if r.2.1 then wsClose code (.str reason) else pure .ok)
              raiseIfArgError res
              modS fun s => { s with closing := r.2.2.2.1 } : M Unit) s := by
  rw [gen_onClose_spec]
  unfold onClose checkCloseCode
  cases code with
  | none =>
    cases hc : s.closed <;> cases hg : s.closing <;>
      simp [bind, M.bind, getS, pure, M.pure, hc, hg]
  | some c =>
    cases hi : isInvalidCode c
    · cases hc : s.closed <;> cases hg : s.closing <;>
        simp [bind, M.bind, getS, pure, M.pure, hc, hg, hi]
    · simp [bind, M.bind, throwE, hi]

example : wsOnClose (some 1005) false false = .error ⟨"ProtocolError", "reserved close code ({})"⟩ := rfl
example : wsOnClose (some 1000) false true = .ok (1, false, true, false, [1, 2, 11, 12]) := rfl
example : wsOnClose (some 1000) false false = .ok (2, true, false, true, [1, 2, 12]) := rfl
example : wsOnClose none true false = .ok (0, false, true, false, [1]) := rfl

/-- `Core.closeFromPayload` is the translated `Close.from_payload`, with the model's UTF-8
    validator and decoder as the two external functions: a one-byte payload is a ProtocolError;
    from two bytes on the code is the big-endian first two bytes and the rest must validate and
    decode (CriticalProtocolError otherwise); an empty payload gives `(None, '')`. -/
theorem gen_closeFromPayload (payload : Bytes) :
    Core.closeFromPayload payload =
      match Gen.Code.closeFromPayload payload (fun b => (Utf8.validate 0 b).isSome) Utf8.decode with
      | .error e =>
        .error (if e.msg = "invalid utf-8 in close reason ({})" then .critical "invalid utf-8 in close reason"
                else exnOf e)
      | .ok (code, reason) => .ok (.close code reason) := by
  unfold Core.closeFromPayload Gen.Code.closeFromPayload
  simp only [decide_eq_true_eq, Py.unpack1]
  generalize hL : payload.length = L
  rcases (by omega : L = 1 ∨ 2 ≤ L ∨ L = 0) with h | h | h
  · subst h; simp [exnOf]
  · have h1 : ¬ L = 1 := by omega
    have h2 : 1 < L := by omega
    have h3 : L ≥ 2 := h
    rw [if_neg h1, if_pos h3]
    split
    · rename_i hv
      simp [h, h1, hv, exnOf]
    · rename_i d hv
      split <;> rename_i hd <;> simp [h, h1, hv, hd]
  · subst h; simp [show Py.str "" = [] from rfl]

example : Gen.Code.closeFromPayload [3] (fun _ => true) (fun _ => some []) =
    .error ⟨"ProtocolError", "invalid close frame payload"⟩ := rfl
example : Gen.Code.closeFromPayload [3, 232, 111] (fun _ => true) (fun b => some b) = .ok (some 1000, [111]) := rfl
example : Gen.Code.closeFromPayload [] (fun _ => true) (fun b => some b) = .ok (none, []) := rfl

end Lomond.C08Gen
