/-
  C15 companion 2 — the session's event bookkeeping is what session.py says.

  Produced by harness/py2lean.py from the source on every check run:
  `sessionOnEvent` (`WebsocketSession._on_event`: which event name calls `_on_ready` / `_send_pong` /
  `_on_pong`, the `auto_pong` test, the `_ready` flag), `sessionOnPong` (`_on_pong`), `sessionOnReady`
  (`_on_ready`: the three stores) and `sessionSessionTime` (the property `session_time`).
  The theorems state that `Core.onEvent` dispatches and updates `lastPong` / `nextPing` /
  `startTime` / `ready` exactly as these definitions do, and that `Core.sessionTime` is the
  translated property (Python's subtraction is over `Int`; the model's is truncated, equal while
  the clock does not run backwards).  Theorems only; helpers in `Proofs/GenTie`, `Proofs/GenTie2`.
-/
import Lomond.Proofs.GenTie
import Lomond.Proofs.GenTie2
import Lomond.Generated.Code

namespace Lomond.C15Gen2
open Lomond Lomond.Core Lomond.GenTie
open Lomond.Gen.Code

/-- `_on_event` as a table: `'ready'` ⇒ `_on_ready()` and `_ready = True`; `'ping'` ⇒
    `_send_pong(event)` iff `auto_pong`; `'pong'` ⇒ `_on_pong(event)`; any other name ⇒ nothing -/
theorem gen_onEvent_spec (name : List Nat) (autoPong ready : Bool) :
    sessionOnEvent name autoPong ready =
      if name = Py.str "ready" then (1, true)
      else if name = Py.str "ping" then (if autoPong then 2 else 0, ready)
      else if name = Py.str "pong" then (3, ready)
      else (0, ready) := by
  unfold sessionOnEvent
  simp only [decide_eq_true_eq]
  cases autoPong <;> rfl

/-- `_on_pong`: the last-pong time becomes the session time -/
theorem gen_onPong_spec (t last : Nat) : sessionOnPong t last = t := rfl

/-- `_on_ready`: last pong and next ping are reset to 0, the session clock starts now -/
theorem gen_onReady_spec (last next : Nat) (st : Option Nat) (now : Nat) :
    sessionOnReady last next st now = (0, 0, some now) := rfl

/-- `Core.sessionTime` is the translated property `session_time` (0 before Ready; afterwards the
    time since `_on_ready`), as long as the clock has not gone back behind the start time -/
theorem gen_sessionTime (s : Sys) (h : ∀ t0, s.startTime = some t0 → t0 ≤ s.now) :
    sessionSessionTime s.startTime s.now = (sessionTime s : Int) := by
  unfold sessionSessionTime sessionTime
  cases hs : s.startTime with
  | none => rfl
  | some t0 =>
    have := h t0 hs
    simp only
    omega

example : sessionSessionTime (some 3) 10 = 7 := rfl
example : sessionSessionTime none 10 = 0 := rfl

/-- the handler `_on_event` selects, by event class: the names are compared as string literals
    (`gen_str_inj`) -/
private theorem handler_of (e : Event) (autoPong ready : Bool) :
    sessionOnEvent (evName e) autoPong ready =
      match e with
      | .ready _ _ => (1, true)
      | .ping _ => (if autoPong then 2 else 0, ready)
      | .pong _ => (3, ready)
      | _ => (0, ready) := by
  rw [gen_onEvent_spec]
  cases e <;> simp only [evName, gen_str_inj, String.reduceEq, if_true, if_false]

/-- `Core.onEvent` is the translated `_on_event`: the handler it selects for the event's name
    (`evName`), with `_on_ready` / `_on_pong` updating the state as translated; `_send_pong` is
    `websocket.send_pong(event.data)` (its guard: C03_Gen `wsSendPongGuard`) whose WebSocketError
    the model's `sendFrame` returns as a value that is dropped here. -/
theorem gen_onEvent (e : Event) (s : Sys) :
    onEvent e s =
      (let r := sessionOnEvent (evName e) s.cfg.autoPong s.ready
       if r.1 = 1 then
         let q := sessionOnReady s.lastPong s.nextPing s.startTime s.now
         .ok () { s with lastPong := q.1, nextPing := q.2.1, startTime := q.2.2, ready := r.2 }
       else if r.1 = 2 then
         (match e with
          | .ping data =>
            if data.length > 125 then .err (.other "error") s
            else match sendFrame Gen.opPong data none s with
              | .ok _ s' => .ok () s'
              | .err x s' => .err x s'
          | _ => .ok () s)
       else if r.1 = 3 then .ok () { s with lastPong := sessionOnPong (sessionTime s) s.lastPong }
       else .ok () s) := by
  rw [handler_of]
  cases e with
  | ping data =>
    unfold onEvent
    cases s.cfg.autoPong <;> rfl
  | _ => rfl

/-- only `ready`, `ping` (with `auto_pong`) and `pong` events touch the session -/
theorem gen_onEvent_other (e : Event) (s : Sys)
    (h : (sessionOnEvent (evName e) s.cfg.autoPong s.ready).1 = 0) : onEvent e s = .ok () s := by
  rw [gen_onEvent]
  simp [h]

example : sessionOnEvent (evName (.ping [1])) true false = (2, false) := rfl
example : sessionOnEvent (evName (.ping [1])) false false = (0, false) := rfl
example : sessionOnEvent (evName (.ready none false)) true false = (1, true) := rfl
example : sessionOnEvent (evName (.pong [])) false true = (3, true) := rfl
example : (sessionOnEvent (evName .poll) true true).1 = 0 := rfl

end Lomond.C15Gen2
