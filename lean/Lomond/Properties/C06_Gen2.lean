/-
  C06 companion 2 — when a message is sent compressed: what websocket.py says.

  Produced by harness/py2lean.py from the source on every check run: `wsSendBinary`
  (`WebSocket.send_binary`) and `wsSendText` (`WebSocket.send_text`): the type guard, the test
  `compress and self.state.compression`, which session method gets the payload (`send` or
  `send_compressed` with the negotiated compressor) and with which opcode.
  The theorems state that `Core.doAct` / `Core.sendData` decide exactly like these (`sendAs`, in
  `Proofs/GenTie2`, reads the translated result as the model's call of `sendFrame`).
-/
import Lomond.Proofs.GenTie
import Lomond.Proofs.GenTie2
import Lomond.Generated.Code

namespace Lomond.C06Gen2
open Lomond Lomond.Core Lomond.GenTie
open Lomond.Gen.Code

/-- `send_binary`: TypeError unless bytes; compressed iff asked for and negotiated; opcode BINARY -/
theorem gen_sendBinary_spec (isBytes compress compression : Bool) :
    wsSendBinary isBytes compress compression =
      if !isBytes then .error ⟨"TypeError", "data argument must be bytes"⟩
      else .ok (if compress && compression then 2 else 1, Gen.opBinary) := by
  cases isBytes <;> cases compress <;> cases compression <;> rfl

/-- `send_text`: TypeError unless str; compressed iff asked for and negotiated; opcode TEXT -/
theorem gen_sendText_spec (isText compress compression : Bool) :
    wsSendText isText compress compression =
      if !isText then .error ⟨"TypeError", "text argument must not be bytes"⟩
      else .ok (if compress && compression then 2 else 1, Gen.opText) := by
  cases isText <;> cases compress <;> cases compression <;> rfl

/-- `Core.sendData` with the BINARY opcode is the translated `send_binary` on bytes -/
theorem gen_sendData_binary (b : Bytes) (c : Bool) (s : Sys) :
    sendData Gen.opBinary b c s = sendAs (wsSendBinary true c s.compression.isSome) b s := by
  rw [gen_sendBinary_spec]
  unfold sendData sendAs
  cases c <;> cases s.compression.isSome <;> simp

/-- `Core.sendData` with the TEXT opcode is the translated `send_text` on a str (payload = the
    encoded text) -/
theorem gen_sendData_text (b : Bytes) (c : Bool) (s : Sys) :
    sendData Gen.opText b c s = sendAs (wsSendText true c s.compression.isSome) b s := by
  rw [gen_sendText_spec]
  unfold sendData sendAs
  cases c <;> cases s.compression.isSome <;> simp

/-- the application's `send_binary(data, compress)` in the model: the translated decision -/
theorem gen_doAct_sendBinary (b : Bytes) (c : Bool) (s : Sys) :
    doAct (.sendBinary (.bytes b) c) s = logRes (fun s => sendAs (wsSendBinary true c s.compression.isSome) b s) s := by
  have : (fun s => sendAs (wsSendBinary true c s.compression.isSome) b s) = sendData Gen.opBinary b c := by
    funext s; rw [gen_sendData_binary]
  rw [this]; rfl

/-- anything that is not bytes: the translated TypeError -/
theorem gen_doAct_sendBinary_other (a : Arg) (c : Bool) (s : Sys) (h : ∀ b, a ≠ .bytes b) :
    doAct (.sendBinary a c) s = logRes (fun s => sendAs (wsSendBinary false c s.compression.isSome) [] s) s := by
  have : (fun s : Sys => sendAs (wsSendBinary false c s.compression.isSome) [] s) = (pure .typeError : M ActRes) := by
    funext s; rw [gen_sendBinary_spec]; rfl
  rw [this]
  cases a with
  | bytes b => exact absurd rfl (h b)
  | str _ => rfl
  | other => rfl

/-- the application's `send_text(text, compress)` in the model, for a str that encodes (no lone
    surrogate: `text.encode('utf-8')`, outside the translated site, raises otherwise) -/
theorem gen_doAct_sendText (cps : List Nat) (c : Bool) (s : Sys) (h : hasSurrogate cps = false) :
    doAct (.sendText (.str cps) c) s =
      logRes (fun s => sendAs (wsSendText true c s.compression.isSome) (Utf8.encode cps) s) s := by
  have : (fun s => sendAs (wsSendText true c s.compression.isSome) (Utf8.encode cps) s) = sendData Gen.opText (Utf8.encode cps) c := by
    funext s; rw [gen_sendData_text]
  rw [this]
  simp [doAct, h]

/-- anything that is not a str: the translated TypeError -/
theorem gen_doAct_sendText_other (a : Arg) (c : Bool) (s : Sys) (h : ∀ t, a ≠ .str t) :
    doAct (.sendText a c) s = logRes (fun s => sendAs (wsSendText false c s.compression.isSome) [] s) s := by
  have : (fun s : Sys => sendAs (wsSendText false c s.compression.isSome) [] s) = (pure .typeError : M ActRes) := by
    funext s; rw [gen_sendText_spec]; rfl
  rw [this]
  cases a with
  | str t => exact absurd rfl (h t)
  | bytes _ => rfl
  | other => rfl

example : wsSendBinary true true true = .ok (2, 2) := rfl
example : wsSendBinary true true false = .ok (1, 2) := rfl
example : wsSendBinary true false true = .ok (1, 2) := rfl
example : wsSendText true true true = .ok (2, 1) := rfl
example : wsSendText false true true = .error ⟨"TypeError", "text argument must not be bytes"⟩ := rfl
example : hasSurrogate [104, 105] = false := rfl
example : ∀ b, Arg.other ≠ .bytes b := by intro b h; cases h
example : ∀ t, Arg.other ≠ .str t := by intro b h; cases h

end Lomond.C06Gen2
