/-
  C19 — "a silent proxy makes the connection attempt end with ConnectFail — it never blocks for ever".
  Property theorems only.

  The composed connection (`Model/ConnectLink.lean`) carries the code shape `Inputs.blockBeforeTunnel`: is the socket
  put back into blocking mode (`sock.settimeout(None)`) BEFORE `_connect_proxy` has read the proxy's answer?

    * `false` — the pinned order: `_connect_sock` sets `sock.settimeout(30)` before `connect()`; the CONNECT request is
      written and the answer read on that socket; `_connect` calls `sock.settimeout(None)` only after `_connect_proxy` /
      `_connect_sock` have returned.  A `recv` to which the proxy never answers raises `socket.timeout`
      (`ReadOutcome.timeout`), which `run()` turns into `ConnectFail`.
    * `true` — e.g. `settimeout(None)` at the end of `_connect_sock` (seeded change C19-r4m2): that `recv` never returns.

  `attempt base i react env : Attempt` is the outcome of one connection attempt for both shapes: `ended tr` (the composed
  trace `composed base i react env` of all the other C19 / C09 theorems) or `hung tr` (a `recv` never returns; `tr` is what
  happened before it; the harness prints `P:R:BLOCKS-FOREVER HUNG:…`).

    (a) `silent_proxy_gives_connect_fail`   pinned order, a proxy configured: no attempt hangs; it ends with `ConnectFail`
                                            or `Connected` (or the application stopped at `Connecting`); with a silent proxy
                                            the trace is spelled out: …, the silent read, [close], `ConnectFail`.
        `attempt_hangs_iff`                 in general: an attempt hangs iff blocking mode precedes the negotiation, the
                                            proxy is silent, and the application did not stop at `Connecting`.
    (b) `blocking_before_tunnel_hangs`      the other order: with a silent proxy EVERY attempt hangs — `Connecting` is the
                                            only event, for ever (+ a concrete witness).
    (c) `source_has_pinned_order`           the order used in (a) is the one `/repo/lomond/session.py` has (facts
                                            `Gen.settimeoutNoneIn`, `Gen.connectCallOrder`, re-extracted on every run); the
                                            `source_…` corollary states (a) for "the shape of the source".

  The `link` op of the model driver runs `attempt`; the harness (`linkworld.blocks_before_tunnel`) finds the shape by a
  probe of the real `_connect` and compares every real run — `HUNG` runs included — with it.
-/
import Lomond.Proofs.ConnectTimeout
import Lomond.Properties.C19_Core
import Lomond.Generated.Facts


namespace Lomond.C19Timeout
open Lomond Lomond.Http Lomond.Core Lomond.Core.Monitor Lomond.Proxy Lomond.ConnectLink

/-! ### (c) the order of calls in the source -/

/-- the pinned order, read off the two source facts: `settimeout(None)` is called in `_connect` only (not in
    `_connect_sock`, `_connect_proxy`, …), and in `_connect` no call of `_connect_proxy` / `_connect_sock` follows it -/
def pinnedOrder (noneIn order : List String) : Bool :=
  noneIn == ["_connect"] &&
  !((order.dropWhile (fun c => c != "settimeout(None)")).any (fun c => c == "_connect_proxy" || c == "_connect_sock"))

/-- the value of `Inputs.blockBeforeTunnel` that describes `/repo/lomond/session.py` -/
def sourceBlocksBeforeTunnel : Bool := !pinnedOrder Gen.settimeoutNoneIn Gen.connectCallOrder

/-- **The source has the pinned order**: blocking mode is restored only after the negotiation. -/
theorem source_has_pinned_order : sourceBlocksBeforeTunnel = false := by decide

/-- … which is the default of the model's flag: inputs written without it describe the source -/
theorem default_shape_is_source_shape (ws : Proxy.Cfg) (gai : Option (List Connect.AddrOutcome)) (wf : Nat → Bool)
    (reads : List ReadOutcome) (w s : Bool) :
    ({ ws := ws, gai := gai, writeFails := wf, reads := reads, wrapOk := w, selOk := s } : Inputs).blockBeforeTunnel =
      sourceBlocksBeforeTunnel := by
  rw [source_has_pinned_order]

/-- the seeded order (`settimeout(None)` moved to the end of `_connect_sock`) is recognised as the other shape -/
example : pinnedOrder ["_connect_sock"] ["_connect_proxy", "_connect_sock"] = false := by decide
example : pinnedOrder ["_connect"] ["settimeout(None)", "_connect_proxy", "_connect_sock"] = false := by decide

/-! ### (a) the pinned order: never blocks for ever -/

/-- **With the pinned order a connection attempt through a proxy never hangs, and a silent proxy gives ConnectFail.**
    For every configuration, application and environment, with a proxy chosen for the scheme:

    1. the attempt ends — its outcome is the composed trace (never `hung`);
    2. unless the application stopped iterating at `Connecting` (then `_connect()` is never called), the events of that
       trace are `Connecting, ConnectFail("connect-failed")`, or `Connecting, ConnectFail("request-failed")`, or begin
       `Connecting, Connected(proxy)`;
    3. for a silent proxy (`SilentProxy`: connected, CONNECT written, then at most an incomplete answer and nothing
       more) the whole trace is: `Connecting`, results of the application's calls there, the connect to the proxy with
       the address loop's socket calls, the CONNECT request, the reads that delivered data, the read that times out
       (`socket.timeout` after the 30 s), the close of the proxy socket (repaired shape `pclose`), `ConnectFail`, results
       of the application's calls there.  The events are `Connecting, ConnectFail` and the failure kind is `timeout`. -/
theorem silent_proxy_gives_connect_fail (base : Core.Cfg) (i : Inputs) (react : React) (env : List EnvStep)
    (purl : Str) (hc : proxyChoice i.ws = some purl) (hshape : i.blockBeforeTunnel = false) :
    attempt base i react env = .ended (composed base i react env) ∧
    (¬ StopsAtConnecting react →
      (evs (composed base i react env) = [.connecting, .connectFail "connect-failed"] ∨
       evs (composed base i react env) = [.connecting, .connectFail "request-failed"] ∨
       ∃ E, evs (composed base i react env) = .connecting :: .connected true :: E)) ∧
    (SilentProxy i purl → ¬ StopsAtConnecting react →
      (∃ c0 c1 u p req pre k, (∀ o ∈ c0, isRes o = true) ∧ (∀ o ∈ c1, isRes o = true) ∧
        parseUrl purl = some u ∧ u.port = some p ∧ connectRequestOf i.ws purl = some req ∧
        (∀ x ∈ pre, ∃ d, x = Io.read (.data d)) ∧ (Connect.connectSock i.gai).1 = .sock k ∧
        composed base i react env =
          (Obs.ev .connecting :: c0).map .core ++
          ([proxyAddr u p, Io.write false req true] ++ pre ++ [Io.read .timeout]).flatMap (expand i) ++
          (if i.pclose then [Item.sock (.close k)] else []) ++
          (Obs.ev (.connectFail "connect-failed") :: c1).map .core) ∧
      evs (composed base i react env) = [.connecting, .connectFail "connect-failed"] ∧
      failKind i = .timeout) := by
  refine ⟨attempt_pinned base i react env hshape, fun hns => ?_, fun hsil hns => ?_⟩
  · rcases evs_composed_cases base i react env with ⟨hs, _⟩ | ⟨_, _, e⟩ | ⟨_, q, hq, ⟨e, _⟩ | ⟨_, E, e⟩⟩
    · exact absurd hs hns
    · exact Or.inl e
    · exact Or.inr (Or.inl e)
    · have hq' : q = some purl := by rw [connectResult_sock_eq i q hq, hc]
      subst hq'
      exact Or.inr (Or.inr ⟨E, e⟩)
  · have hsr : silentRead i = true := (silentRead_iff i).mpr ⟨purl, hc, hsil⟩
    obtain ⟨hnc, _, hfk⟩ := silent_not_connects i hsr
    obtain ⟨purl', u, p, req, pre, hc', hu, hp, hreq, hlog, hpre⟩ := connectLog_silent i hsr
    rw [hc] at hc'; cases hc'
    have hev : evs (composed base i react env) = [.connecting, .connectFail "connect-failed"] := by
      rcases evs_composed_cases base i react env with ⟨hs, _⟩ | ⟨_, _, e⟩ | ⟨_, q, hq, _⟩
      · exact absurd hs hns
      · exact e
      · exact absurd ⟨q, hq⟩ hnc
    have hf : TunnelFails i.ws (proxyEnv i) purl := .reply (fun h => by
      have := (verdict_ok_iff _).mpr h
      rw [show (proxyEnv i).reads = i.reads from rfl, hsil.incomplete] at this
      cases this)
    obtain ⟨k, hk⟩ := (sockOk_true_iff i).mp hsil.connect
    obtain ⟨⟨c0, c1, e, n0, n1⟩, _⟩ :=
      C19Core.tunnel_failure_closes_proxy_socket base i react env purl hc hf ⟨u, p, hu, hp⟩ k hk hns
    refine ⟨⟨c0, c1, u, p, req, pre, k, n0, n1, hu, hp, hreq, hpre, hk, ?_⟩, hev, hfk⟩
    rw [e, hlog]

/-- (a) for "the shape of the source": what `/repo/lomond/session.py` does, by `source_has_pinned_order` -/
theorem source_silent_proxy_gives_connect_fail (base : Core.Cfg) (i : Inputs) (react : React) (env : List EnvStep)
    (purl : Str) (hc : proxyChoice i.ws = some purl) (hshape : i.blockBeforeTunnel = sourceBlocksBeforeTunnel)
    (hsil : SilentProxy i purl) (hns : ¬ StopsAtConnecting react) :
    attempt base i react env = .ended (composed base i react env) ∧
    evs (composed base i react env) = [.connecting, .connectFail "connect-failed"] ∧
    Item.io (.read .timeout) ∈ composed base i react env := by
  rw [source_has_pinned_order] at hshape
  obtain ⟨h1, _, h3⟩ := silent_proxy_gives_connect_fail base i react env purl hc hshape
  obtain ⟨⟨c0, c1, u, p, req, pre, k, _, _, _, _, _, _, _, e⟩, hev, _⟩ := h3 hsil hns
  refine ⟨h1, hev, ?_⟩
  rw [e]
  simp [List.flatMap_append, expand]

/-- **When does a connection attempt hang?**  For both code shapes, every configuration, application and environment:
    the attempt blocks for ever iff the socket is put into blocking mode before the negotiation AND a proxy is chosen
    that stays silent AND the application did not stop at `Connecting`.  In every other case it ends, with the
    composed trace. -/
theorem attempt_hangs_iff (base : Core.Cfg) (i : Inputs) (react : React) (env : List EnvStep) :
    ((∃ tr, attempt base i react env = .hung tr) ↔
      (i.blockBeforeTunnel = true ∧ (∃ purl, proxyChoice i.ws = some purl ∧ SilentProxy i purl) ∧
        ¬ StopsAtConnecting react)) ∧
    ((¬ ∃ tr, attempt base i react env = .hung tr) → attempt base i react env = .ended (composed base i react env)) := by
  exact ⟨by rw [attempt_hung_iff, silentRead_iff], attempt_ended_of_not_hung base i react env⟩

/-! ### (b) blocking mode before the negotiation: a silent proxy blocks the attempt for ever -/

/-- **With `settimeout(None)` before the negotiation a silent proxy hangs every attempt.**  For every configuration,
    application (that does not stop at `Connecting`) and environment: the outcome is `hung`; what had happened is
    `Connecting`, results of the application's calls there, the connect to the proxy, the CONNECT request and the reads that
    delivered data — the only event ever yielded is `Connecting`: no `ConnectFail`, no `Connected`, and not one `sendall` of
    the core model. -/
theorem blocking_before_tunnel_hangs (base : Core.Cfg) (i : Inputs) (react : React) (env : List EnvStep)
    (purl : Str) (hc : proxyChoice i.ws = some purl) (hshape : i.blockBeforeTunnel = true)
    (hsil : SilentProxy i purl) (hns : ¬ StopsAtConnecting react) :
    ∃ tr, attempt base i react env = .hung tr ∧
      evs tr = [.connecting] ∧
      (∀ k, Event.connectFail k ∉ evs tr) ∧ (∀ q, Event.connected q ∉ evs tr) ∧
      (∃ c0 u p req pre, (∀ o ∈ c0, isRes o = true) ∧ parseUrl purl = some u ∧ u.port = some p ∧
        connectRequestOf i.ws purl = some req ∧ (∀ x ∈ pre, ∃ d, x = Io.read (.data d)) ∧
        connectLog i = [proxyAddr u p, Io.write false req true] ++ pre ++ [Io.read .timeout] ∧
        tr = (Obs.ev .connecting :: c0).map .core ++ ([proxyAddr u p, Io.write false req true] ++ pre).flatMap (expand i)) := by
  have hsr : silentRead i = true := (silentRead_iff i).mpr ⟨purl, hc, hsil⟩
  obtain ⟨c0, purl', u, p, req, pre, n0, hc', hu, hp, hreq, hpre, hlog, ha⟩ :=
    attempt_hung_shape base i react env hshape hsr hns
  rw [hc] at hc'; cases hc'
  have hev := evs_connecting_phase i c0 n0 ([proxyAddr u p, .write false req true] ++ pre)
  refine ⟨_, ha, hev, fun k hk => ?_, fun q hq => ?_, c0, u, p, req, pre, n0, hu, hp, hreq, hpre, hlog, rfl⟩
  · rw [hev] at hk; simp at hk
  · rw [hev] at hq; simp at hq

/-! ### Non-vacuity -/

section Examples
open Lomond.C19 Lomond.C19Core

/-- a silent proxy: it accepts the connection (second address), takes the CONNECT request, sends `HTTP/1.` and then
    nothing more -/
def inSilent : Inputs := { inOk with reads := [.data (ok200.take 7)] }
/-- … the same with an explicit `timeout` step and a later answer that is never read -/
def inSilentT : Inputs := { inOk with reads := [.data (ok200.take 7), .timeout, .data (ok200.drop 7)] }
/-- the same inputs under the other code shape -/
def inSilentBlocking : Inputs := { inSilent with blockBeforeTunnel := true }

def purlEx : Str := ofString "http://user:pw@Proxy.example:3128"

example : proxyChoice inSilent.ws = some purlEx := by decide +kernel
private theorem silent_ok : SilentProxy inSilent purlEx :=
  ⟨⟨{ scheme := ofString "http", netloc := ofString "user:pw@Proxy.example:3128" }, some 3128, by decide +kernel, by decide +kernel⟩,
   by decide +kernel, by decide +kernel, rfl, by decide +kernel, by decide +kernel⟩
example : SilentProxy inSilent purlEx := silent_ok
-- only the read script differs …
example : SilentProxy inSilentT purlEx :=
  ⟨silent_ok.url, silent_ok.host, silent_ok.connect, silent_ok.sent, by decide +kernel, by decide +kernel⟩
-- … and the code shape is no part of what makes a proxy silent
example : SilentProxy inSilentBlocking purlEx :=
  ⟨silent_ok.url, silent_ok.host, silent_ok.connect, silent_ok.sent, silent_ok.silent, silent_ok.incomplete⟩
example : ¬ StopsAtConnecting (fun _ => []) := by rintro ⟨w, hw⟩; cases hw
example : inSilent.blockBeforeTunnel = false ∧ inSilent.blockBeforeTunnel = sourceBlocksBeforeTunnel := by decide +kernel
example : silentRead inSilent = true ∧ hangs inSilent = false ∧ hangs inSilentBlocking = true := by decide +kernel

/-- pinned order: the attempt ends; the trace is `Connecting`, connect to the proxy (two addresses tried), CONNECT, the
    read of 7 bytes, the read that times out, the close of socket 1, `ConnectFail` -/
example : attempt {} inSilent (fun _ => []) [] = .ended (composed {} inSilent (fun _ => []) []) := by decide +kernel
example : (composed {} inSilent (fun _ => []) []).drop 8 =
    [.io (.read (.data (ok200.take 7))), .io (.read .timeout), .sock (.close 1),
     .core (.ev (.connectFail "connect-failed"))] := by decide +kernel
example : evs (composed {} inSilent (fun _ => []) []) = [.connecting, .connectFail "connect-failed"] := by decide +kernel

/-- **Witness for the other order**: the same silent proxy with `settimeout(None)` before the negotiation — the attempt
    hangs after the read of 7 bytes; `Connecting` is the only event, there is no `ConnectFail` -/
theorem blocking_before_tunnel_hangs_witness :
    ∃ tr, attempt {} inSilentBlocking (fun _ => []) [] = .hung tr ∧
      tr.drop 8 = [.io (.read (.data (ok200.take 7)))] ∧ tr.length = 9 ∧
      evs tr = [.connecting] ∧ Event.connectFail "connect-failed" ∉ evs tr :=
  ⟨(composed {} inSilent (fun _ => []) []).take 9, by decide +kernel⟩

/-- an application that stops at `Connecting` never reaches the read: no hang even in the blocking shape -/
example : attempt {} inSilentBlocking (fun h => if h.length = 1 then [.abandon false] else []) [] =
    .ended [.core (.ev .connecting)] := by decide +kernel
/-- a proxy that answers is not affected by the shape -/
example : attempt {} { inOk with blockBeforeTunnel := true } (fun _ => []) [.wait 0 (some .eof)] =
    .ended (composed {} inOk (fun _ => []) [.wait 0 (some .eof)]) := by decide +kernel

end Examples

end Lomond.C19Timeout
