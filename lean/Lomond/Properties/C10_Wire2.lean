/-
  C10 companion — the wire-level "Ready iff" for replies with REPEATED header names and with
  continuation lines (obs-folds) ANYWHERE in a header value.

  `C10_ready_iff_wire` (Properties/C10.lean) quantifies over the generator `Spec.WireField`: one field per
  name (`Nodup`), at most one fold, directly after the colon.  Here the generator is `Spec.FField`
  (`Proofs/HttpDup.lean`): a field line plus any number of continuation lines (each `CR LF`, one or more
  blanks, text, optional trailing blanks), and the list of fields is arbitrary — names may repeat, with equal
  or different values, in any positions.  `Spec.WireField` is the special case `FField.ofWire`
  (`C10_wire2_generalises`).

  What `Response.__init__` (lomond/response.py) does, and what the theorems therefore say:

  * a continuation line adds `' ' + line.lstrip()` to the value being collected; the collected text is
    stripped once at the end.  For a name written once, `Response.get` thus returns the RFC 7230 §3.2.4
    value: every obs-fold replaced by one SP, blanks at both ends removed (`FField.value`,
    `C10_get_single`).  A fold *inside* the accept token therefore puts a blank into it and the reply is
    refused (`C10_folded_accept_refused`); a fold between two parameters of an extension is harmless.
  * a repeated name does NOT overwrite and is NOT ignored: every further occurrence adds `','` and its
    text to what was collected under that name; `Response.get` returns all occurrences, in wire order,
    joined by commas (`C10_get_wire2`, `Http.combined`).  This is the combination rule of RFC 7230 §3.2.2.
  * consequently **no single occurrence decides**: a reply with two `Sec-WebSocket-Accept` fields (equal
    or different, good first or good last) or two `Upgrade` fields is never granted Ready, because the
    value `on_response` compares contains a comma and neither the digest nor `websocket` does
    (`C10_repeated_accept_refused`, `C10_repeated_upgrade_refused`, `C10_ready_iff_wire_dup`).  That is
    what RFC 6455 §11.3.3 asks for (`Sec-WebSocket-Accept` "MUST NOT appear more than once").
  * repeated `Sec-WebSocket-Extensions` fields are one list (RFC 6455 §9.1 allows the split); repeated
    `Sec-WebSocket-Protocol` fields are *reported* joined by a comma.

  Where RFC 7230 / RFC 6455 would want otherwise (none of it changes who is granted Ready on the replies
  covered here; noted for completeness, the correspondence check compares such inputs byte for byte):
  `str.strip()` also removes VT, FF and FS..US at the ends of a value (RFC: SP / HT only); a line starting
  with a bare CR or LF counts as a continuation line; a continuation line before the first field, or after
  a field with an empty name, is dropped silently; whitespace between name and colon is accepted;
  `Sec-WebSocket-Protocol` occurring twice (RFC 6455 §11.3.4: MUST NOT) or naming a protocol that was not
  offered (§4.1: MUST fail) is not refused.
-/
import Lomond.Properties.C10_Digest
import Lomond.Proofs.HttpDup
import Lomond.Proofs.StrLit

namespace Lomond.C10Wire2
open Lomond Lomond.Http Lomond.Handshake Lomond.Spec Lomond.Core Lomond.C10 Lomond.C10Digest

/-! ## 1. what `Response.get` returns on the bytes -/

/-- **C10_get_wire2**.  For every status line without CR and every list of well-formed written fields —
    repeated names and continuation lines included — `Response.get(n)` is `None` when no field is called `n`
    (case-insensitively), and otherwise the texts of *all* fields called `n`, in wire order, each with its
    obs-folds replaced by one SP, joined with `','`, stripped once. -/
theorem C10_get_wire2 (sl : Bytes) (fs : List FField) (hsl : ∀ c ∈ sl, c ≠ 13) (hok : ∀ f ∈ fs, f.ok = true)
    (n : Str) :
    (parseResponse (renderReply2 sl fs)).get n = combined fs (lower n) :=
  get_render2 sl fs hsl (fun f hf => fOk_of_ok f (hok f hf)) n

/-- a name written once: the RFC 7230 value of that field (folds ↦ SP, optional blanks trimmed) -/
theorem C10_get_single (fs : List FField) (hok : ∀ f ∈ fs, f.ok = true) (n : Bytes) (f : FField)
    (h : fieldsNamed fs n = [f]) : combined fs n = some f.value :=
  combined_single fs (fun f hf => fOk_of_ok f (hok f hf)) n f h

/-- a name written twice or more: the value contains a comma -/
theorem C10_get_repeated (fs : List FField) (n : Bytes) (g1 g2 : FField) (gs : List FField)
    (h : fieldsNamed fs n = g1 :: g2 :: gs) : ∃ v, combined fs n = some v ∧ 44 ∈ v :=
  combined_comma fs n g1 g2 gs h

/-- a name not written at all -/
theorem C10_get_absent (fs : List FField) (n : Bytes) : combined fs n = none ↔ ∀ f ∈ fs, f.name ≠ n := by
  have h : fieldsNamed fs n = [] ↔ ∀ f ∈ fs, f.name ≠ n := by simp [fieldsNamed, List.filter_eq_nil_iff]
  unfold combined
  rw [← h]
  cases fieldsNamed fs n <;> simp

/-- a field without continuation lines has the text of its line as value -/
theorem C10_value_nofold (f : FField) (hf : f.ok = true) (hc : f.conts = []) : f.value = f.body :=
  value_nofold f (fOk_of_ok f hf) hc

/-! ## 2. Ready iff, on the bytes, for every such rendering -/

/-- **C10_ready_iff_wire2** (both comparisons).  Any status line `HTTP-version SP 3DIGIT SP reason`, any list
    of written fields (any order, any letter case of the names, blanks, any number of continuation lines in
    any value, names repeated at will).  Ready is yielded iff the digits are `101`, the *combined* `upgrade`
    value lower-cases to `websocket`, the *combined* `sec-websocket-accept` value is `ch` (pinned code: up to
    letter case), and the combined extension list is acceptable. -/
theorem C10_ready_iff_wire2 (strict : Bool) (ch : Str) (ver reason : Bytes) (a b c : Nat) (fs : List FField)
    (hver : ver ≠ [] ∧ ∀ x ∈ ver, isBytesSpace x = false) (hreason : ∀ x ∈ reason, x ≠ 13)
    (hdig : isDigit a = true ∧ isDigit b = true ∧ isDigit c = true)
    (hok : ∀ f ∈ fs, f.ok = true) :
    Ready strict ch (parseResponse (renderReply2 (statusLine ver [a, b, c] reason) fs)) ↔
      ([a, b, c] = [49, 48, 49] ∧
       (∃ u, combined fs hUpgrade = some u ∧ lower u = websocket) ∧
       (∃ acc, combined fs hAccept = some acc ∧ (if strict then acc = ch else lower acc = lower ch)) ∧
       extsOk (splitList ((combined fs hExt).getD []))) := by
  have hst : (parseResponse (renderReply2 (statusLine ver [a, b, c] reason) fs)).statusCode = pyInt isBytesSpace [a, b, c] :=
    statusCode_renderLines ver reason a b c _ hver.1 hver.2 hreason hdig.1 hdig.2.1 hdig.2.2
  rw [ready_iff_of_get strict ch _ (combined fs)
      (get_render2 _ fs (statusLine_no_cr ver reason a b c hver.2 hreason hdig.1 hdig.2.1 hdig.2.2)
        (fun f hf => fOk_of_ok f (hok f hf))),
    hst, status_101_iff a b c hdig.1 hdig.2.1 hdig.2.2]

/-- **C10_ready_iff_wire_dup**: the same, resolved to single occurrences.  For an expected value `ch` without
    a comma (the digest never has one: `C10_digest_no_comma`): Ready is yielded iff the digits are `101`,
    **exactly one** field is called `upgrade` and its value lower-cases to `websocket`, **exactly one** field is
    called `sec-websocket-accept` and its value is `ch` (pinned code: up to letter case), and the combined
    extension list is acceptable.  Every other field may occur any number of times. -/
theorem C10_ready_iff_wire_dup (strict : Bool) (ch : Str) (ver reason : Bytes) (a b c : Nat) (fs : List FField)
    (hver : ver ≠ [] ∧ ∀ x ∈ ver, isBytesSpace x = false) (hreason : ∀ x ∈ reason, x ≠ 13)
    (hdig : isDigit a = true ∧ isDigit b = true ∧ isDigit c = true)
    (hok : ∀ f ∈ fs, f.ok = true) (hch : 44 ∉ ch) :
    Ready strict ch (parseResponse (renderReply2 (statusLine ver [a, b, c] reason) fs)) ↔
      ([a, b, c] = [49, 48, 49] ∧
       (∃ f, fieldsNamed fs hUpgrade = [f] ∧ lower f.value = websocket) ∧
       (∃ g, fieldsNamed fs hAccept = [g] ∧ (if strict then g.value = ch else lower g.value = lower ch)) ∧
       extsOk (splitList ((combined fs hExt).getD []))) := by
  have hfok : ∀ f ∈ fs, FOk f := fun f hf => fOk_of_ok f (hok f hf)
  have hws : 44 ∉ websocket := by decide
  have mem_lower_comma := mem_lower_iff 44 (by omega)
  rw [C10_ready_iff_wire2 strict ch ver reason a b c fs hver hreason hdig hok]
  constructor
  · rintro ⟨h1, ⟨u, hu, hlu⟩, ⟨acc, hacc, hcmp⟩, h4⟩
    obtain ⟨f, hf, rfl⟩ := combined_no_comma fs hfok hUpgrade u hu
      (fun hc => hws (hlu ▸ (mem_lower_comma u).mpr hc))
    obtain ⟨g, hg, rfl⟩ := combined_no_comma fs hfok hAccept acc hacc (by
      intro hc
      cases strict
      · simp only [Bool.false_eq_true, if_false] at hcmp
        exact hch ((mem_lower_comma ch).mp (hcmp ▸ (mem_lower_comma acc).mpr hc))
      · simp only [if_true] at hcmp
        exact hch (hcmp ▸ hc))
    exact ⟨h1, ⟨f, hf, hlu⟩, ⟨g, hg, hcmp⟩, h4⟩
  · rintro ⟨h1, ⟨f, hf, hlu⟩, ⟨g, hg, hcmp⟩, h4⟩
    exact ⟨h1, ⟨f.value, combined_single fs hfok hUpgrade f hf, hlu⟩, ⟨g.value, combined_single fs hfok hAccept g hg, hcmp⟩, h4⟩

/-- the digest of a key never contains a comma (base64 alphabet and `=`) -/
theorem C10_digest_no_comma (key : Bytes) : 44 ∉ acceptFor key := acceptFor_no_comma key

/-- **C10_repeated_accept_refused**: a reply in which `Sec-WebSocket-Accept` occurs twice or more is never
    granted Ready — whatever the values (both correct, the first correct, the last correct, …), wherever the
    occurrences stand, under either comparison.  No occurrence "wins". -/
theorem C10_repeated_accept_refused (strict : Bool) (ch : Str) (ver reason : Bytes) (a b c : Nat) (fs : List FField)
    (hver : ver ≠ [] ∧ ∀ x ∈ ver, isBytesSpace x = false) (hreason : ∀ x ∈ reason, x ≠ 13)
    (hdig : isDigit a = true ∧ isDigit b = true ∧ isDigit c = true)
    (hok : ∀ f ∈ fs, f.ok = true) (hch : 44 ∉ ch)
    (g1 g2 : FField) (gs : List FField) (hrep : fieldsNamed fs hAccept = g1 :: g2 :: gs) :
    ¬ Ready strict ch (parseResponse (renderReply2 (statusLine ver [a, b, c] reason) fs)) := by
  rw [C10_ready_iff_wire_dup strict ch ver reason a b c fs hver hreason hdig hok hch]
  rintro ⟨_, _, ⟨g, hg, _⟩, _⟩
  rw [hrep] at hg
  cases hg

/-- **C10_repeated_upgrade_refused**: the same for `Upgrade` (`websocket` twice is `websocket,websocket`) -/
theorem C10_repeated_upgrade_refused (strict : Bool) (ch : Str) (ver reason : Bytes) (a b c : Nat) (fs : List FField)
    (hver : ver ≠ [] ∧ ∀ x ∈ ver, isBytesSpace x = false) (hreason : ∀ x ∈ reason, x ≠ 13)
    (hdig : isDigit a = true ∧ isDigit b = true ∧ isDigit c = true)
    (hok : ∀ f ∈ fs, f.ok = true) (hch : 44 ∉ ch)
    (g1 g2 : FField) (gs : List FField) (hrep : fieldsNamed fs hUpgrade = g1 :: g2 :: gs) :
    ¬ Ready strict ch (parseResponse (renderReply2 (statusLine ver [a, b, c] reason) fs)) := by
  rw [C10_ready_iff_wire_dup strict ch ver reason a b c fs hver hreason hdig hok hch]
  rintro ⟨_, ⟨f, hf, _⟩, _, _⟩
  rw [hrep] at hf
  cases hf

/-- **C10_folded_accept_refused**: an accept field whose value is continued on a further line is refused:
    the fold becomes a blank inside the value, and the expected value has none (`hch`). -/
theorem C10_folded_accept_refused (strict : Bool) (ch : Str) (ver reason : Bytes) (a b c : Nat) (fs : List FField)
    (hver : ver ≠ [] ∧ ∀ x ∈ ver, isBytesSpace x = false) (hreason : ∀ x ∈ reason, x ≠ 13)
    (hdig : isDigit a = true ∧ isDigit b = true ∧ isDigit c = true)
    (hok : ∀ f ∈ fs, f.ok = true) (hch : 44 ∉ ch) (hsp : 32 ∉ ch)
    (g : FField) (hg : fieldsNamed fs hAccept = [g]) (hsplit : 32 ∈ g.value) :
    ¬ Ready strict ch (parseResponse (renderReply2 (statusLine ver [a, b, c] reason) fs)) := by
  rw [C10_ready_iff_wire_dup strict ch ver reason a b c fs hver hreason hdig hok hch]
  rintro ⟨_, _, ⟨g', hg', hcmp⟩, _⟩
  rw [hg] at hg'
  cases hg'
  have hl := mem_lower_iff 32 (by omega)
  cases strict
  · simp only [Bool.false_eq_true, if_false] at hcmp
    exact hsp ((hl ch).mp (hcmp ▸ (hl g.value).mpr hsplit))
  · simp only [if_true] at hcmp
    exact hsp (hcmp ▸ hsplit)

/-! ## 3. with the digest of the key that was sent -/

/-- **ready_iff_digest_wire_dup**: during the `n`-th attempt, on the bytes: Ready iff `101`, exactly one `upgrade`
    field reading `websocket` (any letter case), exactly one `sec-websocket-accept` field carrying
    `b64encode(sha1(key ++ GUID))` of the attempt's key (pinned code: up to letter case), acceptable extensions —
    for every rendering with repeated names and continuation lines. -/
theorem ready_iff_digest_wire_dup (strict : Bool) (rnd : Nat → Bytes) (n : Nat) (ver reason : Bytes) (a b c : Nat)
    (fs : List FField)
    (hver : ver ≠ [] ∧ ∀ x ∈ ver, isBytesSpace x = false) (hreason : ∀ x ∈ reason, x ≠ 13)
    (hdig : isDigit a = true ∧ isDigit b = true ∧ isDigit c = true)
    (hok : ∀ f ∈ fs, f.ok = true) :
    AttemptReady strict rnd n (parseResponse (renderReply2 (statusLine ver [a, b, c] reason) fs)) ↔
      ([a, b, c] = [49, 48, 49] ∧
       (∃ f, fieldsNamed fs hUpgrade = [f] ∧ lower f.value = websocket) ∧
       (∃ g, fieldsNamed fs hAccept = [g] ∧
          (if strict then g.value = acceptFor (b64encode (rnd n))
           else lower g.value = lower (acceptFor (b64encode (rnd n))))) ∧
       extsOk (splitList ((combined fs hExt).getD []))) := by
  rw [attemptReady_iff]
  exact C10_ready_iff_wire_dup strict _ ver reason a b c fs hver hreason hdig hok (acceptFor_no_comma _)

/-! ## 4. what Ready reports, and the relation to the one-fold generator -/

/-- the protocol reported with Ready is the combined `sec-websocket-protocol` value (all occurrences joined
    with `','`; `None` when there is none); compression as negotiated by the combined extension list -/
theorem C10_ready_reports_wire2 (strict : Bool) (ch : Str) (sl : Bytes) (fs : List FField) (acc : Accepted)
    (hsl : ∀ c ∈ sl, c ≠ 13) (hok : ∀ f ∈ fs, f.ok = true)
    (h : onResponse strict ch (parseResponse (renderReply2 sl fs)) = .ok acc) :
    acc.protocol = combined fs hProto ∧
    processExtensions (splitList ((combined fs hExt).getD [])) none = .ok acc.deflate :=
  ((onResponse_ok_iff_of_get strict ch _ acc (combined fs)
    (get_render2 sl fs hsl (fun f hf => fOk_of_ok f (hok f hf)))).mp h).2.2.2

/-- **C10_repeated_extensions_one_list**: `Sec-WebSocket-Extensions` (or any list-valued field) written in two or more
    fields is one list: the entries `process_extensions` walks through are the comma-separated, stripped entries of
    the values of all occurrences, in wire order (RFC 7230 §3.2.2 / RFC 6455 §9.1).  With one occurrence they are the
    entries of its value (`C10_get_single`). -/
theorem C10_repeated_extensions_one_list (fs : List FField) (hok : ∀ f ∈ fs, f.ok = true) (n : Bytes)
    (g1 g2 : FField) (gs : List FField) (h : fieldsNamed fs n = g1 :: g2 :: gs) :
    splitList ((combined fs n).getD []) = (g1 :: g2 :: gs).flatMap (fun f => (splitOn1 44 f.value).map strip) :=
  splitList_combined_multi fs (fun f hf => fOk_of_ok f (hok f hf)) n g1 g2 gs h

/-- **C10_wire2_generalises**: the renderings of `C10_ready_iff_wire` are renderings of this generator: same
    bytes, well-formedness carries over, same values. -/
theorem C10_wire2_generalises (sl : Bytes) (fs : List WireField) (hok : ∀ f ∈ fs, f.ok = true) :
    renderReply2 sl (fs.map FField.ofWire) = renderReply sl fs ∧
    (∀ f ∈ fs, FOk (FField.ofWire f) ∧ (FField.ofWire f).name = f.name ∧ (FField.ofWire f).value = f.value) :=
  ⟨renderReply2_ofWire sl fs, fun f hf =>
    ⟨ofWire_ok f (fieldOk_of_ok f (hok f hf)), ofWire_name f, ofWire_value f (fieldOk_of_ok f (hok f hf))⟩⟩

/-! ## Non-vacuity -/

def fUpgrade : FField :=
  { name := hUpgrade, upper := [true], pre := [32], body := ofString "WebSocket", trail := [9], conts := [] }

def fAccept (v : Bytes) : FField :=
  { name := hAccept, upper := [true, false, false, false, true], pre := [32], body := v, trail := [], conts := [] }

/-- a filler field whose value runs over three lines; the second line ends in blanks -/
def fServer : FField :=
  { name := ofString "server", upper := [], pre := [], body := ofString "a", trail := [32],
    conts := [{ ws := [32, 9], body := ofString "b c", trail := [32, 32] }, { ws := [9], body := ofString "d", trail := [] }] }

/-- the extension offer answered in two fields, the first one folded between its parameters -/
def fExt1 : FField :=
  { name := hExt, upper := [], pre := [32], body := ofString "permessage-deflate;", trail := [],
    conts := [{ ws := [32], body := ofString "client_max_window_bits=12", trail := [] }] }
def fExt2 : FField :=
  { name := hExt, upper := [], pre := [32], body := ofString "x-unknown", trail := [], conts := [] }

def otherDigest : Str := ofString "AAAAAAAAAAAAAAAAAAAAAAAAAAA="

def sl101 : Bytes := statusLine (lit "HTTP/1.1") [49, 48, 49] (lit "Switching Protocols")

def goodDup : List FField := [fServer, fExt1, fAccept sampleDigest, fServer, fUpgrade, fExt2]

private theorem goodDup_ok : ∀ f ∈ goodDup, f.ok = true := by decide +kernel
example : ∀ f ∈ goodDup, f.ok = true := goodDup_ok
example : fServer.value = ofString "a  b c   d" := by decide +kernel
set_option maxRecDepth 4096 in
example : renderReply2 sl101 [fServer, fExt1] =
    lit "HTTP/1.1 101 Switching Protocols\r\nserver:a \r\n \tb c  \r\n\td\r\nsec-websocket-extensions: permessage-deflate;\r\n client_max_window_bits=12\r\n\r\n" := by
  rw [lit_ofList]
  decide +kernel
-- repeated filler and extension fields, folds inside values: still Ready …
example : Ready true sampleDigest (parseResponse (renderReply2 sl101 goodDup)) := by
  unfold sl101
  rw [C10_ready_iff_wire_dup true sampleDigest _ _ 49 48 49 goodDup (by decide +kernel) (by decide +kernel) (by decide)
    goodDup_ok (by decide +kernel)]
  exact ⟨rfl, ⟨fUpgrade, by decide +kernel, by decide +kernel⟩, ⟨fAccept sampleDigest, by decide +kernel, by decide +kernel⟩,
    ⟨some { decompressWbits := 15, compressWbits := 12, resetDecompress := false, resetCompress := false }, by decide +kernel⟩⟩
example : splitList ((combined goodDup hExt).getD []) =
    [ofString "permessage-deflate; client_max_window_bits=12", ofString "x-unknown"] := by
  rw [C10_repeated_extensions_one_list goodDup goodDup_ok hExt fExt1 fExt2 [] (by decide +kernel)]
  decide +kernel
example : combined goodDup (ofString "server") = some (ofString "a  b c   d,a  b c   d") := by decide +kernel
-- two accept fields: good then bad, bad then good, good twice — all refused, under both comparisons
example (strict : Bool) (v w : Bytes) (hv : (fAccept v).ok = true) (hw : (fAccept w).ok = true) :
    ¬ Ready strict sampleDigest (parseResponse (renderReply2 sl101 [fAccept v, fUpgrade, fAccept w])) := by
  unfold sl101
  apply C10_repeated_accept_refused strict sampleDigest _ _ 49 48 49 _ (by decide +kernel) (by decide +kernel) (by decide) _
    (by decide +kernel) (fAccept v) (fAccept w) []
  · have e1 : (fAccept v).name = hAccept := rfl
    have e2 : ¬ fUpgrade.name = hAccept := by decide +kernel
    have e3 : (fAccept w).name = hAccept := rfl
    simp [fieldsNamed, e1, e2, e3]
  · intro f hf
    simp only [List.mem_cons, List.not_mem_nil, or_false] at hf
    rcases hf with hf | hf | hf <;> subst hf
    · exact hv
    · decide +kernel
    · exact hw
example : (fAccept sampleDigest).ok = true ∧ (fAccept otherDigest).ok = true := by decide +kernel
example : (onResponse false sampleDigest (parseResponse
    (lit "HTTP/1.1 101 X\r\nUpgrade: websocket\r\nSec-WebSocket-Accept: s3pPLMBiTxaQ9kYGzzhZRbK+xOo=\r\nSec-WebSocket-Accept: AAAAAAAAAAAAAAAAAAAAAAAAAAA=\r\n\r\n"))) =
    .error (ofString "Sec-WebSocket-Accept challenge failed") := by
  rw [lit_ofList]
  decide +kernel
example : ¬ Ready false sampleDigest (parseResponse (renderReply2 sl101
    [fUpgrade, { name := hAccept, upper := [], pre := [32], body := ofString "s3pPLMBiTxaQ9k", trail := [],
                 conts := [{ ws := [32], body := ofString "YGzzhZRbK+xOo=", trail := [] }] }])) := by
  unfold sl101
  exact C10_folded_accept_refused false sampleDigest _ _ 49 48 49 _ (by decide +kernel) (by decide +kernel) (by decide)
    (by decide +kernel) (by decide +kernel) (by decide +kernel)
    { name := hAccept, upper := [], pre := [32], body := ofString "s3pPLMBiTxaQ9k", trail := [],
      conts := [{ ws := [32], body := ofString "YGzzhZRbK+xOo=", trail := [] }] } (by decide +kernel) (by decide +kernel)

end Lomond.C10Wire2
