/-
  C18 on the core model — "every message is delivered, and every automatic reply written, in the
  same loop cycle in which its last byte becomes available".

  `Properties/C18.lean` proves on the transport model that every byte is handed to `feed` in the
  cycle running at its arrival tick.  This file proves the other half on the core model
  (`Model/Core.lean`): what `feed` does with the bytes of one `recv` — every event handed to the
  application, the application's reactions, every automatic Pong — happens while the clock stands
  still.  The virtual clock only advances in `selector.wait` (`Core.tick`, which logs `.tick`);
  `NT s s'` (Proofs/SameTick.lean) says `now` is unchanged and no `.tick` entry was added.
-/
import Lomond.Proofs.SameTick
import Lomond.Proofs.Delivery
import Lomond.Proofs.PongRun
import Lomond.Proofs.TimerInv
import Lomond.Proofs.SegmentationLoop

namespace Lomond.C18Core
open Lomond Lomond.Core Lomond.Core.SameTick

/-- **Everything a `recv` triggers happens at the tick of that `recv`.**  From any state, for any
    outcome of `recv_into` (data of any size containing any number of frames, EOF, errors): the
    clock does not move while the read is processed and no `.tick` lies among the trace entries
    it adds — the Ping/Pong/message events, the automatic Pongs and Close echo, the application's
    writes, a ProtocolError and what follows it. -/
theorem recv_processed_at_one_tick (o : RecvOutcome) (s : Sys) :
    (recvStep o s).state.now = s.now ∧
    ∃ l, (recvStep o s).state.trace = l ++ s.trace ∧ ∀ x ∈ l, ∀ t, x ≠ .tick t := by
  have h := nt_recvStep o s
  obtain ⟨l, e, n⟩ := h.ext
  refine ⟨h.now, l, e, ?_⟩
  intro x hx t ht
  have := n x hx
  rw [ht] at this; cases this

/-- **One loop cycle.**  `selector.wait` returns after `dt` ticks with data `bs`: the clock is
    advanced once (`tick`), `_regular()` runs at the new time, then the read is processed at that
    same time `s.now + dt` — no `.tick` entry between the read, the events it completes and the
    automatic replies — and only then does the loop go round again. -/
theorem cycle_at_arrival_tick (dt : Nat) (bs : Bytes) (rest : List EnvStep) (s s2 : Sys)
    (hc : s.closed = false) (hreg : regular (tick s dt) = .ok () s2) :
    s2.now = s.now + dt ∧
    (recvStep (.data bs) s2).state.now = s.now + dt ∧
    (∃ l, (recvStep (.data bs) s2).state.trace = l ++ s2.trace ∧ ∀ x ∈ l, ∀ t, x ≠ .tick t) ∧
    loop (.wait dt (some (.data bs)) :: rest) s =
      (match recvStep (.data bs) s2 with
       | .err x s3 => .err x s3
       | .ok true s3 => loop rest s3
       | .ok false s3 => .ok () s3) := by
  have h2 : s2.now = s.now + dt := by
    have := (nt_timerLeaves.regular (tick s dt)).now
    rw [hreg] at this; exact this
  obtain ⟨hn, hl⟩ := recv_processed_at_one_tick (.data bs) s2
  refine ⟨h2, by rw [hn, h2], hl, ?_⟩
  rw [SegLoop.loop_wait dt _ rest s hc, hreg]
  rfl

/-- **A Ping is delivered, and answered, by the end of the cycle whose read supplies its last
    byte.**  A Ping frame (any payload ≤ 125 bytes, any legal length form) arrives split at an
    arbitrary point into `a` (earlier read) and `b` (this read).  From a state between two
    messages, with an application that does not close and no timeout due: after this read has
    been processed the event `Ping payload` is on the trace, the clock did not move from the start
    of the earlier read's processing nor from the start of this one (`NT`: no `.tick` was added),
    and the Pong invariant of Proofs/PongRun.lean is kept — so (`PongRun.Good.ping`) the Pong for
    this payload sits directly before the event whenever the connection was usable. -/
theorem ping_delivered_by_completing_read (c : CtrlF) (hc : c.Ok) (hp : c.pong = false) (a b : Bytes)
    (hab : a ++ b = wireBytes [c.wire]) (s : Sys) (g : Core.Good s) (hcl : s.closed = false)
    (hfr : s.frames = []) (hbt : Between s.p) :
    ∃ s', contLoop (feedLoop a s) b = .ok true s' ∧ Obs.ev (.ping c.payload) ∈ s'.trace ∧ NT s s' ∧
      (∀ s1, feedLoop a s = .ok true s1 → NT s1 s') ∧
      (∀ auto, PongRun.J auto s → PongRun.J auto s' ∧ PongRun.Good auto s'.trace) := by
  obtain ⟨s', e, r, _, _⟩ := feed_items eater_good [.ctrl c] (by intro it hit; simp at hit; subst hit; exact hc) s ⟨g, hcl⟩ hfr hbt
  have e' : feedLoop (a ++ b) s = .ok true s' := by
    rw [hab]; simpa [Item.wire] using e
  have e2 : contLoop (feedLoop a s) b = .ok true s' := by rw [← feedLoop_append]; exact e'
  refine ⟨s', e2, ?_, ?_, ?_, ?_⟩
  · apply mem_of_delivered
    rw [r.evs]
    simp [Item.events, CtrlF.event, hp]
  · have := Lift.lift_feedLoop nt_leaves (a ++ b) s
    rw [e'] at this; exact this
  · intro s1 h1
    rw [h1] at e2
    have := Lift.lift_feedLoop nt_leaves b s1
    simp only [contLoop] at e2
    rw [e2] at this; exact this
  · intro auto hJ
    have := (PongRun.rj_yields auto).feedLoop (a ++ b) s hJ
    rw [e'] at this
    exact ⟨this, this.good⟩

/-- **Pong and Ping event carry the same clock value** in the trace of every run: the automatic
    Pong is the entry directly before its Ping event (C14Run), so the clock read off the trace
    (`Timers.clockOf`: the value of the newest `.tick`) is the same at the Pong, at the event and
    right before the Pong. -/
theorem pong_same_tick_as_ping (d : Bytes) (o : Obs) (post : List Obs) (h : PongRun.IsPongFor d o) :
    Timers.clockOf (.ev (.ping d) :: o :: post) = Timers.clockOf post ∧
    Timers.clockOf (o :: post) = Timers.clockOf post := by
  obtain ⟨k, rfl | rfl⟩ := h <;> exact ⟨rfl, rfl⟩

/-! ### non-vacuity -/

/-- an open, ready connection between two messages -/
def exSys : Sys :=
  { cfg := {}, env := [], react := fun _ => [], sockOpen := true, p := { cont := .hdr2, remPred := 1 } }

/-- Ping with payload `[65, 66]` -/
def exPing : CtrlF := { pong := false, payload := [65, 66], form := .short }

example : exPing.Ok ∧ wireBytes [exPing.wire] = [0x89, 2, 65, 66] := by decide +kernel

-- the frame split after its third byte: the earlier read delivers nothing, the completing read
-- delivers Pong and event
example : (feedLoop [0x89, 2, 65] exSys).state.trace = [] ∧
    (contLoop (feedLoop [0x89, 2, 65] exSys) [66]).state.trace =
      [.ev (.ping [65, 66]), .wr [138, 130, 0, 0, 0, 0, 65, 66]] := by decide +kernel

-- one cycle: tick, then the read processed at that tick
example : (loop [.wait 3 (some (.data [0x89, 0]))] exSys).state.trace =
    [.ev (.ping []), .wr [138, 128, 0, 0, 0, 0], .tick 3] := by decide +kernel

end Lomond.C18Core
