/-
  C13 companion — TERMINATION of the thread model: from every reachable state some schedule completes all threads.

  `C13_Threads.lean` proves that every schedule in which all threads run to completion ends with the socket shut, and that
  no reachable state is deadlocked.  Here: such complete schedules EXIST from every reachable state (so the hypothesis
  `AllDone` of `all_done_socket_shut` can always be met by extending the schedule), with an explicit bound on their length.

    * `remaining v cfg n s`: the measure — summed over threads `0 .. n-1`: the sync steps left in the call in progress
      (an early return / branch step counted with 10 more: no alternative continuation is longer) plus, unless the call has
      taken the continuation that ends the event loop, the steps of the calls not yet started.
    * `enabled_step_decreases`: an entry of a thread that can move (`enabled`) strictly decreases `remaining`.
    * `exists_completing_schedule`: ALL programs (finitely many threads: `progs t = []` for `t ≥ n`), every variant, start
      state `init` or `initPre`, every prefix schedule `pre`: there is a continuation `post` of length ≤ `remaining` after
      which every thread is done.
    * `abandon_exists_completing_schedule`: the abandon family of `C13_Threads.lean` (loop program `[.abandon]`, arbitrary
      application programs): from every reachable state the run can be completed, and every completed run has the socket shut.

  That the ROUND-ROBIN schedule, and every fair schedule, completes all threads is `C13_Fair.lean`; the schedule of
  `exists_completing_schedule` is built by choosing, in every state, a thread that can move (the lock holder if the lock
  is held).  Two-chunk socket (`run`) only: with the general socket `write1` may stay at the head of the program
  (`Model/ThreadsN.lean`), the measure would also have to count the chunks left.
-/
import Lomond.Proofs.ThreadsTerm
import Lomond.Properties.C13_Threads

namespace Lomond.C13Term
open Lomond Lomond.Threads Lomond.C13Threads

/-- sync steps left to threads `0 .. n-1` (see the header) -/
abbrev remaining (v : Variant) (cfg : Cfg) (n : Nat) (s : State) : Nat := smeasure v cfg n s

/-- **Progress**: in every state reachable from `init` / `initPre`, an entry of a thread `u < n` that can move strictly
    decreases the number of remaining steps (threads `≥ n` have empty programs). -/
theorem enabled_step_decreases (v : Variant) (cfg : Cfg) (progs : Tid → List Call) (n : Nat) (pre : List Tid)
    (s₁ : State) (h₁ : s₁ = init progs ∨ s₁ = initPre progs) (u : Tid) :
    let s := run v cfg s₁ pre
    u < n → enabled v cfg s u = true → remaining v cfg n (step v cfg s u) < remaining v cfg n s := by
  intro s hun hu
  have N : NE s := ne_run v cfg _ pre (ne_fresh _ (fresh_of_start h₁).1.cur)
  exact smeasure_step v cfg n s u N hun hu

/-- **A completing schedule exists from every reachable state.**  Every variant and configuration, arbitrary programs of
    finitely many threads, start state `init` (connected) or `initPre` (before the connection), any prefix `pre` (threads
    anywhere inside their calls, the lock held or not): some continuation `post`, of at most `remaining` entries, brings
    every thread to completion. -/
theorem exists_completing_schedule (v : Variant) (cfg : Cfg) (progs : Tid → List Call) (n : Nat)
    (hn : ∀ t, n ≤ t → progs t = []) (pre : List Tid) (s₁ : State) (h₁ : s₁ = init progs ∨ s₁ = initPre progs) :
    let s := run v cfg s₁ pre
    ∃ post : List Tid, AllDone v cfg (run v cfg s post) ∧ post.length ≤ remaining v cfg n s := by
  intro s
  obtain ⟨F, hp⟩ := fresh_of_start h₁
  exact exists_completing v cfg n _ s (lockInv_run v cfg _ pre (lockInv_fresh v cfg F)) (ne_run v cfg _ pre (ne_fresh _ F.cur))
    (idle_run n v cfg _ pre fun u hu => ⟨hp u ▸ hn u hu, F.cur u⟩) (Nat.le_refl _)

/-- **The abandon family terminates with the socket shut**: loop program `[.abandon]`, arbitrary application programs (of
    finitely many threads), any reachable state: the schedule can be continued so that all threads complete, and then the
    socket is shut (`C13Threads.all_done_socket_shut`). -/
theorem abandon_exists_completing_schedule (v : Variant) (cfg : Cfg) (progs : Tid → List Call) (n : Nat) (l : Tid)
    (hn : ∀ t, n ≤ t → progs t = []) (hl : progs l = [.abandon]) (pre : List Tid) :
    let s := final v cfg progs pre
    ∃ post : List Tid, AllDone v cfg (run v cfg s post) ∧ (run v cfg s post).sh.sockShut = true ∧
      post.length ≤ remaining v cfg n s := by
  intro s
  obtain ⟨post, h1, h2⟩ := exists_completing_schedule v cfg progs n hn pre (init progs) (Or.inl rfl)
  exact ⟨post, h1, lock_held_at_abandonment v cfg progs l hl pre post (h1 l), h2⟩

/-! ### non-vacuity -/

/-- the programs of `C13_Threads.lean` have two threads -/
example : ∀ t, 2 ≤ t → sendAb t = [] := by
  intro t ht
  match t with
  | t + 2 => rfl

/-- the measure at the start (7 steps of the send, 9 of `.abandon`), and in the state of `C13_Threads.lean` in which the
    sender holds the lock and the loop is about to wait (`0 0 0 0 1`: 3 + 8 steps left) -/
example : remaining ca {} 2 (init sendAb) = 16 ∧ remaining ca {} 2 (final ca {} sendAb [0, 0, 0, 0, 1]) = 11 := by
  decide +kernel

/-- there, the loop cannot move and the sender can: its entry decreases the measure (`enabled_step_decreases`) -/
example : let s := final ca {} sendAb [0, 0, 0, 0, 1]
    enabled ca {} s 1 = false ∧ enabled ca {} s 0 = true ∧ remaining ca {} 2 (step ca {} s 0) = 10 := by
  decide +kernel

/-- a completing continuation within the bound: 3 entries of the sender, 8 of the loop -/
example : let s := final ca {} sendAb [0, 0, 0, 0, 1]
    let s' := run ca {} s (List.replicate 3 0 ++ List.replicate 8 1)
    (∀ t, t < 2 → (s'.th t).current ca {} = none) ∧ s'.sh.sockShut = true ∧ remaining ca {} 2 s' = 0 := by
  decide +kernel

/-- `close()` has early-return steps (counted with 10 more each): 12 + 2 * 10 steps, plus 9 -/
example : remaining ca {} 2 (init closeAb) = 41 := by
  decide +kernel

end Lomond.C13Term
