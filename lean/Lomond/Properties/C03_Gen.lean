/-
  C03 companion — the send side of the hand-written model is what frame.py / websocket.py say.

  `Lomond.Gen.Code.*` are Lean definitions produced from the Python source by harness/py2lean.py
  on every check run (header decision and first byte of `Frame.build`, `build_close_payload`, the
  argument guards of `send_ping` / `send_pong` / `close`).  The theorems below state that the
  model's `byte0`, `buildHeader`, `Frame.build`, `buildClosePayload`, `doAct` (ping / pong) and
  `wsClose` are exactly these definitions.  A change of the source that changes a decision
  changes `Generated/Code.lean`, and the corresponding theorem stops checking.
  Theorems only; helper lemmas and the reading of error values are in `Proofs/GenTie`.
-/
import Lomond.Proofs.GenTie
import Lomond.Generated.Code
import Lomond.Properties.C03_Z

namespace Lomond.C03Gen
open Lomond Lomond.Core Lomond.Core.KS Lomond.GenTie
open Lomond.Gen.Code

/-- `byte0 = fin << 7 | rsv1 << 6 | rsv2 << 5 | rsv3 << 4 | opcode` is the model's `byte0`
    for one-bit flags and a four-bit opcode. -/
theorem gen_byte0 (fin rsv1 rsv2 rsv3 opcode : Nat)
    (hf : fin < 2) (h1 : rsv1 < 2) (h2 : rsv2 < 2) (h3 : rsv3 < 2) (ho : opcode < 16) :
    frameBuildByte0 fin rsv1 rsv2 rsv3 opcode = byte0 fin rsv1 rsv2 rsv3 opcode := by
  have h : ∀ fin : Fin 2, ∀ r1 : Fin 2, ∀ r2 : Fin 2, ∀ r3 : Fin 2, ∀ op : Fin 16,
      frameBuildByte0 fin.val r1.val r2.val r3.val op.val = byte0 fin.val r1.val r2.val r3.val op.val := by
    decide +kernel
  exact h ⟨fin, hf⟩ ⟨rsv1, h1⟩ ⟨rsv2, h2⟩ ⟨rsv3, h3⟩ ⟨opcode, ho⟩

example : frameBuildByte0 1 1 0 0 9 = 0xC9 := rfl

/-- the first byte fits a byte (so `struct.pack('!B..')` accepts it) -/
theorem gen_byte0_lt (fin rsv1 rsv2 rsv3 opcode : Nat)
    (hf : fin < 2) (h1 : rsv1 < 2) (h2 : rsv2 < 2) (h3 : rsv3 < 2) (ho : opcode < 16) :
    frameBuildByte0 fin rsv1 rsv2 rsv3 opcode < 256 := by
  rw [gen_byte0 fin rsv1 rsv2 rsv3 opcode hf h1 h2 h3 ho]; unfold byte0; omega

/-- `mask_bit = 1 << 7 if mask else 0`: the model passes 128 (client) or 0 (server-style test frames) -/
theorem gen_maskBit : frameBuildMaskBit true = 128 ∧ frameBuildMaskBit false = 0 := by
  constructor <;> simp [frameBuildMaskBit]

/-- The header decision of `Frame.build` — `length < 126`, `< 1 << 16`, `< 1 << 63`, else
    `FrameBuildError`, with `mask_bit | length`, `mask_bit | 126`, `mask_bit | 127` and the
    `!BB` / `!BBH` / `!BBQ` packing — is the model's `buildHeader`, for every length. -/
theorem gen_buildHeader (b0 maskBit length : Nat) (hb : b0 < 256) (hm : maskBit = 0 ∨ maskBit = 128) :
    frameBuildHeader b0 maskBit length =
      match buildHeader b0 maskBit length with
      | some h => .ok h
      | none => .error ⟨"FrameBuildError", "payload is too large for a single frame"⟩ := by
  have e0 : b0 % 256 = b0 := Nat.mod_eq_of_lt hb
  have o1 : ∀ l, l < 128 → (maskBit ||| l) % 256 = maskBit + l := by
    intro l hl; rcases hm with rfl | rfl
    · simp; omega
    · rw [gen_or_128 l hl]; omega
  unfold frameBuildHeader
  simp only [gen_pack_cons, gen_pack_nil, gen_beBytes_one, decide_eq_true_eq, Nat.reduceShiftLeft,
    List.append_nil, e0]
  unfold buildHeader
  by_cases c1 : length < 126
  · simp [c1, o1 length (by omega)]
  by_cases c2 : length < 65536
  · simp [c1, c2, o1 126 (by omega)]
  by_cases c3 : length < 2 ^ 63
  · simp [c1, c2, c3, o1 127 (by omega)]
  · simp [c1, c2, c3]

/-- the three length classes and the error, one by one -/
theorem gen_buildHeader_classes (b0 : Nat) (hb : b0 < 256) (length : Nat) :
    (length < 126 → frameBuildHeader b0 128 length = .ok [b0, 128 + length]) ∧
    (126 ≤ length → length < 65536 → frameBuildHeader b0 128 length = .ok ([b0, 254] ++ beBytes 2 length)) ∧
    (65536 ≤ length → length < 2 ^ 63 → frameBuildHeader b0 128 length = .ok ([b0, 255] ++ beBytes 8 length)) ∧
    (2 ^ 63 ≤ length → frameBuildHeader b0 128 length =
        .error ⟨"FrameBuildError", "payload is too large for a single frame"⟩) := by
  rw [gen_buildHeader b0 128 length hb (Or.inr rfl)]
  refine ⟨fun h => ?_, fun h1 h2 => ?_, fun h1 h2 => ?_, fun h => ?_⟩
  · simp [buildHeader, h]
  · simp [buildHeader, h2, show ¬ length < 126 by omega]
  · simp [buildHeader, h2, show ¬ length < 126 by omega, show ¬ length < 65536 by omega]
  · simp [buildHeader, show ¬ length < 126 by omega, show ¬ length < 65536 by omega,
      show ¬ length < 2 ^ 63 by omega]

example : frameBuildHeader 0x81 128 126 = .ok [0x81, 254, 0, 126] := rfl
example : frameBuildHeader 0x82 128 65536 = .ok [0x82, 255, 0, 0, 0, 0, 0, 1, 0, 0] := rfl

/-- The model's `Frame.build` (a masked client frame) is the generated first byte, mask bit and
    header followed by the key and the masked payload. -/
theorem gen_frameBuild (opcode : Nat) (payload key : Bytes) (fin rsv1 rsv2 rsv3 : Nat)
    (hf : fin < 2) (h1 : rsv1 < 2) (h2 : rsv2 < 2) (h3 : rsv3 < 2) (ho : opcode < 16) :
    Frame.build opcode payload key fin rsv1 rsv2 rsv3 =
      match frameBuildHeader (frameBuildByte0 fin rsv1 rsv2 rsv3 opcode) (frameBuildMaskBit true) payload.length with
      | .ok h => some (h ++ key ++ maskPayload key payload)
      | .error _ => none := by
  rw [gen_buildHeader _ _ _ (gen_byte0_lt fin rsv1 rsv2 rsv3 opcode hf h1 h2 h3 ho) (Or.inr gen_maskBit.1),
    gen_byte0 fin rsv1 rsv2 rsv3 opcode hf h1 h2 h3 ho, gen_maskBit.1]
  unfold Frame.build
  cases buildHeader (byte0 fin rsv1 rsv2 rsv3 opcode) 128 payload.length <;> rfl

/-- `build_close_payload(status, reason)`: `None ⇒ b''`, else `!H` status followed by the reason -/
theorem gen_buildClosePayload (status : Option Nat) (reason : Bytes) :
    frameBuildClosePayload status reason = buildClosePayload status reason := by
  cases status <;> simp [frameBuildClosePayload, buildClosePayload, gen_pack_cons, gen_pack_nil]

example : frameBuildClosePayload none [1, 2, 3] = [] := rfl
example : frameBuildClosePayload (some 1000) [111, 107] = [3, 232, 111, 107] := rfl

/-- `send_ping(data)` with bytes: the model rejects exactly when the source's guard raises, with
    the result the raised class stands for; otherwise it sends the Ping frame. -/
theorem gen_sendPing (b : Bytes) :
    doAct (.sendPing (.bytes b)) =
      logRes (match wsSendPingGuard true b with
              | .ok _ => sendFrame Gen.opPing b none
              | .error e => pure (actResOf e)) := by
  simp only [doAct, wsSendPingGuard, decide_eq_true_eq]
  congr 1
  by_cases h : b.length > 125 <;> simp [h, actResOf]

/-- `send_ping(x)` with anything that is not bytes: TypeError in the source and in the model -/
theorem gen_sendPing_type (a : Arg) (h : ∀ b, a ≠ .bytes b) (d : Bytes) :
    doAct (.sendPing a) =
      logRes (match wsSendPingGuard false d with
              | .ok _ => sendFrame Gen.opPing d none
              | .error e => pure (actResOf e)) := by
  cases a with
  | bytes b => exact absurd rfl (h b)
  | str c => simp [doAct, wsSendPingGuard, actResOf]
  | other => simp [doAct, wsSendPingGuard, actResOf]

theorem gen_sendPong (b : Bytes) :
    doAct (.sendPong (.bytes b)) =
      logRes (match wsSendPongGuard true b with
              | .ok _ => sendFrame Gen.opPong b none
              | .error e => pure (actResOf e)) := by
  simp only [doAct, wsSendPongGuard, decide_eq_true_eq]
  congr 1
  by_cases h : b.length > 125 <;> simp [h, actResOf]

theorem gen_sendPong_type (a : Arg) (h : ∀ b, a ≠ .bytes b) (d : Bytes) :
    doAct (.sendPong a) =
      logRes (match wsSendPongGuard false d with
              | .ok _ => sendFrame Gen.opPong d none
              | .error e => pure (actResOf e)) := by
  cases a with
  | bytes b => exact absurd rfl (h b)
  | str c => simp [doAct, wsSendPongGuard, actResOf]
  | other => simp [doAct, wsSendPongGuard, actResOf]

example : wsSendPingGuard true (List.replicate 125 0) = .ok () := by decide +kernel
example : wsSendPingGuard true (List.replicate 126 0) = .error ⟨"ValueError", "ping data should be <= 125 bytes"⟩ := by decide +kernel

/-- the automatic Pong (`_send_pong` → `send_pong(event.data)`): the model's length test is the source's -/
theorem gen_autoPong (data : Bytes) (s : Sys) (h : s.cfg.autoPong = true) :
    onEvent (.ping data) s =
      match wsSendPongGuard true data with
      | .error _ => .err (.other "error") s
      | .ok _ => match sendFrame Gen.opPong data none s with
                 | .ok _ s' => .ok () s'
                 | .err x s' => .err x s' := by
  simp only [onEvent, h, wsSendPongGuard, decide_eq_true_eq]
  by_cases hl : data.length > 125
  · simp [hl]
  · simp only [hl, if_false]; rfl

/-- what the translated `WebSocket.close` computes: nothing when closed or closing; `ValueError`
    for a code above 0xffff, then for a payload longer than 125 bytes; else it sends. -/
theorem gen_wsClose_spec (closed closing : Bool) (code : Option Nat) (b : Bytes) :
    Gen.Code.wsClose closed closing code b =
      if closed then .ok false
      else if closing then .ok false
      else if (match code with | some c => decide (c ≥ 65536) | none => false) then
        .error ⟨"ValueError", "close code should be 0..65535"⟩
      else if (buildClosePayload code b).length > 125 then
        .error ⟨"ValueError", "close reason should be <= 123 bytes"⟩
      else .ok true := by
  unfold Gen.Code.wsClose
  simp only [gen_buildClosePayload]
  cases closed
  · cases closing
    · cases code with
      | none => simp
      | some c => simp only [Bool.false_eq_true, if_false, Bool.not_false, if_true, Nat.zero_le, decide_true,
          Bool.true_and, Bool.not_eq_true', decide_eq_false_iff_not, Nat.not_le, decide_eq_true_eq, ge_iff_le]
                  rfl
    · rfl
  · rfl

/-- `WebSocket.close(code, reason)` (repaired, `closeArgs`): with the reason already encoded to
    bytes, the model does what the translated source does — nothing when closed or closing,
    `ValueError` exactly when one of the two guards raises (`code is not None and not 0 <= code <=
    0xffff`, `len(build_close_payload(code, reason)) > 125`), else it sends the Close frame with
    the generated payload and enters the closing state. -/
theorem gen_wsClose (code : Option Nat) (b : Bytes) (s : Sys) (h : s.cfg.v.closeArgs = true) :
    Core.wsClose code (.bytes b) s =
      match Gen.Code.wsClose s.closed s.closing code b with
      | .error e => .ok (actResOf e) s
      | .ok false => .ok .ok s
      | .ok true =>
        match sendFrame Gen.opClose (frameBuildClosePayload code b) none s with
        | .ok _ s' => .ok .ok { s' with closing := true, sentCloseTime := some (sessionTime s') }
        | .err x s' => .err x s' := by
  rw [gen_buildClosePayload, gen_wsClose_spec]
  unfold Core.wsClose
  simp only [h]
  -- nothing happens once closed or closing; otherwise the two argument guards decide
  cases hc : s.closed
  · cases hg : s.closing
    · cases code with
      | none =>
        by_cases l : (buildClosePayload none b).length > 125 <;> simp [l, actResOf] <;>
          (generalize sendFrame _ _ _ s = r; cases r <;> rfl)
      | some c =>
        by_cases t : 65536 ≤ c <;> by_cases l : (buildClosePayload (some c) b).length > 125 <;>
          simp [l, t, actResOf] <;> (generalize sendFrame _ _ _ s = r; cases r <;> rfl)
    · rfl
  · rfl

example : Gen.Code.wsClose false false (some 65536) [] = .error ⟨"ValueError", "close code should be 0..65535"⟩ := rfl
example : Gen.Code.wsClose false false (some 1000) (List.replicate 124 65) =
    .error ⟨"ValueError", "close reason should be <= 123 bytes"⟩ := by decide +kernel
example : Gen.Code.wsClose false false none (List.replicate 200 65) = .ok true := by decide +kernel
example : Gen.Code.wsClose false true (some 1000) [] = .ok false := rfl

open Lomond.ZFrame in
/-- `send_compressed` constructs `Frame(opcode, payload=bytearray(compress(data)), rsv1=1)`: the
    frame has FIN=1, RSV1=1, RSV2=RSV3=0, `mask=True` and no masking key of its own. -/
theorem gen_sendCompressed_fields (opcode : Nat) (z : Bytes) :
    sessionSendCompressedFrame opcode z = (opcode, z, 1, 1, 0, 0, true, none) := rfl

/-- `Frame.to_bytes` hands the frame's fields to `Frame.build` unchanged — except `fin`, which it
    does not pass: `Frame.build` is entered with its default `fin=1` whatever `self.fin` is. -/
theorem gen_toBytes (opcode : Nat) (payload : Bytes) (fin rsv1 rsv2 rsv3 : Nat) (mask : Bool) (key : Option Bytes) :
    frameToBytes opcode payload fin rsv1 rsv2 rsv3 mask key = (opcode, payload, 1, rsv1, rsv2, rsv3, mask, key) := rfl

example : frameToBytes 2 [1, 2] 0 1 0 0 true none = (2, [1, 2], 1, 1, 0, 0, true, none) := rfl

/-- `make_masking_key = partial(os.urandom, 4)`: a call is `os.urandom(4)`. -/
theorem gen_makeMaskingKey (urandom : Nat → Bytes) : frameMakeMaskingKey urandom = urandom 4 := rfl

/-- … so for an `os.urandom` that returns as many bytes as it is asked for, the key has 4 bytes. -/
theorem gen_makeMaskingKey_length (urandom : Nat → Bytes) (h : ∀ n, (urandom n).length = n) :
    (frameMakeMaskingKey urandom).length = 4 := h 4

/-- `masking_key = make_masking_key() if masking_key is None else masking_key`: a frame without a
    key of its own gets the fresh one; a given key is used as it is. -/
theorem gen_buildKey (fresh k : Bytes) : frameBuildKey none fresh = fresh ∧ frameBuildKey (some k) fresh = k :=
  ⟨rfl, rfl⟩

/-- **The key source of a configuration is the source's.**  Every key `cfg.maskKey k` is what
    `Frame.build` draws for a frame without a key of its own — `make_masking_key()`, i.e.
    `os.urandom(4)` — for some `os.urandom` that keeps its contract (exactly `n` bytes for `n`). -/
def KeysFromSource (cfg : Cfg) : Prop :=
  ∀ k, ∃ urandom : Nat → Bytes, (∀ n, (urandom n).length = n) ∧
    cfg.maskKey k = frameBuildKey none (frameMakeMaskingKey urandom)

/-- **Masking keys have 4 bytes**: the hypothesis `hk` of the run-level theorems, from the source. -/
theorem gen_key_length (cfg : Cfg) (h : KeysFromSource cfg) : ∀ k, (cfg.maskKey k).length = 4 := by
  intro k
  obtain ⟨urandom, hu, he⟩ := h k
  rw [he, (gen_buildKey _ []).1]
  exact gen_makeMaskingKey_length urandom hu

/-- non-vacuity: the key source of the examples -/
example : KeysFromSource { maskKey := fun k => [k + 1, 2, 3, 4] } := fun k =>
  ⟨fun n => if n = 4 then [k + 1, 2, 3, 4] else List.replicate n 0,
   fun n => by by_cases h : n = 4 <;> simp [h], rfl⟩

open Lomond.ZFrame in
/-- **`wireOf` renders what the source's chain builds.**  The bytes `ZFrame.wireOf` gives a
    compressed entry are `Frame.build` entered with exactly the arguments the chain
    `send_compressed → Frame(..) → to_bytes → Frame.build` binds (translated sites
    `sessionSendCompressedFrame`, `frameToBytes`, `frameBuildKey`), the payload being the
    compressor's output and the fresh key that of the entry's slot. -/
theorem gen_wireOf (deflate : Deflater) (cfg : Cfg) (older : List Obs) (op : Nat) (plain : Bytes)
    (hist : List Bytes) (hh : zHist older = some hist) :
    wireOf deflate cfg older (.wrz op plain) =
      (match sessionSendCompressedFrame op (deflate hist plain) with
       | (o, p, fin, r1, r2, r3, mask, key) =>
         match frameToBytes o p fin r1 r2 r3 mask key with
         | (o', p', fin', r1', r2', r3', mask', key') =>
           if mask' then Frame.build o' p' (frameBuildKey key' (cfg.maskKey (keyIdx older))) fin' r1' r2' r3'
           else none) := by
  simp [wireOf, hh, sessionSendCompressedFrame, frameToBytes, frameBuildKey]

/-- `send_json`: ValueError exactly for positional *and* keyword arguments; otherwise
    `json.dumps` receives the positional argument if there is one, else the dict of keyword
    arguments, and `send_text(<its result>)` is called with the default `compress=True` — the
    decisions of the model's `ZFrame.sendJson`. -/
theorem gen_sendJson (hasObj hasKwargs : Bool) :
    wsSendJson hasObj hasKwargs =
      if hasKwargs ∧ hasObj then .error ⟨"ValueError", "send_json requires positional argument OR keyword arguments"⟩
      else .ok (if hasObj then 1 else 2, true) := by
  cases hasObj <;> cases hasKwargs <;> rfl

open Lomond.ZFrame in
/-- the model's `sendJson` takes the branches of the translated source: ValueError on the same
    condition, and the object handed to `dumps` is the one the source hands to `json.dumps` -/
theorem gen_sendJson_model {J : Type} (dumps : J → Option (List Nat)) (c : JsonCall J) :
    sendJson dumps c =
      match wsSendJson c.obj.isSome c.hasKwargs with
      | .error e => logRes (pure (actResOf e))
      | .ok (which, _) =>
        match dumps (if which = 1 then c.obj.getD c.kwargs else c.kwargs) with
        | none => logRes (pure .typeError)
        | some text => doAct (.sendText (.str text) true) := by
  rw [gen_sendJson]
  unfold sendJson
  cases ho : c.obj with
  | none =>
    cases hk : c.hasKwargs <;> simp <;> (cases dumps c.kwargs <;> rfl)
  | some o =>
    cases hk : c.hasKwargs <;> simp [actResOf]
    cases dumps o <;> rfl

/-- `C03.every_written_frame_is_valid` with its hypothesis on the key length discharged from the
    source: every key is `os.urandom(4)` as `Frame.build` draws it. -/
theorem every_written_frame_is_valid_src (cfg : Cfg) (react : React) (env : List EnvStep)
    (hv : cfg.v.closeArgs = true) (hsrc : KeysFromSource cfg) :
    ∀ bytes, Obs.wr bytes ∈ (runAll cfg react env).trace →
      bytes = cfg.request ∨
      ∃ d, Spec.decodeClientFrame bytes = some (d, []) ∧
        d.fin = 1 ∧ d.rsv1 = 0 ∧ d.rsv2 = 0 ∧ d.rsv3 = 0 ∧
        (d.opcode = 1 ∨ d.opcode = 2 ∨ d.opcode = 8 ∨ d.opcode = 9 ∨ d.opcode = 10) ∧
        (∃ k, d.key = cfg.maskKey k) ∧ (8 ≤ d.opcode → d.payload.length ≤ 125) :=
  C03.every_written_frame_is_valid cfg react env hv (gen_key_length cfg hsrc)

open Lomond.ZFrame in
/-- `C03Z.every_compressed_frame_is_valid` likewise. -/
theorem every_compressed_frame_is_valid_src (cfg : Cfg) (react : React) (env : List EnvStep)
    (deflate : Deflater) (hsm : Small react) (hsrc : KeysFromSource cfg)
    (newer older : List Obs) (op : Nat) (plain : Bytes)
    (ht : (runAll cfg react env).trace = newer ++ .wrz op plain :: older)
    (hist : List Bytes) (hh : zHist older = some hist) (hz : (deflate hist plain).length < 2 ^ 63) :
    nWrites older ≠ 0 ∧ (op = 1 ∨ op = 2) ∧ hist = zPlains older ∧
    ∃ bytes, wireOf deflate cfg older (.wrz op plain) = some bytes ∧
      ∀ rest, Spec.decodeClientFrame (bytes ++ rest) =
        some (C03Z.zDecoded op (cfg.maskKey (keyIdx older)) (deflate hist plain), rest) :=
  C03Z.every_compressed_frame_is_valid cfg react env deflate hsm (gen_key_length cfg hsrc) newer older op plain ht
    hist hh hz

end Lomond.C03Gen
