/-
  C11 for the general socket (`Model/ThreadsN.lean`): a `sendall` of ANY number of chunks, and
  `sendall`s that FAIL after any number of chunks (`TransportFail`).

  `env : Env` is the socket: `env.more t i + 1 ≥ 1` is the number of `send()` calls ("chunks") the
  frame of call `i` of thread `t` takes (every chunk is a schedule entry of its own: other threads
  run between any two chunks, the write lock is held across all of them), `env.failAt t i = some k`
  makes that `sendall` raise once `k` chunks are out.  Everything is universally quantified: socket,
  variant, configuration, programs (any number of threads and calls, the event loop's writers and
  receives included) and schedule.

  The wire is described by GROUPS (`Group`: thread, call, frame, how many chunks before the last one
  were written, whether the last one was): `flat gs` is the list of chunks of the groups `gs` in order.
  `Group.whole env g`: all `env.more + 1` chunks — a whole frame.  `Group.torn env g`: no last chunk,
  and exactly the `k` chunks after which `env.failAt` made this very call fail.

  `Model/Threads.lean` (two chunks, no failure: the socket the correspondence harness simulates by
  default, and the one `C11.lean` / `C12.lean` are stated for) is the instance `Env.two`
  (`two_chunk_instance`); with `n=` / `fail=` the harness and the driver run this general model.
-/
import Lomond.Proofs.ThreadsNW
import Lomond.Proofs.ThreadsNB
import Lomond.Proofs.ThreadsNZ
import Lomond.Properties.C11

namespace Lomond.C11N
open Lomond Lomond.Threads

/-- the state reached from the freshly connected WebSocket, socket `env` -/
abbrev final (env : Env) (v : Variant) (cfg : Cfg) (progs : Tid → List Call) (sched : List Tid) : State :=
  runN env v cfg (init progs) sched

theorem base_final (env : Env) (v : Variant) (cfg : Cfg) (progs : Tid → List Call) (sched : List Tid) :
    BaseN v cfg (final env v cfg progs sched) :=
  baseN_run env v cfg _ sched (baseN_fresh v cfg (fresh_init progs))

/-- **The model of `C11.lean` is the two-chunk, failure-free instance of this one**: same states,
    same schedules, same runs. -/
theorem two_chunk_instance (v : Variant) (cfg : Cfg) (progs : Tid → List Call) (sched : List Tid) :
    final Env.two v cfg progs sched = C11.final v cfg progs sched :=
  runN_default v cfg _ sched

/-- **The lock has at most one holder**, whatever the socket does. -/
theorem lock_exclusive (env : Env) (v : Variant) (cfg : Cfg) (progs : Tid → List Call) (sched : List Tid) (t u : Tid) :
    let s := final env v cfg progs sched
    (holds (view v cfg (s.th t)) = true ↔ s.sh.lock = some t) ∧
    (holds (view v cfg (s.th t)) = true → holds (view v cfg (s.th u)) = true → t = u) := by
  intro _
  have L := (base_final env v cfg progs sched).L
  exact ⟨L.holder t, fun ht hu => holder_unique L hu ht⟩

/-- **Whole frames, for every number of chunks, also when writes fail.**  At every moment the wire is
    a concatenation of groups of chunks, each group being
      * a WHOLE frame (all `env.more + 1` chunks of one `sendall`, contiguous, in order), or
      * the TORN head of a frame — and then it is the frame of exactly the call whose `sendall` the
        socket made fail, cut exactly where it failed (`env.failAt g.tid g.idx = some g.parts`),
    at most one group per call and the groups of each thread in call order (`gidx`: strictly
    increasing call indices — after a torn frame nothing more of that call, and nothing of the thread
    until a LATER call of it writes), followed by nothing, or by the `k ≤ env.more` chunks the lock
    holder has written of the frame it is in the middle of writing. -/
theorem whole_frames (env : Env) (v : Variant) (cfg : Cfg) (progs : Tid → List Call) (sched : List Tid) :
    let s := final env v cfg progs sched
    ∃ gs : List Group,
      (∀ g ∈ gs, g.whole env ∨ g.torn env) ∧
      (∀ t, (gidx gs t).Pairwise (· < ·)) ∧
      (s.sh.wire = flat gs ∨
        ∃ t c f r k, s.sh.lock = some t ∧ (s.th t).current v cfg = some c ∧
          (c.rest = .write1 f :: r ∨ c.rest = .write2 f :: r) ∧ k ≤ env.more t c.idx ∧
          s.sh.wire = flat gs ++ List.replicate k ⟨t, c.idx, false, descOf f c⟩) := by
  intro s
  have B := base_final env v cfg progs sched
  obtain ⟨gs, S⟩ := shape_reach env v cfg (fresh_init progs) sched
  refine ⟨gs, S.ok, S.sorted, ?_⟩
  by_cases h : ∀ t, atW (view v cfg (s.th t)) = false
  · exact Or.inl (S.quiet h)
  · right
    obtain ⟨t, ht⟩ := exists_at h
    have hl := (B.L.holder t).mp (atW_holds (B.L.disc t) ht)
    obtain ⟨c, f, r, hc, hr⟩ := current_of_atW ht
    obtain ⟨k, h1, h2, _⟩ := S.mid t c f r hc hr
    exact ⟨t, c, f, r, k, hl, hc, hr, h2, h1⟩

/-- when no thread is in the middle of a `sendall` — in particular when every thread has finished —
    the wire consists of the groups exactly -/
theorem whole_frames_quiescent (env : Env) (v : Variant) (cfg : Cfg) (progs : Tid → List Call) (sched : List Tid)
    (h : ∀ t, atW (view v cfg ((final env v cfg progs sched).th t)) = false) :
    ∃ gs : List Group, (∀ g ∈ gs, g.whole env ∨ g.torn env) ∧ (∀ t, (gidx gs t).Pairwise (· < ·)) ∧
      (final env v cfg progs sched).sh.wire = flat gs := by
  obtain ⟨gs, S⟩ := shape_reach env v cfg (fresh_init progs) sched
  exact ⟨gs, S.ok, S.sorted, S.quiet h⟩

/-- **Failures of one thread's `sendall` do not hurt the frames of the others**: in the decomposition
    of `whole_frames`, every group of a call whose `sendall` the socket does not make fail is a whole
    frame — whatever happens to other calls, before or after.  (With `whole_frames`: torn groups
    belong to failing calls only, and each is cut where the failure was injected.) -/
theorem only_failing_frames_are_torn (env : Env) (g : Group) (h : g.whole env ∨ g.torn env)
    (hok : env.failAt g.tid g.idx = none) : g.whole env := by
  rcases h with h | ⟨_, h, _⟩
  · exact h
  · rw [hok] at h; cases h

/-- without write failures every group is a whole frame -/
theorem whole_frames_no_failure (env : Env) (hnf : ∀ t i, env.failAt t i = none) (v : Variant) (cfg : Cfg)
    (progs : Tid → List Call) (sched : List Tid)
    (h : ∀ t, atW (view v cfg ((final env v cfg progs sched).th t)) = false) :
    ∃ gs : List Group, (∀ g ∈ gs, g.whole env) ∧ (∀ t, (gidx gs t).Pairwise (· < ·)) ∧
      (final env v cfg progs sched).sh.wire = flat gs := by
  obtain ⟨gs, h1, h2, h3⟩ := whole_frames_quiescent env v cfg progs sched h
  exact ⟨gs, fun g hg => only_failing_frames_are_torn env g (h1 g hg) (hnf _ _), h2, h3⟩

/-- **The wire contains exactly the messages sent** (any number of chunks, failing writes):
    (1) call `i` of thread `t` has a COMPLETE frame on the wire iff that call has written, and then once;
    (2) every chunk on the wire is a chunk of the frame of the call it is tagged with (its opcode and,
        when uncompressed, its message);
    (3) a finished send wrote its frame iff it raised no error — `TransportFail` included: a send
        whose `sendall` failed is not on the wire as a complete frame and did not return normally. -/
theorem exact_messages (env : Env) (v : Variant) (cfg : Cfg) (progs : Tid → List Call) (sched : List Tid) :
    let s := final env v cfg progs sched
    (∀ t i, i ∈ idxs s.sh.wire t ↔ wroteAt (s.th t) i) ∧
    (∀ t, (idxs s.sh.wire t).Nodup) ∧
    (∀ ch ∈ s.sh.wire, ∃ call, (progs ch.tid)[ch.idx]? = some call ∧ descFor cfg call ch.desc) ∧
    (∀ (t : Tid) (i : Nat) (r : Result), (s.th t).results[i]? = some r →
      ∃ call, (progs t)[i]? = some call ∧ (r.err ≠ none → r.wrote = false) ∧
        (call.isSend = true → (r.wrote = true ↔ r.err = none))) := by
  intro _
  exact (base_final env v cfg progs sched).exact_messages (runN_prog env v cfg _ sched)

/-- **Each thread's messages are on the wire in its own call order** (complete frames; for the torn
    ones see `whole_frames`: `gidx` is increasing as well). -/
theorem per_thread_order (env : Env) (v : Variant) (cfg : Cfg) (progs : Tid → List Call) (sched : List Tid) (t : Tid) :
    (idxs (final env v cfg progs sched).sh.wire t).Pairwise (· < ·) :=
  (base_final env v cfg progs sched).M.sorted t

/-- **The call of a torn frame did not return normally.**  When no thread is in the middle of a
    `sendall`: for every torn group of the decomposition, the call it belongs to has not written
    (`wrote = false`: no complete frame of it is on the wire, before or after the torn one), and if it
    is a send method that has returned, it raised (the `TransportFail` of its failing `sendall`). -/
theorem torn_frame_call_failed (env : Env) (v : Variant) (cfg : Cfg) (progs : Tid → List Call) (sched : List Tid)
    (hq : ∀ t, atW (view v cfg ((final env v cfg progs sched).th t)) = false) :
    ∃ gs : List Group, (final env v cfg progs sched).sh.wire = flat gs ∧ (∀ g ∈ gs, g.whole env ∨ g.torn env) ∧
      ∀ g ∈ gs, g.torn env → ∀ r, ((final env v cfg progs sched).th g.tid).results[g.idx]? = some r →
        r.wrote = false ∧ ∀ call, (progs g.tid)[g.idx]? = some call → call.isSend = true → r.err ≠ none := by
  obtain ⟨gs, hok, hsorted, hw⟩ := whole_frames_quiescent env v cfg progs sched hq
  refine ⟨gs, hw, hok, ?_⟩
  intro g hg ht r hr
  have B := base_final env v cfg progs sched
  have hnot := torn_not_in_idxs env gs hsorted g hg ht
  rw [← hw] at hnot
  obtain ⟨h1, h2⟩ := not_written_stays v cfg _ _ B.M B.M B.C rfl g.tid g.idx r (fun h => hnot ((B.M.mem _ _).mpr h)) hr
  exact ⟨h1, fun call hcall => h2 call (by rw [runN_prog]; exact hcall)⟩

/-- **With compression under the write lock the order of compression is the order on the wire — for
    every number of chunks per `sendall`** (a socket that does not fail: after a torn frame the peer
    cannot read on, and a compressed message whose write failed is missing from its context).  The peer,
    inflating the compressed frames in wire order, decodes every frame, and what it obtains for the frame
    of call `i` of thread `t` is that call's message; receives of the loop thread (`C11_Recv.lean`) and
    other threads' steps may fall between any two chunks. -/
theorem compress_order (env : Env) (hnf : env.NoFail) (v : Variant) (hv : v.compressUnderLock = true) (cfg : Cfg)
    (progs : Tid → List Call) (sched : List Tid) :
    let s := final env v cfg progs sched
    ∃ ms, peerDecode cfg.noTakeover [] (frames s.sh.wire) = some ms ∧
      ms.map (fun x => (x.1, x.2.1)) = (frames s.sh.wire).map (fun c => (c.tid, c.idx)) ∧
      ∀ x ∈ ms, ∃ call, (progs x.1)[x.2.1]? = some call ∧ x.2.2 = call.msg := by
  intro s
  have Z := zInv_reach env hnf v cfg progs hv sched
  obtain ⟨ms, h1, h2⟩ := Z.dec
  refine ⟨ms, h1, peerDecode_tags _ _ _ _ h1, ?_⟩
  intro x hx
  obtain ⟨call, h3, h4⟩ := h2 x hx
  rw [runN_prog] at h3
  exact ⟨call, h3, h4⟩

theorem last_mem_flat (gs : List Group) (g : Group) (hg : g ∈ gs) (hf : g.fin = true) : g.last ∈ flat gs := by
  simp only [flat, List.mem_flatten, List.mem_map]
  exact ⟨g.chunks, ⟨g, hg, rfl⟩, by simp [Group.chunks, hf, Group.last]⟩

/-- the frame of every complete group on the wire can be built: its opcode is its call's -/
private theorem groups_buildable (env : Env) (v : Variant) (cfg : Cfg) (progs : Tid → List Call) (sched : List Tid)
    (hkey : ∀ t i, (cfg.key t i).length = 4)
    (hlen : ∀ c ∈ (final env v cfg progs sched).sh.wire, (payloadBytes cfg c.desc.pay).length < 2 ^ 63)
    (gs : List Group) (hw : (final env v cfg progs sched).sh.wire = flat gs) :
    ∀ g ∈ gs, g.fin = true → buildable cfg g.last := by
  intro g hg hf
  have hmem : g.last ∈ (final env v cfg progs sched).sh.wire := by rw [hw]; exact last_mem_flat gs g hg hf
  obtain ⟨call, _, hd⟩ := (exact_messages env v cfg progs sched).2.2.1 g.last hmem
  refine ⟨hlen _ hmem, hkey _ _, ?_⟩
  rw [hd.1]; exact call_op_lt call

/-- **The wire decodes into exactly the frames sent** (`Spec.decodeClientFrame`, the independent
    server-side decoder of C03, iterated by `decodeWire`; `C03.roundtrip` per frame).  Let the socket cut
    frames into chunks of any sizes (`SizesOk`: as many sizes as chunks), masking keys have 4 bytes and
    payloads be shorter than 2^63 bytes.  When no thread is in the middle of a `sendall`:
    (1) the BYTES on the wire (`wireBytesN`: the j-th chunk of a frame carries its j-th piece) are the
        bytes of the groups of `whole_frames`, in order;
    (2) every group's bytes are a prefix of the frame handed to `sendall` — all of it for a whole group;
    (3) the whole groups, concatenated, are read by the specification decoder as exactly the complete
        frames of the wire, in order: FIN=1, RSV1 iff compressed, RSV2=RSV3=0, the call's opcode, its
        masking key, its payload — nothing else, nothing missing. -/
theorem wire_decodes (env : Env) (hs : env.SizesOk) (v : Variant) (cfg : Cfg) (progs : Tid → List Call)
    (sched : List Tid)
    (hq : ∀ t, atW (view v cfg ((final env v cfg progs sched).th t)) = false)
    (hkey : ∀ t i, (cfg.key t i).length = 4)
    (hlen : ∀ c ∈ (final env v cfg progs sched).sh.wire, (payloadBytes cfg c.desc.pay).length < 2 ^ 63) :
    let w := (final env v cfg progs sched).sh.wire
    ∃ gs : List Group, (∀ g ∈ gs, g.whole env ∨ g.torn env) ∧ w = flat gs ∧
      wireBytesN env cfg w = (gs.map (Group.bytes env cfg)).flatten ∧
      (∀ g ∈ gs, g.bytes env cfg <+: frameBytes cfg g.last) ∧
      (∀ g ∈ gs, g.whole env → g.bytes env cfg = frameBytes cfg g.last) ∧
      decodeWire (((gs.filter (·.fin)).map (Group.bytes env cfg)).flatten) = some ((frames w).map (decodedOf cfg)) := by
  obtain ⟨gs, hok, hsorted, hw⟩ := whole_frames_quiescent env v cfg progs sched hq
  have hb := groups_buildable env v cfg progs sched hkey hlen gs hw
  refine ⟨gs, hok, hw, ?_, fun g _ => torn_bytes_prefix env cfg g, fun g _ h => whole_bytes env cfg g hs h, ?_⟩
  · rw [hw]; exact wireBytesN_flat env cfg gs hsorted
  · rw [hw]; exact (whole_groups_decode env cfg gs hs hok hb).2

/-- **Without write failures the bytes on the wire ARE the concatenation of the frames handed to
    `sendall`, and the specification decoder reads them back as exactly the frames sent** — for every
    number of chunks per frame, every chunk size, every interleaving. -/
theorem wire_decodes_no_failure (env : Env) (hs : env.SizesOk) (hnf : ∀ t i, env.failAt t i = none) (v : Variant)
    (cfg : Cfg) (progs : Tid → List Call) (sched : List Tid)
    (hq : ∀ t, atW (view v cfg ((final env v cfg progs sched).th t)) = false)
    (hkey : ∀ t i, (cfg.key t i).length = 4)
    (hlen : ∀ c ∈ (final env v cfg progs sched).sh.wire, (payloadBytes cfg c.desc.pay).length < 2 ^ 63) :
    let w := (final env v cfg progs sched).sh.wire
    wireBytesN env cfg w = ((frames w).map (frameBytes cfg)).flatten ∧
    decodeWire (wireBytesN env cfg w) = some ((frames w).map (decodedOf cfg)) := by
  obtain ⟨gs, hok, hw, hbytes, _, _, hdec⟩ := wire_decodes env hs v cfg progs sched hq hkey hlen
  have hall : ∀ g ∈ gs, g.whole env := fun g hg => only_failing_frames_are_torn env g (hok g hg) (hnf _ _)
  have hb := groups_buildable env v cfg progs sched hkey hlen gs hw
  have h2 := (whole_groups_decode env cfg gs hs hok hb).1
  rw [filter_all_fin env gs hall] at hdec h2
  exact ⟨by rw [hbytes, h2, ← hw], by rw [hbytes]; exact hdec⟩

/-! ### non-vacuity -/

def m0 : Bytes := [104, 105]
/-- three chunks for every frame of thread 0, one chunk for thread 1; the second call of thread 0 fails after 2 chunks -/
def env3 : Env :=
  { more := fun t _ => if t = 0 then 2 else 0, failAt := fun t i => if t = 0 ∧ i = 1 then some 2 else none }
def progs3 : Tid → List Call :=
  progsOf [[.sendText m0 false, .sendBinary m0 false, .sendPing []], [.sendPong [1], .sendPing [2]]]
/-- T0 starts its first frame (2 of 3 chunks), T1 tries (blocked), T0 finishes; T1 writes its pong in one
    chunk; T0's second frame is torn after 2 chunks (TransportFail); T1's ping; T0's third call writes whole -/
def sched3 : List Tid :=
  List.replicate 6 0 ++ [1, 1] ++ List.replicate 2 0 ++ List.replicate 7 1 ++ List.replicate 8 0 ++
    List.replicate 7 1 ++ List.replicate 8 0

example :
    let s := final env3 {} {} progs3 sched3
    s.sh.wire.map (fun c => (c.tid, c.idx, c.second)) =
      [(0, 0, false), (0, 0, false), (0, 0, true), (1, 0, true), (0, 1, false), (0, 1, false), (1, 1, true),
       (0, 2, false), (0, 2, false), (0, 2, true)] ∧
    (s.th 0).results = [⟨true, none, false⟩, ⟨false, some .transport, false⟩, ⟨true, none, false⟩] ∧
    (s.th 1).results = [⟨true, none, false⟩, ⟨true, none, false⟩] := by
  decide +kernel

/-- the decomposition of that wire: whole, whole, torn (call 1 of thread 0, cut after 2), whole, whole -/
example :
    (final env3 {} {} progs3 sched3).sh.wire =
      flat [⟨0, 0, ⟨1, .plain m0⟩, 2, true⟩, ⟨1, 0, ⟨10, .plain [1]⟩, 0, true⟩, ⟨0, 1, ⟨2, .plain m0⟩, 2, false⟩,
            ⟨1, 1, ⟨9, .plain [2]⟩, 0, true⟩, ⟨0, 2, ⟨9, .plain []⟩, 2, true⟩] := by
  decide +kernel

example : Group.torn env3 ⟨0, 1, ⟨2, .plain m0⟩, 2, false⟩ := ⟨rfl, rfl, by decide⟩
example : Group.whole env3 ⟨0, 0, ⟨1, .plain m0⟩, 2, true⟩ := ⟨rfl, rfl⟩

/-- chunk sizes for `env3`: 3 chunks of `len / 3`, `len / 3` and the rest -/
def env3s : Env := { env3 with sizes := fun t _ len => if t = 0 then [len / 3, len / 3] else [] }
def kcfg : Cfg := { key := fun t i => [t, i, 7, 9] }

example : Env.two.SizesOk := fun _ _ _ => rfl
example : ∀ t i, (kcfg.key t i).length = 4 := fun _ _ => rfl
/-- the run of the examples above is quiescent: every thread has finished -/
example : ∀ t, t < 3 → atW (view {} kcfg ((final env3s {} kcfg progs3 sched3).th t)) = false := by decide +kernel

example : env3s.SizesOk := by
  intro t i len; simp only [env3s, env3]; split <;> rfl

/-- the bytes of that run, torn frame included, and what the decoder reads from the whole groups -/
example :
    let w := (final env3s {} kcfg progs3 sched3).sh.wire
    (groupsOf w).map (fun g => (g.tid, g.idx, g.parts, g.fin)) =
      [(0, 0, 2, true), (1, 0, 0, true), (0, 1, 2, false), (1, 1, 0, true), (0, 2, 2, true)] ∧
    decodeWire ((((groupsOf w).filter (·.fin)).map (Group.bytes env3s kcfg)).flatten) =
      some ((frames w).map (decodedOf kcfg)) ∧
    ((frames w).map (decodedOf kcfg)).map (fun d => (d.opcode, d.payload)) = [(1, m0), (10, [1]), (9, [2]), (9, [])] := by
  decide +kernel

/-- compressed sends in 3 chunks each, with a receive of the loop thread between the chunks -/
example :
    let s := final { more := fun _ _ => 2 } { compressUnderLock := true } { deflate := true }
      (progsOf [[.sendText C11.m0 true], [.sendText C11.m1 true], [.onData [9]]])
      (List.replicate 7 0 ++ [1, 2, 2, 2] ++ List.replicate 3 0 ++ List.replicate 10 1 ++ List.replicate 6 2)
    peerDecode false [] (frames s.sh.wire) = some [(0, 0, C11.m0), (1, 0, C11.m1)] ∧ s.sh.wire.length = 6 ∧
      s.sh.dctx = [9] := by
  decide +kernel

example : Env.NoFail { more := fun _ _ => 2 } := fun _ _ => rfl

/-- a schedule that stops in the middle of a 3-chunk `sendall`: the writer holds the lock -/
example : (final env3 {} {} progs3 (List.replicate 6 0 ++ [1, 1])).sh.lock = some 0 ∧
    (final env3 {} {} progs3 (List.replicate 6 0 ++ [1, 1])).sh.wire.length = 2 := by decide +kernel

end Lomond.C11N
