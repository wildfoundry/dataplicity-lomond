/-
  C16 on the composed system — `persist()` over the core model.

  In `Properties/C16.lean` a round carries an opaque list of events.  Here (`Model/PersistLink.lean`)
  round `i` is the core model's `i`-th connection: `as : List Attempt` is what the world supplies per
  pass through `while True:` — the connection's own configuration (`base`: connect outcome, request,
  faults, …), the consumer's reactions and the environment script of that connection, the draw of
  `random()` and what `exit_event.wait` returns.  `attemptCfg c a` is the configuration `persist` runs
  the connection with (`poll`, `ping_rate`, `ping_timeout` from `persist`'s own arguments),
  `attemptEvents c a = events (Core.runAll (attemptCfg c a) a.react a.env)` the events it yields,
  `ended c a` says that `run()` returned (the `for` loop of `persist` is over), and

      persistCore c as

  is `persist()` over these connections.  `liveA as` are the attempts up to and including the first
  whose `wait` returns true; `failStreak c as` is the number of consecutive attempts at the end of `as`
  whose core run yielded no `Ready`.  All statements are for every configuration and every list of
  attempts.
-/
import Lomond.Proofs.PersistLink
import Lomond.Properties.C16
import Lomond.Properties.C09


namespace Lomond.C16Core
open Lomond Lomond.Core Lomond.Core.Monitor Lomond.Persist Lomond.PersistLink

/-! ### the rounds of `Properties/C16.lean` are met by connections of the core model -/

/-- **`hasReady` of a round is "a `Ready` event in that core run"** — and the run yields at most one. -/
theorem hasReady_iff_ready_event (c : Persist.Cfg Nat) (a : Attempt) :
    (hasReady isReadyEv (roundOf c a) = true ↔
      ∃ p d, Event.ready p d ∈ events (runAll (attemptCfg c a) a.react a.env).trace) ∧
    (hasReady isReadyEv (roundOf c a) = !noReady c a) ∧
    ((events (runAll (attemptCfg c a) a.react a.env).trace).filter isReadyEv).length ≤ 1 := by
  refine ⟨?_, hasReady_roundOf c a, ?_⟩
  · unfold hasReady roundOf
    simp only [attemptEvents_eq, List.any_eq_true]
    constructor
    · rintro ⟨e, he, hr⟩
      cases e <;> simp [isReadyEv] at hr
      exact ⟨_, _, he⟩
    · rintro ⟨p, d, h⟩
      exact ⟨_, h, rfl⟩
  · obtain ⟨ph, h⟩ := runAll_accepted (attemptCfg c a) a.react a.env
    exact ready_at_most_once _ _ _ h

/-- **An attempt that ends is a round as `Properties/C16.lean` reads it**: a finite, complete event
    sequence — accepted by the C07 monitor, beginning with `Connecting`, ending with its one terminal
    event (`ConnectFail` or `Disconnected`, `C09.terminal_kind`) —, in which `Ready` occurs at most
    once.  "Connect failure, rejection, drop before/after Ready, graceful close, protocol error are all
    just such lists" — here they are the lists the core model produces. -/
theorem ended_attempt_is_a_round (c : Persist.Cfg Nat) (a : Attempt) (h : ended c a = true) :
    (roundOf c a).events = events (runAll (attemptCfg c a) a.react a.env).trace ∧
    Mon.complete (roundOf c a).events ∧
    (∃ x e, (roundOf c a).events = x ++ [e] ∧ Event.isTerminal e = true ∧ ∀ y ∈ x, Event.isTerminal y = false) ∧
    (∃ x e, (roundOf c a).events = x ++ [e] ∧
      (((∃ k g, e = .disconnected k g) ∧ ∃ p, Event.connected p ∈ x) ∨
       ((∃ k, e = .connectFail k) ∧ ∀ p, Event.connected p ∉ x))) := by
  obtain ⟨s, hr⟩ := (ended_iff c a).mp h
  have he : (roundOf c a).events = events (runAll (attemptCfg c a) a.react a.env).trace := attemptEvents_eq c a
  have hc : Mon.complete (roundOf c a).events := by
    rw [he]
    exact runAll_complete _ _ _ s hr
  refine ⟨he, hc, Mon.complete_ends_terminal hc, ?_⟩
  rw [he]
  exact C09.terminal_kind (attemptCfg c a) a.react a.env s hr

/-- each connection runs with exactly the three parameters `persist` forwards (`C16_args`) -/
theorem attempt_uses_persist_args (c : Persist.Cfg Nat) (a : Attempt) :
    (attemptCfg c a).poll = c.poll ∧ (attemptCfg c a).pingRate = c.pingRate ∧
    (attemptCfg c a).pingTimeout = c.pingTimeout ∧
    (attemptCfg c a).connect = a.base.connect ∧ (attemptCfg c a).request = a.base.request ∧
    (attemptCfg c a).closeTimeout = a.base.closeTimeout ∧ (attemptCfg c a).autoPong = a.base.autoPong :=
  ⟨rfl, rfl, rfl, rfl, rfl, rfl, rfl⟩

/-- **The limit formula over the composed system.**  When every attempt ends, the `k`-th BackOff that
    `persist` yields exists exactly when a `k`-th attempt happens, and its delay is
    `min_wait + u_k · min(max_wait − min_wait, 2^s)` with `u_k` the draw of that attempt and `s` the
    number of consecutive attempts, ending with the `k`-th, whose core run yielded no `Ready`. -/
theorem limit_formula_core (c : Persist.Cfg Nat) (as : List Attempt) (h : ∀ a ∈ as, ended c a = true) (k : Nat) :
    (backOffs (yielded (persistCore c as).1))[k]? =
      (liveA as)[k]?.map (fun a =>
        c.minWait + a.draw * min (c.maxWait - c.minWait) ((2 : Rat) ^ failStreak c (as.take (k + 1)))) := by
  rw [persistCore_all_ended c as h]
  simp only []
  rw [C16.C16_limit_formula, live_map, List.getElem?_map, ← List.map_take, streak_map]
  cases (liveA as)[k]? <;> rfl

/-- the exponent grows by one with each further attempt without `Ready`, and is back to 0 after one with -/
theorem failStreak_snoc (c : Persist.Cfg Nat) (as : List Attempt) (a : Attempt) :
    failStreak c (as ++ [a]) = if noReady c a then failStreak c as + 1 else 0 := by
  rw [← streak_map, ← streak_map, List.map_append, List.map_cons, List.map_nil, streak_snoc, hasReady_roundOf]
  cases noReady c a <;> rfl

/-- **Pass-through over the composed system.**  When every attempt ends, what the consumer of `persist`
    sees is, for each attempt that happens and in order, the events of that connection's core run —
    unchanged and in order —, followed by exactly one BackOff; and nothing else. -/
theorem passthrough_core (c : Persist.Cfg Nat) (as : List Attempt) (h : ∀ a ∈ as, ended c a = true) :
    yielded (persistCore c as).1 =
        (List.zip (liveA as) (backOffs (yielded (persistCore c as).1))).flatMap
          (fun p => (events (runAll (attemptCfg c p.1) p.1.react p.1.env).trace).map Out.ev ++ [Out.backOff p.2])
      ∧ (backOffs (yielded (persistCore c as).1)).length = (liveA as).length
      ∧ passed (yielded (persistCore c as).1) =
          (liveA as).flatMap (fun a => events (runAll (attemptCfg c a) a.react a.env).trace)
      ∧ ((persistCore c as).2 = .exited ↔ ∃ a ∈ as, a.exit = true) := by
  rw [persistCore_all_ended c as h]
  obtain ⟨h1, h2, h3⟩ := C16.C16_passthrough isReadyEv c (as.map (roundOf c))
  rw [live_map] at h1 h2 h3
  refine ⟨?_, by rw [h2, List.length_map], ?_, ?_⟩
  · conv => lhs; rw [h1, List.zip_map_left, List.flatMap_map]
    rfl
  · rw [h3, List.flatMap_map]; rfl
  · have hx := C16.C16_only_exit_via_event isReadyEv c (as.map (roundOf c))
    have e : (∃ r ∈ as.map (roundOf c), r.exit = true) ↔ ∃ a ∈ as, a.exit = true :=
      ⟨fun ⟨_, hr, hx⟩ => by obtain ⟨a, ha, rfl⟩ := List.mem_map.mp hr; exact ⟨a, ha, hx⟩,
       fun ⟨a, ha, hx⟩ => ⟨_, List.mem_map_of_mem ha, hx⟩⟩
    rw [← e, ← hx]
    cases (persist isReadyEv c (as.map (roundOf c))).2 <;> simp [liftStatus]

/-- **An attempt that does not end gets no BackOff.**  In general, the attempts before the first one whose
    `run()` does not return (the consumer stopped iterating inside it, or the model's environment script ran
    out) are rounds of `persist` as above; if `persist` gets to that attempt it calls `connect`, passes on
    the events the connection yields, and that is all: no BackOff follows them, and the later attempts the
    world would have supplied are not touched. -/
theorem unfinished_attempt_gets_no_backoff (c : Persist.Cfg Nat) (good : List Attempt) (a : Attempt) (rest : List Attempt)
    (hg : ∀ b ∈ good, ended c b = true) (ha : ended c a = false) :
    ((persistCore c good).2 = .exited → persistCore c (good ++ a :: rest) = persistCore c good) ∧
    ((persistCore c good).2 = .running →
      (persistCore c (good ++ a :: rest)).2 = .inAttempt ∧
      yielded (persistCore c (good ++ a :: rest)).1 =
        yielded (persistCore c good).1 ++ (events (runAll (attemptCfg c a) a.react a.env).trace).map Out.ev ∧
      backOffs (yielded (persistCore c (good ++ a :: rest)).1) = backOffs (yielded (persistCore c good).1) ∧
      (backOffs (yielded (persistCore c (good ++ a :: rest)).1)).length = good.length) := by
  rw [persistCore_unfinished c good a rest hg ha]
  refine ⟨fun h => if_pos h, fun h => ?_⟩
  rw [if_neg (by rw [h]; decide)]
  have hy : yielded ((persistCore c good).1 ++ Persist.Obs.connect c.poll c.pingRate c.pingTimeout ::
        (attemptEvents c a).map (fun e => Persist.Obs.yield (Persist.Out.ev e))) =
      yielded (persistCore c good).1 ++ (events (runAll (attemptCfg c a) a.react a.env).trace).map Out.ev := by
    rw [yielded_append, attemptEvents_eq]
    simp only [yielded, yielded_map_ev]
  refine ⟨rfl, hy, by rw [hy, backOffs_append, backOffs_map_ev, List.append_nil], ?_⟩
  rw [hy, backOffs_append, backOffs_map_ev, List.append_nil]
  -- `good` has no exit, so every one of its attempts is live and got its BackOff
  rw [persistCore_all_ended c good hg] at h ⊢
  have hr : ∀ r ∈ good.map (roundOf c), r.exit = false := by
    apply (run_running_iff isReadyEv c 0 _).mp
    cases hs : (persist isReadyEv c (good.map (roundOf c))).2
    · rw [hs] at h; cases h
    · exact hs
  rw [persist_eq, backOffs_obsFrom, delaysFrom_length, live_eq_self _ hr, List.length_map]

/-- **The exact delay without the hypothesis `min_wait ≤ max_wait`.**  `persist` computes
    `random_wait = max_wait - min_wait` and `wait_for = min_wait + random() * min(random_wait, 2**retries)`
    whatever the order of the two.  Whenever `max_wait − min_wait ≤ 2^retries` — in particular always when
    `max_wait < min_wait`, since then the difference is negative — the cap `random_wait` is the smaller
    operand of `min`, so the delay is `min_wait + u · (max_wait − min_wait)` and does not depend on the retry
    counter at all: there is no exponential growth. -/
theorem delay_formula_without_bound (c : Persist.Cfg Nat) (k : Nat) (u : Rat) :
    (c.maxWait - c.minWait ≤ (2 : Rat) ^ k → waitFor c k u = c.minWait + u * (c.maxWait - c.minWait)) ∧
    ((2 : Rat) ^ k ≤ c.maxWait - c.minWait → waitFor c k u = c.minWait + u * (2 : Rat) ^ k) ∧
    (c.maxWait < c.minWait → waitFor c k u = c.minWait - u * (c.minWait - c.maxWait)) := by
  have hp : (0 : Rat) < (2 : Rat) ^ k := Rat.pow_pos (by decide)
  unfold waitFor
  refine ⟨fun h => ?_, fun h => ?_, fun h => ?_⟩
  · rw [Rat.min_def, if_pos h]
  · rw [Rat.min_def]
    split
    · rename_i h'
      have : c.maxWait - c.minWait = (2 : Rat) ^ k := Rat.le_antisymm h' h
      rw [this]
    · rfl
  · have hle : c.maxWait - c.minWait ≤ (2 : Rat) ^ k := by grind
    rw [Rat.min_def, if_pos hle]
    grind

/-- **With `min_wait > max_wait` the delays lie in the reversed interval `(max_wait, min_wait]`.**  For a
    draw in `[0,1)`: `max_wait < delay ≤ min_wait`, with `delay = min_wait` exactly for the draw 0 — so the
    upper bound `max_wait` of `C16_delay_bounds` fails for every draw, and the hypothesis
    `min_wait ≤ max_wait` of `C16_all_delays_bounded` is necessary. -/
theorem delay_reversed_interval (c : Persist.Cfg Nat) (k : Nat) (u : Rat)
    (hmm : c.maxWait < c.minWait) (h0 : 0 ≤ u) (h1 : u < 1) :
    c.maxWait < waitFor c k u ∧ waitFor c k u ≤ c.minWait ∧ (waitFor c k u = c.minWait ↔ u = 0) := by
  rw [(delay_formula_without_bound c k u).2.2 hmm]
  have hd : 0 < c.minWait - c.maxWait := by grind
  have h2 : 0 ≤ u * (c.minWait - c.maxWait) := Rat.mul_nonneg h0 (Rat.le_of_lt hd)
  have h3 : 0 < (1 - u) * (c.minWait - c.maxWait) := Rat.mul_pos (by grind) hd
  refine ⟨by grind, by grind, ?_⟩
  constructor
  · intro h
    have hz : u * (c.minWait - c.maxWait) = 0 := by grind
    rcases Rat.mul_eq_zero.mp hz with h' | h'
    · exact h'
    · rw [h'] at hd; exact absurd hd (by decide)
  · intro h; rw [h]; grind

/-- … over the composed system: with `min_wait > max_wait` every BackOff of every run of `persist` over the
    core model is `min_wait − u_k · (min_wait − max_wait)` for the draw `u_k` of its attempt, whatever the
    history of `Ready`s, and lies in `(max_wait, min_wait]`. -/
theorem all_delays_reversed_core (c : Persist.Cfg Nat) (as : List Attempt) (h : ∀ a ∈ as, ended c a = true)
    (hmm : c.maxWait < c.minWait) (hu : ∀ a ∈ as, 0 ≤ a.draw ∧ a.draw < 1) (k : Nat) :
    (backOffs (yielded (persistCore c as).1))[k]? =
      (liveA as)[k]?.map (fun a => c.minWait - a.draw * (c.minWait - c.maxWait)) ∧
    ∀ d, (backOffs (yielded (persistCore c as).1))[k]? = some d → c.maxWait < d ∧ d ≤ c.minWait := by
  have hw : ∀ a : Attempt,
      c.minWait + a.draw * min (c.maxWait - c.minWait) ((2 : Rat) ^ failStreak c (as.take (k + 1))) =
        c.minWait - a.draw * (c.minWait - c.maxWait) :=
    fun a => (delay_formula_without_bound c _ a.draw).2.2 hmm
  have hf : (backOffs (yielded (persistCore c as).1))[k]? =
      (liveA as)[k]?.map (fun a => c.minWait - a.draw * (c.minWait - c.maxWait)) := by
    rw [limit_formula_core c as h k]; simp only [hw]
  refine ⟨hf, fun d hd => ?_⟩
  rw [hf] at hd
  obtain ⟨a, ha, rfl⟩ := Option.map_eq_some_iff.mp hd
  have hmem : a ∈ as := (liveA_prefix as).subset (List.mem_of_getElem? ha)
  have hi := delay_reversed_interval c 0 a.draw hmm (hu a hmem).1 (hu a hmem).2
  rw [(delay_formula_without_bound c 0 a.draw).2.2 hmm] at hi
  exact ⟨hi.1, hi.2.1⟩

/-! ### Non-vacuity: three connections of the core model under `persist` -/

section Examples

/-- the upgrade reply used by `C09.exReply` (accept value `k`) -/
private def reply : Bytes := C09.exReply
private def pc : Persist.Cfg Nat := { minWait := 5, maxWait := 30, poll := 5, pingRate := 30, pingTimeout := 0 }
/-- connect failure; a connection that reaches Ready and is then dropped; connect failure (exit) -/
private def world : List Attempt :=
  [ { base := { connect := .socketFail }, react := fun _ => [], env := [], draw := 1 / 2, exit := false },
    { base := C09.exCfg, react := fun _ => [], env := [.wait 0 (some (.data reply)), .wait 0 (some .eof)],
      draw := 3 / 4, exit := false },
    { base := { connect := .otherFail }, react := fun _ => [], env := [], draw := 1 / 4, exit := true } ]

/-- the three connections are run once; the examples below read the result off -/
private theorem world_run :
    (∀ a ∈ world, ended pc a = true) ∧
    world.map (noReady pc) = [true, false, true] ∧
    (List.range 3).map (fun k => failStreak pc (world.take (k + 1))) = [1, 0, 1] ∧
    backOffs (yielded (persistCore pc world).1) = [6, 23 / 4, 11 / 2] ∧
    (persistCore pc world).2 = .exited ∧
    passed (yielded (persistCore pc world).1) =
      [.connecting, .connectFail "connect-failed",
       .connecting, .connected false, .ready none false, .poll, .disconnected "connection-lost" false,
       .connecting, .connectFail "connect-failed"] := by
  decide +kernel

example : ∀ a ∈ world, ended pc a = true := world_run.1
example : world.map (noReady pc) = [true, false, true] := world_run.2.1
example : (List.range 3).map (fun k => failStreak pc (world.take (k + 1))) = [1, 0, 1] := world_run.2.2.1
-- delays: 5 + 1/2·2, 5 + 3/4·1, 5 + 1/4·2
example : backOffs (yielded (persistCore pc world).1) = [6, 23 / 4, 11 / 2] := world_run.2.2.2.1
example : (persistCore pc world).2 = .exited := world_run.2.2.2.2.1
example : passed (yielded (persistCore pc world).1) =
    [.connecting, .connectFail "connect-failed",
     .connecting, .connected false, .ready none false, .poll, .disconnected "connection-lost" false,
     .connecting, .connectFail "connect-failed"] := world_run.2.2.2.2.2
/-- a consumer that stops iterating at `Connected` of the second connection: no BackOff for it -/
private def stop : Attempt :=
  { base := C09.exCfg, react := fun h => if h.length = 2 then [.abandon false] else [], env := [.wait 0 (some .eof)],
    draw := 0, exit := false }
example : ended pc stop = false := by decide +kernel
example : yielded (persistCore pc (world.take 1 ++ stop :: world.drop 1)).1 =
    [.ev .connecting, .ev (.connectFail "connect-failed"), .backOff 6, .ev .connecting, .ev (.connected false)] ∧
    (persistCore pc (world.take 1 ++ stop :: world.drop 1)).2 = .inAttempt := by decide +kernel
/-- `min_wait = 30 > max_wait = 5`: the delay for the draw 1/2 is 17.5, whatever the retry counter -/
example : waitFor { pc with minWait := 30, maxWait := 5 } 0 (1 / 2) = 35 / 2 ∧
    waitFor { pc with minWait := 30, maxWait := 5 } 9 (1 / 2) = 35 / 2 := by decide +kernel

end Examples

end Lomond.C16Core
