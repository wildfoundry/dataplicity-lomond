/-
  C18 — source facts about `lomond/selectors.py` (re-extracted on every run).  Property theorems only.

  The transport model (`Model/Transport.lean`) assumes (a) that `SelectorBase.wait` looks at the bytes already decrypted inside the
  TLS layer (`pending()`) BEFORE it waits on the descriptor - the short-cut the property is anchored in - and (b) that a platform
  selector waits for at most the time-out it is given, in the unit the OS call takes.  The simulated selector of the harness
  inherits the real `SelectorBase.wait`, so (a) is also exercised by the correspondence; the platform selectors themselves run only
  in the real-transport runs (C09 `harness/realsock.py`, C18 thorough loopback), where a wrong unit shows as a stall or a busy loop
  at best.  These facts pin both down in the source.
-/
import Lomond.Generated.Facts

namespace Lomond.C18Src
open Lomond

/-- `SelectorBase.wait` returns `(True, pending())` when the TLS layer has buffered bytes, before any wait on the descriptor. -/
theorem wait_checks_pending_first : Gen.waitChecksPendingFirst = true := by decide

/-- Every platform selector passes its time-out to the OS in the unit the call takes: seconds for `select.select` and
    `kqueue.control`, milliseconds (`timeout * 1000.0`) for `poll.poll`. -/
theorem selector_timeouts_in_os_units :
    Gen.selectorTimeouts =
      [("KQueueSelector", "control", "timeout"), ("PollSelector", "poll", "timeout * 1000.0"), ("SelectSelector", "select", "timeout")] :=
  rfl

end Lomond.C18Src
