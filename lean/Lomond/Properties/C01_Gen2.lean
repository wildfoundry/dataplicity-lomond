/-
  C01 companion 2 — how frames become messages: what stream.py and message.py say.

  Produced by harness/py2lean.py from the source on every check run: `streamOnFrame` (the
  `if frame.is_control:` statement that ends the loop of `WebsocketStream.feed`: control frames
  bypass the fragment list; the two continuation errors and their order; append; a message is
  built on FIN and the list is cleared; the list `self._frames` is read as its length) and
  `textFromPayload` (`Text.from_payload`).
  The theorems state that `Core.onFrame` / `Core.onDataFrame` and the TEXT branch of
  `Core.msgOfPayload` decide exactly like these.
-/
import Lomond.Proofs.GenTie
import Lomond.Generated.Code

namespace Lomond.C01Gen2
open Lomond Lomond.Core Lomond.GenTie
open Lomond.Gen.Code

/-- the frame dispatch of `WebsocketStream.feed` as a table (`n` fragments are stored) -/
theorem gen_streamOnFrame_spec (op fin n : Nat) :
    streamOnFrame op fin n =
      if frameIsControl op then .ok (1, n)
      else if frameIsContinuation op ∧ n = 0 then .error ⟨"ProtocolError", "continuation frame has nothing to continue"⟩
      else if ¬ frameIsContinuation op ∧ n ≠ 0 then .error ⟨"ProtocolError", "continuation frame expected"⟩
      else if fin ≠ 0 then .ok (2, 0)
      else .ok (0, n + 1) := by
  unfold streamOnFrame
  cases frameIsControl op
  · cases frameIsContinuation op <;> by_cases hn : n = 0 <;> by_cases hf : fin = 0 <;> simp [hn, hf]
  · rfl

/-- the fragment list never holds a control frame's worth: a control frame leaves it alone, a
    final data frame empties it, any other accepted frame adds one -/
theorem gen_streamOnFrame_frames (op fin n : Nat) (r : Nat × Nat) (h : streamOnFrame op fin n = .ok r) :
    r.2 = if r.1 = 1 then n else if r.1 = 2 then 0 else n + 1 := by
  rw [gen_streamOnFrame_spec] at h
  by_cases hc : frameIsControl op = true
  · rw [if_pos hc] at h; cases h; rfl
  by_cases h1 : frameIsContinuation op = true ∧ n = 0
  · rw [if_neg hc, if_pos h1] at h; cases h
  by_cases h2 : ¬ frameIsContinuation op = true ∧ n ≠ 0
  · rw [if_neg hc, if_neg h1, if_pos h2] at h; cases h
  by_cases hf : fin ≠ 0
  · rw [if_neg hc, if_neg h1, if_neg h2, if_pos hf] at h; cases h; rfl
  · rw [if_neg hc, if_neg h1, if_neg h2, if_neg hf] at h; cases h; rfl

/-- `Core.onFrame` is the translated dispatch: a control frame is a message of its own; a data
    frame is refused by the translated continuation rules (same texts, same order), otherwise
    appended to `frames`; on FIN the message is built from the whole list, handled, and the list
    is cleared. -/
theorem gen_onFrame (f : Frame) (s : Sys) :
    onFrame f s =
      match streamOnFrame f.opcode f.fin s.frames.length with
      | .error e => .err (exnOf e) s
      | .ok r =>
        if r.1 = 1 then (do let m ← buildMessage [f]; onMessage m : M Unit) s
        else if r.1 = 2 then
          (do let m ← buildMessage (s.frames ++ [f])
              onMessage m
              modS fun s => { s with frames := [] } : M Unit) { s with frames := s.frames ++ [f] }
        else .ok () { s with frames := s.frames ++ [f] } := by
  rw [gen_streamOnFrame_spec]
  have hl : s.frames.length = 0 ↔ s.frames = [] := List.length_eq_zero_iff
  unfold onFrame onDataFrame
  rw [show f.isControl = frameIsControl f.opcode from rfl,
      show f.isContinuation = frameIsContinuation f.opcode from rfl]
  cases hc : frameIsControl f.opcode
  · cases hk : frameIsContinuation f.opcode <;> by_cases hn : s.frames = [] <;> by_cases hf : f.fin = 0 <;>
      simp [hl, hn, hf, bind, M.bind, getS, modS, throwE, pure, M.pure, exnOf]
  · simp

example : streamOnFrame 1 0 0 = .ok (0, 1) := rfl
example : streamOnFrame 0 1 2 = .ok (2, 0) := rfl
example : streamOnFrame 9 1 2 = .ok (1, 2) := rfl
example : streamOnFrame 0 1 0 = .error ⟨"ProtocolError", "continuation frame has nothing to continue"⟩ := rfl
example : streamOnFrame 2 1 1 = .error ⟨"ProtocolError", "continuation frame expected"⟩ := rfl

/-- the TEXT branch of `Core.msgOfPayload` is the translated `Text.from_payload` with the model's
    UTF-8 decoder as `bytes.decode('utf-8')`: a payload that does not decode is the
    CriticalProtocolError (the model keeps the text before `; {}`), otherwise the text -/
theorem gen_textFromPayload (payload : Bytes) :
    msgOfPayload Gen.opText payload =
      match textFromPayload payload Utf8.decode with
      | .error e =>
        .error (if e.msg = "payload contains invalid utf-8; {}" then .critical "payload contains invalid utf-8"
                else exnOf e)
      | .ok t => .ok (.text t) := by
  unfold msgOfPayload textFromPayload
  rw [if_neg (by decide : ¬ Gen.opText = Gen.opBinary), if_pos rfl]
  cases Utf8.decode payload <;> simp

example : textFromPayload [104, 105] (fun b => some b) = .ok [104, 105] := rfl
example : textFromPayload [255] (fun _ => none) =
    .error ⟨"CriticalProtocolError", "payload contains invalid utf-8; {}"⟩ := rfl

end Lomond.C01Gen2
