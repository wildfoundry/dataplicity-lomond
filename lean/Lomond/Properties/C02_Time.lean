/-
  C02, with the clock running (companion of C02; helper lemmas: Proofs/DeliveryTimed,
  DeliveryTimedRun, DeliveryZ).

  `Properties/C02.lean` proves that cutting a burst of reads differently changes nothing *when no
  time passes inside the burst*, and shows why that hypothesis is needed for the full trace: with
  the clock running, `_regular()` legitimately yields Polls (and writes automatic Pings) at
  different places.  What does **not** depend on the timing is what the server's messages turn
  into.  For every conforming server stream (with or without permessage-deflate):

  * `loop_cuts_and_waits` — the session loop, from any state between two messages: any two timed
    scripts (idle cycles and non-empty reads in any order, any waits) carrying the same bytes
    deliver the same events, Polls apart, leave the same fragment list / inflate context / parser
    state, and agree on whether the websocket is closing;
  * `connection_cuts_and_waits`, `connection_cuts_and_waits_compressed` — whole connections
    `runAll`: two timed environments whose reads concatenate to the same `reply ++ stream` — cut
    differently, with different waits before, between and after the reads, idle cycles anywhere —
    hand the application the same events with the same payloads, Polls apart.

  Hypotheses (beyond C02's: `poll > 0`, non-empty reads): the application only sends; `ping_timeout`
  is off; `close_timeout` is off, or the server sends no Close, or the stream ends sooner after the
  last read than the timeout.  The ping rate is arbitrary.

  And for **every** server byte stream, valid or not (helper lemmas: Proofs/TimeIrrel.lean,
  TimeIrrelTimed.lean):

  * `time_unobservable` — with all three timers off (`ping_rate = ping_timeout = close_timeout = 0`)
    and an application that ignores Polls (`PollBlind`: no call at a Poll, reactions independent of
    the Polls seen — it may send, `close()`, `session.close()`, abandon the loop), a connection run
    with the waits of *any* environment script and the same connection with all waits removed
    (`freeze`) have the same trace apart from clock ticks and Polls (`timeless`): the same events
    with the same payloads, **the same bytes written** in the same order, the same results of the
    application's calls, the same final state;
  * `cuts_and_waits_unobservable` — hence (with C02's `connection_same_observations`, which needs
    `poll > 0` and no `session.close()`): two timed environments carrying the same bytes — cut
    differently, with different waits, idle cycles anywhere — give the same `timeless` trace.
    Without the timers, the only thing the timing changes is where the Polls fall.
-/
import Lomond.Properties.C01_E2E2
import Lomond.Properties.C02
import Lomond.Proofs.TimeIrrelTimed
import Lomond.Proofs.StrLit

namespace Lomond.C02Time
open Lomond Lomond.Core Lomond.Core.E2E Lomond.Core.DG Lomond.C01E2E2 Lomond.Core.TI

/-- **The session loop: cuts and waits do not matter** (frames phase, any state between two
    messages satisfying `Mid`: send-only application, no ping timeout, close timer not armed, socket
    open, websocket open and not closing, extension state `z`).  `l₁`, `l₂`: timed scripts ending
    with a read, no empty reads, **the same bytes**: the wire form of any items (compressed
    messages included, `ItemsAt`) and an optional Close.  Both runs of the loop go through their
    whole script and continue with what follows (`rest₁`, `rest₂`) from states `s₁`, `s₂` that have
    been handed exactly the same events since `s` (Polls apart) — `gexpected items cl` —, with the
    same parser state, fragment list and inflate context, the same `closing` flag. -/
theorem loop_cuts_and_waits (z : ZP) (s : Sys) (m : Mid z s) (hfr : s.frames = []) (hb : Between s.p)
    (hpc : s.p.compression = z.dc.isSome)
    (items : List GItem) (ic' : ICtx) (hit : ItemsAt z ⟨s.inflHist, s.inflOut⟩ items ic')
    (hzz : ∀ g, GItem.msg g ∈ items → g.zf = true → z.dc.isSome = true)
    (cl : Option CloseF) (hcl : ∀ c, cl = some c → c.Ok)
    (l₁ l₂ : List TStep) (hne₁ : TNonEmpty l₁) (hne₂ : TNonEmpty l₂) (hend₁ : EndsRead l₁) (hend₂ : EndsRead l₂)
    (hb₁ : tbytes l₁ = gstream items cl) (hb₂ : tbytes l₂ = gstream items cl)
    (rest₁ rest₂ : List EnvStep) :
    ∃ s₁ s₂, loop (tscript l₁ ++ rest₁) s = loop rest₁ s₁ ∧ loop (tscript l₂ ++ rest₂) s = loop rest₂ s₂ ∧
      delivered s₁.trace = (gexpected items cl).reverse ++ delivered s.trace ∧
      delivered s₂.trace = delivered s₁.trace ∧
      s₂.p = s₁.p ∧ s₂.closing = s₁.closing ∧ s₂.closed = s₁.closed ∧
      (cl = none → view s₂ = view s₁) := by
  obtain ⟨p2, run⟩ := timed_gstream z s m hfr hb hpc items ic' hit hzz cl hcl
  obtain ⟨s₁, h1, f1, q1⟩ := run l₁ hne₁ hend₁ hb₁ rest₁
  obtain ⟨s₂, h2, f2, q2⟩ := run l₂ hne₂ hend₂ hb₂ rest₂
  refine ⟨s₁, s₂, h1, h2, ?_⟩
  cases cl with
  | none =>
    exact ⟨by rw [f1.2.2.evs]; simp [gexpected, closeEvents], by rw [f1.2.2.evs, f2.2.2.evs],
      q2.trans q1.symm, by rw [f1.1.ncg, f2.1.ncg], by rw [f1.1.g.closed, f2.1.g.closed],
      fun _ => by rw [f1.2.1, f2.2.1]⟩
  | some c =>
    exact ⟨by rw [f1.st.evs]; simp [gexpected, closeEvents], by rw [f1.st.evs, f2.st.evs],
      q2.trans q1.symm, by rw [f1.closing, f2.closing], by rw [f1.closed, f2.closed],
      fun hn => by cases hn⟩

/-- **Whole connections: two ways of cutting the same server byte stream into reads, with different
    waits, give the same events.**  `reply ++ C01.streamBytes items close` is any accepted upgrade
    reply followed by any conforming stream; `l₁` / `l₂` are any two timed scripts whose reads
    concatenate to it (cuts inside the HTTP reply, inside frame headers, extended lengths, UTF-8
    characters; one byte per read; reply and first frames in one read; any wait before every read,
    idle cycles anywhere), followed by any idle cycles and the end of the stream.  The events handed
    to the application, Polls apart, are the same in both runs — namely `C01.expected items close`
    between `Connecting, Connected, Ready` and the terminal `Disconnected`. -/
theorem connection_cuts_and_waits (cfg : Cfg) (react : React) (proxy : Bool) (proto : Option Http.Str)
    (hs : Setup cfg react proxy) (hpt : cfg.pingTimeout = 0)
    (reply : Bytes) (hreply : GoodReply cfg reply proto)
    (items : List Item) (close : Option CloseF) (hconf : C01.Conforming items close)
    (l₁ l₂ : List TStep) (hne₁ : TNonEmpty l₁) (hne₂ : TNonEmpty l₂) (hend₁ : EndsRead l₁) (hend₂ : EndsRead l₂)
    (hb₁ : tbytes l₁ = reply ++ C01.streamBytes items close) (hb₂ : tbytes l₂ = tbytes l₁)
    (ws₁ ws₂ : List Nat) (dt₁ dt₂ : Nat)
    (hct₁ : cfg.closeTimeout = 0 ∨ close = none ∨ ws₁.sum + dt₁ < cfg.closeTimeout)
    (hct₂ : cfg.closeTimeout = 0 ∨ close = none ∨ ws₂.sum + dt₂ < cfg.closeTimeout) :
    deliveredEvents (runAll cfg react (timedEnv l₁ ws₁ dt₁)).trace =
      deliveredEvents (runAll cfg react (timedEnv l₂ ws₂ dt₂)).trace := by
  rw [connection_delivers_any_timing cfg react proxy proto hs hpt reply hreply items close hconf l₁ hne₁ hend₁ hb₁
      ws₁ dt₁ hct₁,
    connection_delivers_any_timing cfg react proxy proto hs hpt reply hreply items close hconf l₂ hne₂ hend₂
      (hb₂.trans hb₁) ws₂ dt₂ hct₂]

/-- … and with permessage-deflate negotiated and compressed messages in the stream (cuts inside
    the compressed data included) -/
theorem connection_cuts_and_waits_compressed (cfg : Cfg) (react : React) (proxy : Bool) (proto : Option Http.Str)
    (d : Http.DeflateCfg) (hs : Setup cfg react proxy) (hpt : cfg.pingTimeout = 0)
    (reply : Bytes) (hreply : GoodReplyD cfg reply proto (some d))
    (items : List GItem) (hst : ∀ it ∈ items, it.Static) (icE : ICtx)
    (hinfl : zOuts ⟨cfg.inflate, some d⟩ ⟨[], 0⟩ (items.filterMap GItem.zpay) = some (items.filterMap GItem.zplain, icE))
    (close : Option CloseF) (hcl : ∀ c, close = some c → c.Ok)
    (l₁ l₂ : List TStep) (hne₁ : TNonEmpty l₁) (hne₂ : TNonEmpty l₂) (hend₁ : EndsRead l₁) (hend₂ : EndsRead l₂)
    (hb₁ : tbytes l₁ = reply ++ gstream items close) (hb₂ : tbytes l₂ = tbytes l₁)
    (ws₁ ws₂ : List Nat) (dt₁ dt₂ : Nat)
    (hct₁ : cfg.closeTimeout = 0 ∨ close = none ∨ ws₁.sum + dt₁ < cfg.closeTimeout)
    (hct₂ : cfg.closeTimeout = 0 ∨ close = none ∨ ws₂.sum + dt₂ < cfg.closeTimeout) :
    deliveredEvents (runAll cfg react (timedEnv l₁ ws₁ dt₁)).trace =
      deliveredEvents (runAll cfg react (timedEnv l₂ ws₂ dt₂)).trace := by
  rw [connection_delivers_compressed cfg react proxy proto d hs hpt reply hreply items hst icE hinfl close hcl
      l₁ hne₁ hend₁ hb₁ ws₁ dt₁ hct₁,
    connection_delivers_compressed cfg react proxy proto d hs hpt reply hreply items hst icE hinfl close hcl
      l₂ hne₂ hend₂ (hb₂.trans hb₁) ws₂ dt₂ hct₂]

/-- **Time is unobservable with the timers off** (any environment script, any server bytes): see the
    header.  `erase` forgets the clock, all time stamps, the `tick` / `Poll` entries of the trace,
    the Polls of the history and the stored script; everything else of the final state — flags,
    counters, parser, fragment list, inflate context, the rest of the trace — is the same. -/
theorem time_unobservable (cfg : Cfg) (react : React) (h1 : cfg.pingRate = 0) (h2 : cfg.pingTimeout = 0)
    (h3 : cfg.closeTimeout = 0) (hpb : PollBlind react) (env : List EnvStep) :
    erase (runAll cfg react env) = erase (runAll cfg react (freeze env)) ∧
    timeless (runAll cfg react env).trace = timeless (runAll cfg react (freeze env)).trace :=
  ⟨runAll_freeze cfg react h1 h2 h3 hpb env, timeless_freeze cfg react h1 h2 h3 hpb env⟩

/-- every function of the receive pipeline respects `erase`; here `WebSocket.feed`: from any state
    with the timers off and a Poll-blind application, feeding the same bytes from `erase s` and
    from `s` gives the same result up to `erase` -/
theorem feed_time_unobservable (data : Bytes) (s : Sys) (hs : Off s) :
    Monitor.Res.mapS erase (wsFeed data (erase s)) = Monitor.Res.mapS erase (wsFeed data s) :=
  ti_wsFeed data s hs

/-- **Cuts and waits are unobservable** — events *and* writes.  Two timed environments whose reads
    concatenate to the same bytes (any bytes: valid frames, violations, a refused handshake,
    compressed data), cut differently, with different waits before every read, idle cycles
    anywhere, different idle tails before the end of the stream: the two connections have the same
    trace apart from clock ticks and Polls — the same events with the same payloads, the same bytes
    written by the client (handshake request, Pongs, Close frames, the application's messages with
    the same masking keys) in the same order relative to the events, the same results of the
    application's calls.  Timers off, `poll > 0`, the application ignores Polls and never calls
    `session.close()` (it may send, `close()` and abandon the loop). -/
theorem cuts_and_waits_unobservable (cfg : Cfg) (react : React) (h1 : cfg.pingRate = 0) (h2 : cfg.pingTimeout = 0)
    (h3 : cfg.closeTimeout = 0) (hp : 0 < cfg.poll) (hpb : PollBlind react) (hn : SegLoop.NoSessionClose react)
    (l₁ l₂ : List TStep) (hne₁ : TNonEmpty l₁) (hne₂ : TNonEmpty l₂) (hb : tbytes l₁ = tbytes l₂)
    (ws₁ ws₂ : List Nat) (dt₁ dt₂ : Nat) :
    timeless (runAll cfg react (timedEnv l₁ ws₁ dt₁)).trace =
      timeless (runAll cfg react (timedEnv l₂ ws₂ dt₂)).trace := by
  have hf : ∀ l ws dt, freeze (timedEnv l ws dt) =
      [] ++ (SegLoop.readsAt 0 (chunks l) ++ [.wait 0 (some .eof)]) := by
    intro l ws dt
    unfold timedEnv
    rw [freeze_append, freeze_append, freeze_tscript, freeze_idles]
    rfl
  rw [timeless_freeze cfg react h1 h2 h3 hpb, timeless_freeze cfg react h1 h2 h3 hpb (timedEnv l₂ ws₂ dt₂),
    hf, hf]
  have := (C02.connection_same_observations cfg react [] [.wait 0 (some .eof)] 0 (chunks l₁) (chunks l₂) hp hn
    (chunks_ne l₁ hne₁) (chunks_ne l₂ hne₂) (by rw [chunks_flatten, chunks_flatten, hb])).1
  rw [this]

/-- the same bytes as `C01E2E2.exL`, one byte per read, every read after a wait of 2 ticks -/
def exL₂ : List TStep :=
  (C01E2E.exReply ++ C01.streamBytes C01.exItems (some C01.exClose)).map (fun b => (2, some [b]))

/-- one byte per read, each after `dt` ticks: the bytes read are `d` … -/
private theorem tbytes_bytewise (dt : Nat) (d : Bytes) : tbytes (d.map fun b => (dt, some [b])) = d := by
  induction d with
  | nil => rfl
  | cons b d ih => simp only [List.map_cons, tbytes, ih, List.singleton_append]

/-- … no read is empty … -/
private theorem tnonEmpty_bytewise (dt : Nat) (d : Bytes) : TNonEmpty (d.map fun b => (dt, some [b])) := by
  intro _ c hm
  obtain ⟨b, _, h⟩ := List.mem_map.mp hm
  cases h
  exact List.cons_ne_nil b []

/-- … and the script ends with a read -/
private theorem endsRead_bytewise (dt : Nat) (d : Bytes) : EndsRead (d.map fun b => (dt, some [b])) := by
  induction d with
  | nil => trivial
  | cons b d ih =>
    cases d with
    | nil => trivial
    | cons _ _ => exact ih

/-- `exL₂` carries the same bytes as `exL` -/
theorem exL₂_bytes : tbytes exL₂ = tbytes exL := by
  rw [exL_bytes]
  exact tbytes_bytewise 2 _

set_option maxRecDepth 8192 in
/-- `connection_cuts_and_waits` applies: five cycles taking 22 ticks vs 296 one-byte reads taking 592 ticks -/
example : deliveredEvents (runAll C01E2E.exCfg C01E2E.exReact (timedEnv exL [4, 1] 6)).trace =
    deliveredEvents (runAll C01E2E.exCfg C01E2E.exReact (timedEnv exL₂ [] 0)).trace :=
  connection_cuts_and_waits C01E2E.exCfg C01E2E.exReact false none C01E2E.exSetup rfl C01E2E.exReply
    C01E2E.exGoodReply C01.exItems (some C01.exClose) C01.ex_conforming exL exL₂
    exL_nonEmpty (tnonEmpty_bytewise 2 _) (EndsRead.of_b (by decide +kernel))
    -- `@`: otherwise the elaborator normalises the expected type `EndsRead exL₂`, all 296 steps of it,
    -- looking for implicit binders
    (@endsRead_bytewise 2 _) exL_bytes exL₂_bytes [4, 1] [] 6 0 (Or.inr (Or.inr (by decide))) (Or.inr (Or.inr (by decide)))

/-- **the full event sequences differ**: the two runs see different numbers of Polls (4 resp. 56),
    which is why the statement is about the events other than Polls -/
theorem polls_depend_on_timing :
    ((Monitor.events (runAll C01E2E.exCfg C01E2E.exReact (timedEnv exL [4, 1] 6)).trace).filter (· = .poll)).length = 4 ∧
    ((Monitor.events (runAll C01E2E.exCfg C01E2E.exReact (timedEnv exL₂ [] 0)).trace).filter (· = .poll)).length ≠ 4 := by
  refine ⟨by rw [exL_events]; rfl, ?_⟩
  rw [exL₂, C01E2E.exReply, Http.lit_ofList, C01E2E.exCfg, Http.ofString_ofList, Http.lit_ofList]
  decide +kernel

/-- an application that ignores Polls: it echoes every Text, answers a Binary with `close()` -/
def exBlind : React := fun hist =>
  match hist with
  | .text t :: _ => [.sendText (.str t) false]
  | .binary _ :: _ => [.close (some 1000) (.bytes [])]
  | _ => []

/-- the example application ignores Polls -/
theorem exBlind_pollBlind : PollBlind exBlind :=
  ⟨fun _ => rfl, fun e h _ => by cases e <;> rfl⟩

/-- … and never calls `session.close()` -/
theorem exBlind_noSessionClose : SegLoop.NoSessionClose exBlind := by
  intro h hm
  unfold exBlind at hm
  split at hm <;> simp at hm

/-- all three timers off -/
def exOff : Cfg := { C01E2E.exCfg with pingRate := 0, closeTimeout := 0 }

set_option maxRecDepth 8192 in
/-- `cuts_and_waits_unobservable` applies to the two scripts above (any bytes would do) -/
example : timeless (runAll exOff exBlind (timedEnv exL [4, 1] 6)).trace =
    timeless (runAll exOff exBlind (timedEnv exL₂ [] 0)).trace :=
  cuts_and_waits_unobservable exOff exBlind rfl rfl rfl (by decide) exBlind_pollBlind exBlind_noSessionClose
    exL exL₂ exL_nonEmpty (tnonEmpty_bytewise 2 _) exL₂_bytes.symm [4, 1] [] 6 0

/-- … and what both runs look like without ticks and Polls: the request, the Pong for the Ping
    (written before the Ping event), the Text echoed, the Binary answered with `close()` (the Close
    frame `88 82 key 03 E8`), the server's Close reported as `Closed`, the graceful end -/
example : (timeless (runAll exOff exBlind (timedEnv exL [4, 1] 6)).trace).reverse =
    [.ev .connecting, .wr (Http.lit "GET / HTTP/1.1\r\n\r\n"), .ev (.connected false), .ev (.ready none false),
     .wr [138, 130, 0, 0, 0, 0, 1, 2], .ev (.ping [1, 2]), .ev (.pong []),
     .ev (.text [0x20AC, 0x61]), .wr [129, 132, 0, 0, 0, 0, 0xE2, 0x82, 0xAC, 0x61], .res .ok,
     .ev (.pong [7]), .ev (.binary (List.replicate 126 255)), .wr [136, 130, 0, 0, 0, 0, 3, 232], .res .ok,
     .ev (.closed (some 1000) [111, 107]), .sockClose, .ev (.disconnected "closed" true), .selClose] := by
  rw [exL, C01E2E.exReply, Http.lit_ofList, exOff, C01E2E.exCfg, Http.ofString_ofList, Http.lit_ofList]
  decide +kernel

/-- `time_unobservable` applied to the first script: with its waits or without, the same trace
    apart from ticks and Polls -/
example : timeless (runAll exOff exBlind (timedEnv exL [4, 1] 6)).trace =
    timeless (runAll exOff exBlind (freeze (timedEnv exL [4, 1] 6))).trace :=
  (time_unobservable exOff exBlind rfl rfl rfl exBlind_pollBlind _).2

/-- `loop_cuts_and_waits` applies: the compressed example stream of C01E2E2 from the state after its
    handshake, in one read after 5 ticks vs one byte per read with idle cycles of 3 ticks in between -/
example : ∃ s₁ s₂,
    loop (tscript [(5, some (gstream zItems none))] ++ []) zState = loop [] s₁ ∧
    loop (tscript ((gstream zItems none).flatMap (fun b => [(3, none), (1, some [b])])) ++ []) zState = loop [] s₂ ∧
    delivered s₂.trace = delivered s₁.trace := by
  have hm : Mid ⟨zCfg.inflate, some zD⟩ zState :=
    ⟨⟨fun h a ha => by simp [zState] at ha; subst ha; rfl, rfl, Or.inr rfl, rfl, rfl⟩, ⟨rfl, rfl, rfl⟩, rfl,
      by simp [zState]⟩
  obtain ⟨s₁, s₂, h1, h2, _, h4, _⟩ := loop_cuts_and_waits ⟨zCfg.inflate, some zD⟩ zState hm rfl
    ⟨⟨rfl, rfl, rfl, rfl⟩, rfl, rfl⟩ rfl zItems _
    (itemsAt_of_zOuts ⟨zCfg.inflate, some zD⟩ rfl zItems zItems_static _ _ zItems_inflate) (fun _ _ _ => rfl)
    none (fun c hc => by cases hc)
    [(5, some (gstream zItems none))] ((gstream zItems none).flatMap (fun b => [(3, none), (1, some [b])]))
    (TNonEmpty.of_b (by decide +kernel)) (TNonEmpty.of_b (by decide +kernel))
    (EndsRead.of_b (by decide +kernel)) (EndsRead.of_b (by decide +kernel)) (by decide +kernel) (by decide +kernel) [] []
  exact ⟨s₁, s₂, h1, h2, h4⟩

/-- the same bytes in one read, at once -/
def exL₀ : List TStep := [(0, some (C01E2E.exReply ++ C01.streamBytes C01.exItems (some C01.exClose)))]

/-- **the `PollBlind` hypothesis is needed**: C02's example application answers every Poll with a
    Ping — in the first run it is handed two Polls before the stream ends (two Pings written), in
    the second only the one that follows Ready -/
theorem poll_sensitive_application_observes_time :
    timeless (runAll exOff C02.ExS.react (timedEnv exL [] 0)).trace ≠
      timeless (runAll exOff C02.ExS.react (timedEnv exL₀ [] 0)).trace := by
  rw [exL, exL₀, C01E2E.exReply, Http.lit_ofList, exOff, C01E2E.exCfg, Http.ofString_ofList, Http.lit_ofList]
  decide +kernel

end Lomond.C02Time
