/-
  C03 companion — the bytes of compressed sends, the masking-key schedule, `send_json`.
  Property theorems only (helper lemmas: Proofs/KeySched.lean, Proofs/ZFrame.lean, Proofs/ZNest.lean;
  definitions: Model/ZFrame.lean).

  The core model logs a compressed data frame as the abstract entry `.wrz opcode plaintext`.
  `ZFrame.wireOf` says which bytes that entry stands for — `Frame.build opcode z key` with FIN=1,
  RSV1=1, RSV2=RSV3=0, MASK=1 — where `z` is the output of the compressor, a PARAMETER
  (`Deflater`: plaintexts compressed so far ↦ plaintext ↦ payload with the `00 00 ff ff` tail
  stripped, as `Deflate.compress` does), and `key = cfg.maskKey (keyIdx older)` is the masking key
  of the frame's slot in the connection's key schedule.  Proved here, for every configuration,
  application, environment and compressor:

  * every rendered compressed frame is one complete, valid client frame that the independent
    decoder `Spec.decodeClientFrame` reads back as FIN=1, RSV1=1, RSV2=RSV3=0, opcode Text or
    Binary, MASK=1 with that key, shortest length form, payload `z`;
  * the key schedule is the model's: every *plain* frame of the run provably carries the key of
    index `keyIdx older` in its bytes, compressed frames advance the same counter, successive
    frames never share an index, and at the end of a run that still accepts writes the model's
    `keyCtr` is `keyIdx trace`;
  * inflating the payloads in wire order with any inflater that inverts the compressor over
    histories returns the plaintexts of the `.wrz` entries in order; for a compressor that is the
    encoding of a token-level `Deflate.Compressor` this is `C06.lossless_client_to_peer` applied to
    the `.wrz` sequence of the run;
  * `send_json(obj)` is `send_text(json.dumps(obj))` (`json.dumps` a parameter).
-/
import Lomond.Proofs.ZFrame
import Lomond.Proofs.ZNest
import Lomond.Properties.C03
import Lomond.Properties.C06


namespace Lomond.C03Z
open Lomond Lomond.Core Lomond.Core.KS Lomond.ZFrame

/-- what a conforming server reads from a compressed frame: FIN=1, RSV1=1, RSV2=RSV3=0 -/
def zDecoded (op : Nat) (key z : Bytes) : Spec.Decoded :=
  { fin := 1, rsv1 := 1, rsv2 := 0, rsv3 := 0, opcode := op, key := key, payload := z }

/-- **A rendered compressed frame is a valid client frame that round-trips** (frame level: any
    trace prefix `older` whose compressor history is determined, any opcode below 16, any
    compressor).  If the compressor's output is shorter than 2^63 bytes, `wireOf` renders the entry
    `.wrz op plain` to bytes which the independent server-side decoder — it rejects unmasked frames
    and non-minimal length forms — reads, whatever follows in the stream, as exactly one frame with
    FIN=1, RSV1=1, RSV2=RSV3=0, this opcode, MASK=1 with the key of the entry's slot, and the
    compressor's output as unmasked payload; the header is `[0xC0 + op, 0x80 + marker] ++ ext` in
    the *least* length form that can carry the length. -/
theorem compressed_frame_roundtrips (deflate : Deflater) (cfg : Cfg) (older : List Obs) (op : Nat)
    (plain : Bytes) (hist : List Bytes) (hh : zHist older = some hist) (hop : op < 16)
    (hk : (cfg.maskKey (keyIdx older)).length = 4) (hz : (deflate hist plain).length < 2 ^ 63) :
    ∃ bytes, wireOf deflate cfg older (.wrz op plain) = some bytes ∧
      (∀ rest, Spec.decodeClientFrame (bytes ++ rest) =
        some (zDecoded op (cfg.maskKey (keyIdx older)) (deflate hist plain), rest)) ∧
      ∃ f : C03.LenForm,
        bytes = [192 + op, 128 + f.marker (deflate hist plain).length] ++ f.ext (deflate hist plain).length ++
          cfg.maskKey (keyIdx older) ++ maskPayload (cfg.maskKey (keyIdx older)) (deflate hist plain) ∧
        (deflate hist plain).length < f.cap ∧ ∀ g : C03.LenForm, (deflate hist plain).length < g.cap → f.rank ≤ g.rank := by
  have hw : wireOf deflate cfg older (.wrz op plain) =
      Frame.build op (deflate hist plain) (cfg.maskKey (keyIdx older)) 1 1 0 0 := by
    simp [wireOf, hh]
  have hb := build_eq op (deflate hist plain) (cfg.maskKey (keyIdx older)) 1 1 0 0
  have hh' := buildHeader_eq (byte0 1 1 0 0 op) 128 (deflate hist plain).length
  rw [if_pos hz] at hb hh'
  obtain ⟨f, hf, hc, hmin⟩ := C03.shortest _ _ _ _ hh'
  refine ⟨_, by rw [hw, hb], fun rest => ?_, f, ?_, hc, hmin⟩
  · exact C03.roundtrip op 1 1 0 0 _ _ rest _ hop (by omega) (by omega) (by omega) (by omega) hk hb
  · have e : byte0 1 1 0 0 op = 192 + op := by simp [byte0]
    rw [e] at hf ⊢
    simp only [List.cons_append, List.nil_append, List.append_assoc, List.cons.injEq, true_and] at hf ⊢
    exact ⟨hf.1, by rw [hf.2]⟩

/-- non-vacuity: the second compressed message of a connection (history `[[72, 105]]`), a toy
    compressor that prefixes the number of earlier messages, key source `k ↦ [k+1, 2, 3, 4]`;
    entries so far: the request, one compressed frame and its result ⇒ key index 1 -/
example :
    wireOf (fun hist p => hist.length :: p) { maskKey := fun k => [k + 1, 2, 3, 4] }
      [.res .ok, .wrz 1 [72, 105], .ev (.ready none true), .wr [0x47]] (.wrz 2 [9, 8, 7]) =
      some [0xC2, 0x84, 2, 2, 3, 4, 1 ^^^ 2, 9 ^^^ 2, 8 ^^^ 3, 7 ^^^ 4] := by decide
example : zHist [.res .ok, .wrz 1 [72, 105], .ev (.ready none true), .wr [0x47]] = some [[72, 105]] := by decide
example : Spec.decodeClientFrame [0xC2, 0x84, 2, 2, 3, 4, 1 ^^^ 2, 9 ^^^ 2, 8 ^^^ 3, 7 ^^^ 4] =
    some (zDecoded 2 [2, 2, 3, 4] [1, 9, 8, 7], []) := by decide

/-- A plain write is rendered as itself, and nothing else is rendered: `wireOf` yields bytes only
    for successful writes. -/
theorem wireOf_plain (deflate : Deflater) (cfg : Cfg) (older : List Obs) (o : Obs) (bytes : Bytes)
    (h : wireOf deflate cfg older o = some bytes) :
    o = .wr bytes ∨ ∃ op plain, o = .wrz op plain := by
  cases o <;> simp [wireOf] at h
  · exact Or.inl (by rw [h])
  · exact Or.inr ⟨_, _, rfl⟩

example : wireOf (fun _ p => p) {} [] (.wr [1, 2, 3]) = some [1, 2, 3] := rfl
example : wireOf (fun _ p => p) {} [] (.wrFail [1, 2, 3]) = none := rfl

/-- **Every compressed frame of a connection is a valid client frame** (run level).  For every
    configuration, every application whose payloads are of possible sizes (`Small`: shorter than
    2^63 bytes), every environment script, every compressor and a key source of 4-byte keys: take
    any `.wrz op plain` entry of the trace of `runAll`, with `older` the entries before it, such
    that no compressed write failed before (`zHist older = some hist`) and the compressor's output
    is shorter than 2^63 bytes.  Then the upgrade request was written before it, the opcode is
    Text or Binary, and the entry is rendered to one complete frame that the independent decoder
    reads as FIN=1, RSV1=1, RSV2=RSV3=0, that opcode, masked with the key of index `keyIdx older`,
    payload = the compressor's output for (the plaintexts of the earlier `.wrz` entries, `plain`). -/
theorem every_compressed_frame_is_valid (cfg : Cfg) (react : React) (env : List EnvStep)
    (deflate : Deflater) (hsm : Small react) (hk : ∀ k, (cfg.maskKey k).length = 4)
    (newer older : List Obs) (op : Nat) (plain : Bytes)
    (ht : (runAll cfg react env).trace = newer ++ .wrz op plain :: older)
    (hist : List Bytes) (hh : zHist older = some hist) (hz : (deflate hist plain).length < 2 ^ 63) :
    nWrites older ≠ 0 ∧ (op = 1 ∨ op = 2) ∧ hist = zPlains older ∧
    ∃ bytes, wireOf deflate cfg older (.wrz op plain) = some bytes ∧
      ∀ rest, Spec.decodeClientFrame (bytes ++ rest) =
        some (zDecoded op (cfg.maskKey (keyIdx older)) (deflate hist plain), rest) := by
  obtain ⟨-, hs⟩ := runAll_sched cfg react env hsm
  rw [ht] at hs
  have hat := sched_at cfg newer _ older hs
  unfold SchedAt at hat
  have hw : nWrites older ≠ 0 := by
    intro h0
    rw [if_pos h0] at hat
    rcases hat rfl with h | h <;> cases h
  rw [if_neg hw] at hat
  have hop : op = 1 ∨ op = 2 := hat
  obtain ⟨bytes, hb, hd, -⟩ := compressed_frame_roundtrips deflate cfg older op plain hist hh
    (by omega) (hk _) hz
  exact ⟨hw, hop, zHist_eq older hist hh, bytes, hb, hd⟩

/-- **The key schedule is the model's.**  In every run (application payloads of possible sizes),
    the first write is the upgrade request and every later *plain* write — whose bytes contain
    its masking key — is `Frame.build op payload (cfg.maskKey (keyIdx older))`: built with the
    key whose index is the number of earlier writes and refused calls, minus one for the request.
    The same holds for a frame whose `sendall` raised.  Compressed frames go through the same
    `sendFrame` and advance the same counter (otherwise the index of every later plain frame
    would be off by one): `wireOf` gives them exactly this slot. -/
theorem key_schedule (cfg : Cfg) (react : React) (env : List EnvStep) (hsm : Small react)
    (newer older : List Obs) (o : Obs) (ht : (runAll cfg react env).trace = newer ++ o :: older) :
    (nWrites older = 0 → isWrite o = true → o = .wr cfg.request ∨ o = .wrFail cfg.request) ∧
    (nWrites older ≠ 0 → ∀ bytes, o = .wr bytes →
      ∃ op payload, Frame.build op payload (cfg.maskKey (keyIdx older)) = some bytes) ∧
    (nWrites older ≠ 0 → ∀ bytes, o = .wrFail bytes → bytes = [] ∨
      ∃ op payload, Frame.build op payload (cfg.maskKey (keyIdx older)) = some bytes) := by
  obtain ⟨-, hs⟩ := runAll_sched cfg react env hsm
  rw [ht] at hs
  have hat := sched_at cfg newer _ older hs
  unfold SchedAt at hat
  refine ⟨fun h0 => by rw [if_pos h0] at hat; exact hat, fun h0 bytes ho => ?_, fun h0 bytes ho => ?_⟩
  · rw [if_neg h0, ho] at hat; exact hat
  · rw [if_neg h0, ho] at hat; exact hat

/-- … in decoder terms: a conforming server reads from every plain frame of the run the key of
    the frame's slot. -/
theorem plain_frame_key (cfg : Cfg) (react : React) (env : List EnvStep) (hsm : Small react)
    (hk : ∀ k, (cfg.maskKey k).length = 4)
    (newer older : List Obs) (bytes : Bytes) (ht : (runAll cfg react env).trace = newer ++ .wr bytes :: older)
    (hw : nWrites older ≠ 0) (d : Spec.Decoded) (rest : Bytes) (hd : Spec.decodeClientFrame bytes = some (d, rest))
    (hop : ∀ op payload, Frame.build op payload (cfg.maskKey (keyIdx older)) = some bytes → op < 16) :
    d.key = cfg.maskKey (keyIdx older) := by
  obtain ⟨op, payload, hb⟩ := (key_schedule cfg react env hsm newer older _ ht).2.1 hw bytes rfl
  have := C03.roundtrip op 1 0 0 0 payload _ [] bytes (hop op payload hb) (by omega) (by omega) (by omega)
    (by omega) (hk _) hb
  rw [List.append_nil, hd] at this
  cases this; rfl

/-- **No two frames of a connection share a slot**: the key index of a later write is strictly
    larger than that of an earlier one. -/
theorem key_index_increases (older mid : List Obs) (o : Obs) (ho : isWrite o = true) (hw : nWrites older ≠ 0) :
    keyIdx older < keyIdx (mid ++ o :: older) :=
  keyIdx_strict older mid o ho hw

/-- **The counter of the model is the next slot.**  If at the end of a run the connection still
    accepts writes (socket open, websocket neither closed nor closing), the key the model would
    draw next, `cfg.maskKey keyCtr`, is the one the schedule assigns to the next frame. -/
theorem counter_is_next_slot (cfg : Cfg) (react : React) (env : List EnvStep) (hsm : Small react)
    (hl : Live (runAll cfg react env)) :
    (runAll cfg react env).keyCtr = keyIdx (runAll cfg react env).trace := by
  obtain ⟨-, h2⟩ := runAll_si cfg react env hsm
  obtain ⟨-, hk⟩ := h2.2 hl
  unfold keyIdx; omega

/-- **One accepted compressed call, in bytes.**  In a state that accepts a write, with
    permessage-deflate negotiated, a `send_text` / `send_binary` call with `compress=True` and
    sendable arguments appends exactly `[.res .ok, .wrz op payload]` to the trace, draws exactly one
    key — `cfg.maskKey keyCtr`, the same slot a plain frame would have taken — and advances the
    counter by one. -/
theorem accepted_compressed_call (a : Act) (s : Sys) (op : Nat) (payload : Bytes)
    (hw : C03.wirePayload a = some (op, payload)) (hlen : payload.length < 2 ^ 63) (hs : Accepting s)
    (hc : C03.wantsCompress a = true ∧ s.compression.isSome = true) :
    (doAct a s).state.trace = [.res .ok, .wrz op payload] ++ s.trace ∧
    (doAct a s).state.keyCtr = s.keyCtr + 1 ∧ (doAct a s).state.writeCtr = s.writeCtr + 1 ∧
    (op = 1 ∨ op = 2) := by
  obtain ⟨o, hd, h1, -⟩ := C03.accepted_call a s op payload hw hlen hs
  have ho := h1 hc
  subst ho
  have hop : op = 1 ∨ op = 2 := by
    cases a with
    | sendText arg c =>
      cases arg <;> simp [C03.wirePayload] at hw
      obtain ⟨_, rfl, _⟩ := hw; exact Or.inl rfl
    | sendBinary arg c =>
      cases arg <;> simp [C03.wirePayload] at hw
      obtain ⟨rfl, _⟩ := hw; exact Or.inr rfl
    | _ => simp [C03.wantsCompress] at hc
  rw [hd]
  unfold C03.afterCall
  split
  · exact ⟨rfl, rfl, rfl, hop⟩
  · exact ⟨rfl, rfl, rfl, hop⟩

/-- **Every compressed frame belongs to an application call that returned normally.**  In the
    trace of every run — any configuration, application, environment — the entry directly after a
    `.wrz op plain` entry is `.res .ok`: the frame was written by a `send_text` / `send_binary` /
    `send_json` call (the library itself never sends compressed frames), `sendall` returned, and
    the call returned without an exception.  So the `.wrz` entries of a trace, in order, are
    compressed calls that were accepted, in call order. -/
theorem compressed_frame_of_accepted_call (cfg : Cfg) (react : React) (env : List EnvStep)
    (newer older : List Obs) (op : Nat) (plain : Bytes)
    (ht : (runAll cfg react env).trace = newer ++ .wrz op plain :: older) :
    ∃ newer', newer = newer' ++ [.res .ok] := by
  obtain ⟨hn, hh⟩ := runAll_nested cfg react env
  rw [ht] at hn hh
  exact nested_at newer older op plain hn hh

/-- the handshake reply of the examples: `101`, `Upgrade: websocket`, `Sec-WebSocket-Accept: abc`,
    `Sec-WebSocket-Extensions: permessage-deflate` -/
def exReply : Bytes := C06.bfinalReply

/-- the configuration of the examples -/
def exCfg : Cfg := { challenge := [97, 98, 99], request := [0x47, 0x45, 0x54], maskKey := fun k => [k + 1, 2, 3, 4] }

/-- at `Ready`: a compressed text, a Ping, a compressed binary message, an uncompressed text -/
def exReact : React := fun hist =>
  if hist.length = 3 then
    [.sendText (.str [72, 105]) true, .sendPing (.bytes [7]), .sendBinary (.bytes [1, 2, 3]) true,
     .sendText (.str [72, 105]) false]
  else []

def exEnv : List EnvStep := [.wait 0 (some (.data exReply))]

theorem exSmall : Small exReact := by
  intro hist a ha
  unfold exReact at ha
  split at ha
  · simp only [List.mem_cons, List.mem_nil_iff, or_false] at ha
    rcases ha with rfl | rfl | rfl | rfl <;> simp [actSmall] <;> decide
  · cases ha

/-- the trace of the example run (newest first): request, `Ready` with permessage-deflate, the four
    frames — two of them compressed — each followed by the result of its call -/
theorem exTrace : (runAll exCfg exReact exEnv).trace =
    [.incomplete, .selClose, .sockClose, .ev .poll,
     .res .ok, .wr [0x81, 0x82, 4, 2, 3, 4, 72 ^^^ 4, 105 ^^^ 2],
     .res .ok, .wrz 2 [1, 2, 3],
     .res .ok, .wr [0x89, 0x81, 2, 2, 3, 4, 7 ^^^ 2],
     .res .ok, .wrz 1 [72, 105],
     .ev (.ready none true), .ev (.connected false), .wr [0x47, 0x45, 0x54], .ev .connecting] := by
  decide +kernel

/-- the hypotheses of `every_compressed_frame_is_valid` hold for the second compressed frame of
    the example run, and `wireOf` gives it key index 2 (after the keys 0 and 1 of the first
    compressed frame and the Ping) -/
example : ∃ newer older, (runAll exCfg exReact exEnv).trace = newer ++ .wrz 2 [1, 2, 3] :: older ∧
    zHist older = some [[72, 105]] ∧ keyIdx older = 2 ∧
    wireOf (fun hist p => hist.length :: p) exCfg older (.wrz 2 [1, 2, 3]) =
      some [0xC2, 0x84, 3, 2, 3, 4, 1 ^^^ 3, 1 ^^^ 2, 2 ^^^ 3, 3 ^^^ 4] :=
  ⟨[.incomplete, .selClose, .sockClose, .ev .poll, .res .ok, .wr [0x81, 0x82, 4, 2, 3, 4, 72 ^^^ 4, 105 ^^^ 2], .res .ok],
   [.res .ok, .wr [0x89, 0x81, 2, 2, 3, 4, 7 ^^^ 2], .res .ok, .wrz 1 [72, 105],
    .ev (.ready none true), .ev (.connected false), .wr [0x47, 0x45, 0x54], .ev .connecting],
   by rw [exTrace]; rfl, by decide, by decide, by decide⟩

/-- `key_schedule` on the example run: the Ping is the frame after the request, the first
    compressed frame and its result ⇒ key index 1 = `[2, 2, 3, 4]`, which its bytes show -/
example : ∃ newer older, (runAll exCfg exReact exEnv).trace = newer ++ .wr [0x89, 0x81, 2, 2, 3, 4, 7 ^^^ 2] :: older ∧
    nWrites older ≠ 0 ∧ keyIdx older = 1 ∧ exCfg.maskKey 1 = [2, 2, 3, 4] :=
  ⟨[.incomplete, .selClose, .sockClose, .ev .poll, .res .ok, .wr [0x81, 0x82, 4, 2, 3, 4, 72 ^^^ 4, 105 ^^^ 2],
    .res .ok, .wrz 2 [1, 2, 3], .res .ok],
   [.res .ok, .wrz 1 [72, 105], .ev (.ready none true), .ev (.connected false), .wr [0x47, 0x45, 0x54], .ev .connecting],
   by rw [exTrace]; rfl, by decide, by decide, rfl⟩

/-- `compressed_frame_of_accepted_call` on the example run: both `.wrz` entries are followed by `.res .ok` -/
example : ∃ newer' older, (runAll exCfg exReact exEnv).trace = (newer' ++ [.res .ok]) ++ .wrz 1 [72, 105] :: older :=
  ⟨[.incomplete, .selClose, .sockClose, .ev .poll, .res .ok, .wr [0x81, 0x82, 4, 2, 3, 4, 72 ^^^ 4, 105 ^^^ 2],
    .res .ok, .wrz 2 [1, 2, 3], .res .ok, .wr [0x89, 0x81, 2, 2, 3, 4, 7 ^^^ 2]], _, by rw [exTrace]; rfl⟩

/-- `counter_is_next_slot`: a run can only *end* while still accepting writes if the application
    abandons the iterator under the pre-repair variant `cleanup = false` (finding D4: the socket is
    left open); for the repaired code the statement is about the intermediate states, through the
    invariant `KS.SI` from which it is derived.  Here: a Ping and a binary message, then the loop
    is abandoned at `Connected`; two keys drawn, the next slot is 2. -/
def exLeakCfg : Cfg := { exCfg with v := { cleanup := false } }
def exLeakReact : React := fun hist =>
  if hist.length = 2 then [.sendPing (.bytes [7]), .sendBinary (.bytes [1]) false, .abandon false] else []
theorem exLeakSmall : Small exLeakReact := by
  intro hist a ha
  unfold exLeakReact at ha
  split at ha
  · simp only [List.mem_cons, List.mem_nil_iff, or_false] at ha
    rcases ha with rfl | rfl | rfl <;> simp [actSmall] <;> decide
  · cases ha
example : Live (runAll exLeakCfg exLeakReact exEnv) ∧ (runAll exLeakCfg exLeakReact exEnv).keyCtr = 2 ∧
    keyIdx (runAll exLeakCfg exLeakReact exEnv).trace = 2 :=
  ⟨⟨by decide +kernel, by decide +kernel, by decide +kernel⟩, by decide +kernel, by decide +kernel⟩

/-- **The compressed frames of a connection carry `zPayloads`.**  For the `.wrz` entry at any
    position of any trace whose compressor history is determined, the payload `wireOf` puts into
    its frame is the element of `zPayloads deflate [] (zPlains trace)` — the outputs of the
    compressor over the whole plaintext history of the connection, in wire order — with the
    number of that frame. -/
theorem wire_payload_is_zPayload (deflate : Deflater) (newer older : List Obs) (op : Nat) (plain : Bytes)
    (hist : List Bytes) (hh : zHist older = some hist) :
    (zPayloads deflate [] (zPlains (newer ++ .wrz op plain :: older)))[hist.length]? = some (deflate hist plain) := by
  rw [zHist_eq older hist hh]
  exact zPayloads_at deflate newer older op plain

/-- **Lossless over the send path, any compressor, any inverting inflater.**  Let `deflate` be
    the compressor (any function of history and plaintext) and `inflate` the peer's inflater, fed
    the payloads in the order they arrive, such that it undoes the compressor over histories
    (`Inverts`).  Then for every trace — in particular that of any `runAll` — the peer's outputs
    over all compressed payloads in wire order are exactly the plaintexts of the `.wrz` entries,
    i.e. of the accepted compressed calls in call order (each `.wrz` entry is the frame of a call
    that returned normally: `compressed_frame_of_accepted_call`; each accepted compressed call
    appends exactly one: `accepted_compressed_call`, `C03.rsv1_iff`, `C03.writes_only_the_frame`);
    none fails.  (The compressor has consumed exactly these plaintexts iff no compressed write
    failed, `zHist trace = some _`; see `C06Send.lossless_client_to_peer_on_the_wire`.) -/
theorem compressed_sends_lossless (deflate : Deflater) (inflate : List Bytes → Bytes → Option Bytes)
    (hinv : Inverts deflate inflate) (trace : List Obs) :
    peerOutputs inflate [] (zPayloads deflate [] (zPlains trace)) = some (zPlains trace) :=
  peer_lossless_from deflate inflate hinv [] (zPlains trace)

/-- non-vacuity: a compressor with real dependence on the history (it prefixes the number of
    earlier messages) and the inflater that checks that number against what it has seen -/
example : Inverts (fun hist p => hist.length :: p)
    (fun seen z => if z.head? = some seen.length then some (z.drop 1) else none) := by
  intro hist p
  simp [zPayloads_length]

example : zPlains (runAll exCfg exReact exEnv).trace = [[72, 105], [1, 2, 3]] := by
  rw [exTrace]; decide
example : zPayloads (fun hist p => hist.length :: p) [] [[72, 105], [1, 2, 3]] = [[0, 72, 105], [1, 1, 2, 3]] := by
  decide

open Lomond.Deflate in
/-- **`C06.lossless_client_to_peer` on the core send path.**  Let the client's compressor be the
    byte encoding `enc` (Huffman coding, block structure, sync flush, tail stripped: the same
    bijection on both sides) of any token-level compressor `c` obeying zlib's distance bound for
    the window lomond chooses (`2^max(9, cw)`), with context takeover or
    `client_no_context_takeover`.  Then for every run of the core model, with `msgs` the
    plaintexts of the `.wrz` entries of its trace in order:
    the payloads of the compressed frames on the wire are the encodings of `senderTokens c … msgs`,
    frame by frame, and a peer with a `2^cw`-byte window (keeping its context whenever the client
    does) gets back exactly `msgs`. -/
theorem send_path_lossless (cw : Nat) (h8 : 8 ≤ cw) (h15 : cw ≤ 15)
    (c : Compressor (maxDist (clientWbits cw))) (clientNoTakeover peerResets : Bool)
    (hk : clientNoTakeover = false → peerResets = false)
    (enc : List Token → Bytes) (deflate : Deflater)
    (hd : ∀ hist p, deflate hist p = enc (c.comp (if clientNoTakeover then [] else hist.flatten) p))
    (cfg : Cfg) (react : React) (env : List EnvStep) :
    let msgs := zPlains (runAll cfg react env).trace
    zPayloads deflate [] msgs = (senderTokens c clientNoTakeover [] msgs).map enc ∧
    receiverOutputs (2 ^ cw) peerResets [] (senderTokens c clientNoTakeover [] msgs) = some msgs := by
  intro msgs
  refine ⟨?_, C06.lossless_client_to_peer cw h8 h15 c clientNoTakeover peerResets hk msgs⟩
  have := zPayloads_senderTokens c clientNoTakeover enc deflate hd [] msgs
  simpa using this

/-- **`send_json(obj)` is `send_text(json.dumps(obj))`.**  With `json.dumps` as a parameter
    (`none` = TypeError), for every state: positional *and* keyword arguments ⇒ ValueError, nothing
    else happens; an object `json.dumps` rejects ⇒ TypeError, nothing else happens; otherwise the
    call *is* the call `send_text(text)` with the default `compress=True`, `text` the output of
    `json.dumps` on the positional argument if given, else on the dict of keyword arguments. -/
theorem send_json_is_send_text {J : Type} (dumps : J → Option (List Nat)) (c : JsonCall J) (s : Sys) :
    (c.hasKwargs = true ∧ c.obj.isSome = true → sendJson dumps c s = .ok () (resState s .valueError)) ∧
    (¬ (c.hasKwargs = true ∧ c.obj.isSome = true) → dumps (c.obj.getD c.kwargs) = none →
      sendJson dumps c s = .ok () (resState s .typeError)) ∧
    (¬ (c.hasKwargs = true ∧ c.obj.isSome = true) → ∀ text, dumps (c.obj.getD c.kwargs) = some text →
      sendJson dumps c s = doAct (.sendText (.str text) true) s) := by
  refine ⟨fun h => ?_, fun h hn => ?_, fun h text ht => ?_⟩
  · unfold sendJson; rw [if_pos h]; rfl
  · unfold sendJson; rw [if_neg h, hn]; rfl
  · unfold sendJson; rw [if_neg h, ht]

/-- **The harness's substitution is sound in the model**: the `send_text` call by which the
    correspondence harness presents a `send_json` call to the model (`jsonAsAct`: a lone surrogate
    for "both kinds of arguments", a non-`str` for "not serialisable") behaves exactly like
    `send_json`, in every state. -/
theorem send_json_as_act {J : Type} (dumps : J → Option (List Nat)) (c : JsonCall J) :
    sendJson dumps c = doAct (jsonAsAct dumps c) := by
  unfold sendJson jsonAsAct
  split
  · rfl
  · split <;> rfl

/-- **An accepted `send_json` writes one Text frame carrying the UTF-8 of the JSON text** — plain
    (`Frame.build 1 utf8 key`, round-trips by `C03.accepted_call_roundtrips`) or, when
    permessage-deflate is negotiated, compressed (`.wrz 1 utf8`, rendered by `wireOf`). -/
theorem send_json_accepted {J : Type} (dumps : J → Option (List Nat)) (c : JsonCall J) (s : Sys)
    (hnb : ¬ (c.hasKwargs = true ∧ c.obj.isSome = true)) (text : List Nat)
    (ht : dumps (c.obj.getD c.kwargs) = some text) (hns : hasSurrogate text = false)
    (hlen : (Utf8.encode text).length < 2 ^ 63) (hs : Accepting s) :
    ∃ o, sendJson dumps c s = .ok () (C03.afterCall (.sendText (.str text) true) s o) ∧
      (s.compression.isSome = true → o = .wrz 1 (Utf8.encode text)) ∧
      (s.compression.isSome = false →
        ∃ bytes, Frame.build 1 (Utf8.encode text) (s.cfg.maskKey s.keyCtr) = some bytes ∧ o = .wr bytes) := by
  rw [(send_json_is_send_text dumps c s).2.2 hnb text ht]
  have hw : C03.wirePayload (.sendText (.str text) true) = some (1, Utf8.encode text) := by
    simp [C03.wirePayload, hns, Gen.opText]
  obtain ⟨o, hd, h1, h2⟩ := C03.accepted_call _ s 1 (Utf8.encode text) hw hlen hs
  refine ⟨o, hd, fun hc => h1 ⟨rfl, hc⟩, fun hc => h2 (fun h => ?_)⟩
  rw [hc] at h; cases h.2

/-- non-vacuity: `send_json({"a": 1})` with `json.dumps` giving `{"a": 1}` -/
example : (sendJson (J := Nat) (fun _ => some [0x7b, 0x22, 0x61, 0x22, 0x3a, 0x20, 0x31, 0x7d])
    { obj := some 0, kwargs := 1, hasKwargs := false } C03.exState).state.trace =
    [.res .ok, .wr [0x81, 0x88, 1, 0x37, 0xfa, 0x21, 0x7b ^^^ 1, 0x22 ^^^ 0x37, 0x61 ^^^ 0xfa, 0x22 ^^^ 0x21,
      0x3a ^^^ 1, 0x20 ^^^ 0x37, 0x31 ^^^ 0xfa, 0x7d ^^^ 0x21]] := by decide
example : (sendJson (J := Nat) (fun _ => none) { obj := some 0, kwargs := 1, hasKwargs := false } C03.exState).state.trace =
    [.res .typeError] := by decide
example : (sendJson (J := Nat) (fun _ => some []) { obj := some 0, kwargs := 1, hasKwargs := true } C03.exState).state.trace =
    [.res .valueError] := by decide
example : (sendJson (J := Nat) (fun j => if j = 1 then some [0x7b, 0x7d] else none)
    { obj := none, kwargs := 1, hasKwargs := false } { C03.exState with compression := some default }).state.trace =
    [.res .ok, .wrz 1 [0x7b, 0x7d]] := by decide

end Lomond.C03Z
