/-
  C14 — source-structure facts the model of the automatic Pong / Ping relies on.
-/
import Lomond.Generated.Facts
namespace Lomond.C14Src

/-- `_send_pong` and `_check_auto_ping` swallow every `WebSocketError` (closed, closing,
    unavailable, transport failure) and nothing else: a Pong/Ping that cannot be written is
    dropped silently, as in `Core.onEvent` / `Core.checkAutoPing`. -/
theorem pong_and_ping_errors_swallowed :
    Gen.sendPongHandlers = ["errors.WebSocketError"] ∧ Gen.autoPingHandlers = ["errors.WebSocketError"] :=
  ⟨rfl, rfl⟩

end Lomond.C14Src
