/-
  C19 companion 2 — which proxy a connection goes through: what session.py says.

  Produced by harness/py2lean.py from the source on every check run: `sessionConnectProxy`
  (`WebsocketSession._connect`: `proxies.get('https' if is_secure else 'http')`, a falsy value
  means a direct connection).  The theorem states that `Proxy.proxyChoice` is this choice.
-/
import Lomond.Proofs.GenTie
import Lomond.Model.Proxy
import Lomond.Generated.Code

namespace Lomond.C19Gen2
open Lomond Lomond.Proxy Lomond.GenTie
open Lomond.Gen.Code

/-- the choice as a table: the entry of the scheme's key, unless missing or empty -/
theorem gen_connectProxy_spec (d : Py.Dict) (secure : Bool) :
    sessionConnectProxy d secure =
      match Py.dictGet? d (if secure then Py.str "https" else Py.str "http") with
      | some p => if p = [] then none else some p
      | none => none := by
  unfold sessionConnectProxy
  cases secure <;> simp <;> (split <;> simp_all)

/-- `Proxy.proxyChoice` is the translated `_connect` choice, for any `proxies` dict whose `'http'`
    / `'https'` entries are the configuration's (`None` values read as missing: both are falsy) -/
theorem gen_proxyChoice (c : Proxy.Cfg) (d : Py.Dict)
    (hh : Py.dictGet? d (Py.str "http") = c.proxyHttp) (hs : Py.dictGet? d (Py.str "https") = c.proxyHttps) :
    proxyChoice c = sessionConnectProxy d c.target.secure := by
  rw [gen_connectProxy_spec]
  unfold proxyChoice
  cases c.target.secure <;> simp only [hh, hs, Bool.false_eq_true, if_false, if_true]
  · cases c.proxyHttp <;> rfl
  · cases c.proxyHttps <;> rfl

example : sessionConnectProxy [(Py.str "http", Py.str "http://p:3128")] false = some (Py.str "http://p:3128") := rfl
example : sessionConnectProxy [(Py.str "http", Py.str "http://p:3128")] true = none := rfl
example : sessionConnectProxy [(Py.str "https", [])] true = none := rfl
example : Py.dictGet? [(Py.str "http", Py.str "x")] (Py.str "http") = some (Py.str "x") ∧
    Py.dictGet? [(Py.str "http", Py.str "x")] (Py.str "https") = none := by decide

end Lomond.C19Gen2
