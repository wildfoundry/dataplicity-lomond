/-
  C06 (companion) — the bit-level inflater of Model/Inflate.lean is CORRECT on dynamic-Huffman
  blocks whose header uses the REPEAT CODES 16, 17, 18 of the code-length alphabet (RFC 1951
  §3.2.7), in ANY complete code-length code and with ANY HCLEN — the form real compressors write.

  The reference encoder (Model/DeflEnc.lean) takes the `HLIT + 257 + HDIST + 1` code lengths as a
  list of ITEMS (`lit n` | `rep16 k` | `rep17 k` | `rep18 k`; `DeflEnc.expand` says which lengths
  they stand for — a run may cross from the literal/length lengths into the distance lengths), the
  19 lengths `cll` of the code-length code and the number `nc` of them that is sent
  (`Kind.dynRle cll nc nl items`; `DeflEnc.rleOk` = when such a block can be written).
  `DeflEnc.rle` is a simple run-length compressor (`Kind.rleOf ll dl` = the block kind that uses it).

    items     `rle_lossless`, `rle_items_in_range`, `rleOf_is_dynamic`
    header    `code_lengths_reader_rle`   the header reader (`readLens`) on the bits of ANY in-range
                                          items returns exactly the lengths they expand to
              `code_length_code_any_hclen` the `nc` 3-bit lengths go back to their places
              `dynamic_header_rle`        `dynamicTables` = the tables of the expanded lengths
    blocks    `rle_block_written`, `block_correct_rle`
    messages  `inflate_expand_rle`
    histories `inflateAllSafe_correct_rle`, `inflateAll_correct_rle`
    client    `lossless_rle_blocks_repaired`

  Because `Kind` has the constructor `dynRle`, the theorems of Properties/C06_Inflate.lean
  that quantify over `kind : Blk → Kind` (`block_correct`, `inflateAllSafe_correct`,
  `inflateAll_correct`, `inflate_message_after_history`, `never_wrong_core_inflater`,
  `core_refines_tokens_inflater`, `lossless_any_blocks_repaired/pinned`) cover run-length coded
  headers as well — mixed freely with stored, fixed and plain dynamic blocks; the statements here
  spell the case out.

  NOT proved (differential test against zlib only): incomplete codes (zlib's single-code
  distance tree, the empty distance code; an incomplete or over-subscribed code-length code is an
  error), over-subscribed codes, and what the inflater does on bytes that no encoder writes
  (truncated input, invalid codes, repeat with no previous length, repeat beyond the announced
  total: the error paths).
-/
import Lomond.Properties.C06_Inflate
import Lomond.Proofs.InflateRle

-- an `example` below binds the block in `fun b => Kind.rleOf …` without using it
set_option linter.unusedVariables false
namespace Lomond.C06
open Lomond Lomond.Deflate Lomond.Core Lomond.DeflEnc Lomond.Inflate

/-- **The run-length compressor is lossless**: the items `rle l` stand for exactly `l`, for every
    list of numbers. -/
theorem rle_lossless (l : List Nat) : DeflEnc.expand (rle l) = some l := expand_rle l

/-- … and each of its items is in range (a length 0..15; 3..6, 3..10, 11..138 repeats) whenever
    `l` is a list of code lengths 0..15. -/
theorem rle_items_in_range (l : List Nat) (h15 : ∀ x ∈ l, x ≤ 15) : ∀ it ∈ rle l, it.ok = true ∧ it.sym < 19 :=
  rle_ok l h15

/-- **`Kind.rleOf ll dl` is written with a run-length coded header exactly when `Kind.dyn ll dl`
    is written as a dynamic block** (so the theorems below are not vacuous for it). -/
theorem rleOf_is_dynamic (ll dl : List Nat) (toks : List Token) :
    rleOk clDefault 19 ll.length (rle (ll ++ dl)) toks = dynOk ll dl toks :=
  rleOk_rleOf ll dl toks

/-- the literal/length lengths of `C06.sampleLitLens` (`A`: 1, `B`: 2, end-of-block and length code 257: 3) … -/
example : sampleLitLens.length = 258 := by decide +kernel
/-- … and eight 3-bit distance codes -/
def sampleDistLens : List Nat := [3, 3, 3, 3, 3, 3, 3, 3]

/-- the 266 lengths as 9 items: with symbol 18 (65, 138, 41 zeros), 17 (10 zeros) and 16 — the
    run of ten 3s starts at the end-of-block symbol, and its first repeat (`rep16 6`) covers the
    last literal/length length AND the first five distance lengths -/
def sampleItems : List Item :=
  [.rep18 65, .lit 1, .lit 2, .rep18 138, .rep18 41, .rep17 10, .lit 3, .rep16 6, .rep16 3]

example : DeflEnc.expand sampleItems = some (sampleLitLens ++ sampleDistLens) := by decide +kernel
/-- `rle` finds other items for the same lengths (greedy: 138 + 51 zeros) -/
example : rle (sampleLitLens ++ sampleDistLens) =
    [.rep18 65, .lit 1, .lit 2, .rep18 138, .rep18 51, .lit 3, .rep16 6, .rep16 3] := by decide +kernel
/-- runs of exactly 3, 6, 7, 10, 11, 138, 139 -/
example : rle ([5, 5, 5, 5] ++ [4, 4, 4, 4, 4, 4, 4] ++ [7, 7, 7, 7, 7, 7, 7, 7] ++ [0, 0, 0] ++ [1] ++
      List.replicate 10 0 ++ [1] ++ List.replicate 11 0 ++ [1] ++ List.replicate 138 0 ++ [1] ++ List.replicate 139 0) =
    [.lit 5, .rep16 3, .lit 4, .rep16 6, .lit 7, .rep16 6, .lit 7, .rep17 3, .lit 1, .rep17 10, .lit 1, .rep18 11, .lit 1,
     .rep18 138, .lit 1, .rep18 138, .lit 0] := by decide +kernel
/-- symbol 16 with nothing before it stands for nothing -/
example : DeflEnc.expand [.rep16 3, .lit 1] = none := by decide

/-- **The header reader on run-length coded code lengths** (`readLens` = state CODELENS of
    zlib's inflate.c).  `cl` a complete code-length table whose code words `cc` decode (`Code`:
    e.g. `canonical_code_decodes`); `items` any list of in-range items whose symbols have code
    words.  If the input from `pos` on is the items' bits (code word + 2 / 3 / 7 extra bits)
    followed by anything, and the items expand — after the lengths `acc` already read — to `lens`,
    the `total` lengths the header announced, then `readLens` returns exactly `lens` and stops
    just after the items.  No bound on where a repeat starts or ends: runs may cross the
    HLIT/HDIST boundary. -/
theorem code_lengths_reader_rle (inp : Array Nat) (hwf : ∀ x ∈ inp.toList, x < 256) (cl : Huff)
    (cc : Nat → List Bool) (S : Nat → Prop) (hc : Code cl cc S) (hsh : cl.shape = .complete) (items : List Item)
    (hok : ∀ it ∈ items, it.ok = true ∧ S it.sym) (total fuel pos : Nat) (acc lens : List Nat) (r : List Bool)
    (hex : expandGo acc items = some lens) (htot : lens.length = total) (hf : items.length < fuel)
    (h : Rest inp pos = items.flatMap (itemBits cc) ++ r) :
    Inflate.readLens inp cl total fuel pos acc.toArray =
      .ok lens.toArray (pos + (items.flatMap (itemBits cc)).length) :=
  readLens_items hwf hc hsh items hok total fuel pos acc lens r hex htot hf h

/-- the code-length code of the examples: code words for the symbols 1, 2, 3, 16, 17, 18 only
    (lengths 3, 3, 2, 2, 3, 3); in the order of `clOrder` the last length sent is that of symbol 1:
    HCLEN + 4 = 18 -/
def sampleCll : List Nat := [0, 3, 3, 2, 0, 0, 0, 0, 0, 0, 0, 0, 0, 0, 0, 0, 2, 3, 3]
example : clOk sampleCll 18 = true ∧ clOk sampleCll 17 = false := by decide +kernel
example : ∀ it ∈ sampleItems, it.ok = true ∧ 1 ≤ sampleCll.getD it.sym 0 := by decide

/-- **The code-length code, any HCLEN**: sending only the first `nc` (4..19) of the 19 lengths in
    the order 16, 17, 18, 0, 8, 7, … — the others being 0 — `readClLens` puts every length back in
    its place. -/
theorem code_length_code_any_hclen (inp : Array Nat) (hwf : ∀ x ∈ inp.toList, x < 256) (cll : List Nat) (nc pos : Nat)
    (r : List Bool) (hcl : clOk cll nc = true) (hp : pos ≤ 8 * inp.size)
    (h : Rest inp pos = (DeflEnc.clOrder.take nc).flatMap (fun s => bitsLE 3 (cll.getD s 0)) ++ r) :
    Inflate.readClLens inp nc 0 pos (Array.replicate 19 0) = .ok cll.toArray (pos + 3 * nc) :=
  readClLens_perm hwf cll nc pos r hcl hp h

/-- **The header of a dynamic block that uses repeat codes** (HLIT, HDIST, HCLEN, `nc` lengths of
    the code-length code `cll`, the items in the canonical code of `cll`): `dynamicTables`
    rebuilds exactly the tables `mkHuff` makes of the lengths the items expand to — `ll` for the
    literal/length code, `dl` for the distance code — and stops just after the header. -/
theorem dynamic_header_rle (inp : Array Nat) (hwf : ∀ x ∈ inp.toList, x < 256) (cll : List Nat) (nc : Nat)
    (items : List Item) (ll dl : List Nat) (p0 : Nat) (r : List Bool)
    (hcl : clOk cll nc = true) (hit : ∀ it ∈ items, it.ok = true ∧ 1 ≤ cll.getD it.sym 0)
    (hex : DeflEnc.expand items = some (ll ++ dl))
    (hl1 : 257 ≤ ll.length) (hl2 : ll.length ≤ 286) (hd1 : 1 ≤ dl.length) (hd2 : dl.length ≤ 30)
    (heob : 1 ≤ ll.getD 256 0) (lit dist : Huff)
    (hlit : Inflate.mkHuff ll.toArray false = some lit) (hdist : Inflate.mkHuff dl.toArray false = some dist)
    (h : Rest inp p0 = dynHeaderR cll nc ll.length dl.length items ++ r) :
    Inflate.dynamicTables inp p0 = .ok (lit, dist) (p0 + (dynHeaderR cll nc ll.length dl.length items).length) :=
  dynamicTables_rle hwf cll nc items ll dl p0 r hcl hit hex hl1 hl2 hd1 hd2 heob lit dist hlit hdist h

/-- a message of one block `A B A` + a match of length 3 at distance 2, header = `sampleItems` -/
def rleBlk : Blk := ⟨false, [.lit 65, .lit 66, .lit 65, .copy 2 3]⟩
def rleArr : Array Nat := (encMsg (fun _ => .dynRle sampleCll 18 258 sampleItems) [rleBlk] ++ TAIL).toArray

example : rleOk sampleCll 18 258 sampleItems rleBlk.toks = true := by decide +kernel
/-- 14 + 3·18 + 52 header bits instead of the 14 + 57 + 4·266 of the plain form -/
example : (dynHeaderR sampleCll 18 258 8 sampleItems).length = 120 ∧ (dynHeader sampleLitLens sampleDistLens).length = 1135 := by
  decide +kernel
/-- the bits of `rleArr`, evaluated once: they begin with the encoder's block -/
private theorem rleArr_blk :
    Rest rleArr 0 = dynBitsR false sampleCll 18 sampleLitLens.length sampleItems (sampleLitLens ++ sampleDistLens) rleBlk.toks ++
      Rest rleArr 136 := by decide +kernel
/-- … the header after the three header bits, and in it the code-length code after HLIT, HDIST, HCLEN -/
private theorem rleArr_hdr :
    ∃ r, Rest rleArr 3 = dynHeaderR sampleCll 18 sampleLitLens.length sampleDistLens.length sampleItems ++ r := by
  have h := rleArr_blk
  rw [dynBitsR_eq] at h
  simp only [List.append_assoc] at h
  exact ⟨_, rest_append (a := [false, false, true]) h⟩
private theorem rleArr_cl :
    ∃ r, Rest rleArr (3 + 14) = (DeflEnc.clOrder.take 18).flatMap (fun s => bitsLE 3 (sampleCll.getD s 0)) ++
      (sampleItems.flatMap (itemBits (canonCode sampleCll)) ++ r) := by
  obtain ⟨r, h⟩ := rleArr_hdr
  rw [dynHeaderR] at h
  simp only [List.append_assoc] at h
  have h1 := rest_append (rest_append (rest_append h))
  simp only [bitsLE_length] at h1
  exact ⟨r, h1⟩
/-- non-vacuity of `dynamic_header_rle` / `code_lengths_reader_rle`: the header of `rleArr` -/
example : Rest rleArr 3 = dynHeaderR sampleCll 18 sampleLitLens.length sampleDistLens.length sampleItems ++ Rest rleArr 123 :=
  let ⟨_, h⟩ := rleArr_hdr
  rest_split h (by decide +kernel)
example : Rest rleArr (3 + 14 + 54) = sampleItems.flatMap (itemBits (canonCode sampleCll)) ++ Rest rleArr 123 := by
  obtain ⟨r, h⟩ := rleArr_cl
  have h := rest_append h
  rw [clBits_length sampleCll 18 (by decide)] at h
  exact rest_split h (by decide +kernel)
example : Rest rleArr (3 + 14) = (DeflEnc.clOrder.take 18).flatMap (fun s => bitsLE 3 (sampleCll.getD s 0)) ++ Rest rleArr 71 :=
  let ⟨_, h⟩ := rleArr_cl
  rest_split h (by decide +kernel)

/-- **What the encoder writes for `Kind.dynRle`**: when `rleOk`, the block is the dynamic block
    with the run-length coded header (not the fixed-Huffman fallback). -/
theorem rle_block_written (off : Nat) (cll : List Nat) (nc nl : Nat) (items : List Item) (b : Blk) (lens : List Nat)
    (hok : rleOk cll nc nl items b.toks = true) (hex : DeflEnc.expand items = some lens) :
    bodyBits off (.dynRle cll nc nl items) b = dynBitsR b.final cll nc nl items lens b.toks := by
  simp only [bodyBits, hok, if_true, hex, Option.getD_some]

/-- **One block with a run-length coded header, whole** (block header, HLIT/HDIST/HCLEN, the
    code-length code, the items, the tokens in the canonical codes of the expanded lengths, the
    end-of-block symbol; BFINAL or not, at any bit offset, followed by anything): one round of the
    block loop does the token model's step, fails exactly when it fails, and continues with the
    extended history. -/
theorem block_correct_rle (cont : Bool) (inp : Array Nat) (hwf : ∀ x ∈ inp.toList, x < 256) (wsize fuel pos : Nat)
    (out : Array Nat) (final : Bool) (cll : List Nat) (nc : Nat) (items : List Item) (ll dl : List Nat)
    (toks : List Token) (r : List Bool) (hok : ∀ t ∈ toks, DeflEnc.Token.ok t = true)
    (hcl : clOk cll nc = true) (hit : ∀ it ∈ items, it.ok = true ∧ 1 ≤ cll.getD it.sym 0)
    (hex : DeflEnc.expand items = some (ll ++ dl)) (hdyn : dynOk ll dl toks = true)
    (h : Rest inp pos = dynBitsR final cll nc ll.length items (ll ++ dl) toks ++ r) :
    Inflate.blocks cont inp wsize (fuel + 1) pos out =
      match inflTokens wsize (winOf wsize out) toks with
      | none => none
      | some (_, e) => afterBody cont inp wsize fuel final pos
          (dynBitsR final cll nc ll.length items (ll ++ dl) toks).length (out ++ e.reverse.toArray) :=
  dynR_body cont hwf wsize fuel pos out final cll nc items ll dl toks r hok hcl hit hex hdyn h

example : Rest rleArr 0 = dynBitsR false sampleCll 18 sampleLitLens.length sampleItems (sampleLitLens ++ sampleDistLens) rleBlk.toks ++
    Rest rleArr 136 := rleArr_blk
example : dynOk sampleLitLens sampleDistLens rleBlk.toks = true := by decide +kernel

/-- **The inflater is correct on every history whose blocks have run-length coded headers —
    repaired code.**  Every window size, every history of messages of blocks of encodable tokens
    (BFINAL anywhere, distances valid or not), every choice — block by block — of the
    code-length code, HCLEN and items (a block whose choice is not `rleOk` is written as a
    fixed-Huffman block): `inflateAllSafe` on the bytes the client hands to zlib returns exactly
    what the token model says, `none` exactly when it says so.  (The instance `kind b := .dynRle …`
    of `inflateAllSafe_correct`; any mixture with the other block kinds is covered by that
    theorem.) -/
theorem inflateAllSafe_correct_rle (cll : Blk → List Nat) (nc nl : Blk → Nat) (items : Blk → List Item) (wbits : Nat)
    (ms : List (List Blk)) (hok : HistOk ms) :
    AgreesSafe Inflate.inflateAllSafe wbits
      (encMsg (fun b => .dynRle (cll b) (nc b) (nl b) (items b))) ms :=
  agreesSafe_enc _ wbits ms hok

/-- **… and zlib's object (pinned code)**. -/
theorem inflateAll_correct_rle (cll : Blk → List Nat) (nc nl : Blk → Nat) (items : Blk → List Item) (wbits : Nat)
    (ms : List (List Blk)) (hok : HistOk ms) :
    Agrees Inflate.inflateAll wbits
      (encMsg (fun b => .dynRle (cll b) (nc b) (nl b) (items b))) ms :=
  agrees_enc _ wbits ms hok

/-- **One message, in terms of the LZ77 meaning**: blocks written with the run-length coded
    headers of the lengths `ll b`, `dl b` (`Kind.rleOf`): if the tokens expand to `out` with every
    distance at most `D ≤ 2^wbits`, the inflater returns exactly `out`. -/
theorem inflate_expand_rle (ll dl : Blk → List Nat) (wbits D : Nat) (hD : D ≤ 2 ^ wbits) (m : List Blk)
    (hok : HistOk [m]) (out : Bytes) (h : Deflate.expand D [] (m.flatMap (·.toks)) = some out) :
    Inflate.inflateAllSafe wbits (encMsg (fun b => Kind.rleOf (ll b) (dl b)) m ++ TAIL) = some out.reverse :=
  inflate_expand _ wbits D hD m hok out h

example : HistOk [[rleBlk]] := by decide
example : Deflate.expand 2 [] ([rleBlk].flatMap (·.toks)) = some [66, 65, 66, 65, 66, 65] := by decide +kernel
/-- the inflater on concrete bytes, by the theorem (the C06 check runs the compiled inflater on
    such bytes: `deflenc` cases `rle-*`) -/
example : Inflate.inflateAllSafe 9 (encMsg (fun _ => Kind.rleOf sampleLitLens sampleDistLens) [rleBlk] ++ TAIL) =
    some [65, 66, 65, 66, 65, 66] :=
  inflate_expand_rle (fun _ => sampleLitLens) (fun _ => sampleDistLens) 9 2 (by decide) [rleBlk] (by decide)
    [66, 65, 66, 65, 66, 65] (by decide +kernel)
/-- that message really has a run-length coded header (19 bytes; 145 with `Kind.dyn`) -/
example : bodyBits 0 (Kind.rleOf sampleLitLens sampleDistLens) rleBlk =
    dynBitsR rleBlk.final clDefault 19 sampleLitLens.length (rle (sampleLitLens ++ sampleDistLens))
      (sampleLitLens ++ sampleDistLens) rleBlk.toks :=
  rle_block_written 0 clDefault 19 sampleLitLens.length (rle (sampleLitLens ++ sampleDistLens)) rleBlk _
    (by rw [rleOf_is_dynamic]; decide +kernel) (rle_lossless _)
example : (encMsg (fun _ => Kind.rleOf sampleLitLens sampleDistLens) [rleBlk]).length = 19 ∧
    (encMsg (fun _ => .dyn sampleLitLens sampleDistLens) [rleBlk]).length = 145 := by decide +kernel

/-- **Lossless peer → client with run-length coded dynamic blocks (repaired code).**  Any peer
    compressor honouring the negotiated window, any message history, each message's tokens cut
    into any blocks, each block written as a dynamic block with the run-length coded header of the
    code lengths `ll b`, `dl b` (fixed-Huffman when these are not `dynOk` for it): the client delivers
    every message exactly.  (Instance of `lossless_any_blocks_repaired`.) -/
theorem lossless_rle_blocks_repaired (ll dl : Blk → List Nat) (d : Http.DeflateCfg)
    (c : Compressor (2 ^ d.decompressWbits)) (peerResets : Bool) (hk : peerResets = false → d.resetDecompress = false)
    (msgs : List Bytes) (bs : List (List Blk))
    (hbs : bs.map (fun m => m.flatMap (·.toks)) = senderTokens c peerResets [] msgs) (hok : HistOk bs)
    (s : Sys) (hd : s.compression = some d) (hh : s.inflHist = []) (ho : s.inflOut = 0)
    (hi : s.cfg.inflate = Inflate.inflateAllSafe) :
    feedMsgs (bs.map (encMsg (fun b => Kind.rleOf (ll b) (dl b)))) s = some msgs :=
  lossless_any_blocks_repaired _ d c peerResets hk msgs bs hbs hok s hd hh ho hi

/-- the history of `C06.sampleBlocks` (four messages through `echoCompressor`, BFINAL=1 blocks
    inside), every block with the run-length coded header of `sampleLens2` / `[0, 0, 1, 1]` -/
example (r : React) :
    feedMsgs (sampleBlocks.map (encMsg (fun b => Kind.rleOf sampleLens2 [0, 0, 1, 1])))
      { cfg := { inflate := Inflate.inflateAllSafe }, react := r, env := [],
        compression := some { decompressWbits := 9, compressWbits := 15, resetDecompress := false, resetCompress := false } }
      = some sampleMsgs :=
  lossless_rle_blocks_repaired (fun _ => sampleLens2) (fun _ => [0, 0, 1, 1]) _ (echoCompressor (2 ^ 9)) false (fun _ => rfl)
    sampleMsgs sampleBlocks (by decide) (by decide) _ rfl rfl rfl rfl
/-- … all six blocks are really written so -/
example : (sampleBlocks.flatMap id).map (fun b => rleOk clDefault 19 sampleLens2.length (rle (sampleLens2 ++ [0, 0, 1, 1])) b.toks) =
    [true, true, true, true, true, true] := by
  simp only [rleOf_is_dynamic]
  decide +kernel

end Lomond.C06
