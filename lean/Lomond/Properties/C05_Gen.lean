/-
  C05 companion — which payloads the hand-written parser model validates as UTF-8 while it reads
  them, and when it forgets / resets that state, are what frame_parser.py says.

  `Lomond.Gen.Code.parseReader` is produced by harness/py2lean.py, on every check run, from the
  two statements of `FrameParser.parse` that follow validation (`if frame.is_text: self._is_text =
  True; self._is_compressed = bool(frame.rsv1)` and `if payload_length: … read_text / read`),
  `parseReadText` from `FrameParser.read_text` (raw read iff compression was negotiated and the
  message is compressed), `parserOnFrame` from `FrameParser.on_frame` (validator reset, `_is_text`
  cleared) and `frameIsText` / `frameIsContinuation` from the `Frame` properties.
  The theorems state that `Core.gotMask` chooses the payload reader, and `Core.frameDone` updates
  the text state, exactly as these definitions do (for the repaired variant flags).
  Theorems only; helpers are in `Proofs/GenTie`.
-/
import Lomond.Proofs.GenTie
import Lomond.Generated.Code

namespace Lomond.C05Gen
open Lomond Lomond.Core Lomond.GenTie
open Lomond.Gen.Code

/-- `Frame.is_text` / `Frame.is_continuation` -/
theorem gen_isText (f : Frame) : f.isText = frameIsText f.opcode := rfl

theorem gen_isContinuation (f : Frame) : f.isContinuation = frameIsContinuation f.opcode := rfl

/-- `read_text`: the raw reader (1) exactly when compression is on and the current message is
    compressed, else the validating reader (2) -/
theorem gen_readText (compression isCompressed : Bool) :
    parseReadText compression isCompressed = if compression ∧ isCompressed then 1 else 2 := by
  simp only [parseReadText, Bool.and_eq_true]

/-- What the translated statements compute: a text frame sets `_is_text` and records its RSV1;
    an empty payload is not read at all; a text frame's payload, and a continuation frame's while
    `_is_text` holds, goes through `read_text`; every other payload is read raw. -/
theorem gen_reader_spec (op rsv1 len : Nat) (isText isCompressed compression : Bool) :
    parseReader op rsv1 len isText isCompressed compression =
      (let isText' := if op = Gen.opText then true else isText
       let isCompressed' := if op = Gen.opText then decide (rsv1 ≠ 0) else isCompressed
       let textual : Bool := decide (op = Gen.opText) || (decide (op = Gen.opContinuation) && isText')
       ((if len = 0 then 0 else if textual then (if compression ∧ isCompressed' then 1 else 2) else 1),
        isText', isCompressed')) := by
  unfold parseReader frameIsText frameIsContinuation
  by_cases h1 : op = Gen.opText <;> by_cases hl : len = 0 <;> simp [gen_readText, h1, hl]
  split <;> rfl

private theorem reader_ne_zero (P : Prop) [Decidable P] : ((if P then 1 else 2 : Nat) = 0) = False := by
  by_cases hP : P <;> simp [hP]

/-- `Core.gotMask` after validation is the translated code: it updates `_is_text` /
    `_is_compressed`, and either finishes the frame at once (no payload) or asks for the payload
    with incremental UTF-8 validation switched on exactly when the source picks `read_utf8`. -/
theorem gen_gotMask (v : Variant) (hv : v.perMsgValidate = true) (p : PState) (b0 len : Nat) (key : Option Bytes) :
    gotMask v p b0 len key =
      (let f : Frame := { opcode := b0 % 16, payload := [], fin := b0 / 128, rsv1 := b0 / 64 % 2,
                          rsv2 := b0 / 32 % 2, rsv3 := b0 / 16 % 2, mask := key.isSome, maskingKey := key }
       match validateFrame v p.compression f len with
       | .error x => .error x
       | .ok () =>
         let r := parseReader f.opcode f.rsv1 len p.isText p.isCompressed p.compression
         let p' : PState := { p with isText := r.2.1, isCompressed := r.2.2 }
         if r.1 = 0 then frameDone v p' f
         else .ok ({ p' with cont := .payload f, remPred := len - 1, utf8 := decide (r.1 = 2), buf := [] }, none)) := by
  unfold gotMask
  simp only [gen_reader_spec, hv, if_true]
  cases validateFrame v p.compression _ len with
  | error x => rfl
  | ok u =>
    cases u
    simp only [gen_isText, gen_isContinuation, frameIsText, frameIsContinuation, Gen.opText, Gen.opContinuation]
    -- no payload; a text frame (the reader depends on RSV1); any other frame (textual iff a
    -- continuation frame while `_is_text` holds)
    by_cases hl : len = 0
    · by_cases h1 : b0 % 16 = 1 <;> simp [h1, hl]
    by_cases h1 : b0 % 16 = 1
    · by_cases hr : b0 / 64 % 2 = 0 <;> simp [h1, hl, hr, reader_ne_zero]
    · by_cases h0 : b0 % 16 = 0 <;> cases ht : p.isText <;> simp [h1, h0, hl, ht, reader_ne_zero]

example : parseReader 1 0 5 false false true = (2, true, false) := rfl
example : parseReader 1 1 5 false false true = (1, true, true) := rfl
example : parseReader 1 1 5 false false false = (2, true, true) := rfl
example : parseReader 0 0 5 true false true = (2, true, false) := rfl
example : parseReader 0 0 5 false false true = (1, false, false) := rfl
example : parseReader 2 0 5 true false true = (1, true, false) := rfl
example : parseReader 1 0 0 false false true = (0, true, false) := rfl

/-- What the translated `on_frame` computes: the validator is reset after the final frame of a
    text message (or a final continuation frame) unless the message is a compressed one;
    `_is_text` is cleared by a final *data* frame only (control frames leave it alone: D2). -/
theorem gen_onFrame_spec (compression isCompressed isText : Bool) (fin op : Nat) :
    parserOnFrame compression isCompressed isText fin op =
      (decide (¬ (compression ∧ isCompressed) ∧ fin ≠ 0 ∧ (op = Gen.opText ∨ op = Gen.opContinuation)),
       if fin ≠ 0 ∧ ¬ op ≥ 8 then false else isText) := by
  unfold parserOnFrame frameIsText frameIsContinuation frameIsControl
  by_cases hf : fin = 0 <;> by_cases h8 : op ≥ 8 <;> simp [hf, h8]
  -- `fin ≠ 0` is left: the reset flag is the truth value of the source's condition
  all_goals split <;> simp_all

/-- `Core.frameDone` (the `ClientFrameParser.on_frame` call and the `yield frame`) is the
    translated mask guard followed by the translated `FrameParser.on_frame`: same error, same
    validator reset, same `_is_text`. -/
theorem gen_frameDone (v : Variant) (hv : v.perMsgValidate = true) (hk : v.keepIsText = true)
    (p : PState) (f : Frame) :
    frameDone v p f =
      match clientOnFrameGuard f.mask with
      | .error e => .error (exnOf e)
      | .ok _ =>
        let r := parserOnFrame p.compression p.isCompressed p.isText f.fin f.opcode
        .ok ({ p with cont := .hdr2, remPred := 1, utf8 := false, buf := [],
                      dfa := if r.1 then 0 else p.dfa, isText := r.2 }, some (.frame f)) := by
  unfold frameDone clientOnFrameGuard
  cases hm : f.mask
  · simp only [gen_onFrame_spec, hv, hk, gen_isText, gen_isContinuation, frameIsText, frameIsContinuation,
      Frame.isControl, decide_eq_true_eq, Bool.false_eq_true, if_false, if_true, not_true_eq_false, false_or]
  · simp only [if_true, exnOf_protocol]

example : parserOnFrame true false true 1 0 = (true, false) := rfl
example : parserOnFrame true true true 1 0 = (false, false) := rfl
example : parserOnFrame false false true 1 9 = (false, true) := rfl
example : parserOnFrame false false true 0 1 = (false, true) := rfl
example : clientOnFrameGuard true = .error ⟨"ProtocolError", "server sent masked frame"⟩ := rfl

end Lomond.C05Gen
