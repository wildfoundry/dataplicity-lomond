/-
  C09 — transport failures become events, never exceptions or hangs.
  Property theorems only (helper lemmas: Proofs/Raises.lean, Monitor.lean, MonitorList.lean,
  Terminate.lean, RunAll.lean, SelFail.lean, Connect.lean).

  In the model every Python exception is a value of `Core.Exn`: `socketFail` (`_SocketFail`: recv
  errors, connection lost), `other` (any other `Exception`: selector errors, exceptions from `recv`
  that are not `socket.error`, ValueError from `send_pong`), `forceDisconnect`, `protocol`,
  `critical`, `parse` — and the two that are not `Exception`s: `genExit` (the consumer abandoned the
  iterator) and `scriptEnd` (model artefact: the environment script is exhausted).  Failed writes are
  values (`ActRes.transportFail`), as in the code, where `write` turns them into `TransportFail`.
  The theorems hold for every configuration (connect outcome, per-write failures `writeFails`),
  every application and every environment script, i.e. for a fault at every socket operation.
-/
import Lomond.Proofs.RunAll
import Lomond.Proofs.Terminate
import Lomond.Proofs.SelFail
import Lomond.Proofs.Connect

namespace Lomond.C09
open Lomond Lomond.Core Lomond.Core.Monitor

/-- **No exception escapes the event iterator.**  From *any* state: if `run()` ends exceptionally,
    then either the application abandoned the iterator (`GeneratorExit`, and the application is one
    that abandons), or the model's environment script ran out.  Every `Exception`-class error —
    `recv` failing or returning end-of-stream at any point, `selector.wait` raising, failed library
    writes, protocol errors, time-outs — is converted into an event. -/
theorem no_escape (s : Sys) (x : Exn) (s' : Sys) (h : run s = .err x s') :
    (x = .genExit ∧ Abandons s.react) ∨ x = .scriptEnd :=
  run_raises s h

/-- the session loop itself only ever raises what `run()`'s `except` clauses handle (plus the two
    non-`Exception`s): no `.outer` wrapper, i.e. nothing raised in `run()`'s own frame at a `yield`
    of `feed` is lost or mis-routed -/
theorem loop_raises_handled (env : List EnvStep) (s : Sys) (x : Exn) (s' : Sys) (h : loop env s = .err x s') :
    (match x with
      | .outer _ => False
      | .genExit => Abandons s'.react
      | _ => True) := by
  rcases raises_loop env s x s' h with h0 | ⟨rfl, _⟩
  · cases x <;> first | exact h0 | trivial
  · trivial

/-- **… and it never waits forever once the transport has failed**: over a script that ends with a
    transport failure `X` (EOF / socket error / other exception from `recv`, or an exception from
    `selector.wait`), `run()` returns — the only other outcome is the application abandoning it. -/
theorem returns_after_transport_failure (cfg : Cfg) (react : React) (pre : List EnvStep) (X : EnvStep)
    (hX : EnvStep.isEnd X = true) :
    (∃ s', run (initSys cfg react (pre ++ [X])) = .ok () s') ∨
    (∃ s', run (initSys cfg react (pre ++ [X])) = .err .genExit s' ∧ Abandons react) :=
  run_end_cases pre X hX (initSys cfg react (pre ++ [X])) rfl

/-- the events of a whole connection attempt, oldest first -/
def eventsOf (cfg : Cfg) (react : React) (env : List EnvStep) : List Event :=
  events (runAll cfg react env).trace

/-- **`ConnectFail` before the connection is up**: a `ConnectFail` event directly follows
    `Connecting` — no `Connected` event precedes it — and nothing follows it. -/
theorem terminal_kind_connectFail (cfg : Cfg) (react : React) (env : List EnvStep)
    (a b : List Event) (k : String) (he : eventsOf cfg react env = a ++ .connectFail k :: b) :
    (∀ p, Event.connected p ∉ a) ∧ a = [.connecting] ∧ b = [] := by
  obtain ⟨ph, h⟩ := runAll_accepted cfg react env
  change Mon.run .start (eventsOf cfg react env) = some ph at h
  rw [he] at h
  obtain ⟨ha, hb⟩ := Mon.connectFail_position h
  refine ⟨?_, ha, hb⟩
  intro p hp; rw [ha] at hp; simp at hp

/-- **`Disconnected` afterwards**: a `Disconnected` event is preceded by `Connected`, and nothing
    follows it. -/
theorem terminal_kind_disconnected (cfg : Cfg) (react : React) (env : List EnvStep)
    (a b : List Event) (k : String) (g : Bool) (he : eventsOf cfg react env = a ++ .disconnected k g :: b) :
    (∃ p, Event.connected p ∈ a) ∧ b = [] := by
  obtain ⟨ph, h⟩ := runAll_accepted cfg react env
  change Mon.run .start (eventsOf cfg react env) = some ph at h
  rw [he] at h
  exact Mon.disconnected_after_connected h

/-- when `run()` returns, the last event is the terminal one, and it is `Disconnected` exactly when
    the connection had come up (`Connected` was yielded), `ConnectFail` otherwise -/
theorem terminal_kind (cfg : Cfg) (react : React) (env : List EnvStep) (s : Sys)
    (hr : run (initSys cfg react env) = .ok () s) :
    ∃ a e, eventsOf cfg react env = a ++ [e] ∧
      (((∃ k g, e = .disconnected k g) ∧ ∃ p, Event.connected p ∈ a) ∨
       ((∃ k, e = .connectFail k) ∧ ∀ p, Event.connected p ∉ a)) := by
  have hc : Mon.complete (eventsOf cfg react env) := runAll_complete cfg react env s hr
  obtain ⟨a, e, he, ht, _⟩ := Mon.complete_ends_terminal hc
  refine ⟨a, e, he, ?_⟩
  cases e <;> simp [Event.isTerminal] at ht
  · rename_i k
    exact Or.inr ⟨⟨k, rfl⟩, (terminal_kind_connectFail cfg react env a [] k he).1⟩
  · rename_i k g
    exact Or.inl ⟨⟨k, g, rfl⟩, (terminal_kind_disconnected cfg react env a [] k g he).1⟩

/-- **The socket is closed when the terminal event is delivered.**  Whenever a socket existed
    (`_connect` succeeded), every terminal event in the trace — `ConnectFail` because the upgrade
    request could not be written, or `Disconnected` for whatever reason — is preceded by the
    `sockClose` observation (`socket.close()` was called).  (When `_connect` failed there never was a
    socket: see `no_socket_on_connect_failure`.) -/
theorem socket_closed_at_terminal (cfg : Cfg) (react : React) (env : List EnvStep) (proxy : Bool)
    (hc : cfg.connect = .ok proxy) (post pre : List Obs) (e : Event)
    (ht : (runAll cfg react env).trace = post ++ .ev e :: pre) (hterm : Event.isTerminal e = true) :
    Obs.sockClose ∈ pre :=
  termOK_split (termOK_runAll' cfg react env proxy (Or.inl hc)) post pre e ht hterm

/-- **`graceful=True` only when a side had started the closing handshake.**  Whenever
    `Disconnected(graceful=True)` is delivered, then before it either a `Closing`, `Closed` or
    `Rejected` event was delivered (the server sent a Close frame, or refused the upgrade), or the
    application called `close()` in reaction to an event history it had really been shown (`h'` is a
    suffix of the events delivered before the `Disconnected`).  Contrapositive: a transport failure
    (or anything else) while neither side had started the closing handshake gives `graceful=False`. -/
theorem graceful_only_after_close_started (cfg : Cfg) (react : React) (env : List EnvStep)
    (post pre : List Obs) (k : String)
    (ht : (runAll cfg react env).trace = post ++ .ev (.disconnected k true) :: pre) :
    (∃ e, Obs.ev e ∈ pre ∧ Event.closeCause e = true) ∨
    (∃ h', h' <:+ histOf pre ∧ ∃ c a, Act.close c a ∈ react h') := by
  rcases gracefulOK_split (gracefulOK_runAll cfg react env) post pre k ht with ⟨e, he, hc⟩ | h
  · exact Or.inl ⟨e, mem_histOf.mp he, hc⟩
  · exact Or.inr h

/-- the history shown to the application is exactly the list of events yielded (newest first), so
    `histOf` above is what `react` was applied to -/
theorem hist_is_events (cfg : Cfg) (react : React) (env : List EnvStep) :
    (runAll cfg react env).hist = histOf (runAll cfg react env).trace :=
  runAll_of_run (F := HI) cfg react env (run_spec cfg react env).2.2.1
    (fun s h => (keeps_closeSocket s).hi h) (fun _ h => h)

/-- the `else:` clause is the only place `graceful=True` comes from, and the loop ends normally only
    with the websocket closed, or at an end-of-stream that arrives while the closing handshake is
    under way -/
theorem loop_normal_end (env : List EnvStep) (s s' : Sys) (h : loop env s = .ok () s') :
    s'.closed = true ∨ s'.closing = true :=
  loop_ok_closing env s s' h

/-- a transport failure while neither side has started the closing handshake raises `_SocketFail`
    (or the other exception), never ends the loop normally: the `graceful=False` direction at the
    level of one `recv` -/
theorem recv_failure_not_graceful (o : RecvOutcome) (ho : o = .eof ∨ o = .sockErr ∨ o = .otherErr) (s : Sys)
    (hcl : s.closing = false) (hcd : s.closed = false) : ∃ x, recvStep o s = .err x s ∧
      (x = .socketFail "connection-lost" ∨ x = .socketFail "recv-fail" ∨ x = .other "error") := by
  have heof : onEof s = .err (.socketFail "connection-lost") s := by
    unfold onEof; simp [hcl, hcd]
  unfold recvStep
  split
  · exact ⟨_, heof, Or.inl rfl⟩
  · rcases ho with rfl | rfl | rfl
    · exact ⟨_, heof, Or.inl rfl⟩
    · exact ⟨_, rfl, Or.inr (Or.inl rfl)⟩
    · exact ⟨_, rfl, Or.inr (Or.inr rfl)⟩

/-! ### the selector cannot be created

  `cfg.connect = .selFail proxy`: `_connect()` returned a socket, but `self._selector_cls(sock)` — the
  first statement after the `Connected` event, inside `run()`'s `try` — raises (e.g. `OSError(EMFILE)`
  from `epoll_create`/`kqueue`).  An ordinary `Exception` inside the `try`: the `except Exception`
  clause closes the socket and yields `Disconnected('error; …')`; `finally` finds `selector is None`. -/

/-- **Failure of the selector's constructor becomes a `Disconnected` event.**  For every
    configuration with this connect outcome, every application and every environment script:
    `run()` returns normally, with the socket closed and no selector, after exactly the events
    `Connecting, Connected, Disconnected('error', graceful=False)` (or `Connecting, ConnectFail`
    when already the upgrade request could not be written, so that the selector was never asked
    for) — unless the application abandons the iterator, and then it has seen a prefix of those
    events.  No exception escapes, and the environment script is never consulted (the connection is
    never reported as waiting for more script). -/
theorem selector_failure_becomes_disconnected (cfg : Cfg) (react : React) (env : List EnvStep) (proxy : Bool)
    (hc : cfg.connect = .selFail proxy) :
    (∃ s', run (initSys cfg react env) = .ok () s' ∧ s'.sockOpen = false ∧ s'.selOpen = false ∧
      (eventsOf cfg react env = [.connecting, .connected proxy, .disconnected "error" false] ∨
       eventsOf cfg react env = [.connecting, .connectFail "request-failed"])) ∨
    (∃ s', run (initSys cfg react env) = .err .genExit s' ∧ Abandons react ∧
      (eventsOf cfg react env <+: [.connecting, .connected proxy, .disconnected "error" false] ∨
       eventsOf cfg react env <+: [.connecting, .connectFail "request-failed"])) := by
  have hev : eventsOf cfg react env = events (run (initSys cfg react env)).state.trace := runAll_events cfg react env
  have hem := tri_run_selFail cfg react env hc _ rfl
  have hns := run_noSelector cfg react env (fun p h => by rw [hc] at h; cases h)
  rcases run_selFail_outcome proxy cfg react env hc with ⟨s', hr, hs⟩ | ⟨s', hr, ha⟩
  · rw [hr] at hem hns hev
    rw [hev]
    exact Or.inl ⟨s', hr, hs, hns.1, hem⟩
  · rw [hr] at hem hev
    rw [hev]
    exact Or.inr ⟨s', hr, ha, hem⟩

/-- **… and it is never reported as graceful, nor as anything but `error`**: whatever the application
    does, every `Disconnected` event of such a connection is `Disconnected('error', graceful=False)`,
    and it is preceded by `Connected`. -/
theorem selector_failure_not_graceful (cfg : Cfg) (react : React) (env : List EnvStep) (proxy : Bool)
    (hc : cfg.connect = .selFail proxy) (k : String) (g : Bool)
    (hd : Event.disconnected k g ∈ eventsOf cfg react env) :
    k = "error" ∧ g = false ∧ Event.connected proxy ∈ eventsOf cfg react env := by
  have key : ∀ L : List Event, L <+: [.connecting, .connected proxy, .disconnected "error" false] →
      Event.disconnected k g ∈ L → k = "error" ∧ g = false ∧ Event.connected proxy ∈ L := by
    intro L hL hm
    have hm' := hL.subset hm
    simp only [List.mem_cons, List.not_mem_nil, or_false, Event.disconnected.injEq, reduceCtorEq, false_or] at hm'
    obtain ⟨rfl, rfl⟩ := hm'
    refine ⟨rfl, rfl, ?_⟩
    rcases L with _ | ⟨a, _ | ⟨b, _ | ⟨c, L⟩⟩⟩
    · cases hm
    · simp only [List.cons_prefix_cons, List.nil_prefix, and_true] at hL
      subst hL; simp at hm
    · simp only [List.cons_prefix_cons, List.nil_prefix, and_true] at hL
      obtain ⟨rfl, rfl⟩ := hL; simp at hm
    · simp only [List.cons_prefix_cons] at hL
      obtain ⟨rfl, rfl, _⟩ := hL; simp
  have key2 : ∀ L : List Event, L <+: [.connecting, .connectFail "request-failed"] →
      Event.disconnected k g ∉ L := by
    intro L hL hm
    have hm' := hL.subset hm
    simp at hm'
  rcases selector_failure_becomes_disconnected cfg react env proxy hc with ⟨_, _, _, _, h | h⟩ | ⟨_, _, _, h | h⟩
  · exact key _ (h ▸ List.prefix_refl _) hd
  · exact absurd hd (key2 _ (h ▸ List.prefix_refl _))
  · exact key _ h hd
  · exact absurd hd (key2 _ h)

/-- **The socket is closed when the terminal event is delivered, also when the selector could not be
    created**: `socket_closed_at_terminal` for the connect outcome `.selFail` — `Disconnected('error')`
    (or `ConnectFail('request-failed')`) is preceded by the `sockClose` observation. -/
theorem socket_closed_at_terminal_selector_failure (cfg : Cfg) (react : React) (env : List EnvStep) (proxy : Bool)
    (hc : cfg.connect = .selFail proxy) (post pre : List Obs) (e : Event)
    (ht : (runAll cfg react env).trace = post ++ .ev e :: pre) (hterm : Event.isTerminal e = true) :
    Obs.sockClose ∈ pre :=
  termOK_split (termOK_runAll' cfg react env proxy (Or.inr hc)) post pre e ht hterm

/-- non-vacuity: the whole trace of such a connection — request written, `Connected`, socket closed,
    `Disconnected('error')`; no `selClose`, and the script (here: an EOF) is never looked at -/
example : (runAll { connect := .selFail false } (fun _ => []) [.wait 1 (some .eof)]).trace =
    [.ev (.disconnected "error" false), .sockClose, .ev (.connected false), .wr [], .ev .connecting] := by
  decide +kernel

/-- … an application that stops iterating at `Connected`: a strict prefix of the events -/
example : eventsOf { connect := .selFail true } (fun h => if h.length = 2 then [.abandon false] else []) [] =
    [.connecting, .connected true] := by decide +kernel

/-- … and the upgrade request cannot be written: `ConnectFail`, the selector is never asked for -/
example : eventsOf { connect := .selFail false, writeFails := fun k => k == 0 } (fun _ => []) [] =
    [.connecting, .connectFail "request-failed"] := by decide +kernel

/-- **Application send calls report transport trouble only as `WebSocketError` subclasses.**  In any
    state (socket gone, websocket closing or closed, `sendall` raising, …) a send call made by the
    application never raises anything else: its outcome is success, `TypeError`/`ValueError` for bad
    arguments, or a `WebSocketError`; it is recorded and the iteration goes on. -/
theorem app_errors_are_ws_errors (a : Act) (ha : isSend a = true) (s : Sys) :
    ∃ (r : ActRes) (s1 : Sys), doAct a s = .ok () { s1 with trace := .res r :: s1.trace } ∧ sendOutcomeOK r := by
  rcases doAct_elim (P := fun m => Monitor.NoRaise m ∧ ∀ r s1, m s = .ok r s1 → sendOutcomeOK r) a
    (fun r0 h0 => ⟨Monitor.noRaise_pure _, fun r s1 h => by
      cases h; rcases h0 with rfl | rfl
      · exact .inr (.inr (.inl rfl))
      · exact .inr (.inl rfl)⟩)
    (fun op pl c _ => ⟨Monitor.noRaise_sendData _ _ _, fun r s1 h => by
      unfold sendData at h; split at h <;> exact sendFrame_outcome h⟩)
    (fun op pl _ _ => ⟨Monitor.noRaise_sendFrame _ _ _, fun _ _ h => sendFrame_outcome h⟩)
    (fun c r h => by subst h; cases ha) (fun h => by subst h; cases ha) with ⟨w, rfl⟩ | ⟨m, e, hn, hm⟩
  · cases ha
  · cases hms : m s with
    | err x s1 => exact absurd hms (hn s x s1)
    | ok r s1 => exact ⟨r, s1, by rw [e]; exact logRes_ok hms, hm r s1 hms⟩

/-- when `_connect` fails `run()` ends without a socket: the socket flag is down in its final state
    (the events are `Connecting`, `ConnectFail`: `terminal_kind_connectFail`) -/
theorem no_socket_on_connect_failure (cfg : Cfg) (react : React) (env : List EnvStep)
    (hc : cfg.connect = .socketFail ∨ cfg.connect = .otherFail) :
    (run (initSys cfg react env)).state.sockOpen = false := by
  unfold run
  have st := step_yieldEv .connecting (initSys cfg react env)
  cases hy : yieldEv .connecting (initSys cfg react env) with
  | err x s1 => rw [hy] at st; rw [bind_err hy]; exact st.sockMono rfl
  | ok u s1 =>
    rw [hy] at st; simp only [Res.state_ok] at st
    rw [bind_ok hy, getS_bind]
    have hcfg : s1.cfg.connect = cfg.connect := by rw [st.cfg]; rfl
    rcases hc with hc | hc
    · rw [hcfg, hc]; exact (step_yieldEv _ s1).sockMono (st.sockMono rfl)
    · rw [hcfg, hc]; exact (step_yieldEv _ s1).sockMono (st.sockMono rfl)

/-! ### the per-address connect loop (`_connect_sock`, Model/Connect.lean) -/

open Lomond.Connect in
/-- **Each address is tried before giving up.**  For every `getaddrinfo` outcome and every outcome
    per resolved address: `_connect_sock` fails (`_SocketFail`, which `run()` turns into `ConnectFail`)
    iff the name does not resolve or *no* address connects; otherwise it returns the socket of the
    *first* address that connects.  `socket()` is called for the addresses `0, 1, …` in order, each
    once, up to and including the first that connects (all of them when none does); and a socket is
    closed exactly when its `connect()` failed. -/
theorem all_addresses_tried (gai : Option (List AddrOutcome)) :
    ((connectSock gai).1 = .fail ↔ (gai = none ∨ ∃ addrs, gai = some addrs ∧ ∀ a ∈ addrs, a ≠ .ok)) ∧
    (∀ i, (connectSock gai).1 = .sock i ↔
      ∃ addrs, gai = some addrs ∧ addrs[i]? = some .ok ∧ ∀ j, j < i → addrs[j]? ≠ some .ok) ∧
    (∀ addrs, gai = some addrs →
      (connectSock gai).2.filterMap Call.socketIdx? = List.range (tried addrs) ∧
      tried addrs ≤ addrs.length ∧
      ((connectSock gai).1 = .fail → tried addrs = addrs.length) ∧
      ∀ j, Call.close j ∈ (connectSock gai).2 ↔ (j < tried addrs ∧ addrs[j]? = some .connectFail)) := by
  cases gai with
  | none =>
    refine ⟨⟨fun _ => Or.inl rfl, fun _ => rfl⟩, fun i => ⟨fun h => (by cases h), fun ⟨_, h, _⟩ => (by cases h)⟩,
      fun addrs h => (by cases h)⟩
  | some addrs =>
    have hsock := attempt_sockets 0 addrs
    have hclose := attempt_close 0 addrs
    simp only [Nat.add_zero, List.map_id'] at hsock hclose
    rw [connectSock_some]
    simp only [Option.some.injEq, reduceCtorEq, false_or, exists_eq_left', forall_eq']
    refine ⟨?_, fun i => ?_, hsock, tried_le _, ?_, hclose⟩
    · rw [← firstOk_none]; cases firstOk addrs <;> simp
    · rw [← firstOk_some_iff]; cases firstOk addrs <;> simp
    · unfold tried; cases firstOk addrs <;> simp

/-- non-vacuity: three addresses — refused, `socket()` fails, connects: the third socket is returned,
    all three were tried in order, the refused one was closed -/
example : Connect.connectSock (some [.connectFail, .sockCreateFail, .ok]) =
    (.sock 2, [.socket 0, .connect 0, .close 0, .socket 1, .socket 2, .connect 2]) := by decide
example : Connect.connectSock (some [.connectFail, .connectFail]) =
    (.fail, [.socket 0, .connect 0, .close 0, .socket 1, .connect 1, .close 1]) := by decide
example : Connect.connectSock none = (.fail, []) := by decide

/-! Non-vacuity: faults at the individual socket operations, on a concrete connection. -/

def exReply : Bytes :=
  [72, 84, 84, 80, 47, 49, 46, 49, 32, 49, 48, 49, 32, 88, 13, 10, 85, 112, 103, 114, 97, 100, 101, 58, 32, 119,
   101, 98, 115, 111, 99, 107, 101, 116, 13, 10, 83, 101, 99, 45, 87, 101, 98, 83, 111, 99, 107, 101, 116, 45, 65,
   99, 99, 101, 112, 116, 58, 32, 107, 13, 10, 13, 10]
def exCfg : Cfg := { challenge := [107] }

/-- `recv` raises a socket error in the middle of a frame (after the upgrade and half a Text frame):
    `Disconnected(graceful=False)`, preceded by the socket close -/
example : (runAll exCfg (fun _ => []) [.wait 0 (some (.data (exReply ++ [0x81, 2, 104]))), .wait 0 (some .sockErr)]).trace =
    [.selClose, .ev (.disconnected "recv-fail" false), .sockClose, .ev .poll, .ev (.ready none false),
     .ev (.connected false), .wr [], .ev .connecting] := by decide +kernel

/-- `selector.wait` raises; an arbitrary exception from `recv`; EOF before the upgrade reply -/
example : eventsOf exCfg (fun _ => []) [.selErr] =
    [.connecting, .connected false, .disconnected "error" false] := by decide +kernel
example : eventsOf exCfg (fun _ => []) [.wait 0 (some .otherErr)] =
    [.connecting, .connected false, .disconnected "error" false] := by decide +kernel
example : eventsOf exCfg (fun _ => []) [.wait 0 (some .eof)] =
    [.connecting, .connected false, .disconnected "connection-lost" false] := by decide +kernel

/-- the write of the upgrade request fails: `ConnectFail`, socket closed first -/
example : (runAll { exCfg with writeFails := fun k => k == 0 } (fun _ => []) []).trace =
    [.ev (.connectFail "request-failed"), .sockClose, .wrFail [], .ev .connecting] := by decide +kernel

/-- the automatic pong cannot be written (second `sendall` fails): the failure is swallowed as
    `TransportFail`, the Ping is still delivered, and the EOF that follows gives `graceful=False` -/
example : (runAll { exCfg with writeFails := fun k => k == 1 } (fun _ => [])
      [.wait 0 (some (.data (exReply ++ [0x89, 1, 112]))), .wait 0 (some .eof)]).trace =
    [.selClose, .ev (.disconnected "connection-lost" false), .sockClose, .ev (.ping [112]), .wrFail [138, 129, 0, 0, 0, 0, 112],
     .ev .poll, .ev (.ready none false), .ev (.connected false), .wr [], .ev .connecting] := by decide +kernel

/-- an application send on a broken transport reports `TransportFail` (a WebSocketError), nothing else -/
example : (runAll { exCfg with writeFails := fun k => k == 1 }
      (fun h => if h.length = 3 then [.sendText (.str [104]) false] else [])
      [.wait 0 (some (.data exReply)), .wait 0 (some .eof)]).trace =
    [.selClose, .ev (.disconnected "connection-lost" false), .sockClose, .ev .poll, .res .transportFail,
     .wrFail [129, 129, 0, 0, 0, 0, 104], .ev (.ready none false), .ev (.connected false), .wr [], .ev .connecting] := by
  decide +kernel

/-- graceful: the application closes, the server answers with EOF instead of a Close frame -/
example : eventsOf exCfg (fun h => if h.length = 3 then [.close (some 1000) (.bytes [])] else [])
      [.wait 0 (some (.data exReply)), .wait 0 (some .eof)] =
    [.connecting, .connected false, .ready none false, .poll, .disconnected "closed" true] := by decide +kernel

end Lomond.C09
