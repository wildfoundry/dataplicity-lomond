/-
  C05, end to end — a text message in any fragmentation is delivered iff it is strictly valid UTF-8, and an
  invalid one is refused at the first byte that makes it unsalvageable.  Setting as in
  `C01E2E.connection_delivers` (any segmentation of the reads, no extension negotiated), with the repaired
  `_is_text` bookkeeping (`keepIsText = true`, finding D2 — with the pinned behaviour a Ping between two
  fragments switches the validation off, see `C05.present_variant_ping_clears_text_state`).  The message
  follows any conforming prefix `items` (C01); nothing is assumed about its bytes.
  Helper lemmas: Proofs/EndToEnd.lean, Proofs/EndToEndText.lean, Proofs/EndToEndTextCut.lean.
-/
import Lomond.Proofs.EndToEndTextCut
import Lomond.Properties.C01_E2E
import Lomond.Properties.C05
import Lomond.Proofs.StrLit

namespace Lomond.C05E2E
open Lomond Lomond.Core Lomond.Core.E2E

/-- the message is a text message and its frames are legal (length forms fit, control payloads
    ≤ 125); its payload bytes are arbitrary -/
def Framed (m : DataMsg) : Prop := m.text = true ∧ m.first.Ok ∧ contOk m.rest

/-- the Ping/Pong events of the control frames sent between the fragments, in wire order -/
def ctrlEvents (m : DataMsg) : List Event := (contCtrls m.rest).map CtrlF.event

/-- what every connection starts with -/
def handshakeEvents (proxy : Bool) (proto : Option Http.Str) : List Event :=
  [.connecting, .connected proxy, .ready proto false, .poll]

def isPE : Event → Bool
  | .protocolError _ _ => true
  | _ => false

def isText : Event → Bool
  | .text _ => true
  | _ => false

/-- a critical error in the first bytes after the handshake (no extension) is reported once and ends the
    connection: `E2E.run_ready_critical` in the terms of this file -/
theorem invalid_tail {cfg : Cfg} {react : React} {proxy : Bool} {proto : Option Http.Str}
    (hs : Setup cfg react proxy) {reply : Bytes} (hreply : GoodReply cfg reply proto)
    (chunks : List Bytes) (stream : Bytes) (restEnv : List EnvStep) (hne : ∀ c ∈ chunks, c ≠ [])
    (hflat : chunks.flatten = reply ++ stream) (X : List Event) (P : String → Prop)
    (hv : ∀ s4, AtReady cfg react proxy proto s4 → ∃ x s1 msg,
        feedLoop stream s4 = .err x s1 ∧ violationOf x = some (msg, true) ∧ I s1 ∧
        Monitor.histOf s1.trace = X.reverse ++ Monitor.histOf s4.trace ∧ P msg) :
    ∃ msg, P msg ∧ Monitor.events (runAll cfg react (reads chunks ++ restEnv)).trace =
      handshakeEvents proxy proto ++ X ++ [.protocolError msg true, .disconnected "forced" false] :=
  run_ready_critical hs hreply.toG chunks stream restEnv hne hflat X P (fun s4 h4 => hv s4 h4.toReady)

/-- **Verdict.**  After any conforming prefix `items` (C01), a text message sent in any
    fragmentation, with Ping/Pong frames between the fragments, in any segmentation of the reads:
    * if the joined payload is well-formed UTF-8 (RFC 3629), the application sees the interleaved
      control events and then exactly one `Text` event carrying the exact decoding of the payload
      (the connection then goes on; here it ends with the end of stream);
    * otherwise it sees a prefix `ces` of the control events — those completed before the
      offending fragment —, then exactly one critical `ProtocolError`, then
      `Disconnected('forced', graceful=False)`: no `Text` event for this message. -/
theorem text_verdict (cfg : Cfg) (react : React) (proxy : Bool) (proto : Option Http.Str)
    (hs : Setup cfg react proxy) (hk : cfg.v.keepIsText = true)
    (reply : Bytes) (hreply : GoodReply cfg reply proto)
    (items : List Item) (hok : ∀ it ∈ items, it.Ok) (m : DataMsg) (hm : Framed m)
    (chunks : List Bytes) (hne : ∀ c ∈ chunks, c ≠ [])
    (hflat : chunks.flatten = reply ++ (wireBytes (items.flatMap Item.wire) ++ wireBytes m.wire))
    (dt : Nat) (hpt : cfg.pingTimeout = 0 ∨ dt ≤ cfg.pingTimeout) (hct : cfg.closeTimeout = 0 ∨ dt < cfg.closeTimeout) :
    (Utf8.wf m.payload = true → ∃ cps, Utf8.decode m.payload = some cps ∧
      Monitor.events (runAll cfg react (reads chunks ++ [.wait dt (some .eof)])).trace =
        handshakeEvents proxy proto ++ items.flatMap Item.events ++ ctrlEvents m ++ [.text cps] ++
          (if cfg.poll ≤ dt then [.poll] else []) ++ [.disconnected "connection-lost" false]) ∧
    (Utf8.wf m.payload = false → ∃ ces msg, ces <+: ctrlEvents m ∧
      Monitor.events (runAll cfg react (reads chunks ++ [.wait dt (some .eof)])).trace =
        handshakeEvents proxy proto ++ (items.flatMap Item.events ++ ces) ++
          [.protocolError msg true, .disconnected "forced" false]) := by
  obtain ⟨ht, hfirst, hrest⟩ := hm
  obtain ⟨hgood, hbad⟩ := text_verdict_after_prefix hs hk (Or.inr rfl) hreply.toG
    (Prefix.items cfg react proxy proto none items hok) m ht hfirst hrest [] chunks hne (by rw [hflat]; simp)
  constructor
  · intro hwf
    obtain ⟨cps, hcps, h⟩ := hgood hwf
    refine ⟨cps, hcps, ?_⟩
    rw [h [] (by simp) rfl dt hpt hct]
    simp [handshakeEvents, ctrlEvents]
  · intro hwf
    obtain ⟨ces, msg, hp, h⟩ := hbad hwf
    exact ⟨ces, msg, hp, h _⟩

/-- a Ping/Pong event is neither a Text nor a ProtocolError event -/
theorem ctrl_event_cases (c : CtrlF) : isText c.event = false ∧ isPE c.event = false := by
  unfold CtrlF.event; cases c.pong <;> simp [isText, isPE]

/-- … hence so is every event of a prefix of the message's control events -/
theorem prefix_ctrl {ces : List Event} {m : DataMsg} (h : ces <+: ctrlEvents m) :
    ∀ e ∈ ces, isText e = false ∧ isPE e = false := by
  intro e he
  obtain ⟨t, ht⟩ := h
  have : e ∈ ctrlEvents m := by rw [← ht]; exact List.mem_append_left _ he
  obtain ⟨c, _, rfl⟩ := List.mem_map.mp this
  exact ctrl_event_cases c

/-- **Exactly one Text iff well-formed; otherwise exactly one critical ProtocolError and no Text.** -/
theorem text_iff_wf (cfg : Cfg) (react : React) (proxy : Bool) (proto : Option Http.Str)
    (hs : Setup cfg react proxy) (hk : cfg.v.keepIsText = true)
    (reply : Bytes) (hreply : GoodReply cfg reply proto)
    (m : DataMsg) (hm : Framed m)
    (chunks : List Bytes) (hne : ∀ c ∈ chunks, c ≠ []) (hflat : chunks.flatten = reply ++ wireBytes m.wire)
    (dt : Nat) (hpt : cfg.pingTimeout = 0 ∨ dt ≤ cfg.pingTimeout) (hct : cfg.closeTimeout = 0 ∨ dt < cfg.closeTimeout) :
    (Utf8.wf m.payload = true → ∃ cps, Utf8.decode m.payload = some cps ∧
      (Monitor.events (runAll cfg react (reads chunks ++ [.wait dt (some .eof)])).trace).filter isText = [.text cps] ∧
      (Monitor.events (runAll cfg react (reads chunks ++ [.wait dt (some .eof)])).trace).filter isPE = []) ∧
    (Utf8.wf m.payload = false →
      (Monitor.events (runAll cfg react (reads chunks ++ [.wait dt (some .eof)])).trace).filter isText = [] ∧
      ∃ msg, (Monitor.events (runAll cfg react (reads chunks ++ [.wait dt (some .eof)])).trace).filter isPE
        = [.protocolError msg true]) := by
  obtain ⟨hgood, hbad⟩ := text_verdict cfg react proxy proto hs hk reply hreply [] (by simp) m hm chunks hne
    (by rw [hflat]; simp [wireBytes]) dt hpt hct
  simp only [List.flatMap_nil, List.append_nil, List.nil_append] at hgood hbad
  have hfilt : ∀ (l : List Event) (p : Event → Bool), (∀ e ∈ l, p e = false) → l.filter p = [] := by
    intro l p h
    exact List.filter_eq_nil_iff.mpr (fun e he => by rw [h e he]; simp)
  have hctl : ∀ e ∈ ctrlEvents m, isText e = false ∧ isPE e = false := prefix_ctrl (List.prefix_refl _)
  have hpoll : ∀ p : Event → Bool, p .poll = false → (if cfg.poll ≤ dt then [Event.poll] else []).filter p = [] := by
    intro p hp
    split
    · simp [hp]
    · rfl
  constructor
  · intro hwf
    obtain ⟨cps, hcps, hev⟩ := hgood hwf
    refine ⟨cps, hcps, ?_, ?_⟩
    · rw [hev]
      simp only [List.filter_append, hfilt (ctrlEvents m) isText (fun e he => (hctl e he).1), hpoll isText rfl]
      rfl
    · rw [hev]
      simp only [List.filter_append, hfilt (ctrlEvents m) isPE (fun e he => (hctl e he).2), hpoll isPE rfl]
      rfl
  · intro hwf
    obtain ⟨ces, msg, hpre, hev⟩ := hbad hwf
    have hces := prefix_ctrl hpre
    refine ⟨?_, msg, ?_⟩
    · rw [hev]
      simp only [List.filter_append, hfilt ces isText (fun e he => (hces e he).1)]
      rfl
    · rw [hev]
      simp only [List.filter_append, hfilt ces isPE (fun e he => (hces e he).2)]
      rfl

/-- **Fail-fast, at byte granularity.**  The fragment `w` of the message (`CutAt`: `before` are the
    complete frames in front of it, `done` the text bytes they carry, `evs` the control events they
    complete) has the payload `a ++ b :: c`, where `done ++ a` still admits a well-formed
    continuation and `done ++ a ++ [b]` admits none — `b` is the first offending byte of the message
    (C05 `validate_verdict`: the shortest prefix of the joined payload without well-formed
    extension).  Then the server's bytes **up to and including `b`** — `before`, the header of `w`
    and `a ++ [b]`, in any segmentation — already make the client raise: the events are the
    handshake, `evs`, one critical `ProtocolError('invalid utf8')` and
    `Disconnected('forced', graceful=False)`; neither `c`, nor the later fragments, nor anything
    else (`restEnv` is arbitrary and never consulted) needs to arrive. -/
theorem failfast_message (cfg : Cfg) (react : React) (proxy : Bool) (proto : Option Http.Str)
    (hs : Setup cfg react proxy) (hk : cfg.v.keepIsText = true)
    (reply : Bytes) (hreply : GoodReply cfg reply proto)
    (items : List Item) (hok : ∀ it ∈ items, it.Ok) (m : DataMsg) (hm : Framed m)
    (before after : List WFrame) (w : WFrame) (done : Bytes) (evs : List Event)
    (hcut : CutAt m before w after done evs)
    (a : Bytes) (b : Nat) (c : Bytes) (hpl : w.payload = a ++ b :: c)
    (hbytes : Bytes.WF (done ++ a ++ [b]))
    (hgood : ∃ ext, Utf8.wf (done ++ a ++ ext) = true)
    (hbad : ∀ ext, Utf8.wf (done ++ a ++ [b] ++ ext) = false)
    (chunks : List Bytes) (hne : ∀ c ∈ chunks, c ≠ [])
    (hflat : chunks.flatten =
      reply ++ ((wireBytes (items.flatMap Item.wire) ++ wireBytes before) ++ partialBytes w (a.length + 1)))
    (restEnv : List EnvStep) :
    Monitor.events (runAll cfg react (reads chunks ++ restEnv)).trace =
      handshakeEvents proxy proto ++ (items.flatMap Item.events ++ evs) ++
        [.protocolError "invalid utf8" true, .disconnected "forced" false] := by
  obtain ⟨ht, hfirst, hrest⟩ := hm
  exact failfast_after_prefix hs hk (Or.inr rfl) hreply.toG (Prefix.items cfg react proxy proto none items hok)
    m ht hfirst hrest hcut hpl hbytes hgood hbad chunks hne (by rw [hflat, List.append_assoc]) restEnv

/-- "€a" (E2 82 AC 61) in three fragments — the first cut inside the 3-byte character, the second
    empty, a Ping and a Pong before the third; three different length forms -/
def exMsg : DataMsg :=
  { text := true, first := { payload := [0xE2], form := .ext16 },
    rest := [ ([], { payload := [], form := .short }),
              ([{ pong := false, payload := [1, 2], form := .short }, { pong := true, payload := [], form := .ext16 }],
               { payload := [0x82, 0xAC, 0x61], form := .ext64 }) ] }

/-- "a", then E2 in the first fragment; after a Ping the second fragment starts with 0x28, which
    cannot continue E2: the offending byte is the first byte of fragment 2; a third fragment follows -/
def exBad : DataMsg :=
  { text := true, first := { payload := [0x61, 0xE2], form := .short },
    rest := [ ([{ pong := false, payload := [1], form := .short }], { payload := [0x28, 0x62], form := .short }),
              ([{ pong := true, payload := [], form := .short }], { payload := [0x63], form := .short }) ] }

/-- E2 82 in one final frame: every prefix can still be completed, the whole cannot be decoded -/
def exTrunc : DataMsg := { text := true, first := { payload := [0xE2, 0x82], form := .short }, rest := [] }

/-- the three example messages are legally framed -/
theorem exMsg_framed : Framed exMsg := ⟨rfl, by decide, by decide⟩
theorem exBad_framed : Framed exBad := ⟨rfl, by decide, by decide⟩
theorem exTrunc_framed : Framed exTrunc := ⟨rfl, by decide, by decide⟩

example : Utf8.wf exMsg.payload = true ∧ Utf8.wf exBad.payload = false ∧ Utf8.wf exTrunc.payload = false ∧
    Utf8.validate 0 exBad.payload = none ∧ Utf8.validate 0 exTrunc.payload = some 2 := by decide

/-- `text_verdict`, valid case, one byte per read: the concrete events -/
example : Monitor.events (runAll C01E2E.exCfg C01E2E.exReact
      (reads ((C01E2E.exReply ++ wireBytes exMsg.wire).map (fun b => [b])) ++ [.wait 0 (some .eof)])).trace =
    [.connecting, .connected false, .ready none false, .poll, .ping [1, 2], .pong [], .text [0x20AC, 0x61],
     .disconnected "connection-lost" false] := by
  obtain ⟨cps, hc, h⟩ := (text_verdict C01E2E.exCfg C01E2E.exReact false none C01E2E.exSetup rfl C01E2E.exReply
    C01E2E.exGoodReply [] (by simp) exMsg exMsg_framed _ (bytewise_ne _) (bytewise_flatten _) 0 (Or.inl rfl)
    (Or.inr (by decide))).1
    (by decide)
  obtain rfl : [0x20AC, 0x61] = cps := Option.some.inj ((by decide : Utf8.decode exMsg.payload = _).symm.trans hc)
  exact h.trans rfl

/-- `text_verdict`, invalid cases: the theorem applies; the runs evaluated directly show the texts -/
example : ∃ ces msg, ces <+: ctrlEvents exBad ∧
    Monitor.events (runAll C01E2E.exCfg C01E2E.exReact
      (reads [C01E2E.exReply ++ wireBytes exBad.wire] ++ [.wait 0 (some .eof)])).trace =
    handshakeEvents false none ++ ([] ++ ces) ++ [.protocolError msg true, .disconnected "forced" false] :=
  (text_verdict C01E2E.exCfg C01E2E.exReact false none C01E2E.exSetup rfl C01E2E.exReply
    C01E2E.exGoodReply [] (by simp) exBad exBad_framed [C01E2E.exReply ++ wireBytes exBad.wire]
    (by rw [C01E2E.exReply, Http.lit_ofList]; decide +kernel)
    (by simp [wireBytes]) 0 (Or.inl rfl) (Or.inr (by decide))).2 (by decide)

example : Monitor.events (runAll C01E2E.exCfg C01E2E.exReact
      (reads [C01E2E.exReply ++ wireBytes exBad.wire] ++ [.wait 0 (some .eof)])).trace =
    [.connecting, .connected false, .ready none false, .poll, .ping [1],
     .protocolError "invalid utf8" true, .disconnected "forced" false] := by
  -- the reply as a list of characters: the kernel is slow on long string literals (Proofs/StrLit.lean)
  rw [C01E2E.exReply, Http.lit_ofList]
  decide +kernel

example : Monitor.events (runAll C01E2E.exCfg C01E2E.exReact
      (reads [C01E2E.exReply ++ wireBytes exTrunc.wire] ++ [.wait 0 (some .eof)])).trace =
    [.connecting, .connected false, .ready none false, .poll,
     .protocolError "payload contains invalid utf-8" true, .disconnected "forced" false] := by
  rw [C01E2E.exReply, Http.lit_ofList]
  decide +kernel

/-- `failfast_message` on `exBad`: the offending byte 0x28 is the first byte of the second fragment.
    The server's bytes up to and including it — first frame, the Ping, the header of the second
    fragment, one payload byte — are the *whole* script; the connection already fails. -/
example : Monitor.events (runAll C01E2E.exCfg C01E2E.exReact
      (reads ((C01E2E.exReply ++ ([0x01, 2, 0x61, 0xE2] ++ [0x89, 1, 1] ++ [0x00, 2, 0x28])).map (fun b => [b])))).trace =
    [.connecting, .connected false, .ready none false, .poll, .ping [1],
     .protocolError "invalid utf8" true, .disconnected "forced" false] := by
  have h := failfast_message C01E2E.exCfg C01E2E.exReact false none C01E2E.exSetup rfl C01E2E.exReply
    C01E2E.exGoodReply [] (by simp) exBad exBad_framed _ _ _ _ _
    (CutAt.later [] [{ pong := false, payload := [1], form := .short }] { payload := [0x28, 0x62], form := .short }
      [([{ pong := true, payload := [], form := .short }], { payload := [0x63], form := .short })] rfl)
    [] 0x28 [0x62] rfl (by decide) ⟨[0x82, 0xAC], by decide⟩
    ((C05.validate_verdict [0x61, 0xE2, 0x28] (by decide)).mp (by decide +kernel))
    ((C01E2E.exReply ++ ([0x01, 2, 0x61, 0xE2] ++ [0x89, 1, 1] ++ [0x00, 2, 0x28])).map (fun b => [b]))
    (bytewise_ne _) (by rw [bytewise_flatten]; exact congrArg (C01E2E.exReply ++ ·) (by decide)) []
  rw [List.append_nil] at h
  exact h.trans rfl

/-- … and the same script evaluated directly -/
example : Monitor.events (runAll C01E2E.exCfg C01E2E.exReact
      (reads ((C01E2E.exReply ++ ([0x01, 2, 0x61, 0xE2] ++ [0x89, 1, 1] ++ [0x00, 2, 0x28])).map (fun b => [b])))).trace =
    [.connecting, .connected false, .ready none false, .poll, .ping [1],
     .protocolError "invalid utf8" true, .disconnected "forced" false] := by
  rw [C01E2E.exReply, Http.lit_ofList]
  decide +kernel

/-- one byte less and the connection is still alive (the script runs out: trace marked INCOMPLETE) -/
example : Monitor.events (runAll C01E2E.exCfg C01E2E.exReact
      (reads ((C01E2E.exReply ++ ([0x01, 2, 0x61, 0xE2] ++ [0x89, 1, 1] ++ [0x00, 2])).map (fun b => [b])))).trace =
    [.connecting, .connected false, .ready none false, .poll, .ping [1]] := by
  rw [C01E2E.exReply, Http.lit_ofList]
  decide +kernel

end Lomond.C05E2E
