/-
  C06 (companion) — the bit-level inflater of Model/Inflate.lean is CORRECT on stored,
  fixed-Huffman and dynamic-Huffman blocks: the hypothesis `Agrees cfg.inflate …` / `AgreesSafe cfg.inflate …` of
  `C06.core_refines_tokens`, `C06.core_lossless_peer_to_client` and `C06.never_wrong_core` is
  discharged — for every history, not for instances — for `Inflate.inflateAll` /
  `Inflate.inflateAllSafe` and the reference encoder `DeflEnc.encMsg` (Model/DeflEnc.lean: LZ77
  tokens → RFC 1951 bits; stored blocks, fixed-Huffman blocks and dynamic-Huffman blocks — canonical
  codes for any complete code lengths chosen by the caller — with the §3.2.5 length / distance
  tables, BFINAL anywhere, sync-flush tail).  The encoder itself is validated against
  real zlib by the C06 check (`deflenc` driver op: zlib inflates its output to the LZ77 expansion).

  Property theorems only; proofs in Proofs/InflateBits, InflateHuff, InflateCanon, InflateSym,
  InflateStored, InflateDyn, InflateRle, InflateCorrect.  What is proved, bottom up:

    bits      `bits_read`                 the LSB-first bit reader returns the number that was written
    codes     `fixed_literal_code`, `fixed_distance_code`, `fixed_code_prefix_free`
              all 288 + 32 code words of the fixed code decode to their symbol, whatever follows
              `canonical_code_decodes`, `canonical_code_prefix_free`: the same for the canonical code
              (RFC 1951 §3.2.2) of ANY code lengths that are not over-subscribed (Kraft)
    tables    `length_table`, `distance_table`   base + extra bits for every length 3..258 and
              every distance 1..32768 (the encoder's arithmetic tables invert the inflater's arrays)
    blocks    `fixed_block_body`, `huffman_block_body` (any pair of codes), `stored_block`,
              `dynamic_header`, `block_correct`
    messages  `inflate_expand`, `inflate_message_after_history`
    histories `inflateAllSafe_correct` (= `AgreesSafe`), `inflateAll_correct` (= `Agrees`)
    client    `never_wrong_core_inflater`, `core_refines_tokens_inflater`,
              `lossless_any_blocks_repaired`, `lossless_any_blocks_pinned`

  Dynamic blocks whose header uses the repeat codes 16/17/18, any complete code-length code and any
  HCLEN (`Kind.dynRle`) are covered by the theorems below that quantify over `kind` and spelled
  out in Properties/C06_InflateRle.lean.

  NOT proved (covered only by the differential test of `Inflate.inflateAll[Safe]` against zlib in
  the C06 check): incomplete codes (zlib's single-code distance tree, the empty distance code);
  what the inflater does on bytes that NO encoder writes (truncated input, invalid codes,
  over-subscribed codes: the error paths) is likewise only tested.
-/
import Lomond.Properties.C06
import Lomond.Proofs.InflateCorrect


namespace Lomond.C06
open Lomond Lomond.Deflate Lomond.Core Lomond.DeflEnc Lomond.Inflate

/-- **The bit reader.**  If the bits of `inp` from position `pos` on start with the `n ≤ 16` bits
    of `v` (least significant first), `bits inp pos n` returns `v` and advances by `n`. -/
theorem bits_read (inp : Array Nat) (hwf : ∀ x ∈ inp.toList, x < 256) (pos n v : Nat) (r : List Bool)
    (hn : n ≤ 16) (hv : v < 2 ^ n) (hp : pos ≤ 8 * inp.size) (h : Rest inp pos = bitsLE n v ++ r) :
    Inflate.bits inp pos n = .ok v (pos + n) :=
  bits_spec hwf hn hv hp h

example : Inflate.bits #[0xf3, 0x48] 3 7 = .ok 30 10 :=
  bits_read _ (by decide) 3 7 30 [false, true, false, false, true, false] (by decide) (by decide) (by decide) (by decide)

/-- **Fixed literal/length code** (RFC 1951 §3.2.6): each of the 288 code words, followed by
    anything, decodes to its symbol and uses exactly its length. -/
theorem fixed_literal_code (inp : Array Nat) (pos s : Nat) (r : List Bool) (hs : s < 288)
    (h : Rest inp pos = litCode s ++ r) :
    Inflate.decode fixedLit inp pos = .ok (some s) (pos + (litCode s).length) :=
  decode_fixedLit hs h

/-- **Fixed distance code**: each 5-bit code word, followed by anything, decodes to its symbol. -/
theorem fixed_distance_code (inp : Array Nat) (pos s : Nat) (r : List Bool) (hs : s < 32)
    (h : Rest inp pos = bitsMSB 5 s ++ r) :
    Inflate.decode fixedDist inp pos = .ok (some s) (pos + 5) :=
  decode_fixedDist hs h

/-- RFC 7692 §7.2.3.2, the second "Hello" with context takeover (`f2 00 11 00 00`) and the tail:
    block header, `H`, a match of length 4 at distance 5, end of block -/
def helloArr : Array Nat := #[0xf2, 0x00, 0x11, 0x00, 0x00, 0x00, 0x00, 0xff, 0xff]
/-- at bit 18 comes the 5-bit code of distance symbol 4 (distances 5..6) -/
example : Inflate.decode fixedDist helloArr 18 = .ok (some 4) 23 :=
  fixed_distance_code _ 18 4 (Rest helloArr 23) (by decide) (by decide +kernel)

/-- **The fixed code is prefix-free**: no code word is the beginning of another one. -/
theorem fixed_code_prefix_free (s t : Nat) (hs : s < 288) (ht : t < 288) (h : litCode s <+: litCode t) : s = t := by
  obtain ⟨r, hr⟩ := h
  have h1 := goL_append _ _ 15 1 0 0 0 (litCode s) r _ _ (fixedLit_words s hs)
  rw [hr, fixedLit_words t ht] at h1
  simp only [Option.some.injEq, Prod.mk.injEq] at h1
  exact h1.1.symm

/-- `f3 48 cd …` (RFC 7692 §7.2.3.4): after the 3 header bits comes the code word of `H` -/
example : Inflate.decode fixedLit #[0xf3, 0x48, 0xcd] 3 = .ok (some 72) 11 :=
  fixed_literal_code _ 3 72 [true, false, false, true, false, true, false, true, true, false, false, true, true]
    (by decide) (by decide)

set_option linter.unusedVariables false in
/-- **Canonical Huffman codes, any code lengths** (RFC 1951 §3.2.2).  `lens[s]` = code length of
    symbol `s` (0 = unused, at most 15); `h` the table `mkHuff` builds from them, of complete shape
    (so the lengths are not over-subscribed: the Kraft hypothesis `hk` is not used).  Then every used symbol's canonical code
    word — smallest code of its length + rank among the symbols of that length, MSB first —
    followed by anything decodes to that symbol and uses exactly its length. -/
theorem canonical_code_decodes (lens : List Nat) (isCodes : Bool) (h : Huff)
    (hm : Inflate.mkHuff lens.toArray isCodes = some h) (hsh : h.shape = .complete)
    (hk : kraft lens ≤ 2 ^ 15) (h15 : ∀ l ∈ lens, l ≤ 15)
    (inp : Array Nat) (pos s : Nat) (r : List Bool) (hs : 1 ≤ lens.getD s 0)
    (hr : Rest inp pos = canonCode lens s ++ r) :
    Inflate.decode h inp pos = .ok (some s) (pos + lens.getD s 0) := by
  have := (code_canon lens isCodes h hm hsh h15).dec hs hr
  simpa [canonCode] using this

/-- complete lengths (Kraft sum exactly 1) are accepted by `mkHuff` as a complete code, so the
    hypotheses of `canonical_code_decodes` are satisfiable for every such assignment -/
theorem complete_lengths_accepted (lens : List Nat) (isCodes : Bool) (hk : kraft lens = 2 ^ 15) :
    ∃ h, Inflate.mkHuff lens.toArray isCodes = some h ∧ h.shape = .complete :=
  mkHuff_complete lens isCodes hk

/-- **A canonical code is prefix-free** whenever Kraft's inequality holds: no code word of a used
    symbol is the beginning of another one. -/
theorem canonical_code_prefix_free (lens : List Nat) (hk : kraft lens ≤ 2 ^ 15) (h15 : ∀ l ∈ lens, l ≤ 15)
    (s t : Nat) (hs : 1 ≤ lens.getD s 0) (ht : 1 ≤ lens.getD t 0) (h : canonCode lens s <+: canonCode lens t) :
    s = t := by
  obtain ⟨r, hr⟩ := h
  -- any table in canonical form will do: take the one `mkHuff` computes, whatever its shape
  have hcanon := canon_mk lens .complete
  have h1 := goL_canonWord _ _ lens hcanon hk h15 s r hs
  have h2 := goL_canonWord _ _ lens hcanon hk h15 t [] ht
  rw [List.append_nil, ← hr, h1] at h2
  simp only [Option.some.injEq, Prod.mk.injEq] at h2
  exact h2.1

/-- a complete code on the symbols `A`, `B`, end-of-block and the length code 257 (lengths 1, 2, 3, 3) -/
def sampleLitLens : List Nat := List.replicate 65 0 ++ [1, 2] ++ List.replicate 189 0 ++ [3, 3]
example : kraft sampleLitLens = 2 ^ 15 ∧ (∀ l ∈ sampleLitLens, l ≤ 15) ∧ sampleLitLens.length = 258 := by decide +kernel
example : canonCode sampleLitLens 65 = [false] ∧ canonCode sampleLitLens 66 = [true, false] ∧
    canonCode sampleLitLens 256 = [true, true, false] ∧ canonCode sampleLitLens 257 = [true, true, true] := by decide +kernel

/-- a dynamic block with those lengths: `A B A` and a match of length 3 at distance 2 -/
def dynArr : Array Nat :=
  (encMsg (fun _ => .dyn sampleLitLens [1, 1]) [⟨false, [.lit 65, .lit 66, .lit 65, .copy 2 3]⟩] ++ TAIL).toArray
/-- the bits of `dynArr` begin with the encoder's block -/
private theorem dynArr_blk :
    Rest dynArr 0 = blkBits 0 (.dyn sampleLitLens [1, 1], ⟨false, [.lit 65, .lit 66, .lit 65, .copy 2 3]⟩) ++
      Rest dynArr (blkBits 0 (.dyn sampleLitLens [1, 1], ⟨false, [.lit 65, .lit 66, .lit 65, .copy 2 3]⟩)).length :=
  rest_msg_first _ _ []
/-- … that is, after the three header bits, with the header and then the code word of the first token -/
private theorem dynArr_hdr :
    ∃ r, Rest dynArr 3 = dynHeader sampleLitLens [1, 1] ++ (canonCode sampleLitLens 65 ++ r) := by
  have h := dynArr_blk
  have hdyn : dynOk sampleLitLens [1, 1] [.lit 65, .lit 66, .lit 65, .copy 2 3] = true := by decide +kernel
  -- only the block in front is unfolded, not the one whose length is the position of the rest
  conv at h => rhs; lhs; rw [blkBits_dyn 0 sampleLitLens [1, 1] _ hdyn]
  simp only [List.flatMap_cons, tokBitsG, List.append_assoc] at h
  exact ⟨_, rest_append (a := [false, false, true]) h⟩
/-- after the 3 + 14 + 57 + 4·260 header bits comes the 1-bit code word of `A` -/
example : Rest dynArr (3 + (dynHeader sampleLitLens [1, 1]).length) =
    canonCode sampleLitLens 65 ++ Rest dynArr (3 + (dynHeader sampleLitLens [1, 1]).length + 1) :=
  let ⟨_, h⟩ := dynArr_hdr
  rest_split (rest_append h) (by decide +kernel)
example : ∃ h, Inflate.mkHuff sampleLitLens.toArray false = some h ∧ h.shape = .complete :=
  complete_lengths_accepted _ _ (by decide +kernel)

/-- **Length table**: for every match length 3..258 the encoder's (code, extra bits) is what the
    inflater's `lbase`/`lext` arrays turn back into that length. -/
theorem length_table (n : Nat) (h3 : 3 ≤ n) (h258 : n ≤ 258) :
    (lenCode n).1 < 29 ∧ lext.getD (lenCode n).1 0 = (lenCode n).2.1 ∧
    lbase.getD (lenCode n).1 0 + (lenCode n).2.2 = n ∧ (lenCode n).2.2 < 2 ^ (lenCode n).2.1 :=
  let h := lenCode_spec n (by omega) h3
  ⟨h.1, h.2.1, h.2.2.1, h.2.2.2.1⟩

/-- **Distance table**: the same for every distance 1..32768. -/
theorem distance_table (d : Nat) (h1 : 1 ≤ d) (h2 : d ≤ 32768) :
    (distCode d).1 < 30 ∧ dext.getD (distCode d).1 0 = (distCode d).2.1 ∧
    dbase.getD (distCode d).1 0 + (distCode d).2.2 = d ∧ (distCode d).2.2 < 2 ^ (distCode d).2.1 :=
  let h := distCode_spec d h1 h2
  ⟨h.1, h.2.1, h.2.2.1, h.2.2.2.1⟩

example : lenCode 258 = (28, 0, 0) ∧ lenCode 257 = (27, 5, 30) ∧ distCode 32768 = (29, 13, 8191) ∧ distCode 1 = (0, 0, 0) := by
  decide

/-- **The body of a fixed-Huffman block**, from any state of the inflater (`out` = everything
    produced so far = the history; its newest `wsize` bytes are the window): if the input from
    `pos` on is the encoder's bits for `toks`, the end-of-block code and anything else, the symbol
    loop returns exactly what the token model's windowed inflater says — `.bad` (zlib.error) when
    some distance reaches beyond the window or the history, otherwise the block's end position
    and the history extended by the LZ77 expansion — overlapping copies (distance 1, length 258)
    and window edges included. -/
theorem fixed_block_body (inp : Array Nat) (hwf : ∀ x ∈ inp.toList, x < 256) (wsize : Nat)
    (toks : List Token) (hok : ∀ t ∈ toks, DeflEnc.Token.ok t = true) (fuel pos : Nat) (out : Array Nat)
    (r : List Bool) (hf : toks.length < fuel)
    (h : Rest inp pos = toks.flatMap tokBits ++ (litCode 256 ++ r)) :
    Inflate.symLoop inp fixedLit fixedDist wsize fuel pos out =
      match inflTokens wsize (winOf wsize out) toks with
      | none => .bad
      | some (_, e) => .done (pos + (toks.flatMap tokBits).length + 7) (out ++ e.reverse.toArray) :=
  symLoop_toks hwf wsize toks hok fuel pos out r hf h

/-- **The body of a Huffman block for any pair of codes** (`Code h cw S`: the code words `cw` of
    the symbols in `S` decode in table `h`, whatever follows — the fixed codes by
    `fixed_literal_code` / `fixed_distance_code`, canonical codes by `canonical_code_decodes`):
    the statement of `fixed_block_body` for tokens written in those codes. -/
theorem huffman_block_body {lit dist : Huff} {lc dc : Nat → List Bool} {Sl Sd : Nat → Prop}
    (cl : Code lit lc Sl) (cd : Code dist dc Sd) (inp : Array Nat) (hwf : ∀ x ∈ inp.toList, x < 256) (wsize : Nat)
    (toks : List Token) (hok : ∀ t ∈ toks, DeflEnc.Token.ok t = true) (hin : ∀ t ∈ toks, tokIn Sl Sd t) (heob : Sl 256)
    (fuel pos : Nat) (out : Array Nat) (r : List Bool) (hf : toks.length < fuel)
    (h : Rest inp pos = toks.flatMap (tokBitsG lc dc) ++ (lc 256 ++ r)) :
    Inflate.symLoop inp lit dist wsize fuel pos out =
      match inflTokens wsize (winOf wsize out) toks with
      | none => .bad
      | some (_, e) =>
        .done (pos + (toks.flatMap (tokBitsG lc dc)).length + (lc 256).length) (out ++ e.reverse.toArray) :=
  symLoopG_toks cl cd hwf wsize toks hok hin heob fuel pos out r hf h

/-- **The header of a dynamic block** (HLIT, HDIST, HCLEN, the code-length code, the
    `|ll| + |dl|` code lengths sent as 4-bit codes): `dynamicTables` rebuilds exactly the tables
    `mkHuff` makes of the encoder's code lengths and stops just after the header. -/
theorem dynamic_header (inp : Array Nat) (hwf : ∀ x ∈ inp.toList, x < 256) (ll dl : List Nat) (p0 : Nat)
    (r : List Bool) (hl1 : 257 ≤ ll.length) (hl2 : ll.length ≤ 286) (hd1 : 1 ≤ dl.length) (hd2 : dl.length ≤ 30)
    (h15 : ∀ l ∈ ll ++ dl, l ≤ 15) (heob : 1 ≤ ll.getD 256 0) (lit dist : Huff)
    (hlit : Inflate.mkHuff ll.toArray false = some lit) (hdist : Inflate.mkHuff dl.toArray false = some dist)
    (h : Rest inp p0 = dynHeader ll dl ++ r) :
    Inflate.dynamicTables inp p0 = .ok (lit, dist) (p0 + (dynHeader ll dl).length) := by
  rw [dynHeader_eq ll dl h15] at h ⊢
  exact dynamicTables_rle hwf clPlain 19 _ ll dl p0 r clOk_plain (items_plain _ h15) (expandGo_lits [] _) hl1 hl2 hd1 hd2
    heob lit dist hlit hdist h

example : dynOk sampleLitLens [1, 1] [.lit 65, .lit 66, .copy 2 3] = true := by decide +kernel

/-- non-vacuity of `fixed_block_body` / `huffman_block_body`: the bits of `helloArr` after the header -/
example : Rest helloArr 3 = [Token.lit 72, .copy 5 4].flatMap tokBits ++ (litCode 256 ++ Rest helloArr 31) := by
  decide +kernel
example : Inflate.symLoop helloArr fixedLit fixedDist 512 100 3 #[1, 2, 3, 4, 5] = .done 31 #[1, 2, 3, 4, 5, 72, 2, 3, 4, 5] := by
  rw [fixed_block_body helloArr (by decide) 512 [.lit 72, .copy 5 4] (by decide) 100 3 #[1, 2, 3, 4, 5] (Rest helloArr 31)
    (by decide) (by decide +kernel)]
  rfl
/-- … and of `dynamic_header`: the header of `dynArr` -/
example : Rest dynArr 3 = dynHeader sampleLitLens [1, 1] ++ Rest dynArr (3 + (dynHeader sampleLitLens [1, 1]).length) :=
  let ⟨_, h⟩ := dynArr_hdr
  rest_split h

/-- **A stored block**: after the header the encoder wrote padding to the byte boundary, LEN,
    ~LEN and the bytes; `stored` returns the history extended by those bytes. -/
theorem stored_block (inp : Array Nat) (hwf : ∀ x ∈ inp.toList, x < 256) (p0 off : Nat) (data : Bytes)
    (r : List Bool) (out : Array Nat) (hdata : ∀ x ∈ data, x < 256) (hlen : data.length ≤ 65535)
    (hp : p0 % 8 = off % 8)
    (h : Rest inp p0 = pad off ++ (bitsLE 16 data.length ++ (bitsLE 16 (65535 - data.length) ++ (bitsOf data ++ r)))) :
    Inflate.stored inp p0 out = .done (p0 + (pad off).length + 32 + 8 * data.length) (out ++ data.toArray) :=
  stored_spec hwf out hdata hlen hp h

/-- `00 | 02 00 fd ff | 48 69`: a stored block with the two bytes `Hi` -/
example : Rest #[0x00, 0x02, 0x00, 0xfd, 0xff, 0x48, 0x69] 3 =
    pad 3 ++ (bitsLE 16 2 ++ (bitsLE 16 (65535 - 2) ++ (bitsOf [0x48, 0x69] ++ []))) := by decide +kernel

/-- **One block, whole** (header included; stored, fixed or dynamic as `sb.1` says, BFINAL or not, at
    any bit offset, followed by anything): one round of the block loop does the token model's
    step, fails exactly when it fails, and continues — or, for a BFINAL=1 block, stops
    (`cont = false`, zlib's object) / restarts at the next byte boundary (`cont = true`, the
    repaired code) — with the extended history. -/
theorem block_correct (cont : Bool) (inp : Array Nat) (hwf : ∀ x ∈ inp.toList, x < 256) (wsize fuel pos off : Nat)
    (out : Array Nat) (sb : Kind × Blk) (r : List Bool) (hok : DeflEnc.Blk.ok sb.2 = true)
    (hp : pos % 8 = off % 8) (h : Rest inp pos = blkBits off sb ++ r) :
    Inflate.blocks cont inp wsize (fuel + 1) pos out =
      match inflTokens wsize (winOf wsize out) sb.2.toks with
      | none => none
      | some (_, e) =>
        afterBlk cont inp wsize fuel sb.2.final (pos + (blkBits off sb).length) (out ++ e.reverse.toArray) :=
  blocks_blk cont hwf wsize fuel pos off out sb r
    (fun t ht => by simp only [DeflEnc.Blk.ok, List.all_eq_true] at hok; exact hok t ht) hp h

example : Rest helloArr 0 = blkBits 0 (.fixed, ⟨false, [.lit 72, .copy 5 4]⟩) ++ Rest helloArr 31 := by decide +kernel
example : Rest dynArr 0 = blkBits 0 (.dyn sampleLitLens [1, 1], ⟨false, [.lit 65, .lit 66, .lit 65, .copy 2 3]⟩) ++
    Rest dynArr (blkBits 0 (.dyn sampleLitLens [1, 1], ⟨false, [.lit 65, .lit 66, .lit 65, .copy 2 3]⟩)).length :=
  dynArr_blk

/-- **The inflater is correct on every history written by the encoder — repaired code.**  For
    every window size, every choice of block types (stored / fixed / dynamic with any complete
    code lengths) and every history of messages made of any
    blocks of encodable tokens (BFINAL anywhere, distances valid or not), `inflateAllSafe` on the
    bytes the client hands to zlib (`enc m₁ ++ 00 00 ff ff ++ enc m₂ ++ …`) returns exactly what
    the token model says these blocks mean, and `none` exactly when the model says so. -/
theorem inflateAllSafe_correct (kind : Blk → Kind) (wbits : Nat) (ms : List (List Blk)) (hok : HistOk ms) :
    AgreesSafe Inflate.inflateAllSafe wbits (encMsg kind) ms :=
  agreesSafe_enc kind wbits ms hok

/-- **… and zlib's object (pinned code)**: `inflateAll` returns what the token model of the
    object (`inflBlocks`: end of stream at the first BFINAL=1 block) says — all histories. -/
theorem inflateAll_correct (kind : Blk → Kind) (wbits : Nat) (ms : List (List Blk)) (hok : HistOk ms) :
    Agrees Inflate.inflateAll wbits (encMsg kind) ms :=
  agrees_enc kind wbits ms hok

/-- a history with stored and fixed blocks, a BFINAL=1 block in the middle of a message, a match
    of length 258 at distance 1 and a match reaching into the previous message -/
def sampleHist : List (List Blk) :=
  [[⟨false, [.lit 72, .lit 105]⟩, ⟨true, [.lit 33, .copy 1 258, .copy 3 100]⟩, ⟨false, [.lit 1]⟩], [⟨false, [.copy 5 4, .lit 9]⟩]]

example : HistOk sampleHist := by decide
example : encMsg (fun b => if b.toks.length = 2 then .stored else .fixed) (sampleHist.getD 0 []) =
    [0x00, 0x02, 0x00, 0xfd, 0xff, 0x48, 0x69, 0x53, 0x1c, 0x05, 0xf4, 0x40, 0x00, 0x62, 0x04, 0x00] := by decide +kernel
example : (tokenOutSafe (2 ^ 9) sampleHist).map List.length = some 367 := by decide +kernel

/-- **One message, in terms of the LZ77 meaning**: if the tokens of the message's blocks (any
    block structure) expand to `out` with every distance at most `D ≤ 2^wbits`, the inflater
    returns exactly `out`. -/
theorem inflate_expand (kind : Blk → Kind) (wbits D : Nat) (hD : D ≤ 2 ^ wbits) (m : List Blk) (hok : HistOk [m])
    (out : Bytes) (h : expand D [] (m.flatMap (·.toks)) = some out) :
    Inflate.inflateAllSafe wbits (encMsg kind m ++ TAIL) = some out.reverse := by
  have hA := agreesSafe_enc kind wbits [m] hok
  simp only [AgreesSafe, encHist, List.flatMap_cons, List.flatMap_nil, List.append_nil, tokenOutSafe] at hA
  rw [hA, inflBlocksAll_unstrip]
  have := inflTokens_of_expand D (2 ^ wbits) hD _ [] [] out h
  simp only [List.append_nil, List.take_nil] at this
  rw [this]
  rfl

example : expand 300 [] (([⟨false, [.lit 7, .copy 1 258]⟩, ⟨true, [.copy 259 3]⟩] : List Blk).flatMap (·.toks))
    = some (List.replicate 262 7) := by decide +kernel

/-- **A message after a history**: `prev` has been received and means `e0` (newest first), leaving
    the window `win`; the next message's bytes appended to the history inflate to `e0` followed by
    what the windowed token inflater makes of the message's tokens from `win` — or fail with it. -/
theorem inflate_message_after_history (kind : Blk → Kind) (wbits : Nat) (prev : List (List Blk)) (m : List Blk)
    (hok : HistOk (prev ++ [m])) (win e0 : Bytes)
    (h0 : inflBlocksAll (2 ^ wbits) [] (prev.flatMap unstrip) = some (win, e0)) :
    Inflate.inflateAllSafe wbits (encHist (encMsg kind) prev ++ encMsg kind m ++ TAIL) =
      (inflTokens (2 ^ wbits) win (m.flatMap (·.toks))).map (fun r => e0.reverse ++ r.2.reverse) := by
  have hA := agreesSafe_enc kind wbits (prev ++ [m]) hok
  simp only [AgreesSafe, encHist_snoc, tokenOutSafe, List.flatMap_append, List.flatMap_singleton] at hA
  rw [hA, inflBlocksAll_append, h0]
  simp only
  rw [inflBlocksAll_unstrip]
  cases inflTokens (2 ^ wbits) win (m.flatMap (·.toks)) with
  | none => rfl
  | some r => simp

example : HistOk ([sampleHist.getD 0 []] ++ [sampleHist.getD 1 []]) ∧
    (inflBlocksAll (2 ^ 9) [] ([sampleHist.getD 0 []].flatMap unstrip)).isSome = true := by
  constructor
  · decide
  · decide +kernel

/-- **Never wrong, core model with the proved inflater (repaired code).**  `never_wrong_core`
    without its hypothesis about `inflate`: a client whose inflater is `Inflate.inflateAllSafe`,
    fed any history of messages written by the reference encoder — any blocks, stored, fixed or dynamic,
    BFINAL anywhere, valid or invalid distances — delivers for each message exactly what RFC 7692
    says its DEFLATE data means, and fails exactly where that is undefined. -/
theorem never_wrong_core_inflater (kind : Blk → Kind) (d : Http.DeflateCfg) (msgs : List (List Blk)) (s : Sys)
    (hd : s.compression = some d) (hh : s.inflHist = []) (ho : s.inflOut = 0)
    (hi : s.cfg.inflate = Inflate.inflateAllSafe) (hok : HistOk msgs) :
    feedMsgs (msgs.map (encMsg kind)) s = rfcOutputs (2 ^ d.decompressWbits) d.resetDecompress [] msgs := by
  apply never_wrong_core (encMsg kind) d msgs s hd hh ho
  rw [hi]
  split
  · intro m hm
    exact agreesSafe_enc kind _ [m] (histOk_single msgs hok m hm)
  · intro k _
    exact agreesSafe_enc kind _ _ (histOk_take msgs hok k)

/-- **The pinned code**: `core_refines_tokens` without its hypothesis — with `Inflate.inflateAll`
    the core model computes the token-level `wholeOutputs` (zlib's object: D6 included) on every
    history written by the encoder. -/
theorem core_refines_tokens_inflater (kind : Blk → Kind) (d : Http.DeflateCfg) (msgs : List (List Blk)) (s : Sys)
    (hd : s.compression = some d) (hh : s.inflHist = []) (ho : s.inflOut = 0)
    (hi : s.cfg.inflate = Inflate.inflateAll) (hok : HistOk msgs) :
    feedMsgs (msgs.map (encMsg kind)) s = wholeOutputs (2 ^ d.decompressWbits) d.resetDecompress [] 0 msgs := by
  apply core_refines_tokens (encMsg kind) d msgs s hd hh ho
  rw [hi]
  split
  · intro m hm
    exact agrees_enc kind _ [m] (histOk_single msgs hok m hm)
  · intro k _
    exact agrees_enc kind _ _ (histOk_take msgs hok k)

/-- **Lossless peer → client, unconditional in the inflater (repaired code).**  Any peer
    compressor honouring the negotiated window (`Compressor (2^sw)`: distances within its history
    and ≤ 2^sw), context takeover or reset as negotiated, any message history; each message's
    tokens cut into **any** blocks (`bs`: the blocks of message `i`, concatenated, are the
    compressor's tokens for message `i`; stored, fixed or dynamic per block as `kind` says; BFINAL=1
    anywhere) and written by the reference encoder: the client delivers every message exactly. -/
theorem lossless_any_blocks_repaired (kind : Blk → Kind) (d : Http.DeflateCfg)
    (c : Compressor (2 ^ d.decompressWbits)) (peerResets : Bool) (hk : peerResets = false → d.resetDecompress = false)
    (msgs : List Bytes) (bs : List (List Blk))
    (hbs : bs.map (fun m => m.flatMap (·.toks)) = senderTokens c peerResets [] msgs) (hok : HistOk bs)
    (s : Sys) (hd : s.compression = some d) (hh : s.inflHist = []) (ho : s.inflOut = 0)
    (hi : s.cfg.inflate = Inflate.inflateAllSafe) :
    feedMsgs (bs.map (encMsg kind)) s = some msgs := by
  rw [never_wrong_core_inflater kind d bs s hd hh ho hi hok, rfc_flat, hbs]
  exact lossless_history c _ (Nat.le_refl _) _ _ hk msgs

/-- **… and the pinned code**, for peers that never set BFINAL (as `core_lossless_peer_to_client`,
    for any block structure and without the hypothesis about `inflate`). -/
theorem lossless_any_blocks_pinned (kind : Blk → Kind) (d : Http.DeflateCfg)
    (c : Compressor (2 ^ d.decompressWbits)) (peerResets : Bool) (hk : peerResets = false → d.resetDecompress = false)
    (msgs : List Bytes) (bs : List (List Blk))
    (hbs : bs.map (fun m => m.flatMap (·.toks)) = senderTokens c peerResets [] msgs) (hok : HistOk bs)
    (hn : ∀ m ∈ bs, ∀ b ∈ m, b.final = false)
    (s : Sys) (hd : s.compression = some d) (hh : s.inflHist = []) (ho : s.inflOut = 0)
    (hi : s.cfg.inflate = Inflate.inflateAll) :
    feedMsgs (bs.map (encMsg kind)) s = some msgs := by
  rw [core_refines_tokens_inflater kind d bs s hd hh ho hi hok, whole_history_is_streaming,
    never_wrong_partial _ _ _ hn, rfc_flat, hbs]
  exact lossless_history c _ (Nat.le_refl _) _ _ hk msgs

/-- four messages through `echoCompressor` (the 2nd and 3rd are single back-references into the
    previous messages), the first cut into a stored and a fixed BFINAL=1 block -/
def sampleMsgs : List Bytes := [[1, 2, 3], [1, 2, 3], [3, 1, 2, 3], [9]]
def sampleBlocks : List (List Blk) :=
  [[⟨false, [.lit 1]⟩, ⟨true, [.lit 2, .lit 3]⟩], [⟨false, [.copy 3 3]⟩], [⟨false, []⟩, ⟨true, [.copy 4 4]⟩], [⟨false, [.lit 9]⟩]]

/-- complete code lengths for the literals 1, 2, 3, 9, end-of-block and the length codes 257, 258 -/
def sampleLens2 : List Nat := [0, 3, 3, 3, 0, 0, 0, 0, 0, 3] ++ List.replicate 246 0 ++ [3, 3, 2]
/-- the two BFINAL=1 blocks are really written as dynamic blocks (distance codes 2 and 3 of lengths 1, 1) -/
example : dynOk sampleLens2 [0, 0, 1, 1] [.lit 2, .lit 3] = true ∧ dynOk sampleLens2 [0, 0, 1, 1] [.copy 4 4] = true := by
  decide +kernel

example : sampleBlocks.map (fun m => m.flatMap (·.toks)) = senderTokens (echoCompressor (2 ^ 9)) false [] sampleMsgs := by
  decide
example : HistOk sampleBlocks := by decide

example (r : React) :
    feedMsgs (sampleBlocks.map (encMsg (fun b => if b.final then .dyn sampleLens2 [0, 0, 1, 1] else .stored)))
      { cfg := { inflate := Inflate.inflateAllSafe }, react := r, env := [],
        compression := some { decompressWbits := 9, compressWbits := 15, resetDecompress := false, resetCompress := false } }
      = some sampleMsgs :=
  lossless_any_blocks_repaired _ _ (echoCompressor (2 ^ 9)) false (fun _ => rfl) sampleMsgs sampleBlocks
    (by decide) (by decide) _ rfl rfl rfl rfl

example (r : React) :
    feedMsgs ((sampleMsgs.map fun m => oneBlock (m.map Token.lit)).map (encMsg (fun _ => .stored)))
      { cfg := { inflate := Inflate.inflateAll }, react := r, env := [],
        compression := some { decompressWbits := 8, compressWbits := 15, resetDecompress := true, resetCompress := false } }
      = rfcOutputs (2 ^ 8) true [] (sampleMsgs.map fun m => oneBlock (m.map Token.lit)) := by
  rw [core_refines_tokens_inflater _ _ _ _ rfl rfl rfl rfl (by decide), whole_history_is_streaming,
    never_wrong_partial _ _ _ (by decide)]

/-- the same four messages as non-final blocks (what `lossless_any_blocks_pinned` needs), mixed kinds -/
def sampleBlocksNF : List (List Blk) :=
  [[⟨false, [.lit 1]⟩, ⟨false, [.lit 2, .lit 3]⟩], [⟨false, [.copy 3 3]⟩], [⟨false, []⟩, ⟨false, [.copy 4 4]⟩], [⟨false, [.lit 9]⟩]]

example (r : React) :
    feedMsgs (sampleBlocksNF.map (encMsg (fun b => if b.toks.length = 1 then .dyn sampleLens2 [0, 0, 1, 1] else .stored)))
      { cfg := { inflate := Inflate.inflateAll }, react := r, env := [],
        compression := some { decompressWbits := 9, compressWbits := 15, resetDecompress := false, resetCompress := false } }
      = some sampleMsgs :=
  lossless_any_blocks_pinned _ _ (echoCompressor (2 ^ 9)) false (fun _ => rfl) sampleMsgs sampleBlocksNF
    (by decide) (by decide) (by decide) _ rfl rfl rfl rfl

end Lomond.C06
