/-
  C12 for the general socket (`Model/ThreadsN.lean`): `close()` when socket writes FAIL
  (`TransportFail`) or take any number of chunks.

  The repaired code (`session.write(data, closing=True)`): inside `with self._lock:` come
  `_check_writable()`, `_sendall(data)` and, for a Close frame, `closing = True`.  When `_sendall`
  raises, the exception leaves the `with` block (the lock is released) WITHOUT that store;
  `_send_close` swallows `TransportFail`, and `WebSocket.close` then stores `closing = True` outside the
  lock.  In the model: a failing write step continues at the release (`toRelease`), and the program of
  `close()` ends with `release; setClosing true; setCloseTime`.

  What holds, for every socket `env`, all programs and all schedules (variant `closeAtomic`):
    * at most one COMPLETE Close frame; after its last chunk nothing is written — no chunk of any frame;
      a second `close()`, an echo of a server Close, any send: refused or not attempted;
    * a send has its complete frame on the wire iff it returned normally;
    * every `close()` that has returned — its write succeeded, failed at any chunk, or was not attempted —
      leaves the connection closing or closed.
  What does NOT hold when the Close frame's own write fails (`torn_close_*` below): between the release
  of the lock and the `closing = True` of `close()` other threads pass the state checks — a data frame,
  or a second (complete) Close frame, can follow the TORN Close frame.  (The frames after a torn frame
  cannot be read by the peer anyway, and the socket has just failed; but the flag is not yet set.)
-/
import Lomond.Proofs.ThreadsNC
import Lomond.Proofs.ThreadsNK
import Lomond.Properties.C12

namespace Lomond.C12Fail
open Lomond Lomond.Threads

abbrev final (env : Env) (v : Variant) (cfg : Cfg) (progs : Tid → List Call) (sched : List Tid) : State :=
  runN env v cfg (init progs) sched

/-- **At most one complete Close frame, nothing after it — for every socket.**  With the repaired
    `close()` (`closeAtomic`), for every number of chunks per `sendall`, every pattern of failing
    writes (also of the Close frame itself), all programs and all schedules:
    (1) at most one COMPLETE Close frame is on the wire;
    (2) after the last chunk of a Close frame nothing follows — no chunk of a data frame, of a control
        frame or of another Close frame, whole or torn;
    (3) a finished send wrote its complete frame iff it raised no error (WebSocketError or
        TransportFail): the loser of a race with `close()` is refused, not written. -/
theorem one_whole_close_nothing_after (env : Env) (v : Variant) (hv : v.closeAtomic = true) (cfg : Cfg)
    (progs : Tid → List Call) (sched : List Tid) :
    let s := final env v cfg progs sched
    closeCount s.sh.wire ≤ 1 ∧
    (∀ pre post x, s.sh.wire = pre ++ x :: post → x.second = true → isClose x = true → post = []) ∧
    (∀ (t : Tid) (i : Nat) (r : Result), (s.th t).results[i]? = some r →
      ∃ call, (progs t)[i]? = some call ∧ (r.err ≠ none → r.wrote = false) ∧
        (call.isSend = true → (r.wrote = true ↔ r.err = none))) :=
  one_whole_close_of_fresh env v hv cfg (fresh_init progs) sched

/-- **The loser of two racing `close()` calls writes no second Close**: once a complete Close frame
    is on the wire, no thread stands in front of a write any more (`armed`: state checks passed, write
    ahead) — every other `close()`, echo or send still to come is refused by the state checks or
    returns early. -/
theorem no_writer_after_whole_close (env : Env) (v : Variant) (hv : v.closeAtomic = true) (cfg : Cfg)
    (progs : Tid → List Call) (sched : List Tid) :
    let s := final env v cfg progs sched
    hasWholeClose s.sh.wire = true → ∀ t, armed (view v cfg (s.th t)) = false ∧ headW2 (view v cfg (s.th t)) = false := by
  intro s hc t
  have I := (closeN_reach env v cfg (fresh_init progs) hv sched).2.1
  constructor
  · cases h : armed (view v cfg (s.th t)) with
    | false => rfl
    | true => have := I.i3 t h; rw [hc] at this; cases this
  · cases h : headW2 (view v cfg (s.th t)) with
    | false => rfl
    | true => have := I.i6 t h; rw [hc] at this; cases this

/-- once a complete Close frame is on the wire the connection is closing or closed, except while the
    closer still holds the lock with its `closing = True` ahead -/
theorem close_sets_flag (env : Env) (v : Variant) (hv : v.closeAtomic = true) (cfg : Cfg)
    (progs : Tid → List Call) (sched : List Tid) :
    let s := final env v cfg progs sched
    hasWholeClose s.sh.wire = true → s.sh.lock = none → s.sh.closing = true ∨ s.sh.closed = true := by
  intro s hc hl
  obtain ⟨B, I, _⟩ := closeN_reach env v cfg (fresh_init progs) hv sched
  rcases I.i2 hc with h | h | ⟨u, hu⟩
  · exact Or.inl h
  · exact Or.inr h
  · have := (B.L.holder u).mp (closerEnd_holds _ hu)
    rw [hl] at this; cases this

/-- **`close()` always ends closing — also when its write fails.**  For every socket, all programs and
    all schedules: once a `close()` call (the application's, or the event loop's echo of a server Close)
    has RETURNED — its Close frame written whole, torn by a failing `sendall` at any chunk
    (`TransportFail`, swallowed), refused by the state checks, or not attempted because the connection
    was closing already — the connection is closing or closed, and stays so.  (While the call is still
    running, either that holds already or its `closing = True` outside the lock is still ahead:
    `KInv.kcur`.) -/
theorem close_always_ends_closing (env : Env) (v : Variant) (hv : v.closeAtomic = true) (cfg : Cfg)
    (progs : Tid → List Call) (sched : List Tid) (t : Tid) (i : Nat) (r : Result) (call : Call) :
    let s := final env v cfg progs sched
    (s.th t).results[i]? = some r → (progs t)[i]? = some call → call.isClose = true →
      s.sh.closing = true ∨ s.sh.closed = true :=
  close_ends_closing_of_fresh env v hv cfg (fresh_init progs) sched t i r call

/-- the statement of `C12.one_close_no_data_after` is the instance "two chunks, no failure" -/
theorem two_chunk_instance (v : Variant) (cfg : Cfg) (progs : Tid → List Call) (sched : List Tid) :
    final Env.two v cfg progs sched = C12.final v cfg progs sched :=
  runN_default v cfg _ sched

def txt : Bytes := [104, 105]
/-- the `sendall` of thread 0's first call (its Close frame) fails after one of two chunks -/
def envTorn : Env := { failAt := fun t i => if t = 0 ∧ i = 0 then some 1 else none }
def ca : Variant := { closeAtomic := true, compressUnderLock := true }
def closeSend : Tid → List Call := progsOf [[.close (some 1000) []], [.sendText txt false]]
def closeClose : Tid → List Call := progsOf [[.close (some 1000) []], [.close (some 1001) []]]

/-- T0 `close()`: tests, lock, checks, first chunk, FAILURE, release (9 entries); T1 `send_text`
    completely (7); T0 `closing = True`, `sent_close_time` -/
def schedTornData : List Tid := List.replicate 9 0 ++ List.replicate 7 1 ++ [0, 0]
/-- the same with a second `close()` on T1 (12 entries) -/
def schedTornClose : List Tid := List.replicate 9 0 ++ List.replicate 12 1 ++ [0, 0]

/-- **A data frame follows a TORN Close frame** (the window between the failed write's release and
    `closing = True`): the sender is told `ok`, `close()` returned normally (`TransportFail` swallowed),
    no complete Close frame is on the wire. -/
theorem torn_close_then_data :
    let s := final envTorn ca {} closeSend schedTornData
    s.sh.wire.map (fun c => (c.tid, c.desc.op, c.second)) = [(0, 8, false), (1, 1, false), (1, 1, true)] ∧
    (s.th 1).results = [⟨true, none, false⟩] ∧ (s.th 0).results = [⟨false, some .transport, false⟩] ∧
    s.sh.closing = true ∧ closeCount s.sh.wire = 0 := by
  decide +kernel

/-- **A second, complete Close frame follows a torn one**: the other `close()` passed the
    `is_closing` test before the failing one set the flag. -/
theorem torn_close_then_close :
    let s := final envTorn ca {} closeClose schedTornClose
    s.sh.wire.map (fun c => (c.tid, c.desc.op, c.second)) = [(0, 8, false), (1, 8, false), (1, 8, true)] ∧
    closeCount s.sh.wire = 1 ∧ s.sh.closing = true := by
  decide +kernel

/-- hence "nothing after the FIRST CHUNK of a Close frame" (`nothingAfterClose`, the form
    `C12.one_close_no_data_after` has for the failure-free socket) is false when writes can fail -/
theorem nothing_after_first_chunk_fails :
    ¬ ∀ (env : Env) (cfg : Cfg) (progs : Tid → List Call) (sched : List Tid),
      nothingAfterClose (final env ca cfg progs sched).sh.wire = true := by
  intro h
  have h1 := h envTorn {} closeSend schedTornData
  have h2 : nothingAfterClose (final envTorn ca {} closeSend schedTornData).sh.wire = false := by decide +kernel
  rw [h2] at h1; cases h1

/-! ### non-vacuity -/

/-- three chunks per frame, no failure: T0's `close()` against T1's send started in the middle of it:
    the send is blocked, then refused -/
def env3 : Env := { more := fun _ _ => 2 }
example :
    let s := final env3 ca {} closeSend (List.replicate 8 0 ++ [1, 1, 1] ++ List.replicate 6 0 ++ List.replicate 7 1)
    s.sh.wire.map (fun c => (c.tid, c.desc.op, c.second)) = [(0, 8, false), (0, 8, false), (0, 8, true)] ∧
    (s.th 1).results = [⟨false, some .closing, false⟩] ∧ hasWholeClose s.sh.wire = true := by
  decide +kernel

example : Call.isClose (.close (some 1000) []) = true ∧ ((final envTorn ca {} closeSend schedTornData).th 0).results.length = 1 := by
  decide +kernel

/-- a Close write that fails before anything is written (`k = 0`) -/
example :
    let s := final { failAt := fun _ _ => some 0 } ca {} closeSend (List.replicate 11 0)
    s.sh.wire = [] ∧ (s.th 0).results = [⟨false, some .transport, false⟩] ∧ s.sh.closing = true := by
  decide +kernel

end Lomond.C12Fail
