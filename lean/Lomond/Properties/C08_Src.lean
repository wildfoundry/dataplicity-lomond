/-
  C08 — source-structure facts the model of `session.write` / `_send_close` relies on,
  re-extracted from /repo on every run (Generated/Facts.lean).
-/
import Lomond.Generated.Facts
namespace Lomond.C08Src

/-- `WebsocketSession.write` tests, inside `with self._lock` and in this order: no socket ⇒
    WebSocketUnavailable, closed ⇒ WebSocketClosed, closing ⇒ WebSocketClosing — the order and
    classes of `Core.write`'s refusals — and `sendall` is called under the same lock. -/
theorem write_guards :
    Gen.writeChecks = [("self._sock is None", "errors.WebSocketUnavailable"),
                       ("self.websocket.is_closed", "errors.WebSocketClosed"),
                       ("self.websocket.is_closing", "errors.WebSocketClosing")] ∧
    Gen.sendallUnderLock = true := ⟨rfl, rfl⟩

/-- `_send_close` swallows exactly WebSocketUnavailable (incl. Closed/Closing) and TransportFail:
    `close()` itself reports no transport trouble (the model's `wsClose` returns `ok`). -/
theorem send_close_swallows :
    Gen.sendCloseHandlers = ["(errors.WebSocketUnavailable, errors.TransportFail)"] := rfl

end Lomond.C08Src
