/-
  C05 for text messages at ANY position of a connection on which permessage-deflate is negotiated
  (`C05E2E2.compressed_text_verdict` covers the first message after the handshake, where the inflater's
  history is empty).  The server's reply grants `d`; it then sends any conforming prefix `pre` — the `GItem`s
  of `C01E2E2.connection_delivers_compressed`, under the same hypotheses (`GItem.Static`,
  `cfg.pingTimeout = 0`, and `zOuts`: the configuration's inflater, run over the joined compressed payloads
  of `pre` in order through the negotiated context, yields their `plain`s and ends with the context `icP` =
  history `icP.hist`, `icP.out` bytes already delivered) — then a text message, then any bytes `tail`; every
  segmentation.  The verdict on a compressed message is the verdict on what the inflater returns for
  `icP.hist ++ z.joined ++ 00 00 ff ff` minus the `icP.out` bytes that belong to earlier messages.
  Helper lemmas: Proofs/ZAny.lean, Proofs/EndToEndTextCut.lean.
-/
import Lomond.Proofs.ZAny
import Lomond.Properties.C05_E2E2
import Lomond.Properties.C01_E2E2

namespace Lomond.C05ZAny
open Lomond Lomond.Core Lomond.Core.E2E Lomond.Core.DG Lomond.C05E2E Lomond.C05E2E2

/-- **Verdict on a compressed text message at any position.** -/
theorem compressed_text_verdict_any_position (cfg : Cfg) (react : React) (proxy : Bool) (proto : Option Http.Str)
    (d : Http.DeflateCfg) (hs : Setup cfg react proxy) (hpt : cfg.pingTimeout = 0)
    (reply : Bytes) (hreply : GoodReplyD cfg reply proto (some d))
    (pre : List GItem) (hst : ∀ it ∈ pre, it.Static) (icP : ICtx)
    (hinfl : zOuts ⟨cfg.inflate, some d⟩ ⟨[], 0⟩ (pre.filterMap GItem.zpay) = some (pre.filterMap GItem.zplain, icP))
    (z : ZMsg) (hz : z.Ok) (tail : Bytes)
    (chunks : List Bytes) (hne : ∀ c ∈ chunks, c ≠ [])
    (hflat : chunks.flatten = reply ++ (pre.flatMap GItem.bytes ++ (z.bytes ++ tail))) :
    (∀ out, cfg.inflate d.decompressWbits (icP.hist ++ z.joined ++ [0, 0, 0xff, 0xff]) = some out →
      Utf8.wf (out.drop icP.out) = true →
      ∃ cps, Utf8.decode (out.drop icP.out) = some cps ∧
      ∀ more : List Item, (∀ it ∈ more, it.Ok) → tail = wireBytes (more.flatMap Item.wire) →
      ∀ dt, (cfg.closeTimeout = 0 ∨ dt < cfg.closeTimeout) →
      Monitor.events (runAll cfg react (reads chunks ++ [.wait dt (some .eof)])).trace =
        handshakeEventsG proxy proto true ++
          (pre.flatMap GItem.events ++ [.text cps] ++ more.flatMap Item.events) ++
          (if cfg.poll ≤ dt then [.poll] else []) ++ [.disconnected "connection-lost" false]) ∧
    (∀ out, cfg.inflate d.decompressWbits (icP.hist ++ z.joined ++ [0, 0, 0xff, 0xff]) = some out →
      Utf8.wf (out.drop icP.out) = false →
      ∀ restEnv, Monitor.events (runAll cfg react (reads chunks ++ restEnv)).trace =
        handshakeEventsG proxy proto true ++ pre.flatMap GItem.events ++
          [.protocolError "payload contains invalid utf-8" true, .disconnected "forced" false]) ∧
    (cfg.inflate d.decompressWbits (icP.hist ++ z.joined ++ [0, 0, 0xff, 0xff]) = none →
      ∀ restEnv, Monitor.events (runAll cfg react (reads chunks ++ restEnv)).trace =
        handshakeEventsG proxy proto true ++ pre.flatMap GItem.events ++
          [.protocolError "unable to decompress payload" true, .disconnected "forced" false]) := by
  obtain ⟨h1, h2, h3⟩ := zmsg_verdict_after_prefix hs (GoodReplyD.toG hreply) (Prefix.gitems hpt pre hst icP hinfl) z hz
    tail chunks hne hflat
  refine ⟨fun out hinf hwf => ?_, fun out hinf hwf restEnv => ?_, fun hinf restEnv => ?_⟩
  · obtain ⟨cps, hcps, h⟩ := h1 out hinf hwf
    exact ⟨cps, hcps, fun more hmore htail dt hct => h more hmore htail dt (Or.inl hpt) hct⟩
  · simpa [handshakeEventsG] using h2 out hinf hwf restEnv
  · simpa [handshakeEventsG] using h3 hinf restEnv

/-- `server_no_context_takeover`: the context in front of the message is empty, whatever `pre` was —
    the verdict is that of a first message (`inflate (z.joined ++ 00 00 ff ff)`, nothing dropped) -/
theorem ctx_after_pre_reset (cfg : Cfg) (d : Http.DeflateCfg) (hr : d.resetDecompress = true)
    (pre : List GItem) (icP : ICtx)
    (hinfl : zOuts ⟨cfg.inflate, some d⟩ ⟨[], 0⟩ (pre.filterMap GItem.zpay) = some (pre.filterMap GItem.zplain, icP)) :
    icP = ⟨[], 0⟩ := by
  have := zOuts_ctx_reset ⟨cfg.inflate, some d⟩ hr _ _ _ _ hinfl
  rw [this]
  split <;> rfl

/-- context takeover: the history is the compressed payloads of `pre` (joined over their fragments),
    in order, each followed by `00 00 ff ff`; with no compressed message in `pre` nothing is dropped,
    otherwise the length of what the inflater returns for that history -/
theorem ctx_after_pre_keep (cfg : Cfg) (d : Http.DeflateCfg) (hr : d.resetDecompress = false)
    (pre : List GItem) (icP : ICtx)
    (hinfl : zOuts ⟨cfg.inflate, some d⟩ ⟨[], 0⟩ (pre.filterMap GItem.zpay) = some (pre.filterMap GItem.zplain, icP)) :
    icP.hist = (pre.filterMap GItem.zpay).flatMap (· ++ [0, 0, 0xff, 0xff]) ∧
    (pre.filterMap GItem.zpay = [] → icP.out = 0) ∧
    (pre.filterMap GItem.zpay ≠ [] → ∃ prev, cfg.inflate d.decompressWbits icP.hist = some prev ∧ icP.out = prev.length) := by
  obtain ⟨h1, h2, h3⟩ := zOuts_ctx_keep ⟨cfg.inflate, some d⟩ hr _ _ _ _ hinfl
  exact ⟨by simpa using h1, h2, h3⟩

/-- **… with context takeover, over the payloads themselves**: `d` keeps the context
    (`server_no_context_takeover` not negotiated), `pre` contains at least one compressed message;
    `H` is the concatenation of the compressed payloads of `pre`, each followed by `00 00 ff ff`, and
    `prev` what the inflater returns for `H` (the plaintexts so far).  If for `H` followed by this
    message it returns `out`, and `out` minus its first `prev.length` bytes is not well-formed
    UTF-8 — **even if the message's own bytes, without `H`, would inflate to something else or not
    at all** — the connection fails with the critical ProtocolError after the events of `pre`. -/
theorem compressed_text_verdict_takeover (cfg : Cfg) (react : React) (proxy : Bool) (proto : Option Http.Str)
    (d : Http.DeflateCfg) (hr : d.resetDecompress = false) (hs : Setup cfg react proxy) (hpt : cfg.pingTimeout = 0)
    (reply : Bytes) (hreply : GoodReplyD cfg reply proto (some d))
    (pre : List GItem) (hst : ∀ it ∈ pre, it.Static) (icP : ICtx)
    (hinfl : zOuts ⟨cfg.inflate, some d⟩ ⟨[], 0⟩ (pre.filterMap GItem.zpay) = some (pre.filterMap GItem.zplain, icP))
    (hsome : pre.filterMap GItem.zpay ≠ [])
    (z : ZMsg) (hz : z.Ok) (tail : Bytes)
    (chunks : List Bytes) (hne : ∀ c ∈ chunks, c ≠ [])
    (hflat : chunks.flatten = reply ++ (pre.flatMap GItem.bytes ++ (z.bytes ++ tail)))
    (prev out : Bytes)
    (hprev : cfg.inflate d.decompressWbits ((pre.filterMap GItem.zpay).flatMap (· ++ [0, 0, 0xff, 0xff])) = some prev)
    (hout : cfg.inflate d.decompressWbits
      ((pre.filterMap GItem.zpay).flatMap (· ++ [0, 0, 0xff, 0xff]) ++ z.joined ++ [0, 0, 0xff, 0xff]) = some out)
    (hbad : Utf8.wf (out.drop prev.length) = false) (restEnv : List EnvStep) :
    Monitor.events (runAll cfg react (reads chunks ++ restEnv)).trace =
      handshakeEventsG proxy proto true ++ pre.flatMap GItem.events ++
        [.protocolError "payload contains invalid utf-8" true, .disconnected "forced" false] := by
  obtain ⟨h1, _, h3⟩ := ctx_after_pre_keep cfg d hr pre icP hinfl
  obtain ⟨prev', hp', ho'⟩ := h3 hsome
  rw [h1, hprev] at hp'
  cases hp'
  refine (compressed_text_verdict_any_position cfg react proxy proto d hs hpt reply hreply pre hst icP hinfl z hz tail
    chunks hne hflat).2.1 out ?_ ?_ restEnv
  · rw [h1]; exact hout
  · rw [ho']; exact hbad

/-- **Verdict, any position, with a continuation** (`C05E2E2.text_verdict_ext` after compressed
    traffic): after `pre` a text message `m` with RSV1 = 0, any fragmentation, Ping/Pong between the
    fragments; then any bytes `tail`.  Valid ⇒ events of `pre`, the interleaved control events, one
    `Text` with the exact decoding, and — if `tail` is a list of conforming items — their events;
    invalid ⇒ events of `pre`, a prefix of the control events, ONE critical ProtocolError,
    `Disconnected('forced')`, nothing after, whatever follows. -/
theorem text_verdict_any_position (cfg : Cfg) (react : React) (proxy : Bool) (proto : Option Http.Str)
    (d : Http.DeflateCfg) (hs : Setup cfg react proxy) (hpt : cfg.pingTimeout = 0)
    (hk : cfg.v.keepIsText = true) (hmode : cfg.v.perMsgValidate = true)
    (reply : Bytes) (hreply : GoodReplyD cfg reply proto (some d))
    (pre : List GItem) (hst : ∀ it ∈ pre, it.Static) (icP : ICtx)
    (hinfl : zOuts ⟨cfg.inflate, some d⟩ ⟨[], 0⟩ (pre.filterMap GItem.zpay) = some (pre.filterMap GItem.zplain, icP))
    (m : DataMsg) (hm : Framed m) (tail : Bytes)
    (chunks : List Bytes) (hne : ∀ c ∈ chunks, c ≠ [])
    (hflat : chunks.flatten = reply ++ (pre.flatMap GItem.bytes ++ (wireBytes m.wire ++ tail))) :
    (Utf8.wf m.payload = true → ∃ cps, Utf8.decode m.payload = some cps ∧
      ∀ more : List Item, (∀ it ∈ more, it.Ok) → tail = wireBytes (more.flatMap Item.wire) →
      ∀ dt, (cfg.closeTimeout = 0 ∨ dt < cfg.closeTimeout) →
      Monitor.events (runAll cfg react (reads chunks ++ [.wait dt (some .eof)])).trace =
        handshakeEventsG proxy proto true ++
          (pre.flatMap GItem.events ++ (ctrlEvents m ++ [.text cps]) ++ more.flatMap Item.events) ++
          (if cfg.poll ≤ dt then [.poll] else []) ++ [.disconnected "connection-lost" false]) ∧
    (Utf8.wf m.payload = false → ∃ ces msg, ces <+: ctrlEvents m ∧ ∀ restEnv,
      Monitor.events (runAll cfg react (reads chunks ++ restEnv)).trace =
        handshakeEventsG proxy proto true ++ (pre.flatMap GItem.events ++ ces) ++
          [.protocolError msg true, .disconnected "forced" false]) := by
  obtain ⟨ht, hfirst, hrest⟩ := hm
  obtain ⟨h1, h2⟩ := text_verdict_after_prefix hs hk (Or.inl hmode) (GoodReplyD.toG hreply)
    (Prefix.gitems hpt pre hst icP hinfl) m ht hfirst hrest tail chunks hne hflat
  exact ⟨fun hwf => (h1 hwf).imp fun cps h =>
    ⟨h.1, fun more hmore htl dt hct => h.2 more hmore htl dt (Or.inl hpt) hct⟩, h2⟩

/-- **Fail-fast at byte granularity, any position** (`C05E2E2.failfast_message_ext` after compressed
    traffic): the server's bytes up to and including the first offending byte `b` of the text message
    already make the client raise; nothing else needs to arrive, `restEnv` is arbitrary. -/
theorem failfast_any_position (cfg : Cfg) (react : React) (proxy : Bool) (proto : Option Http.Str)
    (d : Http.DeflateCfg) (hs : Setup cfg react proxy) (hpt : cfg.pingTimeout = 0)
    (hk : cfg.v.keepIsText = true) (hmode : cfg.v.perMsgValidate = true)
    (reply : Bytes) (hreply : GoodReplyD cfg reply proto (some d))
    (pre : List GItem) (hst : ∀ it ∈ pre, it.Static) (icP : ICtx)
    (hinfl : zOuts ⟨cfg.inflate, some d⟩ ⟨[], 0⟩ (pre.filterMap GItem.zpay) = some (pre.filterMap GItem.zplain, icP))
    (m : DataMsg) (hm : Framed m)
    (before after : List WFrame) (w : WFrame) (done : Bytes) (evs : List Event)
    (hcut : CutAt m before w after done evs)
    (a : Bytes) (b : Nat) (c : Bytes) (hpl : w.payload = a ++ b :: c)
    (hbytes : Bytes.WF (done ++ a ++ [b]))
    (hgood : ∃ ext, Utf8.wf (done ++ a ++ ext) = true)
    (hbad : ∀ ext, Utf8.wf (done ++ a ++ [b] ++ ext) = false)
    (chunks : List Bytes) (hne : ∀ c ∈ chunks, c ≠ [])
    (hflat : chunks.flatten =
      reply ++ (pre.flatMap GItem.bytes ++ (wireBytes before ++ partialBytes w (a.length + 1))))
    (restEnv : List EnvStep) :
    Monitor.events (runAll cfg react (reads chunks ++ restEnv)).trace =
      handshakeEventsG proxy proto true ++ (pre.flatMap GItem.events ++ evs) ++
        [.protocolError "invalid utf8" true, .disconnected "forced" false] := by
  obtain ⟨ht, hfirst, hrest⟩ := hm
  exact failfast_after_prefix hs hk (Or.inl hmode) (GoodReplyD.toG hreply) (Prefix.gitems hpt pre hst icP hinfl)
    m ht hfirst hrest hcut hpl hbytes hgood hbad chunks hne hflat restEnv

/-- the accepted reply of `C04E2E2.exReplyZ` grants `exDz` (context takeover) to the configuration
    with the bit-level inflater of Model/Inflate.lean -/
theorem exGoodReplyD : GoodReplyD exCfgZ C04E2E2.exReplyZ none (some C04E2E2.exDz) :=
  ⟨exGoodReplyZc.sep, exGoodReplyZc.len, exGoodReplyZc.ok⟩

/-- a prefix: "€a" (`E2 82 AC 61`) compressed by zlib (`7a d4 b4 26 11 00`), sent in two fragments
    cut inside the compressed data with a Ping in between; a Pong; an uncompressed Binary -/
def exPre : List GItem :=
  [ .msg { zf := true, plain := [0xE2, 0x82, 0xAC, 0x61],
           m := { text := true, first := { payload := [0x7a, 0xd4, 0xb4], form := .short },
                  rest := [([{ pong := false, payload := [1], form := .short }],
                            { payload := [0x26, 0x11, 0x00], form := .ext16 })] } },
    .ctrl { pong := true, payload := [7], form := .short },
    .msg { zf := false, plain := [1, 2, 3],
           m := { text := false, first := { payload := [1, 2, 3], form := .short }, rest := [] } } ]

theorem exPre_static : ∀ it ∈ exPre, it.Static := by decide +kernel

/-- the inflater hypothesis for the prefix; the context it leaves: ten bytes of history, four bytes
    delivered -/
def exIc : ICtx := ⟨[0x7a, 0xd4, 0xb4, 0x26, 0x11, 0x00, 0, 0, 0xff, 0xff], 4⟩

theorem exPre_inflate :
    zOuts ⟨exCfgZ.inflate, some C04E2E2.exDz⟩ ⟨[], 0⟩ (exPre.filterMap GItem.zpay) =
      some (exPre.filterMap GItem.zplain, exIc) := by
  decide +kernel

/-- the second compressed message, two fragments: one fixed-Huffman block holding ONE token, a
    match of length 3 at distance 3 (`02 22 00`, then the `00` of zlib's empty stored block).  What
    it means depends only on the window: after "€a" it is `82 AC 61` — not UTF-8 (it starts inside
    the Euro sign).  On its own it is not even a valid DEFLATE stream. -/
def exZback : ZMsg := ⟨{ payload := [0x02, 0x22], form := .short }, [{ payload := [0x00, 0x00], form := .ext16 }]⟩

/-- … the same with distance 4 (`02 62 00 00`): after "€a" it is `E2 82 AC`, the Euro sign -/
def exZback4 : ZMsg := ⟨{ payload := [0x02, 0x62], form := .short }, [{ payload := [0x00, 0x00], form := .short }]⟩

example : exZback.Ok ∧ exZback4.Ok := by decide

/-- the bit-level inflater on these: with the history of `exPre`, and without -/
example :
    Inflate.inflateAllSafe 15 (exIc.hist ++ exZback.joined ++ [0, 0, 0xff, 0xff])
      = some [0xE2, 0x82, 0xAC, 0x61, 0x82, 0xAC, 0x61] ∧
    Inflate.inflateAllSafe 15 (exIc.hist ++ exZback4.joined ++ [0, 0, 0xff, 0xff])
      = some [0xE2, 0x82, 0xAC, 0x61, 0xE2, 0x82, 0xAC] ∧
    Inflate.inflateAllSafe 15 (exZback.joined ++ [0, 0, 0xff, 0xff]) = none ∧
    Utf8.wf [0x82, 0xAC, 0x61] = false ∧ Utf8.wf [0xE2, 0x82, 0xAC] = true := by decide +kernel

/-- `compressed_text_verdict_any_position`, invalid case, on `exPre` then `exZback`, one byte per
    read, then a further (never delivered) text message and further reads: the events of the prefix,
    one critical ProtocolError, Disconnected — **only because of the back-reference into the first
    message** -/
example : Monitor.events (runAll exCfgZ C01E2E.exReact
      (reads ((C04E2E2.exReplyZ ++ (exPre.flatMap GItem.bytes ++ (exZback.bytes ++ [0x81, 1, 65]))).map (fun b => [b]))
        ++ [.wait 3 (some (.data [0x81, 1, 66]))])).trace =
    [.connecting, .connected false, .ready none true, .poll,
     .ping [1], .text [0x20AC, 0x61], .pong [7], .binary [1, 2, 3],
     .protocolError "payload contains invalid utf-8" true, .disconnected "forced" false] :=
  ((compressed_text_verdict_any_position exCfgZ C01E2E.exReact false none C04E2E2.exDz exSetupZ rfl
    C04E2E2.exReplyZ exGoodReplyD exPre exPre_static exIc exPre_inflate exZback (by decide) [0x81, 1, 65] _
    (bytewise_ne _) (bytewise_flatten _)).2.1
    [0xE2, 0x82, 0xAC, 0x61, 0x82, 0xAC, 0x61] (by decide +kernel) (by decide +kernel) _).trans (by decide +kernel)

/-- … `compressed_text_verdict_takeover` on the same connection (one read) -/
example : Monitor.events (runAll exCfgZ C01E2E.exReact
      (reads [C04E2E2.exReplyZ ++ (exPre.flatMap GItem.bytes ++ (exZback.bytes ++ [0x81, 1, 65]))])).trace =
    handshakeEventsG false none true ++ exPre.flatMap GItem.events ++
      [.protocolError "payload contains invalid utf-8" true, .disconnected "forced" false] := by
  have h := compressed_text_verdict_takeover exCfgZ C01E2E.exReact false none C04E2E2.exDz rfl exSetupZ rfl
    C04E2E2.exReplyZ exGoodReplyD exPre exPre_static exIc exPre_inflate (by decide) exZback (by decide) [0x81, 1, 65]
    [C04E2E2.exReplyZ ++ (exPre.flatMap GItem.bytes ++ (exZback.bytes ++ [0x81, 1, 65]))]
    (by rw [C04E2E2.exReplyZ, Http.lit_ofList]; decide +kernel) (by simp)
    [0xE2, 0x82, 0xAC, 0x61] [0xE2, 0x82, 0xAC, 0x61, 0x82, 0xAC, 0x61] (by decide +kernel) (by decide +kernel)
    (by decide +kernel) []
  rw [List.append_nil] at h
  exact h

/-- valid case: distance 4 instead of 3 — the Euro sign is delivered, and so are the items after it -/
example : Monitor.events (runAll exCfgZ C01E2E.exReact
      (reads ((C04E2E2.exReplyZ ++ (exPre.flatMap GItem.bytes ++
          (exZback4.bytes ++ wireBytes (exMore.flatMap Item.wire)))).map (fun b => [b]))
        ++ [.wait 0 (some .eof)])).trace =
    [.connecting, .connected false, .ready none true, .poll,
     .ping [1], .text [0x20AC, 0x61], .pong [7], .binary [1, 2, 3],
     .text [0x20AC], .binary [1, 2, 3], .ping [9], .disconnected "connection-lost" false] := by
  obtain ⟨cps, hc, h⟩ := (compressed_text_verdict_any_position exCfgZ C01E2E.exReact false none C04E2E2.exDz exSetupZ rfl
    C04E2E2.exReplyZ exGoodReplyD exPre exPre_static exIc exPre_inflate exZback4 (by decide) _ _
    (bytewise_ne _) (bytewise_flatten _)).1
    [0xE2, 0x82, 0xAC, 0x61, 0xE2, 0x82, 0xAC] (by decide +kernel) (by decide +kernel)
  obtain rfl : [0x20AC] = cps := Option.some.inj ((by decide :
    Utf8.decode (List.drop exIc.out [0xE2, 0x82, 0xAC, 0x61, 0xE2, 0x82, 0xAC]) = _).symm.trans hc)
  exact (h exMore exMore_ok rfl 0 (Or.inr (by decide))).trans (by decide +kernel)

/-- the two runs evaluated directly; and the same message `exZback` as the FIRST message of a
    connection: there it cannot be inflated at all -/
example :
    Monitor.events (runAll exCfgZ C01E2E.exReact
      (reads [C04E2E2.exReplyZ ++ (exPre.flatMap GItem.bytes ++ (exZback.bytes ++ [0x81, 1, 65]))])).trace =
    [.connecting, .connected false, .ready none true, .poll,
     .ping [1], .text [0x20AC, 0x61], .pong [7], .binary [1, 2, 3],
     .protocolError "payload contains invalid utf-8" true, .disconnected "forced" false] ∧
    Monitor.events (runAll exCfgZ C01E2E.exReact
      (reads [C04E2E2.exReplyZ ++ (exPre.flatMap GItem.bytes ++ (exZback4.bytes ++ [0x81, 1, 65]))]
        ++ [.wait 0 (some .eof)])).trace =
    [.connecting, .connected false, .ready none true, .poll,
     .ping [1], .text [0x20AC, 0x61], .pong [7], .binary [1, 2, 3],
     .text [0x20AC], .text [65], .disconnected "connection-lost" false] ∧
    Monitor.events (runAll exCfgZ C01E2E.exReact
      (reads [C04E2E2.exReplyZ ++ (exZback.bytes ++ [0x81, 1, 65])])).trace =
    [.connecting, .connected false, .ready none true, .poll,
     .protocolError "unable to decompress payload" true, .disconnected "forced" false] := by
  -- the reply as a list of characters: the kernel is slow on long string literals (Proofs/StrLit.lean)
  rw [C04E2E2.exReplyZ, Http.lit_ofList]
  refine ⟨?_, ?_, ?_⟩ <;> decide +kernel

/-- `ctx_after_pre_keep` on the example: the history is the first message's payload and tail -/
example : exIc.hist = (exPre.filterMap GItem.zpay).flatMap (· ++ [0, 0, 0xff, 0xff]) :=
  (ctx_after_pre_keep exCfgZ C04E2E2.exDz rfl exPre exIc exPre_inflate).1

/-- `ctx_after_pre_reset` is not vacuous: with `server_no_context_takeover` the same prefix leaves
    an empty context -/
example : zOuts ⟨exCfgZ.inflate, some { C04E2E2.exDz with resetDecompress := true }⟩ ⟨[], 0⟩
    (exPre.filterMap GItem.zpay) = some (exPre.filterMap GItem.zplain, ⟨[], 0⟩) := by decide +kernel

/-- `text_verdict_any_position`, invalid case: after the compressed prefix the truncated text
    `E2 82` with RSV1 = 0, then `exMore`, then further reads: nothing after the ProtocolError -/
example : ∃ ces msg, ces <+: ctrlEvents exTrunc ∧
    Monitor.events (runAll exCfgZ C01E2E.exReact
      (reads [C04E2E2.exReplyZ ++ (exPre.flatMap GItem.bytes ++
        (wireBytes exTrunc.wire ++ wireBytes (exMore.flatMap Item.wire)))] ++
        [.wait 3 (some (.data [0x81, 1, 66]))])).trace =
    handshakeEventsG false none true ++ (exPre.flatMap GItem.events ++ ces) ++
      [.protocolError msg true, .disconnected "forced" false] := by
  obtain ⟨ces, msg, hp, h⟩ := (text_verdict_any_position exCfgZ C01E2E.exReact false none C04E2E2.exDz exSetupZ rfl rfl rfl
    C04E2E2.exReplyZ exGoodReplyD exPre exPre_static exIc exPre_inflate exTrunc exTrunc_framed
    (wireBytes (exMore.flatMap Item.wire))
    [C04E2E2.exReplyZ ++ (exPre.flatMap GItem.bytes ++ (wireBytes exTrunc.wire ++ wireBytes (exMore.flatMap Item.wire)))]
    (by rw [C04E2E2.exReplyZ, Http.lit_ofList]; decide +kernel) (by simp)).2 (by decide)
  exact ⟨ces, msg, hp, h _⟩

/-- … valid case ("€a" in three fragments with Ping/Pong in between, then `exMore`) -/
example : Monitor.events (runAll exCfgZ C01E2E.exReact
      (reads ((C04E2E2.exReplyZ ++ (exPre.flatMap GItem.bytes ++
          (wireBytes exMsg.wire ++ wireBytes (exMore.flatMap Item.wire)))).map (fun b => [b]))
        ++ [.wait 0 (some .eof)])).trace =
    [.connecting, .connected false, .ready none true, .poll,
     .ping [1], .text [0x20AC, 0x61], .pong [7], .binary [1, 2, 3],
     .ping [1, 2], .pong [], .text [0x20AC, 0x61],
     .binary [1, 2, 3], .ping [9], .disconnected "connection-lost" false] := by
  obtain ⟨cps, hc, h⟩ := (text_verdict_any_position exCfgZ C01E2E.exReact false none C04E2E2.exDz exSetupZ rfl rfl rfl
    C04E2E2.exReplyZ exGoodReplyD exPre exPre_static exIc exPre_inflate exMsg exMsg_framed _ _
    (bytewise_ne _) (bytewise_flatten _)).1 (by decide)
  obtain rfl : [0x20AC, 0x61] = cps := Option.some.inj ((by decide : Utf8.decode exMsg.payload = _).symm.trans hc)
  exact (h exMore exMore_ok rfl 0 (Or.inr (by decide))).trans (by decide +kernel)

/-- `failfast_any_position` on `C05E2E.exBad` after the compressed prefix: the script ends with the
    offending byte 0x28, the first byte of the second fragment -/
example : Monitor.events (runAll exCfgZ C01E2E.exReact
      (reads ((C04E2E2.exReplyZ ++ (exPre.flatMap GItem.bytes ++
        ([0x01, 2, 0x61, 0xE2] ++ [0x89, 1, 1] ++ [0x00, 2, 0x28]))).map (fun b => [b])))).trace =
    [.connecting, .connected false, .ready none true, .poll,
     .ping [1], .text [0x20AC, 0x61], .pong [7], .binary [1, 2, 3], .ping [1],
     .protocolError "invalid utf8" true, .disconnected "forced" false] := by
  have h := failfast_any_position exCfgZ C01E2E.exReact false none C04E2E2.exDz exSetupZ rfl rfl rfl
    C04E2E2.exReplyZ exGoodReplyD exPre exPre_static exIc exPre_inflate exBad exBad_framed _ _ _ _ _
    (CutAt.later [] [{ pong := false, payload := [1], form := .short }] { payload := [0x28, 0x62], form := .short }
      [([{ pong := true, payload := [], form := .short }], { payload := [0x63], form := .short })] rfl)
    [] 0x28 [0x62] rfl (by decide) ⟨[0x82, 0xAC], by decide⟩
    ((C05.validate_verdict [0x61, 0xE2, 0x28] (by decide)).mp (by decide +kernel))
    ((C04E2E2.exReplyZ ++ (exPre.flatMap GItem.bytes ++
        ([0x01, 2, 0x61, 0xE2] ++ [0x89, 1, 1] ++ [0x00, 2, 0x28]))).map (fun b => [b]))
    (bytewise_ne _) (by rw [bytewise_flatten]; exact congrArg (C04E2E2.exReplyZ ++ ·) (by decide +kernel)) []
  rw [List.append_nil] at h
  exact h.trans (by decide +kernel)

end Lomond.C05ZAny
