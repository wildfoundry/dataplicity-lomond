/-
  C16 companion — the back-off arithmetic of the hand-written `persist` model is what persist.py says.

  `Lomond.Gen.Code.persist*` are produced from `lomond/persist.py` by harness/py2lean.py on every
  check run: `retries = 0` before the loop, `retries += 1` as the first statement of the loop body,
  `if event.name == 'ready': retries = 0` in the `for` loop, and
  `wait_for = min_wait + random() * min(random_wait, 2**retries)` with
  `random_wait = max_wait - min_wait` (numbers read as exact rationals, `random()` as a parameter).
  The theorems state that `Persist.waitFor`, `afterEvent`, `forLoop`, `run` and `persist` use
  exactly these.  Theorems only.
-/
import Lomond.Model.Persist
import Lomond.Generated.Code

namespace Lomond.C16Gen
open Lomond Lomond.Persist
open Lomond.Gen.Code

variable {ε π : Type}

/-- `persistWaitFor`, generated from `wait_for = min_wait + random() * min(random_wait, 2**retries)`, is the model's
    `waitFor` -/
theorem gen_waitFor (c : Cfg π) (retries : Nat) (u : Rat) :
    persistWaitFor c.minWait c.maxWait retries u = waitFor c retries u := by
  unfold persistWaitFor waitFor
  simp [Rat.natCast_pow]
  all_goals (first | rfl | grind)

example : persistWaitFor 5 30 2 (1 / 2) = 7 := by decide +kernel
example : persistWaitFor 5 30 10 (1 / 2) = 35 / 2 := by decide +kernel

/-- `if event.name == 'ready': retries = 0` -/
theorem gen_afterEvent (isReady : ε → Bool) (retries : Nat) (e : ε) :
    persistAfterEvent (isReady e) retries = afterEvent isReady retries e := by
  unfold persistAfterEvent afterEvent
  split <;> rfl

/-- the `for` loop as far as `retries` is concerned -/
theorem gen_forLoop (isReady : ε → Bool) (retries : Nat) (evs : List ε) :
    evs.foldl (fun r e => persistAfterEvent (isReady e) r) retries = forLoop isReady retries evs := by
  unfold forLoop
  simp only [gen_afterEvent]

/-- `retries = 0` before the loop: `persist` starts `run` with the generated initial value -/
theorem gen_persist_init (isReady : ε → Bool) (c : Cfg π) (rs : List (Round ε)) :
    persist isReady c rs = run isReady c persistRetriesInit rs := rfl

/-- one pass through the `while True:` body: `retries += 1`, the `for` loop, the delay — all
    computed by the generated definitions -/
theorem gen_run_step (isReady : ε → Bool) (c : Cfg π) (retries : Nat) (r : Round ε) (rs : List (Round ε)) :
    run isReady c retries (r :: rs) =
      (let retries1 := persistRetriesNext retries
       let retries2 := r.events.foldl (fun k e => persistAfterEvent (isReady e) k) retries1
       let d := persistWaitFor c.minWait c.maxWait retries2 r.draw
       if r.exit then (roundObs c r d, .exited)
       else
         let rest := run isReady c retries2 rs
         (roundObs c r d ++ rest.1, rest.2)) := by
  simp only [run, gen_forLoop, gen_waitFor]
  rfl

example : persistRetriesInit = 0 := rfl
example : persistRetriesNext 4 = 5 := rfl

end Lomond.C16Gen
