/-
  C18 companion — the selector consults `pending()` before it blocks: what selectors.py says.

  Produced by harness/py2lean.py from the source on every check run: `selectorWait`
  (`SelectorBase.wait`, which no selector class overrides): decrypted data pending in the TLS
  layer is reported as readable with its size, without blocking; otherwise `wait_readable` decides
  and the caller's `max_bytes` is passed through.
  The theorem states that `Transport.selWait` (the shipped variant) returns exactly this.
-/
import Lomond.Proofs.GenTie
import Lomond.Model.Transport
import Lomond.Generated.Code

namespace Lomond.C18Gen
open Lomond Lomond.Transport Lomond.GenTie
open Lomond.Gen.Code

/-- `SelectorBase.wait` as a table -/
theorem gen_selectorWait_spec (hasPending : Bool) (pending : Nat) (readable : Bool) (maxBytes : Nat) :
    selectorWait hasPending pending readable maxBytes =
      if hasPending ∧ pending ≠ 0 then (true, pending) else (readable, maxBytes) := by
  unfold selectorWait
  cases hasPending <;> by_cases h : pending = 0 <;> simp [h]

/-- `Transport.selWait` (with the short-cut, as shipped) answers what the translated `wait`
    answers, where `has_pending` / `pending` are the socket's `pending()` and `readable` is the
    answer of `wait_readable` on the state in which it is called (after the one `pending()` call
    that returned 0, when the socket has that method) -/
theorem gen_selWait (cfg : Cfg) (maxBytes : Nat) (s : St) (h : cfg.shortcut = true) :
    let w := selWait cfg maxBytes s
    (w.1, w.2.1) =
      selectorWait s.sock.pending?.isSome (s.sock.pending?.getD 0)
        (waitReadable cfg.poll
          (match s.sock.pending? with
           | some n => { s with trace := s.trace ++ [Tok.pend n] }
           | none => s)).1 maxBytes := by
  rw [gen_selectorWait_spec]
  unfold selWait
  simp only [h]
  cases hp : s.sock.pending? with
  | none => simp
  | some n => by_cases hn : n = 0 <;> simp [hn]

example : selectorWait true 5 false 65536 = (true, 5) := rfl
example : selectorWait true 0 true 65536 = (true, 65536) := rfl
example : selectorWait false 0 false 65536 = (false, 65536) := rfl
example : ({ poll := 5 } : Cfg).shortcut = true := rfl

end Lomond.C18Gen
