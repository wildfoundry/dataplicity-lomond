/-
  C17 — each connect() starts from a clean slate.

  In the model a connection is `Core.runAll cfg react env`: it starts from the initial `Sys`.
  The Python object is not new when `connect()` is called a second time: `used_object_equals_fresh`
  runs the connection from the leftover state of ANY previous connection, re-initialising exactly the
  fields the source re-creates (`Proofs/Fresh.lean`), and proves the result equal to `runAll`.
  That every piece of per-connection state lives on objects that `connect()` replaces
  is a statement about the source text; it is established here over facts that the translator
  re-extracts from `/repo` on every run (`Generated/Facts.lean`): moving a field out of `State`,
  dropping the `reset()` call, turning an instance attribute into a class attribute, … changes
  the generated lists and breaks these theorems.  The behavioural side (second connection on a
  used object = first connection on a fresh one) is the correspondence check.
-/
import Lomond.Model.Core
import Lomond.Generated.Facts
import Lomond.Proofs.Reconnect
import Lomond.Proofs.Fresh

namespace Lomond.C17
open Lomond Lomond.Core

/-- **A connection on a used object is the connection a fresh object would make.**  `prev` is ANY state the object
    can be in when `connect()` is called (whatever the previous connection did and however it ended: mid-header,
    mid-frame, mid-fragmented-message, mid-compression-context, closing, rejected, failed, abandoned).
    `Fresh.reconnect prev …` keeps every field of `prev` except those the source provably re-creates with the
    model's initial value (generated facts: `connect()` starts with `reset()`, `reset()` assigns a new `State`,
    `State.__init__` / `WebsocketStream.__init__` / `FrameParser.__init__` / `Parser.__init__` /
    `WebsocketSession.__init__` and their initialiser expressions); running the connection from there gives
    exactly `runAll cfg react env`. -/
theorem used_object_equals_fresh (prev : Sys) (cfg : Cfg) (react : React) (env : List EnvStep) :
    Fresh.runAllFrom (Fresh.reconnect prev cfg react env) = runAll cfg react env := by
  rw [Fresh.reconnect_eq_init, Fresh.runAll_eq_from]

/-- the statement is not idle: for a concrete dirty object (closing, a close timer armed, mid-text-frame with the UTF-8
    validator inside a character, compression negotiated, 3 bytes buffered) `reconnect` really has something to undo,
    and the field-wise definition really keeps a stale value when the owner is not re-created -/
example :
    let dirty : Sys := { cfg := {}, react := fun _ => [], env := [], closing := true, sentCloseTime := some 7, ready := true,
                         sockOpen := true, parsedResponse := true, decompress := true, inflHist := [1, 2, 3],
                         p := { cont := .payload { opcode := 1, fin := 0 }, remPred := 4, utf8 := true, buf := [0xe2, 0x82, 0x61], dfa := 3, isText := true } }
    Fresh.reconnect dirty {} (fun _ => []) [] ≠ dirty ∧
    Fresh.boolAttr false "State" "closing" true = true ∧
    Fresh.boolAttr true "State" "no_such_attribute" true = true := by
  refine ⟨?_, rfl, by decide +kernel⟩
  rw [Fresh.reconnect_eq_init]
  intro h
  have := congrArg Sys.closing h
  simp at this

/-- a fresh connection starts with every per-connection field at its initial value -/
theorem initial_state (cfg : Cfg) (react : React) (env : List EnvStep) :
    let s0 : Sys := { cfg := cfg, react := react, env := env }
    s0.closing = false ∧ s0.closed = false ∧ s0.sentCloseTime = none ∧ s0.compression = none ∧
    s0.parsedResponse = false ∧ s0.frames = [] ∧ s0.decompress = false ∧ s0.inflHist = [] ∧
    s0.p = {} ∧ s0.ready = false ∧ s0.pollStart = none ∧ s0.startTime = none ∧
    s0.keyCtr = 0 ∧ s0.writeCtr = 0 ∧ s0.trace = [] := by
  simp

def startsWith (pre s : String) : Bool := pre.toList.isPrefixOf s.toList

/-- `connect()` begins with `self.reset()`, `reset()` assigns a new `State`, and `connect()`
    constructs a new session object. -/
theorem connect_replaces_state :
    Gen.connectResetsFirst = true ∧ Gen.resetAssignsState = true ∧ Gen.connectNewSession = true := by
  decide

/-- Outside `__init__`, the only attributes ever written on the `WebSocket` object are `state`
    itself and attributes of `state`. -/
theorem websocket_writes_only_state :
    ∀ w ∈ Gen.wsWrites, w.1 = "__init__" ∨ w.2 = "state" ∨ startsWith "state." w.2 = true := by
  decide +kernel

/-- Every attribute of `state` that is written anywhere is (re)initialised by `State.__init__`. -/
theorem state_attrs_cover_writes :
    ∀ w ∈ Gen.wsWrites, startsWith "state." w.2 = true →
      (String.ofList (w.2.toList.drop 6)) ∈ Gen.stateAttrs := by
  decide +kernel

/-- `State.__init__` creates the stream (parser, fragment list, UTF-8 validator, decompressor),
    the key, and the closing / closed / close-time / compression fields. -/
theorem state_inventory :
    ∀ a ∈ ["stream", "session", "key", "closing", "closed", "sent_close_time", "compression"],
      a ∈ Gen.stateAttrs := by
  decide +kernel

/-- first component of an attribute chain (`_awaiting.remaining` ↦ `_awaiting`) -/
def baseAttr (a : String) : String := String.ofList (a.toList.takeWhile (· ≠ '.'))

/-- On the objects that `State.__init__` / `connect()` construct (stream, frame parser, parser,
    session), every attribute written by any method is assigned in that object's `__init__`:
    no per-connection state lives anywhere else. -/
theorem helper_objects_init_everything :
    (∀ w ∈ Gen.streamWrites, ("__init__", baseAttr w.2) ∈ Gen.streamWrites) ∧
    (∀ w ∈ Gen.frameParserWrites, ("__init__", baseAttr w.2) ∈ Gen.frameParserWrites) ∧
    (∀ w ∈ Gen.parserWrites, ("__init__", baseAttr w.2) ∈ Gen.parserWrites ∨ ("reset", baseAttr w.2) ∈ Gen.parserWrites) ∧
    (∀ w ∈ Gen.sessionWrites, ("__init__", baseAttr w.2) ∈ Gen.sessionWrites) := by
  decide +kernel

/-- The model's per-connection fields and the Python attributes that carry them: each is an
    instance attribute assigned in `__init__` (a class-level attribute would be shared by all
    connections). -/
theorem model_fields_are_instance_state :
    (∀ a ∈ ["_is_text", "_utf8_validator", "_compression", "_frame_class"], ("__init__", a) ∈ Gen.frameParserWrites) ∧
    (∀ a ∈ ["_buffer", "_awaiting", "_gen", "_eof"], ("__init__", a) ∈ Gen.parserWrites) ∧
    (∀ a ∈ ["_frames", "_parsed_response", "_decompress", "frame_parser"], ("__init__", a) ∈ Gen.streamWrites) ∧
    (∀ a ∈ ["_sock", "_poll_start", "_next_ping", "_last_pong", "_start_time", "_ready", "_buffer", "_lock"],
        ("__init__", a) ∈ Gen.sessionWrites) ∧
    Gen.classLevelObjects = [] := by
  decide +kernel

/-! ### abandoned generators that are finalised late (finding D10) -/

open Lomond.Reconnect (codeVia)

/-- the source really contains the handler this is about (the fact list is not vacuous) -/
theorem feed_exit_handler_present : ("feed", "on_disconnect", "captured") ∈ Gen.exitStateReads := by decide

theorem code_via_captured : codeVia = .captured := by decide

open Lomond.Reconnect in
/-- **Late finalisation cannot reach the current connection.**  Take any earlier life of the object `o`, a
    `connect()`, and then any history in which the new connection acts on its own state while generators of
    OLDER connections are finalised at arbitrary moments (`Op.exit i`, `i` older than the current connection): the
    current connection's state is exactly what a freshly constructed object would have after the connection's own
    actions alone.  Stated for the way the current source finds the state (`codeVia`). -/
theorem late_finalisation_isolated (o : Obj) (ops : List Op) (h : OldExits (o.states.length + 1) ops) :
    ((o.connect).run codeVia ops).view = some (freshView ops) := by
  rw [code_via_captured]
  have hl : o.connect.states.length = o.states.length + 1 := by simp [Obj.connect]
  have := run_view o.connect ops {} (view_connect o) (by rw [hl]; exact h)
  exact this.2

open Lomond.Reconnect in
/-- the hypotheses are satisfiable by a non-trivial history: two earlier connections, both finalised during the third -/
example : OldExits 3 [.exit 0, .own .close, .exit 1] ∧
    (((({} : Obj).connect.connect).connect).run .captured [.exit 0, .own .close, .exit 1]).view
      = some { closed := false, closing := true, sessionClosed := false } := by
  refine ⟨?_, by decide⟩
  intro op hm
  simp at hm
  rcases hm with rfl | rfl | rfl <;> simp

open Lomond.Reconnect in
/-- **The code before the repair (D10).**  Going through `self.state` at finalisation time, the exit of the first
    connection's generator after the second `connect()` marks the SECOND connection closed and closes its session
    (the real code then reports ConnectFail "request failed; data not sent"). -/
theorem late_finalisation_poisons_current :
    ((({} : Obj).connect.connect).run .current [.exit 0]).view
      = some { closed := true, closing := false, sessionClosed := true } ∧
    ((({} : Obj).connect.connect).run .captured [.exit 0]).view = some {} := by
  decide

/-- Objects that survive `connect()` (attributes of the WebSocket itself: URL parts, protocols, the list of custom headers, ...)
    are never mutated in place by the library: the only in-place mutation of such an attribute - or of a local name bound to one
    without a copy - in any method other than `__init__` is `add_header` appending to `_headers`, which is an application call.
    In particular `build_request` works on a copy of the custom-header list (seeded change C16-r4m2 aliased it: every reconnect
    then repeated the standard headers, and the stale keys, of all earlier requests).  Re-extracted from the source on every run. -/
theorem surviving_objects_not_mutated_in_place : Gen.wsInPlaceMutations = [("add_header", "self._headers")] := by decide

end Lomond.C17
