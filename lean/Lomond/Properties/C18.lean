/-
  C18 — available data is always drained without waiting for more traffic.

  Model: `Model/Transport.lean` (`SelectorBase.wait`, `_recv`, the receive part of the loop of
  `WebsocketSession.run`, on a modelled plain / TLS-like socket and a virtual clock).
  Property theorems only; helper lemmas live in `Proofs/Transport.lean` (safety) and
  `Proofs/TransportLive.lean` (liveness).

  Every statement is over ALL arrival patterns: any number of arrivals, any payload sizes
  (TLS-like records may be larger than the receive buffer), any time stamps, any poll interval,
  with or without an EOF, and any number `fuel` of loop iterations.  `BUFFER_SIZE` is the value
  regenerated from `session.py`.

  What is *modelled, not proved* (named in MANIFEST as partial): level-triggered `poll(2)`,
  `recv_into` returning `min count available`, one-record-per-read and `pending()` of OpenSSL.
-/
import Lomond.Proofs.Transport
import Lomond.Proofs.TransportLive

namespace Lomond.C18
open Lomond Lomond.Transport

/-- **No blocking wait with buffered data.**  With the `pending()` short-cut (`cfg.shortcut`), for every arrival
    pattern, on plain and TLS-like transports, every `wait_readable` call of the run that consumed virtual time
    (`t0 < t1`) was made when nothing that had arrived was unread: the kernel buffer was empty (`k = 0`: no
    unread bytes, no undecrypted record) and the TLS layer held no decrypted byte (`p = 0`). -/
theorem C18_no_blocking_wait_with_buffered_data (cfg : Cfg) (hs : cfg.shortcut = true)
    (tls : Bool) (arrivals : List (Nat × Bytes)) (eofAt : Option Nat) (fuel : Nat)
    (t0 t1 k p : Nat) (r : Bool)
    (hmem : Tok.wait t0 t1 r k p ∈ (run cfg fuel (init tls arrivals eofAt)).trace)
    (hlt : t0 < t1) : k = 0 ∧ p = 0 :=
  (run_moves cfg fuel (init tls arrivals eofAt)).traceOk hs (by intro tok h; cases h) _ hmem hlt

/-- The same fact as a statement about one `selector.wait` call from **any** state whatsoever
    (reachable or not): if the call lets the clock advance, nothing was buffered. -/
theorem C18_wait_consumes_time_only_when_empty (cfg : Cfg) (hs : cfg.shortcut = true) (m : Nat) (s : St)
    (hlt : s.now < (selWait cfg m s).2.2.now) : s.sock.kernel = [] ∧ s.sock.pendingBytes = [] := by
  revert hlt
  refine selWait_cases cfg m s
    (P := fun w => s.now < w.2.2.now → s.sock.kernel = [] ∧ s.sock.pendingBytes = []) ?_ ?_
  · intro tr hpend _ hlt
    exact ⟨Sock.kernel_nil_of_not_readable (block_now_lt (s := { s with trace := tr }) hlt), hpend hs⟩
  · intro n _ _ hlt
    exact absurd hlt (Nat.lt_irrefl _)

/-- The `pending()` short-cut is what makes this true: without it (variant `shortcut = false`)
    EVERY TLS-like record longer than the receive buffer makes the loop block for a whole poll
    interval while decrypted bytes sit in the TLS layer.  (The harness replays this witness on the
    real code with the short-cut removed.) -/
theorem C18_no_blocking_wait_fails_without_shortcut (r : Bytes) (hr : Gen.bufferSize < r.length)
    (poll : Nat) (hp : 0 < poll) :
    ∃ (fuel t0 t1 k p : Nat) (rd : Bool),
      Tok.wait t0 t1 rd k p ∈ (run { poll := poll, shortcut := false } fuel (init true [(0, r)] none)).trace ∧
      t0 < t1 ∧ p ≠ 0 :=
  ⟨2, 0, poll, 0, r.length - bufferSize, false, noShortcut_blocks r hr poll, hp,
    by have : bufferSize < r.length := hr; omega⟩

/-- … and, when the peer then stays silent, the tail of that record is NEVER handed to `feed`,
    however long the loop runs: it waits for more traffic.  (Liveness fails without the
    short-cut; compare `C18_all_delivered`.) -/
theorem C18_data_stuck_without_shortcut (r : Bytes) (hr : Gen.bufferSize < r.length) (poll fuel : Nat) :
    bytesOf (fed { poll := poll, shortcut := false } true [(0, r)] none fuel) ≠ bytesOf [(0, r)] := by
  have hr' : bufferSize < r.length := hr
  cases fuel with
  | zero =>
    intro h
    have := congrArg List.length h
    simp [fed, run, init] at this
    omega
  | succ n =>
    have h := (run_preserves _ (fun _ hx => cycle_stuck poll hx) n (first_cycle_stuck r hr poll)).log
    intro hc
    have hrun : run { poll := poll, shortcut := false } (n + 1) (init true [(0, r)] none) =
        run { poll := poll, shortcut := false } n (cycle { poll := poll, shortcut := false } (init true [(0, r)] none)) := by
      simp [run, init]
    unfold fed at hc
    rw [hrun, h] at hc
    have := congrArg List.length hc
    simp at this
    omega

/-- **Fed chunks are a prefix of the arrivals, in order** (all variants, all arrival patterns):
    the concatenation of the chunks handed to `feed` is a prefix of the concatenation of the
    arrived payloads — no loss, no duplication, no reordering — and every chunk is non-empty and
    fits `BUFFER_SIZE`. -/
theorem C18_fed_is_prefix_in_order (cfg : Cfg) (tls : Bool) (arrivals : List (Nat × Bytes))
    (eofAt : Option Nat) (fuel : Nat) :
    bytesOf (fed cfg tls arrivals eofAt fuel) <+: bytesOf arrivals ∧
    ∀ c ∈ fed cfg tls arrivals eofAt fuel, c.2 ≠ [] ∧ c.2.length ≤ Gen.bufferSize := by
  constructor
  · have h := run_content cfg fuel (init tls arrivals eofAt)
    rw [init_content] at h
    exact ⟨_, by simpa [fed, content, List.append_assoc] using h⟩
  · exact (run_moves cfg fuel (init tls arrivals eofAt)).chunksOk (by intro c h; cases h)

/-- **Delivery time.**  With the `pending()` short-cut (`cfg.shortcut`), when arrival times are non-decreasing,
    the sequence of (time, byte) pairs handed to `feed` is a prefix of the sequence of (arrival time, byte) pairs: every byte is fed
    in a loop cycle that runs at the very tick at which that byte arrived. -/
theorem C18_delivery_time (cfg : Cfg) (hs : cfg.shortcut = true) (tls : Bool)
    (arrivals : List (Nat × Bytes)) (hsorted : Sorted arrivals) (eofAt : Option Nat) (fuel : Nat) :
    stamps (fed cfg tls arrivals eofAt fuel) <+: stamps arrivals := by
  have h := ((run_moves cfg fuel _).sInv hs (init_SInv tls arrivals eofAt hsorted)).cons
  exact ⟨_, by simpa [fed, List.append_assoc] using h⟩

/-- … hence the `i`-th byte of the stream, if it has been fed by now at all, was fed at its
    arrival tick: a message (or a Ping) whose last byte arrives at time `t` is handed to the
    parser — and so yielded, and its automatic reply written — in a cycle running at time `t`. -/
theorem C18_byte_fed_at_arrival_tick (cfg : Cfg) (hs : cfg.shortcut = true) (tls : Bool)
    (arrivals : List (Nat × Bytes)) (hsorted : Sorted arrivals) (eofAt : Option Nat) (fuel : Nat)
    (i t b : Nat) (h : (stamps (fed cfg tls arrivals eofAt fuel))[i]? = some (t, b)) :
    (stamps arrivals)[i]? = some (t, b) := by
  obtain ⟨rest, hr⟩ := C18_delivery_time cfg hs tls arrivals hsorted eofAt fuel
  rw [← hr]
  rw [List.getElem?_append_left (List.getElem?_eq_some_iff.mp h).1]; exact h

/-- **Everything is delivered** (liveness): with the short-cut and a positive poll interval,
    after finitely many loop iterations every arrived byte has been handed to `feed`, and it
    stays so — without any hypothesis on further traffic (the peer may fall silent forever:
    `eofAt = none`), on record sizes or on burst sizes. -/
theorem C18_all_delivered (cfg : Cfg) (hs : cfg.shortcut = true) (hp : 0 < cfg.poll) (tls : Bool)
    (arrivals : List (Nat × Bytes)) (eofAt : Option Nat) :
    ∃ n, ∀ fuel, n ≤ fuel → bytesOf (fed cfg tls arrivals eofAt fuel) = bytesOf arrivals := by
  obtain ⟨n, hn⟩ := exists_complete cfg hs hp (init_LInv tls arrivals eofAt)
  refine ⟨n, fun fuel hle => ?_⟩
  obtain ⟨m, rfl⟩ : ∃ m, fuel = n + m := ⟨fuel - n, by omega⟩
  have hc := run_complete cfg m hn
  rw [← run_add] at hc
  unfold Complete at hc
  rw [run_content] at hc
  rw [init_content] at hc
  exact hc

/-- … and, when arrival times are non-decreasing, every byte at exactly its arrival tick. -/
theorem C18_all_delivered_on_time (cfg : Cfg) (hs : cfg.shortcut = true) (hp : 0 < cfg.poll) (tls : Bool)
    (arrivals : List (Nat × Bytes)) (hsorted : Sorted arrivals) (eofAt : Option Nat) :
    ∃ n, ∀ fuel, n ≤ fuel → stamps (fed cfg tls arrivals eofAt fuel) = stamps arrivals := by
  obtain ⟨n, hn⟩ := C18_all_delivered cfg hs hp tls arrivals eofAt
  refine ⟨n, fun fuel hle => ?_⟩
  obtain ⟨rest, hr⟩ := C18_delivery_time cfg hs tls arrivals hsorted eofAt fuel
  have hlen := congrArg List.length hr
  have h1 := congrArg List.length (hn fuel hle)
  rw [← stamps_map_snd, ← stamps_map_snd] at h1
  simp only [List.length_map, List.length_append] at h1 hlen
  have : rest = [] := List.eq_nil_of_length_eq_zero (by omega)
  rw [this, List.append_nil] at hr
  exact hr

/-! Non-vacuity: concrete runs (TLS-like and plain), including a burst of three records in one
    tick, a gap longer than the poll interval and an EOF. -/

example : fed { poll := 5 } true [(0, [1, 2, 3]), (0, [4]), (0, [5, 6]), (12, [7])] (some 13) 20 =
    [(0, [1, 2, 3]), (0, [4]), (0, [5, 6]), (12, [7])] := by decide +kernel

example : fed { poll := 5 } false [(0, [1, 2, 3]), (0, [4]), (0, [5, 6]), (12, [7])] (some 13) 20 =
    [(0, [1, 2, 3, 4, 5, 6]), (12, [7])] := by decide +kernel

example : Sorted [(0, [1, 2, 3]), (0, [4]), (0, [5, 6]), (12, [7])] := by
  simp [Sorted]

/-- a wait that does consume time exists in such a run (the hypothesis `t0 < t1` is satisfiable) -/
example : Tok.wait 0 5 false 0 0 ∈
    (run { poll := 5 } 20 (init true [(0, [1, 2, 3]), (12, [7])] (some 13))).trace := by decide +kernel

/-- the short-cut is exercised: every record larger than the buffer (up to twice its size) is
    drained by two reads in the tick of its arrival, with no traffic after it -/
example (r : Bytes) (hr : Gen.bufferSize < r.length) (hr2 : r.length ≤ 2 * Gen.bufferSize) (poll : Nat) :
    fed { poll := poll } true [(0, r)] none 2 = [(0, r.take Gen.bufferSize), (0, r.drop Gen.bufferSize)] :=
  shortcut_drains r hr hr2 poll

/-- hypotheses of the two `…without_shortcut` theorems are satisfiable -/
example : Gen.bufferSize < (List.replicate (Gen.bufferSize + 1) 0).length := by simp

end Lomond.C18
