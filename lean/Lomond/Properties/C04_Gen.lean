/-
  C04 companion — the receive-side checks of the hand-written model are what frame.py /
  frame_parser.py / opcode.py say.

  `Lomond.Gen.Code.*` are produced from the Python source by harness/py2lean.py on every check
  run: the bit-field extraction of `FrameParser.parse`, its `== 126` / `== 127` branches, the
  `> 0x7fffffffffffffff` test, `Frame.validate` (for `Frame` and for `CompressedFrame`),
  `validate_reserved_bits`, `is_control`, `is_reserved`, and the control-length test the repaired
  parser applies after `frame.validate()` — in the order of the source —, and the mask test of
  `ClientFrameParser.on_frame`.  The theorems state that
  `Core.resume` / `gotLength` / `gotMask` / `validateFrame` compute exactly these.
  Theorems only; helpers are in `Proofs/GenTie`.
-/
import Lomond.Proofs.GenTie
import Lomond.Generated.Code

namespace Lomond.C04Gen
open Lomond Lomond.Core Lomond.GenTie
open Lomond.Gen.Code

/-- `fin = byte1 >> 7`, `rsv1 = (byte1 >> 6) & 1`, …, `opcode = byte1 & 0b00001111`,
    `mask_bit = byte2 >> 7`, `payload_length = byte2 & 0b01111111` are the divisions and
    remainders the model uses (`Core.resume`, `Core.gotMask`), for all bytes. -/
theorem gen_fields (b0 b1 : Nat) :
    parseFields b0 b1 = (b0 / 128, b0 / 64 % 2, b0 / 32 % 2, b0 / 16 % 2, b0 % 16, b1 / 128, b1 % 128) := by
  have h15 : b0 &&& 15 = b0 % 16 := Nat.and_two_pow_sub_one_eq_mod b0 4
  have h127 : b1 &&& 127 = b1 % 128 := Nat.and_two_pow_sub_one_eq_mod b1 7
  simp only [parseFields, Nat.shiftRight_eq_div_pow, Nat.and_one_is_mod, h15, h127, Nat.reducePow]

example : parseFields 0x89 0xFE = (1, 0, 0, 0, 9, 1, 126) := rfl

/-- the model's `maskBit := b1 ≥ 128` is the truth value of the source's `mask_bit` -/
theorem gen_maskBit (b0 b1 : Nat) :
    (decide (b1 ≥ 128)) = decide ((parseFields b0 b1).2.2.2.2.2.1 ≠ 0) := by
  rw [gen_fields b0 b1]; simp only [decide_eq_decide]; omega

/-- `is_control` and `is_reserved` -/
theorem gen_isControl (f : Frame) : f.isControl = frameIsControl f.opcode := rfl

theorem gen_isReserved (op : Nat) : isReservedOp op = opcodeIsReserved op := rfl

/-- how many extended-length bytes `parse` reads: 2 for 126, 8 for 127, else none -/
theorem gen_lenExt (len7 : Nat) :
    parseLenExt len7 = if len7 = 126 then 2 else if len7 = 127 then 8 else 0 := by
  simp only [parseLenExt, decide_eq_true_eq]

set_option linter.unusedVariables false in
/-- `Core.resume` at the two header bytes: the fields are the generated ones; it asks for as many
    further bytes as the source reads (`remPred + 1 = parseLenExt …`) or goes on with the 7-bit length. -/
theorem gen_resume_hdr2 (v : Variant) (p : PState) (b0 b1 : Nat) (h0 : b0 < 256) (h1 : b1 < 256)
    (hc : p.cont = .hdr2) :
    resume v p [b0, b1] =
      (let p' : PState := { p with remPred := 0, utf8 := false, buf := [] }
       let flds := parseFields b0 b1
       let maskBit : Bool := decide (flds.2.2.2.2.2.1 ≠ 0)
       let len7 := flds.2.2.2.2.2.2
       if parseLenExt len7 = 2 then
         .ok ({ p' with cont := .len16 b0 maskBit, remPred := parseLenExt len7 - 1, utf8 := false, buf := [] }, none)
       else if parseLenExt len7 = 8 then
         .ok ({ p' with cont := .len64 b0 maskBit, remPred := parseLenExt len7 - 1, utf8 := false, buf := [] }, none)
       else gotLength v p' b0 maskBit len7) := by
  have hm := gen_maskBit b0 b1
  rw [gen_fields b0 b1] at hm
  simp only [resume, hc, gen_fields b0 b1, gen_lenExt, List.getD_cons_zero, List.getD_cons_succ, ← hm]
  by_cases c1 : b1 % 128 = 126
  · simp [c1]
  · by_cases c2 : b1 % 128 = 127
    · simp [c2]
    · simp [c1, c2]

/-- `if payload_length > 0x7fffffffffffffff: raise PayloadTooLarge(..)` is `gotLength`'s first test -/
theorem gen_gotLength (v : Variant) (p : PState) (b0 : Nat) (maskBit : Bool) (len : Nat) :
    gotLength v p b0 maskBit len =
      match parseTooLarge len with
      | .error e => .error (exnOf e)
      | .ok _ =>
        if maskBit then .ok ({ p with cont := .maskKey b0 len, remPred := 3, utf8 := false, buf := [] }, none)
        else gotMask v p b0 len none := by
  unfold gotLength parseTooLarge
  simp only [decide_eq_true_eq]
  by_cases c : len > 0x7fffffffffffffff
  · simp only [if_pos c, exnOf_tooLarge]
  · simp only [if_neg c]

example : parseTooLarge (2 ^ 63) = .error ⟨"PayloadTooLarge", "payload is too large"⟩ := rfl
example : parseTooLarge (2 ^ 63 - 1) = .ok () := rfl

/-- `Frame.validate_reserved_bits` / `CompressedFrame.validate_reserved_bits` -/
theorem gen_reservedBits (c : Bool) (r1 r2 r3 : Nat) :
    (if c then compressedFrameValidateReservedBits r1 r2 r3 else frameValidateReservedBits r1 r2 r3) =
      if (if c then r2 ≠ 0 ∨ r3 ≠ 0 else r1 ≠ 0 ∨ r2 ≠ 0 ∨ r3 ≠ 0) then
        .error ⟨"ProtocolError", "reserved bits set"⟩
      else .ok () := by
  cases c
  · simp only [frameValidateReservedBits, Bool.false_eq_true, if_false, Bool.or_eq_true, decide_eq_true_eq]
  · simp only [compressedFrameValidateReservedBits, if_true, Bool.or_eq_true, decide_eq_true_eq]

/-- `Frame.validate()` on the frame `parse` has just constructed: its payload is still `b''`, so
    the method's own control-length test never fires there (finding D1) -/
theorem gen_validate_emptyPayload (c : Bool) (fin r1 r2 r3 op : Nat) :
    (if c then compressedFrameValidate fin r1 r2 r3 op [] else frameValidate fin r1 r2 r3 op []) =
      if (if c then r2 ≠ 0 ∨ r3 ≠ 0 else r1 ≠ 0 ∨ r2 ≠ 0 ∨ r3 ≠ 0) then
        .error ⟨"ProtocolError", "reserved bits set"⟩
      else if opcodeIsReserved op then .error ⟨"ProtocolError", "opcode is reserved"⟩
      else if fin = 0 ∧ frameIsControl op then .error ⟨"ProtocolError", "control frames may not be fragmented"⟩
      else .ok () := by
  have hr := gen_reservedBits c r1 r2 r3
  have hlen : ¬ ([] : List Nat).length > 125 := by decide
  -- the reserved-bits check either raises or falls through to the remaining tests, which are the model's
  cases c
  · simp only [Bool.false_eq_true, if_false] at hr ⊢
    simp only [frameValidate, hr, hlen, decide_false, Bool.and_false, Bool.false_eq_true, if_false,
      Bool.and_eq_true, Bool.not_eq_true', decide_eq_false_iff_not, Decidable.not_not]
    by_cases h : r1 ≠ 0 ∨ r2 ≠ 0 ∨ r3 ≠ 0
    · simp only [if_pos h]
    · simp only [if_neg h]
  · simp only [if_true] at hr ⊢
    simp only [compressedFrameValidate, hr, hlen, decide_false, Bool.and_false, Bool.false_eq_true, if_false,
      Bool.and_eq_true, Bool.not_eq_true', decide_eq_false_iff_not, Decidable.not_not]
    by_cases h : r2 ≠ 0 ∨ r3 ≠ 0
    · simp only [if_pos h]
    · simp only [if_neg h]

/-- The whole verdict.  What `FrameParser.parse` (with `validate=True`) decides between reading
    the length and asking for the payload — too large, reserved bits (per frame class), reserved
    opcode, fragmented control frame, control frame longer than 125 — in this order and with
    these texts, is `gotLength`'s size test followed by `Core.validateFrame`, for every value of
    the compression flag, the five header fields and the payload length. -/
theorem gen_validateFrame (v : Variant) (hv : v.ctrlLen = true) (c : Bool) (f : Frame) (maskBit len : Nat) :
    exceptOf (if c then parseChecksCompressed true f.fin f.rsv1 f.rsv2 f.rsv3 f.opcode maskBit len
              else parseChecksFrame true f.fin f.rsv1 f.rsv2 f.rsv3 f.opcode maskBit len) =
      if len > 0x7fffffffffffffff then .error (.protocol "payload is too large")
      else validateFrame v c f len := by
  have hval := gen_validate_emptyPayload c f.fin f.rsv1 f.rsv2 f.rsv3 f.opcode
  -- the two frame classes differ in `validate()` only
  have hpc : (if c then parseChecksCompressed true f.fin f.rsv1 f.rsv2 f.rsv3 f.opcode maskBit len
              else parseChecksFrame true f.fin f.rsv1 f.rsv2 f.rsv3 f.opcode maskBit len) =
      if decide (len > 0x7fffffffffffffff) then .error ⟨"PayloadTooLarge", "payload is too large"⟩
      else match (if c then compressedFrameValidate f.fin f.rsv1 f.rsv2 f.rsv3 f.opcode []
                  else frameValidate f.fin f.rsv1 f.rsv2 f.rsv3 f.opcode []) with
        | .error e => .error e
        | .ok _ => if frameIsControl f.opcode && decide (len > 125) then
            .error ⟨"ProtocolError", "control frames must be <= 125 bytes in length"⟩ else .ok () := by
    cases c <;> rfl
  unfold validateFrame
  rw [gen_isControl, gen_isReserved, hpc, hval]
  -- both sides are the same five tests in the same order: go through them one by one
  simp only [hv, decide_eq_true_eq, Bool.and_eq_true, true_and]
  by_cases h0 : len > 0x7fffffffffffffff
  · simp only [if_pos h0, exceptOf, exnOf_tooLarge]
  simp only [if_neg h0]
  by_cases h1 : if c = true then f.rsv2 ≠ 0 ∨ f.rsv3 ≠ 0 else f.rsv1 ≠ 0 ∨ f.rsv2 ≠ 0 ∨ f.rsv3 ≠ 0
  · simp only [if_pos h1, exceptOf, exnOf_protocol]
  simp only [if_neg h1]
  by_cases h2 : opcodeIsReserved f.opcode = true
  · simp only [if_pos h2, exceptOf, exnOf_protocol]
  simp only [if_neg h2]
  by_cases h3 : f.fin = 0 ∧ frameIsControl f.opcode = true
  · simp only [if_pos h3, exceptOf, exnOf_protocol]
  simp only [if_neg h3]
  by_cases h4 : frameIsControl f.opcode = true ∧ len > 125
  · simp only [if_pos h4, exceptOf, exnOf_protocol]
  · simp only [if_neg h4, exceptOf]

/-- with `validate=False` only the size test remains -/
theorem gen_noValidate (c : Bool) (fin r1 r2 r3 op maskBit len : Nat) :
    (if c then parseChecksCompressed false fin r1 r2 r3 op maskBit len
     else parseChecksFrame false fin r1 r2 r3 op maskBit len) = parseTooLarge len := by
  cases c
  · simp only [parseChecksFrame, parseTooLarge, Bool.false_eq_true, if_false]
  · simp only [parseChecksCompressed, parseTooLarge, Bool.false_eq_true, if_false, if_true]

/-- `ClientFrameParser.on_frame`: a masked frame from the server is a ProtocolError, raised when
    the frame is complete (`Core.frameDone`), before `FrameParser.on_frame` runs; an unmasked
    frame is handed on -/
theorem gen_maskGuard (v : Variant) (p : PState) (f : Frame) :
    match clientOnFrameGuard f.mask with
    | .error e => frameDone v p f = .error (exnOf e)
    | .ok _ => ∃ p', frameDone v p f = .ok (p', some (.frame f)) := by
  unfold clientOnFrameGuard frameDone
  cases f.mask
  · exact ⟨_, rfl⟩
  · simp only [if_true, exnOf_protocol]

example : clientOnFrameGuard true = .error ⟨"ProtocolError", "server sent masked frame"⟩ := rfl
example : clientOnFrameGuard false = .ok () := rfl

/-- the order of the checks, spelled out on one input that violates all of them at once, and on
    inputs that violate all but the earlier ones -/
example : parseChecksFrame true 0 1 0 0 11 0 (2 ^ 63) = .error ⟨"PayloadTooLarge", "payload is too large"⟩ := rfl
example : parseChecksFrame true 0 1 0 0 11 0 200 = .error ⟨"ProtocolError", "reserved bits set"⟩ := rfl
example : parseChecksFrame true 0 0 0 0 11 0 200 = .error ⟨"ProtocolError", "opcode is reserved"⟩ := rfl
example : parseChecksFrame true 0 0 0 0 9 0 200 = .error ⟨"ProtocolError", "control frames may not be fragmented"⟩ := rfl
example : parseChecksFrame true 1 0 0 0 9 0 126 = .error ⟨"ProtocolError", "control frames must be <= 125 bytes in length"⟩ := rfl
example : parseChecksFrame true 1 0 0 0 9 0 125 = .ok () := rfl
example : parseChecksCompressed true 1 1 0 0 1 0 5 = .ok () := rfl
example : parseChecksFrame true 1 1 0 0 1 0 5 = .error ⟨"ProtocolError", "reserved bits set"⟩ := rfl

end Lomond.C04Gen
