/-
  C13 companion — EVERY fair schedule of the thread model completes (not only: some schedule does, `C13_Term.lean`).

  Thread model of C11 / C12 / C13 (`Model/Threads.lean`, two-chunk socket): a schedule is a list of thread ids; an entry of
  a thread that is done, or that waits at an `acquire` for the held lock, is a no-op (`Threads.step_not_enabled`).  The
  lock acquisitions of lomond (`with self._lock:`) have no time-out, so there is no "time-out" scheduling choice: a waiting
  thread moves exactly when it is scheduled while the lock is free.

    * `entry_moves_iff`, `moving_entries_bounded` — NO LIVELOCK: in a reachable state an entry changes the state iff its
      thread can move (`enabled`); along ANY schedule the number of such entries, plus the measure `remaining` of the
      state reached, is at most `remaining` of the start state.  So no schedule keeps the system busy for more than
      `remaining` moving entries.
    * `stuck_iff_all_done`, `all_done_or_some_can_move`, `holder_not_done`, `all_done_lock_free` — NO DEADLOCK, exactly:
      in a reachable state no thread `u < n` can move iff all threads are done.  There is NO exception for a lock held by
      a thread that is done / abandoned: in this model the holder of the lock always has a call in progress (every path out
      of a `with self._lock:` block — normal, WebSocketError, TransportFail, the alternative continuations that end the
      loop — passes its `release`), and when all threads are done the lock is free.
    * `fair_schedule_completes` — every infinite schedule `σ : Nat → Tid` in which every thread `u < n` occurs again and
      again reaches, after some prefix length `N`, a state in which all threads are done, and every longer prefix ends in
      that very state.  `window_fair_completes` / `round_robin_completes`: with an explicit bound — if every window of `w`
      consecutive entries names every thread (round-robin `σ j = j % n`: `w = n`), `N = w * remaining` entries suffice.
    * `abandon_fair_socket_shut` — the abandon family of `C13_Threads.lean` (loop program `[.abandon]`, arbitrary application
      programs), from every reachable state, under every fair continuation: eventually all threads are done and the socket
      is shut, for good.  `abandon_round_robin_socket_shut`: with the bound.
    * `fair_whole_frames` — arbitrary programs (N senders, the loop's writers, `close()`): under every fair schedule
      eventually all threads are done and the wire is a sequence of whole frames (`C11.whole_frames_quiescent`; in the
      vocabulary of `C11_N.lean`: whole groups of the two-chunk socket, `fair_whole_frames_groups`), for good.

  All for every variant, configuration and programs of finitely many threads (`progs t = []` for `t ≥ n`); the statements
  about schedules in general also for the start state `initPre` and after any prefix `pre`, `abandon_fair_socket_shut`
  after any prefix from `init`, `fair_whole_frames` from `init`.

  Two-chunk socket (`run`) only, as `C13_Term.lean`: with the general socket of `Model/ThreadsN.lean` the measure would
  also have to count the chunks left of the `sendall` in progress.  The generic part (`Threads.FairSys` in
  `Proofs/ThreadsFair.lean`) needs only: a measure that moving entries decrease, no deadlock, no-op entries.
-/
import Lomond.Proofs.ThreadsFair
import Lomond.Properties.C13_Term
import Lomond.Properties.C11_N

namespace Lomond.C13Fair
open Lomond Lomond.Threads Lomond.C13Threads Lomond.C13Term

/-- the first `k` entries of an infinite schedule -/
abbrev prefixOf (σ : Nat → Tid) (k : Nat) : List Tid := (List.range k).map σ

/-- every thread `u < n` is scheduled again and again -/
abbrev FairSchedule (n : Nat) (σ : Nat → Tid) : Prop := ∀ u, u < n → ∀ k, ∃ j, k ≤ j ∧ σ j = u

/-- every window of `w` consecutive entries names every thread `u < n` -/
abbrev WindowFairSchedule (n w : Nat) (σ : Nat → Tid) : Prop := ∀ k u, u < n → ∃ j, k ≤ j ∧ j < k + w ∧ σ j = u

/-- the entries of a schedule whose thread can move when the entry is executed -/
abbrev movingEntries (v : Variant) (cfg : Cfg) (s : State) (sched : List Tid) : Nat := Threads.movingEntries v cfg s sched

theorem reachable_inv (v : Variant) (cfg : Cfg) (progs : Tid → List Call) (n : Nat)
    (hn : ∀ t, n ≤ t → progs t = []) (pre : List Tid) (s₁ : State) (h₁ : s₁ = init progs ∨ s₁ = initPre progs) :
    TermInv v cfg n (run v cfg s₁ pre) := by
  obtain ⟨F, hp⟩ := fresh_of_start h₁
  exact (termSys v cfg n).inv_exec s₁ pre
    ⟨lockInv_fresh v cfg F, ne_fresh _ F.cur, fun u hu => ⟨hp u ▸ hn u hu, F.cur u⟩⟩

/-- **An entry changes the state iff its thread can move** (in every reachable state; any thread id). -/
theorem entry_moves_iff (v : Variant) (cfg : Cfg) (progs : Tid → List Call) (pre : List Tid)
    (s₁ : State) (h₁ : s₁ = init progs ∨ s₁ = initPre progs) (u : Tid) :
    let s := run v cfg s₁ pre
    step v cfg s u ≠ s ↔ enabled v cfg s u = true := by
  intro s
  have N : NE s := ne_run v cfg _ pre (ne_fresh _ (fresh_of_start h₁).1.cur)
  constructor
  · intro h
    cases he : enabled v cfg s u with
    | true => rfl
    | false => exact absurd (step_not_enabled v cfg s u he) h
  · exact step_enabled_ne v cfg s u N

/-- **No livelock**: along ANY schedule `sched` from a reachable state `s`, the number of entries that move a thread, plus
    the steps remaining at the end, is at most the steps remaining in `s`. -/
theorem moving_entries_bounded (v : Variant) (cfg : Cfg) (progs : Tid → List Call) (n : Nat)
    (hn : ∀ t, n ≤ t → progs t = []) (pre : List Tid) (s₁ : State) (h₁ : s₁ = init progs ∨ s₁ = initPre progs)
    (sched : List Tid) :
    let s := run v cfg s₁ pre
    movingEntries v cfg s sched + remaining v cfg n (run v cfg s sched) ≤ remaining v cfg n s := by
  intro s
  have h := (termSys v cfg n).moving_le s sched (reachable_inv v cfg progs n hn pre s₁ h₁)
  rw [termSys_moving] at h
  exact h

/-- in particular: at most `remaining` entries of any schedule move a thread -/
theorem moving_entries_le_remaining (v : Variant) (cfg : Cfg) (progs : Tid → List Call) (n : Nat)
    (hn : ∀ t, n ≤ t → progs t = []) (pre : List Tid) (s₁ : State) (h₁ : s₁ = init progs ∨ s₁ = initPre progs)
    (sched : List Tid) :
    let s := run v cfg s₁ pre
    movingEntries v cfg s sched ≤ remaining v cfg n s := by
  intro s
  have := moving_entries_bounded v cfg progs n hn pre s₁ h₁ sched
  exact Nat.le_trans (Nat.le_add_right _ _) this

/-- **In every reachable state either all threads are done or some thread `u < n` can move.** -/
theorem all_done_or_some_can_move (v : Variant) (cfg : Cfg) (progs : Tid → List Call) (n : Nat)
    (hn : ∀ t, n ≤ t → progs t = []) (pre : List Tid) (s₁ : State) (h₁ : s₁ = init progs ∨ s₁ = initPre progs) :
    let s := run v cfg s₁ pre
    AllDone v cfg s ∨ ∃ u, u < n ∧ enabled v cfg s u = true := by
  intro s
  have I := reachable_inv v cfg progs n hn pre s₁ h₁
  by_cases hd : AllDone v cfg s
  · exact Or.inl hd
  · obtain ⟨u, hu⟩ := (termSys v cfg n).live s I hd
    exact Or.inr ⟨u, ((termSys v cfg n).dec s u I hu).1, hu⟩

/-- **The stuck states are exactly the completed ones**: no thread `u < n` can move iff all threads are done. -/
theorem stuck_iff_all_done (v : Variant) (cfg : Cfg) (progs : Tid → List Call) (n : Nat)
    (hn : ∀ t, n ≤ t → progs t = []) (pre : List Tid) (s₁ : State) (h₁ : s₁ = init progs ∨ s₁ = initPre progs) :
    let s := run v cfg s₁ pre
    (∀ u, u < n → enabled v cfg s u = false) ↔ AllDone v cfg s := by
  intro s
  constructor
  · intro h
    rcases all_done_or_some_can_move v cfg progs n hn pre s₁ h₁ with hd | ⟨u, hun, hu⟩
    · exact hd
    · rw [h u hun] at hu; cases hu
  · intro h u _
    exact (termSys v cfg n).quiet s u h

/-- the holder of the lock is never a thread that is done: it has a call in progress and can move -/
theorem holder_not_done (v : Variant) (cfg : Cfg) (progs : Tid → List Call) (pre : List Tid)
    (s₁ : State) (h₁ : s₁ = init progs ∨ s₁ = initPre progs) (h : Tid) :
    let s := run v cfg s₁ pre
    s.sh.lock = some h → (s.th h).current v cfg ≠ none ∧ enabled v cfg s h = true := by
  intro s hl
  have L₁ : LockInv v cfg s₁ := lockInv_fresh v cfg (fresh_of_start h₁).1
  have he := holder_enabled (lockInv_run v cfg _ pre L₁) hl
  exact ⟨enabled_current he, he⟩

/-- when all threads are done the lock is free -/
theorem all_done_lock_free (v : Variant) (cfg : Cfg) (progs : Tid → List Call) (pre : List Tid)
    (s₁ : State) (h₁ : s₁ = init progs ∨ s₁ = initPre progs) :
    let s := run v cfg s₁ pre
    AllDone v cfg s → s.sh.lock = none := by
  intro s hd
  cases hl : s.sh.lock with
  | none => rfl
  | some h => exact absurd (hd h) (holder_not_done v cfg progs pre s₁ h₁ h hl).1

/-- **Every fair schedule completes.**  From every reachable state `s`, for every infinite schedule `σ` in which every
    thread `u < n` occurs again and again: there is a prefix length `N` such that after every prefix of length `N' ≥ N`
    all threads are done — and the state no longer changes. -/
theorem fair_schedule_completes (v : Variant) (cfg : Cfg) (progs : Tid → List Call) (n : Nat)
    (hn : ∀ t, n ≤ t → progs t = []) (pre : List Tid) (s₁ : State) (h₁ : s₁ = init progs ∨ s₁ = initPre progs)
    (σ : Nat → Tid) (hσ : FairSchedule n σ) :
    let s := run v cfg s₁ pre
    ∃ N, ∀ N', N ≤ N' →
      AllDone v cfg (run v cfg s (prefixOf σ N')) ∧ run v cfg s (prefixOf σ N') = run v cfg s (prefixOf σ N) := by
  intro s
  exact (termSys v cfg n).fair_completes s σ (reachable_inv v cfg progs n hn pre s₁ h₁) hσ

/-- **With a bound**: if every window of `w` consecutive entries names every thread `u < n`, the first `w * remaining`
    entries complete all threads (and nothing changes afterwards). -/
theorem window_fair_completes (v : Variant) (cfg : Cfg) (progs : Tid → List Call) (n : Nat)
    (hn : ∀ t, n ≤ t → progs t = []) (pre : List Tid) (s₁ : State) (h₁ : s₁ = init progs ∨ s₁ = initPre progs)
    (σ : Nat → Tid) (w : Nat) (hσ : WindowFairSchedule n w σ) :
    let s := run v cfg s₁ pre
    let N := w * remaining v cfg n s
    ∀ N', N ≤ N' →
      AllDone v cfg (run v cfg s (prefixOf σ N')) ∧ run v cfg s (prefixOf σ N') = run v cfg s (prefixOf σ N) := by
  intro s N N' hN
  have hd := (termSys v cfg n).window_completes s σ (reachable_inv v cfg progs n hn pre s₁ h₁) w hσ
  exact (termSys v cfg n).done_from s σ N hd N' hN

/-- **Round-robin completes within `n * remaining` entries** (`σ j = j % n`), from every reachable state. -/
theorem round_robin_completes (v : Variant) (cfg : Cfg) (progs : Tid → List Call) (n : Nat)
    (hn : ∀ t, n ≤ t → progs t = []) (pre : List Tid) (s₁ : State) (h₁ : s₁ = init progs ∨ s₁ = initPre progs) :
    let s := run v cfg s₁ pre
    let N := n * remaining v cfg n s
    ∀ N', N ≤ N' →
      AllDone v cfg (run v cfg s (prefixOf (· % n) N')) ∧
      run v cfg s (prefixOf (· % n) N') = run v cfg s (prefixOf (· % n) N) :=
  window_fair_completes v cfg progs n hn pre s₁ h₁ (· % n) n (roundRobin_windowFair n)

/-- round-robin is fair -/
theorem round_robin_fair (n : Nat) : FairSchedule n (· % n) :=
  windowFair_fair n n _ (roundRobin_windowFair n)

/-- **C13 with threads, every fair schedule**: loop program `[.abandon]`, arbitrary application programs, ANY reachable
    state (a sender may hold the lock), any fair continuation `σ`: from some prefix length on, all threads are done and
    the socket is shut. -/
theorem abandon_fair_socket_shut (v : Variant) (cfg : Cfg) (progs : Tid → List Call) (n : Nat) (l : Tid)
    (hn : ∀ t, n ≤ t → progs t = []) (hl : progs l = [.abandon]) (pre : List Tid)
    (σ : Nat → Tid) (hσ : FairSchedule n σ) :
    let s := final v cfg progs pre
    ∃ N, ∀ N', N ≤ N' →
      AllDone v cfg (run v cfg s (prefixOf σ N')) ∧ (run v cfg s (prefixOf σ N')).sh.sockShut = true := by
  intro s
  obtain ⟨N, h⟩ := fair_schedule_completes v cfg progs n hn pre (init progs) (Or.inl rfl) σ hσ
  refine ⟨N, fun N' hN => ⟨(h N' hN).1, ?_⟩⟩
  exact lock_held_at_abandonment v cfg progs l hl pre (prefixOf σ N') ((h N' hN).1 l)

/-- the same with the bound, for the round-robin schedule -/
theorem abandon_round_robin_socket_shut (v : Variant) (cfg : Cfg) (progs : Tid → List Call) (n : Nat) (l : Tid)
    (hn : ∀ t, n ≤ t → progs t = []) (hl : progs l = [.abandon]) (pre : List Tid) :
    let s := final v cfg progs pre
    ∀ N', n * remaining v cfg n s ≤ N' →
      AllDone v cfg (run v cfg s (prefixOf (· % n) N')) ∧ (run v cfg s (prefixOf (· % n) N')).sh.sockShut = true := by
  intro s N' hN
  have h := round_robin_completes v cfg progs n hn pre (init progs) (Or.inl rfl) N' hN
  exact ⟨h.1, lock_held_at_abandonment v cfg progs l hl pre (prefixOf (· % n) N') (h.1 l)⟩

/-- **C11, every fair schedule**: arbitrary programs of finitely many threads (N senders, `close()`, the loop's writers),
    any fair schedule: from some prefix length on all threads are done and the wire is a sequence of WHOLE frames (each
    frame's two chunks adjacent and in order, nothing else). -/
theorem fair_whole_frames (v : Variant) (cfg : Cfg) (progs : Tid → List Call) (n : Nat)
    (hn : ∀ t, n ≤ t → progs t = []) (σ : Nat → Tid) (hσ : FairSchedule n σ) :
    ∃ N, ∀ N', N ≤ N' →
      let s := C11.final v cfg progs (prefixOf σ N')
      AllDone v cfg s ∧ s.sh.wire = pairs (frames s.sh.wire) := by
  obtain ⟨N, h⟩ := fair_schedule_completes v cfg progs n hn [] (init progs) (Or.inl rfl) σ hσ
  refine ⟨N, fun N' hN => ?_⟩
  have hd : AllDone v cfg (C11.final v cfg progs (prefixOf σ N')) := (h N' hN).1
  refine ⟨hd, C11.whole_frames_quiescent v cfg progs _ (fun t => ?_)⟩
  simp only [view, hd t]
  rfl

/-- the same in the vocabulary of `C11_N.lean` (the two-chunk socket `Env.two`): the wire is the concatenation of whole
    groups, the groups of each thread in call order -/
theorem fair_whole_frames_groups (v : Variant) (cfg : Cfg) (progs : Tid → List Call) (n : Nat)
    (hn : ∀ t, n ≤ t → progs t = []) (σ : Nat → Tid) (hσ : FairSchedule n σ) :
    ∃ N, ∀ N', N ≤ N' →
      let s := C11N.final Env.two v cfg progs (prefixOf σ N')
      AllDone v cfg s ∧
      ∃ gs : List Group, (∀ g ∈ gs, g.whole Env.two) ∧ (∀ t, (gidx gs t).Pairwise (· < ·)) ∧ s.sh.wire = flat gs := by
  obtain ⟨N, h⟩ := fair_schedule_completes v cfg progs n hn [] (init progs) (Or.inl rfl) σ hσ
  refine ⟨N, fun N' hN => ?_⟩
  have e : C11N.final Env.two v cfg progs (prefixOf σ N') = run v cfg (init progs) (prefixOf σ N') :=
    runN_default v cfg _ _
  have hd : AllDone v cfg (C11N.final Env.two v cfg progs (prefixOf σ N')) := by rw [e]; exact (h N' hN).1
  refine ⟨hd, C11N.whole_frames_no_failure Env.two (fun _ _ => rfl) v cfg progs _ (fun t => ?_)⟩
  simp only [view, hd t]
  rfl

/-! ### non-vacuity -/

/-- two senders and the loop thread closing the generator -/
def twoAb : Tid → List Call := progsOf [[.sendText txt false], [.sendPing [1, 2]], [.abandon]]

example : ∀ t, 3 ≤ t → twoAb t = [] := by
  intro t ht
  match t with
  | t + 3 => rfl

example : twoAb 2 = [.abandon] := rfl

/-- 7 + 7 + 9 steps to do; round-robin needs at most 3 * 23 = 69 entries -/
example : remaining ca {} 3 (init twoAb) = 23 := by decide +kernel

/-- round-robin from the start: all 23 steps are done after 60 entries, within the bound 69 — the other 37 entries were
    no-ops (thread 1 and the loop waiting for the lock while thread 0, then thread 1, hold it; entries of finished
    threads); the socket is shut, the lock is free, both frames are whole -/
example : let s := run ca {} (init twoAb) (prefixOf (· % 3) 60)
    (∀ t, t < 3 → (s.th t).current ca {} = none) ∧ movingEntries ca {} (init twoAb) (prefixOf (· % 3) 60) = 23 ∧
    remaining ca {} 3 s = 0 ∧ s.sh.sockShut = true ∧ s.sh.lock = none ∧
    s.sh.wire = pairs (frames s.sh.wire) ∧ (frames s.sh.wire).map (fun c => c.desc.op) = [1, 9] := by
  decide +kernel

/-- one entry earlier the loop thread is not done yet -/
example : let s := run ca {} (init twoAb) (prefixOf (· % 3) 59)
    (s.th 2).current ca {} ≠ none := by
  decide +kernel

/-- a no-op entry: after `0` (thread 0 has taken the lock) thread 1 stands at its `acquire`: it cannot move, its entry
    leaves the measure alone; thread 0 can, and the stuck condition of `stuck_iff_all_done` fails -/
example : let s := run ca {} (init twoAb) [0]
    s.sh.lock = some 0 ∧ enabled ca {} s 1 = false ∧ enabled ca {} s 0 = true ∧ enabled ca {} s 2 = true ∧
    remaining ca {} 3 (step ca {} s 1) = remaining ca {} 3 s ∧ movingEntries ca {} s [1, 1, 1, 0, 1] = 1 := by
  decide +kernel

/-- a fair schedule that is not round-robin: thread 0 only at every fourth entry (`1 2 1 0 1 2 1 0 …`) -/
def lazy0 : Nat → Tid := fun j => if j % 4 = 3 then 0 else if j % 2 = 0 then 1 else 2

/-- under it thread 0 comes too late: its `send_text` finds no socket (`WebSocketUnavailable`) and skips its writes —
    19 moving entries instead of 23, done after 42 entries; the ping is on the wire as a whole frame -/
example : let s := run ca {} (init twoAb) (prefixOf lazy0 42)
    (∀ t, t < 3 → (s.th t).current ca {} = none) ∧ s.sh.sockShut = true ∧
    movingEntries ca {} (init twoAb) (prefixOf lazy0 42) = 19 ∧
    (s.th 0).results = [⟨false, some .unavailable, false⟩] ∧ (frames s.sh.wire).map (fun c => c.desc.op) = [9] := by
  decide +kernel

/-- from a state in which a sender holds the lock and the loop waits (`C13_Threads.lean`): round-robin completes within
    `2 * 11` entries -/
example : let s := final ca {} sendAb [0, 0, 0, 0, 1]
    let s' := run ca {} s (prefixOf (· % 2) 22)
    remaining ca {} 2 s = 11 ∧ (∀ t, t < 2 → (s'.th t).current ca {} = none) ∧ s'.sh.sockShut = true := by
  decide +kernel

end Lomond.C13Fair
