/-
  C14 — the call-result tokens are well placed, so "library write vs application write" is
  unambiguous; the upgrade request is the oldest write; the ordering of C14 over the whole
  connection.  Property theorems only; helper lemmas: Proofs/PongTokens.lean.

  The C14 theorems and the oracle (harness/props/c14.py) tell an application's write from a write
  the library made itself by the result token `.res r` the harness logs after every application
  call.  Proved here, for every configuration, application and environment script: a library write
  is never directly followed by such a token.

    * `application_call_is_one_block`, `event_then_only_call_blocks`: what an application call /
      the handing-over of an event appends to the trace;
    * `library_never_puts_a_token_on_top`: from ANY state — in particular one whose newest entry
      is a write the library has just made — no library function appends a token directly on top
      of the trace it started from;
    * `library_pong_is_directly_followed_by_its_ping_event`;
    * `tokens_well_placed`: on the trace of every run every token is attached to an event through
      complete call blocks (`TokensWellPlaced`, decidable);
    * `pong_classification`: every Pong frame on the trace is either inside an application call
      block (token above, event-or-token below) or the library's reply (its Ping event above).

  The trace is newest first: in `pre ++ o :: post`, `pre` is what happened after `o`.
-/
import Lomond.Proofs.PongTokens
import Lomond.Properties.C14_Run

namespace Lomond.C14Tokens
open Lomond Lomond.Core Lomond.Core.Pong Lomond.Core.PongRun Lomond.Core.PongTokens

/-- **One application call = one call block.**  Every API call the application makes returns
    (it never raises into the loop) and appends its result token on top of at most one entry of
    its own — a write (`.wr`/`.wrz`/`.wrFail`) or the `sockClose` of `session.close()`; an
    abandonment appends nothing. -/
theorem application_call_is_one_block (a : Act) (s : Sys) :
    (∃ s' r, doAct a s = .ok () s' ∧
      (s'.trace = .res r :: s.trace ∨ ∃ o, s'.trace = .res r :: o :: s.trace ∧ appItem o = true)) ∨
    (∃ w, a = .abandon w ∧ doAct a s = .err .genExit { s with abandonedWith := w }) := by
  rcases doAct_cases a s with ⟨s', e, r, b⟩ | h
  · exact Or.inl ⟨s', r, e, b⟩
  · exact Or.inr h

example : ∃ s', doAct (.sendPong (.bytes [1])) (Ex.opened) = .ok () s' ∧
    s'.trace = [.res .ok, .wr [138, 129, 0, 0, 0, 0, 1]] := ⟨_, rfl, by decide⟩

/-- **Handing an event to the application** appends the event and, on top of it, complete call
    blocks only (whether or not the application abandons the loop there). -/
theorem event_then_only_call_blocks (e : Event) (s : Sys) :
    ∃ c, (yieldEv e s).state.trace = c ++ .ev e :: s.trace ∧ Calls c :=
  yieldEv_calls e s

/-- **The library never puts a token on top of what is on the trace.**  From any state `s`
    (whatever its newest entry: a Pong reply, an automatic Ping, a Close echo, the upgrade
    request, …) none of the library's functions ends with a trace in which a result token sits
    directly on top of `s.trace`: the write sites themselves (`_on_event` with the automatic Pong,
    `_check_auto_ping`, `close()` as called by the library for the Close echo and after a protocol
    error) append no token at all; everything that runs after them (`_regular`, the rest of
    `feed` up to the session loop, `run()`) appends tokens only attached to events it appends
    itself. -/
theorem library_never_puts_a_token_on_top (s : Sys) (pre : List Obs) (r : ActRes) :
    (∀ e, (onEvent e s).state.trace ≠ pre ++ .res r :: s.trace) ∧
    (checkAutoPing s).state.trace ≠ pre ++ .res r :: s.trace ∧
    (∀ c rs, (wsClose c rs s).state.trace ≠ pre ++ .res r :: s.trace) ∧
    (regular s).state.trace ≠ pre ++ .res r :: s.trace ∧
    (∀ b e, (feedYield b e s).state.trace ≠ pre ++ .res r :: s.trace) ∧
    (∀ c rs, (onClose c rs s).state.trace ≠ pre ++ .res r :: s.trace) ∧
    (∀ x, (feedHandler x s).state.trace ≠ pre ++ .res r :: s.trace) ∧
    (∀ data, (feedLoop data s).state.trace ≠ pre ++ .res r :: s.trace) ∧
    (∀ data, (wsFeed data s).state.trace ≠ pre ++ .res r :: s.trace) ∧
    (∀ env, (loop env s).state.trace ≠ pre ++ .res r :: s.trace) ∧
    (runLoop s).state.trace ≠ pre ++ .res r :: s.trace ∧
    (∀ p, (afterConnect p s).state.trace ≠ pre ++ .res r :: s.trace) :=
  ⟨fun e h => (rl_onEvent e s).no_token_on_top pre r h,
   fun h => (rl_checkAutoPing s).no_token_on_top pre r h,
   fun c rs h => (rl_wsClose c rs s).no_token_on_top pre r h,
   fun h => (rl_regular s).no_token_on_top pre r h,
   fun b e h => (rl_feedYield b e s).no_token_on_top pre r h,
   fun c rs h => (rl_yields.onClose c rs s).no_token_on_top pre r h,
   fun x h => (rl_yields.feedHandler x s).no_token_on_top pre r h,
   fun d h => (rl_yields.feedLoop d s).no_token_on_top pre r h,
   fun d h => (rl_yields.wsFeed d s).no_token_on_top pre r h,
   fun env h => (rl_yields.loop env s).no_token_on_top pre r h,
   fun h => (Pong.run_runLoop rl_yields.around rl_yields.loop s).no_token_on_top pre r h,
   fun p h => (Pong.run_afterConnect rl_yields.around rl_yields.loop (fun _ => rl_same rfl) rl_write p s).no_token_on_top pre r h⟩

/-- **The library's Pong is directly followed by its Ping event.**  When `_on_event` has handled a
    Ping (writing the Pong, or nothing when it is refused or automatic pongs are off), the next
    entry of the trace is the event `Ping d` itself — not a token — and what follows the event is
    well placed on its own. -/
theorem library_pong_is_directly_followed_by_its_ping_event (inTry : Bool) (d : Bytes) (s s1 : Sys)
    (h : onEvent (.ping d) s = .ok () s1) :
    (s1.trace = s.trace ∨ ∃ o, s1.trace = o :: s.trace ∧ o.isWrite = true) ∧
    ∃ l, (feedYield inTry (.ping d) s).state.trace = l ++ .ev (.ping d) :: s1.trace ∧
      TokensWellPlaced (l ++ [.ev (.ping d)]) = true := by
  refine ⟨?_, feedYield_shape inTry (.ping d) s s1 h⟩
  have a := w1_onEvent (.ping d) s
  rw [h] at a
  exact a

/-! ### run level -/

/-- **Every result token of every run is well placed** (no hypothesis: every configuration,
    application, environment script, every way the run ends).  On the trace of a whole connection
    each token directly follows an event, a previous token, or exactly one write / `sockClose`
    which itself directly follows an event or a token: tokens occur only inside the application's
    call blocks hanging off an event.  Hence the classification used by the C14 theorems and by
    the oracle — a write is an application write iff the next entry is a token — is unambiguous:
    a write the library made itself is followed by the event it belongs to, by another library
    entry, or by nothing. -/
theorem tokens_well_placed (cfg : Cfg) (react : React) (env : List EnvStep) :
    TokensWellPlaced (runAll cfg react env).trace = true :=
  twp_runAll cfg react env

/-- the same, position by position: below a token there is an event or a token, or one write /
    `sockClose` with an event or a token below it -/
theorem token_is_attached (cfg : Cfg) (react : React) (env : List EnvStep)
    (pre : List Obs) (r : ActRes) (post : List Obs)
    (h : (runAll cfg react env).trace = pre ++ .res r :: post) :
    atApp post = true ∨ ∃ o post', post = o :: post' ∧ appItem o = true ∧ atApp post' = true := by
  have := twp_runAll cfg react env
  rw [h] at this
  have hr := twp_at_token this
  cases post with
  | nil => cases hr
  | cons o post' =>
    cases o
    case ev => exact Or.inl rfl
    case res => exact Or.inl rfl
    all_goals
      simp only [resOK, Bool.and_eq_true] at hr
      exact Or.inr ⟨_, _, rfl, hr.1, hr.2⟩

/-- **Every Pong frame on the trace is classified, exclusively.**  A Pong frame handed to
    `sendall` during a run is either
    (A) an application's: its result token is the next entry AND the entry below it is an event or
        a token (it sits in a call block), or
    (B) the library's reply: the next entry is the event `Ping d` whose payload it carries (never a
        token), automatic pongs are on and the connection was usable.
    The hypotheses are those of `C14Run.pong_implies_ping`. -/
theorem pong_classification (cfg : Cfg) (react : React) (env : List EnvStep)
    (hv : cfg.v.closeArgs = true) (hreq : ReqPlain cfg)
    (pre : List Obs) (o : Obs) (post : List Obs)
    (h : (runAll cfg react env).trace = pre ++ o :: post) (ho : o.pongOut = true) :
    ((∃ pre' r, pre = pre' ++ [.res r]) ∧ atApp post = true ∧ ¬ ∃ pre' d, pre = pre' ++ [.ev (.ping d)]) ∨
    ((∃ pre' d, pre = pre' ++ [.ev (.ping d)] ∧ IsPongFor d o) ∧ cfg.autoPong = true ∧ usable post = true ∧
      ¬ ∃ pre' r, pre = pre' ++ [.res r]) := by
  have hw : o.isWrite = true := by cases o <;> first | rfl | cases ho
  rcases C14Run.pong_implies_ping cfg react env hv hreq pre o post h ho with ⟨pre', r, e⟩ | ⟨ha, hu, pre', d, e, hp⟩
  · left
    refine ⟨⟨pre', r, e⟩, ?_, ?_⟩
    · have := twp_runAll cfg react env
      rw [h, e, List.append_assoc] at this
      exact resOK_write hw (twp_at_token this)
    · rintro ⟨p2, d, e2⟩
      cases List.append_inj_right' (e.symm.trans e2) rfl
  · right
    refine ⟨⟨pre', d, e, hp⟩, ha, hu, ?_⟩
    rintro ⟨p2, r, e2⟩
    cases List.append_inj_right' (e.symm.trans e2) rfl

/-! ### the whole connection, the upgrade request included -/

set_option linter.unusedVariables false in
/-- **The upgrade request is the oldest write of the connection.**  Either nothing was ever
    handed to `sendall` (and no Ping event occurred), or the trace is
    `newer ++ request :: older` where `request` is the upgrade request (written, or the write
    failed) and `older` holds only `Connecting` and the tokens of calls made there: no write, no
    Ping event, no `sockClose`.  The request is thus identified by its *position*, whatever its
    bytes look like (`ReqPlain` is not needed here; nor is `hv`, which the proof does not use). -/
theorem request_is_first_write (cfg : Cfg) (react : React) (env : List EnvStep)
    (hv : cfg.v.closeArgs = true) :
    (∀ o ∈ (runAll cfg react env).trace, o.isWrite = false ∧ o.pingEv = false) ∨
    ∃ newer o older, (runAll cfg react env).trace = newer ++ o :: older ∧
      (o = .wr cfg.request ∨ o = .wrFail cfg.request) ∧ ∀ x ∈ older, calm x = true :=
  reqFirst_runAll cfg react env

/-- **Ordering over the whole connection.**  For every Ping event of a run (from `Connecting`
    on): the upgrade request lies below it (`post = … ++ request :: older`, nothing written
    before the request); if automatic pongs are on and the connection was usable, the entry
    directly below the event is the one Pong for its payload, and that Pong lies strictly above the
    request; everything from the event upwards (`pre ++ [Ping d]`: the application's reaction to
    this event, every later event and the reactions to those) is well placed on its own — each
    application write there is in a call block attached to this event or a later one — so the
    Pong precedes all of them. -/
theorem pong_after_request_before_reactions (cfg : Cfg) (react : React) (env : List EnvStep)
    (hv : cfg.v.closeArgs = true) (hreq : ReqPlain cfg)
    (pre : List Obs) (d : Bytes) (post : List Obs)
    (h : (runAll cfg react env).trace = pre ++ .ev (.ping d) :: post) :
    (∃ mid rq older, post = mid ++ rq :: older ∧ (rq = .wr cfg.request ∨ rq = .wrFail cfg.request) ∧
        (∀ x ∈ older, calm x = true) ∧
        (cfg.autoPong = true → usable post = true →
          ∃ o mid', mid = o :: mid' ∧ IsPongFor d o ∧ NoPongTop (mid' ++ rq :: older))) ∧
    TokensWellPlaced (pre ++ [.ev (.ping d)]) = true := by
  refine ⟨?_, twp_cut pre (.ping d) post (h ▸ twp_runAll cfg react env)⟩
  obtain ⟨mid, rq, older, e, hrq, hc⟩ := (reqFirst_runAll cfg react env).ping_above h
  refine ⟨mid, rq, older, e, hrq, hc, fun hap hu => ?_⟩
  obtain ⟨o, post', e2, hp, hn⟩ := C14Run.ping_implies_pong cfg react env hv hreq hap pre d post h hu
  cases mid with
  | nil =>
    exfalso
    rw [e2] at e
    simp only [List.nil_append, List.cons.injEq] at e
    have hpo := hp.pongOut
    rw [e.1] at hpo
    rcases hrq with rfl | rfl
    · exact absurd hpo (by rw [show (Obs.wr cfg.request).pongOut = isPongBytes cfg.request from rfl, hreq.2]; simp)
    · exact absurd hpo (by rw [show (Obs.wrFail cfg.request).pongOut = isPongBytes cfg.request from rfl, hreq.2]; simp)
  | cons x mid' =>
    rw [e2] at e
    simp only [List.cons_append, List.cons.injEq] at e
    obtain ⟨rfl, rfl⟩ := e
    exact ⟨o, mid', rfl, hp, hn⟩

/-! ### non-vacuity: concrete runs -/

/-- at a Ping: a text message and a `send_ping(None)` (TypeError: a token without a write);
    at a Text: `close(1000)` and one more send (refused: closing) -/
def exReact : React := fun hist =>
  match hist with
  | .ping _ :: _ => [.sendText (.str [104]) false, .sendPing .other]
  | .text _ :: _ => [.close (some 1000) (.bytes []), .sendBinary (.bytes [1]) false]
  | _ => []

/-- handshake reply; a fragmented text message with two Pings between its fragments; a Ping while
    closing; the server's Close -/
def exEnv : List EnvStep :=
  [.wait 0 (some (.data Ex.resp)),
   .wait 1 (some (.data [0x01, 1, 65, 0x89, 1, 66, 0x89, 0, 0x80, 1, 67])),
   .wait 1 (some (.data [0x89, 1, 68])),
   .wait 1 (some (.data [0x88, 0]))]

example : Ex.cfg.v.closeArgs = true ∧ ReqPlain Ex.cfg := ⟨rfl, C14Run.reqPlain_of_GET Ex.cfg [69, 84] rfl⟩

private theorem exRun : (runAll { Ex.cfg with pingRate := 1 } exReact exEnv).trace =
    [.selClose, .ev (.disconnected "closed" true), .sockClose, .ev (.closed none []), .tick 3,
     .res .typeError, .res .wsClosing, .ev (.ping [68]), .tick 2, .res .wsClosing, .res .ok,
     .wr [136, 130, 0, 0, 0, 0, 3, 232], .ev (.text [65, 67]),
     .res .typeError, .res .ok, .wr [129, 129, 0, 0, 0, 0, 104], .ev (.ping []), .wr [138, 128, 0, 0, 0, 0],
     .res .typeError, .res .ok, .wr [129, 129, 0, 0, 0, 0, 104], .ev (.ping [66]), .wr [138, 129, 0, 0, 0, 0, 66],
     .wr [137, 128, 0, 0, 0, 0], .tick 1, .ev .poll, .ev (.ready none false), .ev (.connected false),
     .wr [71, 69, 84], .ev .connecting] := by decide +kernel

set_option maxRecDepth 8192 in
/-- two Pings between fragments, each answered before the event and before the application's
    reaction (a write + token, then a bare token); the Close of the application; the third Ping
    arrives in the closing state and is not answered; with automatic Pings every tick the
    library's Ping `[137, …]` is followed by the library's Pong, not by a token -/
example : (runAll { Ex.cfg with pingRate := 1 } exReact exEnv).trace.reverse =
    [.ev .connecting, .wr [71, 69, 84], .ev (.connected false), .ev (.ready none false), .ev .poll, .tick 1,
     .wr [137, 128, 0, 0, 0, 0],
     .wr [138, 129, 0, 0, 0, 0, 66], .ev (.ping [66]), .wr [129, 129, 0, 0, 0, 0, 104], .res .ok, .res .typeError,
     .wr [138, 128, 0, 0, 0, 0], .ev (.ping []), .wr [129, 129, 0, 0, 0, 0, 104], .res .ok, .res .typeError,
     .ev (.text [65, 67]), .wr [136, 130, 0, 0, 0, 0, 3, 232], .res .ok, .res .wsClosing, .tick 2,
     .ev (.ping [68]), .res .wsClosing, .res .typeError, .tick 3,
     .ev (.closed none []), .sockClose, .ev (.disconnected "closed" true), .selClose] := by rw [exRun]; rfl

set_option maxRecDepth 8192 in
example : TokensWellPlaced (runAll { Ex.cfg with pingRate := 1 } exReact exEnv).trace = true := by
  rw [exRun]; decide

/-- the predicate is not trivially true: a token directly on top of a library write that does not
    follow an event or a token (`tick, Pong, token`) is rejected, and so is a token on top of a tick -/
example : TokensWellPlaced [.res .typeError, .wr [138, 0], .tick 1, .ev .poll] = false ∧
    TokensWellPlaced [.res .ok, .tick 1, .ev .poll] = false ∧
    TokensWellPlaced [.res .ok, .wr [1], .wr [138, 0], .ev .poll] = false ∧
    TokensWellPlaced [.res .typeError, .res .ok, .wr [129, 0], .ev (.ping []), .wr [138, 0], .tick 1] = true := by decide

end Lomond.C14Tokens
