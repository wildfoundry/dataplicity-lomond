/-
  C11 / C12 / C13 companion — the DEAD SOCKET window.

  `_close_socket()` shuts the socket under the write lock (`sockClose`: `shutdown(); close()`) and only AFTER releasing
  the lock stores `_sock = None`; `on_disconnect` stores `closed = True` later still.  Two loop calls of the thread model
  reach `_close_socket()` while other threads are sending: `.abandon` (the event generator is closed) and `.connect` whose
  request write failed.  A sender that takes the lock in between passes `_check_writable` (the socket attribute is still
  set, the flags are still off) and calls `sendall` on the dead socket: the real code raises (`OSError(EBADF)` ->
  `TransportFail`), nothing is written.  The model does the same (`failWrite` in `exec` / `execW1` / `execW2`: a write
  step executed with `sockShut = true` sets `Err.transport` and continues at the release).

  Theorems (all variants, configurations, programs, schedules; two-chunk socket and the general socket `env`):

    * `wire_frozen_after_shut` (`_any_socket`): from ANY state with `sockShut = true`, along every schedule, the wire never
      changes and the socket stays shut; `wire_frozen_along_schedule`: in terms of a schedule `pre ++ post` from any
      start state.
    * `shut_between_frames` (`_any_socket`): the socket is only ever shut BETWEEN frames — in every reachable state with
      `sockShut = true` the wire consists of whole frames (general socket: whole frames and the torn heads of the frames whose
      `sendall` the environment made fail — no frame is torn by the shut).
    * `dead_write_is_transport_fail` (`_any_socket`): the write step on the shut socket: the thread's error register becomes
      `Err.transport`, it continues at the release of the lock, shared state unchanged.
    * `unwritten_at_shut_never_written`, `send_after_shut_fails` (`_any_socket`, `_before_connect`): a call whose frame is
      not on the wire when the socket is shut never writes it; if it is one of the application's send methods and it returns,
      it returns an ERROR (never silently succeeds) — in particular every send that starts after the shut.

  Tie to the code: harness/sched.py (`SchedSocket.sendall` on a closed socket: the sync step `w1`, then `OSError`),
  harness/thrutil.py `run_and_compare`, harness/props/c13.py `explore_threads` (family `abandon-window`), c12.py
  (`cn` + failing request): these runs are compared with the model like all others (counter
  `model_compared_write_attempted_on_socket_already_shut_by_the_loop`).
-/
import Lomond.Proofs.ThreadsNW
import Lomond.Proofs.ThreadsDead

namespace Lomond.C11Dead
open Lomond Lomond.Threads

/-- **After the socket has been shut nothing more is appended to the wire** — from every state `s` (reachable or not)
    with `sockShut = true`, for every schedule: the wire is the wire of `s`, and the socket is still shut. -/
theorem wire_frozen_after_shut (v : Variant) (cfg : Cfg) (s : State) (sched : List Tid) :
    s.sh.sockShut = true →
      (run v cfg s sched).sh.wire = s.sh.wire ∧ (run v cfg s sched).sh.sockShut = true :=
  fun hs => runN_default v cfg s sched ▸ runN_shut Env.two v cfg s sched hs

/-- the same for every socket: any number of chunks per `sendall`, any pattern of injected failures -/
theorem wire_frozen_after_shut_any_socket (env : Env) (v : Variant) (cfg : Cfg) (s : State) (sched : List Tid) :
    s.sh.sockShut = true →
      (runN env v cfg s sched).sh.wire = s.sh.wire ∧ (runN env v cfg s sched).sh.sockShut = true :=
  runN_shut env v cfg s sched

/-- in terms of schedules: if the socket is shut after `pre`, then after `pre ++ post` the wire is what it was after
    `pre`, whatever `post` is — from any start state `s₁` (the connected state `init progs`, the state before the
    connection `initPre progs`, …) -/
theorem wire_frozen_along_schedule (env : Env) (v : Variant) (cfg : Cfg) (s₁ : State) (pre post : List Tid) :
    (runN env v cfg s₁ pre).sh.sockShut = true →
      (runN env v cfg s₁ (pre ++ post)).sh.wire = (runN env v cfg s₁ pre).sh.wire := by
  intro hs
  have : runN env v cfg s₁ (pre ++ post) = runN env v cfg (runN env v cfg s₁ pre) post := by
    simp [runN, List.foldl_append]
  rw [this]
  exact (runN_shut env v cfg _ post hs).1

/-- **No frame is torn by the shut** (two-chunk socket): in every reachable state in which the socket is shut, the wire
    is a sequence of whole frames — the loop thread shuts the socket under the write lock, so no sender is between the two
    halves of its frame at that moment, nor ever after. -/
theorem shut_between_frames (v : Variant) (cfg : Cfg) (progs : Tid → List Call) (sched : List Tid)
    (s₁ : State) (h₁ : s₁ = init progs ∨ s₁ = initPre progs) :
    let s := run v cfg s₁ sched
    s.sh.sockShut = true →
      s.sh.wire = pairs (frames s.sh.wire) ∧ ∀ t, headW2 (view v cfg (s.th t)) = false := by
  intro s hs
  have B : Base v cfg s := base_run v cfg _ sched (base_fresh v cfg (fresh_of_start h₁).1)
  exact ⟨B.W.whole (B.W.shut hs), B.W.shut hs⟩

/-- the same for every socket: in every state reachable from the connected state in which the socket is shut, the wire is a
    concatenation of groups, each a WHOLE frame or the torn head of a frame whose `sendall` the ENVIRONMENT made fail
    (`Group.torn`: `env.failAt` names exactly that call and that cut) — the shut itself tears nothing, and no thread has
    written part of a frame it still holds -/
theorem shut_between_frames_any_socket (env : Env) (v : Variant) (cfg : Cfg) (progs : Tid → List Call) (sched : List Tid) :
    let s := runN env v cfg (init progs) sched
    s.sh.sockShut = true →
      ∃ gs : List Group, (∀ g ∈ gs, g.whole env ∨ g.torn env) ∧ s.sh.wire = flat gs := by
  intro s hs
  obtain ⟨gs, S⟩ := shape_reach env v cfg (fresh_init progs) sched
  exact ⟨gs, S.ok, shape_shut_flat S hs⟩

/-- **A write step on the shut socket is a `TransportFail`**: the thread whose next step is (a chunk of) its socket write
    finds the socket shut: its error register becomes `Err.transport`, it continues at the release of the write lock
    (`toRelease`), the wire and every other shared object are unchanged. -/
theorem dead_write_is_transport_fail (v : Variant) (cfg : Cfg) (s : State) (t : Tid) (c : Cur) (st : Step) (r : List Step) :
    (s.th t).current v cfg = some c → c.rest = st :: r → isWrite st = true → s.sh.sockShut = true →
      step v cfg s t = setTh s t (settle (s.th t) { c with rest := toRelease r, err := some .transport }) s.sh :=
  fun hc hr hw hs => stepN_default v cfg s t ▸ stepN_dead_write Env.two v cfg s t c st r hc hr hw hs

theorem dead_write_is_transport_fail_any_socket (env : Env) (v : Variant) (cfg : Cfg) (s : State) (t : Tid) (c : Cur)
    (st : Step) (r : List Step) :
    (s.th t).current v cfg = some c → c.rest = st :: r → isWrite st = true → s.sh.sockShut = true →
      stepN env v cfg s t = setTh s t (settle (s.th t) { c with rest := toRelease r, err := some .transport }) s.sh :=
  stepN_dead_write env v cfg s t c st r

/-- **What is not on the wire when the socket is shut never gets there, and a send that returns afterwards returns an
    error.**  General socket `env`, start state `init` (connected) or `initPre` (before the connection).  After `pre` the
    socket is shut and call `i` of thread `t` has not written its frame (it has not started, waits for the lock, is inside
    the lock before its write — anywhere); whatever happens in `post`: when the call has returned, its frame was not
    written, and if it is one of the application's send methods it raised a WebSocketError. -/
theorem unwritten_at_shut_never_written (env : Env) (v : Variant) (cfg : Cfg) (progs : Tid → List Call) (pre post : List Tid)
    (s₁ : State) (h₁ : s₁ = init progs ∨ s₁ = initPre progs) (t : Tid) (i : Nat) (r : Result) :
    let s₀ := runN env v cfg s₁ pre
    let s := runN env v cfg s₀ post
    s₀.sh.sockShut = true → ¬ wroteAt (s₀.th t) i → (s.th t).results[i]? = some r →
      r.wrote = false ∧ ∀ call, (progs t)[i]? = some call → call.isSend = true → r.err ≠ none := by
  intro s₀ s hs h0 hr
  obtain ⟨F, hp₁⟩ := fresh_of_start h₁
  have B₀ : BaseN v cfg s₀ := baseN_run env v cfg _ pre (baseN_fresh v cfg F)
  have B : BaseN v cfg s := baseN_run env v cfg _ post B₀
  have hwire := (runN_shut env v cfg s₀ post hs).1
  obtain ⟨h1, h2⟩ := not_written_stays v cfg s₀ s B₀.M B.M B.C hwire t i r h0 hr
  refine ⟨h1, fun call hcall => h2 call ?_⟩
  rw [runN_prog, runN_prog, hp₁]; exact hcall

/-- **A send that starts after the socket has been shut fails with an error — it never silently succeeds.**  After `pre`
    the socket is shut and thread `t` is between two calls, `i` of which it has not reached yet; if call `i` is
    `send_text / send_binary / send_ping / send_pong` and it returns during `post`, it raised a WebSocketError
    (`TransportFail` in the window before `_sock = None`, `WebSocketUnavailable` / `WebSocketClosed` after) and wrote nothing. -/
theorem send_after_shut_fails_any_socket (env : Env) (v : Variant) (cfg : Cfg) (progs : Tid → List Call) (pre post : List Tid)
    (t : Tid) (i : Nat) (r : Result) (call : Call) :
    let s₀ := runN env v cfg (init progs) pre
    let s := runN env v cfg s₀ post
    s₀.sh.sockShut = true → (s₀.th t).cur = none → (s₀.th t).pc ≤ i →
    (s.th t).results[i]? = some r → (progs t)[i]? = some call → call.isSend = true →
      r.err ≠ none ∧ r.wrote = false :=
  send_after_shut_of_fresh env v cfg (fresh_init progs) pre post t i r call

/-- the two-chunk socket of `C11.lean` / `C12.lean` / `C13_Threads.lean` -/
theorem send_after_shut_fails (v : Variant) (cfg : Cfg) (progs : Tid → List Call) (pre post : List Tid)
    (t : Tid) (i : Nat) (r : Result) (call : Call) :
    let s₀ := run v cfg (init progs) pre
    let s := run v cfg s₀ post
    s₀.sh.sockShut = true → (s₀.th t).cur = none → (s₀.th t).pc ≤ i →
    (s.th t).results[i]? = some r → (progs t)[i]? = some call → call.isSend = true →
      r.err ≠ none ∧ r.wrote = false := by
  simp only [← runN_default]
  exact send_after_shut_fails_any_socket Env.two v cfg progs pre post t i r call

/-- the same when the run starts before the connection exists (loop call `.connect`; the socket is shut by the loop thread
    after a refused or failed request write) -/
theorem send_after_shut_fails_before_connect (env : Env) (v : Variant) (cfg : Cfg) (progs : Tid → List Call)
    (pre post : List Tid) (t : Tid) (i : Nat) (r : Result) (call : Call) :
    let s₀ := runN env v cfg (initPre progs) pre
    let s := runN env v cfg s₀ post
    s₀.sh.sockShut = true → (s₀.th t).cur = none → (s₀.th t).pc ≤ i →
    (s.th t).results[i]? = some r → (progs t)[i]? = some call → call.isSend = true →
      r.err ≠ none ∧ r.wrote = false :=
  send_after_shut_of_fresh env v cfg (fresh_initPre progs) pre post t i r call

/-! ### non-vacuity: the `ab` schedule in which a sender gets the lock between the loop's `sockClose` and `_sock = None` -/

def ca : Variant := { closeAtomic := true, compressUnderLock := true }
def txt : Bytes := [104, 105]
def sendAb : Tid → List Call := progsOf [[.sendText txt false], [.abandon]]
def twoSendsAb : Tid → List Call := progsOf [[.sendText txt false, .sendPing [1]], [.abandon]]
def closeAb : Tid → List Call := progsOf [[.close (some 1000) []], [.abandon]]

/-- the loop: `rd:sock`, `acq`, `sockclose`, `rel` — the socket is shut, `_sock` still set, flags off, lock free -/
def loopShuts : List Tid := [1, 1, 1, 1]

example : let s := run ca {} (init sendAb) loopShuts
    s.sh.sockShut = true ∧ s.sh.sockOpen = true ∧ s.sh.closed = false ∧ s.sh.closing = false ∧ s.sh.lock = none ∧
    (s.th 0).cur = none ∧ (s.th 0).pc = 0 := by
  decide +kernel

/-- … the sender takes the lock, passes all state checks (`acq`, `rd:sock`, `rd:closing`, `rd:closed`) and stands before its
    write on the dead socket, holding the lock (hypotheses of `dead_write_is_transport_fail`) … -/
example : let s := run ca {} (init sendAb) (loopShuts ++ [0, 0, 0, 0])
    s.sh.sockShut = true ∧ s.sh.lock = some 0 ∧
    ((s.th 0).current ca {}).map (·.rest) = some [.write1 ⟨1, .lit txt⟩, .write2 ⟨1, .lit txt⟩, .release] ∧
    ((s.th 0).current ca {}).map (·.err) = some none := by
  decide +kernel

/-- … its `sendall` fails: `TransportFail` to the caller, NOTHING on the wire, the lock released; the loop then stores
    `_sock = None` (twice), `closed = True`, `closing = False` (pinned variant `{}` and repaired variant `ca` alike) -/
example : let s := run ca {} (init sendAb) (loopShuts ++ [0, 0, 0, 0] ++ [0, 0] ++ List.replicate 8 1)
    (s.th 0).results = [⟨false, some .transport, false⟩] ∧ s.sh.wire = [] ∧ s.sh.lock = none ∧
    s.sh.sockShut = true ∧ s.sh.sockOpen = false ∧ s.sh.closed = true ∧
    (∀ t, t < 2 → (s.th t).current ca {} = none) := by
  decide +kernel

example : let s := run {} {} (init sendAb) (loopShuts ++ [0, 0, 0, 0] ++ [0, 0] ++ List.replicate 8 1)
    (s.th 0).results = [⟨false, some .transport, false⟩] ∧ s.sh.wire = [] ∧ s.sh.sockShut = true := by
  decide +kernel

/-- hypotheses and conclusion of `send_after_shut_fails` on that schedule (`pre = loopShuts`, `t = 0`, `i = 0` and `i = 1`): the
    first send fails in the window (`TransportFail`), the second one after `_sock = None` (`WebSocketUnavailable`) -/
example : let s₀ := run ca {} (init twoSendsAb) loopShuts
    let s := run ca {} s₀ ([0, 0, 0, 0, 0, 0] ++ List.replicate 8 1 ++ [0, 0, 0])
    s₀.sh.sockShut = true ∧ (s₀.th 0).cur = none ∧ (s₀.th 0).pc = 0 ∧
    (s.th 0).results = [⟨false, some .transport, false⟩, ⟨false, some .unavailable, false⟩] ∧ s.sh.wire = [] := by
  decide +kernel

/-- `wire_frozen_after_shut` with something on the wire: the send completes BEFORE the loop shuts the socket, a second call
    comes after — the wire is the first frame, before and after -/
example : let s₀ := run ca {} (init twoSendsAb) (List.replicate 7 0 ++ loopShuts)
    let s := run ca {} s₀ (List.replicate 6 0 ++ List.replicate 8 1)
    s₀.sh.sockShut = true ∧ s₀.sh.wire.length = 2 ∧ s.sh.wire = s₀.sh.wire ∧
    (s.th 0).results = [⟨true, none, false⟩, ⟨false, some .transport, false⟩] := by
  decide +kernel

/-- `close()` in the window: its Close frame is not written, the TransportFail is swallowed, `closing = True` is still stored
    (then cleared by the loop's `on_disconnect`, which stores `closed = True` first) -/
example : let s := run ca {} (init closeAb) (loopShuts ++ List.replicate 10 0 ++ List.replicate 8 1)
    (s.th 0).results = [⟨false, some .transport, false⟩] ∧ s.sh.wire = [] ∧ s.sh.closed = true ∧ s.sh.sockShut = true := by
  decide +kernel

/-- general socket, 3 chunks per `sendall`: the same window (hypotheses of the `_any_socket` theorems) -/
def env3 : Env := { more := fun _ _ => 2 }

example : let s := runN env3 ca {} (init sendAb) (loopShuts ++ [0, 0, 0, 0] ++ [0, 0] ++ List.replicate 8 1)
    (s.th 0).results = [⟨false, some .transport, false⟩] ∧ s.sh.wire = [] ∧ s.sh.sockShut = true := by
  decide +kernel

/-- before the connection: the request's `sendall` fails (general socket), the loop shuts the socket; a sender that got
    the lock before `_sock = None` fails with TransportFail (`send_after_shut_fails_before_connect`) -/
def envReqFails : Env := { failAt := fun t i => if t = 1 ∧ i = 0 then some 0 else none }
def sendCn : Tid → List Call := progsOf [[.sendText txt false], [.connect]]

example : let s₀ := runN envReqFails ca {} (initPre sendCn) (List.replicate 11 1)
    let s := runN envReqFails ca {} s₀ (List.replicate 6 0 ++ [1])
    s₀.sh.sockShut = true ∧ s₀.sh.sockOpen = true ∧ (s₀.th 0).cur = none ∧ (s₀.th 0).pc = 0 ∧
    (s.th 0).results = [⟨false, some .transport, false⟩] ∧ s.sh.wire = [] ∧
    (s.th 1).results = [⟨false, some .transport, true⟩] := by
  decide +kernel

end Lomond.C11Dead
