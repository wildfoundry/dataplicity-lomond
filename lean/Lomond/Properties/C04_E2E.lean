/-
  C04, end to end: a whole connection `Core.runAll cfg react env` in which the server, after the handshake
  and any conforming prefix, sends one violating frame.  Configuration with the repaired length rule
  (`ctrlLen = true`), `_connect()` and the request write succeed, `poll > 0`; a send-only application
  (`E2E.SendOnly`); the server's bytes `reply ++ wire(items) ++ bad ++ rest` arrive in the reads `chunks`
  — one read or any segmentation (non-empty reads, `wait 0`) — followed by any further script `restEnv`
  (never consulted).  Helper lemmas: Proofs/EndToEndTextCut.lean (`violation_after_items`).
-/
import Lomond.Proofs.EndToEndTextCut
import Lomond.Properties.C01
import Lomond.Properties.C04
import Lomond.Properties.C01_E2E
import Lomond.Proofs.StrLit

namespace Lomond.C04E2E
open Lomond Lomond.Core Lomond.Core.E2E

/-- one violating frame, as bytes, with no extension negotiated; `mid` says whether a fragmented
    data message is open when it arrives:
    * `header`: any two header bytes that RFC 6455's classification (`Spec.headerVerdict`, with
      `deflate = false`) calls a violation — RSV1/2/3 set, reserved opcode, control frame with
      FIN = 0 or a length above 125, MASK = 1, continuation with nothing to continue (`mid = false`),
      new Text/Binary frame inside a fragmented message (`mid = true`) — followed by a complete
      body (`WireBody`);
    * `close`: an unfragmented, unmasked Close frame of legal length whose payload is one byte
      long, or carries a reserved status code, or a reason that is not well-formed UTF-8. -/
inductive Violating (mid : Bool) : Bytes → Prop
  | header (b0 b1 : Nat) (ext key payload : Bytes) (hb0 : b0 < 256) (hb1 : b1 < 256)
      (hw : WireBody b1 ext key payload) (hv : Spec.headerVerdict false mid b0 b1 = .violation) :
      Violating mid ([b0, b1] ++ (ext ++ (key ++ payload)))
  | close (payload : Bytes) (hlen : payload.length ≤ 125)
      (hbad : payload.length = 1 ∨
        ∃ c0 c1 rb, payload = c0 :: c1 :: rb ∧ (Spec.reservedCloseCode (c0 * 256 + c1) ∨ Utf8.wf rb = false)) :
      Violating mid ([0x88, payload.length] ++ payload)

/-- a violating frame stops `Parser.feed`'s loop with an exception that `WebSocket.feed` reports;
    nothing of it is delivered, `rest` is not read (C04 `header_violation_stops`,
    `close_frame_violation`) -/
theorem violating_stops (mid : Bool) (bad : Bytes) (hb : Violating mid bad) (sp : Sys) (hv : sp.cfg.v.ctrlLen = true)
    (hs : AwaitHeader sp.p) (hc : sp.p.compression = false) (hf : decide (sp.frames ≠ []) = mid) (rest : Bytes) :
    ∃ x p'' msg crit, feedLoop (bad ++ rest) sp = .err x { sp with p := p'' } ∧ violationOf x = some (msg, crit) := by
  cases hb with
  | header b0 b1 ext key payload hb0 hb1 hw hvd =>
    have hvd' : Spec.headerVerdict sp.p.compression (decide (sp.frames ≠ [])) b0 b1 = .violation := by
      rw [hc, hf]; exact hvd
    obtain ⟨x, p'', e, hx⟩ := C04.header_violation_stops sp hv hs b0 b1 hb1 ext key payload rest hw hvd'
    have ea : [b0, b1] ++ (ext ++ (key ++ payload)) ++ rest = [b0, b1] ++ (ext ++ (key ++ (payload ++ rest))) := by
      simp
    rw [ea]
    rcases hx with ⟨rfl, _⟩ | ⟨msg, _, rfl⟩
    · exact ⟨_, p'', _, _, e, rfl⟩
    · exact ⟨_, p'', _, _, e, rfl⟩
  | close payload hlen hbad =>
    obtain ⟨x, p'', e, hx⟩ := C04.close_frame_violation sp hv hs payload rest hlen hbad
    have ea : [0x88, payload.length] ++ payload ++ rest = [0x88, payload.length] ++ (payload ++ rest) := by
      simp
    rw [ea]
    cases hvx : violationOf x with
    | none => rw [hvx] at hx; cases hx
    | some mc => exact ⟨x, p'', mc.1, mc.2, e, hvx⟩

/-- **Violation, end to end** (all prefixes, every segmentation).  The complete trace of the
    connection is

        post ++ cw ++ l ++ ProtocolError(msg, crit) :: pre        (newest first)

    * `pre` — everything up to the violation — carries exactly the events Connecting, Connected,
      Ready, Poll and then `C01.expected items none`: every message of the prefix delivered once,
      in order, byte-exact;
    * exactly one ProtocolError event;
    * `l`, the application's reaction to it, contains no event; `cw`, what the library writes
      itself, is nothing or — for a non-critical error only — one Close frame carrying 1002 and the
      error text (`CloseWrite`);
    * `post`: the socket is closed, `Disconnected(k, graceful=False)` is yielded (`k = 'forced'`,
      or `'error'` when the Close reason does not fit), the application's calls in reaction to it
      only report results (nothing is written any more), the selector is closed;
    hence (last conjunct) the events of the whole connection are exactly
    `Connecting, Connected, Ready, Poll, expected items, ProtocolError, Disconnected(graceful=False)`:
    no message event after the ProtocolError, nothing of `bad` or `rest` is delivered, and the
    rest of the environment script is never consulted. -/
theorem violation_end_to_end (cfg : Cfg) (react : React) (proxy : Bool) (proto : Option Http.Str)
    (hs : Setup cfg react proxy) (hv : cfg.v.ctrlLen = true)
    (reply : Bytes) (hreply : GoodReply cfg reply proto)
    (items : List Item) (hok : ∀ it ∈ items, it.Ok) (bad : Bytes) (hbad : Violating false bad) (rest : Bytes)
    (chunks : List Bytes) (hne : ∀ c ∈ chunks, c ≠ [])
    (hflat : chunks.flatten = reply ++ (wireBytes (items.flatMap Item.wire) ++ (bad ++ rest)))
    (restEnv : List EnvStep) :
    ∃ msg crit k cw l post pre,
      (runAll cfg react (reads chunks ++ restEnv)).trace = post ++ cw ++ l ++ .ev (.protocolError msg crit) :: pre ∧
      Monitor.histOf pre = (C01.expected items none).reverse ++ [.poll, .ready proto false, .connected proxy, .connecting] ∧
      (∀ o ∈ l, Obs.isEv o = false) ∧ CloseWrite msg crit cw ∧
      Monitor.histOf post = [.disconnected k false] ∧ (∀ o ∈ post, TailObs (.disconnected k false) o) ∧
      (k = "forced" ∨ (crit = false ∧ k = "error")) ∧
      Monitor.events (runAll cfg react (reads chunks ++ restEnv)).trace =
        [.connecting, .connected proxy, .ready proto false, .poll] ++ C01.expected items none ++
          [.protocolError msg crit, .disconnected k false] := by
  rw [show C01.expected items none = items.flatMap Item.events from List.append_nil _]
  obtain ⟨msg, crit, k, cw, l, post, pre, h1, h2, h3, h4, h5, h6, h7, h8⟩ :=
    violation_after_items hs hreply.toG items hok [] (bad ++ rest) (fun sp b => by
      obtain ⟨x, p'', msg, crit, e, hx⟩ := violating_stops false bad hbad sp (by rw [b.hcfg]; exact hv)
        b.between.b.await b.comp (by rw [b.frames]; rfl) rest
      exact ⟨x, _, msg, crit, e, hx, ⟨b.i.app, b.i.poll, b.i.sock, b.i.nr, b.i.rd⟩, rfl⟩) chunks hne hflat restEnv
  simp only [List.append_nil] at h2 h8
  exact ⟨msg, crit, k, cw, l, post, pre, h1, h2, h3.1, h4, h5, h6.1, h7, h8⟩

/-- **Violation inside a fragmented message, end to end.**  As `violation_end_to_end`, but the
    violating frame arrives while a data message is open: after the conforming `items` the server
    has sent the first fragment (FIN = 0) of a Text (`text = true`) or Binary message, any number
    of non-final continuation fragments `r1` with interleaved Ping/Pong, and further Ping/Pong
    frames `cs` (`E2E.openWire`).  For a Text message the bytes received so far must still be
    salvageable (otherwise *they* are the violation, see C05E2E) and the repaired `_is_text`
    bookkeeping is assumed.  `bad` is violating with `mid = true`: in particular a **new Text or
    Binary frame** ("continuation frame expected"), but also every class of the `mid = false` case
    except the orphan continuation.  The interleaved control frames are delivered; nothing of the
    unfinished message, of `bad` or of `rest` is. -/
theorem violation_end_to_end_mid (cfg : Cfg) (react : React) (proxy : Bool) (proto : Option Http.Str)
    (hs : Setup cfg react proxy) (hv : cfg.v.ctrlLen = true)
    (reply : Bytes) (hreply : GoodReply cfg reply proto)
    (items : List Item) (hok : ∀ it ∈ items, it.Ok)
    (text : Bool) (first : Frag) (r1 : List (List CtrlF × Frag)) (cs : List CtrlF)
    (hfirst : first.Ok) (hr1 : contOk r1) (hcs : ∀ c ∈ cs, c.Ok)
    (htext : text = true → cfg.v.keepIsText = true ∧ ∃ d, Utf8.validate 0 (first.payload ++ contPayload r1) = some d)
    (bad : Bytes) (hbad : Violating true bad) (rest : Bytes)
    (chunks : List Bytes) (hne : ∀ c ∈ chunks, c ≠ [])
    (hflat : chunks.flatten =
      reply ++ (wireBytes (items.flatMap Item.wire) ++ (wireBytes (openWire text first r1 cs) ++ (bad ++ rest))))
    (restEnv : List EnvStep) :
    ∃ msg crit k cw l post pre,
      (runAll cfg react (reads chunks ++ restEnv)).trace = post ++ cw ++ l ++ .ev (.protocolError msg crit) :: pre ∧
      (∀ o ∈ l, Obs.isEv o = false) ∧ CloseWrite msg crit cw ∧
      Monitor.histOf post = [.disconnected k false] ∧ (∀ o ∈ post, TailObs (.disconnected k false) o) ∧
      (k = "forced" ∨ (crit = false ∧ k = "error")) ∧
      Monitor.events (runAll cfg react (reads chunks ++ restEnv)).trace =
        [.connecting, .connected proxy, .ready proto false, .poll] ++
          (C01.expected items none ++ (contCtrls r1 ++ cs).map CtrlF.event) ++
          [.protocolError msg crit, .disconnected k false] := by
  rw [show C01.expected items none = items.flatMap Item.events from List.append_nil _]
  obtain ⟨msg, crit, k, cw, l, post, pre, h1, _, h3, h4, h5, h6, h7, h8⟩ :=
    violation_after_items hs hreply.toG items hok ((contCtrls r1 ++ cs).map CtrlF.event) _ (fun sp0 b => by
      obtain ⟨sp, hfl, a⟩ := feed_open_g b text first r1 cs hfirst hr1 hcs
        (fun h => ⟨(htext h).1, Or.inr rfl, (htext h).2⟩)
      obtain ⟨x, p'', msg, crit, e, hx⟩ := violating_stops true bad hbad sp (by rw [a.hcfg]; exact hv)
        a.await a.comp (by simp [a.frames]) rest
      exact ⟨x, _, msg, crit, (feedLoop_append_ok hfl _).trans e, hx, ⟨a.i.app, a.i.poll, a.i.sock, a.i.nr, a.i.rd⟩,
        a.hist⟩) chunks hne hflat restEnv
  exact ⟨msg, crit, k, cw, l, post, pre, h1, h3.1, h4, h5, h6.1, h7, h8⟩

/-- `8B 00`: opcode 0xB (reserved), FIN set, empty -/
theorem ex_violating : Violating false ([0x8B, 0] ++ ([] ++ ([] ++ []))) :=
  .header 0x8B 0 [] [] [] (by decide) (by decide)
    ⟨by decide, by decide, by decide, by decide, by decide, by decide⟩ (by decide)

/-- an oversize Ping in the 16-bit form, a masked Text, an orphan continuation, RSV1 without
    extension, a Close with the reserved code 1005, a Close whose reason is cut inside a character -/
example : Violating false ([0x89, 126] ++ ([0, 130] ++ ([] ++ List.replicate 130 7))) :=
  .header 0x89 126 [0, 130] [] _ (by decide) (by decide)
    ⟨by decide, by decide +kernel, by decide, by decide, by decide +kernel, by decide +kernel⟩ (by decide)
example : Violating false ([0x81, 0x82] ++ ([] ++ ([1, 2, 3, 4] ++ [104, 105]))) :=
  .header 0x81 0x82 [] [1, 2, 3, 4] [104, 105] (by decide) (by decide)
    ⟨by decide, by decide, by decide, by decide, by decide, by decide⟩ (by decide)
example : Violating false ([0x80, 1] ++ ([] ++ ([] ++ [65]))) :=
  .header 0x80 1 [] [] [65] (by decide) (by decide)
    ⟨by decide, by decide, by decide, by decide, by decide, by decide⟩ (by decide)
example : Violating false ([0xC1, 1] ++ ([] ++ ([] ++ [65]))) :=
  .header 0xC1 1 [] [] [65] (by decide) (by decide)
    ⟨by decide, by decide, by decide, by decide, by decide, by decide⟩ (by decide)
example : Violating false ([0x88, 2] ++ [3, 237]) :=
  .close [3, 237] (by decide) (Or.inr ⟨3, 237, [], rfl, Or.inl (by unfold Spec.reservedCloseCode; omega)⟩)
example : Violating false ([0x88, 4] ++ [3, 232, 0xE2, 0x82]) :=
  .close [3, 232, 0xE2, 0x82] (by decide) (Or.inr ⟨3, 232, [0xE2, 0x82], rfl, Or.inr (by decide)⟩)

/-- inside a fragmented message a new Text frame is a violation, an orphan-looking continuation is not -/
example : Violating true ([0x81, 1] ++ ([] ++ ([] ++ [65]))) :=
  .header 0x81 1 [] [] [65] (by decide) (by decide)
    ⟨by decide, by decide, by decide, by decide, by decide, by decide⟩ (by decide)
example : Spec.headerVerdict false true 0x80 1 = .ok ∧ Spec.headerVerdict false false 0x81 1 = .ok := by decide

/-- `violation_end_to_end_mid` applies: a Binary message is begun (FIN = 0, then a Ping), then a
    complete Text frame arrives -/
example : ∃ msg crit k, Monitor.events (runAll C01E2E.exCfg C01E2E.exReact
      (reads [C01E2E.exReply ++ ([] ++ (wireBytes (openWire false { payload := [1, 2], form := .short } []
        [{ pong := false, payload := [9], form := .short }]) ++ (([0x81, 1] ++ ([] ++ ([] ++ [65]))) ++ [0x8A, 0])))] ++ [])).trace =
    [.connecting, .connected false, .ready none false, .poll] ++ ([] ++ [.ping [9]]) ++
      [.protocolError msg crit, .disconnected k false] := by
  obtain ⟨msg, crit, k, _, _, _, _, _, _, _, _, _, _, h⟩ :=
    violation_end_to_end_mid C01E2E.exCfg C01E2E.exReact false none C01E2E.exSetup rfl C01E2E.exReply C01E2E.exGoodReply
      [] (by simp) false { payload := [1, 2], form := .short } [] [{ pong := false, payload := [9], form := .short }]
      (by decide) (by intro x hx; cases hx) (by decide) (by intro h; cases h)
      ([0x81, 1] ++ ([] ++ ([] ++ [65])))
      (.header 0x81 1 [] [] [65] (by decide) (by decide)
        ⟨by decide, by decide, by decide, by decide, by decide, by decide⟩ (by decide)) [0x8A, 0]
      [C01E2E.exReply ++ ([] ++ (wireBytes (openWire false { payload := [1, 2], form := .short } []
        [{ pong := false, payload := [9], form := .short }]) ++ (([0x81, 1] ++ ([] ++ ([] ++ [65]))) ++ [0x8A, 0])))]
      (by rw [C01E2E.exReply, Http.lit_ofList]; decide +kernel) (by simp [wireBytes]) []
  exact ⟨msg, crit, k, h⟩

/-- … evaluated directly: "continuation frame expected" -/
example : Monitor.events (runAll C01E2E.exCfg C01E2E.exReact
      (reads [C01E2E.exReply ++ ([0x02, 2, 1, 2] ++ [0x89, 1, 9] ++ [0x81, 1, 65] ++ [0x8A, 0])])).trace =
    [.connecting, .connected false, .ready none false, .poll, .ping [9],
     .protocolError "continuation frame expected" false, .disconnected "forced" false] := by
  -- the reply as a list of characters: the kernel is slow on long string literals (Proofs/StrLit.lean)
  rw [C01E2E.exReply, Http.lit_ofList]
  decide +kernel

/-- the stream of the concrete example: C01's items, the reserved-opcode frame, then a Binary
    frame that must never be delivered -/
def exStream : Bytes :=
  wireBytes (C01.exItems.flatMap Item.wire) ++ (([0x8B, 0] ++ ([] ++ ([] ++ []))) ++ [0x82, 1, 65])

/-- the theorem applies: C01's example items, then the reserved-opcode frame, then a Binary frame,
    one byte per read, with further reads in the script that are never consulted -/
example : ∃ msg crit k, Monitor.events (runAll C01E2E.exCfg C01E2E.exReact
      (reads ((C01E2E.exReply ++ exStream).map (fun b => [b])) ++ [.wait 3 (some (.data [0x81, 1, 66]))])).trace =
    [.connecting, .connected false, .ready none false, .poll] ++ C01.expected C01.exItems none ++
      [.protocolError msg crit, .disconnected k false] := by
  obtain ⟨msg, crit, k, _, _, _, _, _, _, _, _, _, _, _, h⟩ :=
    violation_end_to_end C01E2E.exCfg C01E2E.exReact false none C01E2E.exSetup rfl C01E2E.exReply C01E2E.exGoodReply
      C01.exItems C01.ex_conforming.1 _ ex_violating [0x82, 1, 65] _ (bytewise_ne _) (bytewise_flatten _)
      [.wait 3 (some (.data [0x81, 1, 66]))]
  exact ⟨msg, crit, k, h⟩

/-- … and the same run evaluated directly: the text is `opcode is reserved`, the kind `forced`; in
    one read, the Close frame 1002 is the last thing written -/
example : Monitor.events (runAll C01E2E.exCfg C01E2E.exReact
      (reads [C01E2E.exReply ++ exStream] ++ [.wait 3 (some (.data [0x81, 1, 66]))])).trace =
    [.connecting, .connected false, .ready none false, .poll,
     .ping [1, 2], .pong [], .text [0x20AC, 0x61], .pong [7], .binary (List.replicate 126 255),
     .protocolError "opcode is reserved" false, .disconnected "forced" false] := by
  rw [C01E2E.exReply, Http.lit_ofList]
  decide +kernel

end Lomond.C04E2E
