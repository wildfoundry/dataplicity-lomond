/-
  C11 — concurrent senders never corrupt the wire.
  Property theorems only (helper lemmas: Proofs/ThreadsProg.lean, ThreadsStep.lean, Threads.lean, ThreadsZ.lean,
  ThreadsNZ.lean).

  The model (`Model/Threads.lean`) runs any number of threads, each with any program of calls
  (`send_text`, `send_binary`, `send_ping`, `send_pong`, `close`, and the event loop's own writers:
  auto-pong, auto-ping, the echo of a server Close, the completion of our own close), under any
  schedule (`List Tid`; an entry for a thread waiting for the held lock is a no-op).  The socket
  write is split in two steps, so a torn frame is representable on the model's wire.
  "For all interleavings" is therefore "for all `progs` and all `sched`" — no bound on the number
  of threads, calls, or preemptions.  Every statement also holds in every intermediate state
  (a schedule prefix is a schedule).
-/
import Lomond.Proofs.ThreadsNZ

namespace Lomond.C11
open Lomond Lomond.Threads

/-- the state reached from the freshly connected WebSocket -/
abbrev final (v : Variant) (cfg : Cfg) (progs : Tid → List Call) (sched : List Tid) : State :=
  run v cfg (init progs) sched

/-- **The lock has at most one holder**: a thread stands inside a `with self._lock:` block iff the
    lock records it as the holder; hence two threads are never inside at the same time. -/
theorem lock_exclusive (v : Variant) (cfg : Cfg) (progs : Tid → List Call) (sched : List Tid) (t u : Tid) :
    let s := final v cfg progs sched
    (holds (view v cfg (s.th t)) = true ↔ s.sh.lock = some t) ∧
    (holds (view v cfg (s.th t)) = true → holds (view v cfg (s.th u)) = true → t = u) := by
  intro _
  have L := (base_final v cfg progs sched).L
  exact ⟨L.holder t, fun ht hu => holder_unique L hu ht⟩

/-- **Bytes are appended to the wire only while holding the lock**: whenever a schedule entry
    changes the wire, the thread that moved is the lock holder. -/
theorem write_needs_lock (v : Variant) (cfg : Cfg) (progs : Tid → List Call) (sched : List Tid) (t : Tid) :
    let s := final v cfg progs sched
    (step v cfg s t).sh.wire ≠ s.sh.wire → s.sh.lock = some t := by
  intro s hne
  have L := (base_final v cfg progs sched).L
  rcases step_cases v cfg s t with e | ⟨c, st, r, _, _, _, _, hv, e⟩
  · rw [e] at hne; exact absurd rfl hne
  · have d : disc (st :: r) = true := hv ▸ L.disc t
    apply (L.holder t).mp
    rw [hv]
    rw [e, setTh_sh, exec_wire] at hne
    cases st <;> first
      | exact absurd rfl hne
      | exact atW_holds d rfl

/-- **The wire is a concatenation of whole frames**, followed by at most the first half of the
    frame the lock holder is in the middle of writing.  (`pairs (frames w)` is the list of both
    halves of every completed frame, in order.) -/
theorem whole_frames (v : Variant) (cfg : Cfg) (progs : Tid → List Call) (sched : List Tid) :
    let s := final v cfg progs sched
    s.sh.wire = pairs (frames s.sh.wire) ∨
    ∃ t c f r, s.sh.lock = some t ∧ (s.th t).current v cfg = some c ∧ c.rest = .write2 f :: r ∧
      s.sh.wire = pairs (frames s.sh.wire) ++ [⟨t, c.idx, false, descOf f c⟩] := by
  intro s
  have B := base_final v cfg progs sched
  by_cases h : ∀ t, headW2 (view v cfg (s.th t)) = false
  · exact Or.inl (B.W.whole h)
  · right
    obtain ⟨t, ht⟩ := exists_at h
    have hl := (B.L.holder t).mp (headW2_holds (B.L.disc t) ht)
    cases hvw : view v cfg (s.th t) with
    | nil => rw [hvw] at ht; cases ht
    | cons st r =>
      rw [hvw] at ht
      cases st <;> simp only [headW2] at ht <;> try cases ht
      rename_i f
      obtain ⟨c, hc, hr⟩ := current_of_view hvw
      exact ⟨t, c, f, r, hl, hc, hr, B.W.mid t c f r hc hr⟩

/-- when no thread is between the two halves of a write — in particular when every thread has
    finished — the wire consists of whole frames exactly -/
theorem whole_frames_quiescent (v : Variant) (cfg : Cfg) (progs : Tid → List Call) (sched : List Tid)
    (h : ∀ t, headW2 (view v cfg ((final v cfg progs sched).th t)) = false) :
    (final v cfg progs sched).sh.wire = pairs (frames (final v cfg progs sched).sh.wire) :=
  (base_final v cfg progs sched).W.whole h

/-- the same in bytes (`pairs_bytes`): the two chunks of a frame concatenate to the frame handed to
    `sendall`, so the bytes on the wire are the concatenation of whole frames -/
theorem whole_frames_bytes (v : Variant) (cfg : Cfg) (progs : Tid → List Call) (sched : List Tid)
    (h : ∀ t, headW2 (view v cfg ((final v cfg progs sched).th t)) = false) :
    wireBytes cfg (final v cfg progs sched).sh.wire =
      ((frames (final v cfg progs sched).sh.wire).map (frameBytes cfg)).flatten :=
  (congrArg (wireBytes cfg) (whole_frames_quiescent v cfg progs sched h)).trans
    (pairs_bytes cfg _ fun c hc => by simp [frames] at hc; exact hc.2)

/-- **The wire contains exactly the messages sent.**
    (1) call `i` of thread `t` has a frame on the wire iff that call has written (`wroteAt`), and then
        exactly once;
    (2) every chunk on the wire is (half of) the frame of the call it is tagged with: that call's
        opcode and, when uncompressed, that call's message;
    (3) a finished send (`send_text/binary/ping/pong`) wrote its frame iff it raised no
        WebSocketError: a send is never both refused and written, nor silently dropped. -/
theorem exact_messages (v : Variant) (cfg : Cfg) (progs : Tid → List Call) (sched : List Tid) :
    let s := final v cfg progs sched
    (∀ t i, i ∈ idxs s.sh.wire t ↔ wroteAt (s.th t) i) ∧
    (∀ t, (idxs s.sh.wire t).Nodup) ∧
    (∀ ch ∈ s.sh.wire, ∃ call, (progs ch.tid)[ch.idx]? = some call ∧ descFor cfg call ch.desc) ∧
    (∀ (t : Tid) (i : Nat) (r : Result), (s.th t).results[i]? = some r →
      ∃ call, (progs t)[i]? = some call ∧ (r.err ≠ none → r.wrote = false) ∧
        (call.isSend = true → (r.wrote = true ↔ r.err = none))) := by
  intro _
  exact (base_final v cfg progs sched).toBaseN.exact_messages (run_prog v cfg _ sched)

/-- **Each thread's messages are on the wire in its own call order**: the call indices of the
    frames of thread `t`, read in wire order, are strictly increasing. -/
theorem per_thread_order (v : Variant) (cfg : Cfg) (progs : Tid → List Call) (sched : List Tid) (t : Tid) :
    (idxs (final v cfg progs sched).sh.wire t).Pairwise (· < ·) :=
  (base_final v cfg progs sched).M.sorted t

/-- **With compression under the write lock (the repair of D7) the order of compression is the
    order on the wire**: the peer, inflating the compressed frames in wire order with one context
    (context takeover) or a fresh one per message (`client_no_context_takeover`), can decode every
    frame, and what it obtains for the frame of call `i` of thread `t` is that call's message.
    `peerDecode` fails as soon as a block was produced in another context than the peer's. -/
theorem compress_order (v : Variant) (hv : v.compressUnderLock = true) (cfg : Cfg)
    (progs : Tid → List Call) (sched : List Tid) :
    let s := final v cfg progs sched
    ∃ ms, peerDecode cfg.noTakeover [] (frames s.sh.wire) = some ms ∧
      ms.map (fun x => (x.1, x.2.1)) = (frames s.sh.wire).map (fun c => (c.tid, c.idx)) ∧
      ∀ x ∈ ms, ∃ call, (progs x.1)[x.2.1]? = some call ∧ x.2.2 = call.msg := by
  intro s
  have Z : ZInv v cfg (run v cfg (init progs) sched) :=
    runN_default v cfg _ sched ▸ zInv_reach Env.two (fun _ _ => rfl) v cfg progs hv sched
  obtain ⟨ms, h1, h2⟩ := Z.dec
  refine ⟨ms, h1, peerDecode_tags _ _ _ _ h1, ?_⟩
  intro x hx
  obtain ⟨call, h3, h4⟩ := h2 x hx
  rw [run_prog] at h3
  exact ⟨call, h3, h4⟩

/-- **What holds of `compress_order` for the pinned code** (`compress_order` itself is false for
    it: `compress_fails` below): on a connection without negotiated compression — every variant,
    all programs, all schedules — the peer decodes every frame in wire order and obtains, for the
    frame of call `i` of thread `t`, that call's message.
    Missing for the full statement: connections with permessage-deflate, where the pinned code
    compresses outside the write lock (finding D7). -/
theorem compress_order_partial (v : Variant) (cfg : Cfg) (hz : cfg.deflate = false)
    (progs : Tid → List Call) (sched : List Tid) :
    let s := final v cfg progs sched
    ∃ ms, peerDecode cfg.noTakeover [] (frames s.sh.wire) = some ms ∧
      ms.map (fun x => (x.1, x.2.1)) = (frames s.sh.wire).map (fun c => (c.tid, c.idx)) ∧
      ∀ x ∈ ms, ∃ call, (progs x.1)[x.2.1]? = some call ∧ x.2.2 = call.msg := by
  intro s
  have B := base_final v cfg progs sched
  -- every chunk on the wire is plain and carries its call's message
  have hplain : ∀ f ∈ frames s.sh.wire, ∃ call, (progs f.tid)[f.idx]? = some call ∧ f.desc.pay = .plain call.msg := by
    intro f hf
    have hfw : f ∈ s.sh.wire := by simp only [frames, List.mem_filter] at hf; exact hf.1
    obtain ⟨call, h1, _, h2⟩ := B.C.wire f hfw
    rw [run_prog] at h1
    refine ⟨call, h1, ?_⟩
    cases hp : f.desc.pay with
    | plain b => rw [hp] at h2; exact congrArg _ h2
    | deflated c o =>
      rw [hp] at h2
      have := src_zreg_deflate cfg call h2
      rw [hz] at this; cases this
  let msg : Chunk → Bytes := fun f => match f.desc.pay with | .plain b => b | .deflated _ o => o
  have hdec := peerDecode_plain cfg.noTakeover [] (frames s.sh.wire) msg (by
    intro f hf
    obtain ⟨call, _, h2⟩ := hplain f hf
    simp only [msg, h2])
  refine ⟨_, hdec, peerDecode_tags _ _ _ _ hdec, ?_⟩
  intro x hx
  simp only [List.mem_map] at hx
  obtain ⟨f, hf, rfl⟩ := hx
  obtain ⟨call, h1, h2⟩ := hplain f hf
  exact ⟨call, h1, by simp only [msg, h2]⟩

/-! ### the pinned code does not have the last property (finding D7) -/

def m0 : Bytes := [104, 101, 108, 108, 111]
def m1 : Bytes := [104, 101, 108, 108, 111, 33]
def zcfg : Cfg := { deflate := true }
def two : Tid → List Call := progsOf [[.sendText m0 true], [.sendText m1 true]]

/-- T0 `compress`, `flush`; then T1 runs its whole `send_text`; then T0 writes -/
def schedOrder : List Tid := [0, 0] ++ List.replicate 9 1 ++ List.replicate 7 0
/-- the `compress()` / `flush()` calls of the two threads interleave on the shared object -/
def schedObject : List Tid := [0, 1, 0, 1] ++ List.replicate 7 0 ++ List.replicate 7 1

/-- T1 compresses after T0 but writes before it: the first frame on the wire was produced in a
    context (T0's message) the peer does not have — the peer's inflater fails. -/
theorem compress_fails_order :
    peerDecode false [] (frames (final {} zcfg two schedOrder).sh.wire) = none := by
  decide

/-- `compress` of T1 falls between `compress` and `flush` of T0: T0's frame carries both messages,
    T1's frame carries nothing. -/
theorem compress_fails_object :
    peerDecode false [] (frames (final {} zcfg two schedObject).sh.wire) = some [(0, 0, m0 ++ m1), (1, 0, [])] := by
  decide

/-- hence `compress_order` is false for the pinned code -/
theorem compress_fails :
    ¬ ∀ (cfg : Cfg) (progs : Tid → List Call) (sched : List Tid),
      ∃ ms, peerDecode cfg.noTakeover [] (frames (final {} cfg progs sched).sh.wire) = some ms ∧
        ∀ x ∈ ms, ∃ call, (progs x.1)[x.2.1]? = some call ∧ x.2.2 = call.msg := by
  intro h
  obtain ⟨ms, h1, _⟩ := h zcfg two schedOrder
  have := compress_fails_order
  simp only [zcfg] at h1 this
  rw [this] at h1; cases h1

/-! ### non-vacuity -/

/-- the witness schedule is a real interleaving: both frames are written, whole, T1's first -/
example : (frames (final {} zcfg two schedOrder).sh.wire).map (fun c => (c.tid, c.idx)) = [(1, 0), (0, 0)] ∧
    wholeFrames (final {} zcfg two schedOrder).sh.wire = true := by decide

/-- under the repaired variant the same schedule (T1 now has to wait for the lock) decodes -/
example : peerDecode false [] (frames (final { compressUnderLock := true } zcfg two
    ([0, 0, 0, 0, 0, 0] ++ List.replicate 9 1 ++ List.replicate 12 0 ++ List.replicate 12 1)).sh.wire)
      = some [(0, 0, m0), (1, 0, m1)] := by decide +kernel

/-- a schedule that stops in the middle of a write: the wire ends with a first half, the writer
    holds the lock, and the other thread is blocked -/
example : (final {} {} (progsOf [[.sendText m0 false], [.sendPing []]]) [0, 0, 0, 0, 0, 1, 1]).sh.lock = some 0 ∧
    (final {} {} (progsOf [[.sendText m0 false], [.sendPing []]]) [0, 0, 0, 0, 0, 1, 1]).sh.wire.length = 1 := by decide

/-- per-call results: a send that loses against `close()` fails with WebSocketClosing, unwritten -/
example : ((final {} {} (progsOf [[.close (some 1000) []], [.sendText m0 false]])
    (List.replicate 11 0 ++ List.replicate 7 1)).th 1).results = [⟨false, some .closing, false⟩] := by decide

end Lomond.C11
