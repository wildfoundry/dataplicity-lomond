/-
  C08, end to end — the closing handshake over a whole connection `Core.runAll cfg react env`,
  in both directions.  (The theorems of Properties/C08.lean about the two central clauses are step
  lemmas under hypotheses such as `regularTop … = .ok`; here the whole run is computed.)
  Helper lemmas: Proofs/ClosingRun.lean.

  Setting (as in C01E2E / C04E2E):
  * configuration: `_connect()` succeeds (`connect = .ok proxy`), **no write fault**
    (`writeFails k = false` for every `sendall`), `poll > 0`; every variant, any `autoPong`, any
    ping rate / timeouts (no timer fires: see the environment);
  * environment: the reads `chunks` — non-empty, otherwise arbitrary: **every segmentation**, cuts
    inside the HTTP reply, inside frame headers, between the client's and the server's Close —
    all with `wait 0` (**the clock stands still, so no timer fires**: the first Poll directly after
    Ready is the only one; close timeout / ping timeout / automatic Ping are C15), whose
    concatenation is `reply ++ wire(items) ++ Close frame`, followed by any further script;
  * `reply`: any upgrade reply accepted without extension (`E2E.GoodReply`, cf. C10);
    `items`: any conforming server items (`Item.Ok`: control frames, data messages in any
    fragmentation with interleaved Ping/Pong, any legal length form, Text valid UTF-8);
    `c : CloseF`: any legal Close frame (no body, or a non-reserved code and a UTF-8 reason);
  * application (`CR.AppK`): an arbitrary function of the event history that only *sends* (text /
    binary / ping / pong, any arguments, valid or not, at any event), except — client-first — that
    its reaction to the event with index `K - 1` (history length `K`, `K ≥ 2`: `Connected` or any
    later event, **also a Ping/Pong arriving between the fragments of a message**) is
    `sends ++ [close(code, reason)] ++ sends` with arguments `close()` accepts.

  Vocabulary for traces (newest first; Proofs/ClosingRun.lean):
  * `Tstart cfg l0 = .wr request :: l0 ++ [.ev Connecting]`, `l0` = results of the calls made at
    `Connecting` (no socket yet);
  * `PhaseA auto A` — the trace while the websocket is open consists of: events; for every Ping
    event (automatic pongs on) the library's Pong frame `Pong.pongBytes d key` *directly before
    it*; results of application calls, a frame handed to `sendall` directly before the result of
    the call that wrote it.  So the library writes exactly one Pong per Ping and nothing else
    (`PhaseA.write_kinds`, `PhaseA.ping_answered`, `PhaseA.no_pong`);
  * `PongsOnly auto A` — `PhaseA` without application calls: events and the Pong directly before
    each Ping event, nothing else (`PongsOnly.written`: the frames written are the Pongs for the
    Pings, in order);
  * `PhaseB B` — no entry of `B` is a write (`.wr`, `.wrz`, `.wrFail`) and none is `.res ok`:
    nothing reaches `sendall`, every call fails.
-/
import Lomond.Proofs.ClosingRun
import Lomond.Properties.C01_E2E

namespace Lomond.C08E2E
open Lomond Lomond.Core Lomond.Core.E2E Lomond.Core.CR

/-- the history (newest first) the application has been shown once the server's Close has been
    reported as `last` (`Closed` / `Closing`): the histories it was shown earlier are the proper
    suffixes of this list -/
def allEvents (proxy : Bool) (proto : Option Http.Str) (items : List Item) (last : Event) : List Event :=
  last :: ((items.flatMap Item.events).reverse ++ [.poll, .ready proto false, .connected proxy, .connecting])

/-! ## (a) The client closes first -/

/-- **Client-initiated closing handshake, end to end.**  The application calls
    `close(code, reason)` in its reaction to the event with index `K - 1 ≥ 1` (`Connected`, `Ready`,
    the first `Poll`, or any message event: `K ≤ 4 + number of item events`) and otherwise only
    sends; the server sends `items`, then the Close frame `c`.  Then the whole trace of the
    connection is (newest first)

        B ++ .res ok :: .wr (Close frame) :: A ++ Tstart cfg l0

    * `A` (`PhaseA`): everything from `Connected` up to the `close()` call — the events (exactly
      `K` of them including `Connecting`: the newest is the one the application reacted to), the
      library's Pong directly before each Ping event seen so far, the application's own sends —
      and **nothing else written**;
      for an application that makes no call before its `close()` (`react h = []` for the histories
      of fewer than `K` events it is actually shown, `close()` first in its reaction to the
      K-th) `A` is `PongsOnly`: events, the Pong directly
      before each Ping event, and nothing else — **the bytes written between the upgrade request
      and the Close frame are exactly the Pongs for the Pings seen so far, in order**
      (`PongsOnly.written`);
    * then **one** Close frame `88 80+len key masked(code ++ reason)` carrying exactly the given
      code and reason, and the `ok` result of `close()`;
    * `B` (`PhaseB`): after it nothing at all is handed to `sendall` (no Pong for later Pings, no
      data frame, no second Close) and every application call fails (`WebSocketClosing`, at
      `Disconnected` `WebSocketUnavailable`, or the argument errors);
    * the events of the connection are exactly `Connecting, Connected, Ready, Poll`, **every item
      event — those arriving after the `close()` included —**, then `Closed(code', reason')` with
      the server's code and reason, then `Disconnected('closed', graceful=True)`;
    * the socket is closed at the end; the rest of the environment script is never consulted. -/
theorem client_close_end_to_end (cfg : Cfg) (react : React) (proxy : Bool) (proto : Option Http.Str)
    (K : Nat) (code : Option Nat) (reason : Arg) (rb : Bytes)
    (hconn : cfg.connect = .ok proxy) (hnf : ∀ k, cfg.writeFails k = false) (hpoll : 0 < cfg.poll)
    (hK2 : 2 ≤ K) (hrb : reasonBytes reason = some rb) (hargs : CloseArgsOk code rb)
    (happ : AppK (some K) code reason react)
    (reply : Bytes) (hreply : GoodReply cfg reply proto)
    (items : List Item) (hok : ∀ it ∈ items, it.Ok) (c : CloseF) (hc : c.Ok)
    (hK : K ≤ 4 + (items.flatMap Item.events).length)
    (chunks : List Bytes) (hne : ∀ x ∈ chunks, x ≠ [])
    (hflat : chunks.flatten = reply ++ (wireBytes (items.flatMap Item.wire) ++ c.wire.bytes))
    (rest : List EnvStep) :
    ∃ l0 A key B,
      (runAll cfg react (reads chunks ++ rest)).trace =
        B ++ .res .ok :: .wr (closeFrame (buildClosePayload code rb) key) :: (A ++ Tstart cfg l0) ∧
      (∀ o ∈ l0, Obs.isRes o = true) ∧ PhaseA cfg.autoPong A ∧
      (Monitor.histOf (A ++ Tstart cfg l0)).length = K ∧ PhaseB B ∧
      ((∀ h, h <:+ allEvents proxy proto items (.closed c.code c.reason) → h.length < K → react h = []) →
        (∀ h, h <:+ allEvents proxy proto items (.closed c.code c.reason) → h.length = K → HeadNotSend (react h)) →
        PongsOnly cfg.autoPong A) ∧
      Monitor.events (runAll cfg react (reads chunks ++ rest)).trace =
        [.connecting, .connected proxy, .ready proto false, .poll] ++ items.flatMap Item.events ++
          [.closed c.code c.reason, .disconnected "closed" true] ∧
      (runAll cfg react (reads chunks ++ rest)).sockOpen = false := by
  have hp : Par (some K) code reason rb cfg :=
    ⟨hnf, hpoll, hrb, hargs, (fun K' h => by cases h; exact hK2)⟩
  obtain ⟨l0, B, A, key, h1, h2, h3, h4, h5, hn, h6, h7⟩ :=
    client_close_run K code reason rb cfg hp react proxy proto hconn happ hreply items hok c hc hK chunks hne hflat rest
  refine ⟨l0, A, key, B, h1, h2, h3, h5, h4, fun a b => h3.pongsOnly (hn a b), ?_, h7⟩
  rw [events_eq_hist, h6]
  simp

/-! ## (b) `close()` at the `Connected` event, before the handshake reply -/

/-- **`close()` at `Connected`** (the instance `K = 2` of `client_close_end_to_end`, spelled out).
    The upgrade request has been written; `close()` finds the socket open and the websocket
    neither closing nor closed, so **the Close frame goes out right behind the request**, before
    the server's reply has been read (`A` contains exactly one event, `Connected`, and what the
    application sent before calling `close()`).  The handshake is *not* abandoned: the reply is
    still parsed and accepted, `Ready` and the first `Poll` are handed to the application, every
    message the server sends is delivered — but nothing is written any more (no Pong, every send
    refused: `PhaseB`) — and when the server's Close arrives the connection ends with
    `Closed(code', reason')`, `Disconnected('closed', graceful=True)` and the socket closed.
    (Behaviour as the code has it — `WebSocket.close()` only looks at `is_closed` / `is_closing`,
    `feed()` does not look at `is_closing` — fixed here at run level.) -/
theorem close_at_connected_end_to_end (cfg : Cfg) (react : React) (proxy : Bool) (proto : Option Http.Str)
    (code : Option Nat) (reason : Arg) (rb : Bytes)
    (hconn : cfg.connect = .ok proxy) (hnf : ∀ k, cfg.writeFails k = false) (hpoll : 0 < cfg.poll)
    (hrb : reasonBytes reason = some rb) (hargs : CloseArgsOk code rb)
    (happ : AppK (some 2) code reason react)
    (reply : Bytes) (hreply : GoodReply cfg reply proto)
    (items : List Item) (hok : ∀ it ∈ items, it.Ok) (c : CloseF) (hc : c.Ok)
    (chunks : List Bytes) (hne : ∀ x ∈ chunks, x ≠ [])
    (hflat : chunks.flatten = reply ++ (wireBytes (items.flatMap Item.wire) ++ c.wire.bytes))
    (rest : List EnvStep) :
    ∃ l0 A key B,
      (runAll cfg react (reads chunks ++ rest)).trace =
        B ++ .res .ok :: .wr (closeFrame (buildClosePayload code rb) key) :: (A ++ Tstart cfg l0) ∧
      (∀ o ∈ l0, Obs.isRes o = true) ∧ PhaseA cfg.autoPong A ∧
      Monitor.histOf A = [.connected proxy] ∧ PhaseB B ∧
      Monitor.histOf B =
        [.disconnected "closed" true, .closed c.code c.reason] ++ (items.flatMap Item.events).reverse ++
          [.poll, .ready proto false] ∧
      (runAll cfg react (reads chunks ++ rest)).sockOpen = false := by
  obtain ⟨l0, A, key, B, h1, h2, h3, h4, h5, _, h6, h7⟩ :=
    client_close_end_to_end cfg react proxy proto 2 code reason rb hconn hnf hpoll (Nat.le_refl 2) hrb hargs happ
      reply hreply items hok c hc (by omega) chunks hne hflat rest
  have hl0 : hist l0 = [] := hist_nonEv l0 (fun o ho => by
    have := h2 o ho
    cases o <;> first | rfl | (simp [Obs.isRes] at this))
  have hT : hist (Tstart cfg l0) = [.connecting] := by
    show hist (.wr cfg.request :: (l0 ++ [.ev .connecting])) = _
    rw [hist_cons_nonEv _ _ rfl, hist_append, hl0]; rfl
  -- all events, newest first, split where the trace is split
  have hall : hist B ++ hist (A ++ Tstart cfg l0) =
      ([.disconnected "closed" true, .closed c.code c.reason] ++ (items.flatMap Item.events).reverse ++
        [.poll, .ready proto false]) ++ [.connected proxy, .connecting] := by
    have := congrArg List.reverse h6
    rw [events_eq_hist, List.reverse_reverse, h1, hist_append, hist_cons_nonEv _ _ rfl, hist_cons_nonEv _ _ rfl] at this
    rw [this]; simp
  obtain ⟨eB, eA⟩ := List.append_inj' hall h4
  rw [hist_append, hT] at eA
  exact ⟨l0, A, key, B, h1, h2, h3, List.append_cancel_right (cs := [Event.connected proxy]) eA, h5, eB, h7⟩

/-! ## (c) The server closes first -/

/-- **Server-initiated closing handshake, end to end.**  The application only sends (at any event,
    in particular while handling `Closing`); the server sends `items`, then the Close frame `c`,
    then drops the connection (end of stream).  Then the whole trace of the connection is

        post ++ .wr (Close echo) :: l ++ A ++ Tstart cfg l0

    * `A` (`PhaseA`): from `Connected` to just before the server's Close: the item events, one
      Pong directly before each Ping event, the application's sends — nothing else written;
      for an application that is silent up to then (`react h = []` for every history it is
      actually shown before `Closing`) `A` is `PongsOnly`: the bytes written after the
      request are exactly the Pongs for the Pings;
    * `l`: the `Closing(code, reason)` event — the only event in `l` — followed by what the
      application did in reaction to it: its sends are still carried out (`PhaseA (l ++ A)`: a
      write in `l` is an application call's, directly before that call's result);
    * then **exactly one** Close frame, the echo: it carries the received payload `c.payload` —
      the same code, and the reason decoded and re-encoded gives back the same bytes
      (`buildClosePayload code (encodeReplace reason) = c.payload`);
    * `post` (`PhaseB`): nothing is handed to `sendall` after the echo — no data frame, no second
      Close —, every later call fails; its only event is `Disconnected('closed', graceful=True)`;
    * the events of the connection are `Connecting, Connected, Ready, Poll`, the item events,
      `Closing(code, reason)`, `Disconnected('closed', graceful=True)`; the socket is closed. -/
theorem server_close_end_to_end (cfg : Cfg) (react : React) (proxy : Bool) (proto : Option Http.Str)
    (hconn : cfg.connect = .ok proxy) (hnf : ∀ k, cfg.writeFails k = false) (hpoll : 0 < cfg.poll)
    (happ : SendOnly react)
    (reply : Bytes) (hreply : GoodReply cfg reply proto)
    (items : List Item) (hok : ∀ it ∈ items, it.Ok) (c : CloseF) (hc : c.Ok)
    (chunks : List Bytes) (hne : ∀ x ∈ chunks, x ≠ [])
    (hflat : chunks.flatten = reply ++ (wireBytes (items.flatMap Item.wire) ++ c.wire.bytes))
    (rest : List EnvStep) :
    ∃ l0 A l key post,
      (runAll cfg react (reads chunks ++ (.wait 0 (some .eof) :: rest))).trace =
        post ++ .wr (closeFrame c.payload key) :: (l ++ (A ++ Tstart cfg l0)) ∧
      (∀ o ∈ l0, Obs.isRes o = true) ∧ PhaseA cfg.autoPong A ∧ PhaseA cfg.autoPong (l ++ A) ∧
      ((∀ h, h <:+ (allEvents proxy proto items (.closing c.code c.reason)).tail → react h = []) →
        PongsOnly cfg.autoPong A) ∧
      Monitor.histOf l = [.closing c.code c.reason] ∧
      buildClosePayload c.code (encodeReplace c.reason) = c.payload ∧
      PhaseB post ∧ Monitor.histOf post = [.disconnected "closed" true] ∧
      Monitor.events (runAll cfg react (reads chunks ++ (.wait 0 (some .eof) :: rest))).trace =
        [.connecting, .connected proxy, .ready proto false, .poll] ++ items.flatMap Item.events ++
          [.closing c.code c.reason, .disconnected "closed" true] ∧
      (runAll cfg react (reads chunks ++ (.wait 0 (some .eof) :: rest))).sockOpen = false := by
  obtain ⟨l0, post, l, A, key, h1, h2, h3, h4, hn, h5, h6, h7, h8, h9⟩ :=
    server_close_run cfg react proxy proto hnf hpoll hconn happ hreply items hok c hc chunks hne hflat rest
  refine ⟨l0, A, l, key, post, h1, h2, h3, h4, fun a => h3.pongsOnly (hn a), h5, close_echo_payload c hc,
    h7, h8, ?_, h9⟩
  rw [events_eq_hist, h1, hist_append, h8, hist_cons_nonEv _ _ rfl, hist_append, h5, h6]
  simp

/-! ## Reading the trace shapes -/

/-- **what `PhaseA` says about the wire**: a frame handed to `sendall` is either an application
    call's — then the call's result follows it directly — or, with automatic pongs on, the
    library's Pong `8A 80+len key masked(d)` for the Ping event `Ping(d)` that follows it directly;
    and every Ping event is answered so.  Hence, for an application that makes no call before it
    closes, the bytes written between the upgrade request and the Close frame are exactly the Pongs
    for the Pings seen, in order. -/
theorem phaseA_wire (auto : Bool) (A : List Obs) (h : PhaseA auto A) :
    (∀ pre o post, A = pre ++ o :: post → o.isWrite = true →
      (∃ pre' r, pre = pre' ++ [.res r]) ∨
      (auto = true ∧ ∃ pre' d key, pre = pre' ++ [.ev (.ping d)] ∧ o = .wr (Pong.pongBytes d key))) ∧
    (auto = true → ∀ pre d post, A = pre ++ .ev (.ping d) :: post →
      ∃ key post', post = .wr (Pong.pongBytes d key) :: post') :=
  ⟨h.write_kinds, fun ha => by subst ha; exact h.ping_answered⟩

/-- **what `PhaseB` says**: no frame reaches `sendall` — successfully or not — and no call of the
    application returns normally -/
theorem phaseB_silent (B : List Obs) (h : PhaseB B) :
    (∀ d, Obs.wr d ∉ B) ∧ (∀ op pl, Obs.wrz op pl ∉ B) ∧ (∀ d, Obs.wrFail d ∉ B) ∧ Obs.res .ok ∉ B := by
  refine ⟨fun d hm => ?_, fun op pl hm => ?_, fun d hm => ?_, fun hm => ?_⟩
  · have := (h _ hm).1; cases this
  · have := (h _ hm).1; cases this
  · have := (h _ hm).1; cases this
  · exact (h _ hm).2 rfl

/-! ## Non-vacuity -/

/-- sends a Ping at every event; at the fifth event (index 4: the Ping that arrives *between the
    fragments* of the server's Text message) it sends `hi`, calls `close(1000, b'bye')`, and tries
    to send a Binary -/
def exReact : React := fun h =>
  if h.length = 5 then
    [.sendText (.str [104, 105]) false, .close (some 1000) (.bytes [98, 121, 101]), .sendBinary (.bytes [1]) false]
  else [.sendPing (.bytes [9])]

/-- the example application is of the class of `client_close_end_to_end` with `K = 5` -/
theorem exApp : AppK (some 5) (some 1000) (.bytes [98, 121, 101]) exReact := by
  constructor
  · intro h hk a ha
    have : h.length ≠ 5 := fun e => hk (by rw [e])
    simp only [exReact, this, if_false, List.mem_singleton] at ha
    subst ha; rfl
  · intro h hk
    have : h.length = 5 := (Option.some.inj hk).symm
    refine ⟨[.sendText (.str [104, 105]) false], [.sendBinary (.bytes [1]) false], ?_, ?_, ?_⟩
    · simp [exReact, this]
    · intro a ha; simp only [List.mem_singleton] at ha; subst ha; rfl
    · intro a ha; simp only [List.mem_singleton] at ha; subst ha; rfl

/-- the server stream of the example: C01's items, then Close 1000 `ok` -/
def exStream : Bytes := wireBytes (C01.exItems.flatMap Item.wire) ++ C01.exClose.wire.bytes

/-- `client_close_end_to_end` applies: C01's example stream (a fragmented Text with a Ping and a Pong
    between its fragments, a Pong, a 126-byte Binary, then Close 1000 `ok`), one byte per read -/
example : ∃ l0 A key B,
    (runAll C01E2E.exCfg exReact (reads ((C01E2E.exReply ++ exStream).map (fun b => [b])) ++ [])).trace =
      B ++ .res .ok :: .wr (closeFrame (buildClosePayload (some 1000) [98, 121, 101]) key) ::
        (A ++ Tstart C01E2E.exCfg l0) ∧
    PhaseA true A ∧ PhaseB B :=
  by
    obtain ⟨l0, A, key, B, h1, _, h3, _, h5, _, _, _⟩ :=
      client_close_end_to_end C01E2E.exCfg exReact false none 5 (some 1000) (.bytes [98, 121, 101]) [98, 121, 101]
        rfl (fun _ => rfl) (by decide) (by decide) rfl ⟨(fun c h => by cases h; decide), (by decide)⟩ exApp
        C01E2E.exReply C01E2E.exGoodReply C01.exItems C01.ex_conforming.1 C01.exClose
        (C01.ex_conforming.2 _ rfl) (by decide +kernel) _ (bytewise_ne _) (bytewise_flatten _) []
    exact ⟨l0, A, key, B, h1, h3, h5⟩

/-- the same connection (three reads) evaluated directly: the Pong for the Ping, the Ping event,
    `hi`, **the Close frame `88 85 key 03 E8 'bye'`**; from then on every call is refused
    (`wsClosing`), the later Pong / Text / Pong / Binary are still delivered, no Pong goes out for
    anything; the server's Close gives `Closed(1000, 'ok')`, then the graceful end -/
example : (runAll C01E2E.exCfg exReact (reads [(C01E2E.exReply ++ exStream).take 127,
      ((C01E2E.exReply ++ exStream).drop 127).take 9, (C01E2E.exReply ++ exStream).drop 136])).trace.reverse =
    [.ev .connecting, .res .wsUnavailable, .wr (Http.lit "GET / HTTP/1.1\r\n\r\n"), .ev (.connected false),
     .wr [137, 129, 0, 0, 0, 0, 9], .res .ok, .ev (.ready none false), .wr [137, 129, 0, 0, 0, 0, 9], .res .ok,
     .ev .poll, .wr [137, 129, 0, 0, 0, 0, 9], .res .ok,
     .wr [138, 130, 0, 0, 0, 0, 1, 2], .ev (.ping [1, 2]),
     .wr [129, 130, 0, 0, 0, 0, 104, 105], .res .ok,
     .wr [136, 133, 0, 0, 0, 0, 3, 232, 98, 121, 101], .res .ok, .res .wsClosing,
     .ev (.pong []), .res .wsClosing, .ev (.text [0x20AC, 0x61]), .res .wsClosing,
     .ev (.pong [7]), .res .wsClosing, .ev (.binary (List.replicate 126 255)), .res .wsClosing,
     .ev (.closed (some 1000) [111, 107]), .res .wsClosing, .sockClose,
     .ev (.disconnected "closed" true), .res .wsUnavailable, .selClose] := by
  rw [C01E2E.exReply, Http.lit_ofList, C01E2E.exCfg, Http.ofString_ofList, Http.lit_ofList]
  decide +kernel

/-- closes at `Connected` (`close()` with the defaults of the library: 1000, `b'goodbye'`) and
    never does anything else -/
def exReactEarly : React := fun h =>
  if h.length = 2 then [.close (some 1000) (.bytes [103, 111, 111, 100, 98, 121, 101])] else []

/-- the application closing at `Connected` is of the class of `close_at_connected_end_to_end` -/
theorem exAppEarly : AppK (some 2) (some 1000) (.bytes [103, 111, 111, 100, 98, 121, 101]) exReactEarly := by
  constructor
  · intro h hk a ha
    have : h.length ≠ 2 := fun e => hk (by rw [e])
    simp [exReactEarly, this] at ha
  · intro h hk
    have : h.length = 2 := (Option.some.inj hk).symm
    exact ⟨[], [], by simp [exReactEarly, this], sendActs_nil, sendActs_nil⟩

/-- this application makes no call before its `close()`: with `client_close_end_to_end` everything
    between the upgrade request and the Close frame is `PongsOnly` — here (the server has not
    spoken yet) just the `Connected` event -/
example : ∃ l0 A key B,
    (runAll C01E2E.exCfg exReactEarly (reads ((C01E2E.exReply ++ exStream).map (fun b => [b])) ++ [])).trace =
      B ++ .res .ok :: .wr (closeFrame (buildClosePayload (some 1000) [103, 111, 111, 100, 98, 121, 101]) key) ::
        (A ++ Tstart C01E2E.exCfg l0) ∧
    PongsOnly true A ∧ PhaseB B :=
  by
    obtain ⟨l0, A, key, B, h1, _, _, _, h5, h6, _, _⟩ :=
      client_close_end_to_end C01E2E.exCfg exReactEarly false none 2 (some 1000)
        (.bytes [103, 111, 111, 100, 98, 121, 101]) [103, 111, 111, 100, 98, 121, 101]
        rfl (fun _ => rfl) (by decide) (by decide) rfl ⟨(fun c h => by cases h; decide), (by decide)⟩ exAppEarly
        C01E2E.exReply C01E2E.exGoodReply C01.exItems C01.ex_conforming.1 C01.exClose
        (C01.ex_conforming.2 _ rfl) (by decide +kernel) _ (bytewise_ne _) (bytewise_flatten _) []
    refine ⟨l0, A, key, B, h1, h6 ?_ ?_, h5⟩
    · intro h _ hl
      have : h.length ≠ 2 := by omega
      simp [exReactEarly, this]
    · intro h _ hl
      exact ⟨.close (some 1000) (.bytes [103, 111, 111, 100, 98, 121, 101]), [], by simp [exReactEarly, hl], rfl⟩

/-- `close_at_connected_end_to_end` applies (any reads; here one read) -/
example : ∃ l0 A key B,
    (runAll C01E2E.exCfg exReactEarly (reads [C01E2E.exReply ++ exStream] ++ [])).trace =
      B ++ .res .ok :: .wr (closeFrame (buildClosePayload (some 1000) [103, 111, 111, 100, 98, 121, 101]) key) ::
        (A ++ Tstart C01E2E.exCfg l0) ∧
    Monitor.histOf A = [.connected false] ∧ PhaseB B :=
  by
    obtain ⟨l0, A, key, B, h1, _, _, h4, h5, _, _⟩ :=
      close_at_connected_end_to_end C01E2E.exCfg exReactEarly false none (some 1000)
        (.bytes [103, 111, 111, 100, 98, 121, 101]) [103, 111, 111, 100, 98, 121, 101]
        rfl (fun _ => rfl) (by decide) rfl ⟨(fun c h => by cases h; decide), (by decide)⟩ exAppEarly
        C01E2E.exReply C01E2E.exGoodReply C01.exItems C01.ex_conforming.1 C01.exClose
        (C01.ex_conforming.2 _ rfl) [C01E2E.exReply ++ exStream]
        (by rw [C01E2E.exReply, Http.lit_ofList]; decide +kernel) (by simp [exStream]) []
    exact ⟨l0, A, key, B, h1, h4, h5⟩

/-- … evaluated directly: the Close frame is the second thing on the wire, the handshake still
    completes, everything is delivered, nothing else is ever written -/
example : (runAll C01E2E.exCfg exReactEarly (reads [C01E2E.exReply ++ exStream])).trace.reverse =
    [.ev .connecting, .wr (Http.lit "GET / HTTP/1.1\r\n\r\n"), .ev (.connected false),
     .wr [136, 137, 0, 0, 0, 0, 3, 232, 103, 111, 111, 100, 98, 121, 101], .res .ok,
     .ev (.ready none false), .ev .poll, .ev (.ping [1, 2]), .ev (.pong []), .ev (.text [0x20AC, 0x61]),
     .ev (.pong [7]), .ev (.binary (List.replicate 126 255)), .ev (.closed (some 1000) [111, 107]),
     .sockClose, .ev (.disconnected "closed" true), .selClose] := by
  rw [C01E2E.exReply, Http.lit_ofList, C01E2E.exCfg, Http.ofString_ofList, Http.lit_ofList]
  decide +kernel

/-- answers the `Closing` event with a Binary message and is silent otherwise -/
def exReactServer : React := fun h =>
  match h with
  | .closing _ _ :: _ => [.sendBinary (.bytes [7]) false]
  | _ => []

/-- the application answering `Closing` with a Binary message only sends -/
theorem exServerSendOnly : SendOnly exReactServer := by
  intro h a ha
  unfold exReactServer at ha
  split at ha
  · simp only [List.mem_singleton] at ha; subst ha; rfl
  · cases ha

/-- `server_close_end_to_end` applies, one byte per read; the application makes no call before
    `Closing`, so up to there the wire carries the request and the Pongs only (`PongsOnly`) -/
example : ∃ l0 A l key post,
    (runAll C01E2E.exCfg exReactServer
        (reads ((C01E2E.exReply ++ exStream).map (fun b => [b])) ++ (.wait 0 (some .eof) :: []))).trace =
      post ++ .wr (closeFrame C01.exClose.payload key) :: (l ++ (A ++ Tstart C01E2E.exCfg l0)) ∧
    PongsOnly true A ∧ Monitor.histOf l = [.closing C01.exClose.code C01.exClose.reason] ∧ PhaseB post :=
  by
    obtain ⟨l0, A, l, key, post, h1, _, _, _, h4, h5, _, h7, _, _, _⟩ :=
      server_close_end_to_end C01E2E.exCfg exReactServer false none rfl (fun _ => rfl) (by decide)
        exServerSendOnly C01E2E.exReply C01E2E.exGoodReply C01.exItems C01.ex_conforming.1 C01.exClose
        (C01.ex_conforming.2 _ rfl) _ (bytewise_ne _) (bytewise_flatten _) []
    refine ⟨l0, A, l, key, post, h1, h4 ?_, h5, h7⟩
    intro h hs
    have hall : ∀ e ∈ (allEvents false none C01.exItems (.closing C01.exClose.code C01.exClose.reason)).tail,
        (match e with | .closing _ _ => true | _ => false) = false := by decide +kernel
    unfold exReactServer
    split
    · rename_i a b t
      have := hall _ (hs.subset List.mem_cons_self)
      simp at this
    · rfl

/-- … evaluated directly (one read): one Pong for the one Ping, `Closing(1000, 'ok')`, the
    application's Binary (written), then the echo `88 84 key 03 E8 'ok'` and nothing after it -/
example : (runAll C01E2E.exCfg exReactServer
      (reads [C01E2E.exReply ++ exStream] ++ [.wait 0 (some .eof)])).trace.reverse =
    [.ev .connecting, .wr (Http.lit "GET / HTTP/1.1\r\n\r\n"), .ev (.connected false),
     .ev (.ready none false), .ev .poll, .wr [138, 130, 0, 0, 0, 0, 1, 2], .ev (.ping [1, 2]), .ev (.pong []),
     .ev (.text [0x20AC, 0x61]), .ev (.pong [7]), .ev (.binary (List.replicate 126 255)),
     .ev (.closing (some 1000) [111, 107]), .wr [130, 129, 0, 0, 0, 0, 7], .res .ok,
     .wr [136, 132, 0, 0, 0, 0, 3, 232, 111, 107], .sockClose, .ev (.disconnected "closed" true), .selClose] := by
  rw [C01E2E.exReply, Http.lit_ofList, C01E2E.exCfg, Http.ofString_ofList, Http.lit_ofList]
  decide +kernel

end Lomond.C08E2E
