/-
  C05 — Text is delivered iff it is strictly valid UTF-8 (validator level).
  Property theorems only; helper lemmas live in `Proofs/Utf8`.
  All statements are over the DFA table *generated from the source*.
-/
import Lomond.Proofs.Utf8
import Lomond.Proofs.TextMsg

namespace Lomond.C05
open Lomond Lomond.Utf8

/-- The shipped DFA (generated table), started in ACCEPT, ends in ACCEPT exactly on the
    byte strings that are well-formed UTF-8 per RFC 3629. -/
theorem dfa_iff_wf (bs : Bytes) (hb : Bytes.WF bs) : run 0 bs = 0 ↔ wf bs = true := by
  rw [run_eq_srun 0 bs (by decide) hb]; exact srun_zero_iff_wf bs

/-- Fail-fast is exact: the DFA is in REJECT after `bs` iff *no* continuation of `bs`
    is well-formed; i.e. the validator rejects at the first byte that makes the
    message unsalvageable, and never earlier. -/
theorem reject_iff_no_extension (bs : Bytes) (hb : Bytes.WF bs) :
    run 0 bs = 1 ↔ ∀ ext, wf (bs ++ ext) = false := by
  refine Iff.trans ?_ (Core.validate_none_iff [] bs 0 rfl hb)
  rw [run_eq_srun 0 bs (by decide) hb, validate_eq_run 0 bs (by decide) (by decide) hb]
  by_cases h : srun 0 bs = 1 <;> simp [h]

/-- `Utf8Validator.validate` fed chunk by chunk (state threaded, early exit) gives the
    verdict of one call on the concatenation: the verdict is independent of how a
    message is split across frames and reads. -/
theorem validate_chunks (s : Nat) (chunks : List Bytes) :
    chunks.foldl (fun st c => st.bind (fun s' => validate s' c)) (some s) = validate s chunks.flatten := by
  induction chunks generalizing s with
  | nil => simp [validate]
  | cons c r ih =>
    simp only [List.foldl_cons, List.flatten_cons, validate_append, Option.bind_some]
    cases h : validate s c with
    | some s' => simpa using ih s'
    | none =>
      simp only [Option.bind_none]
      clear ih h
      induction r with
      | nil => rfl
      | cons _ _ ih' => simpa using ih'

/-- `validate` says "invalid" exactly when the bytes so far admit no well-formed extension;
    otherwise it leaves the DFA state of the plain run. -/
theorem validate_verdict (bs : Bytes) (hb : Bytes.WF bs) :
    validate 0 bs = none ↔ ∀ ext, wf (bs ++ ext) = false :=
  Core.validate_none_iff [] bs 0 rfl hb

/-- The strict decoder is defined exactly on well-formed input. -/
theorem decode_defined_iff_wf (bs : Bytes) : (decode bs).isSome = wf bs := decode_isSome bs

/-- Decoding is exact: it inverts the shortest-form encoder on every scalar sequence … -/
theorem decode_encode (cs : List Nat) (h : ∀ c ∈ cs, isScalar c = true) :
    decode (encode cs) = some cs := Utf8.decode_encode cs h

/-- … and whatever it returns re-encodes to the very bytes received and consists of scalar
    values only (no surrogates, nothing above U+10FFFF, no overlong forms). -/
theorem encode_decode (bs : Bytes) (cs : List Nat) (h : decode bs = some cs) :
    encode cs = bs ∧ ∀ c ∈ cs, isScalar c = true := Utf8.encode_decode bs cs h

example : wf [0xE2, 0x82, 0xAC, 0x41, 0xF0, 0x9F, 0x98, 0x80] = true := by decide
example : run 0 [0xE2, 0x82] ≠ 1 ∧ run 0 [0xE2, 0x82] ≠ 0 := by decide +kernel
example : run 0 [0x61, 0xED, 0xA0] = 1 := by decide +kernel      -- surrogate: rejected at the 2nd byte
example : run 0 [0xC0] = 1 ∧ run 0 [0xF4, 0x90] = 1 ∧ run 0 [0xE0, 0x9F] = 1 := by decide +kernel
example : decode [0xE2, 0x82, 0xAC] = some [0x20AC] := by decide
example : validate 0 [0xE2] = some 3 ∧ validate 3 [0x82, 0xAC] = some 0 := by decide +kernel


open Lomond.Core

/-- **Verdict.**  A complete text payload (all fragments joined, inflated if compressed) becomes a
    Text message iff it is well-formed UTF-8, and then the text is its exact decoding; otherwise
    the result is the critical error (→ one ProtocolError event, no Text). -/
theorem text_message_iff_wf (payload : Bytes) :
    (∀ cps, msgOfPayload Gen.opText payload = .ok (.text cps) ↔ Utf8.decode payload = some cps) ∧
    (msgOfPayload Gen.opText payload = .error (.critical "payload contains invalid utf-8") ↔
      Utf8.wf payload = false) :=
  msgOfPayload_text payload

/-- **Fail-fast.**  With `pre` the text bytes of the current message already accepted, a bite of
    a payload read with incremental validation is rejected at once iff `pre ++ chunk` admits no
    well-formed continuation (the first offending byte has arrived); otherwise it passes. -/
theorem failfast (v : Variant) (p : PState) (pre chunk : Bytes) (hu : p.utf8 = true)
    (hpre : Utf8.validate 0 pre = some p.dfa) (hw : Bytes.WF (pre ++ chunk)) :
    ((∀ ext, Utf8.wf (pre ++ chunk ++ ext) = false) →
        biteBytes v p chunk = .error (.parse "invalid utf8")) ∧
    ((∃ ext, Utf8.wf (pre ++ chunk ++ ext) = true) → ∃ d, vres p.utf8 p.dfa chunk = some d) :=
  failfast_bite v p pre chunk hu hpre hw

/-- An uncompressed text frame is read with incremental validation also when
    permessage-deflate was negotiated (the pinned commit did not: finding D9). -/
theorem uncompressed_text_is_validated (v : Variant) (hv : v.perMsgValidate = true) (p : PState)
    (b0 len : Nat) (key : Option Bytes) (r : PState × Option Out)
    (hop : b0 % 16 = Gen.opText) (hrsv : b0 / 64 % 2 = 0) (hlen : len ≠ 0)
    (h : gotMask v p b0 len key = .ok r) :
    r.1.utf8 = true ∧ r.1.isText = true ∧ r.1.isCompressed = false :=
  text_frame_is_validated v hv p b0 len key r hop hrsv hlen h

/-- D9 in the pinned commit (`perMsgValidate = false`): with the extension negotiated an
    RSV1 = 0 text frame is read without validation. -/
theorem present_variant_no_failfast_when_negotiated :
    ∃ r, gotMask { perMsgValidate := false } { cont := .hdr2, remPred := 1, compression := true } 0x81 3 none = .ok r ∧
      r.1.utf8 = false := by
  refine ⟨_, rfl, ?_⟩; decide

/-- D2 in the pinned commit (`keepIsText = false`): a Ping between two fragments of a text
    message clears the text flag, so the next continuation frame is read without validation;
    with the repair the flag survives. -/
theorem present_variant_ping_clears_text_state :
    (∃ r, frameDone { keepIsText := false } { cont := .hdr2, isText := true } { opcode := 9 } = .ok r ∧ r.1.isText = false) ∧
    (∃ r, frameDone { keepIsText := true } { cont := .hdr2, isText := true } { opcode := 9 } = .ok r ∧ r.1.isText = true) := by
  refine ⟨⟨_, rfl, ?_⟩, ⟨_, rfl, ?_⟩⟩ <;> decide

example : msgOfPayload Gen.opText [0xE2, 0x82, 0xAC] = .ok (.text [0x20AC]) := by rfl

end Lomond.C05
