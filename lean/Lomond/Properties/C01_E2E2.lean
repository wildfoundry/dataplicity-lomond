/-
  C01, end to end, generalised (companion of C01; helper lemmas: Proofs/Consumer, Delivery,
  DeliveryGenParse, DeliveryGen, DeliveryTimed, DeliveryTimedRun, DeliveryZ, ClosingRun).

  `C01E2E.connection_delivers` needs all reads at `wait 0`, no extension and an application that
  never closes.  Here:

  1. **Time** (`connection_delivers_any_timing`).  The environment is a *timed script*
     `timedEnv l ws dtE`: `l` is any list of loop cycles, each waiting `dt` ticks and then either
     reading nothing (`(dt, none)`) or reading a non-empty chunk (`(dt, some c)`), ending with a
     read; then idle cycles `ws`; then the end of the stream after `dtE` ticks.  The bytes of `l`
     are `reply ++ streamBytes items close` — **every segmentation** (cuts inside the HTTP reply,
     between reply and first frame, inside headers / extended lengths / UTF-8 characters) **and
     every timing** (waits before, between and "inside" the reads, idle cycles anywhere, before
     Ready too).  The application is any function of the event history that only sends; the ping
     rate is arbitrary (automatic Pings are writes, not events); `ping_timeout` is off; the close
     timer only matters after the server's Close has been echoed: `close_timeout` is off, or there
     is no Close, or the time between the last read and the end of the stream is shorter.  Then the
     events handed to the application, Polls apart (their number depends on the timing), are
     exactly `Connecting, Connected, Ready`, `C01.expected items close`, the terminal event.
  2. **permessage-deflate** (`connection_delivers_compressed`, `connection_delivers_peer_compressed`,
     `delivery_compressed`).  The reply grants an extension configuration `d`; items are `GItem`s:
     control frames and data messages, a data message being either plain or *compressed* (RSV1 on
     its first frame, any fragmentation — the cuts are cuts of the compressed bytes —, control
     frames between the fragments).  The inflater is a parameter (`cfg.inflate`); the hypothesis is
     C06's: the joined compressed payloads, handed to it one after the other through the
     negotiated context (`zOuts`, = C06's `feedMsgs`), give the `plain`s — e.g. because the peer is
     any compressor honouring the window and `inflate` reads its encoding (`Agrees`, as in
     `C06.core_lossless_peer_to_client`).  Then each compressed message is delivered once, in
     order, **with the plaintext as payload** (Text decoded), for every segmentation and timing.
  3. **Applications that close** (`delivery_closing_app`, `delivery_closing_app_closed`,
     `connection_delivers_closing_app`): for the class `CR.AppK` (send-only, except one
     `close(code, reason)` at the K-th event) every item is delivered, those arriving after the
     application's `close()` included, up to the server's Close, which is reported as `Closed`.
     (Frozen clock and no write faults, as in `C08E2E`.)
-/
import Lomond.Proofs.DeliveryZ
import Lomond.Proofs.StrLit
import Lomond.Properties.C01_E2E
import Lomond.Properties.C06
import Lomond.Properties.C08_E2E

namespace Lomond.C01E2E2
open Lomond Lomond.Core Lomond.Core.E2E Lomond.Core.DG

/-- the events handed to the application, oldest first, housekeeping Polls left out -/
def deliveredEvents (tr : List Obs) : List Event := (delivered tr).reverse

/-- a timed environment script: the cycles `l` (wait `dt`, then nothing or a read), the idle
    cycles `ws`, then the end of the stream after `dtE` ticks -/
def timedEnv (l : List TStep) (ws : List Nat) (dtE : Nat) : List EnvStep :=
  tscript l ++ (idles ws ++ [.wait dtE (some .eof)])

/-- C01's uncompressed items are a special case of the general items: same bytes -/
theorem gstream_ofItems (items : List Item) (close : Option CloseF) :
    gstream (items.map GItem.ofItem) close = C01.streamBytes items close := by
  unfold gstream C01.streamBytes
  rw [ofItems_bytes]
  cases close <;> rfl

/-- … same expected events -/
theorem gexpected_ofItems (items : List Item) (close : Option CloseF) :
    gexpected (items.map GItem.ofItem) close = C01.expected items close := by
  unfold gexpected C01.expected
  rw [ofItems_events]
  cases close <;> rfl

/-- … same terminal event -/
theorem terminal_eq (close : Option CloseF) : DG.terminal close = C01E2E.terminal close := by
  cases close <;> rfl

/-- **A whole connection delivers exactly what the server sent — for every segmentation and every
    timing.**  `l`: any cycles of the session loop — each waits `dt` ticks (any `dt`), then reads
    nothing or a non-empty chunk — ending with a read, whose bytes are the accepted upgrade reply
    followed by any conforming stream (`C01.Conforming`: any fragmentation, empty fragments,
    Ping/Pong between fragments, any legal length form, an optional final Close); then idle
    cycles `ws` and the end of the stream after `dtE`.  Application: only sends (anything, at any
    event, Polls included); any ping rate; `ping_timeout` off; `close_timeout` off, or no Close in
    the stream, or longer than the time from the last read to the end of the stream.  The events
    of the run other than Polls are, in this order and with nothing else: `Connecting`,
    `Connected`, `Ready`, every Ping/Pong/data message once, in completion order, payloads
    byte-exact, `Closing` for the server's Close, then the terminal `Disconnected`. -/
theorem connection_delivers_any_timing (cfg : Cfg) (react : React) (proxy : Bool) (proto : Option Http.Str)
    (hs : Setup cfg react proxy) (hpt : cfg.pingTimeout = 0)
    (reply : Bytes) (hreply : GoodReply cfg reply proto)
    (items : List Item) (close : Option CloseF) (hconf : C01.Conforming items close)
    (l : List TStep) (hne : TNonEmpty l) (hend : EndsRead l)
    (hbytes : tbytes l = reply ++ C01.streamBytes items close)
    (ws : List Nat) (dtE : Nat)
    (hct : cfg.closeTimeout = 0 ∨ close = none ∨ ws.sum + dtE < cfg.closeTimeout) :
    deliveredEvents (runAll cfg react (timedEnv l ws dtE)).trace =
      [.connecting, .connected proxy, .ready proto false] ++ C01.expected items close ++
        [C01E2E.terminal close] := by
  have := run_timed cfg react proxy proto none hs hpt reply (DG.GoodReply.toD hreply) (items.map GItem.ofItem) ⟨[], 0⟩
    (ofItems_itemsAt _ items hconf.1 _) (fun g hg hz => nomatch (ofItems_zf items g hg).symm.trans hz) close hconf.2 l hne hend
    (by rw [gstream_ofItems]; exact hbytes) ws dtE hct
  rw [gexpected_ofItems, terminal_eq] at this
  exact this

/-- the setting of `C01E2E.connection_delivers` (reads at `wait 0`, then `wait dt` and the end of
    the stream) is the instance `l = chunks.map (0, some ·)`, `ws = []` -/
theorem reads_are_timed (chunks : List Bytes) (dt : Nat) :
    reads chunks ++ [.wait dt (some .eof)] = timedEnv (chunks.map (fun c => (0, some c))) [] dt := by
  unfold timedEnv reads tscript idles
  simp [List.map_map, Function.comp_def, tstep]

/-- **`connection_delivers_any_timing` with permessage-deflate: every compressed message is
    delivered with its plaintext.**
    The reply grants the configuration `d`.  `items`: control frames, plain data messages and
    compressed data messages (RSV1 on the first frame; the fragments cut the *compressed* bytes;
    control frames between them), statically well-formed (`GItem.Static`: lengths fit, control
    payloads ≤ 125, a plain message stands for its payload, Text content is UTF-8).  `hinfl`: the
    configuration's inflater, run over the joined compressed payloads in order through the
    negotiated context (C06's `feedMsgs`), yields the `plain`s.  Every segmentation, every timing,
    as in `connection_delivers_any_timing`. -/
theorem connection_delivers_compressed (cfg : Cfg) (react : React) (proxy : Bool) (proto : Option Http.Str)
    (d : Http.DeflateCfg) (hs : Setup cfg react proxy) (hpt : cfg.pingTimeout = 0)
    (reply : Bytes) (hreply : GoodReplyD cfg reply proto (some d))
    (items : List GItem) (hst : ∀ it ∈ items, it.Static) (icE : ICtx)
    (hinfl : zOuts ⟨cfg.inflate, some d⟩ ⟨[], 0⟩ (items.filterMap GItem.zpay) = some (items.filterMap GItem.zplain, icE))
    (close : Option CloseF) (hcl : ∀ c, close = some c → c.Ok)
    (l : List TStep) (hne : TNonEmpty l) (hend : EndsRead l)
    (hbytes : tbytes l = reply ++ gstream items close)
    (ws : List Nat) (dtE : Nat)
    (hct : cfg.closeTimeout = 0 ∨ close = none ∨ ws.sum + dtE < cfg.closeTimeout) :
    deliveredEvents (runAll cfg react (timedEnv l ws dtE)).trace =
      [.connecting, .connected proxy, .ready proto true] ++ gexpected items close ++ [DG.terminal close] :=
  run_timed cfg react proxy proto (some d) hs hpt reply hreply items icE
    (itemsAt_of_zOuts ⟨cfg.inflate, some d⟩ rfl items hst _ _ hinfl) (fun _ _ _ => rfl) close hcl l hne hend hbytes
    ws dtE hct

/-- the inflater hypothesis from C06's: the compressed messages of the stream are what **any peer
    compressor** honouring `server_max_window_bits` produces for the plaintexts `msgs` (context
    kept or reset as negotiated), each message one non-final block, under any byte encoding `enc`
    that `cfg.inflate` reads correctly (`Agrees`) -/
theorem inflate_of_peer (cfg : Cfg) (d : Http.DeflateCfg) (enc : List Deflate.Blk → Bytes)
    (c : Deflate.Compressor (2 ^ d.decompressWbits)) (peerResets : Bool)
    (hk : peerResets = false → d.resetDecompress = false) (msgs : List Bytes)
    (hA : let blocks := (Deflate.senderTokens c peerResets [] msgs).map Deflate.oneBlock
          if d.resetDecompress then ∀ m ∈ blocks, Agrees cfg.inflate d.decompressWbits enc [m]
          else ∀ k, k ≤ blocks.length → Agrees cfg.inflate d.decompressWbits enc (blocks.take k)) :
    ∃ icE, zOuts ⟨cfg.inflate, some d⟩ ⟨[], 0⟩ (((Deflate.senderTokens c peerResets [] msgs).map Deflate.oneBlock).map enc)
      = some (msgs, icE) := by
  let s : Sys := { cfg := cfg, react := fun _ => [], env := [], compression := some d, decompress := true }
  have h := C06.core_lossless_peer_to_client enc d c peerResets hk msgs s rfl rfl rfl hA
  rw [feedMsgs_zOuts ⟨cfg.inflate, some d⟩ _ s ⟨rfl, rfl, rfl⟩] at h
  obtain ⟨⟨_, ic⟩, hz, rfl⟩ := Option.map_eq_some_iff.mp h
  exact ⟨ic, hz⟩

/-- **C06 end to end: every message an RFC 7692 peer compresses is delivered with its original
    content** — any fragmentation of the compressed data, mixed with uncompressed messages and
    control frames, any segmentation of the byte stream into reads, any timing.  `msgs` are the
    plaintexts of the compressed messages of `items`, in order; their compressed payloads are what
    the peer's compressor `c` (any compressor whose matches stay within the negotiated window)
    emits for them; `cfg.inflate` agrees with the token semantics on these histories. -/
theorem connection_delivers_peer_compressed (cfg : Cfg) (react : React) (proxy : Bool) (proto : Option Http.Str)
    (d : Http.DeflateCfg) (hs : Setup cfg react proxy) (hpt : cfg.pingTimeout = 0)
    (reply : Bytes) (hreply : GoodReplyD cfg reply proto (some d))
    (enc : List Deflate.Blk → Bytes) (c : Deflate.Compressor (2 ^ d.decompressWbits)) (peerResets : Bool)
    (hk : peerResets = false → d.resetDecompress = false) (msgs : List Bytes)
    (hA : let blocks := (Deflate.senderTokens c peerResets [] msgs).map Deflate.oneBlock
          if d.resetDecompress then ∀ m ∈ blocks, Agrees cfg.inflate d.decompressWbits enc [m]
          else ∀ k, k ≤ blocks.length → Agrees cfg.inflate d.decompressWbits enc (blocks.take k))
    (items : List GItem) (hst : ∀ it ∈ items, it.Static)
    (hpay : items.filterMap GItem.zpay = ((Deflate.senderTokens c peerResets [] msgs).map Deflate.oneBlock).map enc)
    (hplain : items.filterMap GItem.zplain = msgs)
    (close : Option CloseF) (hcl : ∀ c, close = some c → c.Ok)
    (l : List TStep) (hne : TNonEmpty l) (hend : EndsRead l)
    (hbytes : tbytes l = reply ++ gstream items close)
    (ws : List Nat) (dtE : Nat)
    (hct : cfg.closeTimeout = 0 ∨ close = none ∨ ws.sum + dtE < cfg.closeTimeout) :
    deliveredEvents (runAll cfg react (timedEnv l ws dtE)).trace =
      [.connecting, .connected proxy, .ready proto true] ++ gexpected items close ++ [DG.terminal close] := by
  obtain ⟨icE, hz⟩ := inflate_of_peer cfg d enc c peerResets hk msgs hA
  exact connection_delivers_compressed cfg react proxy proto d hs hpt reply hreply items hst icE
    (by rw [hpay, hplain]; exact hz) close hcl l hne hend hbytes ws dtE hct

/-- **Delivery with compressed messages, `WebSocket.feed` level** (C01's `delivery` for a
    negotiated extension): one read carrying any items and an optional Close, from a state between
    two messages of an open websocket; send-only application, no ping timeout, close timer not
    armed; the compressed messages inflate, through the inflate context of the state, to their
    `plain`s (`ItemsAt`).  Exactly `gexpected items cl` is delivered, compressed messages with the
    inflated payload; the fragment list is empty, the inflate context is `ic'`. -/
theorem delivery_compressed (z : ZP) (items : List GItem) (ic' : ICtx) (cl : Option CloseF)
    (hcl : ∀ c, cl = some c → c.Ok) (s : Sys) (g : TG s) (hz : ZOk z s) (hcg : s.closing = false)
    (hfr : s.frames = []) (hb : Between s.p) (hpc : s.p.compression = z.dc.isSome)
    (hit : ItemsAt z ⟨s.inflHist, s.inflOut⟩ items ic')
    (hzz : ∀ g, GItem.msg g ∈ items → g.zf = true → z.dc.isSome = true) :
    ∃ s', feedLoop (gstream items cl) s = .ok true s' ∧
      delivered s'.trace = (gexpected items cl).reverse ++ delivered s.trace ∧
      s'.frames = [] ∧ s'.closed = false ∧ s'.closing = cl.isSome ∧ Between s'.p ∧
      (⟨s'.inflHist, s'.inflOut⟩ : ICtx) = ic' := by
  have hnh : s.p.cont ≠ .header := hb.b.notHeader
  obtain ⟨p1, hp1, hb1, _⟩ := parses_gitems s.cfg.v z.dc.isSome items s.p hb hpc (hit.wireOk hzz)
  have he := tg_eat_items z items ⟨s.inflHist, s.inflOut⟩ ic' hit
  obtain ⟨s1, h1, r1, g1, v1, p1'⟩ := feed_frames (eater_tg z) s ⟨g, hz⟩ hnh hp1 (by unfold view; rw [hfr]; exact he)
  have hcg1 : s1.closing = false := r1.fix.closing.trans hcg
  unfold gstream
  rw [feedLoop_append, h1]
  simp only [contLoop]
  cases cl with
  | none =>
    refine ⟨s1, feedLoop_nil _, ?_, congrArg View.frames v1, g1.1.closed, hcg1, by rw [p1']; exact hb1,
      congrArg View.ic v1⟩
    rw [r1.evs]; simp [gexpected, closeEvents]
  | some c =>
    obtain ⟨s2, e2, d2, cl2, cg2, v2, b2⟩ := feed_close c (hcl c rfl) s1 g1.1.good g1.1.closed hcg1
      (by rw [p1']; exact hb1)
    refine ⟨s2, e2, ?_, congrArg View.frames (v2.trans v1), cl2, cg2, b2, congrArg View.ic (v2.trans v1)⟩
    rw [d2, r1.evs]; simp [gexpected, closeEvents]

/-- the payload of the event of a compressed Binary message is the plaintext, of a compressed Text
    message the code points of the plaintext (whose UTF-8 encoding is the plaintext) -/
theorem compressed_event_exact (g : GMsg) (hs : g.Static) :
    (g.m.text = false → g.event = .binary g.plain) ∧
    (g.m.text = true → ∃ cps, g.event = .text cps ∧ Utf8.encode cps = g.plain ∧
      ∀ c ∈ cps, Utf8.isScalar c = true) := by
  refine ⟨fun ht => by simp [GMsg.event, ht], fun ht => ?_⟩
  obtain ⟨_, hutf⟩ := hs.2.2.2 ht
  obtain ⟨cps, hcps⟩ := Utf8.decode_of_wf hutf
  obtain ⟨he, hsc⟩ := Utf8.encode_decode g.plain cps hcps
  exact ⟨cps, by simp [GMsg.event, ht, hcps], he, hsc⟩

open Lomond.Core.CR in
/-- **Delivery with an application that calls `close()`** (class `CR.AppK`: send-only, except
    that its reaction to the K-th event contains one `close(code, reason)`; invariant `CR.G`: frozen
    clock, the trace is `PhaseA`, or `PhaseA ++ Close frame ++ PhaseB` once it has closed).  From
    a state between two messages, whether the application has closed already, closes while these
    items arrive (at any of their events, also a Ping between two fragments) or later: every item
    is delivered once, in order — the events appended are exactly `C01.expected items none`, no
    Poll among them —, the websocket is not closed, and it stays closing once it is. -/
theorem delivery_closing_app (kc : Option Nat) (code : Option Nat) (reason : Arg) (rb : Bytes) (cfg : Cfg)
    (T0 : List Obs) (hp : Par kc code reason rb cfg) (items : List Item) (hok : ∀ it ∈ items, it.Ok)
    (s : Sys) (g : G kc code reason rb cfg T0 s) (hcl : s.closed = false) (hfr : s.frames = [])
    (hb : Between s.p) :
    ∃ s', feedLoop (C01.streamBytes items none) s = .ok true s' ∧
      Monitor.histOf s'.trace = (C01.expected items none).reverse ++ Monitor.histOf s.trace ∧
      s'.frames = [] ∧ s'.closed = false ∧ Between s'.p ∧ G kc code reason rb cfg T0 s' ∧
      (Shut s → Shut s') := by
  obtain ⟨s', h, r, f, b⟩ := feed_items_J hp items hok s g hcl hfr hb
  refine ⟨s', by simpa [C01.streamBytes] using h, by simpa [C01.expected] using r.evs, f,
    by rw [r.closed]; exact hcl, b, r.g, r.shut⟩

open Lomond.Core.CR in
/-- … and when the server's Close arrives after the application's `close()`: all items, then
    `Closed(code', reason')` with the server's code and reason; `WebSocket.feed` stops
    (`.ok false`), the websocket is closed. -/
theorem delivery_closing_app_closed (kc : Option Nat) (code : Option Nat) (reason : Arg) (rb : Bytes) (cfg : Cfg)
    (T0 : List Obs) (hp : Par kc code reason rb cfg) (items : List Item) (hok : ∀ it ∈ items, it.Ok)
    (c : CloseF) (hc : c.Ok)
    (s : Sys) (g : G kc code reason rb cfg T0 s) (hcl : s.closed = false) (hsh : s.closing = true)
    (hfr : s.frames = []) (hb : Between s.p) :
    ∃ s', feedLoop (C01.streamBytes items (some c)) s = .ok false s' ∧
      Monitor.histOf s'.trace =
        .closed c.code c.reason :: ((C01.expected items none).reverse ++ Monitor.histOf s.trace) ∧
      s'.closed = true := by
  obtain ⟨s1, h1, r1, f1, b1⟩ := feed_items_J hp items hok s g hcl hfr hb
  have hcg1 : s1.closing = true := by
    rcases r1.shut (Or.inl hsh) with h | h
    · exact h
    · rw [r1.closed, hcl] at h; cases h
  obtain ⟨s2, h2, cl2, hh2, _⟩ := feed_close_closing hp c hc s1 r1.g (by rw [r1.closed]; exact hcl) hcg1 b1
  refine ⟨s2, ?_, ?_, cl2⟩
  · unfold C01.streamBytes
    rw [feedLoop_append, h1]
    exact h2
  · rw [show Monitor.histOf s2.trace = Event.closed c.code c.reason :: Monitor.histOf s1.trace from hh2,
      show Monitor.histOf s1.trace = _ from r1.evs]
    simp [C01.expected]

open Lomond.Core.CR in
/-- **A whole connection with an application that closes**: it calls `close(code, reason)` in its
    reaction to the event with index `K - 1` (`Connected` or any later event up to the last item
    event) and otherwise only sends.  The events of the run are `Connecting, Connected, Ready, Poll`,
    **every item event — those arriving after the `close()` included —**, then `Closed` with the
    server's code and reason and the graceful `Disconnected`.  (Corollary of
    `C08E2E.client_close_end_to_end`; every segmentation, clock standing still, no write faults.) -/
theorem connection_delivers_closing_app (cfg : Cfg) (react : React) (proxy : Bool) (proto : Option Http.Str)
    (K : Nat) (code : Option Nat) (reason : Arg) (rb : Bytes)
    (hconn : cfg.connect = .ok proxy) (hnf : ∀ k, cfg.writeFails k = false) (hpoll : 0 < cfg.poll)
    (hK2 : 2 ≤ K) (hrb : reasonBytes reason = some rb) (hargs : CloseArgsOk code rb)
    (happ : AppK (some K) code reason react)
    (reply : Bytes) (hreply : GoodReply cfg reply proto)
    (items : List Item) (hok : ∀ it ∈ items, it.Ok) (c : CloseF) (hc : c.Ok)
    (hK : K ≤ 4 + (items.flatMap Item.events).length)
    (chunks : List Bytes) (hne : ∀ x ∈ chunks, x ≠ [])
    (hflat : chunks.flatten = reply ++ C01.streamBytes items (some c))
    (rest : List EnvStep) :
    Monitor.events (runAll cfg react (reads chunks ++ rest)).trace =
      [.connecting, .connected proxy, .ready proto false, .poll] ++ C01.expected items none ++
        [.closed c.code c.reason, .disconnected "closed" true] := by
  obtain ⟨_, _, _, _, _, _, _, _, _, _, h, _⟩ := C08E2E.client_close_end_to_end cfg react proxy proto K code reason rb
    hconn hnf hpoll hK2 hrb hargs happ reply hreply items hok c hc hK chunks hne
    (by simpa [C01.streamBytes] using hflat) rest
  simpa [C01.expected] using h

/-- C01E2E's reply and stream (fragmented Text with Ping/Pong between the fragments, a Pong, a
    126-byte Binary, Close 1000 `ok`): a first read after 3 ticks that ends inside the reply's
    terminator, an idle cycle of 10 ticks, the rest of the reply glued to the first five bytes of
    the first frame, an idle cycle, and after 7 more ticks everything else -/
def exL : List TStep :=
  let all := C01E2E.exReply ++ C01.streamBytes C01.exItems (some C01.exClose)
  [(3, some (all.take 127)), (10, none), (0, some ((all.drop 127).take 7)), (2, none), (7, some (all.drop 134))]

/-- the reads of `exL` are a segmentation of reply ++ stream: they are the reads of `C01E2E.exChunks` -/
theorem exL_bytes : tbytes exL = C01E2E.exReply ++ C01.streamBytes C01.exItems (some C01.exClose) :=
  C01E2E.exChunks_flat

/-- no read of `exL` is empty -/
theorem exL_nonEmpty : TNonEmpty exL := by
  rw [exL, C01E2E.exReply, Http.lit_ofList]
  exact TNonEmpty.of_b (by decide +kernel)

/-- `connection_delivers_any_timing` applies: 22 ticks pass while the stream arrives (several
    Polls fire: `poll = 5`), then two idle cycles and the end of the stream 11 ticks after the
    Close was echoed (`close_timeout = 30`) -/
example : deliveredEvents (runAll C01E2E.exCfg C01E2E.exReact (timedEnv exL [4, 1] 6)).trace =
    [ .connecting, .connected false, .ready none false,
      .ping [1, 2], .pong [], .text [0x20AC, 0x61], .pong [7], .binary (List.replicate 126 255),
      .closing (some 1000) [111, 107], .disconnected "closed" true ] := by
  rw [connection_delivers_any_timing C01E2E.exCfg C01E2E.exReact false none C01E2E.exSetup rfl C01E2E.exReply
    C01E2E.exGoodReply C01.exItems (some C01.exClose) C01.ex_conforming exL exL_nonEmpty
    (EndsRead.of_b (by decide +kernel)) exL_bytes [4, 1] 6 (Or.inr (Or.inr (by decide)))]
  decide +kernel

/-- the same run evaluated directly (kernel reduction of the model), all events: Ready at clock
    13; Polls at session times 0 and 9 (before the last read is fed), 14 and 20 (afterwards) -/
theorem exL_events : Monitor.events (runAll C01E2E.exCfg C01E2E.exReact (timedEnv exL [4, 1] 6)).trace =
    [ .connecting, .connected false, .ready none false, .poll, .poll,
      .ping [1, 2], .pong [], .text [0x20AC, 0x61], .pong [7], .binary (List.replicate 126 255),
      .closing (some 1000) [111, 107], .poll, .poll, .disconnected "closed" true ] := by
  rw [exL, C01E2E.exReply, Http.lit_ofList, C01E2E.exCfg, Http.ofString_ofList, Http.lit_ofList]
  decide +kernel

example : Monitor.events (runAll C01E2E.exCfg C01E2E.exReact (timedEnv exL [4, 1] 6)).trace =
    [ .connecting, .connected false, .ready none false, .poll, .poll,
      .ping [1, 2], .pong [], .text [0x20AC, 0x61], .pong [7], .binary (List.replicate 126 255),
      .closing (some 1000) [111, 107], .poll, .poll, .disconnected "closed" true ] :=
  exL_events

/-- a configuration that offers permessage-deflate and inflates with the executable bit-level
    inflater of Model/Inflate.lean (repaired shape) -/
def zCfg : Cfg := { challenge := [97, 98, 99], inflate := Inflate.inflateAllSafe, request := [71, 69, 84] }

/-- what `C06.bfinalReply` (`Sec-WebSocket-Extensions: permessage-deflate`, no parameters) grants -/
def zD : Http.DeflateCfg := { decompressWbits := 15, compressWbits := 15, resetDecompress := false, resetCompress := false }

/-- the example reply is accepted and grants `zD` (terminator at offset 107, 111 bytes) -/
theorem zGoodReply : GoodReplyD zCfg C06.bfinalReply none (some zD) :=
  ⟨⟨107, by decide +kernel, by decide +kernel⟩, by decide +kernel, by decide +kernel⟩

/-- RFC 7692 §7.2.3.2: "Hello" compressed twice with context takeover (`f2 48 cd c9 c9 07 00`,
    then `f2 00 11 00 00`, which refers back to the first message).  The first one is a Text in two
    fragments cut inside the compressed data with a Ping in between; then a Pong, an uncompressed
    Binary, and the second compressed Text in one frame with a non-minimal 16-bit length. -/
def zItems : List GItem :=
  [ .msg { zf := true, plain := [72, 101, 108, 108, 111],
           m := { text := true, first := { payload := [0xf2, 0x48, 0xcd], form := .short },
                  rest := [([{ pong := false, payload := [1], form := .short }],
                            { payload := [0xc9, 0xc9, 0x07, 0x00], form := .short })] } },
    .ctrl { pong := true, payload := [7], form := .short },
    .msg { zf := false, plain := [1, 2, 3],
           m := { text := false, first := { payload := [1, 2, 3], form := .short }, rest := [] } },
    .msg { zf := true, plain := [72, 101, 108, 108, 111],
           m := { text := true, first := { payload := [0xf2, 0x00, 0x11, 0x00, 0x00], form := .ext16 }, rest := [] } } ]

/-- the example items are well-formed -/
theorem zItems_static : ∀ it ∈ zItems, it.Static := by decide +kernel

/-- the inflater hypothesis holds: both compressed payloads, through one context, give "Hello" -/
theorem zItems_inflate :
    zOuts ⟨zCfg.inflate, some zD⟩ ⟨[], 0⟩ (zItems.filterMap GItem.zpay) =
      some (zItems.filterMap GItem.zplain,
        ⟨[0xf2, 0x48, 0xcd, 0xc9, 0xc9, 0x07, 0, 0, 0, 0xff, 0xff, 0xf2, 0, 0x11, 0, 0, 0, 0, 0xff, 0xff], 10⟩) := by
  decide +kernel

/-- the reply and the first frame header in one read after 2 ticks, then one byte per read with
    waits of 0, 1, 2, 0, 1, 2, … ticks -/
def zL : List TStep :=
  let all := C06.bfinalReply ++ gstream zItems none
  (2, some (all.take 113)) :: ((all.drop 113).zipIdx.map (fun x => (x.2 % 3, some [x.1])))

/-- the reads of `zL` are a segmentation of reply ++ stream -/
theorem zL_bytes : tbytes zL = C06.bfinalReply ++ gstream zItems none := by decide +kernel

/-- `connection_delivers_compressed` applies; both compressed Texts are delivered as "Hello" -/
example : deliveredEvents (runAll zCfg (fun _ => []) (timedEnv zL [] 40)).trace =
    [ .connecting, .connected false, .ready none true,
      .ping [1], .text [72, 101, 108, 108, 111], .pong [7], .binary [1, 2, 3], .text [72, 101, 108, 108, 111],
      .disconnected "connection-lost" false ] := by
  rw [connection_delivers_compressed zCfg (fun _ => []) false none zD
    ⟨rfl, rfl, by decide, fun h a ha => by cases ha⟩ rfl C06.bfinalReply zGoodReply zItems zItems_static _
    zItems_inflate none (fun c h => by cases h) zL (TNonEmpty.of_b (by decide +kernel))
    (EndsRead.of_b (by decide +kernel)) zL_bytes [] 40 (Or.inr (Or.inl rfl))]
  decide +kernel

/-- the same run evaluated directly -/
example : deliveredEvents (runAll zCfg (fun _ => []) (timedEnv zL [] 40)).trace =
    [ .connecting, .connected false, .ready none true,
      .ping [1], .text [72, 101, 108, 108, 111], .pong [7], .binary [1, 2, 3], .text [72, 101, 108, 108, 111],
      .disconnected "connection-lost" false ] := by
  decide +kernel

/-- a connection after a handshake that negotiated `zD`: between two messages, inflate context empty -/
def zState : Sys :=
  { cfg := zCfg, react := fun _ => [.sendPing (.bytes [9])], env := [], sockOpen := true, selOpen := true,
    ready := true, startTime := some 0, parsedResponse := true, compression := some zD, decompress := true,
    p := { cont := .hdr2, remPred := 1, compression := true } }

/-- `delivery_compressed` applies to `zState` and the example items followed by a Close: the
    hypotheses hold (`ItemsAt` from `zItems_inflate`) and the concrete event list results -/
example : ∃ s', feedLoop (gstream zItems (some C01.exClose)) zState = .ok true s' ∧
    delivered s'.trace =
      [ .closing (some 1000) [111, 107], .text [72, 101, 108, 108, 111], .binary [1, 2, 3], .pong [7],
        .text [72, 101, 108, 108, 111], .ping [1] ] := by
  obtain ⟨s', h, d, _⟩ := delivery_compressed ⟨zCfg.inflate, some zD⟩ zItems _ (some C01.exClose)
    (fun c hc => by cases hc; exact C01.ex_conforming.2 _ rfl) zState
    ⟨fun h a ha => by simp [zState] at ha; subst ha; rfl, rfl, Or.inr rfl, rfl, rfl⟩ ⟨rfl, rfl, rfl⟩ rfl rfl
    ⟨⟨rfl, rfl, rfl, rfl⟩, rfl, rfl⟩ rfl
    (itemsAt_of_zOuts ⟨zCfg.inflate, some zD⟩ rfl zItems zItems_static _ _ zItems_inflate) (fun _ _ _ => rfl)
  refine ⟨s', h, ?_⟩
  rw [d]
  decide +kernel

/-- `compressed_event_exact` on the first item -/
example : ∃ g, zItems.head? = some (.msg g) ∧ g.Static ∧ g.event = .text [72, 101, 108, 108, 111] :=
  ⟨_, rfl, by decide +kernel, by decide +kernel⟩

/-- `connection_delivers_closing_app` applies to C08E2E's example: the application closes at its
    fifth event — the Ping between the fragments of the Text — and everything after is delivered -/
example : Monitor.events (runAll C01E2E.exCfg C08E2E.exReact
      (reads ((C01E2E.exReply ++ C01.streamBytes C01.exItems (some C01.exClose)).map (fun b => [b])) ++ [])).trace =
    [.connecting, .connected false, .ready none false, .poll] ++ C01.expected C01.exItems none ++
      [.closed (some 1000) [111, 107], .disconnected "closed" true] := by
  have := connection_delivers_closing_app C01E2E.exCfg C08E2E.exReact false none 5 (some 1000) (.bytes [98, 121, 101])
    [98, 121, 101] rfl (fun _ => rfl) (by decide) (by decide) rfl ⟨(fun c h => by cases h; decide), (by decide)⟩
    C08E2E.exApp C01E2E.exReply C01E2E.exGoodReply C01.exItems C01.ex_conforming.1 C01.exClose
    (C01.ex_conforming.2 _ rfl) (by decide +kernel) _ (bytewise_ne _) (bytewise_flatten _) []
  rw [this]
  decide +kernel

open Lomond.Core.CR in
/-- the hypotheses of `delivery_closing_app` are satisfiable: the state after the handshake of a
    connection whose application (C08E2E's example) closes at its fifth event satisfies `G` -/
example : ∃ T0 s, G (some 5) (some 1000) (.bytes [98, 121, 101]) [98, 121, 101] C01E2E.exCfg T0 s ∧
    s.closed = false ∧ s.frames = [] ∧ Between s.p := by
  have hp : Par (some 5) (some 1000) (.bytes [98, 121, 101]) [98, 121, 101] C01E2E.exCfg :=
    ⟨fun _ => rfl, by decide, rfl, ⟨(fun c h => by cases h; decide), (by decide)⟩, fun K h => by cases h; decide⟩
  obtain ⟨sA, l0, _, _, q, sh, hr, hcl, _, _, hpA, hfr, _⟩ :=
    run_start_J hp C08E2E.exReact [] false rfl C08E2E.exApp
  obtain ⟨s4, g4, c4, f4, b4, _⟩ := feed_reply_J hp q sh hr hcl hpA hfr C01E2E.exGoodReply
  exact ⟨_, s4, g4, c4, f4, b4⟩

open Lomond.Core.CR in
/-- … and those of `delivery_closing_app_closed`: an application that closes at `Connected`
    (C08E2E's `exReactEarly`) is closing when the handshake completes -/
example : ∃ T0 s, G (some 2) (some 1000) (.bytes [103, 111, 111, 100, 98, 121, 101])
      [103, 111, 111, 100, 98, 121, 101] C01E2E.exCfg T0 s ∧
    s.closed = false ∧ s.closing = true ∧ s.frames = [] ∧ Between s.p := by
  have hp : Par (some 2) (some 1000) (.bytes [103, 111, 111, 100, 98, 121, 101])
      [103, 111, 111, 100, 98, 121, 101] C01E2E.exCfg :=
    ⟨fun _ => rfl, by decide, rfl, ⟨(fun c h => by cases h; decide), (by decide)⟩, fun K h => by cases h; decide⟩
  obtain ⟨sA, l0, _, _, q, sh, hr, hcl, _, _, hpA, hfr, _, _, hh⟩ :=
    run_start_J hp C08E2E.exReactEarly [] false rfl C08E2E.exAppEarly
  have hshut : Shut sA := by
    rcases sh with ⟨_, hlt, _⟩ | ⟨hs, _⟩
    · have := hlt 2 rfl
      rw [q.hi, hh] at this
      simp at this
    · exact hs
  obtain ⟨s4, g4, c4, f4, b4, _, _, _, _, _, _, m4, _⟩ := feed_reply_J hp q sh hr hcl hpA hfr C01E2E.exGoodReply
  refine ⟨_, s4, g4, c4, ?_, f4, b4⟩
  rcases m4 hshut with h | h
  · exact h
  · rw [c4] at h; cases h

end Lomond.C01E2E2
