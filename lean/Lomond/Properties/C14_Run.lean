/-
  C14 at run level — over a whole connection `Core.runAll cfg react env`, for every application,
  every environment script (abandonment, write failures, transport errors included):
  every Ping that had to be answered IS answered by exactly one Pong, immediately before the event
  is handed to the application; every Pong the library writes answers the Ping event that follows
  it; the two sequences match one to one, in order.  Property theorems only; helper lemmas:
  Proofs/PongTrace.lean (trace grammar `Good`), Proofs/PongRun.lean (the invariant through `run`).

  The trace `(runAll cfg react env).trace` is newest first.  For a Ping event at
  `trace = pre ++ .ev (.ping d) :: post`, `post` is everything that happened before the event was
  handed to the application and `pre` everything after (the application's reaction to this event,
  later events, …).

  *When does a Ping have to be answered?*  `_send_pong` swallows every `WebSocketError` of
  `send_pong` (`C14Src.pong_and_ping_errors_swallowed`); `session.write` raises one exactly when
  the socket is gone (`WebSocketUnavailable`), the websocket is closed or a Close frame has been
  sent (`WebSocketClosed` / `WebSocketClosing`).  On the trace this is `usable post`: no `sockClose`
  and no Close frame handed to `sendall` so far (`PongRun.JS.usable_iff`: at every point of a run
  `usable trace ↔ socket open ∧ ¬closing ∧ ¬closed`).

  Hypotheses on the configuration (both hold for the real code):
  * `cfg.v.closeArgs = true` — the repaired `close()` (D3): with the pinned commit's `close()` a
    Close payload of ≥ 2^63 bytes would start closing without anything reaching `sendall`;
  * `ReqPlain cfg` — the upgrade request, the only thing handed to `sendall` that is not a frame,
    does not start with the first byte of a Close or Pong frame (`reqPlain_of_GET`: it starts with
    `GET `); without it a trace-level statement is impossible (`request_must_be_plain`).
-/
import Lomond.Proofs.PongRun

namespace Lomond.C14Run
open Lomond Lomond.Core Lomond.Core.Pong Lomond.Core.PongRun

/-- **Ping ⇒ Pong (existence, exactly one, before the application).**  Automatic pongs on: every
    Ping event of the run that was produced while the connection was usable is immediately
    preceded by the Pong frame for the identical payload handed to `sendall` — written (`.wr`) or
    the write failed (`.wrFail`) — and the entry before that is not another Pong: exactly one.
    The Pong is in `post`, i.e. before the event reached the application, hence before anything
    the application writes in reaction to this or any later event (`pre`). -/
theorem ping_implies_pong (cfg : Cfg) (react : React) (env : List EnvStep)
    (hv : cfg.v.closeArgs = true) (hreq : ReqPlain cfg) (hap : cfg.autoPong = true)
    (pre : List Obs) (d : Bytes) (post : List Obs)
    (h : (runAll cfg react env).trace = pre ++ .ev (.ping d) :: post) (hu : usable post = true) :
    ∃ o post', post = o :: post' ∧ IsPongFor d o ∧ NoPongTop post' := by
  have := (good_runAll cfg react env hv hreq).ping pre d post h
  unfold Answered at this
  rw [if_pos (by rw [hap, hu]; rfl)] at this
  exact this

/-- **No Pong when it cannot or must not be sent.**  Automatic pongs off, or the Ping arrived when
    the socket was gone / a Close frame had been sent: the event is handed over all the same and
    the entry before it is not a Pong handed to `sendall` (nothing was written for this Ping). -/
theorem ping_unanswered (cfg : Cfg) (react : React) (env : List EnvStep)
    (hv : cfg.v.closeArgs = true) (hreq : ReqPlain cfg)
    (pre : List Obs) (d : Bytes) (post : List Obs)
    (h : (runAll cfg react env).trace = pre ++ .ev (.ping d) :: post)
    (hno : cfg.autoPong = false ∨ usable post = false) : NoPongTop post := by
  have := (good_runAll cfg react env hv hreq).ping pre d post h
  unfold Answered at this
  rw [if_neg (by rcases hno with h | h <;> rw [h] <;> simp)] at this
  exact this

/-- **Pong ⇒ Ping.**  Every Pong frame handed to `sendall` during the run (successfully or not) is
    either followed by the result token of the application call that sent it, or — automatic
    pongs on, connection usable — immediately followed by the event `Ping d` whose payload it
    carries.  No other library write (automatic Ping, Close, the upgrade request) is a Pong. -/
theorem pong_implies_ping (cfg : Cfg) (react : React) (env : List EnvStep)
    (hv : cfg.v.closeArgs = true) (hreq : ReqPlain cfg)
    (pre : List Obs) (o : Obs) (post : List Obs)
    (h : (runAll cfg react env).trace = pre ++ o :: post) (ho : o.pongOut = true) :
    (∃ pre' r, pre = pre' ++ [.res r]) ∨
    (cfg.autoPong = true ∧ usable post = true ∧ ∃ pre' d, pre = pre' ++ [.ev (.ping d)] ∧ IsPongFor d o) :=
  (good_runAll cfg react env hv hreq).pong pre o post h ho

/-- **Pong iff Ping, position by position.**  For a Ping event and the entry `o` right before it:
    `o` is the Pong for this Ping's payload iff automatic pongs are on and the connection was
    usable; and if `o` is a Pong frame at all, it is the one for this payload. -/
theorem pong_iff_ping (cfg : Cfg) (react : React) (env : List EnvStep)
    (hv : cfg.v.closeArgs = true) (hreq : ReqPlain cfg)
    (pre : List Obs) (d : Bytes) (o : Obs) (post : List Obs)
    (h : (runAll cfg react env).trace = pre ++ .ev (.ping d) :: o :: post) :
    (IsPongFor d o ↔ (cfg.autoPong = true ∧ usable (o :: post) = true)) ∧
    (o.pongOut = true → IsPongFor d o) := by
  have hA := (good_runAll cfg react env hv hreq).ping pre d (o :: post) h
  unfold Answered at hA
  by_cases hc : (cfg.autoPong && usable (o :: post)) = true
  · rw [if_pos hc] at hA
    obtain ⟨o', post', e, hp, _⟩ := hA
    simp only [List.cons.injEq] at e
    obtain ⟨rfl, rfl⟩ := e
    simp only [Bool.and_eq_true] at hc
    exact ⟨⟨fun _ => hc, fun _ => hp⟩, fun _ => hp⟩
  · rw [if_neg hc] at hA
    have hn : o.pongOut = false := hA o rfl
    refine ⟨⟨fun hp => ?_, fun hh => ?_⟩, fun hp => ?_⟩
    · rw [hp.pongOut] at hn; cases hn
    · exfalso; apply hc; rw [hh.1, hh.2]; rfl
    · rw [hp] at hn; cases hn

/-- **As many library Pongs as Pings that had to be answered, matching one to one, in order.**
    `libPongs`: the Pong frames handed to `sendall` outside application calls (written or
    failed), newest first; `ansPings`: the payloads of the Ping events produced with automatic
    pongs on while the connection was usable, newest first.  The lists have the same length and
    the `i`-th Pong is the frame for the `i`-th payload. -/
theorem pong_count (cfg : Cfg) (react : React) (env : List EnvStep)
    (hv : cfg.v.closeArgs = true) (hreq : ReqPlain cfg) :
    Matched (libPongs (runAll cfg react env).trace) (ansPings cfg.autoPong (runAll cfg react env).trace) ∧
    (libPongs (runAll cfg react env).trace).length = (ansPings cfg.autoPong (runAll cfg react env).trace).length :=
  ⟨(good_runAll cfg react env hv hreq).count, (good_runAll cfg react env hv hreq).count.length_eq⟩

/-- **Written, not merely attempted, when no `sendall` raises.**  If the configuration lets no
    `sendall` of the connection fail, the Pong in front of every answerable Ping event is a
    successful write `.wr` of the masked Pong frame with the identical payload. -/
theorem pong_written_when_transport_ok (cfg : Cfg) (react : React) (env : List EnvStep)
    (hv : cfg.v.closeArgs = true) (hreq : ReqPlain cfg) (hap : cfg.autoPong = true)
    (hnf : ∀ k, cfg.writeFails k = false)
    (pre : List Obs) (d : Bytes) (post : List Obs)
    (h : (runAll cfg react env).trace = pre ++ .ev (.ping d) :: post) (hu : usable post = true) :
    ∃ key post', post = .wr (pongBytes d key) :: post' := by
  obtain ⟨o, post', e, hp, _⟩ := ping_implies_pong cfg react env hv hreq hap pre d post h hu
  have hf : o.isFail = false :=
    nofail_runAll cfg react env hv hreq hnf o (by rw [h, e]; simp)
  obtain ⟨key, rfl⟩ := hp.written hf
  exact ⟨key, post', e⟩

/-- **Exactly one Pong per Ping over the whole run**: the three statements together. -/
theorem exactly_one_pong_per_ping (cfg : Cfg) (react : React) (env : List EnvStep)
    (hv : cfg.v.closeArgs = true) (hreq : ReqPlain cfg) :
    let tr := (runAll cfg react env).trace
    (∀ pre d post, tr = pre ++ .ev (.ping d) :: post →
        if (cfg.autoPong && usable post) = true then
          ∃ o post', post = o :: post' ∧ IsPongFor d o ∧ NoPongTop post'
        else NoPongTop post) ∧
    (∀ pre o post, tr = pre ++ o :: post → o.pongOut = true →
        (∃ pre' r, pre = pre' ++ [.res r]) ∨
        (cfg.autoPong = true ∧ usable post = true ∧ ∃ pre' d, pre = pre' ++ [.ev (.ping d)] ∧ IsPongFor d o)) ∧
    Matched (libPongs tr) (ansPings cfg.autoPong tr) := by
  intro tr
  have g := good_runAll cfg react env hv hreq
  exact ⟨fun pre d post h => g.ping pre d post h, fun pre o post h ho => g.pong pre o post h ho, g.count⟩

/-- the trace-level `usable` is the websocket state `send_pong` looks at: wherever the invariant
    of Proofs/PongRun.lean holds (from the upgrade request to the end of `run()`), the trace shows
    a usable connection iff the socket is open and the websocket neither closing nor closed -/
theorem usable_is_writable (auto : Bool) (s : Sys) (h : JS auto s) :
    usable s.trace = true ↔ (s.sockOpen = true ∧ s.closing = false ∧ s.closed = false) :=
  h.usable_iff

/-- a request that starts with `G` (`GET …`) satisfies `ReqPlain` -/
theorem reqPlain_of_GET (cfg : Cfg) (r : Bytes) (h : cfg.request = 71 :: r) : ReqPlain cfg := by
  unfold ReqPlain; rw [h]; exact ⟨rfl, rfl⟩

/-! ### non-vacuity -/

/-- the application closes (code 1000) when it sees the first Ping -/
def exReact : React := fun hist =>
  match hist with
  | [.ping _, .poll, .ready _ _, .connected _, .connecting] => [.close (some 1000) (.bytes [])]
  | _ => []

/-- handshake reply; two Pings in one read; another Ping later; end of stream -/
def exEnv : List EnvStep :=
  [.wait 0 (some (.data Ex.resp)), .wait 1 (some (.data [0x89, 1, 65, 0x89, 1, 66])),
   .wait 1 (some (.data [0x89, 0])), .wait 1 (some .eof)]

example : Ex.cfg.v.closeArgs = true ∧ ReqPlain Ex.cfg := ⟨rfl, reqPlain_of_GET Ex.cfg [69, 84] rfl⟩

set_option maxRecDepth 4096 in
/-- a quiet application: all three Pings answered, in order -/
example : (runAll Ex.cfg (fun _ => []) exEnv).trace.reverse =
    [.ev .connecting, .wr [71, 69, 84], .ev (.connected false), .ev (.ready none false), .ev .poll, .tick 1,
     .wr [138, 129, 0, 0, 0, 0, 65], .ev (.ping [65]), .wr [138, 129, 0, 0, 0, 0, 66], .ev (.ping [66]), .tick 2,
     .wr [138, 128, 0, 0, 0, 0], .ev (.ping []), .tick 3, .sockClose,
     .ev (.disconnected "connection-lost" false), .selClose] := by decide +kernel

private theorem exRun : (runAll Ex.cfg exReact exEnv).trace =
    [.selClose, .ev (.disconnected "closed" true), .sockClose, .tick 3, .ev (.ping []), .tick 2, .ev (.ping [66]),
     .res .ok, .wr [136, 130, 0, 0, 0, 0, 3, 232], .ev (.ping [65]), .wr [138, 129, 0, 0, 0, 0, 65], .tick 1,
     .ev .poll, .ev (.ready none false), .ev (.connected false), .wr [71, 69, 84], .ev .connecting] := by
  decide +kernel

set_option maxRecDepth 4096 in
/-- the application closes at the first Ping: that Ping is answered (the Pong precedes both the
    event and the application's Close), the two later ones are not (`usable` is false: a Close
    frame is on the trace) -/
example : (runAll Ex.cfg exReact exEnv).trace.reverse =
    [.ev .connecting, .wr [71, 69, 84], .ev (.connected false), .ev (.ready none false), .ev .poll, .tick 1,
     .wr [138, 129, 0, 0, 0, 0, 65], .ev (.ping [65]), .wr [136, 130, 0, 0, 0, 0, 3, 232], .res .ok,
     .ev (.ping [66]), .tick 2, .ev (.ping []), .tick 3, .sockClose,
     .ev (.disconnected "closed" true), .selClose] := by rw [exRun]; rfl

example : libPongs (runAll Ex.cfg exReact exEnv).trace = [.wr [138, 129, 0, 0, 0, 0, 65]] ∧
    ansPings true (runAll Ex.cfg exReact exEnv).trace = [[65]] := by rw [exRun]; decide +kernel

/-- `ReqPlain` is needed: a "request" that is itself a Pong frame is a Pong on the trace that no
    Ping accounts for -/
theorem request_must_be_plain :
    ∃ cfg : Cfg, cfg.v.closeArgs = true ∧
      libPongs (runAll cfg (fun _ => []) []).trace = [.wr [138, 0]] ∧
      ansPings cfg.autoPong (runAll cfg (fun _ => []) []).trace = [] :=
  ⟨{ request := [138, 0] }, rfl, by decide +kernel, by decide +kernel⟩

end Lomond.C14Run
