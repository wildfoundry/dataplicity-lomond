/-
  C19 — source facts (re-extracted from `/repo/lomond/session.py` on every run): the socket is put back into blocking mode
  only after the proxy negotiation.  Property theorems only.

  Why it matters: `_connect_sock` sets the connect timeout (30 s) before `connect()`; the CONNECT request is written and the
  proxy's answer read on that same socket.  While the timeout is in force a proxy that accepts the connection and then stays
  silent makes `recv()` raise `socket.timeout`, which `_connect_proxy` turns into ConnectFail (`Proxy.readLoop`, read outcome
  `timeout`; theorems `C19.*`).  A `settimeout(None)` before the answer has been read would make that `recv()` block for ever:
  neither ConnectFail nor Connected would be emitted (seeded change C19-r4m2; the composed-connection harness reports `HUNG`).
  The model counterpart is `ConnectLink.attempt` with the shape flag `Inputs.blockBeforeTunnel`; the theorems are in
  `Properties/C19_Timeout.lean` (`silent_proxy_gives_connect_fail`, `blocking_before_tunnel_hangs`, `source_has_pinned_order`).
-/
import Lomond.Generated.Facts

namespace Lomond.C19Src
open Lomond

/-- `settimeout(None)` is called in `_connect` only - not in `_connect_sock` (which runs before the negotiation), not in
    `_connect_proxy`. -/
theorem blocking_mode_set_in_connect_only : Gen.settimeoutNoneIn = ["_connect"] := rfl

/-- ... and there it is the last of the connection steps: after `_connect_proxy(...)` / `_connect_sock(...)` have returned. -/
theorem blocking_mode_after_negotiation :
    Gen.connectCallOrder.getLast? = some "settimeout(None)" ∧
    "_connect_proxy" ∈ Gen.connectCallOrder.dropLast ∧ "settimeout(None)" ∉ Gen.connectCallOrder.dropLast := by decide +kernel

end Lomond.C19Src
