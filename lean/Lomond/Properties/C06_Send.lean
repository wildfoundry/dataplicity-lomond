/-
  C06 companion — the send side on the core model's send path.

  `C06.lossless_client_to_peer` is a statement about an abstract token-level `Compressor` and a
  list of messages.  Here it is tied to what the core model (`Model/Core.lean`) actually writes:
  the messages are the plaintexts of the `.wrz` entries of the trace of `runAll`, the compressed
  payloads are the ones `ZFrame.wireOf` puts into the frames (bytes: FIN=1, RSV1=1, masked,
  shortest length form — `C03Z.every_compressed_frame_is_valid`), the compressor is a parameter.
  Theorems only; helper lemmas in Proofs/ZFrame.lean.
-/
import Lomond.Properties.C03_Z


namespace Lomond.C06Send
open Lomond Lomond.Core Lomond.Core.KS Lomond.ZFrame Lomond.Deflate

/-- **Client → peer, on the wire of the core model.**  Let the client's compressor be the byte
    encoding `enc` of any token-level compressor `c` within zlib's distance bound for the window
    lomond chooses (`deflate hist p = enc (c.comp … p)`; history kept, or ignored under
    `client_no_context_takeover`), `cw ∈ 8..15` the negotiated `client_max_window_bits`, the peer
    keeping its context whenever the client does.  For every configuration with 4-byte masking
    keys, every application (payloads of possible sizes), every environment: if no compressed write
    failed (`zHist trace = some msgs`: the compressor consumed exactly the plaintexts of the
    `.wrz` entries), then
    * the peer's `2^cw`-window inflater over the token lists of all compressed messages returns
      exactly `msgs`, the plaintexts in call order, none failing;
    * the compressed frame at every position of the trace is rendered to one valid client frame
      (FIN=1, RSV1=1, RSV2=RSV3=0, Text/Binary, masked with the key of its slot) whose payload is
      `enc` of the token list of *that* message — the element of `senderTokens c … msgs` with the
      frame's number — provided that encoding is shorter than 2^63 bytes. -/
theorem lossless_client_to_peer_on_the_wire (cw : Nat) (h8 : 8 ≤ cw) (h15 : cw ≤ 15)
    (c : Compressor (maxDist (clientWbits cw))) (clientNoTakeover peerResets : Bool)
    (hk : clientNoTakeover = false → peerResets = false)
    (enc : List Token → Bytes) (deflate : Deflater)
    (hd : ∀ hist p, deflate hist p = enc (c.comp (if clientNoTakeover then [] else hist.flatten) p))
    (cfg : Cfg) (react : React) (env : List EnvStep) (hsm : Small react)
    (hkey : ∀ k, (cfg.maskKey k).length = 4)
    (msgs : List Bytes) (hh : zHist (runAll cfg react env).trace = some msgs) :
    receiverOutputs (2 ^ cw) peerResets [] (senderTokens c clientNoTakeover [] msgs) = some msgs ∧
    ∀ newer older op plain, (runAll cfg react env).trace = newer ++ .wrz op plain :: older →
      ∃ hist ts, zHist older = some hist ∧
        (senderTokens c clientNoTakeover [] msgs)[hist.length]? = some ts ∧
        ((enc ts).length < 2 ^ 63 →
          ∃ bytes, wireOf deflate cfg older (.wrz op plain) = some bytes ∧
            ∀ rest, Spec.decodeClientFrame (bytes ++ rest) =
              some (C03Z.zDecoded op (cfg.maskKey (keyIdx older)) (enc ts), rest)) := by
  have hm : msgs = zPlains (runAll cfg react env).trace := zHist_eq _ _ hh
  obtain ⟨hst, hrecv⟩ := C03Z.send_path_lossless cw h8 h15 c clientNoTakeover peerResets hk enc deflate hd cfg react env
  rw [← hm] at hst hrecv
  refine ⟨hrecv, ?_⟩
  intro newer older op plain ht
  obtain ⟨hist, hho⟩ := zHist_tail (newer ++ [.wrz op plain]) older msgs (by
    rw [List.append_assoc]; show zHist (newer ++ .wrz op plain :: older) = _; rw [← ht]; exact hh)
  have hz := C03Z.wire_payload_is_zPayload deflate newer older op plain hist hho
  rw [← ht, ← hm, hst, List.getElem?_map] at hz
  cases hts : (senderTokens c clientNoTakeover [] msgs)[hist.length]? with
  | none => rw [hts] at hz; cases hz
  | some ts =>
    rw [hts] at hz
    simp only [Option.map_some, Option.some.injEq] at hz
    refine ⟨hist, ts, hho, hts, fun hlen => ?_⟩
    obtain ⟨-, -, -, bytes, hb, hdec⟩ := C03Z.every_compressed_frame_is_valid cfg react env deflate hsm hkey
      newer older op plain ht hist hho (by rw [← hz]; exact hlen)
    exact ⟨bytes, hb, fun rest => by rw [hdec rest, ← hz]⟩

/-- a toy byte encoding of token lists (2 bytes per literal, 3 per copy) -/
def exEnc (ts : List Token) : Bytes :=
  ts.flatMap (fun t => match t with | .lit b => [0, b] | .copy d n => [1, d, n])

/-- the compressor of the example: `exEnc` of C06's `echoCompressor` with context takeover -/
def exDeflate : Deflater := fun hist p => exEnc ((echoCompressor (maxDist (clientWbits 8))).comp hist.flatten p)

/-- non-vacuity: all hypotheses hold for the example run of `C03_Z` (handshake negotiating
    permessage-deflate, two compressed messages, a Ping and a plain text in between) -/
example := lossless_client_to_peer_on_the_wire 8 (by decide) (by decide)
  (echoCompressor (maxDist (clientWbits 8))) false false (fun _ => rfl) exEnc exDeflate (fun _ _ => rfl)
  C03Z.exCfg C03Z.exReact C03Z.exEnv C03Z.exSmall (fun _ => rfl) [[72, 105], [1, 2, 3]]
  (by rw [C03Z.exTrace]; decide)

end Lomond.C06Send
