/-
  C14, end to end — in the setting of `C01E2E.connection_delivers` (a whole connection
  `Core.runAll cfg react env`: handshake reply accepted, a conforming server stream with any
  number of Pings anywhere — between fragments, many per read —, every segmentation into reads,
  an application that sends whatever it likes at every event but never closes), with automatic
  pongs on: **the library hands exactly one Pong frame per Ping to `sendall`, with the identical
  payload, in the order of the Pings** — `k` Pings, `k` Pongs; when no `sendall` fails all of them
  are written.  Composition of `C14Run` (run-level Pong grammar) and `connection_delivers`.
  Helper lemmas: Proofs/PongE2E.lean.
-/
import Lomond.Proofs.PongE2E
import Lomond.Properties.C01_E2E
import Lomond.Properties.C14_Run
import Lomond.Proofs.StrLit

namespace Lomond.C14E2E
open Lomond Lomond.Core Lomond.Core.E2E Lomond.Core.PongRun Lomond.Core.PongE2E Lomond.Core.Pong

/-- the payloads of the Pings of a stream, in order of arrival (Pings between the fragments of a
    message included) -/
def pingPayloads (items : List Item) : List Bytes := (items.flatMap Item.events).filterMap pingP

/-- in the end-to-end setting every Ping of the stream had to be answered: the connection was
    usable whenever one arrived (the server's Close, if any, comes last; the application never
    closes) -/
theorem pings_all_answerable (cfg : Cfg) (react : React) (proxy : Bool) (proto : Option Http.Str)
    (hs : Setup cfg react proxy) (hv : cfg.v.closeArgs = true) (hreq : ReqPlain cfg)
    (reply : Bytes) (hreply : GoodReply cfg reply proto)
    (items : List Item) (close : Option CloseF) (hconf : C01.Conforming items close)
    (chunks : List Bytes) (hne : ∀ c ∈ chunks, c ≠ [])
    (hflat : chunks.flatten = reply ++ C01.streamBytes items close)
    (dt : Nat) (hpt : cfg.pingTimeout = 0 ∨ dt ≤ cfg.pingTimeout) (hct : cfg.closeTimeout = 0 ∨ dt < cfg.closeTimeout) :
    ansPings true (runAll cfg react (reads chunks ++ [.wait dt (some .eof)])).trace
      = (pingPayloads items).reverse := by
  obtain ⟨sA, hA, hJA, hrun⟩ := run_start_J cfg react (reads chunks ++ [.wait dt (some .eof)]) proxy
    hs.conn hs.req hs.poll hs.app hv hreq
  obtain ⟨s4, _, h4', _, hfeed⟩ := handshake_read hA hreply.toG
  have h4 := h4' rfl
  have hloop := loop_reads_flat chunks hne [.wait dt (some .eof)] sA hA.i (hdrInv_fresh sA hA.p)
  rw [hflat, hfeed] at hloop
  have hnh : s4.p.cont ≠ .header := h4.between.b.notHeader
  -- the items alone
  obtain ⟨s5a, hfla, hdela, _, hcla, hcga, _⟩ := C01.delivery items none ⟨hconf.1, fun c h => by cases h⟩ s4
    h4.i.good h4.closed h4.closing h4.frames h4.between
  have hwsa : wsFeed (C01.streamBytes items none) s4 = .ok () s5a :=
    wsFeed_of_feedBody_ok _ s4 s5a h4.closed (by rw [feedBody_frames _ _ hnh, hfla])
  obtain ⟨i5a, hza⟩ := z_wsFeed _ s4 () s5a hwsa h4.i
  obtain ⟨_, la, ela, nla⟩ := hza h4.ready
  have hh5a : hist s5a.trace = (C01.expected items none).reverse ++ hist s4.trace :=
    hist_of_delivered ela nla hdela
  have hJ5a : J cfg.autoPong s5a := by
    have e : wsFeed (reply ++ C01.streamBytes items none) sA = .ok () s5a := by rw [hfeed]; exact hwsa
    exact ((rj_yields cfg.autoPong).wsFeed _).ok e hJA
  have hopen : Open s5a := by
    refine ⟨?_, by simpa using hcga, hcla⟩
    rcases i5a.sock with h | h
    · exact h
    · rw [hcla] at h; cases h
  have hu5a : usable s5a.trace = true := hJ5a.js.usable_iff.mpr hopen
  -- the whole stream
  obtain ⟨s5, hfl, hdel, _, hcl5, hcg5, _⟩ := C01.delivery items close hconf s4 h4.i.good h4.closed h4.closing
    h4.frames h4.between
  have hext5 : ∃ l2, s5.trace = l2 ++ s5a.trace := by
    have e : C01.streamBytes items close = C01.streamBytes items none ++ closeTail close := by
      cases close <;> simp [C01.streamBytes, closeTail]
    rw [e, feedLoop_append, hfla] at hfl
    simp only [contLoop] at hfl
    exact ((step_feedLoop _).ok hfl).traceExt
  -- the last cycle
  obtain ⟨s6, sF, post, _, _, _, hreg, _, hT, tF, _⟩ := stream_then_eof hs.app h4 hrun hloop hfl hdel hcl5 hpt hct
  have hext6 : ∃ l6, s6.trace = l6 ++ s5.trace :=
    (step_po.trans (step_tick s5 dt) (step_regular.ok hreg)).traceExt
  obtain ⟨l2, e2⟩ := hext5
  obtain ⟨l6, e6⟩ := hext6
  have eT : sF.trace = (post ++ l6 ++ l2) ++ s5a.trace := by rw [tF, e6, e2]; simp
  -- the events of the newer part: Closing?, Poll?, Disconnected — no Ping
  have hev := C01E2E.connection_delivers cfg react proxy proto hs reply hreply items close hconf chunks hne hflat
    dt hpt hct
  rw [hT, events_eq_hist] at hev
  have hhT : hist sF.trace = (C01E2E.allEvents cfg proxy proto items close dt).reverse := by
    rw [← hev, List.reverse_reverse]
  have hX : (C01E2E.allEvents cfg proxy proto items close dt).reverse =
      ([C01E2E.terminal close] ++ (if cfg.poll ≤ dt then [Event.poll] else []) ++
        (match close with | none => [] | some c => [c.event])) ++
      ((C01.expected items none).reverse ++ [.poll, .ready proto false, .connected proxy, .connecting]) := by
    unfold C01E2E.allEvents C01.expected
    cases close <;> by_cases hd : cfg.poll ≤ dt <;> simp [hd]
  rw [eT, hist_append, hh5a, h4.hist, hX] at hhT
  have hL := List.append_cancel_right hhT
  have hnp : ∀ o ∈ post ++ l6 ++ l2, o.pingEv = false := by
    refine noping_of_hist _ (fun d hd => ?_)
    rw [hL] at hd
    cases close <;> by_cases hdt : cfg.poll ≤ dt <;>
      simp [hdt, C01E2E.terminal, CloseF.event] at hd
  rw [hT, eT, ansPings_append_noping true _ _ hnp, ansPings_usable _ hu5a, hh5a, h4.hist]
  simp [pingPayloads, C01.expected, List.filterMap_append, List.filterMap_reverse, pingP]

/-- **`k` Pings in, `k` Pongs out, same payloads, same order.**  In the end-to-end setting with
    automatic pongs on, the Pong frames the library hands to `sendall` over the whole connection
    (`libPongs`, newest first) match the Pings of the stream one to one: the `i`-th is the masked
    Pong frame carrying the payload of the `i`-th Ping (counted from the end), written or — if that
    very `sendall` fails — attempted; nothing else the library writes is a Pong. -/
theorem pongs_match_pings (cfg : Cfg) (react : React) (proxy : Bool) (proto : Option Http.Str)
    (hs : Setup cfg react proxy) (hv : cfg.v.closeArgs = true) (hreq : ReqPlain cfg)
    (hap : cfg.autoPong = true)
    (reply : Bytes) (hreply : GoodReply cfg reply proto)
    (items : List Item) (close : Option CloseF) (hconf : C01.Conforming items close)
    (chunks : List Bytes) (hne : ∀ c ∈ chunks, c ≠ [])
    (hflat : chunks.flatten = reply ++ C01.streamBytes items close)
    (dt : Nat) (hpt : cfg.pingTimeout = 0 ∨ dt ≤ cfg.pingTimeout) (hct : cfg.closeTimeout = 0 ∨ dt < cfg.closeTimeout) :
    Matched (libPongs (runAll cfg react (reads chunks ++ [.wait dt (some .eof)])).trace) (pingPayloads items).reverse ∧
    (libPongs (runAll cfg react (reads chunks ++ [.wait dt (some .eof)])).trace).length = (pingPayloads items).length := by
  have h := (C14Run.pong_count cfg react (reads chunks ++ [.wait dt (some .eof)]) hv hreq).1
  rw [hap, pings_all_answerable cfg react proxy proto hs hv hreq reply hreply items close hconf chunks hne hflat
    dt hpt hct] at h
  exact ⟨h, by rw [h.length_eq, List.length_reverse]⟩

/-- … and when no `sendall` of the connection raises, every one of them is written: the `i`-th
    library Pong (newest first) is `.wr` of the masked Pong frame for the `i`-th Ping payload
    (counted from the end). -/
theorem pongs_written (cfg : Cfg) (react : React) (proxy : Bool) (proto : Option Http.Str)
    (hs : Setup cfg react proxy) (hv : cfg.v.closeArgs = true) (hreq : ReqPlain cfg)
    (hap : cfg.autoPong = true) (hnf : ∀ k, cfg.writeFails k = false)
    (reply : Bytes) (hreply : GoodReply cfg reply proto)
    (items : List Item) (close : Option CloseF) (hconf : C01.Conforming items close)
    (chunks : List Bytes) (hne : ∀ c ∈ chunks, c ≠ [])
    (hflat : chunks.flatten = reply ++ C01.streamBytes items close)
    (dt : Nat) (hpt : cfg.pingTimeout = 0 ∨ dt ≤ cfg.pingTimeout) (hct : cfg.closeTimeout = 0 ∨ dt < cfg.closeTimeout)
    (i : Nat) (o : Obs) (d : Bytes)
    (ho : (libPongs (runAll cfg react (reads chunks ++ [.wait dt (some .eof)])).trace)[i]? = some o)
    (hd : (pingPayloads items).reverse[i]? = some d) :
    ∃ key, o = .wr (pongBytes d key) := by
  have hm := (pongs_match_pings cfg react proxy proto hs hv hreq hap reply hreply items close hconf chunks hne hflat
    dt hpt hct).1
  have hp := hm.get i o d ho hd
  have hmem : o ∈ (runAll cfg react (reads chunks ++ [.wait dt (some .eof)])).trace :=
    mem_libPongsAux none _ o (List.mem_of_getElem? ho)
  exact hp.written (nofail_runAll cfg react _ hv hreq hnf o hmem)

/-! ### non-vacuity: C01's example stream (a Ping `[1, 2]` between the fragments of a Text) -/

example : pingPayloads C01.exItems = [[1, 2]] := by decide +kernel

private theorem exReqPlain : ReqPlain C01E2E.exCfg := ⟨by decide +kernel, by decide +kernel⟩

private theorem exChunks_ne : ∀ c ∈ C01E2E.exChunks, c ≠ [] := by
  rw [C01E2E.exChunks, C01E2E.exReply, Http.lit_ofList]; decide +kernel

example : C01E2E.exCfg.v.closeArgs = true ∧ ReqPlain C01E2E.exCfg ∧ C01E2E.exCfg.autoPong = true ∧
    (∀ k, C01E2E.exCfg.writeFails k = false) :=
  ⟨rfl, exReqPlain, rfl, fun _ => rfl⟩

/-- the theorem applied to the example connection of `C01E2E` (three reads, final Close) -/
example : Matched
    (libPongs (runAll C01E2E.exCfg C01E2E.exReact (reads C01E2E.exChunks ++ [.wait 7 (some .eof)])).trace)
    [[1, 2]] :=
  (pongs_match_pings C01E2E.exCfg C01E2E.exReact false none C01E2E.exSetup rfl
    exReqPlain rfl C01E2E.exReply C01E2E.exGoodReply C01.exItems (some C01.exClose)
    C01.ex_conforming C01E2E.exChunks exChunks_ne C01E2E.exChunks_flat 7 (Or.inl rfl) (Or.inr (by decide))).1

/-- the same run evaluated directly: one library Pong, the frame for `[1, 2]` -/
example : libPongs (runAll C01E2E.exCfg C01E2E.exReact (reads C01E2E.exChunks ++ [.wait 7 (some .eof)])).trace
    = [.wr [138, 130, 0, 0, 0, 0, 1, 2]] := by
  rw [C01E2E.exChunks, C01E2E.exReply, Http.lit_ofList, C01E2E.exCfg, Http.lit_ofList, Http.ofString_ofList]
  decide +kernel

end Lomond.C14E2E
