/-
  C12 companion — the step order the thread model assumes for the repaired `close()` is the order
  of the statements in session.py / websocket.py.

  The translated `sessionCheckWritable` (`WebsocketSession._check_writable`), `wsOnClose`
  (`WebSocket._on_close`) and `wsOnDisconnect` (`WebSocket.on_disconnect`) return, as their last
  component, the reads (1 = `closed`, 2 = `closing`) and writes (11 = `closed`, 12 = `closing`) of
  the two state flags in execution order (harness/py2lean.py records them statement by statement,
  on every check run).  `sessionWrite` is the body of `with self._lock:` in `write`.  The theorems:
  these orders are the sync-step orders of `Threads.checks`, `Threads.altSteps` and
  `Threads.closeBody` for `closeAtomic = true` (the variant `C12.one_close_no_data_after` is
  about).  Theorems only.
-/
import Lomond.Model.Threads
import Lomond.Proofs.GenTie
import Lomond.Generated.Code
import Lomond.Properties.C08_Gen

namespace Lomond.C12Gen
open Lomond Lomond.Threads Lomond.GenTie
open Lomond.Gen.Code

/-- the sync step a recorded flag access stands for in the `closeAtomic` step programs:
    the load of `closing` into a local, the test of `closed` (followed by the test of the local),
    the two stores (`closing` is stored with the value `b` the source assigns) -/
def stepOf (b : Bool) : Nat → Option Step
  | 1 => some .chkBoth
  | 2 => some .ldClosing
  | 11 => some .setClosed
  | 12 => some (.setClosing b)
  | _ => none

/-- `_check_writable`, when it lets the write through, has tested the socket, then loaded
    `closing`, then tested `closed` (and the loaded value): the model's `checks` -/
theorem gen_checks_order (v : Variant) (hv : v.closeAtomic = true) (closed closing : Bool) (tr : List Nat)
    (h : sessionCheckWritable false closed closing = .ok tr) :
    Step.chkSock :: tr.filterMap (stepOf false) = checks v := by
  unfold checks
  rw [if_pos hv]
  revert h
  cases closed <;> cases closing <;> simp [sessionCheckWritable] <;> (intro h; subst h; rfl)

/-- the refusals come in the order socket, closed, closing — for every combination of the flags
    the error is the one the model's `chkSock` / `chkBoth` steps produce -/
theorem gen_checks_refusal (noSock closed closing : Bool) :
    (match sessionCheckWritable noSock closed closing with
     | .error e => some e.cls
     | .ok _ => none) =
      if noSock then some "WebSocketUnavailable"
      else if closed then some "WebSocketClosed"
      else if closing then some "WebSocketClosing"
      else none := by
  cases noSock <;> cases closed <;> cases closing <;> rfl

/-- `write(data, closing=True)`: the store `closing = True` follows the `sendall` inside the same
    `with self._lock:` block (`.write1, .write2, .setClosing true, .release` in `closeBody`):
    whenever the translated body reports the write, it reports the flag set -/
theorem gen_write_sets_closing (noSock closed isClosing : Bool) (r : Bool × Bool)
    (h : sessionWrite noSock closed isClosing true = .ok r) : r = (true, true) :=
  (C08Gen.gen_write_close noSock closed isClosing r h).1

/-- the reply path of `_on_close` (our Close was answered): after the `Closed` event the stores
    are `closed = True` then `closing = False` — the first two steps of `altSteps .replyClose` -/
theorem gen_replyClose_order (v : Variant) (hv : v.closeAtomic = true) (code : Option Nat)
    (r : Nat × Bool × Bool × Bool × List Nat) (h : wsOnClose code false true = .ok r) :
    (r.2.2.2.2.filter (· > 10)).filterMap (stepOf r.2.2.2.1) = (altSteps v .replyClose).take 2 := by
  unfold altSteps
  simp only [hv, if_true]
  rw [C08Gen.gen_onClose_spec] at h
  cases code with
  | none => cases h; rfl
  | some c =>
    cases hi : Core.isInvalidCode c <;> simp only [hi, Bool.false_eq_true, ↓reduceIte] at h
    · cases h; rfl
    · cases h

/-- the echo path of `_on_close` stores `closing = True` only (after `close()` returned) -/
theorem gen_echoClose_order (code : Option Nat) (r : Nat × Bool × Bool × Bool × List Nat)
    (h : wsOnClose code false false = .ok r) :
    r.2.1 = true ∧ (r.2.2.2.2.filter (· > 10)).filterMap (stepOf r.2.2.2.1) = [.setClosing true] := by
  rw [C08Gen.gen_onClose_spec] at h
  cases code with
  | none => cases h; exact ⟨rfl, rfl⟩
  | some c =>
    cases hi : Core.isInvalidCode c <;> simp only [hi, Bool.false_eq_true, ↓reduceIte] at h
    · cases h; exact ⟨rfl, rfl⟩
    · cases h

/-- `on_disconnect` stores `closed = True` before `closing = False`, too -/
theorem gen_onDisconnect_order (hasSession closed closing : Bool) :
    let r := wsOnDisconnect hasSession closed closing
    r.2.2.2.filterMap (stepOf r.2.2.1) = [.setClosed, .setClosing false] := by
  cases hasSession <;> rfl

example : sessionCheckWritable false false false = .ok [2, 1] := rfl
example : checks { closeAtomic := true } = [.chkSock, .ldClosing, .chkBoth] := rfl

end Lomond.C12Gen
