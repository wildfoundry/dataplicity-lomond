/-
  C06 — permessage-deflate is lossless both ways for every negotiated configuration.
  Property theorems only (helper lemmas: Proofs/Deflate.lean, Proofs/DeflateCore.lean,
  Proofs/Quiet.lean, Proofs/NoRsv1.lean, Proofs/DeflateTie.lean).

  zlib is not verified; it is modelled at the level where the property's logic lives
  (Model/Deflate.lean): a *compressor* is any function that turns (history, message) into LZ77
  tokens whose distances stay within its history and within a bound `D`; the *inflater* keeps the
  last `2^w` bytes.  What is assumed of zlib — `deflate` with a `2^w` window never emits a distance
  above `2^w − 262`, inflate is a deterministic streaming function, a sync flush ends in
  `00 00 ff ff` — is measured on every compressed message of every run of the check.
  The statements about the client's own logic (which frames are compressed, what is inflated,
  what the contexts see, how parameters are parsed) are about the core model (Model/Core.lean,
  Model/Http.lean), and the bit-level inflater of Model/Inflate.lean serves as the executable
  `inflate` for the closed evaluation of the BFINAL defect.
-/
import Lomond.Proofs.Deflate
import Lomond.Proofs.DeflateCore
import Lomond.Proofs.NoRsv1
import Lomond.Proofs.DeflateTie
import Lomond.Model.Inflate


namespace Lomond.C06
open Lomond Lomond.Deflate Lomond.Core

/-- **Lossless over every history, both directions.**  Any compressor whose matches reach back at
    most `D` bytes (and never beyond the history it has seen), followed over any list of messages
    by an inflater with a `wsize ≥ D` byte window, with context takeover or per-message reset on
    either side — provided the inflater keeps its context whenever the compressor does — gives
    back exactly the messages, each one in full, none failing. -/
theorem lossless_history {D : Nat} (c : Compressor D) (wsize : Nat) (hw : D ≤ wsize)
    (senderResets receiverResets : Bool) (hk : senderResets = false → receiverResets = false)
    (msgs : List Bytes) :
    receiverOutputs wsize receiverResets [] (senderTokens c senderResets [] msgs) = some msgs := by
  have := lossless_from c wsize hw senderResets receiverResets hk msgs [] []
  simpa using this

/-- **The windows the code picks are large enough, for every negotiable value.**
    client → peer: lomond compresses with `2^max(9, cw)`; zlib's matches then reach back at most
    `2^max(9,cw) − 262 ≤ 2^cw`, which the peer's `2^cw` window holds — including `cw = 8`, where
    the compressor's window (512) is *larger* than the peer's (256). -/
theorem window_ok_client (cw : Nat) (h8 : 8 ≤ cw) (h15 : cw ≤ 15) :
    maxDist (clientWbits cw) ≤ 2 ^ cw := by
  have : cw = 8 ∨ cw = 9 ∨ cw = 10 ∨ cw = 11 ∨ cw = 12 ∨ cw = 13 ∨ cw = 14 ∨ cw = 15 := by omega
  rcases this with h | h | h | h | h | h | h | h <;> subst h <;> decide

/-- peer → client: whatever `server_max_window_bits = sw` was accepted, lomond inflates with exactly
    that window (`decompressobj(-sw)`), so a peer that keeps its promise (`D = 2^sw`) fits; and a
    zlib peer with `2^max(9,sw)` fits as well. -/
theorem window_ok_server (opts : List (Http.Str × Http.Str)) (d : Http.DeflateCfg)
    (h : Http.deflateFromOptions opts = .ok d) :
    Http.getWbits opts "server_max_window_bits" = .ok d.decompressWbits ∧
    8 ≤ d.decompressWbits ∧ d.decompressWbits ≤ 15 ∧
    maxDist (clientWbits d.decompressWbits) ≤ 2 ^ d.decompressWbits := by
  obtain ⟨h1, _, _, _⟩ := deflateFromOptions_ok opts d h
  have hr := getWbits_ok opts _ _ h1
  exact ⟨h1, hr.1, hr.2.1, window_ok_client _ hr.1 hr.2.1⟩

/-- client → peer, instantiated: for every `cw ∈ 8..15` and both takeover modes (the flag
    `client_no_context_takeover` resets the client's compressor, and the peer may then reset its
    inflater or not), any compressor obeying zlib's bound for the window lomond chooses is
    restored exactly by the peer's `2^cw`-byte inflater over the whole history. -/
theorem lossless_client_to_peer (cw : Nat) (h8 : 8 ≤ cw) (h15 : cw ≤ 15)
    (c : Compressor (maxDist (clientWbits cw))) (clientNoTakeover peerResets : Bool)
    (hk : clientNoTakeover = false → peerResets = false) (msgs : List Bytes) :
    receiverOutputs (2 ^ cw) peerResets [] (senderTokens c clientNoTakeover [] msgs) = some msgs :=
  lossless_history c _ (window_ok_client cw h8 h15) _ _ hk msgs

/-- per-message framing: the sender strips the sync-flush tail (`00 00 ff ff`, an empty non-final
    stored block), the receiver appends it again — the receiver inflates exactly what the sender's
    compressor emitted -/
theorem framing (blocks : List Blk) : unstrip (strip (blocks ++ [tailBlk])) = blocks ++ [tailBlk] := by
  simp [strip, unstrip]

/-- **The window hypothesis is not idle.**  A compressor that is allowed a distance of 300 (all
    of it inside its own history) defeats an inflater with a 256-byte window: the message is
    perfectly well-formed for a 512-byte window and cannot be inflated with 256. -/
theorem window_needed :
    ∃ (hist msg : Bytes) (toks : List Token),
      expand 300 hist.reverse toks = some msg.reverse ∧
      (inflTokens 512 (hist.reverse.take 512) toks).map (·.2) = some msg.reverse ∧
      inflTokens 256 (hist.reverse.take 256) toks = none :=
  ⟨List.replicate 300 7, [7, 7, 7], [.copy 300 3], by decide +kernel, by decide +kernel, by decide +kernel⟩

/- Two shapes of `Deflate.decompress` are modelled (the check detects which one is under test by
   feeding the RFC 7692 §7.2.3.4 pair to the real class):

   * the pinned one: one `zlib.decompressobj` for the connection — `objectOutputs`, bit level
     `Inflate.inflateAll`.  For it the full statement

         objectOutputs wsize reset {} msgs = rfcOutputs wsize reset [] msgs      (∀ msgs)

     is FALSE (finding D6): `bfinal_differs` / `bfinal_fails` refute it, `never_wrong_partial`
     proves it for all histories without a BFINAL=1 block;
   * the repaired one (`fix:` D6): whenever the object reaches its end of stream, the rest of the
     data goes to a new object primed with the most recent output — `repairedOutputs`, bit level
     `Inflate.inflateAllSafe`.  For it the full statement holds: `never_wrong`. -/

/-- **Never wrong — the repaired code, every history.**  For every window, both takeover modes
    and every message history — BFINAL=1 blocks anywhere (several per message, followed by further
    blocks, at the very end of a message), valid or invalid data — the repaired
    `Deflate.decompress` delivers for each message exactly what RFC 7692 says the message's DEFLATE
    data means (all of its blocks, the LZ77 window carried over, nothing else), and fails
    (→ ProtocolError) exactly when that data is invalid for the negotiated window. -/
theorem never_wrong (wsize : Nat) (reset : Bool) (msgs : List (List Blk)) :
    repairedOutputs wsize reset [] msgs = rfcOutputs wsize reset [] msgs :=
  repaired_eq_rfc wsize reset msgs []

/-- the mechanism of the repair: feeding a zlib object and, each time it stops at its end of
    stream leaving `unused_data`, a new object primed with the window (as many times as needed),
    decodes every block of the data in turn with one continuous window -/
theorem repaired_restart_reads_all_blocks (wsize : Nat) (win : Bytes) (blocks : List Blk) :
    repairedFeed wsize (blocks.length + 1) win blocks = inflBlocksAll wsize win blocks :=
  repairedFeed_eq wsize _ win blocks (by omega)

/-- the same in the core model's formulation (inflate the whole compressed history with the
    repaired code's inflater, deliver what is new): it is the RFC 7692 meaning, message by message -/
theorem never_wrong_whole_history (wsize : Nat) (reset : Bool) (msgs : List (List Blk)) :
    wholeOutputsSafe wsize reset [] 0 msgs = rfcOutputs wsize reset [] msgs := by
  simpa using wholeSafe_eq_rfc wsize reset msgs [] [] [] rfl

/-- … and in the core model itself: with an `inflate` that reads the byte histories that occur as
    their blocks, going on after BFINAL=1 blocks (`AgreesSafe`; the correspondence run checks this
    of `Inflate.inflateAllSafe` against zlib), `Core.inflateMessage` returns for every compressed
    message — BFINAL or not — what RFC 7692 says it means, or fails where that is undefined. -/
theorem never_wrong_core (enc : List Blk → Bytes) (d : Http.DeflateCfg) (msgs : List (List Blk)) (s : Sys)
    (hd : s.compression = some d) (hh : s.inflHist = []) (ho : s.inflOut = 0)
    (hA : if d.resetDecompress then ∀ m ∈ msgs, AgreesSafe s.cfg.inflate d.decompressWbits enc [m]
          else ∀ k, k ≤ msgs.length → AgreesSafe s.cfg.inflate d.decompressWbits enc (msgs.take k)) :
    feedMsgs (msgs.map enc) s = rfcOutputs (2 ^ d.decompressWbits) d.resetDecompress [] msgs := by
  rw [← never_wrong_whole_history, wholeOutputsSafe_eq_gen, ← ho]
  exact feedMsgs_gen _ enc d msgs s [] hd hh (fun _ => rfl) (agreesG_split hA)

/-- lossless peer → client for the repaired code: unchanged by the repair (a peer that never sets
    BFINAL is read exactly as before) -/
theorem lossless_peer_to_client_repaired (sw : Nat) (c : Compressor (2 ^ sw)) (serverNoTakeover peerResets : Bool)
    (hk : peerResets = false → serverNoTakeover = false) (msgs : List Bytes) :
    wholeOutputsSafe (2 ^ sw) serverNoTakeover [] 0 ((senderTokens c peerResets [] msgs).map oneBlock) = some msgs := by
  rw [never_wrong_whole_history, rfc_oneBlock]
  exact lossless_history c _ (Nat.le_refl _) _ _ hk msgs

/-- **Never wrong, pinned code, for all histories without BFINAL=1 blocks** (every configuration, every
    history, any blocks / tokens, valid or not): lomond's object delivers for each message exactly
    what the message's DEFLATE data means per RFC 7692 given the window, and fails (ProtocolError)
    exactly when that data is invalid for the negotiated window. -/
theorem never_wrong_partial (wsize : Nat) (reset : Bool) (msgs : List (List Blk))
    (hn : ∀ m ∈ msgs, ∀ b ∈ m, b.final = false) :
    objectOutputs wsize reset {} msgs = rfcOutputs wsize reset [] msgs :=
  object_eq_rfc wsize reset msgs hn []

/-- the core model's way of doing it (`Core.inflateMessage`: inflate the whole compressed history,
    deliver what is new) *is* that streaming object — for all blocks, BFINAL included -/
theorem whole_history_is_streaming (wsize : Nat) (reset : Bool) (msgs : List (List Blk)) :
    wholeOutputs wsize reset [] 0 msgs = objectOutputs wsize reset {} msgs := by
  have h0 : inflBlocks wsize [] [] = some (({} : ZObj).win, [], ({} : ZObj).finished) := rfl
  simpa using whole_eq_object wsize reset msgs [] {} [] h0

/-- peer → client, instantiated at lomond's actual receiver: the peer is **any** compressor that
    honours `server_max_window_bits = sw` (distances `≤ 2^sw`) and sends each message as
    non-final blocks; lomond appends the tail and inflates the *whole compressed history* with one
    `decompressobj(-sw)` (renewed per message iff `server_no_context_takeover` was negotiated,
    which also allows the peer to reset) — every message comes out with its original content. -/
theorem lossless_peer_to_client (sw : Nat) (c : Compressor (2 ^ sw)) (serverNoTakeover peerResets : Bool)
    (hk : peerResets = false → serverNoTakeover = false) (msgs : List Bytes) :
    wholeOutputs (2 ^ sw) serverNoTakeover [] 0 ((senderTokens c peerResets [] msgs).map oneBlock) = some msgs := by
  rw [whole_history_is_streaming, never_wrong_partial, rfc_oneBlock]
  · exact lossless_history c _ (Nat.le_refl _) _ _ hk msgs
  · intro m hm b hb
    simp only [List.mem_map] at hm
    obtain ⟨ts, _, rfl⟩ := hm
    simp only [oneBlock, List.mem_singleton] at hb
    subst hb; rfl

/-- **D6 at the token level**: under context takeover, after a message whose block has BFINAL=1
    the object is at end-of-stream; every later message is delivered as `b''` although its data
    means something else. -/
theorem bfinal_differs :
    objectOutputs 32768 false {} [[⟨true, [.lit 72, .lit 105]⟩], [⟨false, [.lit 72, .lit 105]⟩]]
      = some [[72, 105], []] ∧
    rfcOutputs 32768 false [] [[⟨true, [.lit 72, .lit 105]⟩], [⟨false, [.lit 72, .lit 105]⟩]]
      = some [[72, 105], [72, 105]] := by
  constructor <;> decide

/-- … and every message after it, whatever it contains -/
theorem bfinal_silences_the_rest (wsize : Nat) (win : Bytes) (later : List (List Blk)) :
    objectOutputs wsize false { win := win, finished := true } later = some (later.map fun _ => []) :=
  objectOutputs_finished wsize win later

/-- with `server_no_context_takeover` the object is renewed per message and BFINAL is harmless -/
theorem bfinal_harmless_with_reset :
    objectOutputs 32768 true {} [[⟨true, [.lit 72, .lit 105]⟩], [⟨false, [.lit 72, .lit 105]⟩]]
      = some [[72, 105], [72, 105]] := by decide

/-- the handshake reply of the closed run below: `101`, `Upgrade: websocket`,
    `Sec-WebSocket-Accept: abc`, `Sec-WebSocket-Extensions: permessage-deflate` -/
def bfinalReply : Bytes :=
  [72, 84, 84, 80, 47, 49, 46, 49, 32, 49, 48, 49, 32, 83, 13, 10, 85, 112, 103, 114, 97, 100, 101, 58, 32, 119, 101, 98,
   115, 111, 99, 107, 101, 116, 13, 10, 83, 101, 99, 45, 87, 101, 98, 83, 111, 99, 107, 101, 116, 45, 65, 99, 99, 101,
   112, 116, 58, 32, 97, 98, 99, 13, 10, 83, 101, 99, 45, 87, 101, 98, 83, 111, 99, 107, 101, 116, 45, 69, 120, 116, 101,
   110, 115, 105, 111, 110, 115, 58, 32, 112, 101, 114, 109, 101, 115, 115, 97, 103, 101, 45, 100, 101, 102, 108, 97,
   116, 101, 13, 10, 13, 10]

/-- two compressed Text frames: `f3 48 cd c9 c9 07 00 00` (RFC 7692 §7.2.3.4: "Hello" in a
    BFINAL=1 block) and `f2 48 cd c9 c9 07 00` ("Hello", BFINAL=0) -/
def bfinalFrames : Bytes :=
  [0xC1, 8, 0xf3, 0x48, 0xcd, 0xc9, 0xc9, 0x07, 0, 0, 0xC1, 7, 0xf2, 0x48, 0xcd, 0xc9, 0xc9, 0x07, 0]

/-- **D6 on the whole client** (closed evaluation of the core model with the bit-level inflater of
    Model/Inflate.lean): handshake negotiating permessage-deflate with context takeover, then the
    two frames above.  The application receives `Text "Hello"` and then `Text ""` — the second
    message is delivered with wrong content and no ProtocolError. -/
theorem bfinal_fails :
    (runAll { challenge := [97, 98, 99], inflate := Inflate.inflateAll } (fun _ => [])
        [.wait 0 (some (.data (bfinalReply ++ bfinalFrames)))]).trace =
      [.incomplete, .selClose, .sockClose, .ev (.text []), .ev (.text [72, 101, 108, 108, 111]), .ev .poll,
       .ev (.ready none true), .ev (.connected false), .wr [], .ev .connecting] := by
  decide +kernel

/-- what each of the two messages means on its own (the bit-level inflater on message + tail) -/
example :
    Inflate.inflateAll 15 [0xf3, 0x48, 0xcd, 0xc9, 0xc9, 0x07, 0, 0, 0, 0, 0xff, 0xff] = some [72, 101, 108, 108, 111] ∧
    Inflate.inflateAll 15 [0xf2, 0x48, 0xcd, 0xc9, 0xc9, 0x07, 0, 0, 0, 0xff, 0xff] = some [72, 101, 108, 108, 111] := by
  decide +kernel

/-- **the same run on the repaired code** (the model driven with `Inflate.inflateAllSafe`, as the
    check does when the probe finds the repaired shape): `Text "Hello"` twice -/
theorem bfinal_repaired :
    (runAll { challenge := [97, 98, 99], inflate := Inflate.inflateAllSafe } (fun _ => [])
        [.wait 0 (some (.data (bfinalReply ++ bfinalFrames)))]).trace =
      [.incomplete, .selClose, .sockClose, .ev (.text [72, 101, 108, 108, 111]), .ev (.text [72, 101, 108, 108, 111]), .ev .poll,
       .ev (.ready none true), .ev (.connected false), .wr [], .ev .connecting] := by
  decide +kernel

/-- **What is delivered for a compressed message is `inflate`'s output or a ProtocolError** (core
    model, every state, every `inflate` function): the fragments are joined, the tail appended,
    the whole compressed history inflated with the negotiated window; on failure the critical
    ProtocolError "unable to decompress payload" is raised and nothing is delivered; otherwise
    the message is built from exactly the bytes `inflate` produced beyond those already
    delivered, and the context advances (or is renewed under `server_no_context_takeover`). -/
theorem delivered_is_inflate_output (f : Frame) (fs : List Frame) (s : Sys)
    (h1 : f.rsv1 ≠ 0) (h2 : s.decompress = true) :
    let hist := s.inflHist ++ ((f :: fs).map (·.payload)).flatten ++ [0, 0, 0xff, 0xff]
    match s.cfg.inflate ((s.compression.map (·.decompressWbits)).getD 15) hist with
    | none => buildMessage (f :: fs) s = .err (.critical "unable to decompress payload") s
    | some out =>
      buildMessage (f :: fs) s =
        liftE (msgOfPayload f.opcode (out.drop s.inflOut))
          (if (s.compression.map (·.resetDecompress)).getD false then { s with inflHist := [], inflOut := 0 }
           else { s with inflHist := hist, inflOut := out.length }) :=
  buildMessage_compressed f fs s h1 h2

/-- **The core model computes the token-level receiver.**  `feedMsgs js s` hands the joined
    payloads `js` of successive compressed messages to `Core.inflateMessage`.  Let `enc` be any
    encoding of block lists into bytes and suppose the `inflate` function of the configuration
    reads the byte histories that occur — every prefix of this message history under context
    takeover, every single message under `server_no_context_takeover` — as those blocks
    (`Agrees`: this is what the correspondence run checks of Model/Inflate.lean against zlib).
    Then what the core model delivers, message by message, failure included, is exactly
    `wholeOutputs` of the token model with the negotiated window. -/
theorem core_refines_tokens (enc : List Blk → Bytes) (d : Http.DeflateCfg) (msgs : List (List Blk)) (s : Sys)
    (hd : s.compression = some d) (hh : s.inflHist = []) (ho : s.inflOut = 0)
    (hA : if d.resetDecompress then ∀ m ∈ msgs, Agrees s.cfg.inflate d.decompressWbits enc [m]
          else ∀ k, k ≤ msgs.length → Agrees s.cfg.inflate d.decompressWbits enc (msgs.take k)) :
    feedMsgs (msgs.map enc) s = wholeOutputs (2 ^ d.decompressWbits) d.resetDecompress [] 0 msgs := by
  rw [wholeOutputs_eq_gen, ← ho]
  exact feedMsgs_gen _ enc d msgs s [] hd hh (fun _ => rfl) (agreesG_split hA)

/-- **Lossless peer → client, in the core model**: any peer compressor that honours the negotiated
    `server_max_window_bits` (distances ≤ 2^sw), any message history, context takeover or reset
    on the peer's side as negotiated, each message sent as a non-final block under any byte
    encoding that `inflate` reads correctly: `Core.inflateMessage` returns every message's
    original content. -/
theorem core_lossless_peer_to_client (enc : List Blk → Bytes) (d : Http.DeflateCfg)
    (c : Compressor (2 ^ d.decompressWbits)) (peerResets : Bool) (hk : peerResets = false → d.resetDecompress = false)
    (msgs : List Bytes) (s : Sys) (hd : s.compression = some d) (hh : s.inflHist = []) (ho : s.inflOut = 0)
    (hA : let blocks := (senderTokens c peerResets [] msgs).map oneBlock
          if d.resetDecompress then ∀ m ∈ blocks, Agrees s.cfg.inflate d.decompressWbits enc [m]
          else ∀ k, k ≤ blocks.length → Agrees s.cfg.inflate d.decompressWbits enc (blocks.take k)) :
    feedMsgs (((senderTokens c peerResets [] msgs).map oneBlock).map enc) s = some msgs := by
  rw [core_refines_tokens enc d _ s hd hh ho hA]
  exact lossless_peer_to_client d.decompressWbits c d.resetDecompress peerResets hk msgs

/-- **Fragmentation is invisible**: the message built from a list of frames depends only on the
    first frame's opcode and RSV1 bit and on the *join* of the payloads — in particular the
    fragments of a compressed message are joined before anything is inflated, so every way of
    cutting the compressed bytes into frames (empty fragments included) gives the same result
    and leaves the same context. -/
theorem fragments (f g : Frame) (fs gs : List Frame) (s : Sys)
    (hop : f.opcode = g.opcode) (hr : f.rsv1 = g.rsv1)
    (hj : ((f :: fs).map (·.payload)).flatten = ((g :: gs).map (·.payload)).flatten) :
    buildMessage (f :: fs) s = buildMessage (g :: gs) s :=
  buildMessage_fragments f g fs gs s hop hr hj

/-- **Uncompressed messages and control frames leave the inflate context alone**: a message whose
    first frame has RSV1=0 (every control frame and every uncompressed message of a conforming
    peer), or any message when nothing was negotiated, is built from its joined payload as it
    is, and the system state — compressed history, delivered count, everything — is untouched. -/
theorem mixed (f : Frame) (fs : List Frame) (s : Sys) (h : f.rsv1 = 0 ∨ s.decompress = false) :
    buildMessage (f :: fs) s = liftE (msgOfPayload f.opcode ((f :: fs).map (·.payload)).flatten) s ∧
    (buildMessage (f :: fs) s).state = s :=
  ⟨buildMessage_plain_eq f fs s h, buildMessage_plain_state f fs s h⟩

/-- token level: the contexts only ever see the compressed messages, so inserting uncompressed
    messages or control frames anywhere in the history changes nothing for the compressed ones.
    (`items`: `some m` = a message sent compressed, `none` = anything else on the wire.) -/
theorem mixed_history {D : Nat} (c : Compressor D) (wsize : Nat) (hw : D ≤ wsize)
    (sr rr : Bool) (hk : sr = false → rr = false) (items : List (Option Bytes)) :
    receiverOutputs wsize rr [] (senderTokens c sr [] (items.filterMap id)) = some (items.filterMap id) :=
  lossless_history c wsize hw sr rr hk _

/-- **RSV1 iff compression was requested and negotiated.**  For every state: `send_text` /
    `send_binary` (`sendData`) puts a compressed frame (`Obs.wrz`, written with RSV1=1 by
    `send_compressed`) on the wire iff `compress=True` was passed *and* permessage-deflate is
    negotiated *and* the write goes through; the frame carries this opcode and this payload.
    In every other case nothing compressed is written. -/
theorem rsv1_iff (op : Nat) (payload : Bytes) (compress : Bool) (s : Sys) :
    ((∃ o p, (sendData op payload compress s).state.trace = .wrz o p :: s.trace) ↔
      (compress = true ∧ s.compression.isSome = true ∧ Writable s)) ∧
    (∀ o p, (sendData op payload compress s).state.trace = .wrz o p :: s.trace → o = op ∧ p = payload) :=
  sendData_wrz_iff op payload compress s

/-- **Without negotiation the client never sets RSV1 — whole connections.**  For every
    configuration, every application (any sends with any `compress` argument at any event, pings,
    closes, abandonment) and every environment script (any server bytes in any segmentation,
    errors, timers): if no `Ready` event announcing permessage-deflate occurs in the run, no
    compressed (RSV1) frame is ever written. -/
theorem no_rsv1_without_negotiation (cfg : Cfg) (react : React) (env : List EnvStep)
    (h : ∀ p, Obs.ev (.ready p true) ∉ (runAll cfg react env).trace) :
    ∀ op pl, Obs.wrz op pl ∉ (runAll cfg react env).trace := by
  rcases runAll_wrz_ready cfg react env with hz | ⟨p, hp⟩
  · exact hz.2
  · exact absurd hp (h p)

/-- **Control frames leave both contexts unchanged — including whatever the application does in
    reaction.**  A control frame with RSV1=0 (all of a conforming peer's; or any control frame when
    nothing is negotiated), from any state: the Ping/Pong/Close is built, handed to the
    application, the application's calls are executed (sends — compressed or not —, pings,
    `close()`), a Ping is answered, the timers run; afterwards the negotiated configuration, the
    decompress switch, the compressed history and the delivered count are what they were. -/
theorem mixed_control (f : Frame) (s : Sys) (hc : f.isControl = true) (h : f.rsv1 = 0 ∨ s.decompress = false) :
    (onFrame f s).state.compression = s.compression ∧ (onFrame f s).state.decompress = s.decompress ∧
    (onFrame f s).state.inflHist = s.inflHist ∧ (onFrame f s).state.inflOut = s.inflOut :=
  let q := quiet_onFrame_control f s hc h
  ⟨q.comp, q.dec, q.hist, q.out⟩

/-- **Uncompressed messages leave both contexts unchanged**, fragmented or not: every fragment of
    a message whose first frame has RSV1=0 (`s.frames` = the fragments so far) — stored, or, for
    the final one, delivered to the application with all its reactions — leaves the four context
    fields as they were. -/
theorem mixed_uncompressed (f : Frame) (s : Sys)
    (h : (∀ g ∈ (s.frames ++ [f]).head?, g.rsv1 = 0) ∨ s.decompress = false) :
    (onDataFrame f s).state.compression = s.compression ∧ (onDataFrame f s).state.decompress = s.decompress ∧
    (onDataFrame f s).state.inflHist = s.inflHist ∧ (onDataFrame f s).state.inflOut = s.inflOut :=
  let q := quiet_onDataFrame_plain f s h
  ⟨q.comp, q.dec, q.hist, q.out⟩

/-- with `compress=False`, or without negotiation, what is written is the plain frame built by
    `Frame.build` with RSV1=0 (first byte `0x80 | opcode`) -/
theorem uncompressed_send (op : Nat) (payload : Bytes) (compress : Bool) (s : Sys)
    (h : compress = false ∨ s.compression = none) (hw : Writable s) (hop : op < 16)
    (bytes : Bytes) (hb : Frame.build op payload (s.cfg.maskKey s.keyCtr) = some bytes) :
    (sendData op payload compress s).state.trace = .wr bytes :: s.trace ∧
    bytes.head? = some (128 + op) ∧ (128 + op) / 64 % 2 = 0 := by
  obtain ⟨h1, h2, h3, h4⟩ := hw
  have hc : ¬ (compress = true ∧ s.compression.isSome = true) := by
    rcases h with h | h <;> simp [h]
  refine ⟨?_, ?_, by omega⟩
  · rw [sendData_plain op payload bytes compress s ⟨h1, h2, h3, h4⟩ hc hb]
    rfl
  · obtain ⟨-, rfl⟩ := build_inv hb
    simp [byte0]

/-- a missing window parameter means 15 -/
theorem wbits_default (opts : List (Http.Str × Http.Str)) (key : String)
    (h : Http.optGet opts (Http.ofString key) = none) : Http.getWbits opts key = .ok 15 :=
  getWbits_default opts key h

/-- whatever is accepted lies in 8..15 and is the integer written in the header -/
theorem wbits_accepted (opts : List (Http.Str × Http.Str)) (key : String) (n : Nat)
    (h : Http.getWbits opts key = .ok n) :
    8 ≤ n ∧ n ≤ 15 ∧
    Http.pyInt Http.isStrSpace ((Http.optGet opts (Http.ofString key)).getD (Http.ofString "15")) = some (false, n) :=
  getWbits_ok opts key n h

/-- everything else — not an integer, negative, below 8, above 15, the bare parameter name — is a
    `CompressionParameterError` -/
theorem wbits_refused (opts : List (Http.Str × Http.Str)) (key : String) :
    (Http.pyInt Http.isStrSpace ((Http.optGet opts (Http.ofString key)).getD (Http.ofString "15")) = none ∨
     ∃ neg n, Http.pyInt Http.isStrSpace ((Http.optGet opts (Http.ofString key)).getD (Http.ofString "15")) = some (neg, n) ∧
        (neg = true ∨ n < 8 ∨ 15 < n)) →
    ∃ msg, Http.getWbits opts key = .error msg :=
  getWbits_refused opts key

/-- every one of the 8×8×2×2 configurations, in its plain spelling, is accepted as itself -/
theorem all_configurations_parse :
    ∀ sw ∈ [8, 9, 10, 11, 12, 13, 14, 15], ∀ cw ∈ [8, 9, 10, 11, 12, 13, 14, 15], ∀ snt ∈ [false, true], ∀ cnt ∈ [false, true],
      Http.deflateFromOptions
        ([(Http.ofString "server_max_window_bits", Http.ofString (toString sw)),
          (Http.ofString "client_max_window_bits", Http.ofString (toString cw))] ++
         (if snt then [(Http.ofString "server_no_context_takeover", [])] else []) ++
         (if cnt then [(Http.ofString "client_no_context_takeover", [])] else []))
        = .ok { decompressWbits := sw, compressWbits := cw, resetDecompress := snt, resetCompress := cnt } := by
  decide +kernel

/-- a `CompressionParameterError` in any permessage-deflate element of the response makes
    `on_response` fail with it (it is a `HandshakeError`) … -/
theorem bad_parameter_fails_handshake (strict : Bool) (chal : Http.Str) (r : Http.Response) (m : Http.Str)
    (hs : r.statusCode = some (false, 101))
    (hu : Http.lower ((r.get (Http.ofString "upgrade")).getD (Http.ofString "<header missing>")) = Http.ofString "websocket")
    (acc : Http.Str) (ha : r.get (Http.ofString "sec-websocket-accept") = some acc)
    (hc : if strict then acc = chal else Http.lower acc = Http.lower chal)
    (he : Http.processExtensions (r.getList (Http.ofString "sec-websocket-extensions")) none = .error m) :
    Http.onResponse strict chal r = .error m :=
  onResponse_ext_error strict chal r m hs hu acc ha hc he

/-- … and a failed handshake is reported as `Rejected` and closes the connection: the websocket
    is `closed`, the `Rejected(reason)` event is in the trace -/
theorem handshake_error_rejected (data : Bytes) (s : Sys) (reason : Http.Str)
    (h : Http.onResponse s.cfg.v.strictAccept s.cfg.challenge (Http.parseResponse data) = .error reason) :
    (onOut (.header data) s).state.closed = true ∧
    Obs.ev (.rejected reason) ∈ (onOut (.header data) s).state.trace :=
  onOut_rejected_z data s reason h

/-- a compressor within the bound exists for every bound, and it really reaches back across
    messages: `echoCompressor D` (Proofs/Deflate.lean) sends a message that repeats the end of the
    history as a single back-reference into the previous messages -/
example : senderTokens (echoCompressor 250) false [] [[1, 2, 3], [1, 2, 3], [3, 1, 2, 3], [9]]
    = [[.lit 1, .lit 2, .lit 3], [.copy 3 3], [.copy 4 4], [.lit 9]] := by decide
/-- with `client_no_context_takeover` the same compressor has no history to refer to -/
example : senderTokens (echoCompressor 250) true [] [[1, 2, 3], [1, 2, 3]]
    = [[.lit 1, .lit 2, .lit 3], [.lit 1, .lit 2, .lit 3]] := by decide
/-- the hypotheses of `lossless_client_to_peer` hold for it with `cw = 8` (compressor window 512,
    `maxDist = 250`, peer window 256) -/
example : receiverOutputs (2 ^ 8) false [] (senderTokens (echoCompressor (maxDist (clientWbits 8))) false []
      [[1, 2, 3], [1, 2, 3], [3, 1, 2, 3], [9]]) = some [[1, 2, 3], [1, 2, 3], [3, 1, 2, 3], [9]] :=
  lossless_client_to_peer 8 (by decide) (by decide) _ false false (fun _ => rfl) _

example : expand 250 ([1, 2, 3, 4, 5] : Bytes).reverse [.copy 5 5, .lit 9, .copy 3 4] = some ([1, 2, 3, 4, 5, 9, 4, 5, 9, 4] : Bytes).reverse := by
  decide
example : receiverOutputs 256 false [] [[.lit 1, .lit 2, .lit 3], [.copy 3 3, .copy 6 2], [.copy 1 4]]
    = some [[1, 2, 3], [1, 2, 3, 1, 2], [2, 2, 2, 2]] := by decide
example : maxDist (clientWbits 8) = 250 ∧ maxDist (clientWbits 15) = 32506 := by decide
example : Http.getWbits [(Http.ofString "client_max_window_bits", Http.ofString "10")] "client_max_window_bits" = .ok 10 := by
  decide +kernel
example : Http.getWbits [(Http.ofString "client_max_window_bits", [])] "client_max_window_bits"
    = .error (Http.ofString "client_max_window_bits is not an integer") := by decide +kernel
example : Http.getWbits [(Http.ofString "server_max_window_bits", Http.ofString "16")] "server_max_window_bits"
    = .error (Http.ofString "server_max_window_bits=16 is invalid") := by decide +kernel

/-- handshake reply without extensions: `101`, `Upgrade: websocket`, `Sec-WebSocket-Accept: abc` -/
def plainReply : Bytes :=
  [72, 84, 84, 80, 47, 49, 46, 49, 32, 49, 48, 49, 32, 83, 13, 10, 85, 112, 103, 114, 97, 100, 101, 58, 32, 119, 101, 98,
   115, 111, 99, 107, 101, 116, 13, 10, 83, 101, 99, 45, 87, 101, 98, 83, 111, 99, 107, 101, 116, 45, 65, 99, 99, 101,
   112, 116, 58, 32, 97, 98, 99, 13, 10, 13, 10]

/-- not negotiated: `send_text("hi", compress=True)` at Ready goes out as a plain masked frame (0x81 …) -/
example :
    (runAll { challenge := [97, 98, 99] } (fun hist => if hist.length = 3 then [.sendText (.str [104, 105]) true] else [])
        [.wait 0 (some (.data plainReply))]).trace =
      [.incomplete, .selClose, .sockClose, .ev .poll, .res .ok, .wr [129, 130, 0, 0, 0, 0, 104, 105],
       .ev (.ready none false), .ev (.connected false), .wr [], .ev .connecting] := by
  decide +kernel

/-- negotiated: `compress=True` gives a compressed frame, `compress=False` the plain one -/
example :
    (runAll { challenge := [97, 98, 99] }
        (fun hist => if hist.length = 3 then [.sendText (.str [104, 105]) true, .sendText (.str [104, 105]) false] else [])
        [.wait 0 (some (.data bfinalReply))]).trace =
      [.incomplete, .selClose, .sockClose, .ev .poll, .res .ok, .wr [129, 130, 0, 0, 0, 0, 104, 105], .res .ok,
       .wrz 1 [104, 105], .ev (.ready none true), .ev (.connected false), .wr [], .ev .connecting] := by
  decide +kernel

/-- non-vacuity of `Agrees` with the real bit-level inflater: the two "Hello" messages of RFC 7692
    §7.2.3.2 (`f2 48 cd c9 c9 07 00`, then — with context takeover — `f2 00 11 00 00`, i.e. a
    literal and a copy of distance 5 reaching into the previous message) -/
def rfcHello1 : List Blk := [⟨false, [.lit 72, .lit 101, .lit 108, .lit 108, .lit 111]⟩]
def rfcHello2 : List Blk := [⟨false, [.lit 72, .copy 5 4]⟩]
def rfcEnc (m : List Blk) : Bytes :=
  if m = rfcHello1 then [0xf2, 0x48, 0xcd, 0xc9, 0xc9, 0x07, 0x00]
  else if m = rfcHello2 then [0xf2, 0x00, 0x11, 0x00, 0x00] else []

example : ∀ k, k ≤ [rfcHello1, rfcHello2].length → Agrees Inflate.inflateAll 15 rfcEnc ([rfcHello1, rfcHello2].take k) := by
  intro k hk
  have : k = 0 ∨ k = 1 ∨ k = 2 := by simp at hk; omega
  rcases this with h | h | h <;> subst h <;> (show _ = _) <;> decide +kernel

example : tokenOut (2 ^ 15) [rfcHello1, rfcHello2] = some [72, 101, 108, 108, 111, 72, 101, 108, 108, 111] := by
  decide +kernel

/-- non-vacuity of `AgreesSafe` with the bit-level inflater of the repaired code, on a history with a
    BFINAL=1 block: the RFC 7692 §7.2.3.4 message (`f3 48 cd c9 c9 07 00` = "Hello" in a final
    block, then the `00` byte), followed by the ordinary `f2 48 cd c9 c9 07 00` -/
def rfcHelloFinal : List Blk := [⟨true, [.lit 72, .lit 101, .lit 108, .lit 108, .lit 111]⟩]
def rfcEncFinal (m : List Blk) : Bytes :=
  if m = rfcHelloFinal then [0xf3, 0x48, 0xcd, 0xc9, 0xc9, 0x07, 0x00, 0x00]
  else if m = rfcHello1 then [0xf2, 0x48, 0xcd, 0xc9, 0xc9, 0x07, 0x00] else []

example : ∀ k, k ≤ [rfcHelloFinal, rfcHello1].length →
    AgreesSafe Inflate.inflateAllSafe 15 rfcEncFinal ([rfcHelloFinal, rfcHello1].take k) := by
  intro k hk
  have : k = 0 ∨ k = 1 ∨ k = 2 := by simp at hk; omega
  rcases this with h | h | h <;> subst h <;> (show _ = _) <;> decide +kernel

/-- on that history the two shapes differ: the pinned code delivers "Hello", "" — the repaired one
    (= the RFC meaning) "Hello", "Hello" -/
example :
    objectOutputs (2 ^ 15) false {} [rfcHelloFinal, rfcHello1] = some [[72, 101, 108, 108, 111], []] ∧
    repairedOutputs (2 ^ 15) false [] [rfcHelloFinal, rfcHello1] = some [[72, 101, 108, 108, 111], [72, 101, 108, 108, 111]] ∧
    rfcOutputs (2 ^ 15) false [] [rfcHelloFinal, rfcHello1] = some [[72, 101, 108, 108, 111], [72, 101, 108, 108, 111]] := by
  refine ⟨?_, ?_, ?_⟩ <;> decide +kernel

/-- a message in which further blocks follow the BFINAL=1 block and refer back across it -/
example : repairedOutputs 256 false [] [[⟨true, [.lit 1, .lit 2]⟩, ⟨false, [.copy 2 3]⟩], [⟨false, [.copy 5 2]⟩]]
    = some [[1, 2, 1, 2, 1], [1, 2]] := by decide

/-- the written-out fixed Huffman tables of Model/Inflate.lean are the canonical ones
    (compared as lists: counts per length, symbols in canonical order, shape) -/
theorem fixedTables_ok :
    (Inflate.mkHuff Inflate.fixedLitLens false).map (fun h => (h.count.toList, h.symbol.toList, h.shape))
      = some (Inflate.fixedLit.count.toList, Inflate.fixedLit.symbol.toList, Inflate.fixedLit.shape) ∧
    (Inflate.mkHuff (Array.replicate 32 5) false).map (fun h => (h.count.toList, h.symbol.toList, h.shape))
      = some (Inflate.fixedDist.count.toList, Inflate.fixedDist.symbol.toList, Inflate.fixedDist.shape) := by
  constructor <;> decide +kernel

end Lomond.C06
