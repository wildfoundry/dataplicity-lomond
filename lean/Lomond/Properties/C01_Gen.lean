/-
  C01 companion — how the hand-written model turns the frames of a message into a message is what
  message.py says.

  `Lomond.Gen.Code.messageBuildInflate` is produced by harness/py2lean.py, on every check run,
  from the test `if first_frame.rsv1 and decompress:` of `Message.build` (is the joined payload
  inflated or taken as it is) and `messageBuildKind` from its opcode dispatch (`Binary`,
  `Text.from_payload`, `Close.from_payload`, `Ping`, `Pong`, else a plain `Message`; the classes
  are checked to carry the opcode they are chosen for).  The theorems state that
  `Core.buildMessage` and `Core.msgOfPayload` decide exactly like these.  Theorems only.
-/
import Lomond.Proofs.GenTie
import Lomond.Generated.Code

namespace Lomond.C01Gen
open Lomond Lomond.Core Lomond.GenTie
open Lomond.Gen.Code

/-- the payload is inflated exactly when the first frame has RSV1 set and a decompressor was
    passed (compression negotiated) -/
theorem gen_inflate_spec (rsv1 : Nat) (decompress : Bool) :
    messageBuildInflate rsv1 decompress = decide (rsv1 ≠ 0 ∧ decompress = true) := by
  unfold messageBuildInflate
  by_cases h : rsv1 = 0 <;> cases decompress <;> simp [h]

/-- `Core.buildMessage`: the frames' payloads are joined; the translated test decides whether the
    result goes through the inflater; the translated dispatch (`gen_msgOfPayload`) makes the message -/
theorem gen_buildMessage (first : Frame) (rest : List Frame) :
    buildMessage (first :: rest) =
      (do let joined := ((first :: rest).map (·.payload)).flatten
          let s ← getS
          let payload ← (if messageBuildInflate first.rsv1 s.decompress then inflateMessage joined else pure joined)
          liftE (msgOfPayload first.opcode payload) : M Msg) := by
  funext s
  simp only [buildMessage, gen_inflate_spec, bind, M.bind, getS, decide_eq_true_eq]

/-- `Core.msgOfPayload` is the translated opcode dispatch of `Message.build`: BINARY ⇒ `Binary`,
    TEXT ⇒ `Text.from_payload` (strict UTF-8 decode), CLOSE ⇒ `Close.from_payload`, PING ⇒ `Ping`,
    PONG ⇒ `Pong`, anything else ⇒ a plain `Message` (which `WebSocket.feed` ignores). -/
theorem gen_msgOfPayload (op : Nat) (payload : Bytes) :
    msgOfPayload op payload =
      match messageBuildKind op with
      | 1 => .ok (.binary payload)
      | 2 =>
        (match Utf8.decode payload with
         | none => .error (.critical "payload contains invalid utf-8")
         | some cps => .ok (.text cps))
      | 3 => closeFromPayload payload
      | 4 => .ok (.ping payload)
      | 5 => .ok (.pong payload)
      | _ => .ok .unknown := by
  unfold msgOfPayload messageBuildKind
  simp only [decide_eq_true_eq]
  by_cases h2 : op = Gen.opBinary
  · simp only [if_pos h2]
  · by_cases h1 : op = Gen.opText
    · simp only [if_neg h2, if_pos h1]
      cases Utf8.decode payload <;> rfl
    · by_cases h8 : op = Gen.opClose
      · simp only [if_neg h2, if_neg h1, if_pos h8]
      · by_cases h9 : op = Gen.opPing
        · simp only [if_neg h2, if_neg h1, if_neg h8, if_pos h9]
        · by_cases h10 : op = Gen.opPong
          · simp only [if_neg h2, if_neg h1, if_neg h8, if_neg h9, if_pos h10]
          · simp only [if_neg h2, if_neg h1, if_neg h8, if_neg h9, if_neg h10]

example : messageBuildKind 2 = 1 := rfl
example : messageBuildKind 1 = 2 := rfl
example : messageBuildKind 8 = 3 := rfl
example : messageBuildKind 9 = 4 := rfl
example : messageBuildKind 10 = 5 := rfl
example : messageBuildKind 0 = 0 := rfl
example : messageBuildInflate 1 true = true := rfl
example : messageBuildInflate 1 false = false := rfl

end Lomond.C01Gen
