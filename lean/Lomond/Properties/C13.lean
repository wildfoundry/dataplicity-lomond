/-
  C13 — abandoning the event loop at any event releases the socket (and the selector).
  Property theorems only (helper lemmas: Proofs/Once.lean, Proofs/SelFail.lean).

  In the model, abandoning the generator (by `close()`, by dropping it, by an exception raised
  in the handler, or by an exception leaving a `with` block) is the application action
  `Act.abandon`, available in the reaction to *every* event; it raises `GeneratorExit` at that
  `yield`, and exactly the handlers Python would run are run.  "For every scenario, every event
  index and every mechanism" is therefore "for every `cfg`, `react`, `env`".
-/
import Lomond.Proofs.Release
import Lomond.Proofs.SelFail
import Lomond.Generated.Facts

namespace Lomond.C13
open Lomond Lomond.Core

/-- **Abandonment releases the socket and the selector.**  For the repaired `run()`
    (`cleanup = true`), for every configuration (timers, connect outcome, write failures),
    every environment script (server bytes with any segmentation, EOF, errors, silence) and
    every application — in particular one that stops iterating at any event of its choice, by
    any of the four mechanisms — the connection ends with the TCP socket closed and the
    selector closed. -/
theorem abandon_releases (cfg : Cfg) (react : React) (env : List EnvStep)
    (hc : cfg.v.cleanup = true) :
    (runAll cfg react env).sockOpen = false ∧ (runAll cfg react env).selOpen = false :=
  runAll_of_run (F := fun s => s.sockOpen = false ∧ s.selOpen = false) cfg react env
    ⟨(Once.run_out cfg react env).2 hc, (Once.run_out cfg react env).1.selClosed⟩
    (fun s h => ⟨(closeSocket_state s).1, (closeSocket_state s).2.trans h.2⟩) (fun _ h => h)

/-- The pinned commit (`cleanup = false`) did **not** have the property: the consumer closes the
    generator at the `Connected` event and the socket stays open (finding D4). -/
theorem present_variant_leaks :
    ∃ (react : React) (env : List EnvStep),
      (runAll { v := { cleanup := false } } react env).sockOpen = true := by
  refine ⟨fun hist => if hist.length = 2 then [.abandon false] else [], [], ?_⟩
  decide +kernel

/-- non-vacuity: in the repaired variant the same application really is abandoning at
    `Connected`, with the socket open at that moment, and the trace shows the close -/
example :
    (runAll { v := { cleanup := true } }
      (fun hist => if hist.length = 2 then [.abandon false] else []) []).trace
      = [.sockClose, .ev (.connected false), .wr [], .ev .connecting] := by
  decide +kernel


/-- **Abandonment when the selector could not be created.**  When `self._selector_cls(sock)` raises
    right after `Connected` (`cfg.connect = .selFail proxy`) — for every configuration, every
    environment script and every application, in particular one that stops iterating at `Connecting`,
    at `Connected` or at the `Disconnected('error')` that reports the failure, by any mechanism —
    the connection ends with no selector open, `selector.close()` was never called (there is no
    selector object: `finally` tests `selector is not None`), and, in the repaired `run()`, with
    the socket closed. -/
theorem abandon_releases_without_selector (cfg : Cfg) (react : React) (env : List EnvStep) (proxy : Bool)
    (hs : cfg.connect = .selFail proxy) :
    (runAll cfg react env).selOpen = false ∧ Obs.selClose ∉ (runAll cfg react env).trace ∧
    (cfg.v.cleanup = true → (runAll cfg react env).sockOpen = false) := by
  have h := Monitor.runAll_noSelector cfg react env (fun p hp => by rw [hs] at hp; cases hp)
  exact ⟨h.1, h.2, fun hc => (abandon_releases cfg react env hc).1⟩

/-- the same for the other connect outcomes that never reach a selector (`_connect` failed):
    nothing to release, nothing released -/
theorem no_selector_without_connection (cfg : Cfg) (react : React) (env : List EnvStep)
    (hs : cfg.connect = .socketFail ∨ cfg.connect = .otherFail) :
    (runAll cfg react env).selOpen = false ∧ Obs.selClose ∉ (runAll cfg react env).trace := by
  have h := Monitor.runAll_noSelector cfg react env (fun p hp => by rcases hs with hs | hs <;> (rw [hs] at hp; cases hp))
  exact ⟨h.1, h.2⟩

/-- non-vacuity: the application leaves its `with ws:` block at the `Disconnected('error')` that
    reports the selector failure (third event), and one that drops the generator at `Connected`
    (second event) — socket closed once, no `selClose` -/
example :
    (runAll { connect := .selFail false }
      (fun hist => if hist.length = 3 then [.abandon true] else []) [.wait 1 none]).trace
      = [.ev (.disconnected "error" false), .sockClose, .ev (.connected false), .wr [], .ev .connecting] := by
  decide +kernel
example :
    (runAll { connect := .selFail false }
      (fun hist => if hist.length = 2 then [.abandon false] else []) []).trace
      = [.sockClose, .ev (.connected false), .wr [], .ev .connecting] := by
  decide +kernel

/-- for comparison, an ordinary connection whose `selector.wait` raises, abandoned at the resulting
    `Disconnected('error')`: the same events, but there was a selector and `finally` closes it -/
example :
    (runAll {} (fun hist => if hist.length = 3 then [.abandon false] else []) [.selErr]).trace
      = [.selClose, .ev (.disconnected "error" false), .sockClose, .ev (.connected false), .wr [], .ev .connecting] := by
  decide +kernel

/-- The source has the structure the repaired model (`cleanup = true`) assumes — re-extracted
    from `/repo/lomond/session.py` on every run: the `Connected` event is yielded inside the last
    `try` statement of `run()`, whose `finally` clause closes the socket and the selector. -/
theorem source_has_repaired_structure :
    Gen.connectedYieldInTry = true ∧
    (∃ t ∈ Gen.runTries.getLast?, "self._close_socket" ∈ t.2.2 ∧ "selector.close" ∈ t.2.2) := by
  decide

/-- The model's `closeSocket` closes the socket unconditionally; in the source that is true only because
    `close()` sits in the `finally` of the `try` around `shutdown()` (finding D12: after a connection reset
    `shutdown()` raises ENOTCONN, and the pinned code skipped the `close()` that followed it).  Re-extracted
    from `/repo/lomond/session.py` on every run. -/
theorem close_reached_when_shutdown_fails : Gen.closeAfterFailedShutdown = true := by decide

end Lomond.C13
